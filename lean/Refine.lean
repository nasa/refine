-- root of the `Refine` library: models, generated tables, lemmas and property theorems
-- one import per line (union-merged)
import Refine.Scalar
import Refine.Gen.CellTables
import Refine.Gen.PartMacros
import Refine.Gen.MeshbKeywords
import Refine.Gen.PyrPerm
import Refine.Gen.MetricOrder
import Refine.Gen.CodecConsts
import Refine.Model.CellTopo
import Refine.Model.Geom
import Refine.Model.Status
import Refine.Model.ContainersSort
import Refine.Model.Containers
import Refine.Model.ContainersAdj
import Refine.Model.ContainersAdjCheck
import Refine.Model.ContainersCheck
import Refine.Model.Recon
import Refine.Model.Search
import Refine.Model.Matrix
import Refine.Lemmas.ListFacts
import Refine.Lemmas.FoldMin
import Refine.Lemmas.ScalarReal
import Refine.Lemmas.ContainersSearch
import Refine.Lemmas.ContainersSort
import Refine.Lemmas.ContainersHeap
import Refine.Lemmas.ContainersSortDbl
import Refine.Lemmas.ContainersListDict
import Refine.Lemmas.ContainersAdj
import Refine.Lemmas.ContainersAdjSeq
import Refine.Lemmas.ContainersAdjCheck
import Refine.Lemmas.ContainersCheck
import Refine.Props.C15
import Refine.Model.Endian
import Refine.Gen.Endian
import Refine.Props.C08Endian
import Refine.Lemmas.PartLemmas
import Refine.Props.C07
import Refine.Props.C14
import Refine.Lemmas.GeomReal
import Refine.Props.C11
import Refine.Lemmas.ReconReal
import Refine.Props.C19
import Refine.Lemmas.SearchTree
import Refine.Lemmas.SearchGeom
import Refine.Lemmas.SearchTri
import Refine.Lemmas.SearchWall
import Refine.Props.C12
import Refine.Lemmas.MatrixReal
import Refine.Lemmas.MatrixDiag2
import Refine.Lemmas.MatrixRot0
import Refine.Lemmas.MatrixFun
import Refine.Lemmas.MatrixInv
import Refine.Lemmas.MatrixQL
import Refine.Lemmas.MatrixBlock2
import Refine.Lemmas.MatrixQL2
import Refine.Lemmas.MatrixQL3
import Refine.Lemmas.MatrixQL4
import Refine.Props.C16
import Refine.Props.C16QL
import Refine.Model.Comm
import Refine.Lemmas.ScalarReal
import Refine.Lemmas.PrefSum
import Refine.Lemmas.CommBuffer
import Refine.Lemmas.CommA2A
import Refine.Lemmas.CommPack
import Refine.Lemmas.CommBlind
import Refine.Lemmas.Comm
import Refine.Lemmas.CommExchange
import Refine.Lemmas.CommOrder
import Refine.Lemmas.CommReduce
import Refine.Lemmas.CommSelect
import Refine.Lemmas.CommP2P
import Refine.Props.C15
import Refine.Props.C17
import Refine.Model.NodeIds
import Refine.Model.CellStore
import Refine.Lemmas.ScalarReal
import Refine.Lemmas.FreeChain
import Refine.Lemmas.NodeIds
import Refine.Lemmas.NodeIdsAddMany
import Refine.Lemmas.NodeIdsCompact
import Refine.Lemmas.CellStore
import Refine.Props.C15
import Refine.Props.C14NodeCell
import Refine.Model.Meshb
import Refine.Model.Solb
import Refine.Lemmas.ScalarReal
import Refine.Lemmas.CodecReader
import Refine.Lemmas.Endian
import Refine.Lemmas.CodecWords
import Refine.Lemmas.CodecBytes
import Refine.Lemmas.CodecAccept
import Refine.Lemmas.CodecC20
import Refine.Lemmas.CodecLayout
import Refine.Lemmas.CodecBodies
import Refine.Lemmas.CodecRoundtrip
import Refine.Lemmas.SolbRoundtrip
import Refine.Props.C15
import Refine.Props.C08
import Refine.Props.C09
import Refine.Props.C20
import Refine.Model.Dist
import Refine.Model.Shufflin
import Refine.Lemmas.Dist
import Refine.Lemmas.DistSync
import Refine.Lemmas.DistGhost
import Refine.Props.C06
import Refine.Props.C06Ghost
import Refine.Props.C06Ids
import Refine.Props.C06Shufflin
import Refine.Props.C06Local
import Refine.Props.C06ShufflinInv
import Refine.Model.MeshOps
import Refine.Lemmas.MeshOps
import Refine.Lemmas.MeshOpsReal
import Refine.Props.C13
import Refine.Model.Cavity
import Refine.Lemmas.CavityChain
import Refine.Lemmas.CavityReplace
import Refine.Props.C01
import Refine.Model.Guards
import Refine.Props.C02
import Refine.Model.Metric
import Refine.Props.C10
import Refine.Props.C05
import Refine.Gen.SideConds
import Refine.Model.Par
import Refine.Lemmas.ParGuards
import Refine.Lemmas.ParGather
import Refine.Lemmas.ParCell
import Refine.Props.C07Gather
import Refine.Props.C04
import Refine.Lemmas.CavityGrid
import Refine.Lemmas.Cavity2D
import Refine.Lemmas.CavityValid
import Refine.Model.Interp
import Refine.Lemmas.InterpSearch
import Refine.Props.C11Search
import Refine.Model.Gradation
import Refine.Lemmas.Gradation
import Refine.Lemmas.GradationEx
import Refine.Props.C10Gradation
import Refine.Model.Subdiv
import Refine.Lemmas.SubdivChain
import Refine.Lemmas.SubdivKids
import Refine.Props.C13Subdiv
import Refine.Model.Collapse
import Refine.Lemmas.Collapse
import Refine.Props.C13Collapse
import Refine.Model.Quality
import Refine.Lemmas.QualityDeriv
import Refine.Lemmas.QualityExample
import Refine.Props.C15Quality
import Refine.Model.Unit
import Refine.Lemmas.Unit
import Refine.Props.C03
import Refine.Model.Kexact
import Refine.Lemmas.KexactReal
import Refine.Props.C19Kexact
import Refine.Lemmas.KexactPerm
import Refine.Gen.SolOrder
import Refine.Model.Sol
import Refine.Lemmas.SolChunk
import Refine.Lemmas.SolIndex
import Refine.Props.C09Sol
import Refine.Model.SmoothInterp
import Refine.Lemmas.SmoothInterp
import Refine.Lemmas.SmoothInterpBetween
import Refine.Lemmas.SmoothInterpEx
import Refine.Lemmas.SmoothInterpReal
import Refine.Props.C05Smooth
import Refine.Props.C13Smooth
import Refine.Model.Rcb
import Refine.Lemmas.Rcb
import Refine.Lemmas.RcbReal
import Refine.Lemmas.RcbPart
import Refine.Lemmas.RcbDet
import Refine.Props.C04Rcb
import Refine.Model.Ugrid
import Refine.Lemmas.UgridBytes
import Refine.Lemmas.CellRows
import Refine.Lemmas.UgridCells
import Refine.Lemmas.UgridRoundtrip
import Refine.Lemmas.UgridLayout
import Refine.Lemmas.UgridPart
import Refine.Lemmas.UgridPartRead
import Refine.Lemmas.UgridOwner
import Refine.Lemmas.UgridC20
import Refine.Props.C08Ugrid
import Refine.Props.C20Ugrid
import Refine.Model.GatherMeshb
import Refine.Lemmas.GatherMeshb
import Refine.Lemmas.GatherMeshbOnce
import Refine.Props.C08Gather
import Refine.Props.C07GatherMeshb
import Refine.Props.C18
import Refine.Model.ReproEdge
import Refine.Model.ReproSched
import Refine.Lemmas.ReproEdge
import Refine.Lemmas.ReproSched
import Refine.Lemmas.ReproSchedNative
import Refine.Gen.ReproConds
import Refine.Props.C18Mech
import Refine.Lemmas.ReproSchedSpec
import Refine.Model.Mixed
import Refine.Lemmas.Mixed
import Refine.Lemmas.MixedFrame
import Refine.Lemmas.MixedInterface
import Refine.Lemmas.MixedCount
import Refine.Props.C02Mixed
import Refine.Model.ReconPar
import Refine.Lemmas.ReconParAcc
import Refine.Lemmas.ReconParGhost
import Refine.Lemmas.ReconParMesh
import Refine.Lemmas.ReconParHess
import Refine.Lemmas.KexactCloud
import Refine.Lemmas.ReconParRoundoff
import Refine.Lemmas.ReconParCounter
import Refine.Lemmas.ReconParCells
import Refine.Lemmas.ReconParExtrap
import Refine.Lemmas.ReconParCloud
import Refine.Lemmas.MetricRadii
import Refine.Lemmas.ReconParRadii
import Refine.Props.C19Par
import Refine.Props.C10Par
import Refine.Model.PartMeshb
import Refine.Lemmas.PartMeshbParse
import Refine.Lemmas.PartMeshbRoute
import Refine.Lemmas.PartMeshbCount
import Refine.Props.C20PartMeshb
import Refine.Lemmas.PartMeshbRank
import Refine.Lemmas.PartMeshbPlace
import Refine.Lemmas.PartMeshbWorld
import Refine.Lemmas.PartMeshbFinal
import Refine.Lemmas.PartMeshbInv
import Refine.Props.C06Part
import Refine.Lemmas.PartMeshbGather
import Refine.Lemmas.PartMeshbSerial
import Refine.Props.C08Part
import Refine.Gen.InterpConsts
import Refine.Model.InterpLocate
import Refine.Lemmas.InterpLocate
import Refine.Lemmas.InterpLocateComm
import Refine.Lemmas.InterpLocateStages
import Refine.Lemmas.InterpLocateInv
import Refine.Lemmas.InterpLocateGeom
import Refine.Lemmas.InterpLocateEx
import Refine.Props.C11Locate
import Refine.Model.PhysDist
import Refine.Lemmas.FoldSet
import Refine.Lemmas.PhysDistExch
import Refine.Lemmas.PhysDistWorld
import Refine.Lemmas.PhysDistTree
import Refine.Lemmas.PhysDistBc
import Refine.Lemmas.PhysDistGlobal
import Refine.Props.C12Par
import Refine.Model.MetricPipe
import Refine.Lemmas.MetricPipe
import Refine.Props.C10Pipe
import Refine.Model.InterpPack
import Refine.Lemmas.InterpPack
import Refine.Props.C05Pack
import Refine.Model.Formats
import Refine.Model.FormatsBin
import Refine.Model.FormatsMapbc
import Refine.Lemmas.FormatsText
import Refine.Lemmas.FormatsBin
import Refine.Lemmas.FormatsC20
import Refine.Lemmas.FormatsRoundtrip
import Refine.Props.C20Formats
import Refine.Props.C08Formats
import Refine.Props.C09Formats
import Refine.Model.Cavity2
import Refine.Lemmas.Cavity2Ledger
import Refine.Lemmas.Cavity2Listed
import Refine.Lemmas.Cavity2Replace
import Refine.Lemmas.Cavity2Enlarge
import Refine.Lemmas.Cavity2Form
import Refine.Lemmas.Cavity2Collapse
import Refine.Props.C01Cavity2
import Refine.Lemmas.Cavity2Conf
import Refine.Lemmas.Cavity2SwapChain
