import Refine.Lemmas.MetricScale
import Refine.Lemmas.MatrixFun
import Refine.Lemmas.MatrixQL4
import Mathlib.Analysis.SpecialFunctions.Pow.Real
import Mathlib.Tactic.Ring
import Mathlib.Tactic.Linarith
import Mathlib.Tactic.Positivity

/-!
  Positive definiteness through the stages of the multiscale metric, in exact arithmetic.
  `SPD m` is the quadratic-form statement `xᵀ m x > 0` for every non-zero `x`.  (`SPD`, `PSD` and the lemmas are declared
  in the model's namespace `Refine.Model.Metric`; Model/Metric.lean itself holds no proof-side definition.)
-/
namespace Refine.Model.Metric
open Refine Refine.Scalar Refine.ScalarReal Refine.Model.Matrix

def SPD (m : M6 ℝ) : Prop := ∀ x : Vec3 ℝ, (x.x ≠ 0 ∨ x.y ≠ 0 ∨ x.z ≠ 0) → 0 < vtMv m x

def PSD (m : M6 ℝ) : Prop := ∀ x : Vec3 ℝ, 0 ≤ vtMv m x

theorem vtMv_scaleM (m : M6 ℝ) (s : ℝ) (x : Vec3 ℝ) : vtMv (scaleM m s) x = s * vtMv m x := by
  simp only [vtMv, scaleM, mul_eq, add_eq]; ring

theorem scaleM_spd {m : M6 ℝ} {s : ℝ} (hs : 0 < s) (h : SPD m) : SPD (scaleM m s) := by
  intro x hx; rw [vtMv_scaleM]; exact mul_pos hs (h x hx)

theorem vtMv_twodM (m : M6 ℝ) (x : Vec3 ℝ) :
    vtMv (twodM m) x = vtMv m ⟨x.x, x.y, 0⟩ + x.z * x.z := by
  simp only [vtMv, twodM, mul_eq, add_eq, ofInt_eq, Int.cast_zero, Int.cast_one]; ring

theorem twodM_spd_of_block {m : M6 ℝ}
    (h : ∀ x y : ℝ, (x ≠ 0 ∨ y ≠ 0) → 0 < vtMv m ⟨x, y, 0⟩) : SPD (twodM m) := by
  intro x hx
  rw [vtMv_twodM]
  by_cases hxy : x.x ≠ 0 ∨ x.y ≠ 0
  · exact add_pos_of_pos_of_nonneg (h x.x x.y hxy) (mul_self_nonneg x.z)
  · rw [not_or, not_not, not_not] at hxy
    have hz : x.z ≠ 0 := by
      rcases hx with h | h | h
      · exact absurd hxy.1 h
      · exact absurd hxy.2 h
      · exact h
    have h0 : vtMv m ⟨x.x, x.y, 0⟩ = 0 := by
      rw [hxy.1, hxy.2]; simp only [vtMv, mul_eq, add_eq]; ring
    rw [h0, zero_add]
    exact mul_self_pos.mpr hz

theorem twodM_spd {m : M6 ℝ} (h : SPD m) : SPD (twodM m) :=
  twodM_spd_of_block (fun x y hxy => h ⟨x, y, 0⟩ (by
    rcases hxy with h | h
    · exact Or.inl h
    · exact Or.inr (Or.inl h)))

theorem twodM_embedded (m : M6 ℝ) : IsEmbedded (twodM m) := by
  unfold IsEmbedded twodM
  simp only [ofInt_eq, Int.cast_zero, Int.cast_one, and_self]

theorem rescaleNode_true_embedded (s : ℝ) (m : M6 ℝ) : IsEmbedded (rescaleNode true s m) := by
  unfold rescaleNode embed2d
  simp only [if_true]
  exact twodM_embedded _

theorem rescaleNode_spd (twod : Bool) {s : ℝ} (hs : 0 < s) {m : M6 ℝ} (h : SPD m) : SPD (rescaleNode twod s m) := by
  unfold rescaleNode embed2d
  cases twod
  · simp only [Bool.false_eq_true, if_false]; exact scaleM_spd hs h
  · simp only [if_true]; exact twodM_spd (scaleM_spd hs h)

theorem localScaleNode_pos (e : ℝ) {m : M6 ℝ} (hd : 0 < detM m) : localScaleNode e m = scaleM m (detM m ^ e) := by
  unfold localScaleNode
  simp only [zero_eq, pow_eq]
  exact if_pos ((lt_iff _ _).mpr hd)

/-- the Lp normalisation keeps SPD: the factor `det^(-1/(2p+d))` is a positive real, or the tensor is left alone -/
theorem localScaleNode_spd (e : ℝ) {m : M6 ℝ} (h : SPD m) : SPD (localScaleNode e m) := by
  unfold localScaleNode
  simp only [zero_eq, pow_eq]
  by_cases hd : 0 < detM m
  · rw [if_pos ((lt_iff _ _).mpr hd)]
    exact scaleM_spd (Real.rpow_pos_of_pos hd e) h
  · rw [if_neg (fun hh => hd ((lt_iff _ _).mp hh))]
    exact h

theorem formM_spd {d : Eig12 ℝ} (ho : Orthonormal d) (hpos : 0 < d.l0 ∧ 0 < d.l1 ∧ 0 < d.l2) : SPD (formM d) :=
  fun x hx => vtMv_formM_pos d ho hpos x hx

theorem formM_psd (d : Eig12 ℝ) (hpos : 0 ≤ d.l0 ∧ 0 ≤ d.l1 ∧ 0 ≤ d.l2) : PSD (formM d) := by
  intro x
  rw [vtMv_formM]
  exact add_nonneg (add_nonneg (mul_nonneg hpos.1 (sq_nonneg _)) (mul_nonneg hpos.2.1 (sq_nonneg _)))
    (mul_nonneg hpos.2.2 (sq_nonneg _))

/-- the eigenvalue repairs (floor, absolute value, aspect-ratio limit, buffer cap) return `form_m` of the frame
    `diag_m` found with the eigenvalues mapped: SPD as soon as the three mapped eigenvalues are positive, whatever
    the input was — only the orthonormality of the returned frame is used, which is proved for every successful
    `ref_matrix_diag_m` (no exact-decomposition hypothesis) -/
theorem formM_mapEig_spd {m : M6 ℝ} {d : Eig12 ℝ} (hd : diagM m = .ok d) (f : ℝ → ℝ)
    (hpos : 0 < f d.l0 ∧ 0 < f d.l1 ∧ 0 < f d.l2) : SPD (formM (mapEig f d)) :=
  formM_spd (orthonormal_mapEig f (diagM_orthonormal' m d hd)) hpos

/-- eigenvalue floor: `diag_m; eig = MAX(eig, floor); form_m` with `floor > 0` returns an SPD tensor for ANY input
    (indefinite, singular, zero) -/
theorem floorEigNode_spd {floor : ℝ} (hf : 0 < floor) {m out : M6 ℝ} (h : floorEigNode floor m = .ok out) : SPD out := by
  revert h
  fun_cases floorEigNode floor m with
  | case1 => nofun
  | case2 d hd =>
    rintro ⟨⟩
    refine formM_mapEig_spd hd _ ?_
    simp only [cmax_eq]
    exact ⟨lt_of_lt_of_le hf (le_max_right _ _), lt_of_lt_of_le hf (le_max_right _ _),
           lt_of_lt_of_le hf (le_max_right _ _)⟩

/-- `ref_recon_roundoff_limit`, one vertex: a passed `ref_math_divisible` guard makes the floor
    `4e-12 / radius²` positive, so the result is SPD whatever the reconstructed Hessian was -/
theorem roundoffNode_spd {radius : ℝ} {m out : M6 ℝ} (h : roundoffNode radius m = .ok out) : SPD out := by
  revert h
  fun_cases roundoffNode radius m with
  | case1 => nofun
  | case2 jitter4 r2 hg =>
    have hr : r2 ≠ 0 := divisible_ne_zero (by simpa using hg)
    have hpos : 0 < radius * radius := lt_of_le_of_ne (mul_self_nonneg _) (Ne.symm hr)
    refine floorEigNode_spd ?_
    simp only [jitter4, r2, mul_eq, div_eq, ofInt_eq, ofDec_eq]
    apply div_pos _ hpos
    norm_num

/-- `ref_matrix_descending_eig_twod` only permutes the eigen pairs: the frame stays orthonormal -/
theorem descendingEigTwod_orthonormal {d d' : Eig12 ℝ} (ho : Orthonormal d) (h : descendingEigTwod d = .ok d') :
    Orthonormal d' := by
  revert h
  fun_cases descendingEigTwod d with
  | case1 => nofun
  | case2 =>
    rename_i z dz _
    rintro ⟨⟩
    -- `dz`: the pair `z` that points out of the plane is put last; then the two in-plane pairs are ordered
    have hz : Orthonormal dz := by
      dsimp only [dz]; split; exacts [ho.swap02, ho.swap12, ho]
    split_ifs; exacts [hz.swap01, hz]

theorem mapM6_all {P : M6 ℝ → Prop} {f : M6 ℝ → Except Err (M6 ℝ)} (hf : ∀ m out, f m = .ok out → P out)
    (ms out : List (M6 ℝ)) (h : mapM6 f ms = .ok out) : ∀ m ∈ out, P m := by
  fun_induction mapM6 f ms generalizing out with
  | case1 => cases h; exact fun m hm => nomatch hm
  | case2 m rest e he => cases h
  | case3 m rest r hr e he ih => cases h
  | case4 m rest r hr rs hrs ih => cases h; exact List.forall_mem_cons.mpr ⟨hf m _ hr, ih rs hrs⟩

end Refine.Model.Metric
