import Refine.Model.PartMeshb
import Refine.Lemmas.CodecC20

/-! rank 0's side of the parallel meshb reader (`Refine.Model.PartMeshb.parseWith`): what an accepted file
    guarantees about the records that are then routed -/
namespace Refine.Lemmas.PartMeshb
open Refine.Model.Meshb Refine.Model.PartMeshb Refine.Lemmas.Codec Refine.Lemmas.Reader
open Refine.Gen.PartMacros

theorem rdLong_error {v : Nat} {s : Bytes} {e : Status} (h : rdLong v s = .error e) : e = .failure := by
  unfold rdLong at h
  split at h
  · exact rdI32_error h
  · split at h
    · cases h
    · cases h; exact rdU_error ‹_›

theorem rdLongs_eq_many (v n : Nat) (s : Bytes) : rdLongs v n s = many (rdLong v) n s := by
  fun_induction rdLongs v n s <;> simp_all only [many]

theorem rdVertsD_eq_many (v : Nat) (twod : Bool) (n : Nat) (s : Bytes) :
    rdVertsD v twod n s = many (rdVertD v twod) n s := by
  fun_induction rdVertsD v twod n s <;> simp_all only [many]

theorem rdGeomRecs_eq_many (v t n : Nat) (s : Bytes) : rdGeomRecs v t n s = many (rdGeomRec v t) n s := by
  fun_induction rdGeomRecs v t n s <;> simp_all only [many]

theorem rdBlocks_lengths {v : Nat} {twod : Bool} (counts : List Int) {s r : Bytes} {blocks : List (List Vertex)}
    (h : rdBlocks v twod counts s = .ok (blocks, r)) :
    blocks.length = counts.length ∧ ∀ i, i < counts.length → (blocks.getD i []).length = (counts.getD i 0).toNat := by
  revert blocks
  fun_induction rdBlocks v twod counts s <;> intro blocks h <;> cases h
  · simp
  · rename_i h1 _ ih h2
    obtain ⟨hl, hi⟩ := ih h2
    refine ⟨by simp [hl], fun i hi' => ?_⟩
    cases i with
    | zero => simpa using many_length ((rdVertsD_eq_many ..).symm.trans h1)
    | succ i => simpa using hi i (by simpa using hi')

theorem rdLongs_length {v n : Nat} {s r : Bytes} {xs : List Int} (h : rdLongs v n s = .ok (xs, r)) :
    xs.length = n := by
  rw [rdLongs_eq_many] at h; exact many_length h

theorem rdRecsAcc_eq {v k : Nat} : ∀ (n : Nat) (s : Bytes) (acc : List (List Int)),
    rdRecsAcc v k n s acc =
      match many (rdLongs v k) n s with
      | .error e => .error e
      | .ok (rs, r) => .ok (acc.reverse ++ rs, r)
  | 0, s, acc => by simp [rdRecsAcc, many]
  | n + 1, s, acc => by
    unfold rdRecsAcc many
    rcases rdLongs v k s with e | ⟨x, t⟩
    · rfl
    · simp only [rdRecsAcc_eq n]; rcases many (rdLongs v k) n t with e | ⟨rs, t'⟩ <;> simp

theorem rdRecs_eq_many (v k n : Nat) (s : Bytes) : rdRecs v k n s = many (rdLongs v k) n s := by
  unfold rdRecs
  rw [rdRecsAcc_eq]
  rcases many (rdLongs v k) n s with e | ⟨rs, r⟩ <;> rfl

theorem recs_length {v k n : Nat} {s r : Bytes} {raws : List (List Int)}
    (h : many (rdLongs v k) n s = .ok (raws, r)) : ∀ raw ∈ raws, raw.length = k :=
  many_all (fun _ _ _ => rdLongs_length) n h

theorem rawBad_eq_false_iff {ci : CellInfo} {N : Int} {raw : List Int} :
    rawBad ci N raw = false ↔ ∀ x ∈ raw.take ci.nodePer, 1 ≤ x ∧ x ≤ N := by
  simp [rawBad, badIndex, not_or]

/-- the in-memory cell is the serial reader's vertex list (`recordNodes`; the two generated pyramid permutations are
    the same table) followed by the id column -/
theorem cellOfRaw_eq (ci : CellInfo) (raw : List Int) :
    cellOfRaw ci raw = recordNodes ci raw ++ (if ci.lastId then (raw.drop ci.nodePer).take 1 else []) := rfl

theorem cellOfRaw_take {ci : CellInfo} {raw : List Int} (hp : ci.isPyr = true → ci.nodePer = 5)
    (hraw : raw.length = ci.nodePer + 1) : (cellOfRaw ci raw).take ci.nodePer = recordNodes ci raw := by
  rw [cellOfRaw_eq, List.take_left' (recordNodes_length hp hraw)]

theorem cellOfRaw_drop {ci : CellInfo} {raw : List Int} (hp : ci.isPyr = true → ci.nodePer = 5)
    (hraw : raw.length = ci.nodePer + 1) :
    (cellOfRaw ci raw).drop ci.nodePer = if ci.lastId then (raw.drop ci.nodePer).take 1 else [] := by
  rw [cellOfRaw_eq, List.drop_left' (recordNodes_length hp hraw)]

theorem cellOfRaw_length {ci : CellInfo} {raw : List Int} (hp : ci.isPyr = true → ci.nodePer = 5)
    (hraw : raw.length = ci.nodePer + 1) : (cellOfRaw ci raw).length = ci.sizePer := by
  rw [cellOfRaw_eq, List.length_append, recordNodes_length hp hraw, CellInfo.sizePer]
  split <;> simp [hraw]

theorem mem_recordNodes {ci : CellInfo} {raw : List Int} (hp : ci.isPyr = true → ci.nodePer = 5)
    (hraw : raw.length = ci.nodePer + 1) {y : Int} (h : y ∈ recordNodes ci raw) : ∃ x ∈ raw.take ci.nodePer, x - 1 = y := by
  unfold recordNodes at h
  split at h
  · rename_i hpy
    obtain ⟨i, hi, rfl⟩ := List.mem_map.1 h
    have hil : i < ((raw.take ci.nodePer).map fun x => x - 1).length := by
      simp only [Refine.Gen.PyrPerm.importMeshb, List.mem_cons, List.not_mem_nil, or_false] at hi
      simp only [List.length_map, List.length_take, hraw, hp hpy]
      omega
    rw [List.getD_eq_getElem?_getD, List.getElem?_eq_getElem hil]
    exact List.mem_map.1 (List.getElem_mem hil)
  · exact List.mem_map.1 h


/-- a cell that is fit to be routed: `size_per` integers, every vertex in `[0, nnode)` -/
def CellOK (ci : CellInfo) (N : Int) (c : Cell) : Prop :=
  c.length = ci.sizePer ∧ ∀ x ∈ c.take ci.nodePer, 0 ≤ x ∧ x < N

theorem cellOfRaw_cellOK {ci : CellInfo} {N : Int} {raw : List Int} (hp : ci.isPyr = true → ci.nodePer = 5)
    (hraw : raw.length = ci.nodePer + 1) (hok : rawBad ci N raw = false) : CellOK ci N (cellOfRaw ci raw) := by
  refine ⟨cellOfRaw_length hp hraw, fun y hy => ?_⟩
  rw [cellOfRaw_take hp hraw] at hy
  obtain ⟨x, hx, rfl⟩ := mem_recordNodes hp hraw hy
  have := rawBad_eq_false_iff.1 hok x hx
  omega

theorem readChunk_inv {v : Nat} {ci : CellInfo} {N : Int} {sec : Nat} {s r : Bytes} {cells : List Cell}
    (h : readChunk v ci N sec s = .ok (cells, r)) :
    ∃ raws, many (rdLongs v (ci.nodePer + 1)) sec s = .ok (raws, r) ∧
      (∀ raw ∈ raws, rawBad ci N raw = false) ∧ cells = raws.map (cellOfRaw ci) := by
  revert h
  fun_cases readChunk v ci N sec s <;> intro h <;> cases h
  rename_i hany hr
  exact ⟨_, (rdRecs_eq_many ..).symm.trans hr, by simpa using hany, rfl⟩

theorem rdCellChunks_recs {v : Nat} {ci : CellInfo} {N chunk ncell : Int} (fuel : Nat) (nread : Int) (s r : Bytes)
    (acc chunks : List (List Cell)) (h : rdCellChunks v ci N chunk ncell fuel nread s acc = .ok (chunks, r)) :
    ∃ raws, many (rdLongs v (ci.nodePer + 1)) raws.length s = .ok (raws, r) ∧
      (∀ raw ∈ raws, rawBad ci N raw = false) ∧
      chunks.flatten = acc.reverse.flatten ++ raws.map (cellOfRaw ci) := by
  revert h
  fun_induction rdCellChunks v ci N chunk ncell fuel nread s acc <;> intro h
  case case6 ih =>
    obtain ⟨raws1, hr1, hb1, rfl⟩ := readChunk_inv ‹_›
    obtain ⟨raws2, hr2, hb2, hf2⟩ := ih h
    rw [← many_length hr1] at hr1
    refine ⟨raws1 ++ raws2, by rw [List.length_append]; exact many_append _ _ hr1 hr2, ?_, by simp [hf2]⟩
    exact fun raw hraw => (List.mem_append.1 hraw).elim (hb1 raw) (hb2 raw)
  all_goals cases h
  all_goals exact ⟨[], rfl, by simp, by simp⟩

theorem rdCellSection_recs {cfg : Cfg} {cm v np : Nat} {ci : CellInfo} {N ncell : Int} {s r : Bytes}
    {chunks : List (List Cell)} (h : rdCellSection cfg cm v np ci N ncell s = .ok (chunks, r)) :
    ∃ raws, many (rdLongs v (ci.nodePer + 1)) raws.length s = .ok (raws, r) ∧
      (∀ raw ∈ raws, rawBad ci N raw = false) ∧ chunks.flatten = raws.map (cellOfRaw ci) := by
  revert h
  fun_cases rdCellSection cfg cm v np ci N ncell s <;> intro h
  · cases h
  · cases h
  · simpa using rdCellChunks_recs _ _ _ _ _ _ h

theorem rdCellSection_cells {cfg : Cfg} {cm v np : Nat} {ci : CellInfo} {N ncell : Int} {s r : Bytes}
    {chunks : List (List Cell)} (hp : ci.isPyr = true → ci.nodePer = 5)
    (h : rdCellSection cfg cm v np ci N ncell s = .ok (chunks, r)) :
    ∀ ch ∈ chunks, ∀ c ∈ ch, CellOK ci N c := by
  obtain ⟨raws, hr, hb, hf⟩ := rdCellSection_recs h
  intro ch hch c hc
  have hm : c ∈ chunks.flatten := List.mem_flatten.2 ⟨ch, hch, hc⟩
  rw [hf] at hm
  obtain ⟨raw, hraw, rfl⟩ := List.mem_map.1 hm
  exact cellOfRaw_cellOK hp (recs_length hr raw hraw) (hb raw hraw)

theorem kwSectionL_cases {α : Type} {v : Nat} {bs : Bytes} {kp : KeyPos} {kw : Nat} {dflt a : α}
    {body : Int → P α} (h : kwSectionL v bs kp kw dflt body = .ok a) :
    (jump v bs kp kw = .ok none ∧ a = dflt) ∨
    ∃ next s0 n s r, jump v bs kp kw = .ok (some (next, s0)) ∧ rdLong v s0 = .ok (n, s) ∧
      countFits n s = true ∧ body n s = .ok (a, r) ∧ next = tell bs r := by
  revert h
  fun_cases kwSectionL v bs kp kw dflt body <;> intro h <;> cases h
  · exact .inl ⟨‹_›, rfl⟩
  · exact .inr ⟨_, _, _, _, _, ‹jump _ _ _ _ = _›, ‹rdLong _ _ = _›, by simpa using ‹¬ (!countFits _ _) = true›,
      ‹body _ _ = _›, rfl⟩

theorem rdCellGroupsP_eq_each (cfg : Cfg) (cm v np : Nat) (bs : Bytes) (kp : KeyPos) (N : Int) (cis : List CellInfo) :
    rdCellGroupsP cfg cm v np bs kp N cis =
      each (fun ci => kwSectionL v bs kp ci.kw [] (fun n => rdCellSection cfg cm v np ci N n)) cis := by
  fun_induction rdCellGroupsP cfg cm v np bs kp N cis <;> simp_all only [each]

theorem rdGeomTypesP_eq_each (cfg : Cfg) (cm v np : Nat) (bs : Bytes) (kp : KeyPos) (ts : List Nat) :
    rdGeomTypesP cfg cm v np bs kp ts =
      each (fun t => kwSectionL v bs kp (40 + t) [] (fun n => rdGeomSection cfg cm v np t n)) ts := by
  fun_induction rdGeomTypesP cfg cm v np bs kp ts <;> simp_all only [each]

theorem rdCellGroupsP_cells {cfg : Cfg} {cm v np : Nat} {bs : Bytes} {kp : KeyPos} {N : Int}
    {cis : List CellInfo} {gs : List (List (List Cell))}
    (hcis : ∀ ci ∈ cis, ci.isPyr = true → ci.nodePer = 5)
    (h : rdCellGroupsP cfg cm v np bs kp N cis = .ok gs) :
    ∀ p ∈ cis.zip gs, ∀ ch ∈ p.2, ∀ c ∈ ch, CellOK p.1 N c := by
  rintro ⟨ci, g⟩ hp
  rw [rdCellGroupsP_eq_each] at h
  rcases kwSectionL_cases ((each_eq_ok_iff.1 h).2 _ hp) with ⟨_, rfl⟩ | ⟨_, _, _, _, _, _, _, _, hb, _⟩
  · simp
  · exact rdCellSection_cells (hcis ci (List.of_mem_zip hp).1) hb

structure ParseSteps (cfg : Cfg) (np cm : Nat) (bs : Bytes) (p : Parsed) (v : Nat) (kp : KeyPos) : Prop where
  header : header cfg bs = .ok (v, kp)
  dim : ∃ n1 s1 dim s2, jump v bs kp 3 = .ok (some (n1, s1)) ∧ rdI32 s1 = .ok (dim, s2) ∧ p.twod = decide (dim = 2)
  verts : ∃ next s0 s r, jump v bs kp 4 = .ok (some (next, s0)) ∧ rdLong v s0 = .ok (p.nnode, s) ∧
    rdBlocks v p.twod (blockCounts p.nnode np) s = .ok (p.blocks, r) ∧ next = tell bs r
  groups : rdCellGroupsP cfg cm v np bs kp p.nnode cellInfos = .ok p.groups
  geoms : rdGeomTypesP cfg cm v np bs kp [0, 1, 2] = .ok p.geoms
  cad : rdCad cfg v bs kp = .ok p.cad

theorem parse_inv {cfg : Cfg} {np cm : Nat} {bs : Bytes} {p : Parsed} (h : parseWith cfg np cm bs = .ok p) :
    ∃ v kp, ParseSteps cfg np cm bs p v kp := by
  revert h
  fun_cases parseWith cfg np cm bs <;> intro h <;> cases h
  -- the accepted file: its nine reads in file order (what was read, the bytes left, the accepted read), and the guard
  -- that the vertex blocks end where the next keyword starts
  next v kp hh _ s1 hj3 dim s2 hd _ next s0 hj4 nnode s hn blocks r hb hnext _ hg _ hgeo _ hcad =>
  exact ⟨v, kp, hh, ⟨_, s1, dim, s2, hj3, hd, rfl⟩, ⟨next, s0, s, r, hj4, hn, hb, Decidable.not_not.1 hnext⟩, hg, hgeo, hcad⟩

theorem parse_cells {cfg : Cfg} {np cm : Nat} {bs : Bytes} {p : Parsed} (h : parseWith cfg np cm bs = .ok p) :
    ∀ g ∈ cellInfos.zip p.groups, ∀ ch ∈ g.2, ∀ c ∈ ch, CellOK g.1 p.nnode c := by
  obtain ⟨_, _, hs⟩ := parse_inv h
  exact rdCellGroupsP_cells cellInfos_pyr hs.groups

theorem cellInfos_nodePer_pos : ∀ ci ∈ cellInfos, 2 ≤ ci.nodePer := by decide

theorem cellInfos_length : cellInfos.length = 16 := by decide

theorem cellInfos_lt {k : Nat} {ci : CellInfo} (hk : cellInfos[k]? = some ci) : k < 16 :=
  cellInfos_length ▸ (List.getElem?_eq_some_iff.1 hk).1

theorem cellInfos_nodePer_le : ∀ ci ∈ cellInfos, ci.nodePer + 1 ≤ 28 ∧ ci.sizePer ≤ 28 := by decide

end Refine.Lemmas.PartMeshb
