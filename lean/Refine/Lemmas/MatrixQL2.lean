import Refine.Lemmas.MatrixQL

/-!
  Every implicit-shift QL sweep of `ref_matrix_diag_m` is an exact orthogonal similarity over ℝ.  A QL state
  `(d, e, f, Q)` in row `l` stands for `Q (T + f·P_{≥l}) Qᵀ` (`QL.reprMat`); each inner step is a Givens rotation
  `Q' = Q G`, `M' = Gᵀ M G` on the full symmetric 3x3 with the bulge stored explicitly (`Sweep.mat0`, `Sweep.mat1`);
  the closing recurrence `p = -s*s2*c3*el1*e[l]/dl1` of tql2 equals the `p` left by the loop because the shift makes
  the leading 2x2 block singular (`close_one`, `close_two`).
  In the names a digit glued to a function is its numeral argument (`innerStep1` = `innerStep 1`, `sweep02` = `sweep 0 2`,
  `initSweep2`, `shift0`); `W0`/`W1`, `mat0`/`mat1` are the active row; the number of rotations is spelled out (`_one`, `_two`).
-/
namespace Refine.Model.Matrix
open Refine Refine.ScalarReal
open _root_.Matrix

def triMat (d0 d1 d2 e0 e1 : ℝ) : Matrix (Fin 3) (Fin 3) ℝ := !![d0, e0, 0; e0, d1, e1; 0, e1, d2]

theorem conj_rot {V V' G M M' : Matrix (Fin 3) (Fin 3) ℝ} (hG : G * Gᵀ = 1) (hV : V' = V * G)
    (hM : M' = Gᵀ * M * G) : V' * M' * V'ᵀ = V * M * Vᵀ := by
  rw [hV, hM, transpose_mul]
  calc V * G * (Gᵀ * M * G) * (Gᵀ * Vᵀ) = V * (G * Gᵀ) * M * (G * Gᵀ) * Vᵀ := by
        simp only [Matrix.mul_assoc]
    _ = V * M * Vᵀ := by rw [hG, Matrix.mul_one, Matrix.mul_one]

/-- rotation in the plane (1,2) applied to the matrix at position 2 (general form, with an optional coupling e0) -/
theorem rot12_step (d0 d1 e0 e1 c p f0 f c' s' : ℝ) (h1 : c' * c' + s' * s' = 1) (h2 : c' * e1 = s' * p) :
    (G12 c' s')ᵀ * !![d0 + f0, e0, 0; e0, d1 + f, c * e1; 0, c * e1, c * p + f] * G12 c' s' =
      !![d0 + f0, c' * e0, s' * e0;
         c' * e0, c' * (c' * d1 - s' * (c * e1)) + f, s' * (c' * d1 - s' * (c * e1));
         s' * e0, s' * (c' * d1 - s' * (c * e1)), c * p + s' * (c' * (c * e1) + s' * d1) + f] := by
  rw [G12, transpose_fin_three, mul_fin_three, mul_fin_three]
  exact lit3_congr (by ring) (by ring) (by ring)
    (by ring) (by linear_combination f * h1 - s' * c * h2) (by linear_combination c' * c * h2)
    (by ring) (by linear_combination c' * c * h2) (by linear_combination (f + c * p) * h1 + s' * c * h2)

theorem rot01_step (d0 d2 e0 c s p f c' s' r : ℝ) (h1 : c' * c' + s' * s' = 1) (h2 : c' * e0 = s' * p)
    (h3 : r = s' * e0 + c' * p) :
    (G01 c' s')ᵀ * !![d0 + f, c * e0, s * e0; c * e0, c * p + f, s * p; s * e0, s * p, d2 + f] * G01 c' s' =
      !![c' * (c' * d0 - s' * (c * e0)) + f, s' * (c' * d0 - s' * (c * e0)), 0;
         s' * (c' * d0 - s' * (c * e0)), c * p + s' * (c' * (c * e0) + s' * d0) + f, s * r;
         0, s * r, d2 + f] := by
  rw [G01, transpose_fin_three, mul_fin_three, mul_fin_three]
  exact lit3_congr (by linear_combination f * h1 - s' * c * h2) (by linear_combination c' * c * h2)
      (by linear_combination s * h2)
    (by linear_combination c' * c * h2) (by linear_combination (f + c * p) * h1 + s' * c * h2)
      (by linear_combination (-s) * h3)
    (by linear_combination s * h2) (by linear_combination (-s) * h3) (by ring)

/-- `gridSign r p` with `r = sqrt(p² + 1)`: a square root of p² + 1 with the sign of p -/
theorem gridSign_sq (p : ℝ) : gridSign (Real.sqrt (p * p + 1)) p * gridSign (Real.sqrt (p * p + 1)) p = p * p + 1 := by
  have h0 : (0 : ℝ) ≤ p * p + 1 := by linarith [mul_self_nonneg p]
  have hs : Real.sqrt (p * p + 1) * Real.sqrt (p * p + 1) = p * p + 1 := Real.mul_self_sqrt h0
  fun_cases gridSign _ p
  · rw [cabs_eq, abs_mul_abs_self]; exact hs
  · rw [cabs_eq, neg_eq, neg_mul_neg, abs_mul_abs_self]; exact hs

/-- `p + gridSign r p` of the `form shift` lines -/
noncomputable def shiftT (dl dl1 el : ℝ) : ℝ :=
  (dl1 - dl) / (2 * el) + gridSign (Real.sqrt ((dl1 - dl) / (2 * el) * ((dl1 - dl) / (2 * el)) + 1)) ((dl1 - dl) / (2 * el))

theorem shiftT_spec (dl dl1 el : ℝ) (hel : el ≠ 0) :
    shiftT dl dl1 el ≠ 0 ∧ el * shiftT dl dl1 el = dl1 - (dl - el / shiftT dl dl1 el) := by
  unfold shiftT
  have hpe : 2 * ((dl1 - dl) / (2 * el)) * el = dl1 - dl := by field_simp
  generalize (dl1 - dl) / (2 * el) = p at hpe ⊢
  have hgs := gridSign_sq p
  generalize gridSign (Real.sqrt (p * p + 1)) p = gs at hgs ⊢
  -- `t = p + gs` is a root of `t² - 2pt - 1`
  have htt : (p + gs) * (p + gs) - 1 = 2 * p * (p + gs) := by linear_combination hgs
  have ht0 : p + gs ≠ 0 := by
    intro h0; rw [h0] at htt; norm_num at htt
  refine ⟨ht0, ?_⟩
  generalize p + gs = t at *
  field_simp
  linear_combination el * htt + t * hpe

theorem shift0_eq (st : QL ℝ) :
    shift 0 st = { st with
      d := { st.d with l0 := st.e0 / shiftT st.d.l0 st.d.l1 st.e0, l1 := st.e0 * shiftT st.d.l0 st.d.l1 st.e0
                       l2 := st.d.l2 - (st.d.l0 - st.e0 / shiftT st.d.l0 st.d.l1 st.e0) }
      f := st.f + (st.d.l0 - st.e0 / shiftT st.d.l0 st.d.l1 st.e0) } := by
  simp only [shift, shiftT, QL.setD, QL.getD, QL.getE, mul_eq, add_eq, sub_eq, div_eq, sqrt_eq, one_eq, two_eq,
    Nat.reduceAdd, le_refl, if_true]

theorem shift1_eq (st : QL ℝ) :
    shift 1 st = { st with
      d := { st.d with l1 := st.e1 / shiftT st.d.l1 st.d.l2 st.e1, l2 := st.e1 * shiftT st.d.l1 st.d.l2 st.e1 }
      f := st.f + (st.d.l1 - st.e1 / shiftT st.d.l1 st.d.l2 st.e1) } := by
  simp only [shift, shiftT, QL.setD, QL.getD, QL.getE, mul_eq, add_eq, sub_eq, div_eq, sqrt_eq, one_eq, two_eq,
    Nat.reduceAdd, Nat.reduceLeDiff, if_false]

/-- the symmetric tridiagonal matrix (in the coordinates of the current vectors) a QL state stands for while
    row `l` is active: rows `< l` are finished (their `d` is final, their sub-diagonal entry was dropped),
    rows `≥ l` carry the accumulated shift `f` -/
noncomputable def QL.Tmat (l : Nat) (st : QL ℝ) : Matrix (Fin 3) (Fin 3) ℝ :=
  triMat (st.d.l0 + (if l = 0 then st.f else 0)) (st.d.l1 + (if l ≤ 1 then st.f else 0))
    (st.d.l2 + (if l ≤ 2 then st.f else 0)) (if l = 0 then st.e0 else 0) (if l ≤ 1 then st.e1 else 0)

noncomputable def QL.reprMat (l : Nat) (st : QL ℝ) : Matrix (Fin 3) (Fin 3) ℝ := st.d.V * st.Tmat l * st.d.Vᵀ

theorem toMat_tridiagForm (d : Eig12 ℝ) (e0 e1 : ℝ) :
    (tridiagForm d e0 e1).toMat = d.V * triMat d.l0 d.l1 d.l2 e0 e1 * d.Vᵀ := by
  rw [Eig12.V_transpose, Eig12.V, triMat, mul_fin_three, mul_fin_three]
  simp only [M6.toMat, tridiagForm]
  apply lit3_congr <;> ring

/-- the full symmetric matrix (bulge included) the loop locals stand for during the `ql transformation` loop of row 0.
    The index counts the inner steps still to come: `mat0 2` before `innerStep 1`, `mat0 1` before `innerStep 0` (bulge at
    (0, 2)), `mat0 0` after the last rotation -/
noncomputable def Sweep.mat0 (w : Sweep ℝ) : Nat → Matrix (Fin 3) (Fin 3) ℝ
  | 0 => !![w.c * w.p + w.st.f, w.s * w.p, 0; w.s * w.p, w.st.d.l1 + w.st.f, w.st.e1; 0, w.st.e1, w.st.d.l2 + w.st.f]
  | 1 => !![w.st.d.l0 + w.st.f, w.c * w.st.e0, w.s * w.st.e0;
            w.c * w.st.e0, w.c * w.p + w.st.f, w.s * w.p;
            w.s * w.st.e0, w.s * w.p, w.st.d.l2 + w.st.f]
  | _ => !![w.st.d.l0 + w.st.f, w.st.e0, 0; w.st.e0, w.st.d.l1 + w.st.f, w.c * w.st.e1; 0, w.c * w.st.e1, w.c * w.p + w.st.f]

/-- the same during row 1 (row 0 is finished: no shift on `d[0]`, `e[0]` dropped): `mat1 2` before `innerStep 1`,
    `mat1 1` after it -/
noncomputable def Sweep.mat1 (w : Sweep ℝ) : Nat → Matrix (Fin 3) (Fin 3) ℝ
  | 2 => !![w.st.d.l0, 0, 0; 0, w.st.d.l1 + w.st.f, w.c * w.st.e1; 0, w.c * w.st.e1, w.c * w.p + w.st.f]
  | _ => !![w.st.d.l0, 0, 0; 0, w.c * w.p + w.st.f, w.s * w.p; 0, w.s * w.p, w.st.d.l2 + w.st.f]

/-- `Q · mat0 i · Qᵀ` (`W1`: `mat1`), the matrix in the coordinates of the input: what every rotation keeps -/
noncomputable def Sweep.W0 (w : Sweep ℝ) (i : Nat) : Matrix (Fin 3) (Fin 3) ℝ := w.st.d.V * w.mat0 i * w.st.d.Vᵀ
noncomputable def Sweep.W1 (w : Sweep ℝ) (i : Nat) : Matrix (Fin 3) (Fin 3) ℝ := w.st.d.V * w.mat1 i * w.st.d.Vᵀ

theorem innerStep1_V (w : Sweep ℝ) :
    (innerStep 1 w).st.d.V = w.st.d.V * G12 (innerStep 1 w).c (innerStep 1 w).s := by
  rw [innerStep1_st]; exact rotVec1_V _ _ _

theorem innerStep0_V (w : Sweep ℝ) :
    (innerStep 0 w).st.d.V = w.st.d.V * G01 (innerStep 0 w).c (innerStep 0 w).s := by
  rw [innerStep0_st]; exact rotVec0_V _ _ _

/-- rotation (1,2) during row 0 -/
theorem innerStep1_W0 (w : Sweep ℝ) (he : w.st.e1 ≠ 0) : (innerStep 1 w).W0 1 = w.W0 2 := by
  obtain ⟨h1, h2, _⟩ := innerStep_rot 1 w he
  exact conj_rot (G12_orth _ _ h1) (innerStep1_V w)
    (rot12_step w.st.d.l0 w.st.d.l1 w.st.e0 w.st.e1 w.c w.p w.st.f w.st.f _ _ h1 h2).symm

/-- rotation (1,2) during row 1: `rot12_step` without coupling to row 0 (`e0 = f0 = 0`) -/
theorem innerStep1_W1 (w : Sweep ℝ) (he : w.st.e1 ≠ 0) : (innerStep 1 w).W1 1 = w.W1 2 := by
  obtain ⟨h1, h2, _⟩ := innerStep_rot 1 w he
  have h := rot12_step w.st.d.l0 w.st.d.l1 0 w.st.e1 w.c w.p 0 w.st.f _ _ h1 h2
  simp only [add_zero, mul_zero] at h
  exact conj_rot (G12_orth _ _ h1) (innerStep1_V w) h.symm

/-- rotation (0,1) during row 0 -/
theorem innerStep0_W0 (w : Sweep ℝ) (he : w.st.e0 ≠ 0) : (innerStep 0 w).W0 0 = w.W0 1 := by
  obtain ⟨h1, h2, h3⟩ := innerStep_rot 0 w he
  exact conj_rot (G01_orth _ _ h1) (innerStep0_V w)
    (rot01_step w.st.d.l0 w.st.d.l2 w.st.e0 w.c w.s w.p w.st.f _ _ (w.r 0) h1 h2 h3).symm

theorem shift0_repr (st : QL ℝ) (he : st.e0 ≠ 0) : (shift 0 st).reprMat 0 = st.reprMat 0 := by
  obtain ⟨_, h2⟩ := shiftT_spec st.d.l0 st.d.l1 st.e0 he
  rw [shift0_eq]
  unfold QL.reprMat QL.Tmat
  simp only [if_true, Nat.zero_le]
  generalize shiftT st.d.l0 st.d.l1 st.e0 = T at h2 ⊢
  -- `d[l] + f`, `d[l+1] + f`, `d[l+2] + f` are what the shift keeps
  rw [show st.e0 / T + (st.f + (st.d.l0 - st.e0 / T)) = st.d.l0 + st.f by ring,
    show st.e0 * T + (st.f + (st.d.l0 - st.e0 / T)) = st.d.l1 + st.f by linear_combination h2,
    show st.d.l2 - (st.d.l0 - st.e0 / T) + (st.f + (st.d.l0 - st.e0 / T)) = st.d.l2 + st.f by ring]
  rfl

theorem shift1_repr (st : QL ℝ) (he : st.e1 ≠ 0) : (shift 1 st).reprMat 1 = st.reprMat 1 := by
  obtain ⟨_, h2⟩ := shiftT_spec st.d.l1 st.d.l2 st.e1 he
  rw [shift1_eq]
  unfold QL.reprMat QL.Tmat
  simp only [if_true, if_false, Nat.le_refl, Nat.one_le_ofNat, one_ne_zero]
  generalize shiftT st.d.l1 st.d.l2 st.e1 = T at h2 ⊢
  rw [show st.e1 / T + (st.f + (st.d.l1 - st.e1 / T)) = st.d.l1 + st.f by ring,
    show st.e1 * T + (st.f + (st.d.l1 - st.e1 / T)) = st.d.l2 + st.f by linear_combination h2]
  rfl

theorem initSweep2_W0 (st : QL ℝ) : (initSweep 2 st).W0 2 = st.reprMat 0 := by
  unfold Sweep.W0 QL.reprMat
  congr 2
  simp [Sweep.mat0, initSweep, QL.Tmat, triMat, QL.getD]

theorem initSweep1_W0 (st : QL ℝ) : (initSweep 1 st).W0 1 = ({ st with e1 := 0 } : QL ℝ).reprMat 0 := by
  unfold Sweep.W0 QL.reprMat
  congr 2
  simp [Sweep.mat0, initSweep, QL.Tmat, triMat, QL.getD]

theorem initSweep2_W1 (st : QL ℝ) : (initSweep 2 st).W1 2 = st.reprMat 1 := by
  unfold Sweep.W1 QL.reprMat
  congr 2
  simp [Sweep.mat1, initSweep, QL.Tmat, triMat, QL.getD]

theorem close0_repr (el1 dl1 : ℝ) (w : Sweep ℝ) (hp : -w.s * w.s2 * w.c3 * el1 * w.st.e0 / dl1 = w.p) :
    (closeSweep 0 el1 dl1 w).reprMat 0 = w.W0 0 := by
  unfold Sweep.W0 QL.reprMat closeSweep
  simp only [QL.getE, QL.setE, QL.setD, mul_eq, div_eq, neg_eq, hp]
  congr 2

theorem close1_repr (el1 dl1 : ℝ) (w : Sweep ℝ) (hp : -w.s * w.s2 * w.c3 * el1 * w.st.e1 / dl1 = w.p) :
    (closeSweep 1 el1 dl1 w).reprMat 1 = w.W1 1 := by
  unfold Sweep.W1 QL.reprMat closeSweep
  simp only [QL.getE, QL.setE, QL.setD, mul_eq, div_eq, neg_eq, hp]
  congr 2
  simp [QL.Tmat, triMat, Sweep.mat1]

/-- closing recurrence, one rotation: with the singular shift `a * b = e²` the last `p` of the loop is 0, and so is
    the coded `-s*s2*c3*el1*e[l]/dl1` because `s2 = 0` -/
theorem close_one (a b e r : ℝ) (hab : a * b = e * e) (hr : r ≠ 0) :
    b / r * a - e / r * (1 * e) = 0 := by
  field_simp
  linear_combination hab

/-- closing recurrence, two rotations (tql2): `p = -s*s2*c3*el1*e[l]/dl1` equals the `p` left by the loop -/
theorem close_two (a b e0 e1 d2 r1 r2 : ℝ) (hab : a * b = e0 * e0) (hb : b ≠ 0) (hr1 : r1 ≠ 0) (hr2 : r2 ≠ 0) :
    -(e0 / r2) * (e1 / r1) * 1 * e1 * e0 / b =
      (d2 / r1 * b - e1 / r1 * (1 * e1)) / r2 * a - e0 / r2 * (d2 / r1 * e0) := by
  field_simp
  linear_combination (e1 ^ 2 - d2 * b) * hab

/-- the shift makes the leading 2x2 block of the active rows singular: `d[l] d[l+1] = e[l]²`, with `d[l+1] ≠ 0` -/
theorem shift0_sing (st : QL ℝ) (he : st.e0 ≠ 0) :
    (shift 0 st).d.l0 * (shift 0 st).d.l1 = st.e0 * st.e0 ∧ (shift 0 st).d.l1 ≠ 0 := by
  obtain ⟨ht, _⟩ := shiftT_spec st.d.l0 st.d.l1 st.e0 he
  rw [shift0_eq]
  refine ⟨?_, mul_ne_zero he ht⟩
  show st.e0 / _ * (st.e0 * _) = st.e0 * st.e0
  field_simp

theorem shift1_sing (st : QL ℝ) (he : st.e1 ≠ 0) :
    (shift 1 st).d.l1 * (shift 1 st).d.l2 = st.e1 * st.e1 := by
  obtain ⟨ht, _⟩ := shiftT_spec st.d.l1 st.d.l2 st.e1 he
  rw [shift1_eq]
  show st.e1 / _ * (st.e1 * _) = st.e1 * st.e1
  field_simp

/-- a one-rotation sweep: `s2 = 0`, and from a singular block `d[i] d[mm] = e[i]²` the rotation leaves `p = 0` -/
theorem oneRot (i mm : Nat) (st : QL ℝ) (he : st.getE i ≠ 0)
    (hab : st.getD i * st.getD mm = st.getE i * st.getE i) :
    (innerStep i (initSweep mm st)).s2 = 0 ∧ (innerStep i (initSweep mm st)).p = 0 := by
  refine ⟨zero_eq, ?_⟩
  rw [innerStep_p, innerStep_c, innerStep_s]
  show st.getD mm / _ * st.getD i - st.getE i / _ * (Scalar.one * st.getE i) = 0
  rw [one_eq]
  exact close_one _ _ _ _ hab (Sweep.r_ne i _ he)

/-- one implicit-shift sweep over the leading 2x2 block (l = 0, mm = 1): exact similarity once `e[1]` (which passed the
    convergence test) is dropped; `e[0]` is annihilated, `e[1]` is overwritten by 0 -/
theorem sweep01_repr (st : QL ℝ) (he0 : st.e0 ≠ 0) :
    (sweep 0 1 st).reprMat 0 = ({ st with e1 := 0 } : QL ℝ).reprMat 0 ∧
    (sweep 0 1 st).e0 = 0 ∧ (sweep 0 1 st).e1 = 0 := by
  have he : (shift 0 st).getE 0 ≠ 0 := by rw [shift_getE]; exact he0
  obtain ⟨hs2, hp⟩ := oneRot 0 1 (shift 0 st) he (by rw [shift_getE]; exact (shift0_sing st he0).1)
  rw [sweep01_eq]
  refine ⟨?_, ?_, ?_⟩
  · rw [close0_repr _ _ _ (by rw [hs2, hp]; simp), innerStep0_W0 _ he, initSweep1_W0]
    have : ({ shift 0 st with e1 := 0 } : QL ℝ) = shift 0 { st with e1 := 0 } := by
      rw [shift0_eq, shift0_eq]
    rw [this]; exact shift0_repr _ he0
  · show (innerStep 0 _).s * (-(innerStep 0 _).s * (innerStep 0 _).s2 * _ * _ * _ / _) = 0
    rw [hs2]; simp
  · show (innerStep 0 (initSweep 1 (shift 0 st))).st.e1 = 0
    rw [innerStep0_st]
    show (Scalar.zero : ℝ) * _ = 0
    rw [zero_eq, zero_mul]

theorem sweep12_e0 (st : QL ℝ) : (sweep 1 2 st).e0 = st.e0 := by
  rw [sweep12_eq]
  show (innerStep 1 (initSweep 2 (shift 1 st))).st.e0 = st.e0
  rw [innerStep1_st]
  show (shift 1 st).e0 = st.e0
  rw [shift1_eq]

/-- one implicit-shift sweep over the trailing 2x2 block (l = 1, mm = 2): exact similarity; `e[1]` is annihilated;
    row 0 (its `d`, its dropped `e[0]`, its vector) is not touched -/
theorem sweep12_repr (st : QL ℝ) (he1 : st.e1 ≠ 0) :
    (sweep 1 2 st).reprMat 1 = st.reprMat 1 ∧ (sweep 1 2 st).e1 = 0 ∧ (sweep 1 2 st).e0 = st.e0 := by
  have he : (shift 1 st).getE 1 ≠ 0 := by rw [shift_getE]; exact he1
  obtain ⟨hs2, hp⟩ := oneRot 1 2 (shift 1 st) he (by rw [shift_getE]; exact shift1_sing st he1)
  refine ⟨?_, ?_, sweep12_e0 st⟩
  · rw [sweep12_eq, close1_repr _ _ _ (by rw [hs2, hp]; simp), innerStep1_W1 _ he, initSweep2_W1]
    exact shift1_repr _ he1
  · rw [sweep12_eq]
    show (innerStep 1 _).s * (-(innerStep 1 _).s * (innerStep 1 _).s2 * _ * _ * _ / _) = 0
    rw [hs2]; simp

/-- one implicit-shift sweep over the full 3x3 block (l = 0, mm = 2; two rotations, tql2's closing recurrence):
    exact similarity -/
theorem sweep02_repr (st : QL ℝ) (he0 : st.e0 ≠ 0) (he1 : st.e1 ≠ 0) :
    (sweep 0 2 st).reprMat 0 = st.reprMat 0 := by
  have hs0 : (shift 0 st).e0 = st.e0 := by rw [shift0_eq]
  have hs1 : (shift 0 st).e1 = st.e1 := by rw [shift0_eq]
  set w0 := initSweep 2 (shift 0 st) with hw0
  have hw0e : w0.st.e1 ≠ 0 := by show (shift 0 st).e1 ≠ 0; rw [hs1]; exact he1
  set w1 := innerStep 1 w0 with hw1
  have hw1e0 : w1.st.e0 = st.e0 := by
    rw [hw1, innerStep1_st]; exact hs0
  have hw1e : w1.st.e0 ≠ 0 := by rw [hw1e0]; exact he0
  have hclose : -(innerStep 0 w1).s * (innerStep 0 w1).s2 * (innerStep 0 w1).c3 * st.e1 * (innerStep 0 w1).st.e0 /
      (shift 0 st).d.l1 = (innerStep 0 w1).p := by
    have e0' : (innerStep 0 w1).st.e0 = st.e0 := by rw [innerStep0_st]; exact hw1e0
    have hc3 : (innerStep 0 w1).c3 = 1 := by
      rw [innerStep_c3, hw1, innerStep_c2]; exact one_eq
    have hc0 : w0.c = 1 := one_eq
    have hl0 : w1.st.d.l0 = (shift 0 st).d.l0 := by rw [hw1, innerStep1_st]; rfl
    have hw1p : w1.p = w0.p / w0.r 1 * (shift 0 st).d.l1 - (shift 0 st).e1 / w0.r 1 * (1 * (shift 0 st).e1) := by
      rw [hw1, innerStep_p, innerStep_c, innerStep_s, hc0]; rfl
    rw [innerStep_p, innerStep_c, innerStep_s, innerStep_s2, e0', hc3]
    show -(st.e0 / w1.r 0) * w1.s * 1 * st.e1 * st.e0 / (shift 0 st).d.l1 =
      w1.p / w1.r 0 * w1.st.d.l0 - w1.st.e0 / w1.r 0 * (w1.c * w1.st.e0)
    rw [hl0, hw1e0, hw1p]
    have hw1s : w1.s = st.e1 / w0.r 1 := by rw [hw1, innerStep_s]; show (shift 0 st).e1 / _ = _; rw [hs1]
    have hw1c : w1.c = (shift 0 st).d.l2 / w0.r 1 := by rw [hw1, innerStep_c]; rfl
    rw [hw1s, hw1c, hs1]
    obtain ⟨hab, hb⟩ := shift0_sing st he0
    exact close_two _ _ _ _ _ _ _ hab hb (w0.r_ne 1 hw0e) (w1.r_ne 0 hw1e)
  rw [sweep02_eq, close0_repr _ _ _ hclose, innerStep0_W0 _ hw1e, innerStep1_W0 _ hw0e, initSweep2_W0]
  exact shift0_repr _ he0

end Refine.Model.Matrix
