import Refine.Model.Par
import Mathlib.Data.List.Perm.Basic
import Refine.Lemmas.FoldMin
import Refine.Lemmas.ListFacts

/-!
  The cell gather of `Refine.Model.Par` (ref_gather_cell with the owner filter of ref_cell_part): over a World
  that stores the global mesh `G` under the storage rule, every cell is emitted by exactly one rank.
-/
namespace Refine.Lemmas.Par
open Refine.Model.Par

variable {α : Type}

/-- owner of a cell as a function of the cell and the partition alone: the part of its smallest global -/
def cellOwner (part : Nat → Nat) (c : GCell) : Option Nat := (minGlobal c.nodes).map part

/-- storage rule: rank `q` stores `c` iff some vertex of `c` has `part = q` -/
def storedOn (part : Nat → Nat) (q : Nat) (c : GCell) : Bool := c.nodes.any fun g => part g == q

/-- rank `r`'s view `v` agrees with the global mesh `G` partitioned by `part` -/
structure Consistent (part : Nat → Nat) (G : List GCell) (r : Nat) (v : RankView α) : Prop where
  /-- it stores exactly the cells the storage rule gives it (in any order) -/
  cells : v.cells.Perm (G.filter (storedOn part r))
  /-- every node of a stored cell is stored, with the true part -/
  parts : ∀ c ∈ v.cells, ∀ g ∈ c.nodes, ∃ nd, localOf v g = some nd ∧ nd.part = part g

/-- the running minimum of `ref_cell_part_cell_node` is `min` -/
theorem foldl_min_mem (gs : List Nat) (g : Nat) :
    gs.foldl (fun m x => if x < m then x else m) g ∈ g :: gs := by
  have : (fun m x : Nat => if x < m then x else m) = min := by
    funext m x; rw [Nat.min_def]; split <;> split <;> omega
  rw [this, List.mem_cons]
  exact Refine.FoldMin.foldl_min_mem gs g

theorem minGlobal_mem (gs : List Nat) (m : Nat) (h : minGlobal gs = some m) : m ∈ gs := by
  cases gs with
  | nil => simp [minGlobal] at h
  | cons g gs =>
    simp only [minGlobal, Option.some.injEq] at h
    rw [← h]; exact foldl_min_mem gs g

/-- on a consistent view the local ref_cell_part is the global owner -/
theorem cellPart_eq (part : Nat → Nat) (G : List GCell) (r : Nat) (v : RankView α) (hc : Consistent part G r v)
    (c : GCell) (hcv : c ∈ v.cells) : cellPart v c = cellOwner part c := by
  unfold cellPart cellOwner
  cases hm : minGlobal c.nodes with
  | none => rfl
  | some m =>
    obtain ⟨nd, h1, h2⟩ := hc.parts c hcv m (minGlobal_mem _ _ hm)
    simp [h1, h2]

theorem emitted_perm (part : Nat → Nat) (G : List GCell) (r : Nat) (v : RankView α) (hc : Consistent part G r v) :
    (emitted r v).Perm (G.filter fun c => cellOwner part c == some r) := by
  have h1 : emitted r v = v.cells.filter fun c => cellOwner part c == some r :=
    List.filter_congr fun c hcv => by rw [cellPart_eq part G r v hc c hcv]
  rw [h1]
  refine (hc.cells.filter _).trans (.of_eq ?_)
  rw [List.filter_filter]
  refine List.filter_congr fun c _ => ?_
  unfold cellOwner storedOn
  cases hm : minGlobal c.nodes with
  | none => simp
  | some m => simpa using fun h => ⟨m, minGlobal_mem _ _ hm, h⟩

/-- **each member once.**  `cat r w` concatenates what the ranks `r, r+1, …` with states `w` contribute (`blk`).  If rank
    `i` contributes, up to order, the members of `L` it owns, and every member has an owner among the ranks, then
    together they contribute each member of `L` once. -/
theorem perm_owned_all {β γ : Type} (own : β → Option Nat) (L : List β) (blk : Nat → γ → List β)
    (cat : Nat → List γ → List β) (hnil : ∀ r, cat r [] = [])
    (hcons : ∀ r v vs, cat r (v :: vs) = blk r v ++ cat (r + 1) vs) (w : List γ)
    (hb : ∀ i v, w[i]? = some v → (blk i v).Perm (L.filter fun x => own x == some i))
    (hown : ∀ x ∈ L, ∃ q, own x = some q ∧ q < w.length) : (cat 0 w).Perm L := by
  have hcat : ∀ r (w : List γ), cat r w = (w.zipIdx r).flatMap fun p => blk p.2 p.1 := by
    intro r w
    induction w generalizing r with
    | nil => rw [hnil]; rfl
    | cons v vs ih => rw [hcons, ih]; rfl
  rw [hcat]
  refine (List.Perm.flatMap_left _ fun p hp => hb p.2 p.1 (List.mk_mem_zipIdx_iff_getElem?.1 hp)).trans ?_
  have e := List.flatMap_map (l := w.zipIdx) Prod.snd (fun i => L.filter fun x => own x == some i)
  rw [List.zipIdx_map_snd, ← List.range_eq_range'] at e
  rw [show (fun p : γ × Nat => L.filter fun x => own x == some p.2) =
    fun p => (fun i => L.filter fun x => own x == some i) p.2 from rfl, ← e]
  refine (List.Perm.of_eq (List.flatMap_congr fun r _ => List.filter_congr fun x hx => ?_)).trans
    (Refine.ListFacts.flatMap_filter_range_perm_of_lt (owner := fun x => (own x).getD w.length) fun x hx => ?_)
  · obtain ⟨q, hq, _⟩ := hown x hx
    simp [hq]
  · obtain ⟨q, hq, hlt⟩ := hown x hx
    simpa [hq] using hlt

end Refine.Lemmas.Par
