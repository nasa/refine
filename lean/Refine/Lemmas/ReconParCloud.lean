import Refine.Lemmas.ReconParMesh
import Refine.Lemmas.KexactCloud

/-!
  The cloud an owner builds from its stored cells, re-keyed by global id (`relabel`), against the serial cloud of the
  global mesh: a local item re-keyed is the global item (`relab_item`), so `relabel` of a local cloud is the sorted cloud
  of the global items of its entries (`relabel_items`); with `KexactCloud.oneLayer_entry` this gives
  `C19Par.kexact_one_layer_owned_eq_serial`.
-/
namespace Refine.ReconParCloud
open Refine Refine.Model.Geom Refine.Model.Recon Refine.Model.ReconPar Refine.Model.Kexact Refine.ScalarReal Refine.GeomReal
open Refine.Props.C19Kexact (itemOf store_mem)
open Refine.ReconParMesh Refine.KexactCloud

theorem itemOf_g (xyz : List (V3 ℝ)) (s : List ℝ) (k : Nat) : (itemOf xyz s k).g = (k : Int) := rfl

theorem relab_item (gxyz : List (V3 ℝ)) (gs : List ℝ) (l2g : List Nat) (k : Nat) (hk : k < l2g.length) :
    ({ itemOf (l2g.map (xyzAt gxyz)) (l2g.map fun g => gs.getD g 0) k with
        g := ((l2g.getD (itemOf (l2g.map (xyzAt gxyz)) (l2g.map fun g => gs.getD g 0) k).g.toNat 0 : Nat) : Int) } :
      Item ℝ) = itemOf gxyz gs (gOf l2g k) := by
  have hx : (l2g.map (xyzAt gxyz)).getD k V3.zero = gxyz.getD (gOf l2g k) V3.zero := by
    have := xyzAt_map l2g (xyzAt gxyz) k hk
    simpa [xyzAt] using this
  have hs : (l2g.map fun g => gs.getD g 0).getD k 0 = gs.getD (gOf l2g k) 0 := by
    have := sAt_map l2g gs k hk
    simpa [sAt] using this
  simp only [itemOf, hx, hs, Int.toNat_natCast, gOf]

theorem relabel_items (gxyz : List (V3 ℝ)) (gs : List ℝ) (l2g : List Nat) (L : List (Item ℝ))
    (hi : AllItems (l2g.map (xyzAt gxyz)) (l2g.map fun g => gs.getD g 0) L)
    (hr : ∀ x ∈ L, x.g.toNat < l2g.length) :
    SortedG (relabel l2g L) ∧ ∀ x, x ∈ relabel l2g L ↔
      ∃ k : Nat, itemOf (l2g.map (xyzAt gxyz)) (l2g.map fun g => gs.getD g 0) k ∈ L ∧ x = itemOf gxyz gs (gOf l2g k) := by
  have e : L.map (fun it => ({ it with g := ((l2g.getD it.g.toNat 0 : Nat) : Int) } : Item ℝ)) =
      (L.map fun it => gOf l2g it.g.toNat).map (itemOf gxyz gs) := by
    rw [List.map_map]
    apply List.map_congr_left
    intro x hx
    obtain ⟨k, rfl⟩ := hi x hx
    have hk : k < l2g.length := by simpa [itemOf] using hr _ hx
    rw [relab_item gxyz gs l2g k hk]
    simp [itemOf]
  unfold relabel
  rw [e]
  obtain ⟨s1, _, s3⟩ := storeAll_items (xyz := gxyz) (s := gs) (L.map fun it => gOf l2g it.g.toNat) []
    (by simp [SortedG]) (by intro x hx; simp at hx)
  refine ⟨s1, fun x => ?_⟩
  rw [s3 x]
  constructor
  · rintro (⟨n, hn, rfl⟩ | h)
    · obtain ⟨y, hy, rfl⟩ := List.mem_map.mp hn
      obtain ⟨k, rfl⟩ := hi y hy
      exact ⟨k, hy, by simp [itemOf]⟩
    · simp at h
  · rintro ⟨k, hk, rfl⟩
    exact Or.inl ⟨gOf l2g k, List.mem_map.mpr ⟨_, hk, by simp [itemOf]⟩, rfl⟩

theorem mem_map_gOf {l2g : List Nat} (hnd : l2g.Nodup) {cell : List Nat} (hc : ∀ v ∈ cell, v < l2g.length) {i : Nat}
    (hi : i < l2g.length) : gOf l2g i ∈ cell.map (gOf l2g) ↔ i ∈ cell := by
  constructor
  · intro h
    obtain ⟨k, hk, e⟩ := List.mem_map.mp h
    rw [← gOf_inj hnd k i (hc k hk) hi e]; exact hk
  · intro h; exact List.mem_map.mpr ⟨i, h, rfl⟩

/-- the ring of a vertex all of whose cells are stored: the vertices sharing a cell with it in the global mesh are the
    images of those sharing a stored cell with it -/
theorem inRing_glob {l2g : List Nat} (hnd : l2g.Nodup) {cells gcells : List (List Nat)}
    (hwf : ∀ cell ∈ cells, ∀ v ∈ cell, v < l2g.length) {i : Nat} (hi : i < l2g.length)
    (hcomp : ((cells.map (·.map (gOf l2g))).filter (·.contains (gOf l2g i))).Perm
      (gcells.filter (·.contains (gOf l2g i)))) (n : Nat) :
    InRing gcells (gOf l2g i) n ↔ ∃ k, InRing cells i k ∧ n = gOf l2g k := by
  constructor
  · rintro ⟨gc, hgc, hg1, hg2⟩
    obtain ⟨cell, hc, rfl, -⟩ := (mem_at_iff hcomp gc).mp ⟨hgc, List.contains_iff_mem.mpr hg1⟩
    obtain ⟨k, hkc, rfl⟩ := List.mem_map.mp hg2
    exact ⟨k, ⟨cell, hc, (mem_map_gOf hnd (hwf cell hc) hi).mp hg1, hkc⟩, rfl⟩
  · rintro ⟨k, ⟨cell, hc, hic, hkc⟩, rfl⟩
    have hg1 : gOf l2g i ∈ cell.map (gOf l2g) := List.mem_map.mpr ⟨i, hic, rfl⟩
    exact ⟨_, ((mem_at_iff hcomp _).mpr ⟨cell, hc, rfl, List.contains_iff_mem.mpr hg1⟩).1, hg1,
      List.mem_map.mpr ⟨k, hkc, rfl⟩⟩

end Refine.ReconParCloud
