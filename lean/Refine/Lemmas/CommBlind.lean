import Refine.Lemmas.CommA2A
import Refine.Lemmas.CommPack

/-!
  `ref_mpi_blindsend` read off `(destination, item)` pairs: the bucket pack (`CommPack`) turns a rank's pairs into a row
  of the block matrix `blindBlocks w`, either all-to-all (`CommA2A`) delivers its columns: `blindExchange`,
  `blindsend_spec` (rank `r` receives `delivered r w`).  `ref_mpi_allgather` and `ref_mpi_allgatherv`
  (`gathervWorld`).  Core only.
-/
namespace Refine.Lemmas.Comm
open Refine.Model.Comm

variable {α : Type}

/-- the `ref_mpi_blindsend` arguments of a rank that wants the items `pairs` delivered: `(destination, item)` -/
def blindOf (pairs : List (Nat × List α)) : Blind α :=
  ⟨pairs.map fun x => (x.1 : Int), (pairs.map (·.2)).flatten⟩

/-- the copy of the serial path takes the whole send buffer -/
theorem slice_blindOf (ldim : Nat) (pairs : List (Nat × List α)) (hi : ∀ x ∈ pairs, x.2.length = ldim) :
    slice (blindOf pairs).send 0 (ldim * (blindOf pairs).proc.length) = (pairs.map (·.2)).flatten := by
  have hlen : (pairs.map (·.2)).flatten.length = ldim * pairs.length := by
    rw [ListFacts.length_flatten_uniform (n := ldim) fun it hit => by
      obtain ⟨x, hx, rfl⟩ := List.mem_map.mp hit
      exact hi x hx, List.length_map]
  simp only [blindOf, List.length_map, slice, List.drop_zero, ← hlen, List.take_length]

def delivered (r : Nat) (w : World (List (Nat × List α))) : List (List α) := w.flatMap (bucket r)

def blindBlocks (w : World (List (Nat × List α))) : List (List (List (List α))) :=
  w.map fun pairs => (List.range w.length).map fun q => bucket q pairs

theorem column_blindBlocks (w : World (List (Nat × List α))) (r : Nat) (hr : r < w.length) :
    column r (blindBlocks w) = w.map (bucket r) := by
  simp only [column, blindBlocks, List.map_map, Function.comp_def]
  apply List.map_congr_left
  intro pairs _
  exact ListFacts.getD_map_range hr

theorem countsI_column_sum (w : World (List (Nat × List α))) (r : Nat) (hr : r < w.length) :
    (countsI (column r (blindBlocks w))).sum = ((delivered r w).length : Int) := by
  rw [column_blindBlocks w r hr, countsI_sum_eq_length, delivered, List.flatMap_def]

theorem countsI_blindRow (np : Nat) (pairs : List (Nat × List α)) (hd : ∀ x ∈ pairs, x.1 < np) :
    (countsI ((List.range np).map fun q => bucket q pairs)).sum = (pairs.length : Int) := by
  simp only [countsI, List.map_map, Function.comp_def]
  rw [sum_range_cast (fun q => (bucket q pairs).length) np, bucket_total np pairs hd]

theorem countDest_blindOf (np : Nat) (pairs : List (Nat × List α)) (hd : ∀ x ∈ pairs, x.1 < np) :
    countDest np (blindOf pairs).proc = countsI ((List.range np).map fun q => bucket q pairs) := by
  simp only [blindOf, countDest_eq np pairs hd, countsI, List.map_map, Function.comp_def]

/-- the rows of the block matrix of a blind send are the ranks' `a_size` arrays -/
theorem countsI_blindBlocks (w : World (List (Nat × List α))) (hd : ∀ pairs ∈ w, ∀ x ∈ pairs, x.1 < w.length) :
    (blindBlocks w).map countsI = (w.map blindOf).map fun b => countDest w.length b.proc := by
  rw [blindBlocks, List.map_map, List.map_map]
  exact List.map_congr_left fun pairs hp => (countDest_blindOf w.length pairs (hd pairs hp)).symm

theorem blindBlocks_getElem (w : World (List (Nat × List α))) (s : Nat) (hs : s < (blindBlocks w).length) :
    (blindBlocks w)[s] = (List.range w.length).map fun q => bucket q (w[s]'(by simpa [blindBlocks] using hs)) := by
  simp [blindBlocks]

theorem bSize_blind (w : World (List (Nat × List α))) (hd : ∀ pairs ∈ w, ∀ x ∈ pairs, x.1 < w.length)
    (s : Nat) (hs : s < w.length) :
    (w.map fun pairs => (countDest w.length (blindOf pairs).proc).getD s (default : Int))
      = countsI (column s (blindBlocks w)) := by
  rw [column_blindBlocks w s hs]
  simp only [countsI, List.map_map, Function.comp_def]
  apply List.map_congr_left
  intro pairs hp
  rw [countDest_blindOf w.length pairs (hd pairs hp)]
  simp only [countsI, List.map_map, Function.comp_def]
  exact ListFacts.getD_map_range hs

/-- the left side is the `args` world in the body of `blindsend` (parallel path), as `unfold blindsend` leaves it -/
theorem blindArgs_world [Inhabited α] (ldim : Nat) (w : World (List (Nat × List α)))
    (hd : ∀ pairs ∈ w, ∀ x ∈ pairs, x.1 < w.length)
    (hi : ∀ pairs ∈ w, ∀ x ∈ pairs, x.2.length = ldim) :
    ((w.map blindOf).zip (mpiAlltoall ((w.map blindOf).map fun b => countDest w.length b.proc))).map
        (fun (x : Blind α × List Int) => blindArgs ldim w.length x.1 x.2)
      = a2aWorld (blindBlocks w) (fun r => List.replicate (ldim * (delivered r w).length) default) := by
  apply List.ext_getElem
  · simp [mpiAlltoall, a2aWorld, blindBlocks]
  · intro s h1 h2
    have hs : s < w.length := by simpa [a2aWorld, blindBlocks] using h2
    have hps : w[s] ∈ w := List.getElem_mem hs
    have hds := hd _ hps
    have his := hi _ hps
    simp only [List.getElem_map, List.getElem_zip, a2aWorld, List.getElem_mapIdx, blindBlocks, mpiAlltoall,
      List.getElem_range, List.map_map, Function.comp_def, List.length_map]
    have hB := bSize_blind w hd s hs
    simp only [blindBlocks] at hB
    rw [hB]
    have hA := countDest_blindOf w.length w[s] hds
    have hAt : isum (countsI ((List.range w.length).map fun q => bucket q w[s])) = (w[s].length : Int) := by
      rw [isum_eq_sum, countsI_blindRow w.length w[s] hds]
    have hBt : isum (countsI (column s (blindBlocks w))) = ((delivered s w).length : Int) := by
      rw [isum_eq_sum, countsI_column_sum w s hs]
    simp only [blindBlocks] at hBt
    unfold blindArgs
    simp only [hA, hAt, hBt, Int.toNat_natCast]
    have hpack := pack_init ldim w.length w[s] hds his (List.replicate (ldim * w[s].length) default)
      (by rw [List.length_replicate, bucket_total w.length w[s] hds])
    rw [← hA]
    have hproc : (blindOf w[s]).proc = w[s].map fun x => (x.1 : Int) := rfl
    have hsend : (blindOf w[s]).send = (w[s].map (·.2)).flatten := rfl
    rw [hproc, hsend, hpack, ← hproc, hA]
    simp only [List.flatMap_def]

theorem blindBlocks_items (ldim : Nat) (w : World (List (Nat × List α)))
    (hi : ∀ pairs ∈ w, ∀ x ∈ pairs, x.2.length = ldim) :
    ∀ b ∈ blindBlocks w, ∀ blk ∈ b, ∀ it ∈ blk, it.length = ldim := by
  intro b hb blk hblk it hit
  simp only [blindBlocks, List.mem_map] at hb
  obtain ⟨pairs, hp, rfl⟩ := hb
  simp only [List.mem_map] at hblk
  obtain ⟨q, _, rfl⟩ := hblk
  obtain ⟨x, hx, rfl⟩ := mem_bucket q pairs it hit
  exact hi pairs hp x hx

theorem scaled_le_of_le {ldim a b : Nat} (h : (ldim : Int) * b ≤ INT_MAX) (hab : a ≤ b) : (ldim : Int) * a ≤ INT_MAX :=
  Int.le_trans (Int.mul_le_mul_of_nonneg_left (by omega) (by omega)) h

theorem sendBound_of_total {native : Bool} {ldim : Nat} {w : World (List (Nat × List α))}
    (htot : native = false → (ldim : Int) * w.flatten.length ≤ INT_MAX) :
    native = false → ∀ pairs ∈ w, (ldim : Int) * pairs.length ≤ INT_MAX :=
  fun hf _ hp => scaled_le_of_le (htot hf) (List.sublist_flatten_of_mem hp).length_le

theorem recvBound_of_total {native : Bool} {ldim : Nat} {w : World (List (Nat × List α))}
    (htot : native = false → (ldim : Int) * w.flatten.length ≤ INT_MAX) :
    native = false → ∀ r, r < w.length → (ldim : Int) * (delivered r w).length ≤ INT_MAX :=
  fun hf r _ => scaled_le_of_le (htot hf) (arrive_length_le r w)

/-- the parallel path of `ref_mpi_blindsend` after the exchange of the sizes: bucket pack, then `ref_mpi_alltoallv`
    (either implementation) — every rank receives the items addressed to it, by source rank and then in the source's
    order.  The left side is the exchange in the body of `blindsend`. -/
theorem blindExchange [Inhabited α] (native : Bool) (ty : RefType) (hty : ty.ild = true) (maxTag : Int)
    (ldim : Nat) (w : World (List (Nat × List α)))
    (hd : ∀ pairs ∈ w, ∀ x ∈ pairs, x.1 < w.length)
    (hi : ∀ pairs ∈ w, ∀ x ∈ pairs, x.2.length = ldim)
    (hnat : native = true → (w.length : Int) * w.length ≤ maxTag)
    (hsend : native = false → ∀ pairs ∈ w, (ldim : Int) * pairs.length ≤ INT_MAX)
    (hrecv : native = false → ∀ r, r < w.length → (ldim : Int) * (delivered r w).length ≤ INT_MAX) :
    alltoallv native ty maxTag (ldim : Int)
        (((w.map blindOf).zip (mpiAlltoall ((w.map blindOf).map fun b => countDest w.length b.proc))).map
          fun x => blindArgs ldim w.length x.1 x.2)
      = some ((List.range w.length).map fun r => (Status.ok, (delivered r w).flatten)) := by
  rw [blindArgs_world ldim w hd hi]
  have hnp : (blindBlocks w).length = w.length := by simp [blindBlocks]
  have hitem := blindBlocks_items ldim w hi
  have hrl : ∀ r, r < (blindBlocks w).length →
      (((fun r => List.replicate (ldim * (delivered r w).length) (default : α)) r).length : Int)
        = (ldim : Int) * (countsI (column r (blindBlocks w))).sum := by
    intro r hr
    rw [countsI_column_sum w r (by omega)]
    simp
  have hres : alltoallv native ty maxTag (ldim : Int)
      (a2aWorld (blindBlocks w) (fun r => List.replicate (ldim * (delivered r w).length) default))
      = some ((List.range (blindBlocks w).length).map fun r =>
          (Status.ok, ((column r (blindBlocks w)).flatten).flatten)) := by
    cases native with
    | true =>
      exact alltoallvNative_spec ty hty maxTag ldim _ _ (by rw [hnp]; exact hnat rfl)
        (by intro b hb
            simp only [blindBlocks, List.mem_map] at hb
            obtain ⟨pairs, _, rfl⟩ := hb
            simp [blindBlocks])
        hitem hrl
    | false =>
      exact alltoallvMpi_spec ty (mpiOk_of_ild hty) ldim _ _ hitem hrl
        (by intro b hb
            simp only [blindBlocks, List.mem_map] at hb
            obtain ⟨pairs, hp, rfl⟩ := hb
            rw [countsI_blindRow w.length pairs (hd pairs hp)]
            exact hsend rfl pairs hp)
        (by intro r hr
            rw [countsI_column_sum w r (by omega)]
            exact hrecv rfl r (by omega))
  rw [hres, hnp]
  congr 1
  apply List.map_congr_left
  intro r hr
  rw [column_blindBlocks w r (List.mem_range.mp hr), delivered, List.flatMap_def]

theorem blindsend_spec [Inhabited α] (native : Bool) (ty : RefType) (hty : ty.ild = true) (maxTag : Int)
    (ldim : Nat) (w : World (List (Nat × List α)))
    (hd : ∀ pairs ∈ w, ∀ x ∈ pairs, x.1 < w.length)
    (hi : ∀ pairs ∈ w, ∀ x ∈ pairs, x.2.length = ldim)
    (hnat : native = true → (w.length : Int) * w.length ≤ maxTag)
    (hsend : native = false → ∀ pairs ∈ w, (ldim : Int) * pairs.length ≤ INT_MAX)
    (hrecv : native = false → ∀ r, r < w.length → (ldim : Int) * (delivered r w).length ≤ INT_MAX) :
    blindsend native ty maxTag ldim (w.map blindOf)
      = some ((List.range w.length).map fun r =>
          (Status.ok, ((delivered r w).length : Int), (delivered r w).flatten)) := by
  unfold blindsend
  simp only [List.length_map]
  by_cases h1 : w.length ≤ 1
  · -- the serial path: the one rank keeps its own items, all addressed to rank 0
    simp only [h1, if_true, hty, List.map_map, Function.comp_def]
    match w, h1, hd, hi with
    | [], _, _, _ => rfl
    | [pairs], _, hd, hi =>
      have hb : delivered 0 [pairs] = pairs.map (·.2) := by
        rw [delivered, List.flatMap_singleton]
        exact bucket_of_all fun x hx => by simpa using hd pairs (List.mem_singleton.mpr rfl) x hx
      simp only [List.map_cons, List.map_nil, List.length_singleton, List.range_one, hb,
        slice_blindOf ldim pairs (hi pairs (List.mem_singleton.mpr rfl))]
      simp [blindOf]
    | _ :: _ :: _, h1, _, _ => simp at h1
  · simp only [h1, if_false, hty, Bool.not_true, Bool.false_eq_true]
    -- the model's `fun (b, bs) => …` elaborates to a `match`; restate it with projections so that `rw` finds the exchange
    have hzip : ((w.map blindOf).zip (mpiAlltoall ((w.map blindOf).map fun b => countDest w.length b.proc))).map
          (fun (x : Blind α × List Int) =>
            match x with
            | (b, bs) => blindArgs ldim w.length b bs)
        = ((w.map blindOf).zip (mpiAlltoall ((w.map blindOf).map fun b => countDest w.length b.proc))).map
          fun x => blindArgs ldim w.length x.1 x.2 := rfl
    rw [hzip, blindExchange native ty hty maxTag ldim w hd hi hnat hsend hrecv]
    simp only [Option.map_some, mpiAlltoall, List.length_map, List.map_map, Function.comp_def]
    rw [List.zip_map']
    simp only [List.map_map, Function.comp_def]
    congr 1
    apply List.map_congr_left
    intro r hr
    have hr' := List.mem_range.mp hr
    simp only [bSize_blind w hd r hr', isum_eq_sum, column_blindBlocks w r hr', countsI_sum_eq_length,
      delivered, List.flatMap_def]
theorem allgather_eq (ty : RefType) (hty : ty.ild = true) (w : World α) :
    allgather ty w = w.map fun _ => (Status.ok, w) := by
  have hmpi := mpiOk_of_ild hty
  unfold allgather
  by_cases h : w.length ≤ 1
  · simp only [h, if_true, hty]
    match w, h with
    | [], _ => rfl
    | [x], _ => rfl
    | _ :: _ :: _, h => simp at h
  · simp only [h, if_false, hmpi, if_true]

theorem gathervLoop_consec (C : List Int) (srcs : List (GatherV α)) (hC : ∀ src ∈ srcs, src.counts = C)
    (s o : Nat) (hlen : lensI (srcs.map (·.localArr)) = C.drop s) (buf : List α) :
    gathervLoop s srcs (C.drop s) (displsFrom (o : Int) (C.drop s)) buf
      = some (deposit buf (consec o (srcs.map (·.localArr)))) := by
  induction srcs generalizing s o buf with
  | nil => rfl
  | cons src srcs ih =>
    simp only [lensI, List.map_cons] at hlen
    have hs : s < C.length := by
      have h := congrArg List.length hlen
      simp only [List.length_cons, List.length_drop] at h
      omega
    rw [List.drop_eq_getElem_cons hs] at hlen ⊢
    obtain ⟨hl1, hl2⟩ := List.cons.inj hlen
    have hget : src.counts.getD s 0 = C[s] := by
      rw [hC src List.mem_cons_self, List.getD_eq_getElem?_getD, List.getElem?_eq_getElem hs]; rfl
    simp only [gathervLoop, displsFrom, hget, Int.le_refl, if_true, List.map_cons, consec, deposit, List.foldl_cons,
      ← hl1, Int.toNat_natCast, List.take_length, ← Int.natCast_add]
    exact ih (fun x hx => hC x (List.mem_cons_of_mem _ hx)) (s + 1) _ hl2 _

/-- the world in which rank `r` contributes `locals[r]`, every rank passes the same (true) counts and a receive
    buffer `recv0 r` -/
def gathervWorld (locals : World (List α)) (recv0 : Nat → List α) : World (GatherV α) :=
  locals.mapIdx fun r l => ⟨l, lensI locals, recv0 r⟩

theorem allgatherv_eq (ty : RefType) (hty : ty.ild = true) (locals : World (List α)) (recv0 : Nat → List α)
    (hrecv : ∀ r, r < locals.length → (recv0 r).length = locals.flatten.length) :
    allgatherv ty (gathervWorld locals recv0) = some (locals.map fun _ => (Status.ok, locals.flatten)) := by
  have hmpi := mpiOk_of_ild hty
  unfold allgatherv
  simp only [hmpi, Bool.not_true, Bool.false_eq_true, if_false, hty, if_true]
  have hwl : (gathervWorld locals recv0).length = locals.length := by simp [gathervWorld]
  by_cases h1 : locals.length ≤ 1
  · simp only [hwl, h1, if_true]
    match locals, h1, hrecv with
    | [], _, _ => rfl
    | [l], _, hrecv =>
      have hr := hrecv 0 (by simp)
      simp only [List.flatten_cons, List.flatten_nil, List.append_nil] at hr
      simp only [gathervWorld, List.mapIdx_cons, List.mapIdx_nil, List.map_cons, List.map_nil, lensI,
        List.getD_cons_zero, Int.toNat_natCast, List.take_length, List.flatten_cons, List.flatten_nil,
        List.append_nil]
      rw [writeAt_full _ _ hr]
    | _ :: _ :: _, h1, _ => simp at h1
  · simp only [hwl, h1, if_false]
    have hloop : (gathervWorld locals recv0).map
          (fun me => gathervLoop 0 (gathervWorld locals recv0) me.counts (displs me.counts) me.recv)
        = (locals.map fun _ => locals.flatten).map some := by
      apply List.ext_getElem
      · simp [gathervWorld]
      · intro r h1 h2
        have hr : r < locals.length := by simpa [gathervWorld] using h1
        simp only [List.getElem_map, gathervWorld, List.getElem_mapIdx]
        have hloc : (locals.mapIdx fun r l => (⟨l, lensI locals, recv0 r⟩ : GatherV α)).map (·.localArr) = locals := by
          apply List.ext_getElem
          · simp
          · intro i _ _; simp
        have := gathervLoop_consec (lensI locals)
          (locals.mapIdx fun r l => (⟨l, lensI locals, recv0 r⟩ : GatherV α))
          (by intro src hsrc
              obtain ⟨i, hi, rfl⟩ := List.mem_iff_getElem.mp hsrc
              simp)
          0 0 (by rw [hloc]; rfl) (recv0 r)
        rw [List.drop_zero, hloc, deposit_consec_full _ _ (hrecv r hr)] at this
        exact this
    rw [hloop, allSome_map_some]
    simp [List.map_map, Function.comp_def]

end Refine.Lemmas.Comm
