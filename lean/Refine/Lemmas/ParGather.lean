import Refine.Lemmas.CommReduce
import Refine.Lemmas.ListFacts
import Refine.Model.Par

/-!
  The chunked node gather of `Refine.Model.Par` (ref_gather_node): per chunk the reduction to rank 0 is the
  column-wise `MPI_SUM` of the ranks' records (`chunkBlock_eq`); the loop writes the columns `0..N-1` in order for
  every chunk ≥ 1 (`gatherLoop_eq`); a column with exactly one owner sums to that owner's record (`colSum_once`).
-/
namespace Refine.Lemmas.Par
open Refine.Model.Comm Refine.Model.Par Refine.Lemmas.Comm

variable {α : Type}

/-- `MPI_SUM` over the ranks (rank order) of the records for global `g` -/
def colSum (add : α → α → α) (zero : α) (w : World (RankView α)) (g : Nat) : α × Nat :=
  match contribsFrom zero g 0 w with
  | [] => (zero, 0)
  | c :: cs => cs.foldl (slotAdd add) c

theorem sum_head {β : Type} (op : β → β → β) (n : Nat) (x : List β × List β) (xs : List (List β × List β)) :
    (sum op RefType.dbl n (x :: xs)).head?
      = some (Status.ok, writeAt x.2 0 (mpiReduce op n ((x :: xs).map (·.1)))) := by
  rw [sum_eq op _ rfl]; rfl

theorem length_localBuf (zero : α) (first n r : Nat) (v : RankView α) :
    (localBuf zero first n r v).length = n := by simp [localBuf]

theorem mem_localBufsFrom (zero : α) (first n : Nat) (r : Nat) (w : World (RankView α)) (y : List (α × Nat))
    (hy : y ∈ localBufsFrom zero first n r w) : y.length = n := by
  induction w generalizing r with
  | nil => simp [localBufsFrom] at hy
  | cons v vs ih =>
    simp only [localBufsFrom, List.mem_cons] at hy
    rcases hy with rfl | hy
    · exact length_localBuf zero first n r v
    · exact ih (r + 1) hy

theorem getD_localBuf (zero : α) (first n r : Nat) (v : RankView α) (i : Nat) (hi : i < n) (d : α × Nat) :
    (localBuf zero first n r v).getD i d = slotOf zero (ownerPayload r v (first + i)) := by
  unfold localBuf
  exact Refine.ListFacts.getD_map_range hi

theorem foldl_localBufs (add : α → α → α) (zero : α) (first n : Nat) (i : Nat) (hi : i < n) (d : α × Nat)
    (r : Nat) (vs : World (RankView α)) (a : α × Nat) :
    (localBufsFrom zero first n r vs).foldl (fun a y => slotAdd add a (y.getD i d)) a
      = (contribsFrom zero (first + i) r vs).foldl (slotAdd add) a := by
  induction vs generalizing r a with
  | nil => rfl
  | cons v vs ih =>
    simp only [localBufsFrom, contribsFrom, List.foldl_cons]
    rw [getD_localBuf zero first n r v i hi d]
    exact ih (r + 1) _

/-- rank 0's `xyzm[0..n)` after `ref_mpi_sum`: slot `i` is the column sum of global `first + i` -/
theorem chunkBlock_eq (add : α → α → α) (zero : α) (w : World (RankView α)) (hw : w ≠ []) (first n : Nat) :
    chunkBlock add zero w first n = (List.range n).map fun i => colSum add zero w (first + i) := by
  match w, hw with
  | v :: vs, _ =>
    unfold chunkBlock
    simp only [localBufsFrom, List.map_cons]
    rw [sum_head]
    simp only
    have hmap : ((localBuf zero first n 0 v, List.replicate n (zero, 0)) ::
          (localBufsFrom zero first n (0 + 1) vs).map fun b => (b, List.replicate n (zero, 0))).map (·.1)
        = localBuf zero first n 0 v :: localBufsFrom zero first n (0 + 1) vs := by
      simp [List.map_map, Function.comp_def]
    rw [hmap]
    rw [mpiReduce_col (slotAdd add) n (zero, 0) _ _ (mem_localBufsFrom zero first n 0 (v :: vs))]
    rw [writeAt_full _ _ (by simp)]
    apply List.map_congr_left
    intro i hi
    have hi' := List.mem_range.mp hi
    rw [foldl_localBufs add zero first n i hi' (zero, 0), getD_localBuf zero first n 0 v i hi' (zero, 0)]
    simp [colSum, contribsFrom]

theorem gatherLoop_eq (add : α → α → α) (zero : α) (w : World (RankView α)) (hw : w ≠ []) (N chunk : Nat)
    (hchunk : 1 ≤ chunk) :
    ∀ (fuel written : Nat) (acc : List α) (bad : Bool), N - written < fuel →
      gatherLoop add zero w N chunk fuel written acc bad
        = some (acc ++ (List.range' written (N - written)).map (fun g => (colSum add zero w g).1),
                bad || (List.range' written (N - written)).any (fun g => (colSum add zero w g).2 != 1)) := by
  intro fuel
  induction fuel with
  | zero => intro written acc bad h; omega
  | succ fuel ih =>
    intro written acc bad h
    unfold gatherLoop
    by_cases hlt : written < N
    · simp only [hlt, if_true]
      have hn1 : 1 ≤ min chunk (N - written) := by omega
      have hn2 : min chunk (N - written) ≤ N - written := Nat.min_le_right _ _
      generalize hn : min chunk (N - written) = n at hn1 hn2
      rw [ih (written + n) _ _ (by omega), chunkBlock_eq add zero w hw]
      have hsplit : N - written = n + (N - (written + n)) := by omega
      have hr : (List.range n).map (fun i => colSum add zero w (written + i))
          = (List.range' written n).map (colSum add zero w) := by
        rw [List.range'_eq_map_range, List.map_map]; rfl
      rw [hr]
      conv => rhs; rw [hsplit, ← List.range'_append_1]
      simp only [List.map_append, List.map_map, List.append_assoc, List.any_append, List.any_map, Function.comp_def,
        Bool.or_assoc]
    · have h0 : N - written = 0 := by omega
      simp [hlt, h0]

/-- ref_gather_node for every chunk ≥ 1 on a non-empty world: the columns `0..N-1` in order -/
theorem gatherNodeChunked_eq (add : α → α → α) (zero : α) (w : World (RankView α)) (hw : w ≠ []) (N chunk : Nat)
    (hchunk : 1 ≤ chunk) :
    gatherNodeChunked add zero chunk N w
      = some ((List.range N).map (fun g => (colSum add zero w g).1),
              (List.range N).any (fun g => (colSum add zero w g).2 != 1)) := by
  unfold gatherNodeChunked
  rw [gatherLoop_eq add zero w hw N chunk hchunk (N + 1) 0 [] false (by omega)]
  simp [List.range_eq_range']

/-- does rank `r, r+1, …` own `g` -/
def ownerFlagsFrom (g : Nat) : Nat → World (RankView α) → List Bool
  | _, [] => []
  | r, v :: vs => (ownerPayload r v g).isSome :: ownerFlagsFrom g (r + 1) vs

/-- the number of ranks on which global `g` is stored with `part = that rank` -/
def ownerCount (w : World (RankView α)) (g : Nat) : Nat := (ownerFlagsFrom g 0 w).count true

/-- payload of the lowest rank that owns `g` -/
def firstOwnerFrom (g : Nat) : Nat → World (RankView α) → Option α
  | _, [] => none
  | r, v :: vs =>
    match ownerPayload r v g with
    | some p => some p
    | none => firstOwnerFrom g (r + 1) vs

/-- the payload the (unique) owner of `g` holds -/
def payloadAt (zero : α) (w : World (RankView α)) (g : Nat) : α := (firstOwnerFrom g 0 w).getD zero

theorem localOf_some {v : RankView α} {g : Nat} {nd : Node α} (h : localOf v g = some nd) :
    nd ∈ v.nodes ∧ nd.global = g :=
  ⟨List.mem_of_find?_eq_some h, by simpa using List.find?_some h⟩

theorem firstOwnerFrom_mem (g r : Nat) (w : World (RankView α)) (p : α) (h : firstOwnerFrom g r w = some p) :
    ∃ i v nd, w[i]? = some v ∧ nd ∈ v.nodes ∧ nd.global = g ∧ nd.part = r + i ∧ nd.payload = p := by
  revert h
  fun_induction firstOwnerFrom g r w <;> intro h
  · cases h
  · -- this rank owns `g`: `ownerPayload` found a stored node with `part = r`
    cases h
    rename_i r v _ hq
    revert hq
    fun_cases ownerPayload r v g <;> intro hq <;> cases hq
    exact ⟨0, v, _, rfl, (localOf_some ‹_›).1, (localOf_some ‹_›).2, by simpa using ‹(_ == r) = true›, rfl⟩
  · rename_i ih
    obtain ⟨i, v', nd, h1, h2, h3, h4, h5⟩ := ih h
    exact ⟨i + 1, v', nd, h1, h2, h3, by omega, h5⟩

theorem foldl_slotAdd_snd (add : α → α → α) (l : List (α × Nat)) (a : α × Nat) :
    (l.foldl (slotAdd add) a).2 = a.2 + (l.map (·.2)).sum := by
  induction l generalizing a with
  | nil => simp
  | cons c cs ih => rw [List.foldl_cons, ih]; simp [slotAdd]; omega

theorem contribs_hits (zero : α) (g r : Nat) (w : World (RankView α)) :
    ((contribsFrom zero g r w).map (·.2)).sum = (ownerFlagsFrom g r w).count true := by
  induction w generalizing r with
  | nil => rfl
  | cons v vs ih =>
    simp only [contribsFrom, ownerFlagsFrom, List.map_cons, List.sum_cons, ih (r + 1)]
    cases ownerPayload r v g <;> simp [slotOf] ; omega

theorem colSum_snd (add : α → α → α) (zero : α) (w : World (RankView α)) (g : Nat) :
    (colSum add zero w g).2 = ownerCount w g := by
  unfold colSum ownerCount
  match w with
  | [] => rfl
  | v :: vs =>
    simp only [contribsFrom]
    rw [foldl_slotAdd_snd, contribs_hits]
    simp only [ownerFlagsFrom]
    cases ownerPayload 0 v g <;> simp [slotOf] ; omega

/-! Neutrality of the padding is asked POINTWISE: `0.0 + x = x = x + 0.0` only of the values that are actually summed
    (the owner's payload and `0.0` itself).  IEEE addition has this for every double except `-0.0` and signalling NaNs,
    so the hypothesis is satisfiable by the `add` the driver runs (`addBits`), which a global `∀ x` would not be. -/

theorem firstOwnerFrom_cons (g r : Nat) (v : RankView α) (vs : World (RankView α)) :
    firstOwnerFrom g r (v :: vs) = (ownerPayload r v g).or (firstOwnerFrom g (r + 1) vs) := by
  rw [firstOwnerFrom]; cases ownerPayload r v g <;> rfl

/-- the fold of a column seeded with the slot of `q` (an earlier rank's record, or the padding): with at most one owner among
    `q` and the ranks `r, r+1, …` it is the slot of that owner -/
theorem foldl_owner (add : α → α → α) (zero : α) (h00 : add zero zero = zero) (g : Nat) (w : World (RankView α)) :
    ∀ (r : Nat) (q : Option α), (q.isSome :: ownerFlagsFrom g r w).count true ≤ 1 →
      (∀ p, q.or (firstOwnerFrom g r w) = some p → add zero p = p ∧ add p zero = p) →
      (contribsFrom zero g r w).foldl (slotAdd add) (slotOf zero q) = slotOf zero (q.or (firstOwnerFrom g r w)) := by
  induction w with
  | nil => intro r q _ _; rw [firstOwnerFrom, Option.or_none]; rfl
  | cons v vs ih =>
    intro r q h hp
    rw [firstOwnerFrom_cons, ← Option.or_assoc] at hp ⊢
    simp only [ownerFlagsFrom, contribsFrom, List.foldl_cons, List.count_cons] at h ⊢
    -- one step: of two records at most one is an owner's, and the padding is neutral against it
    have hstep : slotAdd add (slotOf zero q) (slotOf zero (ownerPayload r v g)) =
        slotOf zero (q.or (ownerPayload r v g)) ∧
        ((q.or (ownerPayload r v g)).isSome :: ownerFlagsFrom g (r + 1) vs).count true ≤ 1 := by
      cases q with
      | some p =>
        cases hq' : ownerPayload r v g with
        | some p' => simp [hq'] at h
        | none => simpa [slotAdd, slotOf, (hp p (by simp)).2, hq'] using h
      | none =>
        cases hq' : ownerPayload r v g with
        | some p' => simpa [slotAdd, slotOf, (hp p' (by simp [hq'])).1, hq'] using h
        | none => simpa [slotAdd, slotOf, h00, hq'] using h
    rw [hstep.1]
    exact ih (r + 1) _ hstep.2 hp

/-- a column owned at most once is the owner's record (the padding if nobody owns it) -/
theorem colSum_eq_slotOf (add : α → α → α) (zero : α) (h00 : add zero zero = zero) (w : World (RankView α)) (g : Nat)
    (hp : ∀ p, firstOwnerFrom g 0 w = some p → add zero p = p ∧ add p zero = p) (h : ownerCount w g ≤ 1) :
    colSum add zero w g = slotOf zero (firstOwnerFrom g 0 w) := by
  cases w with
  | nil => rfl
  | cons v vs =>
    rw [firstOwnerFrom_cons] at hp ⊢
    exact foldl_owner add zero h00 g vs 1 _ h hp

theorem colSum_once (add : α → α → α) (zero : α) (h00 : add zero zero = zero) (w : World (RankView α)) (g : Nat)
    (hp : ∀ p, firstOwnerFrom g 0 w = some p → add zero p = p ∧ add p zero = p)
    (h : ownerCount w g = 1) :
    colSum add zero w g = (payloadAt zero w g, 1) := by
  have hs := colSum_snd add zero w g
  rw [colSum_eq_slotOf add zero h00 w g hp (Nat.le_of_eq h)] at hs ⊢
  unfold payloadAt
  cases hf : firstOwnerFrom g 0 w with
  | none => rw [hf, h] at hs; cases hs
  | some p => rfl

/-- ref_gather_node (any chunk ≥ 1) on a world that owns every global once, with pointwise neutral padding: success and the
    owners' payloads in global order -/
theorem gatherNodeChunked_once (add : α → α → α) (zero : α) (h00 : add zero zero = zero)
    (w : World (RankView α)) (hw : w ≠ []) (N chunk : Nat) (hchunk : 1 ≤ chunk)
    (honce : ∀ g, g < N → ownerCount w g = 1)
    (hp : ∀ g, g < N → ∀ p, firstOwnerFrom g 0 w = some p → add zero p = p ∧ add p zero = p) :
    gatherNodeChunked add zero chunk N w = some ((List.range N).map (payloadAt zero w), false) := by
  rw [gatherNodeChunked_eq add zero w hw N chunk hchunk]
  have h1 : (List.range N).map (fun g => (colSum add zero w g).1) = (List.range N).map (payloadAt zero w) := by
    apply List.map_congr_left
    intro g hg
    have hg' := List.mem_range.mp hg
    rw [colSum_once add zero h00 w g (hp g hg') (honce g hg')]
  have h2 : (List.range N).any (fun g => (colSum add zero w g).2 != 1) = false := by
    rw [List.any_eq_false]
    intro g hg
    have hg' := List.mem_range.mp hg
    rw [colSum_once add zero h00 w g (hp g hg') (honce g hg')]
    simp
  rw [h1, h2]

end Refine.Lemmas.Par
