import Refine.Lemmas.InterpLocateGeom
import Refine.Lemmas.GeomReal
import Refine.Props.C15

/-!
  `ref_interp_locate` (the model `locate` at `ℝ`) evaluated on a world of ONE rank whose single receptor geometry node is
  seeded by stage 1, for a variable donor and receptor: `locate_one`.  On one rank every collective is the identity, so
  `geomStage_one` and `treeStage_idle` are plain evaluations: the two `ref_mpi_allconcat`s by `targets_ok`, then one
  `simp only` that unfolds the rest of the stage on singleton lists.  Two instances serve the non-vacuity examples of
  `Props/C11Locate.lean`.  `dr0`, `rc0`, `s0` and the names ending in `1`: the 2-D instance; in `3`: the unit tet.
-/

namespace Refine.Lemmas.InterpLocate.Ex
open Refine Refine.Model.Geom Refine.Model.Search Refine.Model.Interp Refine.Model.InterpLocate Refine.Model.Comm
open Refine.Lemmas.InterpLocate Refine.ScalarReal Refine.Gen Refine.GeomReal

theorem exch_one (x : Located ℝ) (hd : x.dest = 0) :
    exchangeLocated [[x]] = .ok [[(x.node, x.cell, x.proc, x.bary)]] := by
  rw [exchangeLocated_ok _ (by simp [locatedPairs, hd]) (by simp [locatedPairs, INT_MAX])]
  simp [deliveredG, pick, locatedPairs, hd]

theorem exch_none : exchangeLocated ([[]] : World (List (Located ℝ))) = .ok [[]] := by
  rw [exchangeLocated_ok _ (by simp [locatedPairs]) (by simp [locatedPairs, INT_MAX])]
  simp [deliveredG, pick, locatedPairs]

/-- stage 1 with one receptor geometry node `g` and one donor geometry node `n0`: both `ref_mpi_allconcat`s, the
    nearest-corner loop, `ref_mpi_allminwho`, the selection around `n0`, the four blind sends, then the receive loop -/
theorem geomStage_one (dr : DonorR ℝ) (rc : RecvR ℝ) (st st' : RankSt ℝ) (g n0 : Nat) (c : Int) (wts : B4 ℝ)
    (hg : rc.geom = [g]) (hd : dr.geom = [n0]) (hex : exhaustiveAround dr n0 (rc.pt g) = (.ok, c, wts))
    (hrecv : geomRecv 0 rc st [((g : Int), c, 0, storeBary dr.d.twod Slots.unwritten wts)] = .ok st') :
    geomStage [dr] [rc] [st] = .ok [st'] := by
  have hne : ((n0 : Int) != refEmpty) = true := by simp [refEmpty]
  obtain ⟨xyzs, nodes, hx, hn, ht⟩ := targets_ok [rc] [[g]]
  simp only [List.zip_cons_cons, List.zip_nil_right, List.map_cons, List.map_nil] at hx hn ht
  simp only [geomStage, hg, hx, hn, ht, targetsOf, allminwho, nearestGeom, sub_eq, mul_eq, add_eq, sqrt_eq, lt_iff,
    geomSends, geomSends.go, collect, exch_one, sumAll, hd, hne, hex, hrecv, List.map_cons, List.map_nil,
    List.zip_cons_cons, List.zip_nil_right, List.length_cons, List.length_nil, List.flatten_cons, List.flatten_nil,
    List.append_nil, List.foldl_cons, List.foldl_nil, List.replicate_one, List.nil_append, Option.getD_some,
    List.mapIdx, List.headD_eq_head?_getD, List.head?_cons, List.mapIdx.go, List.size_toArray, List.push_toArray,
    bind, Except.bind, ↓reduceIte, zero_add, Std.le_refl, BEq.rfl, Bool.and_self, Bool.or_eq_true, beq_iff_eq,
    or_true, CharP.cast_eq_zero, Int.toNat_natCast, Except.map, Int.toNat_zero, pure, Except.pure]

/-- stage 2 when no agent was hired: the `while (n_agents > 0)` loop is not entered -/
theorem processAgents_idle (dr : DonorR ℝ) (rc : RecvR ℝ) (st : RankSt ℝ) (hna : st.ag.n = 0)
    (hh : ∀ i < rc.xyz.length, rc.owned 0 i = true → st.hired.getD i false = false) :
    processAgents [dr] [rc] [st] = .ok [st] := by
  have hs : sweeps [dr] [rc] sweepFuel [st] = .ok [st] := by
    show sweeps [dr] [rc] (99999 + 1) [st] = _
    simp [sweeps, nAgents, hna]
  simp only [processAgents, bind, Except.bind, hs]
  simpa [sumAll, List.mapIdx, List.mapIdx.go, pure, Except.pure] using hh

/-- stage 3 when every owned node has a cell: empty target lists are exchanged and nothing changes -/
theorem treeStage_idle (dr : DonorR ℝ) (s : Search ℝ) (rc : RecvR ℝ) (fuzz : ℝ) (st : RankSt ℝ)
    (htg : treeTargets 0 rc st = []) : treeStage [dr] [s] [rc] fuzz [st] = .ok ([st], false) := by
  obtain ⟨xyzs, nodes, hx, hn, ht⟩ := targets_ok [rc] [[]]
  simp only [List.zip_cons_cons, List.zip_nil_right, List.map_cons, List.map_nil] at hx hn ht
  simp only [treeStage, htg, hx, hn, ht, targetsOf, collect, treeSends, allminwho, treeSends.go, exch_none, sumAll,
    treeRecv, List.mapIdx, List.zip_cons_cons, List.zip_nil_right, List.mapIdx.go, List.size_toArray,
    List.length_nil, List.push_toArray, List.nil_append, List.map_cons, List.map_nil, List.flatten_nil,
    List.foldl_cons, List.foldl_nil, List.replicate_zero, List.append_nil, List.length_cons, Option.getD_some,
    List.headD_eq_head?_getD, List.head?_cons, List.any_cons, List.any_nil, List.isEmpty_nil, List.flatten_cons,
    bind, Except.bind, Bool.not_true, Bool.false_eq_true, ↓reduceIte, CharP.cast_eq_zero, add_zero, zero_add,
    Std.le_refl, Except.map, Bool.or_self, Bool.not_false, id_eq, Bool.and_false, pure, Except.pure]

theorem locate_one (dr : DonorR ℝ) (s : Search ℝ) (rc : RecvR ℝ) (fuzz : ℝ) (st st' : RankSt ℝ) (g n0 : Nat) (c : Int)
    (wts : B4 ℝ) (hg : rc.geom = [g]) (hd : dr.geom = [n0]) (hex : exhaustiveAround dr n0 (rc.pt g) = (.ok, c, wts))
    (hrecv : geomRecv 0 rc st [((g : Int), c, 0, storeBary dr.d.twod Slots.unwritten wts)] = .ok st')
    (hna : st'.ag.n = 0) (hh : ∀ i < rc.xyz.length, rc.owned 0 i = true → st'.hired.getD i false = false)
    (htg : treeTargets 0 rc st' = []) : locate [dr] [s] [rc] fuzz [st] = .ok ([st'], fuzz) := by
  show (do let w1 ← geomStage [dr] [rc] [st]; let w2 ← processAgents [dr] [rc] w1
           treeLoop [dr] [s] [rc] (11 + 1) false fuzz w2) = _
  simp only [bind, Except.bind, geomStage_one dr rc st st' g n0 c wts hg hd hex hrecv, processAgents_idle dr rc st' hna hh,
    treeLoop, Bool.false_eq_true, if_false, treeStage_idle dr s rc fuzz st' htg]

/-- on one rank there are no ghost copies: distinct local nodes have distinct global ids -/
theorem ghostOK_one (rc : RecvR ℝ) (hnd : rc.glob.Nodup) (hne : (-1 : Int) ∉ rc.glob) : GhostOK [rc] := by
  intro r r' rc1 rc2 i i' h1 h2 hl
  obtain rfl : rc = rc1 := by cases r <;> simp_all
  obtain rfl : rc = rc2 := by cases r' <;> simp_all
  generalize hgd : rc.glob.getD i (-1) = g at hl
  simp only [localOf] at hl
  split at hl
  case isFalse => cases hl
  rename_i hlt
  obtain rfl := Option.some.inj hl
  have hg : rc.glob[List.findIdx (· == g) rc.glob] = g := by simpa using List.findIdx_getElem (w := hlt)
  rw [List.getD_eq_getElem?_getD] at hgd
  by_cases hi : i < rc.glob.length
  · rw [List.getElem?_eq_getElem hi, Option.getD_some] at hgd
    rw [(hnd.getElem_inj_iff).mp (hgd.trans hg.symm)]
  · rw [List.getElem?_eq_none (not_lt.mp hi), Option.getD_none] at hgd
    exact absurd (hgd ▸ hg ▸ List.getElem_mem hlt) hne

/-- one donor triangle (0,0) (1,0) (0,1), all on rank 0; its corner 0 is a geometry node -/
noncomputable def dr0 : DonorR ℝ :=
  { d := ⟨true, [⟨0, 0, 0⟩, ⟨1, 0, 0⟩, ⟨0, 1, 0⟩], [(0, ⟨0, 1, 2, 0⟩)], []⟩, glob := [0, 1, 2], part := [0, 0, 0],
    around := [[0], [0], [0]], geom := [0] }

/-- a receptor with the single geometry node (1/4, 1/4) -/
noncomputable def rc0 : RecvR ℝ := { xyz := [⟨4⁻¹, 4⁻¹, 0⟩], glob := [0], part := [0], nbrs := [[]], geom := [0] }

noncomputable def s0 : Search ℝ := ⟨0, 0, .nil⟩

noncomputable def st1 : RankSt ℝ :=
  ⟨[0], [0], [⟨some 2⁻¹, some 4⁻¹, some 4⁻¹, some 0⟩], [false], [1], Agents.create, 1, 1, 0, 0, 0, 0, 0, 0⟩

theorem bary_q1 : baryOf dr0.d ⟨0, 1, 2, 0⟩ ⟨4⁻¹, 4⁻¹, 0⟩ = (St.ok, ⟨2⁻¹, 4⁻¹, 4⁻¹, 0⟩) := by
  have e : bary3 (dr0.d.pt 0) (dr0.d.pt 1) (dr0.d.pt 2) ⟨4⁻¹, 4⁻¹, 0⟩ = (St.ok, ⟨1 - 4⁻¹ - 4⁻¹, 4⁻¹, 4⁻¹⟩) := by
    simp only [dr0, Donor.pt, List.getD_cons_zero, List.getD_cons_succ]
    exact Refine.Props.C15.bary3_unitTri _ (by norm_num) (by norm_num) (by norm_num)
  rw [Refine.Lemmas.Interp.baryOf_twod_of (d := dr0.d) (n := ⟨0, 1, 2, 0⟩) rfl e]
  norm_num

theorem cell1 : dr0.d.cellAt 0 = some ⟨0, 1, 2, 0⟩ := by simp [Donor.cellAt, dr0]

theorem exh1 : exhaustiveAround dr0 0 ⟨4⁻¹, 4⁻¹, 0⟩ = (.ok, 0, ⟨2⁻¹, 4⁻¹, 4⁻¹, 0⟩) := by
  have ha : dr0.around.getD 0 [] = [0] := by simp [dr0]
  have htw : dr0.d.twod = true := rfl
  simp only [exhaustiveAround, ha, enclosingInList, inListFold, cell1, bary_q1, bestInit, minBary, htw, if_true]
  simp [refEmpty, cell1, bary_q1]

theorem recv_accept1 :
    geomRecv 0 rc0 (RankSt.create 1 1) [(0, 0, 0, (⟨some 2⁻¹, some 4⁻¹, some 4⁻¹, some 0⟩ : Slots ℝ))] = .ok st1 := by
  have hacc : geomAccept (⟨some 2⁻¹, some 4⁻¹, some 4⁻¹, some 0⟩ : Slots ℝ) = true := by
    simp only [geomAccept_some, insideTol, lit, InterpConsts.inside, ofDec_eq, Bool.and_eq_true, lt_iff]
    norm_num
  simp [geomRecv, hacc, RankSt.create, RankSt.cellOf, refEmpty, RankSt.store, InterpConsts.geomCopy,
    Slots.copyN, pushOntoQueue, RecvR.owned, rc0, st1]

/-- `ref_interp_locate` on the 2-D world: the receptor node is located by stage 1 in cell 0 of rank 0 with weights
    (1/2, 1/4, 1/4) and the 4th slot 0 -/
theorem locate1 : locate [dr0] [s0] [rc0] (1e-12 : ℝ) [RankSt.create 1 1] = .ok ([st1], 1e-12) := by
  have hrecv : geomRecv 0 rc0 (RankSt.create 1 1)
      [(0, 0, 0, storeBary dr0.d.twod Slots.unwritten ⟨2⁻¹, 4⁻¹, 4⁻¹, 0⟩)] = .ok st1 := by
    rw [show dr0.d.twod = true from rfl, storeBary_twod, lit0_eq]
    exact recv_accept1
  exact locate_one dr0 s0 rc0 _ _ st1 0 0 0 _ rfl rfl exh1 hrecv rfl
    (by simp [rc0, st1]) (by simp [treeTargets, rc0, st1, RecvR.owned, RankSt.cellOf, refEmpty])

theorem cellIds1 : CellIdsOK [dr0] := by
  intro dr hdr p hp
  simp only [List.mem_singleton] at hdr
  subst hdr
  simp only [dr0, List.mem_singleton] at hp
  subst hp
  simp [refEmpty]

theorem ghost1 : GhostOK [rc0] := ghostOK_one rc0 (by simp [rc0]) (by simp [rc0])

/-- the unit tet, all on rank 0; its corner 0 is a geometry node -/
noncomputable def dr3 : DonorR ℝ :=
  { d := ⟨false, [⟨0, 0, 0⟩, ⟨1, 0, 0⟩, ⟨0, 1, 0⟩, ⟨0, 0, 1⟩], [(0, ⟨0, 1, 2, 3⟩)], []⟩, glob := [0, 1, 2, 3],
    part := [0, 0, 0, 0], around := [[0], [0], [0], [0]], geom := [0] }

/-- a receptor with the single geometry node (1/4, 1/4, 1/4) -/
noncomputable def rc3 : RecvR ℝ := { xyz := [⟨4⁻¹, 4⁻¹, 4⁻¹⟩], glob := [0], part := [0], nbrs := [[]], geom := [0] }

theorem bary_q3 : baryOf dr3.d ⟨0, 1, 2, 3⟩ ⟨4⁻¹, 4⁻¹, 4⁻¹⟩ = (St.ok, ⟨4⁻¹, 4⁻¹, 4⁻¹, 4⁻¹⟩) := by
  rw [Refine.Lemmas.Interp.baryOf_3d rfl]
  simp only [dr3, Donor.pt, List.getD_cons_zero, List.getD_cons_succ]
  rw [Refine.Props.C15.bary4_unitTet _ (by norm_num) (by norm_num) (by norm_num) (by norm_num)]
  norm_num

theorem cell3 : dr3.d.cellAt 0 = some ⟨0, 1, 2, 3⟩ := by simp [Donor.cellAt, dr3]

theorem exh3 : exhaustiveAround dr3 0 ⟨4⁻¹, 4⁻¹, 4⁻¹⟩ = (.ok, 0, ⟨4⁻¹, 4⁻¹, 4⁻¹, 4⁻¹⟩) := by
  have ha : dr3.around.getD 0 [] = [0] := by simp [dr3]
  have htw : dr3.d.twod = false := rfl
  simp only [exhaustiveAround, ha, enclosingInList, inListFold, cell3, bary_q3, bestInit, minBary, htw]
  simp [refEmpty, cell3, bary_q3]

noncomputable def st3 : RankSt ℝ :=
  ⟨[0], [0], [⟨some 4⁻¹, some 4⁻¹, some 4⁻¹, some 4⁻¹⟩], [false], [1], Agents.create, 1, 1, 0, 0, 0, 0, 0, 0⟩

theorem recv_accept3 :
    geomRecv 0 rc3 (RankSt.create 1 1) [(0, 0, 0, (⟨some 4⁻¹, some 4⁻¹, some 4⁻¹, some 4⁻¹⟩ : Slots ℝ))] = .ok st3 := by
  have hacc : geomAccept (⟨some 4⁻¹, some 4⁻¹, some 4⁻¹, some 4⁻¹⟩ : Slots ℝ) = true := by
    simp only [geomAccept_some, insideTol, lit, InterpConsts.inside, ofDec_eq, Bool.and_eq_true, lt_iff]
    norm_num
  simp [geomRecv, hacc, RankSt.create, RankSt.cellOf, refEmpty, RankSt.store, InterpConsts.geomCopy,
    Slots.copyN, pushOntoQueue, RecvR.owned, rc3, st3]

/-- `ref_interp_locate` on the 3-D world: the receptor node is located by stage 1 in cell 0 of rank 0 with weights
    (1/4, 1/4, 1/4, 1/4) -/
theorem locate3 : locate [dr3] [s0] [rc3] (1e-12 : ℝ) [RankSt.create 1 1] = .ok ([st3], 1e-12) :=
  locate_one dr3 s0 rc3 _ _ st3 0 0 0 _ rfl rfl exh3 recv_accept3 rfl
    (by simp [rc3, st3]) (by simp [treeTargets, rc3, st3, RecvR.owned, RankSt.cellOf, refEmpty])

theorem cellIds3 : CellIdsOK [dr3] := by
  intro dr hdr p hp
  simp only [List.mem_singleton] at hdr
  subst hdr
  simp only [dr3, List.mem_singleton] at hp
  subst hp
  simp [refEmpty]

theorem ghost3 : GhostOK [rc3] := ghostOK_one rc3 (by simp [rc3]) (by simp [rc3])

end Refine.Lemmas.InterpLocate.Ex
