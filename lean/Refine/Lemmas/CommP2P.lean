import Refine.Lemmas.CommA2A
import Refine.Model.ReproSched

/-!
  The rank-0 scatter / gather loops over `ref_mpi_scatter_send/recv` and `ref_mpi_gather_send/recv`: what the ranks
  post when no check fails (`scatterPosted_ok`, `gatherPosted_ok`; the posted worlds themselves are defined in
  `Model/ReproSched`, which also runs them under a schedule) and which message each receive finds (`find_scatter_msg`,
  `gatherReqs_deposits`).  `Props/C17` puts them together: `scatter_spec`, `gather_spec`.
-/
namespace Refine.Lemmas.Comm
open Refine.Model.Comm
open Refine.Model.ReproSched (scatterPosted gatherPosted)
variable {α : Type}

theorem postAll_ok {β : Type} (ty : RefType) (hty : ty.mpiOk = true) (maxTag : Int) (tagOf : β → Int)
    (xs : List β) (h : ∀ x ∈ xs, tagOk maxTag (tagOf x) = true) : postAll ty maxTag tagOf xs = (Status.ok, xs) := by
  induction xs with
  | nil => rfl
  | cons x xs ih =>
    unfold postAll
    simp only [hty, Bool.not_true, Bool.false_eq_true, if_false, h x List.mem_cons_self]
    rw [ih (fun y hy => h y (List.mem_cons_of_mem _ hy))]

theorem find_scatter_msg (L : List (List α)) (j r : Nat) (h1 : j ≤ r) (h2 : r < j + L.length) :
    ((L.zipIdx j).map fun (cp : List α × Nat) => (⟨(cp.2 : Int), (cp.2 : Int), cp.1⟩ : Msg α)).find?
        (fun m => m.dest == (r : Int) && m.tag == (r : Int))
      = some ⟨(r : Int), (r : Int), L.getD (r - j) []⟩ := by
  induction L generalizing j with
  | nil => simp at h2; omega
  | cons c cs ih =>
    rw [List.zipIdx_cons, List.map_cons]
    by_cases hj : j = r
    · subst hj
      rw [List.find?_cons_of_pos]
      · simp
      · simp
    · rw [List.find?_cons_of_neg]
      · rw [ih (j + 1) (by omega) (by simp at h2; omega)]
        have : r - j = (r - (j + 1)) + 1 := by omega
        rw [this, List.getD_cons_succ]
      · simp only [Bool.and_eq_true, beq_iff_eq, not_and]
        intro h; omega

/-- what the ranks post in the rank-0 scatter loop when nothing fails -/
def scatterWorld [Inhabited α] (chunks : List (List α)) : World (Posted α) :=
  chunks.mapIdx fun r c =>
    if r = 0 then
      ⟨Status.ok, [], ((chunks.zipIdx).drop 1).map fun (cp : List α × Nat) => ⟨(cp.2 : Int), (cp.2 : Int), cp.1⟩, c⟩
    else ⟨Status.ok, [⟨0, (r : Int), 0, (c.length : Int)⟩], [], List.replicate c.length default⟩

theorem scatterPosted_ok [Inhabited α] (ty : RefType) (hty : ty.mpiOk = true) (maxTag : Int)
    (chunks : List (List α)) (hmax : (chunks.length : Int) ≤ maxTag + 1) :
    scatterPosted ty maxTag chunks = scatterWorld chunks := by
  have hms : ∀ m ∈ ((chunks.zipIdx).drop 1).map
        (fun (cp : List α × Nat) => (⟨(cp.2 : Int), (cp.2 : Int), cp.1⟩ : Msg α)),
      tagOk maxTag m.tag = true := by
    intro m hm
    simp only [List.mem_map] at hm
    obtain ⟨⟨c, p⟩, hcp, rfl⟩ := hm
    have := List.mem_zipIdx (List.mem_of_mem_drop hcp)
    simp only [tagOk, Bool.and_eq_true, decide_eq_true_eq]
    omega
  apply List.ext_getElem
  · simp [scatterPosted, scatterWorld]
  · intro r h1 _
    have hr : r < chunks.length := by simpa [scatterPosted] using h1
    simp only [scatterPosted, scatterWorld, List.getElem_mapIdx]
    by_cases hr0 : r = 0
    · simp only [hr0, if_true, postAll_ok ty hty maxTag _ _ hms]
    · simp only [hr0, if_false]
      rw [postAll_ok ty hty maxTag (fun (q : Rcv) => q.tag) _ (by
        intro q hq
        rw [List.mem_singleton.mp hq]
        simp only [tagOk, Bool.and_eq_true, decide_eq_true_eq]
        omega)]

/-- `scatter` exchanges the world `scatterPosted` names (the same text as its body) -/
theorem scatter_eq_p2pExchange [Inhabited α] (ty : RefType) (maxTag : Int) (chunks : List (List α)) :
    scatter ty maxTag chunks = p2pExchange (scatterPosted ty maxTag chunks) := rfl

/-- the receive requests of rank 0 for the workers `j, j+1, …` holding `L`, storing at consecutive offsets -/
def gatherReqs (L : List (List α)) (j : Nat) (acc : Int) : List Rcv :=
  (List.range L.length).map fun k =>
    ⟨((j + k : Nat) : Int), ((j + k : Nat) : Int), (displsFrom acc (lensI L)).getD k 0, ((L.getD k []).length : Int)⟩

theorem gatherReqs_deposits (W : World (Posted α)) (L : List (List α)) (j o : Nat)
    (hfind : ∀ k, k < L.length → ∀ o c, ∃ m, findMsg W 0 ⟨((j + k : Nat) : Int), ((j + k : Nat) : Int), o, c⟩ = some m
      ∧ m.data = L.getD k []) :
    (gatherReqs L j o).map (recvDeposit W 0) = (consec o L).map some := by
  rw [gatherReqs, consec_eq, List.map_map, List.map_map]
  refine List.map_congr_left fun k hk => ?_
  obtain ⟨m, hm, hmd⟩ := hfind k (List.mem_range.mp hk) ((displsFrom (o : Int) (lensI L)).getD k 0) ((L.getD k []).length : Int)
  simp only [Function.comp, recvDeposit, hm, Option.bind_some, hmd, Int.le_refl, if_true]

theorem gatherReqs_any (L : List (List α)) (j : Nat) (acc : Int) (k : Nat) (hk : k < L.length) :
    (gatherReqs L j acc).any (fun rq => rq.source == ((j + k : Nat) : Int) && rq.tag == ((j + k : Nat) : Int)) = true := by
  rw [gatherReqs, List.any_eq_true]
  exact ⟨_, List.mem_map_of_mem (List.mem_range.mpr hk), by simp⟩

theorem gatherReqs_tags (L : List (List α)) (j : Nat) (acc : Int) :
    ∀ q ∈ gatherReqs L j acc, 0 ≤ q.tag ∧ q.tag < ((j + L.length : Nat) : Int) := by
  intro q hq
  rw [gatherReqs] at hq
  obtain ⟨k, hk, rfl⟩ := List.mem_map.mp hq
  have := List.mem_range.mp hk
  simp only
  omega

theorem writeAt_replicate_head [Inhabited α] (n : Nat) (c : List α) (h : c.length ≤ n) :
    writeAt (List.replicate n (default : α)) 0 c = c ++ List.replicate (n - c.length) default := by
  have hsplit : List.replicate n (default : α)
      = [] ++ List.replicate c.length default ++ List.replicate (n - c.length) default := by
    rw [List.nil_append, List.replicate_append_replicate]
    congr 1; omega
  rw [hsplit, writeAt_mid [] _ _ c 0 rfl (by simp)]
  simp

/-- what the ranks post in the rank-0 gather loop when nothing fails -/
def gatherWorld [Inhabited α] (c0 : List α) (cs : List (List α)) : World (Posted α) :=
  ⟨Status.ok, gatherReqs cs 1 (c0.length : Int), [],
      writeAt (List.replicate (c0 :: cs).flatten.length default) 0 c0⟩
    :: cs.mapIdx fun r c => ⟨Status.ok, [], [⟨0, ((r + 1 : Nat) : Int), c⟩], []⟩

theorem gatherPosted_ok [Inhabited α] (ty : RefType) (hty : ty.mpiOk = true) (maxTag : Int) (c0 : List α)
    (cs : List (List α)) (hmax : ((c0 :: cs).length : Int) ≤ maxTag + 1) :
    gatherPosted ty maxTag (c0 :: cs) = gatherWorld c0 cs := by
  have hsum : isum ((c0 :: cs).map fun c => (c.length : Int)) = ((c0 :: cs).flatten.length : Int) :=
    isum_countsI (c0 :: cs)
  have hrq : ((((((c0 :: cs).map fun c => (c.length : Int)).zip
        (displs ((c0 :: cs).map fun c => (c.length : Int)))).zipIdx).drop 1).map fun (x : (Int × Int) × Nat) =>
          (⟨(x.2 : Int), (x.2 : Int), x.1.2, x.1.1⟩ : Rcv))
      = gatherReqs cs 1 (c0.length : Int) := by
    apply List.ext_getElem (by simp [gatherReqs, displs, length_displsFrom])
    intro k h1 h2
    have hk : k < cs.length := by simpa [gatherReqs] using h2
    simp [gatherReqs, lensI, displs, displsFrom, List.getD_eq_getElem?_getD, hk, length_displsFrom, Nat.add_comm]
  have htags : ∀ q ∈ gatherReqs cs 1 (c0.length : Int), tagOk maxTag q.tag = true := by
    intro q hq
    have := gatherReqs_tags cs 1 (c0.length : Int) q hq
    simp only [tagOk, Bool.and_eq_true, decide_eq_true_eq]
    simp only [List.length_cons] at hmax
    push_cast at this hmax
    omega
  unfold gatherPosted gatherWorld
  simp only [hsum, hrq, Int.toNat_natCast, List.mapIdx_cons, if_true, postAll_ok ty hty maxTag _ _ htags]
  congr 1
  apply List.ext_getElem
  · simp
  · intro r h1 _
    have hr : r < cs.length := by simpa using h1
    simp only [List.getElem_mapIdx, Nat.succ_ne_zero, if_false]
    rw [postAll_ok ty hty maxTag (fun (m : Msg α) => m.tag) _ (by
      intro q hq
      rw [List.mem_singleton.mp hq]
      simp only [tagOk, Bool.and_eq_true, decide_eq_true_eq, List.length_cons] at hmax ⊢
      omega)]

theorem gather_eq_p2pExchange [Inhabited α] (ty : RefType) (maxTag : Int) (w : World (List α)) :
    gather ty maxTag w = p2pExchange (gatherPosted ty maxTag w) := rfl

end Refine.Lemmas.Comm
