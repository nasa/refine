import Refine.Model.Dist
import Refine.Lemmas.NodeIds
import Refine.Lemmas.PrefSum
import Mathlib.Data.Int.Interval
import Mathlib.Data.List.Nodup
import Mathlib.Data.List.TakeWhile

/-!
  The arithmetic of `ref_node_synchronize_globals`.

  `elim U g = g - #{u ∈ U ∣ u < g}` is what `ref_node_eliminate_unused_offset` computes for every entry of a
  non-decreasing list against a sorted unused list (`elimOffset_eq_map`); after that walk the order of `U` never matters
  (`elim_perm`: `elim U` is a function of the multiset).  It is strictly monotone off `U`,
  maps `[0,M) \ U` onto `[0, M - |U|)` (`elim_*`), and composes over slices (`elim_slices`).

  `shiftId old off g` is the fresh-id shift of `ref_node_shift_new_globals` on one rank; `IdWorld` is what
  `ref_node_synchronize_globals` sees of a world (`old_n_global`, fresh counts, live and unused ids per rank), `IdInv`
  the invariant on it, `IdWorld.newId` the closed form of the new id, a monotone bijection from the vertices onto `[0, N)`
  (`newId_*`).  Last, `ref_cell_part`: the owner of a cell is the part of a vertex with the smallest
  global id (`cellOwner_min`).
-/
namespace Refine.Lemmas.Dist
open Refine.Model.Dist

/-- number of unused ids below `g` -/
def cntLt (U : List Int) (g : Int) : Nat := (U.filter fun u => decide (u < g)).length

/-- the id `g` after the unused ids `U` have been squeezed out -/
def elim (U : List Int) (g : Int) : Int := g - (cntLt U g : Int)

theorem cntLt_append (A B : List Int) (g : Int) : cntLt (A ++ B) g = cntLt A g + cntLt B g := by
  simp [cntLt, List.filter_append]

theorem cntLt_nil (g : Int) : cntLt [] g = 0 := rfl

theorem elim_nil (g : Int) : elim [] g = g := by simp [elim, cntLt]

/-! ### `ref_node_eliminate_unused_offset`: the two-pointer walk -/

/-- the walk's pointer: on a sorted unused list the entries below `g` are a prefix, its length is `cntLt U g`, and a
    later `g' ≥ g` counts that prefix plus what it finds in the rest -/
theorem cntLt_walk (U : List Int) (g g' : Int) (hU : U.Pairwise (· ≤ ·)) (hgg : g ≤ g') :
    cntLt U g = (U.takeWhile fun u => decide (u < g)).length ∧
    cntLt U g' = cntLt U g + cntLt (U.drop (cntLt U g)) g' := by
  induction U with
  | nil => exact ⟨rfl, rfl⟩
  | cons x xs ih =>
    rw [List.pairwise_cons] at hU
    by_cases hx : x < g
    · have hx' : x < g' := by omega
      obtain ⟨h1, h2⟩ := ih hU.2
      simp only [cntLt, List.filter_cons, List.takeWhile_cons, hx, hx', decide_true, if_true, List.length_cons,
        List.drop_succ_cons] at h1 h2 ⊢
      omega
    · have h0 : cntLt (x :: xs) g = 0 :=
        List.length_eq_zero_iff.2 (List.filter_eq_nil_iff.2 fun y hy => by
          have : x ≤ y := by
            rcases List.mem_cons.1 hy with rfl | hy
            · exact le_refl _
            · exact hU.1 y hy
          simp only [decide_eq_true_eq]; omega)
      simp [h0, hx]

theorem elimOffsetGo_eq (gs rest : List Int) (off : Int) (hr : rest.Pairwise (· ≤ ·)) (hg : gs.Pairwise (· ≤ ·)) :
    elimOffsetGo rest off gs = gs.map fun g => g - (off + (cntLt rest g : Int)) := by
  fun_induction elimOffsetGo rest off gs with
  | case1 => rfl
  | case2 rest off g gs k ih =>
    rw [List.pairwise_cons] at hg
    have hk : k = cntLt rest g := (cntLt_walk rest g g hr (le_refl _)).1.symm
    rw [List.map_cons, ih (hr.sublist (List.drop_sublist _ _)) hg.2, hk]
    congr 1
    apply List.map_congr_left
    intro g' hg'
    rw [(cntLt_walk rest g g' hr (hg.1 g' hg')).2]; push_cast; omega

theorem elimOffset_eq_map (gs U : List Int) (hU : U.Pairwise (· ≤ ·)) (hg : gs.Pairwise (· ≤ ·)) :
    elimOffset gs U = gs.map (elim U) := by
  unfold elimOffset
  rw [elimOffsetGo_eq gs U 0 hU hg]
  apply List.map_congr_left
  intro g _
  simp [elim]

theorem nodup_length_le (l : List Int) (a b : Int) (hab : a ≤ b) (hn : l.Nodup)
    (h : ∀ u ∈ l, a ≤ u ∧ u < b) : (l.length : Int) ≤ b - a := by
  have hsub : l.toFinset ⊆ Finset.Ico a b := by
    intro u hu
    rw [List.mem_toFinset] at hu
    rw [Finset.mem_Ico]
    exact h u hu
  have hc := Finset.card_le_card hsub
  rw [List.toFinset_card_of_nodup hn, Int.card_Ico] at hc
  have : ((b - a).toNat : Int) = b - a := Int.toNat_of_nonneg (by omega)
  omega

theorem cntLt_diff (U : List Int) (x y : Int) (hxy : x ≤ y) :
    cntLt U y = cntLt U x + (U.filter fun u => decide (x ≤ u) && decide (u < y)).length := by
  unfold cntLt
  rw [← List.countP_eq_length_filter, ← List.countP_eq_length_filter, ← List.countP_eq_length_filter,
    List.countP_eq_countP_filter_add U _ (fun u => decide (u < x)), List.countP_filter, List.countP_filter]
  congr 1 <;> refine List.countP_congr fun u _ => ?_ <;>
    simp only [Bool.and_eq_true, decide_eq_true_eq, Bool.not_eq_true', decide_eq_false_iff_not] <;> omega

theorem cntLt_mono (U : List Int) (x y : Int) (hxy : x ≤ y) : cntLt U x ≤ cntLt U y := by
  rw [cntLt_diff U x y hxy]
  exact Nat.le_add_right _ _

/-- a duplicate-free list has at most `y - x` members in `[x, y)` -/
theorem cntLt_diff_le (U : List Int) (hU : U.Nodup) (x y : Int) (hxy : x ≤ y) :
    (cntLt U y : Int) ≤ cntLt U x + (y - x) := by
  rw [cntLt_diff U x y hxy]
  have hr : ∀ u ∈ U.filter (fun u => decide (x ≤ u) && decide (u < y)), x ≤ u ∧ u < y := fun u hu => by
    simpa using (List.mem_filter.mp hu).2
  have := nodup_length_le _ x y hxy (hU.filter _) hr
  push_cast
  omega

theorem cntLt_succ (U : List Int) (x : Int) (hx : x ∉ U) : cntLt U (x + 1) = cntLt U x := by
  unfold cntLt
  congr 1
  apply List.filter_congr
  intro u hu
  have : u ≠ x := fun h => hx (h ▸ hu)
  rw [decide_eq_decide]
  omega

theorem elim_strictMono (U : List Int) (hU : U.Nodup) (x y : Int) (hx : x ∉ U) (hxy : x < y) :
    elim U x < elim U y := by
  have := cntLt_diff_le U hU (x + 1) y hxy
  rw [cntLt_succ U x hx] at this
  unfold elim
  omega

theorem elim_mono (U : List Int) (hU : U.Nodup) (x y : Int) (hxy : x ≤ y) : elim U x ≤ elim U y := by
  have := cntLt_diff_le U hU x y hxy
  unfold elim
  omega

theorem elim_zero (U : List Int) (hpos : ∀ u ∈ U, 0 ≤ u) : elim U 0 = 0 := by
  have : cntLt U 0 = 0 :=
    List.length_eq_zero_iff.mpr (List.filter_eq_nil_iff.mpr fun u hu => by simpa using hpos u hu)
  rw [elim, this]; rfl

theorem elim_top (U : List Int) (M : Int) (h : ∀ u ∈ U, u < M) : elim U M = M - U.length := by
  rw [elim, cntLt, List.filter_eq_self.mpr fun u hu => by simpa using h u hu]

theorem cntLt_succ_of_mem (U : List Int) (x : Int) (hx : x ∈ U) : cntLt U x < cntLt U (x + 1) := by
  rw [cntLt_diff U x (x + 1) (by omega)]
  have hm : x ∈ U.filter fun u => decide (x ≤ u) && decide (u < x + 1) := List.mem_filter.mpr ⟨hx, by simp⟩
  have := List.length_pos_of_mem hm
  omega

/-- `elim U` starts at `0`, ends at `M - |U|` and rises by one exactly at the ids that are not in `U` -/
theorem elim_surj (U : List Int) (M : Int) (hM : 0 ≤ M) (hr : ∀ u ∈ U, 0 ≤ u ∧ u < M)
    (k : Int) (hk0 : 0 ≤ k) (hk : k < M - U.length) :
    ∃ x, 0 ≤ x ∧ x < M ∧ x ∉ U ∧ elim U x = k := by
  have key : ∀ n : Nat, k < elim U n → ∃ x, 0 ≤ x ∧ x < (n : Int) ∧ x ∉ U ∧ elim U x = k := by
    intro n
    induction n with
    | zero => intro h; rw [Nat.cast_zero, elim_zero U fun u hu => (hr u hu).1] at h; omega
    | succ n ih =>
      intro h
      rw [Nat.cast_succ] at h ⊢
      by_cases hn : k < elim U n
      · obtain ⟨x, h1, h2, h3⟩ := ih hn
        exact ⟨x, h1, by omega, h3⟩
      · unfold elim at h hn ⊢
        by_cases hm : (n : Int) ∈ U
        · have := cntLt_succ_of_mem U n hm; omega
        · have := cntLt_succ U n hm
          exact ⟨n, by omega, by omega, hm, by omega⟩
  obtain ⟨x, h1, h2, h3⟩ := key M.toNat (by
    rw [Int.toNat_of_nonneg hM, elim_top U M fun u hu => (hr u hu).2]
    exact hk)
  exact ⟨x, h1, by omega, h3⟩

/-! ### the slice loop of `ref_node_eliminate_unused_globals` -/

theorem elim_lt_iff (U : List Int) (hU : U.Nodup) (x y : Int) (hx : x ∉ U) : elim U x < elim U y ↔ x < y :=
  ⟨fun h => not_le.1 fun hyx => absurd h (not_lt.2 (elim_mono U hU y x hyx)), elim_strictMono U hU x y hx⟩

/-- eliminating slice `A`, then the (already renumbered) slice `B`, is eliminating `A ++ B`: for every id, also one
    that is on the lists -/
theorem elim_append (A B : List Int) (hn : (A ++ B).Nodup) (g : Int) :
    elim (B.map (elim A)) (elim A g) = elim (A ++ B) g := by
  have hcnt : cntLt (B.map (elim A)) (elim A g) = cntLt B g := by
    unfold cntLt
    rw [List.filter_map, List.length_map]
    congr 1
    refine List.filter_congr fun b hb => decide_eq_decide.2 ?_
    exact elim_lt_iff A (List.nodup_append.mp hn).1 b g fun ha => (List.nodup_append.mp hn).2.2 b ha b hb rfl
  unfold elim at hcnt ⊢
  rw [hcnt, cntLt_append]
  push_cast; omega

theorem elim_slices (A B : List Int) (hn : (A ++ B).Nodup) (g : Int) (hg : g ∉ A ++ B) :
    elim (B.map (elim A)) (elim A g) = elim (A ++ B) g :=
  have _ := hg
  elim_append A B hn g

theorem elim_perm (A B : List Int) (h : A.Perm B) (g : Int) : elim A g = elim B g := by
  unfold elim cntLt
  rw [(h.filter _).length_eq]

theorem sortGlob_perm (xs : List Int) : (sortGlob xs).Perm xs := by
  fun_cases sortGlob xs with
  | case1 => exact List.Perm.refl _
  | case2 => exact List.mergeSort_perm _ _

theorem sortGlob_sorted (xs : List Int) : (sortGlob xs).Pairwise (· ≤ ·) := by
  fun_cases sortGlob xs
  · rename_i h; exact (Refine.Model.NodeIds.isNondecr_iff xs).1 h
  have := List.pairwise_mergeSort (le := fun a b : Int => decide (a ≤ b))
    (fun a b c hab hbc => by simp only [decide_eq_true_eq] at *; omega)
    (fun a b => by simp only [Bool.or_eq_true, decide_eq_true_eq]; omega) xs
  exact this.imp (fun h => by simpa using h)

theorem map_elim_sorted (U gs : List Int) (hU : U.Nodup) (hg : gs.Pairwise (· ≤ ·)) :
    (gs.map (elim U)).Pairwise (· ≤ ·) := by
  rw [List.pairwise_map]
  exact hg.imp fun h => elim_mono U hU _ _ h

/-- one trip of the slice loop of `ref_node_eliminate_unused_globals` as seen by one sorted id list `gs` that was
    already offset by the processed prefix `P`: the gathered slice `V` holds the unused ids `S` of the active ranks,
    themselves offset by `P` while they waited, in sorted order -/
theorem elimOffset_step (P S gs V : List Int) (hPS : (P ++ S).Nodup) (hg : gs.Pairwise (· ≤ ·))
    (hV : V.Pairwise (· ≤ ·)) (hperm : V.Perm (S.map (elim P))) :
    elimOffset (gs.map (elim P)) V = gs.map (elim (P ++ S)) := by
  rw [elimOffset_eq_map _ _ hV (map_elim_sorted P gs (List.nodup_append.mp hPS).1 hg), List.map_map]
  exact List.map_congr_left fun g _ => by rw [Function.comp_apply, elim_perm _ _ hperm, elim_append P S hPS]

theorem activeParts_progress (counts : List Int) (chunk : Int) (a0 : Nat) (h : a0 < counts.length) :
    a0 < (activeParts counts chunk a0).1 ∧ (activeParts counts chunk a0).1 ≤ counts.length := by
  have key : ∀ fuel a1 na, a0 < a1 → a1 ≤ counts.length →
      a0 < (activeGo counts chunk fuel a1 na).1 ∧ (activeGo counts chunk fuel a1 na).1 ≤ counts.length := by
    intro fuel a1 na
    fun_induction activeGo counts chunk fuel a1 na with
    | case1 => exact fun h1 h2 => ⟨h1, h2⟩
    | case2 f a1 na hc ih => exact fun h1 _ => ih (by omega) (by omega)
    | case3 => exact fun h1 h2 => ⟨h1, h2⟩
  exact key _ _ _ (by omega) (by omega)

/-! ### `ref_node_shift_new_globals`: the fresh-id shift -/

open Refine.Lemmas.Comm (prefSum prefSum_succ prefSum_step_le prefSum_locate prefSum_getD)

/-- what `ref_node_shift_new_globals` does to one id on a rank whose offset is `off` -/
def shiftId (old off g : Int) : Int := if g ≥ old then g + off else g

/-- fresh ids of different ranks never collide after the shift: rank `r` has `k r` fresh ids
    `[old, old + k r)` and is shifted by the number of fresh ids of the lower ranks -/
theorem shift_disjoint (old : Int) (k : Nat → Nat) (r q : Nat) (hrq : r < q) (g g' : Int)
    (hg : old ≤ g ∧ g < old + k r) (hg' : old ≤ g') :
    shiftId old (((List.range r).map k).sum : Nat) g < shiftId old (((List.range q).map k).sum : Nat) g' := by
  have : ((List.range r).map k).sum + k r ≤ ((List.range q).map k).sum := prefSum_step_le k hrq
  unfold shiftId
  rw [if_pos hg.1, if_pos hg']
  omega

theorem shiftId_strictMono (old off : Int) (hoff : 0 ≤ off) (g g' : Int) (h : g < g') :
    shiftId old off g < shiftId old off g' := by
  unfold shiftId; split <;> split <;> omega

/-- what `ref_node_synchronize_globals` sees: the common `old_n_global`, per rank the number of fresh ids
    (`new_n_global - old_n_global`), the live ids and the unused ids -/
structure IdWorld where
  old : Int
  k : List Nat
  live : List (List Int)
  unused : List (List Int)

def IdWorld.kOf (w : IdWorld) (r : Nat) : Nat := w.k.getD r 0
/-- the offset `ref_node_shift_new_globals` adds on rank `r`: the fresh ids of the lower ranks -/
def IdWorld.off (w : IdWorld) (r : Nat) : Int := (((List.range r).map w.kOf).sum : Nat)
/-- `old_n_global + total_new_nodes` -/
def IdWorld.M (w : IdWorld) : Int := w.old + (w.k.sum : Nat)
def IdWorld.liveOf (w : IdWorld) (r : Nat) : List Int := w.live.getD r []
/-- all unused ids after the shift, in rank order (what the slices gather, up to order) -/
def IdWorld.shiftedUnused (w : IdWorld) : List Int :=
  (w.unused.mapIdx fun r us => us.map (shiftId w.old (w.off r))).flatten
/-- the id of vertex `g` of rank `r` after the call -/
def IdWorld.newId (w : IdWorld) (r : Nat) (g : Int) : Int :=
  elim w.shiftedUnused (shiftId w.old (w.off r) g)
/-- `n_global` after the call -/
def IdWorld.N (w : IdWorld) : Int := w.M - w.shiftedUnused.length

/-- the id invariant maintained by `ref_node_next_global` / `ref_node_remove` between two synchronisations -/
structure IdInv (w : IdWorld) : Prop where
  old_nonneg : 0 ≤ w.old
  live_range : ∀ r g, g ∈ w.liveOf r → 0 ≤ g ∧ g < w.old + (w.kOf r : Nat)
  unused_nodup : w.shiftedUnused.Nodup
  unused_range : ∀ u ∈ w.shiftedUnused, 0 ≤ u ∧ u < w.M
  live_not_unused : ∀ r g, g ∈ w.liveOf r → shiftId w.old (w.off r) g ∉ w.shiftedUnused
  covered : ∀ x, 0 ≤ x → x < w.M → x ∉ w.shiftedUnused →
    ∃ r g, g ∈ w.liveOf r ∧ shiftId w.old (w.off r) g = x

theorem IdWorld.off_eq_prefSum (w : IdWorld) (r : Nat) : w.off r = (prefSum w.kOf r : Nat) := rfl

theorem IdWorld.off_eq_take (w : IdWorld) (r : Nat) : w.off r = ((w.k.take r).sum : Nat) :=
  congrArg Nat.cast (prefSum_getD w.k r)

theorem off_succ (w : IdWorld) (r : Nat) : w.off (r + 1) = w.off r + (w.kOf r : Nat) := by
  rw [IdWorld.off_eq_prefSum, IdWorld.off_eq_prefSum, prefSum_succ, Nat.cast_add]

theorem off_add_le (w : IdWorld) (r : Nat) : w.off r + (w.kOf r : Nat) ≤ (w.k.sum : Nat) := by
  have := List.sum_take_add_sum_drop w.k (r + 1)
  rw [← off_succ, IdWorld.off_eq_take]
  omega

theorem exists_fresh_preimage (w : IdWorld) (x : Int) (h0 : w.old ≤ x) (hM : x < w.M) :
    ∃ r g, w.old ≤ g ∧ g < w.old + (w.kOf r : Nat) ∧ shiftId w.old (w.off r) g = x := by
  have hx : (x - w.old).toNat < prefSum w.kOf w.k.length := by
    have := IdWorld.off_eq_take w w.k.length
    rw [List.take_length, IdWorld.off_eq_prefSum] at this
    unfold IdWorld.M at hM
    omega
  obtain ⟨r, -, h1, h2⟩ := prefSum_locate w.kOf hx
  refine ⟨r, x - w.off r, by rw [IdWorld.off_eq_prefSum]; omega, by rw [IdWorld.off_eq_prefSum]; omega, ?_⟩
  unfold shiftId
  rw [if_pos (by rw [IdWorld.off_eq_prefSum]; omega)]
  omega

theorem off_nonneg (w : IdWorld) (r : Nat) : 0 ≤ w.off r := by unfold IdWorld.off; omega

theorem shiftId_range (w : IdWorld) (r : Nat) (g : Int)
    (hg : 0 ≤ g ∧ g < w.old + (w.kOf r : Nat)) :
    0 ≤ shiftId w.old (w.off r) g ∧ shiftId w.old (w.off r) g < w.M := by
  have h2 := off_add_le w r
  have h3 := off_nonneg w r
  unfold shiftId IdWorld.M
  split <;> constructor <;> omega

theorem shifted_range (w : IdWorld) (h : IdInv w) (r : Nat) (g : Int) (hg : g ∈ w.liveOf r) :
    0 ≤ shiftId w.old (w.off r) g ∧ shiftId w.old (w.off r) g < w.M :=
  shiftId_range w r g (h.live_range r g hg)

theorem shiftId_injective (old off : Int) (hoff : 0 ≤ off) {g g' : Int}
    (h : shiftId old off g = shiftId old off g') : g = g' := by
  rcases lt_trichotomy g g' with hlt | heq | hgt
  · have := shiftId_strictMono old off hoff g g' hlt; omega
  · exact heq
  · have := shiftId_strictMono old off hoff g' g hgt; omega

theorem shift_eq_cases (A : IdWorld) (r q : Nat) (g g' : Int) (hg : g < A.old + (A.kOf r : Nat))
    (hg' : g' < A.old + (A.kOf q : Nat))
    (heq : shiftId A.old (A.off r) g = shiftId A.old (A.off q) g') : g = g' ∧ (g < A.old ∨ r = q) := by
  have hr := off_nonneg A r
  have hq := off_nonneg A q
  by_cases h1 : A.old ≤ g <;> by_cases h2 : A.old ≤ g'
  · rcases Nat.lt_trichotomy r q with hlt | he | hgt
    · have : shiftId A.old (A.off r) g < shiftId A.old (A.off q) g' :=
        shift_disjoint A.old A.kOf r q hlt g g' ⟨h1, hg⟩ h2
      omega
    · subst he
      exact ⟨shiftId_injective _ _ hr heq, Or.inr rfl⟩
    · have : shiftId A.old (A.off q) g' < shiftId A.old (A.off r) g :=
        shift_disjoint A.old A.kOf q r hgt g' g ⟨h2, hg'⟩ h1
      omega
  all_goals
    unfold shiftId at heq
    simp only [ge_iff_le, h1, h2, if_true, if_false] at heq
    omega

theorem newId_strictMono (w : IdWorld) (h : IdInv w) (r : Nat) (g g' : Int) (hg : g ∈ w.liveOf r) (hlt : g < g') :
    w.newId r g < w.newId r g' :=
  elim_strictMono _ h.unused_nodup _ _ (h.live_not_unused r g hg) (shiftId_strictMono _ _ (off_nonneg w r) g g' hlt)

theorem newId_shared (w : IdWorld) (r q : Nat) (g : Int) (hg : g < w.old) : w.newId r g = w.newId q g := by
  unfold IdWorld.newId shiftId
  have : ¬ g ≥ w.old := not_le.2 hg
  rw [if_neg this, if_neg this]

theorem newId_range (w : IdWorld) (h : IdInv w) (r : Nat) (g : Int) (hg : g ∈ w.liveOf r) :
    0 ≤ w.newId r g ∧ w.newId r g < w.N := by
  have hr := shifted_range w h r g hg
  exact ⟨elim_zero _ (fun u hu => (h.unused_range u hu).1) ▸ elim_mono _ h.unused_nodup 0 _ hr.1,
    (elim_strictMono _ h.unused_nodup _ _ (h.live_not_unused r g hg) hr.2).trans_eq
      (elim_top _ w.M fun u hu => (h.unused_range u hu).2)⟩

theorem newId_onto (w : IdWorld) (h : IdInv w) (k : Int) (hk0 : 0 ≤ k) (hk : k < w.N) :
    ∃ r g, g ∈ w.liveOf r ∧ w.newId r g = k := by
  obtain ⟨x, hx0, hxM, hxU, hxk⟩ :=
    elim_surj _ w.M (Int.add_nonneg h.old_nonneg (Int.natCast_nonneg _)) h.unused_range k hk0 hk
  obtain ⟨r, g, hg, hgx⟩ := h.covered x hx0 hxM hxU
  exact ⟨r, g, hg, by unfold IdWorld.newId; rw [hgx]; exact hxk⟩

theorem newId_inj {A : IdWorld} (h : IdInv A) {r q : Nat} {g g' : Int} (hg : g ∈ A.liveOf r)
    (hg' : g' ∈ A.liveOf q) (he : A.newId r g = A.newId q g') : g = g' ∧ (g < A.old ∨ r = q) := by
  have hx := h.live_not_unused r g hg
  have hy := h.live_not_unused q g' hg'
  have : shiftId A.old (A.off r) g = shiftId A.old (A.off q) g' := by
    unfold IdWorld.newId at he
    rcases lt_trichotomy (shiftId A.old (A.off r) g) (shiftId A.old (A.off q) g') with hlt | heq | hgt
    · have := elim_strictMono _ h.unused_nodup _ _ hx hlt; omega
    · exact heq
    · have := elim_strictMono _ h.unused_nodup _ _ hy hgt; omega
  exact shift_eq_cases A r q g g' (h.live_range r g hg).2 (h.live_range q g' hg').2 this

theorem N_nonneg {A : IdWorld} (h : IdInv A) : 0 ≤ A.N := by
  have hM : 0 ≤ A.M := Int.add_nonneg h.old_nonneg (Int.natCast_nonneg _)
  have := elim_mono _ h.unused_nodup 0 A.M hM
  rwa [elim_zero _ fun u hu => (h.unused_range u hu).1, elim_top _ _ fun u hu => (h.unused_range u hu).2] at this

/-! ### `ref_cell_part`: the owner of a cell -/

theorem cellPartNodeGo_spec (gs : List Int) (i : Nat) (small : Int) (best : Nat) (pre : List Int) (hi : i = pre.length)
    (hb : best < pre.length) (hs : pre.getD best 0 = small) (hmin : ∀ x ∈ pre, small ≤ x) :
    cellPartNodeGo gs i small best < (pre ++ gs).length ∧
    ∀ x ∈ pre ++ gs, (pre ++ gs).getD (cellPartNodeGo gs i small best) 0 ≤ x := by
  fun_induction cellPartNodeGo gs i small best generalizing pre with
  | case1 => rw [List.append_nil]; exact ⟨hb, fun x hx => hs ▸ hmin x hx⟩
  | case2 g gs i small best hlt ih =>
    rw [List.append_cons]
    refine ih (pre ++ [g]) (by simp [hi]) (by simp [hi]) ?_ fun x hx => ?_
    · rw [hi, List.getD_eq_getElem?_getD, List.getElem?_concat_length]; rfl
    · rcases List.mem_append.mp hx with hx | hx
      · exact le_trans (le_of_lt hlt) (hmin x hx)
      · rw [List.mem_singleton.mp hx]
  | case3 g gs i small best hge ih =>
    rw [List.append_cons]
    refine ih (pre ++ [g]) (by simp [hi]) (by simp; omega) ?_ fun x hx => ?_
    · rw [List.getD_eq_getElem?_getD, List.getElem?_append_left hb, ← List.getD_eq_getElem?_getD]; exact hs
    · rcases List.mem_append.mp hx with hx | hx
      · exact hmin x hx
      · rw [List.mem_singleton.mp hx]; exact not_lt.mp hge
theorem cellPartNode_min (gs : List Int) (hne : gs ≠ []) :
    cellPartNode gs < gs.length ∧ ∀ x ∈ gs, gs.getD (cellPartNode gs) 0 ≤ x := by
  match gs, hne with
  | g :: rest, _ =>
    exact cellPartNodeGo_spec rest 1 g 0 [g] rfl (Nat.lt_succ_self 0) rfl fun x hx => by
      rw [List.mem_singleton.mp hx]

theorem cellOwner_min (verts : List (Int × Int)) (hne : verts ≠ []) :
    ∃ v ∈ verts, cellOwner verts = v.2 ∧ ∀ u ∈ verts, v.1 ≤ u.1 := by
  have hne' : verts.map (·.1) ≠ [] := by simpa using hne
  obtain ⟨hlt, hmin⟩ := cellPartNode_min (verts.map (·.1)) hne'
  rw [List.length_map] at hlt
  refine ⟨verts[cellPartNode (verts.map (·.1))], List.getElem_mem hlt, ?_, ?_⟩
  · unfold cellOwner
    rw [List.getD_eq_getElem?_getD, List.getElem?_eq_getElem hlt]; rfl
  · intro u hu
    have := hmin u.1 (List.mem_map_of_mem hu)
    rw [List.getD_eq_getElem?_getD, List.getElem?_eq_getElem (by simpa using hlt)] at this
    simpa using this

end Refine.Lemmas.Dist
