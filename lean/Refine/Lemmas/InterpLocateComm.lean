import Refine.Lemmas.InterpLocate
import Refine.Lemmas.CommExchange

/-!
  Every exchange of `ref_interp_locate` is a number of `ref_mpi_blindsend`s, one per field of a record (the fields have
  different `REF_TYPE`s and `ldim`s).  `blindItems` is one such send and rests on `Comm.blindsend_items`
  (Lemmas/CommExchange.lean): rank `r` gets that field of the records addressed to `r`, by source rank and then in the source's
  order (`blindItems_field_spec`).  Zipping the fields back gives the records: `exchangeLocated_spec` for the located
  records of stage 1 / 3, `migrate_spec` for the agents of `ref_agents_migrate` (with `unpack_pack`: an agent survives its three records).
  `_spec` reads a successful call; its twin `_ok` shows the call succeeds, with that value, under the two guards of the model:
  destinations are ranks, the record count fits an `int`.  For the single send both are one iff, `blindItems_eq_ok`.
-/

namespace Refine.Lemmas.InterpLocate
open Refine Refine.Model.Geom Refine.Model.Interp Refine.Model.InterpLocate Refine.Model.Comm Refine.Lemmas.Comm
open Refine.Gen

/-- the records of one sender addressed to `r`, in the sender's order.  `pick` / `deliveredG` are the names under which
    `Props/C11Locate.lean` states the migration: `Comm.sentTo` / `Comm.arrive` (Lemmas/CommPack.lean), whose lemmas
    (Lemmas/CommExchange.lean) the proofs here use -/
def pick {γ : Type} (r : Nat) (l : List (Nat × γ)) : List γ := (l.filter fun x => x.1 == r).map (·.2)

/-- all records addressed to `r`: by source rank, then in the source's order -/
def deliveredG {γ : Type} (r : Nat) (w : World (List (Nat × γ))) : List γ := w.flatMap (pick r)

theorem pick_eq_sentTo {γ : Type} (r : Nat) (l : List (Nat × γ)) : pick r l = sentTo r l := rfl

theorem deliveredG_eq_arrive {γ : Type} (r : Nat) (w : World (List (Nat × γ))) : deliveredG r w = arrive r w := rfl

theorem packed_lengths {γ β : Type} (f : γ → List β) (k : Nat) (hf : ∀ a, (f a).length = k)
    (W : World (List (Nat × γ))) :
    ∀ ps ∈ W.map (fun l => l.map fun y => (y.1, f y.2)), ∀ x ∈ ps, x.2.length = k := by
  intro ps hps x hx
  obtain ⟨l, _, rfl⟩ := List.mem_map.mp hps
  obtain ⟨y, _, rfl⟩ := List.mem_map.mp hx
  exact hf y.2

theorem packed_dests {γ β : Type} (f : γ → List β) (n : Nat) (W : World (List (Nat × γ)))
    (hd : ∀ ps ∈ W, ∀ x ∈ ps, x.1 < n) :
    ∀ ps ∈ W.map (fun l => l.map fun y => (y.1, f y.2)), ∀ x ∈ ps, x.1 < n := by
  intro ps hps x hx
  obtain ⟨l, hl, rfl⟩ := List.mem_map.mp hps
  obtain ⟨y, hy, rfl⟩ := List.mem_map.mp hx
  exact hd l hl y hy

theorem chunks_flatten {β : Type} (ldim : Nat) (L : List (List β)) (h : ∀ x ∈ L, x.length = ldim) :
    chunks ldim L.length L.flatten = L :=
  ListFacts.chunks_flatten_of (fun _ => rfl) (fun _ _ => rfl) L h

theorem sum_lengths {β : Type} (w : List (List β)) : (w.map List.length).foldl (· + ·) 0 = w.flatten.length := by
  rw [← List.sum_eq_foldl, List.length_flatten]

theorem blindItems_eq_ok {β : Type} [Inhabited β] (ty : RefType) (hty : ty.ild = true) (ldim : Nat)
    (w : World (List (Nat × List β))) (hi : ∀ ps ∈ w, ∀ x ∈ ps, x.2.length = ldim) {res : World (List (List β))} :
    blindItems ty ldim w = .ok res ↔ (∀ ps ∈ w, ∀ x ∈ ps, x.1 < w.length) ∧
      (ldim : Int) * (w.flatten.length : Nat) ≤ INT_MAX ∧ res = (List.range w.length).map fun r => delivered r w := by
  have g1 : (w.any fun ps => ps.any fun x => decide (w.length ≤ x.1)) = true ↔ ¬ ∀ ps ∈ w, ∀ x ∈ ps, x.1 < w.length := by
    simp only [List.any_eq_true, decide_eq_true_eq, not_forall, Nat.not_lt, exists_prop]
  unfold blindItems
  rw [sum_lengths]
  simp only [g1, decide_eq_true_eq, ← Int.not_le]
  by_cases hd : ∀ ps ∈ w, ∀ x ∈ ps, x.1 < w.length
  swap
  · rw [if_pos hd]
    exact ⟨nofun, fun h => absurd h.1 hd⟩
  by_cases hsz : (ldim : Int) * (w.flatten.length : Nat) ≤ INT_MAX
  swap
  · rw [if_neg (fun h => h hd), if_pos hsz]
    exact ⟨nofun, fun h => absurd h.2.1 hsz⟩
  have hform : (w.map fun ps => (⟨ps.map fun x => (x.1 : Int), (ps.map (·.2)).flatten⟩ : Blind β))
      = w.map fun ps => ⟨ps.map fun x => (x.1 : Int), ps.flatMap fun x => id x.2⟩ := by
    simp only [List.flatMap_def, id]
  rw [if_neg (fun h => h hd), if_neg (fun h => h hsz), hform, blindsend_items false ty hty 32767 ldim id w hd hi nofun (fun _ => hsz)]
  simp only []
  rw [if_pos (all_ok_map _ _)]
  simp only [List.map_map, Function.comp_def, Int.toNat_natCast]
  rw [Except.ok.injEq, eq_comm, and_iff_right hd, and_iff_right hsz]
  refine Eq.congr_right (List.map_congr_left fun r _ => ?_)
  have hr : ∀ x ∈ arrive r w, x.length = ldim := fun x hx => by
    obtain ⟨l, hl, hx⟩ := mem_arrive.mp hx
    exact hi l hl _ hx
  rw [List.flatMap_def, List.map_id, chunks_flatten ldim _ hr]
  rfl

theorem blindItems_field_spec {γ β : Type} [Inhabited β] (ty : RefType) (hty : ty.ild = true) (k : Nat) (f : γ → List β)
    (hf : ∀ a, (f a).length = k) (W : World (List (Nat × γ))) {res : World (List (List β))}
    (h : blindItems ty k (W.map fun l => l.map fun y => (y.1, f y.2)) = .ok res) :
    res = (List.range W.length).map fun r => (deliveredG r W).map f := by
  rw [((blindItems_eq_ok ty hty k _ (packed_lengths f k hf W)).1 h).2.2, List.length_map]
  exact List.map_congr_left fun r _ => arrive_map f r W

theorem blindItems_field_ok {γ β : Type} [Inhabited β] (ty : RefType) (hty : ty.ild = true) (k : Nat) (f : γ → List β)
    (hf : ∀ a, (f a).length = k) (W : World (List (Nat × γ))) (hd : ∀ ps ∈ W, ∀ x ∈ ps, x.1 < W.length)
    (hsz : (k : Int) * (W.flatten.length : Nat) ≤ INT_MAX) :
    blindItems ty k (W.map fun l => l.map fun y => (y.1, f y.2)) =
      .ok ((List.range W.length).map fun r => (deliveredG r W).map f) := by
  have flen : (W.map fun l => l.map fun y => (y.1, f y.2)).flatten.length = W.flatten.length := by
    simp only [List.length_flatten, List.map_map]
    congr 1
    exact List.map_congr_left fun l _ => by simp
  rw [(blindItems_eq_ok ty hty k _ (packed_lengths f k hf W)).2
    ⟨by rw [List.length_map]; exact packed_dests f _ W hd, by rw [flen]; exact hsz, rfl⟩, List.length_map]
  exact congrArg _ (List.map_congr_left fun r _ => arrive_map f r W)

section Exchange
variable {α : Type}

/-- the world of `(destination, record)` pairs behind an `exchangeLocated` -/
def locatedPairs (w : World (List (Located α))) : World (List (Nat × Located α)) :=
  w.map fun l => l.map fun x => (x.dest, x)

/-- the four exchanged fields of the records addressed to every rank, zipped and read back item by item, are the records -/
theorem located_reassemble (W : World (List (Nat × Located α))) (n : Nat) :
    ((((List.range n).map fun r => (deliveredG r W).map fun x => [x.node]).zip
      (((List.range n).map fun r => (deliveredG r W).map fun x => [x.cell]).zip
       (((List.range n).map fun r => (deliveredG r W).map fun x => [x.proc]).zip
        ((List.range n).map fun r => (deliveredG r W).map fun x => x.bary.toList)))).map fun q =>
      (q.1.zip (q.2.1.zip (q.2.2.1.zip q.2.2.2))).map fun it =>
        (it.1.getD 0 refEmpty, it.2.1.getD 0 refEmpty, it.2.2.1.getD 0 refEmpty, Slots.ofList it.2.2.2)) =
    (List.range n).map fun r => (deliveredG r W).map fun x => (x.node, x.cell, x.proc, x.bary) := by
  rw [List.zip_map', List.zip_map', List.zip_map', List.map_map]
  apply List.map_congr_left
  intro r _
  simp only [Function.comp]
  rw [List.zip_map', List.zip_map', List.zip_map', List.map_map]
  apply List.map_congr_left
  intro x _
  simp [Function.comp]

/-- the fields as `exchangeLocated` hands them to `blindItems`, over the world of `(destination, record)` pairs -/
theorem located_field {β : Type} (w : World (List (Located α))) (f : Located α → List β) :
    (w.map fun l => l.map fun x => (x.dest, f x)) = (locatedPairs w).map fun l => l.map fun y => (y.1, f y.2) := by
  simp [locatedPairs, List.map_map, Function.comp]

/-- a successful `exchangeLocated`: rank `r` gets exactly the records addressed to it (node, cell, proc and the four
    slots of each record together), by source rank and then in the source's order -/
theorem exchangeLocated_spec (w : World (List (Located α))) {res : World (List (Int × Int × Int × Slots α))}
    (h : exchangeLocated w = .ok res) :
    res = (List.range w.length).map fun r =>
      (deliveredG r (locatedPairs w)).map fun x => (x.node, x.cell, x.proc, x.bary) := by
  unfold exchangeLocated at h
  rw [located_field w fun x => [x.node], located_field w fun x => [x.cell], located_field w fun x => [x.proc],
    located_field w fun x => x.bary.toList] at h
  split at h
  · rename_i ns cs ps bs h1 h2 h3 h4
    have hlen : (locatedPairs w).length = w.length := by simp [locatedPairs]
    rw [blindItems_field_spec RefType.int rfl 1 (fun x : Located α => [x.node]) (fun _ => rfl) _ h1,
      blindItems_field_spec RefType.int rfl 1 (fun x : Located α => [x.cell]) (fun _ => rfl) _ h2,
      blindItems_field_spec RefType.int rfl 1 (fun x : Located α => [x.proc]) (fun _ => rfl) _ h3,
      blindItems_field_spec RefType.dbl rfl 4 (fun x : Located α => x.bary.toList) (fun x => toList_length x.bary) _ h4,
      hlen] at h
    exact (Except.ok.inj h).symm.trans (located_reassemble _ _)
  · cases h
  · cases h
  · cases h
  · cases h

theorem exchangeLocated_ok (w : World (List (Located α))) (hd : ∀ ps ∈ locatedPairs w, ∀ x ∈ ps, x.1 < (locatedPairs w).length)
    (hsz : ((4 : Nat) : Int) * ((locatedPairs w).flatten.length : Nat) ≤ INT_MAX) :
    exchangeLocated w = .ok ((List.range w.length).map fun r =>
      (deliveredG r (locatedPairs w)).map fun x => (x.node, x.cell, x.proc, x.bary)) := by
  have hlen : (locatedPairs w).length = w.length := by simp [locatedPairs]
  have h1 : ((1 : Nat) : Int) * ((locatedPairs w).flatten.length : Nat) ≤ INT_MAX := by omega
  unfold exchangeLocated
  rw [located_field w fun x => [x.node], located_field w fun x => [x.cell], located_field w fun x => [x.proc],
    located_field w fun x => x.bary.toList,
    blindItems_field_ok RefType.int rfl 1 (fun x : Located α => [x.node]) (fun _ => rfl) _ hd h1,
    blindItems_field_ok RefType.int rfl 1 (fun x : Located α => [x.cell]) (fun _ => rfl) _ hd h1,
    blindItems_field_ok RefType.int rfl 1 (fun x : Located α => [x.proc]) (fun _ => rfl) _ hd h1,
    blindItems_field_ok RefType.dbl rfl 4 (fun x : Located α => x.bary.toList) (fun x => toList_length x.bary) _ hd hsz, hlen]
  exact congrArg Except.ok (located_reassemble _ _)

/-- every record rank `r` receives was addressed to `r` by the rank `r2` that sent it, unchanged -/
theorem exchangeLocated_mem {w : World (List (Located α))} {res : World (List (Int × Int × Int × Slots α))}
    (h : exchangeLocated w = .ok res) {r : Nat} {items : List (Int × Int × Int × Slots α)} (hr : res[r]? = some items)
    {it : Int × Int × Int × Slots α} (hit : it ∈ items) :
    ∃ (r2 : Nat) (l : List (Located α)) (x : Located α),
      w[r2]? = some l ∧ x ∈ l ∧ x.dest = r ∧ it = (x.node, x.cell, x.proc, x.bary) := by
  rw [exchangeLocated_spec w h, List.getElem?_map] at hr
  simp only [Option.map_eq_some_iff] at hr
  obtain ⟨r', hr', rfl⟩ := hr
  obtain ⟨_, hval⟩ := List.getElem?_eq_some_iff.mp hr'
  obtain rfl : r' = r := by rw [← hval, List.getElem_range]
  simp only [List.mem_map] at hit
  obtain ⟨x, hx, rfl⟩ := hit
  obtain ⟨l, hl, hxl⟩ := mem_arrive.mp hx
  simp only [locatedPairs, List.mem_map] at hl
  obtain ⟨l0, hl0, rfl⟩ := hl
  simp only [List.mem_map, Prod.mk.injEq] at hxl
  obtain ⟨y, hy, hyd, rfl⟩ := hxl
  obtain ⟨r2, hr2lt, hr2⟩ := List.mem_iff_getElem.mp hl0
  exact ⟨r2, l0, y, by rw [← hr2]; exact List.getElem?_eq_getElem hr2lt, hy, hyd, rfl⟩

end Exchange

section Migrate
variable {α : Type} [Scalar α]

theorem ofCode_code (m : AMode) : AMode.ofCode m.code = some m := by
  cases m <;> decide

/-- `ref_agents_migrate`, one agent: unpacking its three send records gives the agent back — mode, home, node, part,
    seed, step (the six integers in the order of the C text), the global, the target point and ALL FOUR weight slots
    (a never-written slot stays never written) -/
theorem unpack_pack (a : AgentP α) :
    unpackAgent (packAgent a).1 (packAgent a).2.1 (packAgent a).2.2 = some a := by
  obtain ⟨mode, home, node, part, seed, glob, step, xyz, bary⟩ := a
  obtain ⟨x, y, z⟩ := xyz
  obtain ⟨s0, s1, s2, s3⟩ := bary
  simp only [unpackAgent, packAgent, InterpConsts.packInts, InterpConsts.unpackInts, InterpConsts.nDbls,
    InterpConsts.packXyz, InterpConsts.packBary, InterpConsts.packBaryOffset, InterpConsts.unpackXyz,
    InterpConsts.unpackBary, InterpConsts.unpackBaryOffset, fieldOf, AgentP.intField, Slots.toList, List.map_cons,
    List.map_nil]
  have i0 : List.findIdx (fun x => x == "mode") ["mode", "home", "node", "part", "seed", "step"] = 0 := by decide
  have i1 : List.findIdx (fun x => x == "home") ["mode", "home", "node", "part", "seed", "step"] = 1 := by decide
  have i2 : List.findIdx (fun x => x == "node") ["mode", "home", "node", "part", "seed", "step"] = 2 := by decide
  have i3 : List.findIdx (fun x => x == "part") ["mode", "home", "node", "part", "seed", "step"] = 3 := by decide
  have i4 : List.findIdx (fun x => x == "seed") ["mode", "home", "node", "part", "seed", "step"] = 4 := by decide
  have i5 : List.findIdx (fun x => x == "step") ["mode", "home", "node", "part", "seed", "step"] = 5 := by decide
  simp [i0, i1, i2, i3, i4, i5, ofCode_code, writeAt, List.replicate, Slots.ofList, Slots.copyN, refEmpty]

theorem packAgent_lengths (a : AgentP α) :
    (packAgent a).1.length = InterpConsts.nInts ∧ (packAgent a).2.1.length = InterpConsts.nGlobs ∧
      (packAgent a).2.2.length = InterpConsts.nDbls := by
  obtain ⟨mode, home, node, part, seed, glob, step, xyz, bary⟩ := a
  obtain ⟨x, y, z⟩ := xyz
  obtain ⟨s0, s1, s2, s3⟩ := bary
  simp [packAgent, InterpConsts.packInts, InterpConsts.nInts, InterpConsts.nGlobs, InterpConsts.nDbls,
    InterpConsts.packXyz, InterpConsts.packBary, InterpConsts.packBaryOffset, writeAt, List.replicate, Slots.toList]

/-- the agents that leave, with their destination rank -/
def outPairs (w : World (Agents α)) : World (List (Nat × AgentP α)) :=
  (w.mapIdx fun r a => leaving r a).map fun l => l.map fun p => (p.2.dest.toNat, p.2)

/-- what stays on every rank: the leaving slots are removed by increasing slot -/
def staysOf (w : World (Agents α)) : World (Agents α) :=
  (w.zip (w.mapIdx fun r a => leaving r a)).map fun q => (q.2.map (·.1)).foldl Agents.remove q.1

theorem receiveAgents_packed (a : Agents α) (l : List (AgentP α)) :
    receiveAgents a (l.map fun x => ((packAgent x).1, (packAgent x).2.1, (packAgent x).2.2)) =
      .ok (l.foldl (fun a ag => (a.push ag).2) a) := by
  induction l generalizing a with
  | nil => rfl
  | cons x rest ih =>
    simp only [receiveAgents, List.map_cons, List.foldlM, List.foldl_cons] at ih ⊢
    rw [unpack_pack]
    simp only [bind, Except.bind]
    exact ih _

theorem collect_map_ok {β γ : Type} (l : List β) (g : β → γ) :
    collect (l.map fun q => (Except.ok (g q) : Except ISt γ)) = .ok (l.map g) := by
  induction l with
  | nil => rfl
  | cons x rest ih => simp [collect, ih, Except.map]

theorem zip_range_map {β γ : Type} (l : List β) (F : Nat → γ) :
    l.zip ((List.range l.length).map F) = l.zipIdx.map fun q => (q.1, F q.2) := by
  rw [List.zip_map_right, List.zipIdx_eq_zip_range', List.range_eq_range']
  rfl

/-- the receive side of `ref_agents_migrate` on every rank, fed with what the three exchanges deliver to it: one new agent
    per agent addressed to the rank, each equal to the agent that was packed (`receiveAgents_packed`) -/
theorem receive_world (w : World (Agents α)) :
    collect (((staysOf w).zip
      (((List.range w.length).map fun r => (deliveredG r (outPairs w)).map fun a => (packAgent a).1).zip
       (((List.range w.length).map fun r => (deliveredG r (outPairs w)).map fun a => (packAgent a).2.1).zip
        ((List.range w.length).map fun r => (deliveredG r (outPairs w)).map fun a => (packAgent a).2.2)))).map
      fun q => receiveAgents q.1 (q.2.1.zip (q.2.2.1.zip q.2.2.2))) =
    .ok ((staysOf w).zipIdx.map fun q => (deliveredG q.2 (outPairs w)).foldl (fun a ag => (a.push ag).2) q.1) := by
  have hsl : (staysOf w).length = w.length := by simp [staysOf]
  rw [List.zip_map', List.zip_map', ← hsl, zip_range_map, List.map_map, ← collect_map_ok]
  congr 1
  apply List.map_congr_left
  intro q _
  simp only [Function.comp]
  rw [List.zip_map', List.zip_map']
  exact receiveAgents_packed q.1 _

/-- `ref_agents_migrate`: on every rank the agents that stay, then one new agent per record addressed to the rank, in
    (source rank, slot) order — each one equal to the agent that was packed (`unpack_pack`) -/
theorem migrate_spec (w : World (Agents α)) {w' : World (Agents α)} (h : migrate w = .ok w') :
    w' = (staysOf w).zipIdx.map fun q => (deliveredG q.2 (outPairs w)).foldl (fun a ag => (a.push ag).2) q.1 := by
  unfold migrate at h
  simp only at h
  split at h
  · cases h
  · split at h
    · rename_i ints globs dbls h1 h2 h3
      have hl : (outPairs w).length = w.length := by simp [outPairs]
      have e1 := blindItems_field_spec RefType.int rfl _ (fun a => (packAgent a).1)
        (fun a => (packAgent_lengths a).1) (outPairs w) h1
      have e2 := blindItems_field_spec RefType.long rfl _ (fun a => (packAgent a).2.1)
        (fun a => (packAgent_lengths a).2.1) (outPairs w) h2
      have e3 := blindItems_field_spec RefType.dbl rfl _ (fun a => (packAgent a).2.2)
        (fun a => (packAgent_lengths a).2.2) (outPairs w) h3
      rw [e1, e2, e3, hl] at h
      exact (Except.ok.inj ((receive_world w).symm.trans h)).symm
    · cases h
    · cases h
    · cases h

/-- **`ref_agents_migrate` SUCCEEDS** when every leaving agent's destination is a rank and at most `INT_MAX / 7` agents
    (7 = `n_dbls`, the widest of the three records) leave in total: the result is the one `migrate_spec` describes -/
theorem migrate_ok (w : World (Agents α))
    (hdest : ∀ l ∈ (w.mapIdx fun r a => leaving r a), ∀ p ∈ l, 0 ≤ p.2.dest ∧ p.2.dest < (w.length : Int))
    (hsz : (7 : Int) * ((outPairs w).flatten.length : Nat) ≤ INT_MAX) :
    migrate w = .ok ((staysOf w).zipIdx.map fun q =>
      (deliveredG q.2 (outPairs w)).foldl (fun a ag => (a.push ag).2) q.1) := by
  have hol : (outPairs w).length = w.length := by simp [outPairs]
  have hd : ∀ ps ∈ outPairs w, ∀ x ∈ ps, x.1 < (outPairs w).length := by
    intro ps hps x hx
    simp only [outPairs, List.mem_map] at hps
    obtain ⟨l, hl, rfl⟩ := hps
    simp only [List.mem_map] at hx
    obtain ⟨p, hp, rfl⟩ := hx
    obtain ⟨h0, h1⟩ := hdest l hl p hp
    rw [hol]
    simp only
    omega
  have hguard : ((w.mapIdx fun r a => leaving r a).any fun l =>
      l.any fun p => decide (p.2.dest < 0) || decide (p.2.dest ≥ (w.length : Int))) = false := by
    rw [Bool.eq_false_iff]
    intro hc
    simp only [List.any_eq_true, Bool.or_eq_true, decide_eq_true_eq] at hc
    obtain ⟨l, hl, p, hp, hbad⟩ := hc
    obtain ⟨h0, h1⟩ := hdest l hl p hp
    rcases hbad with hb | hb <;> omega
  have hsz' : ∀ k : Nat, k ≤ 7 → (k : Int) * ((outPairs w).flatten.length : Nat) ≤ INT_MAX := by
    intro k hk
    have : (k : Int) * ((outPairs w).flatten.length : Nat) ≤ (7 : Int) * ((outPairs w).flatten.length : Nat) :=
      Int.mul_le_mul_of_nonneg_right (by exact_mod_cast hk) (Int.natCast_nonneg _)
    exact Int.le_trans this hsz
  have r1 := blindItems_field_ok RefType.int rfl InterpConsts.nInts (fun a : AgentP α => (packAgent a).1)
    (fun a => (packAgent_lengths a).1) (outPairs w) hd (hsz' _ (by decide))
  have r2 := blindItems_field_ok RefType.long rfl InterpConsts.nGlobs (fun a : AgentP α => (packAgent a).2.1)
    (fun a => (packAgent_lengths a).2.1) (outPairs w) hd (hsz' _ (by decide))
  have r3 := blindItems_field_ok RefType.dbl rfl InterpConsts.nDbls (fun a : AgentP α => (packAgent a).2.2)
    (fun a => (packAgent_lengths a).2.2) (outPairs w) hd (hsz' _ (by decide))
  unfold migrate
  simp only [hguard, Bool.false_eq_true, if_false]
  have ho : List.map (fun l => List.map (fun p => (p.2.dest.toNat, p.2)) l)
      (List.mapIdx (fun r a => leaving r a) w) = outPairs w := rfl
  rw [ho, r1, r2, r3, hol]
  exact receive_world w

/-- `ref_agents_migrate` keeps every clause on agents: what a rank holds afterwards stayed there or was sent to it, unchanged -/
theorem migrate_agentsOK {QA : AgentP α → Prop} {w w' : World (Agents α)} (hw : ∀ a ∈ w, AgentsOK QA a)
    (h : migrate w = .ok w') : ∀ a' ∈ w', AgentsOK QA a' := by
  rw [migrate_spec w h]
  intro a' ha
  obtain ⟨q, hq, rfl⟩ := List.mem_map.mp ha
  refine List.foldlRecOn _ _ ?_ fun b hb x hx => hb.push ?_
  · -- what stays: some rank's agents with slots removed
    have hq1 : q.1 ∈ staysOf w := by
      have := List.mem_zipIdx hq
      simp only [Nat.zero_add, Nat.sub_zero] at this
      rw [this.2.2]
      exact List.getElem_mem _
    simp only [staysOf, List.mem_map] at hq1
    obtain ⟨z, hz, hzq⟩ := hq1
    rw [← hzq]
    exact List.foldlRecOn _ _ (hw z.1 (List.of_mem_zip hz).1) fun _ hb id _ => hb.remove id
  · -- what arrives: an agent of the rank that sent it
    obtain ⟨l, hl, hx⟩ := mem_arrive.mp hx
    simp only [outPairs, List.mem_map] at hl
    obtain ⟨l0, hl0, rfl⟩ := hl
    simp only [List.mem_map, Prod.mk.injEq] at hx
    obtain ⟨y, hy, _, rfl⟩ := hx
    obtain ⟨r, hr, rfl⟩ := List.mem_mapIdx.mp hl0
    exact hw w[r] (List.getElem_mem _) y (List.mem_filter.mp hy).1

/-- no agent is invented or altered by a migration: every agent of the new world is an agent of the old one -/
theorem migrate_mem {w w' : World (Agents α)} (h : migrate w = .ok w') {a' : Agents α} (ha : a' ∈ w')
    {p : Nat × AgentP α} (hp : p ∈ a'.act) : ∃ a ∈ w, ∃ q ∈ a.act, q.2 = p.2 :=
  migrate_agentsOK (QA := fun x => ∃ a ∈ w, ∃ q ∈ a.act, q.2 = x) (fun a ha q hq => ⟨a, ha, q, hq, rfl⟩) h a' ha p hp

end Migrate

end Refine.Lemmas.InterpLocate
