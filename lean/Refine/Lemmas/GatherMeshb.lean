import Refine.Lemmas.ParGather
import Refine.Model.GatherMeshb
import Refine.Lemmas.ParCell
import Refine.Lemmas.CodecRoundtrip

/-!
  `ref_gather_meshb` (model `Refine.Model.GatherMeshb`) lays out exactly the file the serial writer's model
  `encodeMeshb` produces for the GATHERED mesh `globalMesh d`: vertices by global id, the cells of every group in
  (emitting rank, local order) order, the association records of every type in (emitting rank, local order) order,
  rank 0's CAD bytes.
-/
namespace Refine.Lemmas.GatherMeshb
open Refine.Model.Meshb Refine.Model.Par Refine.Model.GatherMeshb Refine.Lemmas.Par Refine.Lemmas.Codec Refine.Gen

/-- a 2-D file stores no z -/
def flat (twod : Bool) (p : Vertex) : Vertex := if twod then ⟨p.x, p.y, 0⟩ else p

/-- the record as the file can hold it: node records (type 0) store neither parameters nor gref (the reader sets
    gref = id), edge records one parameter -/
def toRec (g : LGeom) : GeomRec :=
  { type := g.type, id := g.id, gref := if 0 < g.type then g.gref else g.id, node := (g.node : Int),
    p0 := if 0 < g.type then g.p0 else 0, p1 := if 1 < g.type then g.p1 else 0 }

/-- the records of type `t` the ranks `r, r+1, …` contribute, in (rank, local) order -/
def ownedGeomsFrom (t : Nat) : Nat → List Rank → List LGeom
  | _, [] => []
  | r, rk :: rest => geomsOwnedOf t r rk ++ ownedGeomsFrom t (r + 1) rest

def gatheredNodes (d : Dist) : List Vertex :=
  (List.range d.nglobal).map fun g => flat d.twod (payloadAt vzero (d.ranks.map nodeView) g)

def gatheredCells (d : Dist) : List (List (List Int)) :=
  cellInfos.zipIdx.map fun p => (gatherCell (d.ranks.map (cellView p.2))).map (packCell p.1)

def gatheredGeoms (d : Dist) : List GeomRec :=
  [0, 1, 2].flatMap fun t => (ownedGeomsFrom t 0 d.ranks).map toRec

/-- the mesh the parallel writer puts in the file -/
def globalMesh (d : Dist) : MeshFile :=
  { twod := d.twod, nodes := gatheredNodes d, cells := gatheredCells d, geoms := gatheredGeoms d, cad := cadOf d.ranks }

theorem alwaysId_true : GatherMeshb.alwaysId = true := by decide
theorem gatherCell0_eq : PyrPerm.gatherCell0 = PyrPerm.exportMeshb := by decide
theorem gatherCell1_eq : PyrPerm.gatherCell1 = PyrPerm.exportMeshb := by decide

theorem packCell_take (ci : CellInfo) (c : GCell) (h : c.nodes.length = ci.nodePer) :
    (packCell ci c).take ci.nodePer = c.nodes.map fun (g : Nat) => (g : Int) := by
  unfold packCell
  rw [List.take_left' (by simpa using h)]

theorem packCell_getD (ci : CellInfo) (c : GCell) (h : c.nodes.length = ci.nodePer) (hl : ci.lastId = true) :
    (packCell ci c).getD ci.nodePer 0 = c.id := by
  unfold packCell
  rw [hl, List.getD_eq_getElem?_getD, List.getElem?_append_right (by simp [h])]
  simp [h]

/-- FIRST copy (rank 0's own cells) writes the serial writer's record -/
theorem cellRecordOwn_eq (ci : CellInfo) (c : GCell) (h : c.nodes.length = ci.nodePer) :
    cellRecordOwn ci c = cellRecord ci (packCell ci c) := by
  unfold cellRecordOwn cellRecord fileNodes
  rw [packCell_take ci c h, alwaysId_true, gatherCell0_eq, List.map_map]
  by_cases hl : ci.lastId = true
  · rw [packCell_getD ci c h hl]; simp [hl]; rfl
  · simp [hl]; rfl

/-- SECOND copy (cells received from a worker) writes the serial writer's record -/
theorem cellRecordRecv_eq (ci : CellInfo) (c : GCell) :
    cellRecordRecv ci (packCell ci c) = cellRecord ci (packCell ci c) := by
  unfold cellRecordRecv cellRecord fileNodes
  rw [alwaysId_true, gatherCell1_eq]
  simp

theorem cellBytesFrom_eq (v : Nat) (ci : CellInfo) (k : Nat) (ranks : List Rank)
    (hshape : ∀ rk ∈ ranks, ∀ c ∈ rk.cells.getD k [], c.nodes.length = ci.nodePer) (r : Nat) :
    cellBytesFrom v ci k r ranks
      = (((emittedFrom r (ranks.map (cellView k))).flatten).map (packCell ci)).flatMap (encCell v ci) := by
  induction ranks generalizing r with
  | nil => simp [cellBytesFrom, emittedFrom]
  | cons rk rest ih =>
    have hrest : ∀ rk' ∈ rest, ∀ c ∈ rk'.cells.getD k [], c.nodes.length = ci.nodePer :=
      fun rk' h => hshape rk' (List.mem_cons_of_mem _ h)
    have hmem : ∀ c ∈ emitted r (cellView k rk), c.nodes.length = ci.nodePer := by
      intro c hc
      unfold emitted at hc
      exact hshape rk List.mem_cons_self c (List.mem_filter.1 hc).1
    simp only [cellBytesFrom, List.map_cons, emittedFrom, List.flatten_cons, List.map_append, List.flatMap_append]
    rw [ih hrest (r + 1)]
    congr 1
    by_cases h0 : r = 0
    · simp only [h0, if_true, List.flatMap_map]
      subst h0
      apply List.flatMap_congr
      intro c hc
      rw [encRecord, cellRecordOwn_eq ci c (hmem c hc), encCell_eq]
    · simp only [h0, if_false, List.flatMap_map]
      apply List.flatMap_congr
      intro c _
      rw [encRecord, cellRecordRecv_eq, encCell_eq]

theorem ncell_eq_length {α : Type} (w : List (RankView α)) : ncell w = (gatherCell w).length := by
  unfold ncell gatherCell
  exact List.length_flatten.symm

theorem ngeomFrom_eq (t r : Nat) (ranks : List Rank) : ngeomFrom t r ranks = (ownedGeomsFrom t r ranks).length := by
  induction ranks generalizing r with
  | nil => rfl
  | cons rk rest ih => simp [ngeomFrom, ownedGeomsFrom, ih]

theorem geomsOwnedOf_type {t r : Nat} {rk : Rank} {g : LGeom} (h : g ∈ geomsOwnedOf t r rk) : g.type = t := by
  unfold geomsOwnedOf at h
  have := (List.mem_filter.1 h).2
  simp only [Bool.and_eq_true, beq_iff_eq] at this
  exact this.1

theorem ownedGeomsFrom_type {t r : Nat} {ranks : List Rank} {g : LGeom} (h : g ∈ ownedGeomsFrom t r ranks) :
    g.type = t := by
  induction ranks generalizing r with
  | nil => simp [ownedGeomsFrom] at h
  | cons rk rest ih =>
    simp only [ownedGeomsFrom, List.mem_append] at h
    rcases h with h | h
    · exact geomsOwnedOf_type h
    · exact ih h

/-- FIRST record writer (rank 0's own records) writes the serial writer's record -/
theorem encGeomOwn_eq (v : Nat) (g : LGeom) : encGeomOwn v g.type g = encGeom v g.type (toRec g) := by
  unfold encGeomOwn encGeom toRec
  by_cases h0 : 0 < g.type <;> by_cases h1 : 1 < g.type <;> simp [h0, h1]

/-- SECOND record writer (records received from a worker) writes the serial writer's record, when the id is a
    `REF_INT` (the `(REF_INT)node_id[1 + 3 * geom]` cast is then the identity) -/
theorem encGeomRecv_eq (v : Nat) (g : LGeom) (hid : wrap32 g.id = g.id) :
    encGeomRecv v g.type (packGeom g.type g) = encGeom v g.type (toRec g) := by
  have hn : (packGeom g.type g).nodeId = [(g.node : Int), g.id, g.gref] := by
    unfold packGeom
    simp [show GatherMeshb.packNodeCol = 0 by decide, show GatherMeshb.packIdCol = 1 by decide,
      show GatherMeshb.packGrefCol = 2 by decide, List.replicate]
  unfold encGeomRecv encGeom toRec
  rw [hn]
  have hq : (packGeom g.type g).q0 = (if 0 < g.type then g.p0 else 0) ∧
      (packGeom g.type g).q1 = (if 1 < g.type then g.p1 else 0) := ⟨rfl, rfl⟩
  rw [hq.1, hq.2]
  simp only [show GatherMeshb.recvNodeCol = 0 by decide, show GatherMeshb.recvIdCol = 1 by decide,
    show GatherMeshb.recvGrefCol = 2 by decide]
  by_cases h0 : 0 < g.type <;> by_cases h1 : 1 < g.type <;> simp [h0, h1, hid]

theorem geomBytesFrom_eq (v t : Nat) (ranks : List Rank)
    (hid : ∀ rk ∈ ranks, ∀ g ∈ rk.geoms, wrap32 g.id = g.id) (r : Nat) :
    geomBytesFrom v t r ranks = ((ownedGeomsFrom t r ranks).map toRec).flatMap (encGeom v t) := by
  induction ranks generalizing r with
  | nil => simp [geomBytesFrom, ownedGeomsFrom]
  | cons rk rest ih =>
    have hrest : ∀ rk' ∈ rest, ∀ g ∈ rk'.geoms, wrap32 g.id = g.id := fun rk' h => hid rk' (List.mem_cons_of_mem _ h)
    simp only [geomBytesFrom, ownedGeomsFrom, List.map_append, List.flatMap_append]
    rw [ih hrest (r + 1)]
    congr 1
    by_cases h0 : r = 0
    · simp only [h0, if_true, List.flatMap_map]
      apply List.flatMap_congr
      intro g hg
      have ht := geomsOwnedOf_type hg
      subst ht
      exact encGeomOwn_eq v g
    · simp only [h0, if_false, List.flatMap_map]
      apply List.flatMap_congr
      intro g hg
      have ht := geomsOwnedOf_type hg
      subst ht
      have hmem : g ∈ rk.geoms := by
        unfold geomsOwnedOf at hg
        exact (List.mem_filter.1 hg).1
      exact encGeomRecv_eq v g (hid rk List.mem_cons_self g hmem)

theorem toRec_type (g : LGeom) : (toRec g).type = g.type := rfl

theorem geomsOf_block (t t' : Nat) (ranks : List Rank) :
    geomsOf t ((ownedGeomsFrom t' 0 ranks).map toRec) = if t' = t then (ownedGeomsFrom t' 0 ranks).map toRec else [] := by
  unfold geomsOf
  by_cases h : t' = t
  · rw [if_pos h, List.filter_eq_self]
    intro x hx
    obtain ⟨g, hg, rfl⟩ := List.mem_map.1 hx
    simp [toRec_type, ownedGeomsFrom_type hg, h]
  · rw [if_neg h, List.filter_eq_nil_iff]
    intro x hx
    obtain ⟨g, hg, rfl⟩ := List.mem_map.1 hx
    simp [toRec_type, ownedGeomsFrom_type hg, h]

theorem geomsOf_gathered (d : Dist) (t : Nat) (ht : t ≤ 2) :
    geomsOf t (gatheredGeoms d) = (ownedGeomsFrom t 0 d.ranks).map toRec := by
  have hsplit : ∀ l₁ l₂ : List GeomRec, geomsOf t (l₁ ++ l₂) = geomsOf t l₁ ++ geomsOf t l₂ := by
    intro l₁ l₂; simp [geomsOf]
  unfold gatheredGeoms
  simp only [List.flatMap_cons, List.flatMap_nil, List.append_nil]
  rw [hsplit, hsplit, geomsOf_block, geomsOf_block, geomsOf_block]
  rcases (by omega : t = 0 ∨ t = 1 ∨ t = 2) with rfl | rfl | rfl <;> simp

theorem length_gatheredNodes (d : Dist) : (gatheredNodes d).length = d.nglobal := by simp [gatheredNodes]

theorem encVertex_flat (v : Nat) (twod : Bool) (p : Vertex) : encVertex v twod (flat twod p) = encVertex v twod p := by
  unfold encVertex flat
  cases twod <;> simp

/-- what ref_gather_node writes on a healthy world (before the 2-D projection that the record encoder applies anyway) -/
def writtenNodes (d : Dist) : List Vertex := (List.range d.nglobal).map (payloadAt vzero (d.ranks.map nodeView))

theorem flatMap_written (v : Nat) (d : Dist) :
    (writtenNodes d).flatMap (encVertex v d.twod) = (gatheredNodes d).flatMap (encVertex v d.twod) := by
  unfold writtenNodes gatheredNodes
  rw [List.flatMap_map, List.flatMap_map]
  apply List.flatMap_congr
  intro g _
  rw [encVertex_flat]

/-- hypotheses on the shape of the stored cells and ids: every stored cell of group `k` has `node_per(k)` vertices, every
    association id is a `REF_INT` -/
structure Shaped (d : Dist) : Prop where
  cells : ∀ p ∈ cellInfos.zipIdx, ∀ rk ∈ d.ranks, ∀ c ∈ rk.cells.getD p.2 [], c.nodes.length = p.1.nodePer
  ids : ∀ rk ∈ d.ranks, ∀ g ∈ rk.geoms, wrap32 g.id = g.id

theorem masterG_eq (v : Nat) (d : Dist) (hN : 0 < d.nglobal) (hs : Shaped d) :
    masterG v d (writtenNodes d) = master v (globalMesh d) := by
  unfold masterG master
  have hdim : secDim v (dimMesh d.twod) = secDim v (globalMesh d) := rfl
  have hne : (!(globalMesh d).nodes.isEmpty) = true := by
    have : (globalMesh d).nodes.length = d.nglobal := length_gatheredNodes d
    cases hn : (globalMesh d).nodes with
    | nil => rw [hn] at this; simp at this; omega
    | cons a l => rfl
  have hverts : secVertsG v d.twod d.nglobal (writtenNodes d) = secVerts v (globalMesh d) := by
    unfold secVertsG secVerts
    have hl : (globalMesh d).nodes.length = d.nglobal := length_gatheredNodes d
    have hd : dim (globalMesh d) = if d.twod then 2 else 3 := rfl
    rw [hl, hd, flatMap_written]
    rfl
  have hcells : (cellInfos.zipIdx).map (fun p =>
        (decide (0 < ncell (d.ranks.map (cellView p.2))), secCellsG v p.1 p.2 d.ranks))
      = (cellInfos.zip (globalMesh d).cells).map (fun p => (!p.2.isEmpty, secCells v p.1 p.2)) := by
    have : (globalMesh d).cells = cellInfos.zipIdx.map fun p =>
        (gatherCell (d.ranks.map (cellView p.2))).map (packCell p.1) := rfl
    rw [this, Refine.ListFacts.zip_zipIdx_map, List.map_map]
    apply List.map_congr_left
    intro p hp
    simp only [Function.comp_def]
    have hb := cellBytesFrom_eq v p.1 p.2 d.ranks (hs.cells p hp) 0
    have hn := ncell_eq_length (d.ranks.map (cellView p.2))
    refine Prod.ext ?_ ?_
    · simp only [hn]
      cases hg : gatherCell (d.ranks.map (cellView p.2)) <;> simp
    · simp only [secCellsG, secCells, hn, hb, gatherCell, List.length_map]
  have hgeoms : [0, 1, 2].map (fun t => (decide (0 < ngeomFrom t 0 d.ranks), secGeomG v t d.ranks))
      = [0, 1, 2].map (fun t => (!(geomsOf t (globalMesh d).geoms).isEmpty,
          secGeom v t (geomsOf t (globalMesh d).geoms))) := by
    apply List.map_congr_left
    intro t ht
    have ht2 : t ≤ 2 := by
      simp only [List.mem_cons, List.not_mem_nil, or_false] at ht
      rcases ht with rfl | rfl | rfl <;> omega
    have hg : geomsOf t (globalMesh d).geoms = (ownedGeomsFrom t 0 d.ranks).map toRec := geomsOf_gathered d t ht2
    have hb := geomBytesFrom_eq v t d.ranks hs.ids 0
    have hn := ngeomFrom_eq t 0 d.ranks
    refine Prod.ext ?_ ?_
    · simp only [hg, hn]
      cases ownedGeomsFrom t 0 d.ranks <;> simp
    · simp only [secGeomG, secGeom, hg, hn, hb, List.length_map]
      congr 1
      by_cases h0 : 0 < t
      · simp only [h0, if_true]; ring
      · simp only [h0, if_false]; ring
  rw [hdim, hverts, hcells, hgeoms, hne]
  rfl

theorem fileBytes_eq (v : Nat) (d : Dist) (hN : 0 < d.nglobal) (hs : Shaped d) :
    fileBytes v d (writtenNodes d) = encodeMeshb v (globalMesh d) := by
  unfold fileBytes encodeMeshb sectionsG sections
  rw [masterG_eq v d hN hs]

end Refine.Lemmas.GatherMeshb
