import Refine.Lemmas.InterpLocateInv
import Refine.Lemmas.InterpLocateStages

/-!
  The geometric instance of `LocateClauses` (Lemmas/InterpLocateStages.lean): what is stored for a located receptor vertex
  are the weights of ITS OWN position in the stored cell of rank `part`'s donor (`PNgeoW`), because every agent aims at the
  position of the vertex it works for and an `ENCLOSING` agent carries the weights of its target point (`QAgeo`).  The
  `qa_*` facts about single agents make up `clauses_geo`.  Hypotheses on the input: `GhostOK`, `CellIdsOK`.
-/

namespace Refine.Lemmas.InterpLocate
open Refine Refine.Model.Geom Refine.Model.Interp Refine.Model.InterpLocate Refine.Model.Comm Refine.Lemmas.Comm
open Refine.Gen

variable {α : Type} [Scalar α]

/-- `s` = the stored weights of `x` in cell `c` of rank `p`'s donor -/
def WeightsOf (dw : World (DonorR α)) (p c : Int) (x : V3 α) (s : Slots α) : Prop :=
  0 ≤ p ∧ ∃ dr, dw[p.toNat]? = some dr ∧ ∃ n, dr.d.cellAt c = some n ∧
    s = storeBary dr.d.twod Slots.unwritten (Refine.Model.Interp.baryOf dr.d n x).2

/-- the agent works for local node `node` of rank `home` and aims at its position -/
def Tgt (rw : World (RecvR α)) (a : AgentP α) : Prop :=
  0 ≤ a.home ∧ 0 ≤ a.node ∧ ∃ rc, rw[a.home.toNat]? = some rc ∧ a.xyz = rc.pt a.node.toNat

/-- a suggestion aims at the position of the vertex with its global id, as the home rank sees it -/
def TgtS (rw : World (RecvR α)) (a : AgentP α) : Prop :=
  ∀ (rc : RecvR α) (i : Nat), 0 ≤ a.home → rw[a.home.toNat]? = some rc → localOf rc.glob a.glob = some i → a.xyz = rc.pt i

/-- the geometric agent clause: an `ENCLOSING` agent carries the weights of its target point in its cell; an agent that
    knows its node aims at that node's position, a suggestion at the position of the vertex with its global id -/
structure QAgeo (dw : World (DonorR α)) (rw : World (RecvR α)) (a : AgentP α) : Prop where
  weights : a.mode = AMode.enclosing → WeightsOf dw a.part a.seed a.xyz a.bary
  tgt : a.mode ≠ AMode.suggestion → Tgt rw a
  tgtS : a.mode = AMode.suggestion → TgtS rw a

/-- ghost consistency of the receptor: where the owner's view finds the global id of a rank's local vertex, the
    coordinates agree -/
def GhostOK (rw : World (RecvR α)) : Prop :=
  ∀ (r r' : Nat) (rc rc' : RecvR α) (i i' : Nat), rw[r]? = some rc → rw[r']? = some rc' →
    localOf rc'.glob (rc.glob.getD i (-1)) = some i' →
    rc.pt i = rc'.pt i'

/-- cell ids are not `REF_EMPTY` -/
def CellIdsOK (dw : World (DonorR α)) : Prop := ∀ dr ∈ dw, ∀ p ∈ dr.d.cells, p.1 ≠ refEmpty

/-- the geometric node clause of rank `r`: a cell, and the stored slots are the weights of the vertex' own position -/
def PNgeoW (dw : World (DonorR α)) (rw : World (RecvR α)) (r : Nat) : Nat → Nat → Int → Int → Slots α → Prop :=
  locatedClause fun i c p s => ∀ rc, rw[r]? = some rc → WeightsOf dw p c (rc.pt i) s

theorem weightsOf_cell_ne {dw : World (DonorR α)} (hid : CellIdsOK dw) {p c : Int} {x : V3 α} {s : Slots α}
    (h : WeightsOf dw p c x s) : c ≠ refEmpty := by
  obtain ⟨_, dr, hdr, n, hn, _⟩ := h
  exact hid dr (List.mem_of_getElem? hdr) _ (Interp.cellAt_mem hn)

theorem qa_mkWalker {dw : World (DonorR α)} {rw : World (RecvR α)} {r : Nat} {rc : RecvR α} (hrc : rw[r]? = some rc)
    (other : Nat) (sp sc : Int) : QAgeo dw rw (mkWalker r rc other sp sc) := by
  refine ⟨by intro h; simp [mkWalker] at h, ?_, by intro h; simp [mkWalker] at h⟩
  intro _
  refine ⟨by simp [mkWalker], by simp [mkWalker], rc, ?_, ?_⟩
  · simpa [mkWalker] using hrc
  · simp [mkWalker]

theorem qa_mkSuggestion {dw : World (DonorR α)} {rw : World (RecvR α)} (hg : GhostOK rw) {r : Nat} {rc : RecvR α}
    (hrc : rw[r]? = some rc) (other : Nat) (sp sc : Int) : QAgeo dw rw (mkSuggestion rc other sp sc) := by
  refine ⟨by intro h; simp [mkSuggestion] at h, by intro h; simp [mkSuggestion] at h, ?_⟩
  intro _ rc' i _ hrc' hloc
  simp only [mkSuggestion] at hrc' hloc ⊢
  exact hg r _ rc rc' other i hrc hrc' hloc

theorem qa_hop {dw : World (DonorR α)} {rw : World (RecvR α)} (a : AgentP α) (seed' : Int) (h : QAgeo dw rw a)
    (hm : a.mode = AMode.hopPart) : QAgeo dw rw { a with mode := AMode.walking, seed := seed' } := by
  refine ⟨by intro h; simp at h, ?_, by intro h; simp at h⟩
  intro _
  exact h.tgt (by rw [hm]; simp)

theorem qa_arrive {dw : World (DonorR α)} {rw : World (RecvR α)} {r : Nat} {rc : RecvR α} (hrc : rw[r]? = some rc)
    (a : AgentP α) (node : Nat) (h : QAgeo dw rw a) (hm : a.mode = AMode.suggestion) (hh : a.home = (r : Int))
    (hloc : localOf rc.glob a.glob = some node) :
    QAgeo dw rw { a with mode := AMode.walking, node := (node : Int), glob := refEmpty } := by
  refine ⟨by intro h; simp at h, ?_, by intro h; simp at h⟩
  intro _
  have hh0 : 0 ≤ a.home := hh ▸ Int.natCast_nonneg _
  have hrc' : rw[a.home.toNat]? = some rc := by rw [hh]; simpa using hrc
  exact ⟨hh0, by simp, rc, hrc', by simpa using h.tgtS hm rc node hh0 hrc' hloc⟩

theorem qa_walk {dw : World (DonorR α)} {rw : World (RecvR α)} {r : Nat} {dr : DonorR α} (hdr : dw[r]? = some dr)
    (a a' : AgentP α) (rnd rnd' : Nat) (e : ISt) (h : QAgeo dw rw a) (hw : walkAgentP r dr a rnd = (e, a', rnd'))
    (hm : a.mode = AMode.walking) (hp : a.part = (r : Int)) : QAgeo dw rw a' := by
  unfold walkAgentP at hw
  obtain ⟨f1, f2, f3, f4, f5⟩ := walkLoopP_spec r dr _ a a' rnd rnd' e hw (by rw [hm]; simp) (by rw [hm]; simp)
  have ht : Tgt rw a := h.tgt (by rw [hm]; simp)
  refine ⟨?_, ?_, fun hs => absurd hs f4⟩
  · intro he
    obtain ⟨_, hpart, n, b, hn, hb, _, hbary⟩ := f5 he
    refine ⟨by rw [hpart, hp]; exact Int.natCast_nonneg _, dr, by rw [hpart, hp]; simpa using hdr, n, hn, ?_⟩
    rw [hbary, hb]
  · intro _
    obtain ⟨t1, t2, rc, t3, t4⟩ := ht
    exact ⟨by rw [f1]; exact t1, by rw [f2]; exact t2, rc, by rw [f1]; exact t3, by rw [f3, f2]; exact t4⟩

theorem qa_enclose {dw : World (DonorR α)} {rw : World (RecvR α)} (hid : CellIdsOK dw) {r : Nat} {rc : RecvR α}
    (hrc : rw[r]? = some rc) (a : AgentP α) (h : QAgeo dw rw a) (hm : a.mode = AMode.enclosing) (hh : a.home = (r : Int)) :
    a.seed ≠ refEmpty ∧ WeightsOf dw a.part a.seed (rc.pt a.node.toNat) a.bary := by
  have hw := h.weights hm
  obtain ⟨_, _, rc', hrc', hx⟩ := h.tgt (by rw [hm]; simp)
  rw [hh] at hrc'
  simp only [Int.toNat_natCast] at hrc'
  rw [hrc] at hrc'
  cases hrc'
  exact ⟨weightsOf_cell_ne hid hw, hx ▸ hw⟩

/-- a record of rank `r2` that carries a cell of its donor and the weights of vertex `i` of rank `r` in it satisfies the
    node clause, whichever stage stores it -/
theorem pnGeoW_record {dw : World (DonorR α)} {rw : World (RecvR α)} (hid : CellIdsOK dw) {r2 : Nat} {dr : DonorR α}
    {r : Nat} {rc : RecvR α}
    (hdr : dw[r2]? = some dr) (hrc : rw[r]? = some rc) (sg i : Nat) {c : Int} {n : CellN} {b : B4 α}
    (hcn : dr.d.cellAt c = some n) (hbo : Refine.Model.Interp.baryOf dr.d n (rc.pt i) = (St.ok, b)) :
    PNgeoW dw rw r sg i c (r2 : Int) (storeBary dr.d.twod Slots.unwritten b) :=
  ⟨hid dr (List.mem_of_getElem? hdr) _ (Interp.cellAt_mem hcn), fun rc' hrc' => by
    cases hrc.symm.trans hrc'
    exact ⟨Int.natCast_nonneg _, dr, by simpa using hdr, n, hcn, by rw [hbo]⟩⟩

theorem clauses_geo {dw : World (DonorR α)} {rw : World (RecvR α)} (hid : CellIdsOK dw) (hgh : GhostOK rw) :
    LocateClauses dw rw (PNgeoW dw rw) (QAgeo dw rw) where
  hire hrc o sp sc := ⟨qa_mkWalker hrc o sp sc, qa_mkSuggestion hgh hrc o sp sc⟩
  walk hdr := qa_walk hdr
  hop := qa_hop
  arrive hrc := qa_arrive hrc
  enclose hrc a hq hm hh := by
    obtain ⟨h1, h2⟩ := qa_enclose hid hrc a hq hm hh
    exact ⟨h1, fun rc' hrc' => by cases hrc.symm.trans hrc'; exact h2⟩
  seed hdr hrc i _ _ _ hcn hbo _ := pnGeoW_record hid hdr hrc 1 i hcn hbo
  tree hdr hrc i _ _ _ hcn hbo := pnGeoW_record hid hdr hrc 3 i hcn hbo
  empty _ _ _ _ _ _ _ h := absurd rfl h.1

end Refine.Lemmas.InterpLocate
