import Refine.Lemmas.ReproSchedNative

/-!
  The common value of all schedules is the one of `Refine.Model.Comm.p2pExchange` (the order-free matcher C17's
  theorems are about): with the messages delivered in posting order and the receives completed in posted order the
  operational exchange IS `recvPosted`, when at most one message per (source, dest, tag) is in flight and the receives
  of a rank name pairwise distinct (source, tag).  The idea: in the canonical mailbox the first message of a
  (source, tag) is the one `findMsg` looks up in the sender's list (`head_mailbox_findMsg`), so matching in posted order
  makes the deposits `recvPosted` makes (`matchRecvs_deposits`).
-/
namespace Refine.Model.ReproSched
open Refine.Model.Comm Refine.Lemmas.Comm

variable {α : Type}

theorem complete_range (pairs : List (Rcv × Env α)) (buf : List α) :
    complete pairs (List.range pairs.length) buf = deposit buf (pairs.map depOf) := by
  rw [complete_eq_deposit]
  congr 1
  have := filterMap_getElem?_range (pairs.map depOf)
  simpa only [List.length_map, List.getElem?_map] using this

theorem flatten_mapIdx_single {β γ : Type} (l : List β) (f : Nat → β → List γ) (s : Nat)
    (h : ∀ i b, i ≠ s → f i b = []) : (l.mapIdx f).flatten = (l[s]?.map (f s)).getD [] := by
  induction l generalizing f s with
  | nil => rfl
  | cons b bs ih =>
    rw [List.mapIdx_cons, List.flatten_cons]
    cases s with
    | zero =>
      rw [ih (fun i => f (i + 1)) bs.length (fun i b _ => h (i + 1) b (by omega))]
      simp
    | succ s =>
      rw [h 0 b (by omega), ih (fun i => f (i + 1)) s (fun i b hi => h (i + 1) b (by omega))]
      simp

theorem head_mailbox_findMsg (w : World (Posted α)) (me : Int) (rq : Rcv) :
    (((mailbox (allMsgs w) me).filter (hasKey rq.source rq.tag)).head?).map (·.data) =
      (findMsg w me rq).map (·.data) := by
  -- the canonical mailbox is the ranks' blocks one after the other; only the block of the source has its messages
  have hblock : ∀ (r : Nat) (p : Posted α), (r : Int) ≠ rq.source →
      ((msgsOf r p).filter fun m => m.dest == me).filter (hasKey rq.source rq.tag) = [] := by
    intro r p hr
    simp only [msgsOf, List.filter_filter, List.filter_eq_nil_iff, List.mem_map, hasKey]
    rintro _ ⟨m, _, rfl⟩
    simp [hr]
  unfold mailbox allMsgs findMsg
  rw [allMsgsFrom_eq, List.filter_flatten, List.filter_flatten, List.map_map, ListFacts.map_mapIdx]
  simp only [Function.comp, Nat.zero_add]
  by_cases hs : rq.source < 0
  · rw [if_pos hs, flatten_mapIdx_single _ _ w.length fun r p _ => hblock r p (by omega)]
    simp
  · rw [if_neg hs, flatten_mapIdx_single _ _ rq.source.toNat fun r p hr => hblock r p (by omega)]
    cases w[rq.source.toNat]? with
    | none => rfl
    | some p =>
      simp only [Option.map_some, Option.getD_some, msgsOf, List.filter_filter, List.filter_map, List.head?_map,
        List.head?_filter, Option.map_map]
      simp [Function.comp_def, hasKey, Int.toNat_of_nonneg (Int.not_lt.mp hs), Bool.and_comm]
theorem matchRecvs_deposits (w : World (Posted α)) (me : Int) : ∀ (rcvs : List Rcv) (mb' : List (Env α)),
    (∀ rq ∈ rcvs, mb'.filter (hasKey rq.source rq.tag) = (mailbox (allMsgs w) me).filter (hasKey rq.source rq.tag)) →
    (rcvs.map fun rq => (rq.source, rq.tag)).Nodup →
    (matchRecvs mb' rcvs).map (fun pairs => pairs.map depOf) = allSome (rcvs.map (recvDeposit w me))
  | [], _, _, _ => rfl
  | rq :: rqs, mb', hf, hn => by
    have hkey := hf rq (List.mem_cons_self ..)
    have hC := head_mailbox_findMsg w me rq
    rw [← hkey] at hC
    rw [List.map_cons, List.nodup_cons] at hn
    simp only [matchRecvs, List.map_cons, recvDeposit]
    cases ht : takeFirst rq.source rq.tag mb' with
    | none =>
      rw [(takeFirst_none_iff _ _ mb').1 ht] at hC
      cases hfm : findMsg w me rq with
      | none => rfl
      | some m0 => rw [hfm] at hC; simp at hC
    | some r =>
      obtain ⟨m, mb''⟩ := r
      obtain ⟨h1, h2⟩ := takeFirst_some _ _ mb' ht
      rw [h1] at hC
      cases hfm : findMsg w me rq with
      | none => rw [hfm] at hC; simp at hC
      | some m0 =>
        rw [hfm] at hC
        simp only [List.head?_cons, Option.map_some, Option.some.injEq] at hC
        simp only [Option.bind_some, ← hC]
        by_cases hc : (m.data.length : Int) ≤ rq.cnt
        · -- taking the message of `rq` out leaves the subsequences of the other keys as they were
          have ih := matchRecvs_deposits w me rqs mb'' (by
            intro rq' hrq'
            have hne : (rq'.source, rq'.tag) ≠ (rq.source, rq.tag) := by
              intro heq
              apply hn.1
              rw [← heq]
              exact List.mem_map_of_mem (f := fun rq => (rq.source, rq.tag)) hrq'
            rw [h2 _ _ hne]
            exact hf rq' (List.mem_cons_of_mem _ hrq')) hn.2
          simp only [hc, if_true, allSome, ← ih, Option.map_map]
          rfl
        · simp only [hc, if_false, allSome]
          rfl

theorem recvSched_canonical (w : World (Posted α)) (me : Int) (rcvs : List Rcv) (buf : List α)
    (hn : (rcvs.map fun rq => (rq.source, rq.tag)).Nodup) :
    recvSched (allMsgs w) (List.range rcvs.length) me rcvs buf = recvPosted w me rcvs buf := by
  unfold recvSched
  rw [recvPosted_eq_deposit, ← matchRecvs_deposits w me rcvs (mailbox (allMsgs w) me) (fun _ _ => rfl) hn]
  cases hm : matchRecvs (mailbox (allMsgs w) me) rcvs with
  | none => rfl
  | some pairs =>
    have hlen : pairs.length = rcvs.length := by
      rw [← (matchRecvs_fst rcvs _ hm).1, List.length_map]
    simp only [Option.map_some]
    rw [← hlen, complete_range]

def canonOrder (w : World (Posted α)) (r : Nat) : List Nat :=
  List.range ((w[r]?.map fun p => p.rcvs.length).getD 0)

theorem p2pSched_canonical (w : World (Posted α))
    (hr : ∀ p ∈ w, (p.rcvs.map fun rq => (rq.source, rq.tag)).Nodup) :
    p2pSched (allMsgs w) (canonOrder w) w = p2pExchange w := by
  rw [p2pSched_eq_p2pWith, p2pExchange_eq_p2pWith]
  apply p2pWith_congr
  intro r p hp
  have hc : canonOrder w r = List.range p.rcvs.length := by simp [canonOrder, hp]
  rw [hc]
  exact recvSched_canonical w (r : Int) p.rcvs p.buf (hr p (List.mem_of_getElem? hp))

/-- any delivery permutation, any completion permutations: the exchange is `p2pExchange` (C17's matcher) -/
theorem p2pSched_eq_p2pExchange (w : World (Posted α)) (a : List (Env α)) (c : Nat → List Nat)
    (ha : a.Perm (allMsgs w)) (hc : ∀ r, (c r).Perm (canonOrder w r))
    (hmsg : ∀ p ∈ w, (p.msgs.map fun m => (m.dest, m.tag)).Nodup)
    (hr : ∀ p ∈ w, (p.rcvs.map fun rq => (rq.source, rq.tag)).Nodup)
    (hok : ∀ p ∈ w, RecvsOk p.buf.length p.rcvs) :
    p2pSched a c w = p2pExchange w := by
  rw [← p2pSched_canonical w hr]
  exact p2pSched_congr w a (allMsgs w) c (canonOrder w) (fifoEq_of_perm_nodup ha (allMsgs_nodup w hmsg)) hc hok

/-- the same for blocking loops (completion in posted order): no condition on the buffer regions -/
theorem p2pSched_eq_p2pExchange_blocking (w : World (Posted α)) (a : List (Env α))
    (ha : a.Perm (allMsgs w))
    (hmsg : ∀ p ∈ w, (p.msgs.map fun m => (m.dest, m.tag)).Nodup)
    (hr : ∀ p ∈ w, (p.rcvs.map fun rq => (rq.source, rq.tag)).Nodup) :
    p2pSched a (canonOrder w) w = p2pExchange w := by
  rw [← p2pSched_canonical w hr]
  exact p2pSched_congr_arrival w a (allMsgs w) (canonOrder w) (fifoEq_of_perm_nodup ha (allMsgs_nodup w hmsg))

theorem canonOrder_eq_getD (w : World (Posted α)) :
    canonOrder w = fun r => List.range ((w.getD r ⟨Comm.Status.ok, [], [], []⟩).rcvs.length) := by
  funext r
  unfold canonOrder
  rw [List.getD_eq_getElem?_getD]
  cases w[r]? <;> rfl

theorem zipIdx_drop_pairwise {β : Type} (l : List β) (k : Nat) :
    ((l.zipIdx).drop k).Pairwise (fun a b => a.2 ≠ b.2) := by
  have h0 : (l.zipIdx).Pairwise (fun a b => a.2 ≠ b.2) := by
    have := List.nodup_range' (s := 0) (n := l.length) (step := 1)
    rw [← List.zipIdx_map_snd 0 l] at this
    unfold List.Nodup at this
    rw [List.pairwise_map] at this
    exact this
  exact h0.sublist (List.drop_sublist k _)

/-- requests made from the entries of a list after the first, keyed by their index: what `postAll` lets through
    has pairwise distinct keys -/
theorem postAll_zipIdx_nodup {β γ κ : Type} (ty : RefType) (maxTag : Int) (tagOf : γ → Int) (l : List β)
    (mk : β × Nat → γ) (key : γ → κ) (hkey : ∀ a b, key (mk a) = key (mk b) → a.2 = b.2) :
    ((postAll ty maxTag tagOf (((l.zipIdx).drop 1).map mk)).2.map key).Nodup := by
  apply ((postAll_sublist ty maxTag tagOf _).map key).nodup
  rw [List.map_map]
  exact nodup_map_of_pairwise_ne _ (fun x : β × Nat => x.2) hkey _ (zipIdx_drop_pairwise l 1)

theorem postAll_singleton_nodup {γ κ : Type} (ty : RefType) (maxTag : Int) (tagOf : γ → Int) (x : γ) (key : γ → κ) :
    ((postAll ty maxTag tagOf [x]).2.map key).Nodup :=
  ((postAll_sublist ty maxTag tagOf [x]).map key).nodup (by simp)

theorem scatterPosted_msgs_nodup [Inhabited α] (ty : RefType) (maxTag : Int) (chunks : List (List α)) :
    ∀ p ∈ scatterPosted ty maxTag chunks, (p.msgs.map fun m => (m.dest, m.tag)).Nodup :=
  forall_mem_mapIdx fun i _ => by
    split
    · exact postAll_zipIdx_nodup ty maxTag _ chunks _ _ fun a b h => Int.ofNat.inj (Prod.mk.inj h).1
    · simp

theorem scatterPosted_rcvs_nodup [Inhabited α] (ty : RefType) (maxTag : Int) (chunks : List (List α)) :
    ∀ p ∈ scatterPosted ty maxTag chunks, (p.rcvs.map fun rq => (rq.source, rq.tag)).Nodup :=
  forall_mem_mapIdx fun i _ => by
    split
    · simp
    · exact postAll_singleton_nodup ty maxTag _ _ _

theorem gatherPosted_msgs_nodup [Inhabited α] (ty : RefType) (maxTag : Int) (w : World (List α)) :
    ∀ p ∈ gatherPosted ty maxTag w, (p.msgs.map fun m => (m.dest, m.tag)).Nodup :=
  forall_mem_mapIdx fun i _ => by
    split
    · simp
    · exact postAll_singleton_nodup ty maxTag _ _ _

theorem gatherPosted_rcvs_nodup [Inhabited α] (ty : RefType) (maxTag : Int) (w : World (List α)) :
    ∀ p ∈ gatherPosted ty maxTag w, (p.rcvs.map fun rq => (rq.source, rq.tag)).Nodup :=
  forall_mem_mapIdx fun i _ => by
    split
    · exact postAll_zipIdx_nodup ty maxTag _ _ _ _ fun a b h => Int.ofNat.inj (Prod.mk.inj h).1
    · simp

end Refine.Model.ReproSched
