import Refine.Model.Rcb
import Refine.Lemmas.Comm
import Refine.Lemmas.ListFacts

/-!
  Structure of the recursion of
  `ref_migrate_native_rcb_direction` for ANY scalar type (no order or field law is used; in particular
  nothing depends on what `ref_search_selection` returns):
  the copy loop is a permutation, `ref_mpi_balance` keeps the records, the recursion hands every rank exactly one
  leaf, part ids stay inside `[offset, offset + npart)` and every id is used.
  `Level` says what one level hands to its two recursive calls; `rcbDirection_level` is one unfolding of
  `rcbDirection` in those terms and `rcbDirection_induction` the induction over the recursion that the facts above,
  and the determinism results of `Lemmas/RcbReal`, are instances of.
-/
namespace Refine.Lemmas.Rcb
open Refine Refine.Model.Comm Refine.Model.Rcb Refine.Lemmas.Comm

variable {α : Type}

theorem flatten_take_of_tail_nil {β : Type} (L : List (List β)) (k : Nat)
    (h : ∀ r (hr : r < L.length), k ≤ r → L[r] = []) : (L.take k).flatten = L.flatten := by
  induction L generalizing k with
  | nil => rw [List.take_nil]
  | cons x xs ih =>
    cases k with
    | zero =>
      refine (List.flatten_eq_nil_iff.mpr fun l hl => ?_).symm
      obtain ⟨i, hi, rfl⟩ := List.mem_iff_getElem.mp hl
      exact h i hi (Nat.zero_le _)
    | succ k =>
      rw [List.take_succ_cons, List.flatten_cons, List.flatten_cons,
        ih k fun r hr hk => h (r + 1) (Nat.succ_lt_succ hr) (Nat.succ_le_succ hk)]

theorem flatten_drop_of_head_nil {β : Type} (L : List (List β)) (k : Nat)
    (h : ∀ r (hr : r < L.length), r < k → L[r] = []) : (L.drop k).flatten = L.flatten := by
  induction L generalizing k with
  | nil => rw [List.drop_nil]
  | cons x xs ih =>
    cases k with
    | zero => rfl
    | succ k =>
      have hx : x = [] := h 0 (Nat.zero_lt_succ _) (Nat.zero_lt_succ _)
      rw [List.drop_succ_cons, List.flatten_cons, hx, List.nil_append]
      exact ih k fun r hr hk => h (r + 1) (Nat.succ_lt_succ hr) (Nat.succ_lt_succ hk)

theorem perm_append_swap {β : Type} (a1 a2 b1 b2 : List β) :
    ((a1 ++ a2) ++ (b1 ++ b2)).Perm ((a1 ++ b1) ++ (a2 ++ b2)) := by
  rw [List.append_assoc, List.append_assoc]
  refine List.Perm.append_left a1 ?_
  rw [← List.append_assoc, ← List.append_assoc]
  exact List.Perm.append_right b2 List.perm_append_comm

section Split
variable [Scalar α]

theorem splitLocal_perm (t : M9 α) (c : Cut α) (l : List (Rec α)) :
    ((splitLocal t c l).1 ++ (splitLocal t c l).2).Perm l :=
  List.filter_append_perm (inOuter t c) l

theorem splitLocal_length (t : M9 α) (c : Cut α) (l : List (Rec α)) :
    (splitLocal t c l).1.length + (splitLocal t c l).2.length = l.length := by
  have := (splitLocal_perm t c l).length_eq
  simpa using this

theorem halves_fst_flatten (t : M9 α) (c : Cut α) (w : World (List (Rec α))) :
    ((w.map (splitLocal t c)).map (·.1)).flatten = w.flatten.filter (inOuter t c) := by
  rw [List.filter_flatten, List.map_map]
  rfl

theorem halves_snd_flatten (t : M9 α) (c : Cut α) (w : World (List (Rec α))) :
    ((w.map (splitLocal t c)).map (·.2)).flatten = w.flatten.filter (fun r => !inOuter t c r) := by
  rw [List.filter_flatten, List.map_map]
  rfl

theorem halves_perm (t : M9 α) (c : Cut α) (w : World (List (Rec α))) :
    (((w.map (splitLocal t c)).map (·.1)).flatten ++ ((w.map (splitLocal t c)).map (·.2)).flatten).Perm
      w.flatten := by
  rw [halves_fst_flatten, halves_snd_flatten]
  exact List.filter_append_perm _ _

/-- `Comm.balance_spec` on the records as items of length 1 -/
theorem balanceRecs_spec (first last : Nat) (w : World (List (Rec α)))
    (hfl : first ≤ last) (hl : last < w.length) (hr : (w.flatten.length : Int) ≤ INT_MAX) :
    ∃ b : World (List (Rec α)), balanceRecs (first : Int) (last : Int) w = some b
      ∧ b.length = w.length ∧ b.flatten = w.flatten
      ∧ ∀ r (hr : r < b.length), (r < first ∨ last < r) → b[r] = [] := by
  have hsing : ∀ l : List (Rec α), (l.map fun x => [x]).flatten = l := fun l =>
    (Refine.ListFacts.flatten_map_singleton l id).trans (List.map_id l)
  let ws : World (List (List (Rec α))) := w.map fun l => l.map fun x => [x]
  have hws : balanceIn ws = w.map fun l => (l.length, l) := by
    simp only [balanceIn, ws, List.map_map]
    exact List.map_congr_left fun l _ => by simp [hsing]
  have hlen : ws.length = w.length := List.length_map _
  have hflat : ws.flatten = w.flatten.map fun x => [x] := (List.map_flatten ..).symm
  have hi : ∀ its ∈ ws, ∀ it ∈ its, it.length = 1 := by
    intro its hits it hit
    obtain ⟨l, _, rfl⟩ := List.mem_map.mp hits
    obtain ⟨x, _, rfl⟩ := List.mem_map.mp hit
    rfl
  obtain ⟨hb, hcat, hout, _⟩ := balance_spec false RefType.dbl rfl 0 1 first last ws hfl
    (by omega) hi (by intro h; cases h) (by intro _; rw [hflat, List.length_map]; simpa using hr)
  refine ⟨(List.range ws.length).map fun r => (balanced first last ws r).flatten, ?_, ?_, ?_, ?_⟩
  · unfold balanceRecs
    rw [← hws, hb]
    simp only [List.all_map, List.map_map]
    exact if_pos (List.all_eq_true.mpr fun _ _ => rfl)
  · rw [List.length_map, List.length_range, hlen]
  · have := congrArg List.flatten hcat
    rw [List.flatten_flatten, List.map_map, hflat, hsing] at this
    exact this
  · intro r hrl hout'
    rw [List.getElem_map, List.getElem_range, hout r (by rw [List.length_map, List.length_range] at hrl; exact hrl) hout']
    rfl

/-- What one level of `ref_migrate_native_rcb_direction` hands to its two recursive calls: after the cut `c`, the
    copy loop and the two `ref_mpi_balance` calls the front `k = npart/2` ranks (`s0`) hold exactly the records outside
    the band `[value0, value1]`, the other ranks (`s1`) exactly those inside. -/
structure Level (t : M9 α) (c : Cut α) (k : Nat) (w s0 s1 : World (List (Rec α))) : Prop where
  len0 : s0.length = k
  len1 : s1.length = w.length - k
  flat0 : s0.flatten = w.flatten.filter (inOuter t c)
  flat1 : s1.flatten = w.flatten.filter fun r => !inOuter t c r

theorem Level.perm {t : M9 α} {c : Cut α} {k : Nat} {w s0 s1 : World (List (Rec α))}
    (L : Level t c k w s0 s1) : (s0.flatten ++ s1.flatten).Perm w.flatten := by
  rw [L.flat0, L.flat1]
  exact List.filter_append_perm _ _

theorem Level.length_add {t : M9 α} {c : Cut α} {k : Nat} {w s0 s1 : World (List (Rec α))}
    (L : Level t c k w s0 s1) : s0.flatten.length + s1.flatten.length = w.flatten.length := by
  rw [← List.length_append]
  exact L.perm.length_eq

/-- the two recursive calls of a level are inside the precondition again -/
theorem Level.pre {t : M9 α} {c : Cut α} {npart : Nat} {w s0 s1 : World (List (Rec α))}
    (L : Level t c (npart / 2) w s0 s1) (h2 : 2 ≤ npart) (hlen : npart ≤ w.length)
    (htot : (w.flatten.length : Int) ≤ INT_MAX) :
    (1 ≤ npart / 2 ∧ npart / 2 ≤ s0.length ∧ (s0.flatten.length : Int) ≤ INT_MAX)
      ∧ (1 ≤ npart - npart / 2 ∧ npart - npart / 2 ≤ s1.length ∧ (s1.flatten.length : Int) ≤ INT_MAX) := by
  have hadd := L.length_add
  have l0 := L.len0
  have l1 := L.len1
  omega

end Split

section Direction
variable [Scalar α] [RcbScalar α]

omit [Scalar α] [RcbScalar α] in
/-- assignments made by a list of leaves: every record with the part id of its leaf -/
def assignments (leaves : World (Int × List (Rec α))) : List (Rec α × Int) :=
  leaves.flatMap fun l => l.2.map fun r => (r, l.1)

omit [Scalar α] [RcbScalar α] in
theorem assignments_append (a b : World (Int × List (Rec α))) :
    assignments (a ++ b) = assignments a ++ assignments b :=
  List.flatMap_append

omit [Scalar α] [RcbScalar α] in
theorem assignments_fst (leaves : World (Int × List (Rec α))) :
    (assignments leaves).map (·.1) = leaves.flatMap (·.2) := by
  simp only [assignments, List.map_flatMap, List.map_map, Function.comp_def, List.map_id']

theorem rcbDirection_one (t : M9 α) (seed : Int) (twod : Bool) (offset dir : Int) (w : World (List (Rec α))) :
    rcbDirection t seed twod 1 offset dir w = some (w.map fun l => (offset, l)) := by
  rw [rcbDirection, dif_neg Nat.one_ne_zero, dif_pos rfl]

/-- One level of `rcbDirection` inside its precondition (`2 ≤ npart ≤ ref_mpi_n`, fewer than `2^31` records, `hst`:
    `ref_migrate_split_ratio` does not refuse `npart ≥ 2`): both `ref_mpi_balance` calls succeed and the result is
    the concatenation of the two recursive results on the sub-communicators of `Level`. -/
theorem rcbDirection_level (hst : ∀ n : Nat, 2 ≤ n → (splitRatio (α := α) (n : Int)).1 = Status.ok)
    (t : M9 α) (seed : Int) (twod : Bool) (npart : Nat) (offset dir : Int)
    (w : World (List (Rec α))) (h2 : 2 ≤ npart) (hlen : npart ≤ w.length)
    (htot : (w.flatten.length : Int) ≤ INT_MAX) :
    ∃ s0 s1 : World (List (Rec α)), Level t (cutOf t seed npart dir w) (npart / 2) w s0 s1 ∧
      ∀ r0 r1,
        rcbDirection t seed twod (npart / 2) offset (nextDir (cutOf t seed npart dir w).dir twod) s0 = some r0 →
        rcbDirection t seed twod (npart - npart / 2) (offset + ((npart / 2 : Nat) : Int))
          (nextDir (cutOf t seed npart dir w).dir twod) s1 = some r1 →
        rcbDirection t seed twod npart offset dir w = some (r0 ++ r1) := by
  have hstat : (cutOf t seed npart dir w).status = Status.ok := hst npart h2
  rw [rcbDirection.eq_1 t seed twod npart, dif_neg (by omega), dif_neg (by omega), if_neg (by omega)]
  simp only []
  generalize cutOf t seed npart dir w = c at hstat ⊢
  have hk : 1 ≤ npart / 2 ∧ npart / 2 < npart := by omega
  generalize npart / 2 = k at hk ⊢
  have hperm := (halves_perm t c w).length_eq
  rw [List.length_append] at hperm
  have hkw : k ≤ w.length := Nat.le_trans (Nat.le_of_lt hk.2) hlen
  have hw1 : 1 ≤ w.length := Nat.le_trans hk.1 hkw
  obtain ⟨b0, hb0, hb0len, hb0flat, hb0out⟩ :=
    balanceRecs_spec 0 (k - 1) ((w.map (splitLocal t c)).map (·.1)) (Nat.zero_le _)
      (by rw [List.length_map, List.length_map]; omega) (by omega)
  obtain ⟨b1, hb1, hb1len, hb1flat, hb1out⟩ :=
    balanceRecs_spec k (w.length - 1) ((w.map (splitLocal t c)).map (·.2)) (by omega)
      (by rw [List.length_map, List.length_map]; omega) (by omega)
  rw [List.length_map, List.length_map] at hb0len hb1len
  rw [Int.natCast_sub hk.1, Int.natCast_zero, Int.natCast_one] at hb0
  rw [Int.natCast_sub hw1, Int.natCast_one] at hb1
  refine ⟨b0.take k, b1.drop k, ⟨?_, ?_, ?_, ?_⟩, fun r0 r1 h0 h1 => ?_⟩
  · rw [List.length_take, hb0len]
    exact Nat.min_eq_left hkw
  · rw [List.length_drop, hb1len]
  · rw [← halves_fst_flatten, ← hb0flat]
    exact flatten_take_of_tail_nil _ _ fun r hr hk => hb0out r hr (Or.inr (by omega))
  · rw [← halves_snd_flatten, ← hb1flat]
    exact flatten_drop_of_head_nil _ _ fun r hr hk => hb1out r hr (Or.inl hk)
  · rw [if_neg (by rw [hstat]; decide), hb0, hb1]
    simp only []
    rw [h0, h1]

/-- Induction over the recursion of `rcbDirection` inside its precondition (`1 ≤ npart ≤ ref_mpi_n`, fewer than
    `2^31` records): the call succeeds, and a property that holds of every leaf and passes from the two
    sub-communicators of a `Level` to the concatenation holds of the result. -/
theorem rcbDirection_induction (hst : ∀ n : Nat, 2 ≤ n → (splitRatio (α := α) (n : Int)).1 = Status.ok)
    (t : M9 α) (seed : Int) (twod : Bool)
    (P : Nat → Int → Int → World (List (Rec α)) → World (Int × List (Rec α)) → Prop)
    (leaf : ∀ offset dir w, 1 ≤ w.length → P 1 offset dir w (w.map fun l => (offset, l)))
    (node : ∀ npart offset dir w s0 s1 r0 r1, 2 ≤ npart → npart ≤ w.length →
      Level t (cutOf t seed npart dir w) (npart / 2) w s0 s1 →
      P (npart / 2) offset (nextDir (cutOf t seed npart dir w).dir twod) s0 r0 →
      P (npart - npart / 2) (offset + ((npart / 2 : Nat) : Int)) (nextDir (cutOf t seed npart dir w).dir twod) s1 r1 →
      P npart offset dir w (r0 ++ r1)) :
    ∀ (npart : Nat) (offset dir : Int) (w : World (List (Rec α))),
      1 ≤ npart → npart ≤ w.length → (w.flatten.length : Int) ≤ INT_MAX →
      ∃ leaves, rcbDirection t seed twod npart offset dir w = some leaves ∧ P npart offset dir w leaves := by
  intro npart
  induction npart using Nat.strongRecOn with
  | ind npart ih =>
    intro offset dir w h1 hlen htot
    by_cases hone : npart = 1
    · subst hone
      exact ⟨_, rcbDirection_one t seed twod offset dir w, leaf offset dir w hlen⟩
    · have h2 : 2 ≤ npart := by omega
      obtain ⟨s0, s1, L, e⟩ := rcbDirection_level hst t seed twod npart offset dir w h2 hlen htot
      obtain ⟨⟨a0, b0, c0⟩, a1, b1, c1⟩ := L.pre h2 hlen htot
      obtain ⟨r0, hr0, p0⟩ := ih (npart / 2) (by omega) offset (nextDir (cutOf t seed npart dir w).dir twod) s0
        a0 b0 c0
      obtain ⟨r1, hr1, p1⟩ := ih (npart - npart / 2) (by omega) (offset + ((npart / 2 : Nat) : Int))
        (nextDir (cutOf t seed npart dir w).dir twod) s1 a1 b1 c1
      exact ⟨r0 ++ r1, e r0 r1 hr0 hr1, node npart offset dir w s0 s1 r0 r1 h2 hlen L p0 p1⟩

/-- The recursion of `ref_migrate_native_rcb_direction` inside its precondition (`hst` is true of ℝ:
    `splitRatio_ok_real`): what `Props/C04Rcb.rcb_total_in_range` states, by `rcbDirection_induction` -/
theorem rcbDirection_spec (hst : ∀ n : Nat, 2 ≤ n → (splitRatio (α := α) (n : Int)).1 = Status.ok)
    (t : M9 α) (seed : Int) (twod : Bool) (npart : Nat) (offset dir : Int)
    (w : World (List (Rec α))) (h1 : 1 ≤ npart) (hlen : npart ≤ w.length)
    (htot : (w.flatten.length : Int) ≤ INT_MAX) :
      ∃ leaves, rcbDirection t seed twod npart offset dir w = some leaves
        ∧ leaves.length = w.length
        ∧ (leaves.flatMap (·.2)).Perm w.flatten
        ∧ (∀ l ∈ leaves, offset ≤ l.1 ∧ l.1 < offset + (npart : Int))
        ∧ (∀ k : Int, offset ≤ k → k < offset + (npart : Int) → ∃ l ∈ leaves, l.1 = k) := by
  -- the ids used are exactly `[offset, offset + npart)`: one iff, the two adjacent ranges of a level add up
  refine (rcbDirection_induction hst t seed twod
    (fun npart offset _ w leaves => leaves.length = w.length ∧ (leaves.flatMap (·.2)).Perm w.flatten
      ∧ ∀ k : Int, (∃ l ∈ leaves, l.1 = k) ↔ offset ≤ k ∧ k < offset + (npart : Int)) ?_ ?_ npart offset dir w
      h1 hlen htot).imp fun leaves h =>
    ⟨h.1, h.2.1, h.2.2.1, fun l hl => (h.2.2.2 l.1).mp ⟨l, hl, rfl⟩, fun k h1 h2 => (h.2.2.2 k).mpr ⟨h1, h2⟩⟩
  · intro offset dir w hw
    refine ⟨List.length_map _, by rw [List.flatMap_map, List.flatMap_id'], fun k => ?_⟩
    match w, hw with
    | x :: xs, _ =>
      constructor
      · rintro ⟨l, hl, rfl⟩
        obtain ⟨_, _, rfl⟩ := List.mem_map.mp hl
        exact ⟨Int.le_refl _, Int.lt_succ _⟩
      · intro hk
        exact ⟨(offset, x), List.mem_cons_self, by omega⟩
  · intro npart offset dir w s0 s1 r0 r1 h2 hlen L ⟨len0, perm0, id0⟩ ⟨len1, perm1, id1⟩
    refine ⟨?_, ?_, fun k => ?_⟩
    · rw [List.length_append, len0, len1, L.len0, L.len1]
      exact Nat.add_sub_cancel' (Nat.le_trans (Nat.div_le_self _ _) hlen)
    · rw [List.flatMap_append]
      exact (perm0.append perm1).trans L.perm
    · simp only [List.mem_append, or_and_right, exists_or, id0 k, id1 k]
      omega

end Direction

end Refine.Lemmas.Rcb
