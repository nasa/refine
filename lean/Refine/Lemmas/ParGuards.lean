import Refine.Model.Par

/-!
  Ownership guards of `Refine.Model.Par`: the two loops they are made of (`aboutLoop`, `gemLoop`) answer `true` exactly
  when every cell they look at is fully owned (the four guards themselves: Props/C04), and a fully owned cell is stored
  on its owner only.
-/
namespace Refine.Lemmas.Par
open Refine.Model.Par

def FullyOwned (part : Nat → Nat) (me : Nat) (c : Cell) : Prop := ∀ v ∈ c, part v = me

theorem allOwned_iff (part : Nat → Nat) (me : Nat) (c : Cell) :
    allOwned part me c = true ↔ FullyOwned part me c := by
  simp [allOwned, owned, FullyOwned]

theorem mem_having (cells : List Cell) (n : Nat) (c : Cell) : c ∈ having cells n ↔ c ∈ cells ∧ n ∈ c := by
  simp [having]

theorem aboutLoop_iff (part : Nat → Nat) (me : Nat) (cs : List Cell) :
    aboutLoop part me cs = true ↔ ∀ c ∈ cs, FullyOwned part me c := by
  induction cs with
  | nil => simp [aboutLoop]
  | cons c cs ih =>
    simp only [aboutLoop, List.mem_cons, forall_eq_or_imp]
    by_cases h : allOwned part me c = true
    · simp [h, ih, (allOwned_iff part me c).mp h]
    · have h' : ¬ FullyOwned part me c := fun hf => h ((allOwned_iff part me c).mpr hf)
      simp [h, h']

theorem gemLoop_iff (part : Nat → Nat) (me n1 : Nat) (cs : List Cell) :
    gemLoop part me n1 cs = true ↔ ∀ c ∈ cs, n1 ∈ c → FullyOwned part me c := by
  induction cs with
  | nil => simp [gemLoop]
  | cons c cs ih =>
    simp only [gemLoop, List.mem_cons, forall_eq_or_imp]
    by_cases hc : n1 ∈ c
    · by_cases h : allOwned part me c = true
      · simp [hc, h, ih, (allOwned_iff part me c).mp h]
      · have h' : ¬ FullyOwned part me c := fun hf => h ((allOwned_iff part me c).mpr hf)
        simp [hc, h, h']
    · simp [hc, ih]

/-- storage rule of the distributed mesh: rank `q` stores cell `c` iff some vertex of `c` has `part = q` -/
def StoredOn (part : Nat → Nat) (q : Nat) (c : Cell) : Prop := ∃ v ∈ c, part v = q

theorem fullyOwned_stored_iff (part : Nat → Nat) (r q : Nat) (c : Cell) (hne : c ≠ [])
    (h : FullyOwned part r c) : StoredOn part q c ↔ q = r := by
  constructor
  · rintro ⟨v, hv, hq⟩; rw [← hq, h v hv]
  · rintro rfl
    obtain ⟨v, hv⟩ := List.exists_mem_of_ne_nil c hne
    exact ⟨v, hv, h v hv⟩

end Refine.Lemmas.Par
