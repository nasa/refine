import Refine.Lemmas.Mixed

/-!
  Frame lemmas for `Refine/Model/Mixed.lean`: each guarded operator leaves the four non-simplex groups and the
  validity / coordinates of their vertices unchanged.  A mesh is a grid and a point store, and the frame splits the same
  way: what an operator does to the groups (`Rewrites`, `*_cases`, `step_groups`) and what it does to the coordinates
  of OTHER vertices (`*_xyz`); `frozen_eq_of` is the one place where the two halves meet.
-/
namespace Refine.MixedLemmas
open Refine Refine.Model Refine.Model.Guards Refine.Model.Mixed Refine.GuardsRules

variable {P : Type}

theorem find_append_ne (pts : List (Nat × P)) {n new : Nat} (p : P) (h : n ≠ new) :
    (pts ++ [(new, p)]).find? (fun q => q.1 == n) = pts.find? (fun q => q.1 == n) := by
  rw [List.find?_append, List.find?_singleton, if_neg (by simpa using h.symm), Option.or_none]

theorem find_filter_keep (pts : List (Nat × P)) (keep : Nat × P → Bool) (n : Nat)
    (h : ∀ q ∈ pts, q.1 = n → keep q = true) :
    (pts.filter keep).find? (fun q => q.1 == n) = pts.find? (fun q => q.1 == n) := by
  induction pts with
  | nil => rfl
  | cons q rest ih =>
    have ih' := ih fun q' hq' => h q' (List.mem_cons_of_mem _ hq')
    by_cases hk : keep q = true
    · rw [List.filter_cons_of_pos hk, List.find?_cons, List.find?_cons, ih']
    · have hne : ¬ q.1 = n := fun e => hk (h q List.mem_cons_self e)
      have hb : (q.1 == n) = false := beq_false_of_ne hne
      rw [List.filter_cons_of_neg hk, List.find?_cons, ih', hb]

theorem find_map_move (pts : List (Nat × P)) (node n : Nat) (p : P) (h : n ≠ node) :
    (pts.map fun q => if q.1 == node then (q.1, p) else q).find? (fun q => q.1 == n) =
      pts.find? (fun q => q.1 == n) := by
  induction pts with
  | nil => rfl
  | cons q rest ih =>
    rw [List.map_cons, List.find?_cons, List.find?_cons, ih]
    by_cases hq : (q.1 == node) = true
    · have hqn : q.1 = node := by simpa using hq
      have : ¬ q.1 = n := fun e => h (e ▸ hqn)
      have hb : (q.1 == n) = false := beq_false_of_ne this
      simp only [hq, if_true, hb]
    · simp only [hq, Bool.false_eq_true, if_false]

theorem valid_iff_xyz (m : Mesh P) (n : Nat) : m.valid n = true ↔ (m.xyz? n).isSome = true := by
  unfold Mesh.valid Mesh.xyz?
  rw [Option.isSome_map, List.find?_isSome, List.any_eq_true]

theorem mem_frozenNodes (m : Mesh P) (n : Nat) : n ∈ m.frozenNodes ↔ OnFrozen m.g n := by
  unfold Mesh.frozenNodes Mesh.frozenCells OnFrozen
  simp only [List.mem_flatMap, List.mem_append, or_assoc]

/-- every vertex of a frozen cell is a valid node -/
def FrozenValid (m : Mesh P) : Prop := ∀ n ∈ m.frozenNodes, m.valid n = true

structure SameFrozenGroups (g' g : Grid) : Prop where
  qua : g'.qua = g.qua
  pyr : g'.pyr = g.pyr
  pri : g'.pri = g.pri
  hex : g'.hex = g.hex

theorem SameFrozenGroups.refl (g : Grid) : SameFrozenGroups g g := ⟨rfl, rfl, rfl, rfl⟩

theorem frozenNodes_eq {m' m : Mesh P} (hg : SameFrozenGroups m'.g m.g) : m'.frozenNodes = m.frozenNodes := by
  unfold Mesh.frozenNodes Mesh.frozenCells
  rw [hg.qua, hg.pyr, hg.pri, hg.hex]

theorem frozen_eq_of {m' m : Mesh P} (hg : SameFrozenGroups m'.g m.g)
    (hx : ∀ n ∈ m.frozenNodes, m'.xyz? n = m.xyz? n) : m'.frozen = m.frozen := by
  unfold Mesh.frozen
  rw [frozenNodes_eq hg, hg.qua, hg.pyr, hg.pri, hg.hex]
  congr 1
  apply List.map_congr_left
  intro n hn
  rw [hx n hn]

theorem frozenValid_iff (m : Mesh P) : FrozenValid m ↔ ∀ q ∈ m.frozen.2, q.2.isSome = true := by
  simp only [FrozenValid, valid_iff_xyz, Mesh.frozen, List.forall_mem_map]

theorem frozenValid_of_frozen_eq {m' m : Mesh P} (h : m'.frozen = m.frozen) (hv : FrozenValid m) : FrozenValid m' :=
  (frozenValid_iff m').2 (h ▸ (frozenValid_iff m).1 hv)

/-- `ref_split_edge` and `ref_collapse_edge` go through tet, tri, edg in this order with one group function `f` and stop
    with `REF_INCREASE_LIMIT` before any of them: each simplex group of the result is the old one or its image, the other
    groups are untouched, and the status is `ok` only when all three were rewritten -/
structure Rewrites (f : List Cell → List Cell) (g : Grid) (r : Status × Grid) : Prop where
  tet : r.2.tet = g.tet ∨ r.2.tet = f g.tet
  tri : r.2.tri = g.tri ∨ r.2.tri = f g.tri
  edg : r.2.edg = g.edg ∨ r.2.edg = f g.edg
  frozen : SameFrozenGroups r.2 g
  ok : r.1 = .ok → r.2.tet = f g.tet ∧ r.2.tri = f g.tri ∧ r.2.edg = f g.edg

theorem splitCells_rewrites (g : Grid) (n0 n1 new : Nat) :
    Rewrites (splitGroup · n0 n1 new) g (splitCells g n0 n1 new) := by
  fun_cases splitCells g n0 n1 new
  case case1 => exact ⟨.inl rfl, .inl rfl, .inl rfl, ⟨rfl, rfl, rfl, rfl⟩, nofun⟩
  case case2 => exact ⟨.inr rfl, .inl rfl, .inl rfl, ⟨rfl, rfl, rfl, rfl⟩, nofun⟩
  case case3 => exact ⟨.inr rfl, .inr rfl, .inl rfl, ⟨rfl, rfl, rfl, rfl⟩, nofun⟩
  case case4 => exact ⟨.inr rfl, .inr rfl, .inr rfl, ⟨rfl, rfl, rfl, rfl⟩, fun _ => ⟨rfl, rfl, rfl⟩⟩

theorem collapseCells_rewrites (g : Grid) (n0 n1 : Nat) :
    Rewrites (collapseGroup · n0 n1) g (Collapse.collapseEdge g n0 n1) := by
  fun_cases Collapse.collapseEdge g n0 n1
  case case1 => exact ⟨.inl rfl, .inl rfl, .inl rfl, ⟨rfl, rfl, rfl, rfl⟩, nofun⟩
  case case2 => exact ⟨.inr rfl, .inl rfl, .inl rfl, ⟨rfl, rfl, rfl, rfl⟩, nofun⟩
  case case3 => exact ⟨.inr rfl, .inr rfl, .inl rfl, ⟨rfl, rfl, rfl, rfl⟩, nofun⟩
  case case4 => exact ⟨.inr rfl, .inr rfl, .inr rfl, ⟨rfl, rfl, rfl, rfl⟩, fun _ => ⟨rfl, rfl, rfl⟩⟩

/-- `R cs cs'` relates a group to what the kernel left of it -/
theorem Rewrites.lift {f : List Cell → List Cell} {g : Grid} {r : Status × Grid} (h : Rewrites f g r)
    (R : List Cell → List Cell → Prop) (hr : ∀ cs, R cs cs) (hf : ∀ cs, R cs (f cs)) :
    R g.tet r.2.tet ∧ R g.tri r.2.tri ∧ R g.edg r.2.edg :=
  ⟨h.tet.elim (fun e => e ▸ hr _) fun e => e ▸ hf _, h.tri.elim (fun e => e ▸ hr _) fun e => e ▸ hf _,
    h.edg.elim (fun e => e ▸ hr _) fun e => e ▸ hf _⟩

theorem Rewrites.keeps {f : List Cell → List Cell} {g : Grid} {r : Status × Grid} (h : Rewrites f g r)
    (Q : List Cell → Prop) (hf : ∀ cs, Q cs → Q (f cs)) :
    (Q g.tet → Q r.2.tet) ∧ (Q g.tri → Q r.2.tri) ∧ (Q g.edg → Q r.2.edg) :=
  h.lift (fun cs cs' => Q cs → Q cs') (fun _ => id) hf

theorem swapCells_groups (g : Grid) (n0 n1 : Nat) : SameFrozenGroups (swapCells g n0 n1).2 g := by
  fun_cases swapCells g n0 n1 <;> exact ⟨rfl, rfl, rfl, rfl⟩

theorem removeNode_g (m : Mesh P) (n : Nat) : (removeNode m n).2.g = m.g := by
  fun_cases removeNode m n <;> rfl

theorem addNode_xyz (m : Mesh P) (new : Nat) (p : P) {n : Nat} (hv : m.valid n = true) :
    (addNode m new p).2.xyz? n = m.xyz? n := by
  fun_cases addNode m new p
  case case1 => rfl
  case case2 h => exact congrArg _ (find_append_ne _ _ fun e : n = new => h (e ▸ hv))

theorem splitEdge_xyz (m : Mesh P) (n0 n1 new : Nat) (p : P) (n : Nat) :
    (splitEdge m n0 n1 new p).2.xyz? n = (addNode m new p).2.xyz? n := by
  unfold splitEdge
  dsimp only
  split_ifs <;> rfl

theorem removeNode_xyz (m : Mesh P) {n n1 : Nat} (hne : n ≠ n1) : (removeNode m n1).2.xyz? n = m.xyz? n := by
  fun_cases removeNode m n1
  case case2 => rfl
  case case1 h =>
    refine congrArg _ (find_filter_keep _ _ _ fun q _ hq => ?_)
    have : ¬ q.1 = n1 := fun e => hne (hq ▸ e)
    simp [this]

theorem collapseEdge_xyz (m : Mesh P) (n0 n1 : Nat) {n : Nat} (hne : n ≠ n1) :
    (collapseEdge m n0 n1).2.xyz? n = m.xyz? n := by
  unfold collapseEdge
  dsimp only
  split_ifs
  · rfl
  · exact removeNode_xyz _ hne

theorem moveNode_xyz (m : Mesh P) (node : Nat) (p : P) {n : Nat} (hne : n ≠ node) :
    (moveNode m node p).xyz? n = m.xyz? n :=
  congrArg _ (find_map_move _ _ _ _ hne)

/-- the vertices `ref_cavity_replace` drops -/
def cavityGone (m : Mesh P) (delTet delTri newTet newTri : List Cell) : List Nat :=
  ((delTet ++ delTri).flatMap (·.nodes)).filter fun n =>
    nodeEmpty (eraseAll (m.g.tri ++ newTri) delTri) n && nodeEmpty (eraseAll (m.g.tet ++ newTet) delTet) n

theorem cavityReplace_xyz (m : Mesh P) (dt dr nt nr : List Cell) {n : Nat} (h : n ∉ cavityGone m dt dr nt nr) :
    (cavityReplace m dt dr nt nr).xyz? n = m.xyz? n := by
  refine congrArg _ (find_filter_keep _ _ _ fun q _ hq => ?_)
  rw [hq]
  show (!(cavityGone m dt dr nt nr).contains n) = true
  simpa using h

/-- the guard of `ref_split_pass` passed, the trial vertex was fresh and `ref_split_edge` ran -/
structure SplitRan (m : Mesh P) (n0 n1 new : Nat) (p : P) : Prop where
  guard : Guards.splitEdgeMixed m.g n0 n1 = true
  fresh : m.valid new = false
  grid : (guardedSplit m n0 n1 new p).2.2.g = (splitCells m.g n0 n1 new).2

/-- `ref_split_pass`: the grid is the old one (the guard refused, or `ref_node_add` failed), or `ref_split_edge` ran -/
theorem guardedSplit_cases (m : Mesh P) (n0 n1 new : Nat) (p : P) :
    (guardedSplit m n0 n1 new p).2.2.g = m.g ∨ SplitRan m n0 n1 new p := by
  by_cases hg : Guards.splitEdgeMixed m.g n0 n1 = true
  · by_cases hv : m.valid new = true
    · left; simp [guardedSplit, splitEdge, addNode, hg, hv]
    · exact .inr ⟨hg, by simpa using hv, by simp [guardedSplit, splitEdge, addNode, hg, hv]⟩
  · left; simp [guardedSplit, hg]

/-- the guard of `ref_swap_tri_pass` passed (it asks the same four tests as the split's) and `ref_swap_tri_edge` ran -/
structure SwapRan (m : Mesh P) (n0 n1 : Nat) : Prop where
  guard : Guards.splitEdgeMixed m.g n0 n1 = true
  grid : (guardedSwap m n0 n1).2.2.g = (swapCells m.g n0 n1).2

theorem guardedSwap_cases (m : Mesh P) (n0 n1 : Nat) : (guardedSwap m n0 n1).2.2.g = m.g ∨ SwapRan m n0 n1 := by
  by_cases hg : Guards.splitEdgeMixed m.g n0 n1 = true
  · exact .inr ⟨hg, by simp [guardedSwap, swapTriEdge, swapEdgeMixed_eq_split, hg]⟩
  · left; simp [guardedSwap, swapEdgeMixed_eq_split, hg]

/-- the guard of `ref_collapse_to_remove_node1` passed and `ref_collapse_edge` ran; `ref_node_remove`, which follows a
    successful collapse, does not touch the cells -/
structure CollapseRan (m : Mesh P) (n0 n1 : Nat) : Prop where
  guard : Guards.collapseEdgeMixed m.g n0 n1 = true
  grid : (guardedCollapse m n0 n1).2.2.g = (Collapse.collapseEdge m.g n0 n1).2
  ok : (guardedCollapse m n0 n1).2.1 = .ok → (Collapse.collapseEdge m.g n0 n1).1 = .ok

theorem guardedCollapse_cases (m : Mesh P) (n0 n1 : Nat) :
    (guardedCollapse m n0 n1).2.2.g = m.g ∨ CollapseRan m n0 n1 := by
  by_cases hg : Guards.collapseEdgeMixed m.g n0 n1 = true
  · by_cases hs : (Collapse.collapseEdge m.g n0 n1).1 = .ok
    · exact .inr ⟨hg, by simp [guardedCollapse, collapseEdge, hg, hs, removeNode_g], fun _ => hs⟩
    · exact .inr ⟨hg, by simp [guardedCollapse, collapseEdge, hg, hs], by simp [guardedCollapse, collapseEdge, hg, hs]⟩
  · left; simp [guardedCollapse, hg]

theorem guardedMove_g (m : Mesh P) (node : Nat) (p : P) : (guardedMove m node p).2.g = m.g := by
  fun_cases guardedMove m node p <;> rfl

theorem guardedCavity_groups (m : Mesh P) (dt dr nt nr : List Cell) :
    SameFrozenGroups (guardedCavity m dt dr nt nr).2.g m.g := by
  fun_cases guardedCavity m dt dr nt nr <;> exact ⟨rfl, rfl, rfl, rfl⟩

theorem step_groups (m : Mesh P) (op : Op P) : SameFrozenGroups (step m op).g m.g := by
  cases op with
  | split n0 n1 new p =>
    rcases guardedSplit_cases m n0 n1 new p with e | r
    · exact e ▸ SameFrozenGroups.refl _
    · exact r.grid ▸ (splitCells_rewrites m.g n0 n1 new).frozen
  | collapse n0 n1 =>
    rcases guardedCollapse_cases m n0 n1 with e | r
    · exact e ▸ SameFrozenGroups.refl _
    · exact r.grid ▸ (collapseCells_rewrites m.g n0 n1).frozen
  | swap n0 n1 =>
    rcases guardedSwap_cases m n0 n1 with e | r
    · exact e ▸ SameFrozenGroups.refl _
    · exact r.grid ▸ swapCells_groups m.g n0 n1
  | move node p => exact (guardedMove_g m node p) ▸ SameFrozenGroups.refl _
  | cavity dt dr nt nr => exact guardedCavity_groups m dt dr nt nr

end Refine.MixedLemmas
