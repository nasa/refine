import Refine.Lemmas.MatrixQL4

/-!
  Inputs whose tridiagonal form has e[1] = 0 (all 2-D embedded matrices): row 0 takes exactly one implicit-shift sweep
  over the leading 2x2 block (`rowStep0_block2`), rows 1 and 2 are accepted, and the run drops nothing non-zero
  (`ZeroResidual`, so the decomposition is exact by MatrixQL4) — unless e[0] already passes the convergence test at the
  start (`diagM_block2`).
-/
namespace Refine.Model.Matrix
open Refine Refine.ScalarReal

/-- the symmetric matrix a QL state stands for while row 0 is active: `Q (T + f·I) Qᵀ` -/
def QL.repr0 (st : QL ℝ) : M6 ℝ :=
  tridiagForm { st.d with l0 := st.d.l0 + st.f, l1 := st.d.l1 + st.f, l2 := st.d.l2 + st.f } st.e0 st.e1

theorem toMat_repr0 (st : QL ℝ) : st.repr0.toMat = st.reprMat 0 := by
  rw [QL.repr0, toMat_tridiagForm]
  simp only [QL.reprMat, QL.Tmat, if_true, Nat.zero_le]
  rfl

theorem sweep01_e2 (st : QL ℝ) : (sweep 0 1 st).e2 = st.e2 := by
  rw [sweep01_eq]
  show (innerStep 0 _).st.e2 = st.e2
  rw [innerStep0_st]
  exact shift_getE 0 2 st

/-- row 0 with a large e[0] and e[1] = 0: exactly one sweep over the 2x2 block -/
theorem rowStep0_block2 (st : QL ℝ) (he1 : st.e1 = 0)
    (hs : (tstUpd 0 st).isSmall 0 = false) :
    rowStep 0 st = .ok ((sweep 0 1 (tstUpd 0 st)).setD 0
      ((sweep 0 1 (tstUpd 0 st)).getD 0 + (sweep 0 1 (tstUpd 0 st)).f)) := by
  obtain ⟨ud, u0, u1, u2, uf, ut⟩ := tstUpd_spec 0 st
  unfold rowStep
  dsimp only
  rw [tstUpd_def]
  have hs1 : (tstUpd 0 st).isSmall 1 = true := isSmall_of_zero _ 1 ut (by show (tstUpd 0 st).e1 = 0; rw [u1, he1])
  have hf : (tstUpd 0 st).findSmall 0 (3 - 0) = 1 := by
    show (tstUpd 0 st).findSmall 0 (2 + 1) = 1
    unfold QL.findSmall
    rw [if_neg (by rw [hs]; decide)]
    unfold QL.findSmall
    rw [if_pos hs1]
  rw [hf]
  obtain ⟨_, z0, _⟩ := sweep01_repr (tstUpd 0 st) (ne_zero_of_not_isSmall _ 0 ut hs)
  have hsm : (sweep 0 1 (tstUpd 0 st)).isSmall 0 = true :=
    isSmall_of_zero _ 0 (by rw [sweep_tst1]; exact ut) z0
  have hq : qlLoop 30 0 1 (tstUpd 0 st) = .ok (sweep 0 1 (tstUpd 0 st)) := by
    show qlLoop (29 + 1) 0 1 (tstUpd 0 st) = _
    unfold qlLoop
    dsimp only
    rw [if_pos hsm]
  simp only [hq, add_eq]
  rfl

/-- second disjunct: e[0] passed the convergence test at the start, is dropped, and `d` is the diagonal of the
    tridiagonal form -/
theorem diagM_block2 (m : M6 ℝ) (he1 : (rot0 m).e1 = 0) :
    ∃ d, diagM m = .ok d ∧
      (ZeroResidual m d ∨ (tridiagForm d (rot0 m).e0 0 = m ∧ (tstUpd 0 (rot0 m)).isSmall 0 = true)) := by
  have he2 := rot0_e2 m
  obtain ⟨ud, u0, u1, u2, uf, ut⟩ := tstUpd_spec 0 (rot0 m)
  by_cases hs : (tstUpd 0 (rot0 m)).isSmall 0 = true
  · obtain ⟨r, _⟩ := DiagRun.of_row0 (rowStep_of_small 0 (by omega) _ hs)
      (by rw [setD_e1, u1, he1]) (by rw [setD_e2, u2, he2]) rfl
    refine ⟨_, r.diagM_eq, Or.inr ⟨?_, hs⟩⟩
    conv_rhs => rw [← (rot0_spec m).2, he1]
    simp only [QL.setD, QL.getD, ud, uf, rot0_f m, add_zero]
  · have hs' : (tstUpd 0 (rot0 m)).isSmall 0 = false := Bool.eq_false_iff.mpr hs
    obtain ⟨_, z0, z1⟩ := sweep01_repr (tstUpd 0 (rot0 m)) (ne_zero_of_not_isSmall _ 0 ut hs')
    obtain ⟨r, hr, e2⟩ := DiagRun.of_row0 (rowStep0_block2 _ he1 hs')
      (by rw [setD_e1, z1]) (by rw [setD_e2, sweep01_e2, u2, he2]) rfl
    -- nothing non-zero is dropped: `e[1] = 0` from the start, `e[0]` annihilated by the sweep
    refine ⟨_, r.diagM_eq, Or.inl ⟨r, ?_, ?_, e2⟩⟩
    · unfold DiagRun.eps0 rowEps; rw [he1]; simp
    · show r.st1.e0 = 0
      rw [hr, setD_e0]; exact z0

theorem rot0_e1_twod (m : M6 ℝ) (h13 : m.m13 = 0) (h23 : m.m23 = 0) : (rot0 m).e1 = 0 := by
  unfold rot0
  dsimp only
  split_ifs <;> simp [h13, h23]

/-- the example matrix [[2,1,0],[1,2,0],[0,0,1]]: e[0] = 1 does not pass the convergence test (either variant) -/
theorem example_not_small : (tstUpd 0 (rot0 (⟨2, 1, 0, 2, 0, 1⟩ : M6 ℝ))).isSmall 0 = false := by
  rw [Bool.eq_false_iff, Ne, isSmall_iff, tstUpd_tst1, tstUpd_getE,
    rot0_of_pos _ (L := 1) (by norm_num) (by norm_num)]
  simp only [QL.getD, QL.getE]
  split_ifs <;> norm_num

end Refine.Model.Matrix
