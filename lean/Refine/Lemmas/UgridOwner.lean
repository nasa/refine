import Refine.Lemmas.UgridPartRead
import Refine.Lemmas.ListFacts
import Refine.Lemmas.FoldMin

/-! the arithmetic of `ownerOf` / `storedOn` for ANY partition data and ANY cell list (no reader is run here): every
    cell is owned by exactly one rank, and the rank that receives it first and its owner are both among the ranks the
    storage rule `storedOn` names; `ref_cell_add_many_global`'s duplicate filter is the identity on cells with pairwise
    different node sets -/
namespace Refine.Lemmas.Ugrid
open Refine.Gen Refine.Model.Endian Refine.Model.Ugrid
open Refine.Model.Meshb (Bytes Status Vertex P Cfg)

theorem owned_partition (pm : PartMesh) (k : Kind) (cs : List (List Int))
    (h : ∀ c ∈ cs, pm.ownerOf k c < pm.np) :
    ((List.range pm.np).flatMap fun r => pm.ownedBy k cs r).Perm cs :=
  Refine.ListFacts.flatMap_filter_range_perm_of_lt (owner := fun c => pm.ownerOf k c) h

theorem partOf_lt (pm : PartMesh) (hnp : 1 ≤ pm.np) (g : Int) : pm.partOf g < pm.np := by
  unfold PartMesh.partOf
  cases h : implicitPart pm.nnode pm.np g with
  | none => simp; omega
  | some p => simpa using implicitPart_lt h

theorem ownerOf_lt (pm : PartMesh) (hnp : 1 ≤ pm.np) (k : Kind) (c : List Int) : pm.ownerOf k c < pm.np := by
  unfold PartMesh.ownerOf
  split
  · omega
  · exact partOf_lt pm hnp _

/-- `ref_cell_part`'s running minimum is `List.foldl min` -/
theorem foldl_min_mem_int (gs : List Int) (g : Int) : gs.foldl (fun m x => if x < m then x else m) g ∈ g :: gs := by
  have e : (fun (m x : Int) => if x < m then x else m) = fun m x => min m x := by
    funext m x; rw [min_def]; split_ifs <;> omega
  rw [e]
  rcases Refine.FoldMin.foldl_min_mem gs g with h | h
  · rw [h]; exact List.mem_cons_self
  · exact List.mem_cons_of_mem _ h

theorem owner_stores (pm : PartMesh) (k : Kind) (c : List Int) (hne : c.take k.nodePer ≠ []) :
    pm.storedOn k (pm.ownerOf k c) c = true := by
  unfold PartMesh.storedOn PartMesh.ownerOf
  cases hc : c.take k.nodePer with
  | nil => exact absurd hc hne
  | cons g gs =>
    simp only
    rw [List.any_eq_true]
    exact ⟨_, foldl_min_mem_int gs g, by simp⟩

theorem firstDest_stores (pm : PartMesh) (k : Kind) (c : List Int) (hne : c.take k.nodePer ≠ []) :
    pm.storedOn k (pm.firstDest c) c = true := by
  unfold PartMesh.storedOn PartMesh.firstDest
  rw [List.any_eq_true]
  refine ⟨c.getD UgridOffsets.dest_node 0, ?_, by simp⟩
  have hd : UgridOffsets.dest_node = 0 := rfl
  rw [hd]
  cases c with
  | nil => simp at hne
  | cons x xs =>
    have hp := nodePer_pos k
    obtain ⟨j, hj⟩ : ∃ j, k.nodePer = j + 1 := ⟨k.nodePer - 1, by omega⟩
    simp [hj]

theorem dedup_go (k : Kind) (cs acc : List (List Int)) (h : ((acc ++ cs).map (nodeSet k)).Nodup) :
    dedupCells k cs acc = acc.reverse ++ cs := by
  induction cs generalizing acc with
  | nil => simp [dedupCells]
  | cons c cs ih =>
    have hno : acc.any (fun d => nodeSet k d == nodeSet k c) = false := by
      rw [List.any_eq_false]
      intro d hd
      rw [List.map_append, List.nodup_append] at h
      simpa using h.2.2 _ (List.mem_map_of_mem hd) _ (List.mem_map_of_mem List.mem_cons_self)
    simp only [dedupCells, hno, Bool.false_eq_true, if_false]
    -- storing `c` moves it from the head of what is left to the stored cells: the same node sets
    rw [ih (c :: acc) ((List.perm_middle.map _).nodup_iff.1 h)]
    simp

theorem dedupCells_of_nodup (k : Kind) (cs : List (List Int)) (h : (cs.map (nodeSet k)).Nodup) :
    dedupCells k cs [] = cs := by
  simpa using dedup_go k cs [] h

end Refine.Lemmas.Ugrid
