import Refine.Lemmas.GeomReal
import Refine.Lemmas.ListFacts
import Refine.Model.Kexact
import Mathlib.Data.List.Perm.Basic
import Mathlib.Data.List.Nodup

/-!
  `ref_cloud_store` and what is built on it, serial: a cloud built by storing entries `item k` (payload a function of the
  id) is strictly sorted by id and holds exactly the entries stored, whatever the order and multiplicity of the stores
  (`storeAll_items`); hence the one-layer cloud `ref_recon_local_immediate_cloud` builds for a vertex is determined by the
  SET of vertices sharing a cell with it (`oneLayer_entry`).  `ref_recon_grow_cloud_one_layer` queries the cloud table only
  at the ids present in the cloud it grows (`grow_congr`), so two tables that agree there give the same first attempt of
  the layer loop (`kexactNode_first`).  `itemOf` and `store_mem` are declared in `Refine.Props.C19Kexact` (no Props
  file is imported); the rest in `Refine.KexactCloud`.
-/
namespace Refine.Props.C19Kexact
open Refine Refine.Model.Geom Refine.Model.Kexact Refine.ScalarReal Refine.GeomReal

/-- the cloud entry `ref_recon_local_immediate_cloud` stores for vertex `i` -/
noncomputable def itemOf (xyz : List (V3 ℝ)) (s : List ℝ) (i : ℕ) : Item ℝ :=
  ⟨(i : Int), (xyz.getD i V3.zero).x, (xyz.getD i V3.zero).y, (xyz.getD i V3.zero).z, s.getD i 0⟩

theorem store_mem {it x : Item ℝ} : ∀ {c : List (Item ℝ)}, x ∈ store c it → x ∈ c ∨ x = it := by
  intro c
  fun_induction store c it with
  | case1 => exact fun h => Or.inr (List.mem_singleton.mp h)
  | case2 hd t it _ =>
    intro h
    rcases List.mem_cons.mp h with rfl | h
    · exact Or.inr rfl
    · exact Or.inl (List.mem_cons_of_mem _ h)
  | case3 hd t it _ _ => exact fun h => (List.mem_cons.mp h).symm
  | case4 hd t it _ _ ih =>
    intro h
    rcases List.mem_cons.mp h with rfl | h
    · exact Or.inl List.mem_cons_self
    · exact (ih h).imp_left (List.mem_cons_of_mem _)

end Refine.Props.C19Kexact

namespace Refine.KexactCloud
open Refine Refine.Model.Geom Refine.Model.Kexact Refine.ScalarReal Refine.GeomReal
open Refine.Props.C19Kexact (itemOf store_mem)

theorem storeAll_all {P : Item ℝ → Prop} (its c : List (Item ℝ)) (hc : ∀ x ∈ c, P x) (hi : ∀ x ∈ its, P x) :
    ∀ x ∈ storeAll c its, P x :=
  List.foldlRecOn (motive := fun c => ∀ x ∈ c, P x) its store hc fun _ hc it hit x hx =>
    (store_mem hx).elim (hc x) fun h => h ▸ hi it hit

theorem grow_all {P : Item ℝ → Prop} (layerOf : Int → List (Item ℝ)) (hl : ∀ k, ∀ x ∈ layerOf k, P x)
    (c : List (Item ℝ)) (hc : ∀ x ∈ c, P x) : ∀ x ∈ grow layerOf c, P x :=
  List.foldlRecOn (motive := fun c => ∀ x ∈ c, P x) c _ hc fun acc hacc p _ =>
    storeAll_all _ acc hacc (hl p.g)

def SortedG (c : List (Item ℝ)) : Prop := c.Pairwise fun a b => a.g < b.g

def AllItems (xyz : List (V3 ℝ)) (s : List ℝ) (c : List (Item ℝ)) : Prop := ∀ x ∈ c, ∃ k : Nat, x = itemOf xyz s k

theorem itemOf_inj_g {xyz : List (V3 ℝ)} {s : List ℝ} {a b : Item ℝ} (ha : ∃ k : Nat, a = itemOf xyz s k)
    (hb : ∃ k : Nat, b = itemOf xyz s k) (h : a.g = b.g) : a = b := by
  obtain ⟨k, rfl⟩ := ha
  obtain ⟨k', rfl⟩ := hb
  have : k = k' := Int.ofNat_inj.mp h
  rw [this]

theorem mem_store_items {xyz : List (V3 ℝ)} {s : List ℝ} {c : List (Item ℝ)} (hc : AllItems xyz s c) (k0 : Nat)
    (x : Item ℝ) : x ∈ store c (itemOf xyz s k0) ↔ x = itemOf xyz s k0 ∨ x ∈ c := by
  generalize hit : itemOf xyz s k0 = it
  fun_induction store c it with
  | case1 => simp
  | case2 hd t it heq =>
    -- the entry replaced has the id of `it`, so it IS `it`
    rw [itemOf_inj_g (hc hd List.mem_cons_self) ⟨k0, hit.symm⟩ (by simpa using heq)]
    simp only [List.mem_cons, or_self_left]
  | case3 => exact List.mem_cons
  | case4 hd t it _ _ ih =>
    simp only [List.mem_cons, ih (fun x hx => hc x (List.mem_cons_of_mem _ hx)) hit, or_left_comm]

theorem store_sorted (it : Item ℝ) (c : List (Item ℝ)) (h : SortedG c) : SortedG (store c it) := by
  unfold SortedG at h ⊢
  fun_induction store c it with
  | case1 => exact List.pairwise_singleton _ _
  | case2 hd t it heq =>
    rw [List.pairwise_cons] at h ⊢
    have hg : hd.g = it.g := by simpa using heq
    exact ⟨fun b hb => hg ▸ h.1 b hb, h.2⟩
  | case3 hd t it _ hlt =>
    rw [List.pairwise_cons] at h
    rw [List.pairwise_cons, List.pairwise_cons]
    refine ⟨fun b hb => ?_, h.1, h.2⟩
    rcases List.mem_cons.mp hb with rfl | hb'
    · exact hlt
    · exact lt_trans hlt (h.1 b hb')
  | case4 hd t it hne hnlt ih =>
    rw [List.pairwise_cons] at h ⊢
    refine ⟨fun b hb => ?_, ih h.2⟩
    rcases store_mem hb with hb' | rfl
    · exact h.1 b hb'
    · exact lt_of_le_of_ne (not_lt.mp hnlt) (by simpa using hne)

theorem store_allItems {xyz : List (V3 ℝ)} {s : List ℝ} {c : List (Item ℝ)} (hc : AllItems xyz s c) (k0 : Nat) :
    AllItems xyz s (store c (itemOf xyz s k0)) := by
  intro x hx
  rcases store_mem hx with h | rfl
  · exact hc x h
  · exact ⟨k0, rfl⟩

theorem storeAll_items {xyz : List (V3 ℝ)} {s : List ℝ} (ks : List Nat) :
    ∀ (c : List (Item ℝ)), SortedG c → AllItems xyz s c →
      SortedG (storeAll c (ks.map (itemOf xyz s))) ∧ AllItems xyz s (storeAll c (ks.map (itemOf xyz s))) ∧
      ∀ x, x ∈ storeAll c (ks.map (itemOf xyz s)) ↔ (∃ k ∈ ks, x = itemOf xyz s k) ∨ x ∈ c := by
  induction ks with
  | nil => intro c h1 h2; exact ⟨h1, h2, fun x => by simp [storeAll]⟩
  | cons k rest ih =>
    intro c h1 h2
    have := ih (store c (itemOf xyz s k)) (store_sorted _ c h1) (store_allItems h2 k)
    simp only [storeAll, List.map_cons, List.foldl_cons] at this ⊢
    refine ⟨this.1, this.2.1, fun x => ?_⟩
    rw [this.2.2 x, mem_store_items h2 k x]
    constructor
    · rintro (⟨k', hk', rfl⟩ | rfl | h)
      · exact Or.inl ⟨k', List.mem_cons_of_mem _ hk', rfl⟩
      · exact Or.inl ⟨k, List.mem_cons_self, rfl⟩
      · exact Or.inr h
    · rintro (⟨k', hk', rfl⟩ | h)
      · rcases List.mem_cons.mp hk' with rfl | hk''
        · exact Or.inr (Or.inl rfl)
        · exact Or.inl ⟨k', hk'', rfl⟩
      · exact Or.inr (Or.inr h)

/-- what the cloud of vertex `v` must hold: the vertices of the cells containing `v` -/
def InRing (cells : List (List Nat)) (v k : Nat) : Prop := ∃ cell ∈ cells, v ∈ cell ∧ k ∈ cell

/-- entry `v` of an accumulator: sorted items, holding `item k` exactly for the `k` in `R` -/
def EntryIs (xyz : List (V3 ℝ)) (s : List ℝ) (acc : List (List (Item ℝ))) (v : Nat) (R : Nat → Prop) : Prop :=
  ∃ L, acc[v]? = some L ∧ SortedG L ∧ AllItems xyz s L ∧ ∀ x, x ∈ L ↔ ∃ k, R k ∧ x = itemOf xyz s k

theorem EntryIs.congr {xyz : List (V3 ℝ)} {s : List ℝ} {acc : List (List (Item ℝ))} {v : Nat} {R R' : Nat → Prop}
    (h : EntryIs xyz s acc v R) (hR : ∀ k, R k ↔ R' k) : EntryIs xyz s acc v R' := by
  obtain ⟨L, hL, hs, hi, hm⟩ := h
  exact ⟨L, hL, hs, hi, fun x => by simp only [hm x, hR]⟩

theorem EntryIs.modify {xyz : List (V3 ℝ)} {s : List ℝ} {acc : List (List (Item ℝ))} {v : Nat} {R : Nat → Prop}
    (h : EntryIs xyz s acc v R) (u : Nat) (ks : List Nat) :
    EntryIs xyz s (acc.modify u fun c => storeAll c (ks.map (itemOf xyz s))) v (fun k => R k ∨ (u = v ∧ k ∈ ks)) := by
  obtain ⟨L, hL, hs, hi, hm⟩ := h
  by_cases huv : u = v
  · obtain ⟨s1, s2, s3⟩ := storeAll_items (xyz := xyz) (s := s) ks L hs hi
    refine ⟨_, by rw [List.getElem?_modify, hL]; simp [huv], s1, s2, fun x => ?_⟩
    rw [s3 x, hm x]
    constructor
    · rintro (⟨k, hk, rfl⟩ | ⟨k, hk, rfl⟩)
      · exact ⟨k, Or.inr ⟨huv, hk⟩, rfl⟩
      · exact ⟨k, Or.inl hk, rfl⟩
    · rintro ⟨k, hk | ⟨_, hk⟩, rfl⟩
      · exact Or.inr ⟨k, hk, rfl⟩
      · exact Or.inl ⟨k, hk, rfl⟩
  · refine (EntryIs.congr ⟨L, by rw [List.getElem?_modify, hL]; simp [huv], hs, hi, hm⟩ fun k => ?_)
    simp only [huv, false_and, or_false]

theorem EntryIs.cell {xyz : List (V3 ℝ)} {s : List ℝ} {v : Nat} (ks : List Nat) :
    ∀ (us : List Nat) {acc : List (List (Item ℝ))} {R : Nat → Prop}, EntryIs xyz s acc v R →
      EntryIs xyz s (us.foldl (fun a u => a.modify u fun c => storeAll c (ks.map (itemOf xyz s))) acc) v
        (fun k => R k ∨ (v ∈ us ∧ k ∈ ks))
  | [], _, _, h => h.congr fun k => by simp
  | u :: us, _, _, h => ((h.modify u ks).cell ks us).congr fun k => by
      simp only [List.mem_cons, or_assoc, ← or_and_right, eq_comm (a := u)]

theorem oneLayer_entry (xyz : List (V3 ℝ)) (s : List ℝ) (cells : List (List Nat)) (v : Nat) (hv : v < xyz.length) :
    EntryIs xyz s (oneLayer xyz s cells) v (InRing cells v) := by
  unfold oneLayer
  dsimp only
  have hitem : ∀ i : Nat, (⟨(i : Int), (xyz.getD i V3.zero).x, (xyz.getD i V3.zero).y, (xyz.getD i V3.zero).z,
      s.getD i lit0⟩ : Item ℝ) = itemOf xyz s i := fun i => by simp [itemOf, lit0_eq]
  simp only [hitem]
  -- over the cells, from any accumulator: entry `v` gains the ring of `v` in the cells visited
  have key : ∀ (cs : List (List Nat)) {acc : List (List (Item ℝ))} {R : Nat → Prop}, EntryIs xyz s acc v R →
      EntryIs xyz s (cs.foldl (fun acc cell => cell.foldl (fun a u => a.modify u
        (fun c => storeAll c (cell.map (itemOf xyz s)))) acc) acc) v (fun k => R k ∨ InRing cs v k) := by
    intro cs
    induction cs with
    | nil => intro acc R h; exact h.congr fun k => by simp [InRing]
    | cons cell rest ih =>
      intro acc R h
      exact (ih (h.cell cell cell)).congr fun k => by simp [InRing, or_assoc]
  refine (key cells (R := fun _ => False) ⟨[], by simp [hv], by simp [SortedG], by intro x hx; simp at hx, ?_⟩).congr
    fun k => by simp
  intro x
  simp

theorem length_oneLayer (xyz : List (V3 ℝ)) (s : List ℝ) (cells : List (List ℕ)) :
    (oneLayer xyz s cells).length = xyz.length := by
  unfold oneLayer
  refine List.foldlRecOn (motive := fun acc : List (List (Item ℝ)) => acc.length = xyz.length) cells _ (by simp)
    fun acc hacc cell _ => ?_
  exact List.foldlRecOn (motive := fun acc : List (List (Item ℝ)) => acc.length = xyz.length) cell _ hacc
    fun a ha v _ => by rw [List.length_modify]; exact ha

theorem oneLayer_items (xyz : List (V3 ℝ)) (s : List ℝ) (cells : List (List ℕ))
    (hcells : ∀ cell ∈ cells, ∀ v ∈ cell, v < xyz.length) :
    ∀ L ∈ oneLayer xyz s cells, ∀ it ∈ L, ∃ j, j < xyz.length ∧ it = itemOf xyz s j := by
  intro L hL it hit
  obtain ⟨v, hv, rfl⟩ := List.getElem_of_mem hL
  obtain ⟨L', hL', -, -, hm⟩ := oneLayer_entry xyz s cells v (length_oneLayer xyz s cells ▸ hv)
  obtain rfl := Option.some.inj ((List.getElem?_eq_getElem hv).symm.trans hL')
  obtain ⟨k, ⟨cell, hc, -, hk⟩, rfl⟩ := (hm it).mp hit
  exact ⟨k, hcells cell hc k hk, rfl⟩

/-- the table `ref_recon_kexact_gradient_hessian` reads the clouds from: no cloud at a negative or unknown id -/
theorem layerTable_items (xyz : List (V3 ℝ)) (s : List ℝ) (cells : List (List ℕ))
    (hcells : ∀ cell ∈ cells, ∀ v ∈ cell, v < xyz.length) (k : Int) :
    ∀ it ∈ (if k < 0 then [] else (oneLayer xyz s cells).getD k.toNat []), ∃ j, j < xyz.length ∧ it = itemOf xyz s j := by
  intro it hit
  split at hit
  · cases hit
  · by_cases hk : k.toNat < (oneLayer xyz s cells).length
    · exact oneLayer_items xyz s cells hcells _ (Refine.ListFacts.getD_mem hk) it hit
    · rw [Refine.ListFacts.getD_eq_default (not_lt.mp hk)] at hit; cases hit

theorem grow_congr (layerW layerS : Int → List (Item ℝ)) (c : List (Item ℝ))
    (h : ∀ it ∈ c, layerW it.g = layerS it.g) : grow layerW c = grow layerS c := by
  unfold grow
  exact List.foldl_ext _ _ _ fun acc p hp => by rw [h p hp]

theorem grow_first (layerW layerS : Int → List (Item ℝ)) (c : Int)
    (h0 : layerW c = layerS c) (h1 : ∀ it ∈ layerS c, layerW it.g = layerS it.g) :
    grow layerW (layerW c) = grow layerS (layerS c) := by
  rw [h0]
  exact grow_congr layerW layerS _ h1

theorem layerLoop_first (layerOf : Int → List (Item ℝ)) (center : Int) (twod : Bool) (fuel : Nat)
    (cloud : List (Item ℝ))
    (hok : (kexactWithAux center (grow layerOf cloud) twod).1 = KSt.ok ∨
           (kexactWithAux center (grow layerOf cloud) twod).1 = KSt.notFound) :
    layerLoop layerOf center twod (fuel + 1) cloud =
      ((kexactWithAux center (grow layerOf cloud) twod).2.1, (kexactWithAux center (grow layerOf cloud) twod).2.2) := by
  unfold layerLoop
  simp only
  rcases hr : kexactWithAux center (grow layerOf cloud) twod with ⟨st, g, h⟩
  rw [hr] at hok
  simp only at hok
  rcases hok with rfl | rfl <;> rfl

theorem kexactNode_first (twod : Bool) (layerW layerS : Int → List (Item ℝ)) (c : Int)
    (h0 : layerW c = layerS c) (h1 : ∀ it ∈ layerS c, layerW it.g = layerS it.g)
    (hok : (kexactWithAux c (grow layerS (layerS c)) twod).1 = KSt.ok ∨
           (kexactWithAux c (grow layerS (layerS c)) twod).1 = KSt.notFound) :
    kexactNode layerW c twod = kexactNode layerS c twod := by
  have hg := grow_first layerW layerS c h0 h1
  have hokW : (kexactWithAux c (grow layerW (layerW c)) twod).1 = KSt.ok ∨
      (kexactWithAux c (grow layerW (layerW c)) twod).1 = KSt.notFound := by rw [hg]; exact hok
  unfold kexactNode
  rw [layerLoop_first layerW c twod 6 _ hokW, layerLoop_first layerS c twod 6 _ hok, hg]

end Refine.KexactCloud
