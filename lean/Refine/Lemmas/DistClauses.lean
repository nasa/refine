import Refine.Model.Dist
import Refine.Lemmas.ListFacts
import Refine.Lemmas.CommBuffer
import Mathlib.Data.List.Nodup

/-!
  The executable distributed-mesh invariant `distInv` of `Refine/Model/Dist.lean` read clause by clause as propositions
  about the ranks `w[q]? = some s`, and the lookups (`partOf`, `has`, `ownedGlobals`, …) the clauses are written with.
  Each clause is an `↔` (`clauseLocal_iff` … `clauseCounts_iff`).  `InvFacts` names the parts the cross-rank lemmas below
  and the converse in `DistLayout` read: clauses (o), (i), (iv), of (ii) that a stored cell has its vertices stored, of the
  counting clause the distinct owned globals and what it says once synchronised; the rest is read through the `_iff`s.
  Across ranks: all copies of a global agree with the one owned copy (`copies_agree`).
-/
namespace Refine.Lemmas.DistClauses
open Refine.Model.Dist
open Refine.Model.Comm (World)

theorem all_zipIdx {α : Type} (w : List α) (p : α × Nat → Bool) :
    w.zipIdx.all p = true ↔ ∀ (q : Nat) (s : α), w[q]? = some s → p (s, q) = true := by
  rw [List.all_eq_true]
  constructor
  · intro h q s hs
    exact h (s, q) (List.mem_zipIdx_iff_getElem?.mpr hs)
  · rintro h ⟨s, q⟩ hm
    exact h q s (List.mem_zipIdx_iff_getElem?.mp hm)

theorem mem_flatten_zipIdx {α β : Type} (w : List α) (f : α × Nat → List β) (x : β) :
    x ∈ (w.zipIdx.map f).flatten ↔ ∃ (q : Nat) (s : α), w[q]? = some s ∧ x ∈ f (s, q) := by
  rw [List.mem_flatten]
  constructor
  · rintro ⟨l, hl, hx⟩
    obtain ⟨⟨s, q⟩, hm, rfl⟩ := List.mem_map.mp hl
    exact ⟨q, s, List.mem_zipIdx_iff_getElem?.mp hm, hx⟩
  · rintro ⟨q, s, hs, hx⟩
    exact ⟨_, List.mem_map.mpr ⟨(s, q), List.mem_zipIdx_iff_getElem?.mpr hs, rfl⟩, hx⟩

theorem nodupB_iff {α : Type} [BEq α] [LawfulBEq α] (l : List α) : nodupB l = true ↔ l.Nodup := by
  induction l with
  | nil => exact ⟨fun _ => List.nodup_nil, fun _ => rfl⟩
  | cons x xs ih =>
    simp only [nodupB, Bool.and_eq_true, Bool.not_eq_true', List.contains_eq_mem, decide_eq_false_iff_not, ih,
      List.nodup_cons]

theorem find_glob {nodes : List DNode} (hnd : (nodes.map (·.glob)).Nodup) {nd : DNode} (h : nd ∈ nodes) :
    nodes.find? (fun x => x.glob == nd.glob) = some nd :=
  Refine.Lemmas.Comm.find?_of_unique h (beq_self_eq_true _) fun _ hy hp =>
    List.inj_on_of_nodup_map hnd hy h (beq_iff_eq.mp hp)

theorem partOf_of_mem {s : RankState} (hnd : (s.nodes.map (·.glob)).Nodup) {nd : DNode} (h : nd ∈ s.nodes) :
    s.partOf nd.glob = some nd.part := by
  unfold RankState.partOf
  rw [find_glob hnd h]
  rfl

theorem partOf_some {s : RankState} {g p : Int} (h : s.partOf g = some p) : ∃ nd ∈ s.nodes, nd.glob = g ∧ nd.part = p := by
  unfold RankState.partOf at h
  obtain ⟨nd, hf, hp⟩ := Option.map_eq_some_iff.mp h
  exact ⟨nd, List.mem_of_find?_eq_some hf, by simpa using List.find?_some hf, hp⟩

theorem has_iff (s : RankState) (g : Int) : s.has g = true ↔ g ∈ s.nodes.map (·.glob) := by
  unfold RankState.has
  simp only [List.any_eq_true, beq_iff_eq, List.mem_map]

theorem mem_ownedGlobals (w : World RankState) (g : Int) :
    g ∈ ownedGlobals w ↔ ∃ (q : Nat) (s : RankState), w[q]? = some s ∧ ∃ nd ∈ s.nodes, nd.part = (q : Int) ∧ nd.glob = g := by
  unfold ownedGlobals RankState.ownedNodes
  simp only [mem_flatten_zipIdx, List.mem_map, List.mem_filter, beq_iff_eq, and_assoc]

theorem mem_ownedCellsAll (w : World RankState) (c : DCell) :
    c ∈ ownedCellsAll w ↔ ∃ (q : Nat) (s : RankState), w[q]? = some s ∧ c ∈ s.cells ∧ s.ownerOf c = (q : Int) := by
  unfold ownedCellsAll RankState.ownedCells
  simp only [mem_flatten_zipIdx, List.mem_filter, beq_iff_eq]

theorem mem_allCells (w : World RankState) (c : DCell) : c ∈ allCells w ↔ ∃ s ∈ w, c ∈ s.cells := by
  unfold allCells
  simp only [List.mem_eraseDups, List.mem_flatten, List.mem_map, exists_exists_and_eq_and]

def idsUpTo (N : Nat) : List Int := (List.range N).map fun (i : Nat) => (i : Int)

theorem mem_idsUpTo (N : Nat) (g : Int) : g ∈ idsUpTo N ↔ 0 ≤ g ∧ g < (N : Int) := by
  unfold idsUpTo
  simp only [List.mem_map, List.mem_range]
  constructor
  · rintro ⟨i, hi, rfl⟩
    exact ⟨Int.natCast_nonneg i, Int.ofNat_lt.mpr hi⟩
  · rintro ⟨h0, h1⟩
    exact ⟨g.toNat, (Int.toNat_lt h0).mpr h1, Int.toNat_of_nonneg h0⟩

theorem idsUpTo_nodup (N : Nat) : (idsUpTo N).Nodup :=
  List.nodup_range.map_on fun _ _ _ _ hxy => Int.ofNat_inj.mp hxy

theorem idsUpTo_sorted (N : Nat) : (idsUpTo N).Pairwise (· ≤ ·) := by
  unfold idsUpTo
  rw [List.pairwise_map]
  exact List.pairwise_lt_range.imp fun h => Int.ofNat_le.mpr (Nat.le_of_lt h)

theorem clauseLocal_iff (w : World RankState) : clauseLocal w = true ↔ ∀ s ∈ w,
    (s.nodes.map (·.glob)).Nodup ∧ s.cells.Nodup ∧
    ∀ nd ∈ s.nodes, 0 ≤ nd.glob ∧ 0 ≤ nd.part ∧ nd.part < (w.length : Int) := by
  simp only [clauseLocal, List.all_eq_true, Bool.and_eq_true, decide_eq_true_eq, nodupB_iff, and_assoc]

theorem clauseOwner_iff (w : World RankState) : clauseOwner w = true ↔ ∀ s ∈ w, ∀ nd ∈ s.nodes,
    ∃ o, w[nd.part.toNat]? = some o ∧ o.partOf nd.glob = some nd.part := by
  simp only [clauseOwner, List.all_eq_true]
  refine forall₂_congr fun s _ => forall₂_congr fun nd _ => ?_
  cases w[nd.part.toNat]? <;> simp

theorem clauseCells_iff (w : World RankState) : clauseCells w = true ↔
    ∀ (q : Nat) (t : RankState), w[q]? = some t → ∀ c ∈ t.cells,
      (∀ v ∈ c.nodes, t.has v = true) ∧ (∃ gp ∈ t.cellVerts c, gp.2 = (q : Int)) ∧
      ∀ gp ∈ t.cellVerts c, ∃ o, w[gp.2.toNat]? = some o ∧ c ∈ o.cells := by
  rw [clauseCells, all_zipIdx]
  simp only [List.all_eq_true, List.any_eq_true, Bool.and_eq_true, beq_iff_eq, and_assoc]
  refine forall₃_congr fun q t _ => forall₂_congr fun c _ => and_congr_right fun _ => and_congr_right fun _ =>
    forall₂_congr fun gp _ => ?_
  cases w[gp.2.toNat]? <;> simp

theorem clauseVerts_iff (w : World RankState) : clauseVerts w = true ↔
    ∀ (q : Nat) (t : RankState), w[q]? = some t → ∀ nd ∈ t.nodes,
      nd.part = (q : Int) ∨ ∃ c ∈ t.cells, nd.glob ∈ c.nodes := by
  rw [clauseVerts, all_zipIdx]
  simp only [List.all_eq_true, List.any_eq_true, Bool.or_eq_true, beq_iff_eq, List.contains_eq_mem, decide_eq_true_eq]

theorem clauseGhost_iff (w : World RankState) : clauseGhost w = true ↔
    ∀ (q : Nat) (t : RankState), w[q]? = some t → ∀ nd ∈ t.nodes, nd.part = (q : Int) ∨
      ∃ o, w[nd.part.toNat]? = some o ∧ (o.nodes.find? fun od => od.glob == nd.glob).map (·.payload) = some nd.payload := by
  rw [clauseGhost, all_zipIdx]
  simp only [List.all_eq_true, Bool.or_eq_true, beq_iff_eq]
  refine forall₃_congr fun q t _ => forall₂_congr fun nd _ => or_congr_right ?_
  cases w[nd.part.toNat]? <;> simp

theorem clauseCellOwner_iff (w : World RankState) : clauseCellOwner w = true ↔ ∀ s ∈ w, ∀ c ∈ s.cells,
    ∃ os, w[(s.ownerOf c).toNat]? = some os ∧ 0 ≤ s.ownerOf c ∧ c ∈ os.cells ∧ os.ownerOf c = s.ownerOf c := by
  simp only [clauseCellOwner, List.all_eq_true]
  refine forall₂_congr fun s _ => forall₂_congr fun c _ => ?_
  cases w[(s.ownerOf c).toNat]? <;> simp [and_assoc]

theorem clauseCounts_iff (w : World RankState) : clauseCounts w = true ↔
    (ownedGlobals w).Nodup ∧ (ownedCellsAll w).Nodup ∧ (ownedCellsAll w).length = (allCells w).length ∧
    (synced w = true → (∀ s ∈ w, s.newN = ((ownedGlobals w).length : Int)) ∧
      sortGlob (ownedGlobals w) = idsUpTo (ownedGlobals w).length) := by
  simp only [idsUpTo, clauseCounts, Bool.and_eq_true, Bool.or_eq_true, Bool.not_eq_true', beq_iff_eq, List.all_eq_true, nodupB_iff,
    and_assoc]
  cases synced w <;> simp

theorem distInv_iff (w : World RankState) : distInv w = true ↔
    clauseLocal w = true ∧ clauseOwner w = true ∧ clauseCells w = true ∧ clauseVerts w = true ∧ clauseGhost w = true ∧
    clauseCellOwner w = true ∧ clauseCounts w = true := by
  simp only [distInv, Bool.and_eq_true, and_assoc]

structure InvFacts (w : World RankState) : Prop where
  nodupG : ∀ s ∈ w, (s.nodes.map (·.glob)).Nodup
  nodupC : ∀ s ∈ w, s.cells.Nodup
  nonneg : ∀ s ∈ w, ∀ nd ∈ s.nodes, 0 ≤ nd.glob ∧ 0 ≤ nd.part ∧ nd.part < (w.length : Int)
  owner : ∀ s ∈ w, ∀ nd ∈ s.nodes, ∃ o, w[nd.part.toNat]? = some o ∧ o.partOf nd.glob = some nd.part
  cellStored : ∀ s ∈ w, ∀ c ∈ s.cells, ∀ v ∈ c.nodes, v ∈ s.nodes.map (·.glob)
  ghost : ∀ (r : Nat) (s : RankState), w[r]? = some s → ∀ nd ∈ s.nodes, nd.part = (r : Int) ∨
    ∃ o, w[nd.part.toNat]? = some o ∧ (o.nodes.find? fun od => od.glob == nd.glob).map (·.payload) = some nd.payload
  nodupOwned : (ownedGlobals w).Nodup
  counts : synced w = true → (∀ s ∈ w, s.newN = ((ownedGlobals w).length : Int)) ∧
    sortGlob (ownedGlobals w) = idsUpTo (ownedGlobals w).length

theorem invFacts_of_distInv (w : World RankState) (h : distInv w = true) : InvFacts w := by
  obtain ⟨hL, hO, hC, _, hG, _, hN⟩ := (distInv_iff w).mp h
  have hL := (clauseLocal_iff w).mp hL
  refine ⟨fun s hs => (hL s hs).1, fun s hs => (hL s hs).2.1, fun s hs => (hL s hs).2.2, (clauseOwner_iff w).mp hO, ?_,
    (clauseGhost_iff w).mp hG, ((clauseCounts_iff w).mp hN).1,
    ((clauseCounts_iff w).mp hN).2.2.2⟩
  intro s hs c hc v hv
  obtain ⟨q, hq⟩ := List.getElem?_of_mem hs
  exact (has_iff s v).mp (((clauseCells_iff w).mp hC q s hq c hc).1 v hv)

/-- what the rank named by the part of a stored copy finds for its global: an entry with that part and that payload -/
theorem owner_entry {w : World RankState} (F : InvFacts w) {r : Nat} {s : RankState} (hr : w[r]? = some s)
    {x : DNode} (hx : x ∈ s.nodes) :
    ∃ o z, w[x.part.toNat]? = some o ∧ o.nodes.find? (fun od => od.glob == x.glob) = some z ∧
      z.part = x.part ∧ z.payload = x.payload := by
  obtain ⟨o, ho, hpo⟩ := F.owner s (List.mem_of_getElem? hr) x hx
  obtain ⟨z, hf, hzp⟩ := Option.map_eq_some_iff.mp hpo
  refine ⟨o, z, ho, hf, hzp, ?_⟩
  rcases F.ghost r s hr x hx with h1 | ⟨o', ho', hp⟩
  · -- an owned copy is the entry its own rank finds
    rw [h1, Int.toNat_natCast, hr] at ho
    cases ho
    rw [find_glob (F.nodupG s (List.mem_of_getElem? hr)) hx] at hf
    exact congrArg _ (Option.some.inj hf).symm
  · rw [ho] at ho'
    cases ho'
    rw [hf] at hp
    exact Option.some.inj hp

/-- one owner per vertex: an owned global names its rank, so all copies of a global carry the same part, and with it
    the payload found there -/
theorem copies_agree {w : World RankState} (F : InvFacts w) {s t : RankState} (hs : s ∈ w) (ht : t ∈ w)
    {x y : DNode} (hx : x ∈ s.nodes) (hy : y ∈ t.nodes) (hg : x.glob = y.glob) :
    x.part = y.part ∧ x.payload = y.payload := by
  obtain ⟨r, hr⟩ := List.getElem?_of_mem hs
  obtain ⟨r', hr'⟩ := List.getElem?_of_mem ht
  obtain ⟨o, z, ho, hf, hzp, hzy⟩ := owner_entry F hr hx
  obtain ⟨o', z', ho', hf', hzp', hzy'⟩ := owner_entry F hr' hy
  have hown : ∀ {o : RankState} {z u : DNode}, o.nodes.find? (fun od => od.glob == u.glob) = some z → z.part = u.part →
      0 ≤ u.part → u.glob ∈ (o.ownedNodes u.part.toNat).map (·.glob) := fun hf hp h0 =>
    List.mem_map.mpr ⟨_, List.mem_filter.mpr ⟨List.mem_of_find?_eq_some hf,
      by rw [beq_iff_eq, hp, Int.toNat_of_nonneg h0]⟩, by simpa using List.find?_some hf⟩
  have h0 := (F.nonneg s hs x hx).2.1
  have h0' := (F.nonneg t ht y hy).2.1
  have hkk := ((Refine.ListFacts.nodup_flatten_zipIdx w _).mp F.nodupOwned).2 _ _ o o' ho ho' x.glob
    (hown hf hzp h0) (hg ▸ hown hf' hzp' h0')
  have hp : x.part = y.part := by rw [← Int.toNat_of_nonneg h0, ← Int.toNat_of_nonneg h0', hkk]
  rw [← hp, ho] at ho'
  cases ho'
  rw [← hg, hf] at hf'
  cases hf'
  exact ⟨hp, hzy.symm.trans hzy'⟩

end Refine.Lemmas.DistClauses
