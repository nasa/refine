/-!
  The two loops of the file readers.  The counted loop `many`: `n` times one checked read, results in stream order.  The
  record loops of the models (`rdInts`, `rdF64s`, `rdRowsWith`, `rdCells`, the parallel reader's `rdLongs`, the UGRID and text loops) are
  each equal to `many one` for their one-record reader; what `n` reads return, consume and reject then follows from
  what one read does, and the loop reads back `xs.flatMap enc` when one read reads back `enc x`.  The list loop `each`:
  one checked step per member of a list; it accepts exactly when every step does (`each_eq_ok_iff`).

  Generic in the stream `σ` (bytes, tokens) and the status `ε`.  At the end `exists_ok_of_decide`, which with
  `Codec.ofHex_ofList` (CodecBytes) is the device for evaluating a reader on a witness file.  No imports.
-/
namespace Refine.Lemmas.Reader

variable {ε σ α : Type}

abbrev Rd (ε σ α : Type) := σ → Except ε (α × σ)

def many (one : Rd ε σ α) : Nat → Rd ε σ (List α)
  | 0, s => .ok ([], s)
  | n + 1, s =>
    match one s with
    | .error e => .error e
    | .ok (a, s) =>
    match many one n s with
    | .error e => .error e
    | .ok (as, s) => .ok (a :: as, s)

variable {one : Rd ε σ α}

theorem many_succ_eq_ok {n : Nat} {s r : σ} {l : List α} :
    many one (n + 1) s = .ok (l, r) ↔
      ∃ a s1 as, one s = .ok (a, s1) ∧ many one n s1 = .ok (as, r) ∧ l = a :: as := by
  rw [many]
  constructor
  · intro h
    split at h
    · cases h
    · split at h
      · cases h
      · cases h; exact ⟨_, _, _, ‹_›, ‹_›, rfl⟩
  · rintro ⟨a, s1, as, h1, h2, rfl⟩
    simp only [h1, h2]

theorem many_length : ∀ {n : Nat} {s r : σ} {l : List α}, many one n s = .ok (l, r) → l.length = n
  | 0, _, _, _, h => by cases h; rfl
  | n + 1, _, _, _, h => by
    obtain ⟨a, s1, as, _, has, rfl⟩ := many_succ_eq_ok.1 h
    rw [List.length_cons, many_length has]

theorem many_all {Q : α → Prop} (h1 : ∀ s a r, one s = .ok (a, r) → Q a) :
    ∀ (n : Nat) {s r : σ} {l : List α}, many one n s = .ok (l, r) → ∀ a ∈ l, Q a
  | 0, _, _, _, h => by cases h; simp
  | n + 1, s, r, l, h => by
    obtain ⟨a, s1, as, ha, has, rfl⟩ := many_succ_eq_ok.1 h
    simpa using ⟨h1 _ _ _ ha, many_all h1 n has⟩

theorem many_consume {μ : σ → Nat} {k : Nat} (h1 : ∀ s a r, one s = .ok (a, r) → μ r + k ≤ μ s) :
    ∀ (n : Nat) {s r : σ} {l : List α}, many one n s = .ok (l, r) → μ r + n * k ≤ μ s
  | 0, _, _, _, h => by cases h; simp
  | n + 1, s, r, l, h => by
    obtain ⟨a, s1, as, ha, has, rfl⟩ := many_succ_eq_ok.1 h
    have := h1 _ _ _ ha
    have := many_consume h1 n has
    rw [Nat.succ_mul]; omega

theorem many_consume_eq {μ : σ → Nat} {k : Nat} (h1 : ∀ s a r, one s = .ok (a, r) → μ s = k + μ r) :
    ∀ (n : Nat) {s r : σ} {l : List α}, many one n s = .ok (l, r) → μ s = n * k + μ r
  | 0, _, _, _, h => by cases h; simp
  | n + 1, s, r, l, h => by
    obtain ⟨a, s1, as, ha, has, rfl⟩ := many_succ_eq_ok.1 h
    rw [h1 _ _ _ ha, many_consume_eq h1 n has, Nat.succ_mul]; omega

theorem many_error {E : ε → Prop} (h1 : ∀ s e, one s = .error e → E e) :
    ∀ (n : Nat) {s : σ} {e : ε}, many one n s = .error e → E e
  | 0, _, _, h => by cases h
  | n + 1, s, e, h => by
    rw [many] at h
    split at h
    · cases h; exact h1 _ _ ‹_›
    · split at h
      · cases h; exact many_error h1 n ‹_›
      · cases h

theorem many_append : ∀ (a b : Nat) {s s1 s2 : σ} {xs ys : List α},
    many one a s = .ok (xs, s1) → many one b s1 = .ok (ys, s2) → many one (a + b) s = .ok (xs ++ ys, s2)
  | 0, b, _, _, _, _, _, h1, h2 => by cases h1; simpa using h2
  | a + 1, b, _, _, _, _, _, h1, h2 => by
    obtain ⟨x, t, xs', hx, hxs, rfl⟩ := many_succ_eq_ok.1 h1
    rw [show a + 1 + b = (a + b) + 1 by omega]
    exact many_succ_eq_ok.2 ⟨x, t, _, hx, many_append a b hxs h2, rfl⟩

/-- **round trip of a record loop** over a stream of `τ` (bytes, tokens): if `one` reads `enc x` back as `x` behind
    the prefix `g` (what closes the record before in a text file; `id` for binary files), then `many one` reads the
    concatenation back as the list -/
theorem many_flatMap {τ : Type} {one : Rd ε (List τ) α} {enc : α → List τ} (g : List τ → List τ) :
    ∀ (xs : List α), (∀ x ∈ xs, ∀ r, one (g (enc x ++ r)) = .ok (x, g r)) →
      ∀ r, many one xs.length (g (xs.flatMap enc ++ r)) = .ok (xs, g r)
  | [], _, _ => rfl
  | x :: xs, h, r => by
    rw [List.length_cons, List.flatMap_cons, List.append_assoc]
    exact many_succ_eq_ok.2 ⟨x, _, xs, h x (List.mem_cons_self ..) _,
      many_flatMap g xs (fun y hy => h y (List.mem_cons_of_mem _ hy)) r, rfl⟩

section each
variable {β : Type}

/-- one checked step per member, results in order (`Meshb.rdCellGroups`) -/
def each (f : α → Except ε β) : List α → Except ε (List β)
  | [] => .ok []
  | x :: xs =>
    match f x with
    | .error e => .error e
    | .ok y =>
    match each f xs with
    | .error e => .error e
    | .ok ys => .ok (y :: ys)

theorem each_cons_eq_ok {f : α → Except ε β} {x : α} {xs : List α} {l : List β} :
    each f (x :: xs) = .ok l ↔ ∃ y ys, f x = .ok y ∧ each f xs = .ok ys ∧ l = y :: ys := by
  rw [each]
  constructor
  · intro h
    split at h
    · cases h
    · split at h
      · cases h
      · cases h; exact ⟨_, _, ‹_›, ‹_›, rfl⟩
  · rintro ⟨y, ys, h1, h2, rfl⟩
    simp only [h1, h2]

theorem each_eq_ok_iff {f : α → Except ε β} : ∀ {xs : List α} {ys : List β},
    each f xs = .ok ys ↔ xs.length = ys.length ∧ ∀ p ∈ xs.zip ys, f p.1 = .ok p.2
  | [], ys => by
    rw [each]
    constructor
    · intro h; cases h; simp
    · rintro ⟨hl, -⟩; rw [List.eq_nil_of_length_eq_zero hl.symm]
  | x :: xs, ys => by
    rw [each_cons_eq_ok]
    constructor
    · rintro ⟨y, ys', h1, h2, rfl⟩
      obtain ⟨hl, hall⟩ := each_eq_ok_iff.1 h2
      exact ⟨congrArg (· + 1) hl, List.forall_mem_cons.2 ⟨h1, hall⟩⟩
    · rintro ⟨hl, hall⟩
      cases ys with
      | nil => cases hl
      | cons y ys =>
        obtain ⟨h1, hall⟩ := List.forall_mem_cons.1 hall
        exact ⟨y, ys, h1, each_eq_ok_iff.2 ⟨Nat.succ.inj hl, hall⟩, rfl⟩

theorem each_error {f : α → Except ε β} {e : ε} : ∀ {xs : List α}, each f xs = .error e → ∃ x ∈ xs, f x = .error e
  | [], h => by cases h
  | x :: xs, h => by
    rw [each] at h
    split at h
    · cases h; exact ⟨x, List.mem_cons_self, ‹_›⟩
    · split at h
      · cases h
        obtain ⟨y, hy, he⟩ := each_error ‹_›
        exact ⟨y, List.mem_cons_of_mem _ hy, he⟩
      · cases h

theorem each_ok_of_mem {f : α → Except ε β} :
    ∀ {xs : List α} {ys : List β}, each f xs = .ok ys → ∀ {x : α}, x ∈ xs → ∃ y, f x = .ok y
  | [], _, _, _, hx => nomatch hx
  | _ :: _, _, h, _, hx => by
    obtain ⟨y, ys', h1, h2, rfl⟩ := each_cons_eq_ok.1 h
    rcases List.mem_cons.1 hx with rfl | hx
    · exact ⟨y, h1⟩
    · exact each_ok_of_mem h2 hx

end each

end Refine.Lemmas.Reader

namespace Refine.Lemmas

theorem except_total {ε α : Type} (x : Except ε α) : (∃ a, x = .ok a) ∨ (∃ e, x = .error e) := by
  cases x with
  | ok a => exact .inl ⟨a, rfl⟩
  | error e => exact .inr ⟨e, rfl⟩

/-- a guard of a reader that was passed (unlike `split at h`, this leaves the rest of the reader untouched) -/
theorem of_ite_error_eq_ok {ε α : Type} {c : Prop} [Decidable c] {e : ε} {k : Except ε α} {a : α}
    (h : (if c then .error e else k) = .ok a) : ¬ c ∧ k = .ok a := by
  by_cases hc : c
  · rw [if_pos hc] at h; cases h
  · rw [if_neg hc] at h; exact ⟨hc, h⟩

/-- "the reader accepts, and what it returns has property `q`", from one evaluation of the reader.  The test is
    written with `Option.any` and not with a `match`: the kernel compares the statement of `h` with what was evaluated,
    and it would unfold a matcher applied to `x` on both sides, that is, run the reader again. -/
theorem exists_ok_of_decide {ε α : Type} {x : Except ε α} {q : α → Prop} [DecidablePred q]
    (h : x.toOption.any (fun a => decide (q a)) = true) : ∃ a, x = .ok a ∧ q a := by
  cases x with
  | ok a => exact ⟨a, rfl, of_decide_eq_true h⟩
  | error e => cases h

end Refine.Lemmas
