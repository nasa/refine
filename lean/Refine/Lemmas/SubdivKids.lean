import Refine.Lemmas.SubdivChain

/-!
  The children of every tet pattern of `ref_subdiv_split_tet`, written out for a symbolic tet `(a,b,c,d)`.
  Each equation holds by `rfl` against `Refine.Model.Subdiv.splitTetChildren`, so a change of the model breaks this file.
-/
namespace Refine.Lemmas.Subdiv
open Refine.Model.Subdiv
open Refine.Model.Cavity (Tet)

variable (btw : Int → Int → Int) (a b c d : Int)

/-- what replaces the tet `t` under pattern `map`: its children, or `t` itself when the template is empty -/
abbrev kids (map : Nat) (t : Tet) : List Tet := keepOr t ((splitTetChildren btw map t).getD [])

theorem kids_0 : kids btw 0 ⟨a, b, c, d⟩ =
    [⟨a, b, c, d⟩] := rfl

theorem kids_1 : kids btw 1 ⟨a, b, c, d⟩ =
    [⟨btw a b, b, c, d⟩, ⟨a, btw a b, c, d⟩] := rfl

theorem kids_2 : kids btw 2 ⟨a, b, c, d⟩ =
    [⟨btw a c, b, c, d⟩, ⟨a, b, btw a c, d⟩] := rfl

theorem kids_4 : kids btw 4 ⟨a, b, c, d⟩ =
    [⟨btw a d, b, c, d⟩, ⟨a, b, c, btw a d⟩] := rfl

theorem kids_8 : kids btw 8 ⟨a, b, c, d⟩ =
    [⟨a, btw b c, c, d⟩, ⟨a, b, btw b c, d⟩] := rfl

theorem kids_16 : kids btw 16 ⟨a, b, c, d⟩ =
    [⟨a, btw b d, c, d⟩, ⟨a, b, c, btw b d⟩] := rfl

theorem kids_32 : kids btw 32 ⟨a, b, c, d⟩ =
    [⟨a, b, btw c d, d⟩, ⟨a, b, c, btw c d⟩] := rfl

theorem kids_11 : kids btw 11 ⟨a, b, c, d⟩ =
    [⟨a, btw a b, btw a c, d⟩, ⟨btw b a, b, btw b c, d⟩, ⟨btw c a, btw c b, c, d⟩, ⟨btw a b, btw b c, btw c a, d⟩] := rfl

theorem kids_56 : kids btw 56 ⟨a, b, c, d⟩ =
    [⟨d, btw d c, btw d b, a⟩, ⟨btw c d, c, btw c b, a⟩, ⟨btw b d, btw b c, b, a⟩, ⟨btw d c, btw c b, btw b d, a⟩] := rfl

theorem kids_38 : kids btw 38 ⟨a, b, c, d⟩ =
    [⟨c, btw c d, btw c a, b⟩, ⟨btw d c, d, btw d a, b⟩, ⟨btw a c, btw a d, a, b⟩, ⟨btw c d, btw d a, btw a c, b⟩] := rfl

theorem kids_21 : kids btw 21 ⟨a, b, c, d⟩ =
    [⟨b, btw b a, btw b d, c⟩, ⟨btw a b, a, btw a d, c⟩, ⟨btw d b, btw d a, d, c⟩, ⟨btw b a, btw a d, btw d b, c⟩] := rfl

theorem kids_63 : kids btw 63 ⟨a, b, c, d⟩ =
    [⟨btw a b, btw a d, btw a c, a⟩, ⟨btw a b, btw b c, btw b d, b⟩, ⟨btw a c, btw c d, btw b c, c⟩, ⟨btw a d, btw b d, btw c d, d⟩, ⟨btw a b, btw c d, btw a c, btw a d⟩, ⟨btw a b, btw c d, btw a d, btw b d⟩, ⟨btw a b, btw c d, btw b d, btw b c⟩, ⟨btw a b, btw c d, btw b c, btw a c⟩] := rfl

end Refine.Lemmas.Subdiv
