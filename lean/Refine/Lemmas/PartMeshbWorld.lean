import Refine.Lemmas.PartMeshbPlace

/-! one cell group placed (`placeGroup`), and the world `ref_part_node` leaves: the vertex blocks rank 0 read are the
    blocks of the implicit partition, so every rank starts with the invariant and no cell -/
namespace Refine.Lemmas.PartMeshb
open Refine.Model.Meshb Refine.Model.PartMeshb
open Refine.Model.Comm (World)
open Refine.Gen.PartMacros

section Core
variable {N : Int} {np : Nat} {V : Int → Vertex} {O : Nat → List PNode} {G : Nat → Nat → List Cell} {w : World PRank}

theorem placeGroup_ok (hW : CoreIs N np V O G w) (hnp : 1 ≤ np) (k : Nat) (ci : CellInfo)
    (hk : cellInfos[k]? = some ci) (chs : List (List Cell)) (hdist : Distinct ci chs.flatten)
    (hok : ∀ ch ∈ chs, ∀ c ∈ ch, CellOK ci N c) (hG : ∀ r, r < np → G k r = []) :
    ∃ w', placeGroup N np ci k chs w = .ok w' ∧
      CoreIs N np V O (setG G k fun r => (finalCells N np ci r chs.flatten).map (norm ci)) w' := by
  obtain ⟨w1, h1, hW1⟩ := placeChunks_ok (V := V) (O := O) hnp k ci hk chs [] G w hW (by simpa using hdist) hok
    (by intro r hr; rw [hG r hr]; simp [directCells])
  simp only [List.nil_append] at hW1
  obtain ⟨w2, h2, hW2⟩ := shufflinCell_ok hW1 k ci hk chs.flatten hdist
    (by intro c hc; obtain ⟨ch, hch, hcc⟩ := List.mem_flatten.1 hc; exact hok ch hch c hcc)
    (by intro r _; simp [setG])
  rw [setG_setG] at hW2
  exact ⟨w2, by simp [placeGroup, h1, h2], hW2⟩

end Core

/-- the blocks rank 0 read are the blocks of the implicit partition -/
def BlocksOK (N : Int) (np : Nat) (blocks : List (List Vertex)) : Prop :=
  blocks.length = np ∧ ∀ r, r < np → ((blocks.getD r []).length : Int) = firstOf N np (r + 1) - firstOf N np r

/-- the coordinates of vertex `g` in the file, through the blocks -/
def vertexOf (N : Int) (np : Nat) (blocks : List (List Vertex)) (g : Int) : Vertex :=
  (blocks.getD (imp N np g).toNat []).getD (g - firstOf N np (imp N np g).toNat).toNat default

theorem ownedNodes_base {N : Int} {np : Nat} (hN : 1 ≤ N) (hnp : 1 ≤ np) (r : Nat) (block : List Vertex) :
    ownedNodes N np r block = block.zipIdx.map fun vi =>
      ({ glob := firstOf N np r + (vi.2 : Int), part := (r : Int), xyz := some vi.1 } : PNode) := by
  unfold ownedNodes
  by_cases h : r = 0
  · subst h
    simp only [if_true]
    rw [firstOf_zero hN hnp]
  · simp only [if_neg h]

theorem mem_ownedNodes {N : Int} {np : Nat} (hN : 1 ≤ N) (hnp : 1 ≤ np) (r : Nat) (block : List Vertex) (n : PNode) :
    n ∈ ownedNodes N np r block ↔ ∃ i, ∃ h : i < block.length,
      n = { glob := firstOf N np r + (i : Int), part := (r : Int), xyz := some block[i] } := by
  rw [ownedNodes_base hN hnp, List.mem_map]
  constructor
  · rintro ⟨⟨v, i⟩, hvi, rfl⟩
    obtain ⟨h, e⟩ := List.mem_zipIdx_iff_getElem?.1 hvi |> fun h => (List.getElem?_eq_some_iff.1 h)
    exact ⟨i, h, by simp [e]⟩
  · rintro ⟨i, h, rfl⟩
    exact ⟨(block[i], i), List.mem_zipIdx_iff_getElem?.2 (List.getElem?_eq_getElem h), rfl⟩

theorem group_replicate (N : Int) (nodes : List PNode) (j : Nat) :
    PRank.group { nGlobal := N, nodes := nodes, cells := List.replicate 16 [], geoms := [], cad := [] } j = [] := by
  simp only [PRank.group, List.getD_eq_getElem?_getD]
  rw [List.getElem?_replicate]
  split <;> rfl

/-- the rank `ref_part_node` leaves: the vertices of its block with their coordinates, no cell -/
theorem ownedNodes_rankInv {N : Int} {np : Nat} (hN : 1 ≤ N) (hnp : 1 ≤ np) (blocks : List (List Vertex)) (r : Nat)
    (hr : r < np) (hlen : ((blocks.getD r []).length : Int) = firstOf N np (r + 1) - firstOf N np r) :
    RankInv N np (vertexOf N np blocks) r
      { nGlobal := N, nodes := ownedNodes N np r (blocks.getD r []), cells := List.replicate 16 [], geoms := [],
        cad := [] } := by
  obtain ⟨b0, b1, b2⟩ := block_bounds hN r hr
  have hmem := fun n => mem_ownedNodes hN hnp r (blocks.getD r []) n
  have hidx : ∀ i, i < (blocks.getD r []).length → (i : Int) < firstOf N np (r + 1) - firstOf N np r :=
    fun i hi => by rw [← hlen]; exact_mod_cast hi
  constructor
  case parts =>
    intro n hn
    obtain ⟨i, hi, rfl⟩ := (hmem n).1 hn
    have hi' := hidx i hi
    refine ⟨by simp only; omega, by simp only; omega, ?_⟩
    simp only
    exact ((imp_eq_iff hN hnp r _ (by omega) (by omega)).2 ⟨by omega, by omega⟩).symm
  case nodup =>
    show ((ownedNodes N np r (blocks.getD r [])).map (·.glob)).Nodup
    rw [ownedNodes_base hN hnp, List.map_map]
    have h2 : (blocks.getD r []).zipIdx.map ((fun n : PNode => n.glob) ∘ fun vi : Vertex × Nat =>
          ({ glob := firstOf N np r + (vi.2 : Int), part := (r : Int), xyz := some vi.1 } : PNode)) =
        ((blocks.getD r []).zipIdx.map (·.2)).map fun (i : Nat) => firstOf N np r + (i : Int) := by
      rw [List.map_map]; rfl
    rw [h2, List.zipIdx_map_snd]
    apply List.Nodup.map
    · intro a b hab; simp only at hab; omega
    · exact List.nodup_range' ..
  case owned =>
    intro g h0 h1 hi
    obtain ⟨a, b⟩ := (imp_eq_iff hN hnp r g h0 h1).1 hi
    rw [has_iff]
    have hlt : (g - firstOf N np r).toNat < (blocks.getD r []).length := by
      have : ((g - firstOf N np r).toNat : Int) < ((blocks.getD r []).length : Int) := by
        rw [hlen, Int.toNat_of_nonneg (by omega)]; omega
      exact_mod_cast this
    refine ⟨_, (hmem _).2 ⟨(g - firstOf N np r).toNat, hlt, rfl⟩, ?_⟩
    simp only
    rw [Int.toNat_of_nonneg (by omega)]; omega
  case xyz =>
    intro n hn _
    obtain ⟨i, hi, rfl⟩ := (hmem n).1 hn
    have hi' := hidx i hi
    simp only
    unfold vertexOf
    rw [(imp_eq_iff hN hnp r (firstOf N np r + (i : Int)) (by omega) (by omega)).2 ⟨by omega, by omega⟩]
    simp only [Int.toNat_natCast]
    rw [show (firstOf N np r + (i : Int) - firstOf N np r).toNat = i by omega]
    congr 1
    exact (Refine.ListFacts.getD_eq_getElem hi).symm
  case ncells =>
    simp
  case verts =>
    intro k ci _ c hc
    rw [group_replicate] at hc
    cases hc
  case ghosts =>
    intro n hn hp
    obtain ⟨i, hi, rfl⟩ := (hmem n).1 hn
    exact absurd rfl hp

/-- the world `ref_part_node` leaves -/
theorem initWorld_is {N : Int} {np : Nat} (hN : 1 ≤ N) (hnp : 1 ≤ np) (blocks : List (List Vertex))
    (hb : BlocksOK N np blocks) :
    CoreIs N np (vertexOf N np blocks) (fun r => ownedNodes N np r (blocks.getD r [])) (fun _ _ => [])
      (initWorld N np blocks) := by
  have hget : ∀ r, r < np → (initWorld N np blocks).getD r default =
      { nGlobal := N, nodes := ownedNodes N np r (blocks.getD r []), cells := List.replicate 16 [], geoms := [],
        cad := [] } := by
    exact fun r hr => Refine.ListFacts.getD_map_range hr
  refine ⟨by simp [initWorld], fun r hr => ?_, fun r hr j => ?_, fun r hr => ?_, fun r hr => by rw [hget r hr]⟩
  · rw [hget r hr]
    exact ownedNodes_rankInv hN hnp blocks r hr (hb.2 r hr)
  · rw [hget r hr, group_replicate]
  · rw [hget r hr]
    simp only
    rw [List.filter_eq_self]
    intro n hn
    obtain ⟨i, hi, rfl⟩ := (mem_ownedNodes hN hnp r _ n).1 hn
    simp

end Refine.Lemmas.PartMeshb
