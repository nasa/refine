import Refine.Lemmas.UgridPart
import Refine.Lemmas.UgridC20
import Refine.Lemmas.PartLemmas

/-! `partRead` (ref_part_bin_ugrid) on a laid-out file: header, nodes, the six cell sections -/
namespace Refine.Lemmas.Ugrid
open Refine.Gen Refine.Model.Endian Refine.Model.Ugrid
open Refine.Model.Meshb (Bytes Status Vertex P Cfg takeN encLE decLE toSigned ofSigned int32 wrap32 adjAdd adjAddAll)
open Refine.Lemmas.Codec (takeN_append)

theorem implicitPart_lt {nnode : Int} {np : Nat} {g : Int} {p : Nat} (h : implicitPart nnode np g = some p) : p < np := by
  revert h
  fun_cases implicitPart nnode np g <;> intro h <;> cases h
  omega

theorem implicitPart_isSome {nnode : Int} {np : Nat} {g : Int} (hN : 1 ≤ nnode) (hp : 1 ≤ np) (hg0 : 0 ≤ g)
    (hg : g < nnode) : (implicitPart nnode np g).isSome = true := by
  unfold implicitPart
  have h1 : ¬ (nnode < 1 ∨ np < 1) := by omega
  have h2 : ¬ (g < 0 ∨ nnode ≤ g) := by omega
  obtain ⟨a, b, _, _⟩ := Refine.Lemmas.Part.implicit_bracket nnode (np : Int) g hN (by omega) hg0 hg
  simp only [h1, h2, if_false]
  have : 0 ≤ PartMacros.ref_part_implicit nnode (np : Int) g ∧ PartMacros.ref_part_implicit nnode (np : Int) g < (np : Int) :=
    ⟨a, b⟩
  simp [this]

/-- a chunk size ≥ 1 whose `sent_c2n` buffer (`size_per * chunk` `REF_GLOB`s of 8 bytes, `size_per ≤ 9`) the 1 GiB
    allocator cap allows -/
def ChunkOk (c : Nat) : Prop := 1 ≤ c ∧ 72 * c ≤ 2 ^ 30

/-- one cell section of ref_part_bin_ugrid on a file whose header declares `cs.length` cells of kind `k` and that has
    their connectivity rows and (boundary faces) their tags at the generated offsets -/
theorem partSection_secConn (cfg : Cfg) (hcap : cfg.allocCap = 2 ^ 30) (fl : Flavor) (k : Kind) {n : Nat}
    (hn : n < 2 ^ 27) (cs : List (List Int))
    (hcs : ∀ c ∈ cs, cellOk k n c = true) (bs : Bytes) (hdr : List Int)
    (hcount : hdr.getD k.hdrIndex 0 = (cs.length : Int)) (hnn : hdr.getD 0 0 = (n : Int))
    (hoff1 : At bs (offsetsOf k (UgridOffsets.ibyte fl.fat) hdr).1 (secConn fl k cs))
    (hoff2 : k.hasTag = true → At bs (offsetsOf k (UgridOffsets.ibyte fl.fat) hdr).2 (secTags fl k cs))
    (np : Nat) (hnp : 1 ≤ np) (chunk : Nat) (hc : ChunkOk chunk) :
    partSection cfg fl bs np (some chunk) hdr k = .ok (dedupCells k cs []) := by
  obtain ⟨hc1, hc2⟩ := hc
  unfold partSection
  simp only [hcount, hnn]
  by_cases h0 : cs.length = 0
  · have : cs = [] := List.eq_nil_of_length_eq_zero h0
    subst this
    simp [dedupCells]
  · have hpos : ¬ ((cs.length : Int) ≤ 0) := by omega
    simp only [hpos, if_false]
    have hsz := sizePer_le k
    have hu : ¬ ((k.sizePer : Int) * (chunk : Int) ≥ 2 ^ 31) := by
      have : k.sizePer * chunk ≤ 9 * chunk := Nat.mul_le_mul_right _ hsz
      have : (k.sizePer : Int) * (chunk : Int) ≤ 9 * chunk := by exact_mod_cast this
      omega
    have ha : ¬ (cfg.allocCap < 8 * k.sizePer * chunk) := by
      rw [hcap]
      have : k.sizePer * chunk ≤ 9 * chunk := Nat.mul_le_mul_right _ hsz
      have : 8 * k.sizePer * chunk ≤ 72 * chunk := by rw [Nat.mul_assoc]; omega
      omega
    simp only [hu, ha, if_false, Int.toNat_natCast]
    have hloop := partCellLoop_secConn cfg fl k hn cs hcs bs _ _ hoff1 hoff2 chunk hc1 cs.length 0 (by omega)
    rw [List.drop_zero] at hloop
    rw [hloop]
    simp only
    -- every index is a node, and there is a node
    have hidx : cs.all (partIndexOk k (n : Int)) = true := partIndexOk_of_cellOk hcs
    have hn1 : 1 ≤ (n : Int) := by
      obtain ⟨c, hc⟩ := List.exists_mem_of_length_pos (by omega : 0 < cs.length)
      have hl := take_length_of_cellOk (hcs c hc)
      have hp := nodePer_pos k
      obtain ⟨g, hg⟩ := List.exists_mem_of_length_pos (by omega : 0 < (c.take k.nodePer).length)
      have := ((cellOk_iff k n c).1 (hcs c hc)).2.1 g hg
      omega
    have hsome := implicitPart_isSome (nnode := (n : Int)) (np := np) (g := 0) hn1 hnp (le_refl _) (by omega)
    simp [hidx, hsome]

theorem hasTag_cases (k : Kind) : (k = .tri ∨ k = .qua) ∧ k.hasTag = true ∨ k.hasTag = false := by
  cases k <;> simp [hasTag_tri, hasTag_qua, hasTag_tet, hasTag_pyr, hasTag_pri, hasTag_hex]

theorem partSection_encodeRaw (cfg : Cfg) (hcap : cfg.allocCap = 2 ^ 30) (fl : Flavor) (m : UMesh)
    (hw : WellFormed m = true) (np : Nat) (hnp : 1 ≤ np) (co : Option Nat) (k : Kind)
    (hc : ChunkOk (sectionChunk co (m.get k).length np)) :
    partSection cfg fl (encodeRaw fl m) np co (hdrOf m) k = .ok (dedupCells k (m.get k) []) := by
  rw [partSection_sectionChunk, hdrOf_getD]
  obtain ⟨hn, hk⟩ := (wf_iff m).1 hw
  obtain ⟨o1, o2⟩ := encodeRaw_at fl m hw k
  exact partSection_secConn cfg hcap fl k hn (m.get k) (hk k).2 _ (hdrOf m) (hdrOf_getD m k) (hdrOf_getD0 m)
    o1 o2 np hnp _ hc

theorem partSections_encodeRaw (cfg : Cfg) (hcap : cfg.allocCap = 2 ^ 30) (fl : Flavor) (m : UMesh)
    (hw : WellFormed m = true) (np : Nat) (hnp : 1 ≤ np) (co : Option Nat)
    (hc : ∀ k, ChunkOk (sectionChunk co (m.get k).length np)) (ks : List Kind) :
    partSections cfg fl (encodeRaw fl m) np co (hdrOf m) ks = .ok (ks.map fun k => dedupCells k (m.get k) []) := by
  induction ks with
  | nil => rfl
  | cons k ks ih => simp only [partSections, partSection_encodeRaw cfg hcap fl m hw np hnp co k (hc k), ih, List.map_cons]

theorem rdHeaderPart_secHeader (fl : Flavor) (m : UMesh) (hw : WellFormed m = true) (rest : Bytes) :
    rdHeaderPart fl (secHeader fl m ++ rest) = .ok (hdrOf m, rest) := by
  unfold rdHeaderPart
  have ht : takeN (7 * fl.ibytes) (secHeader fl m ++ rest) = .ok (secHeader fl m, rest) := by
    have := takeN_append (secHeader fl m) rest
    rwa [secHeader_length fl m] at this
  rw [ht]
  exact congrArg (fun w => Except.ok (w, rest)) (wordsOf_flatMap fl (hdrOf m) (hdrOf_int32 hw))

theorem partHeaderHazard_wf (m : UMesh) (hw : WellFormed m = true) (np : Nat) (hnp2 : np < 2 ^ 31) :
    partHeaderHazard np (hdrOf m) = false := by
  obtain ⟨hn, -⟩ := (wf_iff m).1 hw
  unfold partHeaderHazard
  rw [Bool.or_eq_false_iff, List.any_eq_false]
  constructor
  · rw [hdrOf_getD0]; simp only [decide_eq_false_iff_not]; omega
  · intro x hx
    have := hdrOf_int32 hw x hx
    unfold int32 at this
    simp only [decide_eq_true_eq]; omega

theorem le_sum_map {α : Type} (f : α → Nat) {l : List α} {a : α} (h : a ∈ l) : f a ≤ (l.map f).sum := by
  induction l with
  | nil => cases h
  | cons b l ih =>
    rw [List.map_cons, List.sum_cons]
    rcases List.mem_cons.1 h with rfl | h
    · exact Nat.le_add_right _ _
    · exact (ih h).trans (Nat.le_add_left _ _)

theorem encodeRaw_length (fl : Flavor) (m : UMesh) (hw : WellFormed m = true) :
    (encodeRaw fl m).length = 7 * fl.ibytes + m.nodes.length * 24 +
      (Kind.all.map fun k => k.sizePer * (m.get k).length).sum * fl.ibytes := by
  obtain ⟨hn, hk⟩ := (wf_iff m).1 hw
  have l2 := secConn_length fl .tri m.tri (hk .tri).2
  have l3 := secConn_length fl .qua m.qua (hk .qua).2
  have l6 := secConn_length fl .tet m.tet (hk .tet).2
  have l7 := secConn_length fl .pyr m.pyr (hk .pyr).2
  have l8 := secConn_length fl .pri m.pri (hk .pri).2
  have l9 := secConn_length fl .hex m.hex (hk .hex).2
  simp only [nodePer_tri, nodePer_qua, nodePer_tet, nodePer_pyr, nodePer_pri, nodePer_hex] at l2 l3 l6 l7 l8 l9
  simp only [encodeRaw, sectionsRaw, List.flatten_cons, List.flatten_nil, List.length_append, List.length_nil,
    secHeader_length, secNodes_length, secTags_length, l2, l3, l6, l7, l8, l9, Kind.all, List.map_cons, List.map_nil,
    List.sum_cons, List.sum_nil, UMesh.get, sizePer_tri, sizePer_qua, sizePer_tet, sizePer_pyr, sizePer_pri, sizePer_hex]
  ring

theorem counts_fit_encodeRaw (fl : Flavor) (m : UMesh) (hw : WellFormed m = true) :
    UgridOffsets.counts_fit ((encodeRaw fl m).length : Int) (UgridOffsets.ibyte fl.fat) ((hdrOf m).getD 0 0)
      ((hdrOf m).getD 1 0) ((hdrOf m).getD 2 0) ((hdrOf m).getD 3 0) ((hdrOf m).getD 4 0) ((hdrOf m).getD 5 0)
      ((hdrOf m).getD 6 0) := by
  have hib : 0 < fl.ibytes := by rcases ibytes_cases fl with h | h <;> omega
  rw [ibyte_eq, counts_fit_iff (Int.natCast_nonneg _) (by exact_mod_cast hib), hdrOf_getD0, encodeRaw_length fl m hw]
  refine ⟨⟨Int.natCast_nonneg _, by exact_mod_cast (Nat.le_add_left _ _).trans (Nat.le_add_right _ _)⟩, fun k => ?_⟩
  rw [hdrOf_getD]
  refine ⟨Int.natCast_nonneg _, ?_⟩
  have := Nat.mul_le_mul_right fl.ibytes (le_sum_map (fun k => k.sizePer * (m.get k).length) (mem_all k))
  rw [Nat.mul_comm k.sizePer, Nat.mul_assoc] at this
  exact_mod_cast this.trans (Nat.le_add_left _ _)

theorem partRead_encodeRaw (cfg : Cfg) (hcap : cfg.allocCap = 2 ^ 30) (fl : Flavor) (m : UMesh) (hw : WellFormed m = true)
    (np : Nat) (hnp : 1 ≤ np) (hnp2 : np < 2 ^ 31) (co : Option Nat) (hc : ∀ k, ChunkOk (sectionChunk co (m.get k).length np)) :
    partReadWith cfg fl np co (encodeRaw fl m) =
      .ok { nnode := m.nodes.length, np := np, nodes := m.nodes,
            cells := Kind.all.map fun k => dedupCells k (m.get k) [] } := by
  unfold partReadWith
  -- the file is its header, its vertices and the eight cell sections (`sectionsRaw` is a literal list of ten)
  have hraw : encodeRaw fl m = secHeader fl m ++ (secNodes fl m ++ ((sectionsRaw fl m).drop 2).flatten) := rfl
  have hh := rdHeaderPart_secHeader fl m hw (secNodes fl m ++ ((sectionsRaw fl m).drop 2).flatten)
  rw [← hraw] at hh
  rw [hh]
  simp only [hdrOf_getD0, Int.toNat_natCast]
  have hfit := counts_fit_encodeRaw fl m hw
  simp only [hdrOf_getD0] at hfit
  rw [if_neg (fun hc => hc.2.2 hfit)]
  have hsmall : partHeaderHazard np (hdrOf m) = false := partHeaderHazard_wf m hw np hnp2
  rw [hsmall]
  simp only [Bool.false_eq_true, if_false]
  have hv : ∀ rest, rdVerts fl m.nodes.length (secNodes fl m ++ rest) = .ok (m.nodes, rest) :=
    fun rest => rdVerts_flatMap fl m.nodes rest
  rw [hv]
  simp only
  rw [partSections_encodeRaw cfg hcap fl m hw np hnp co hc]

end Refine.Lemmas.Ugrid
