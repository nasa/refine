import Refine.Lemmas.Cavity2Ledger

/-!
  `ref_cavity_replace` on a tet + tri cavity.  The ledger equation `LedgerEq` — live faces minus the cone of the live
  segs is the boundary of the listed tets minus the listed boundary tris — is what makes the cells replace creates
  have the boundary of the cells it removes (`replace_chain_boundary`); the driver's `ledgerOkAt` decides it by
  cancelling signed face lists (`ledgerOkAt_sound`).
-/
namespace Refine.Lemmas.Cavity2
open Refine.Model.Cavity Refine.Model.Cavity2 Refine.Lemmas.Cavity

variable {G : Type} [AddCommGroup G] {α : Type}

def triVal (φ : Int → Int → Int → G) (g : Grid α) (cell : Int) : G :=
  match g.tris.get? cell with
  | some t => φ t.n0 t.n1 t.n2
  | none => 0

/-- **the ledger equation** `F − cone(segs) = ∂T − S`: live faces minus the cone of the live segs from the seg node is
    the signed boundary of the listed tets minus the listed boundary tris -/
def LedgerEq (φ : Int → Int → Int → G) (g : Grid α) (c : Cav) : Prop :=
  ledgerVal φ c = (c.tetList.map (tetBd φ g)).sum - (c.triList.map (triVal φ g)).sum

/-- the boundary tris `ref_cavity_replace` creates carry the cone of the live segs (attached segs are skipped, and
    count 0) -/
theorem newTris_cone {φ : Int → Int → Int → G} (hφ : Alt φ) (hd : Diag φ) (n : Int) (ss : List Seg) :
    ((ss.filterMap (newTriOf n)).map fun t => φ t.n0 t.n1 t.n2).sum = coneSum φ n ss := by
  rw [sum_filterMap, coneSum]
  refine congrArg List.sum (List.map_congr_left fun s _ => ?_)
  unfold newTriOf
  split
  · next hatt =>
    simp only [Bool.or_eq_true, beq_iff_eq] at hatt
    rcases hatt with e | e
    · rw [← e, diag1 hφ hd]; rfl
    · rw [← e, diag2 hφ hd]; rfl
  · rfl

/-- **replace on a tet + tri cavity, chain level.**  With the face verification passed and the ledger equation, the
    tets and boundary tris `ref_cavity_replace` creates have the signed boundary (tets minus tris) of the cells it
    removes. -/
theorem replace_chain_boundary {φ : Int → Int → Int → G} (hφ : Alt φ) (hd : Diag φ) (g : Grid α) (c : Cav)
    (hnd : ∀ f ∈ c.validFaces, Nondeg f) (hv : verifyFacesLoop c.validFaces c.validFaces = .pass)
    (hl : LedgerEq φ g c) :
    ((newTets c).map fun t => faceSum φ (tetFaces t)).sum - ((newTris c).map fun t => φ t.n0 t.n1 t.n2).sum =
      (c.tetList.map (tetBd φ g)).sum - (c.triList.map (triVal φ g)).sum := by
  have h1 := replace_chain_core hφ hd c.node c.validFaces hnd hv
  have h2 := newTris_cone hφ hd c.segNode c.validSegs
  unfold newTets newTris
  rw [h1, h2, ← hl]
  simp only [ledgerVal, Cav.validFaces, Slots.valid, rowsSum_eq_faceSum]

theorem segCone_eq (c : Cav) : segCone c = (newTris c).map fun t => (⟨t.n0, t.n1, t.n2⟩ : Face) := by
  unfold segCone newTris
  rw [List.map_filterMap]
  congr 1
  funext s
  unfold newTriOf
  split <;> rfl

theorem segCone_sum {φ : Int → Int → Int → G} (hφ : Alt φ) (hd : Diag φ) (c : Cav) :
    faceSum φ (segCone c) = coneSum φ c.segNode c.validSegs := by
  rw [segCone_eq, ← newTris_cone hφ hd, faceSum, List.map_map]
  rfl

theorem listedTets_sum (φ : Int → Int → Int → G) (g : Grid α) (cells : List Int) :
    faceSum φ ((cells.filterMap fun cell => g.tets.get? cell).flatMap tetFaces) = (cells.map (tetBd φ g)).sum := by
  rw [faceSum, sum_map_flatMap, sum_filterMap]
  exact congrArg List.sum (List.map_congr_left fun cell _ => by unfold tetBd; cases g.tets.get? cell <;> rfl)

theorem listedTris_sum (φ : Int → Int → Int → G) (g : Grid α) (cells : List Int) :
    faceSum φ ((cells.filterMap fun cell => g.tris.get? cell).map fun t => (⟨t.n0, t.n1, t.n2⟩ : Face)) =
      (cells.map (triVal φ g)).sum := by
  rw [faceSum, List.map_map, sum_filterMap]
  exact congrArg List.sum (List.map_congr_left fun cell _ => by
    unfold triVal; cases g.tris.get? cell <;> rfl)

/-- **the executable check is sound**: `ledgerOkAt g c = true` (what the run-level driver evaluates on every
    `cavity_replace begin` record) gives the ledger equation for every alternating `φ` vanishing on repeated nodes -/
theorem ledgerOkAt_sound {φ : Int → Int → Int → G} (hφ : Alt φ) (hd : Diag φ) (g : Grid α) (c : Cav)
    (h : ledgerOkAt g c = true) : LedgerEq φ g c := by
  unfold ledgerOkAt ledgerOk at h
  have := cancels_sound hφ h
  simp only [faceSum, List.map_append, List.sum_append] at this
  have e1 := listedTets_sum φ g c.tetList
  have e2 := listedTris_sum φ g c.triList
  have e3 := segCone_sum hφ hd c
  simp only [faceSum, listedTets, listedTris] at e1 e2 e3 this
  rw [e1, e2, e3] at this
  unfold LedgerEq ledgerVal
  rw [rowsSum_eq_faceSum]
  simp only [faceSum, Cav.validFaces, Slots.valid] at this ⊢
  have h2 := sub_eq_zero.mp this
  rw [eq_sub_iff_add_eq.mpr h2]; abel

theorem newTris_from_segs (c : Cav) :
    ∀ t ∈ newTris c, ∃ s ∈ c.validSegs, t.id = s.id ∧ t.n0 = s.n0 ∧ t.n1 = s.n1 ∧ t.n2 = c.segNode := by
  intro t ht
  simp only [newTris, List.mem_filterMap] at ht
  obtain ⟨s, hs, hst⟩ := ht
  unfold newTriOf at hst
  split at hst
  · cases hst
  · simp only [Option.some.injEq] at hst; subst hst; exact ⟨s, hs, rfl, rfl, rfl, rfl⟩

/-! Cited by no proof; named (by pattern) by the C01 entry of `MANIFEST.json`. -/

theorem signed_lists_eq {φ : Int → Int → Int → G} (hφ : Alt φ) (pos neg : List Face)
    (h : ((pos ++ neg).all fun f => signedCount pos neg (sort3s f.n0 f.n1 f.n2).1 == 0) = true) :
    faceSum φ pos - faceSum φ neg = 0 := cancels_sound hφ h

theorem newTris_ids (c : Cav) : ∀ t ∈ newTris c, ∃ s ∈ c.validSegs, t.id = s.id ∧ t.n0 = s.n0 ∧ t.n1 = s.n1 := by
  intro t ht
  obtain ⟨s, hs, h1, h2, h3, _⟩ := newTris_from_segs c t ht
  exact ⟨s, hs, h1, h2, h3⟩

end Refine.Lemmas.Cavity2
