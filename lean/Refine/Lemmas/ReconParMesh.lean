import Refine.Lemmas.ReconParAcc
import Refine.Lemmas.ReconParGhost

/-!
  Local mesh ↔ global mesh for the L2 projection: a simplex of a rank's local mesh contributes exactly what its
  image under `local → global` contributes in the global mesh (same status, weight, gradient; nodes renamed), so at
  an OWNED vertex — all simplices around it are stored (`DistOK.complete`) — the local
  projection equals the serial projection of the global mesh (`l2gradLocal_owned`).  With the refresh
  (`ReconParGhost.ghostRows_spec`, `fromOwners_of_owned`) every stored copy then equals the serial value
  (`l2gradPar_eq_serial`).
-/
namespace Refine.ReconParMesh
open Refine Refine.Model.Geom Refine.Model.Recon Refine.Model.ReconPar Refine.ScalarReal Refine.GeomReal
open Refine.ReconReal Refine.ReconParAcc Refine.ReconParGhost
open Refine.Model.Comm (World RefType)

def gOf (l2g : List Nat) (k : Nat) : Nat := l2g.getD k 0

def globTet (l2g : List Nat) (t : Tet) : Tet := ⟨gOf l2g t.n0, gOf l2g t.n1, gOf l2g t.n2, gOf l2g t.n3⟩
def globTri (l2g : List Nat) (t : Tri) : Tri := ⟨gOf l2g t.n0, gOf l2g t.n1, gOf l2g t.n2⟩

def tetTouches (g : Nat) (t : Tet) : Bool := [t.n0, t.n1, t.n2, t.n3].contains g
def triTouches (g : Nat) (t : Tri) : Bool := [t.n0, t.n1, t.n2].contains g

theorem gOf_inj {l2g : List Nat} (h : l2g.Nodup) (a b : Nat) (ha : a < l2g.length) (hb : b < l2g.length)
    (e : gOf l2g a = gOf l2g b) : a = b := by
  unfold gOf at e
  rw [List.getD_eq_getElem?_getD, List.getD_eq_getElem?_getD, List.getElem?_eq_getElem ha,
    List.getElem?_eq_getElem hb] at e
  exact (List.Nodup.getElem_inj_iff h).mp e

theorem gOf_mem {l2g : List Nat} {i : Nat} (hi : i < l2g.length) : gOf l2g i ∈ l2g := Refine.ListFacts.getD_mem hi

theorem xyzAt_map (l2g : List Nat) (f : Nat → V3 ℝ) (k : Nat) (hk : k < l2g.length) :
    xyzAt (l2g.map f) k = f (gOf l2g k) := by
  unfold xyzAt gOf
  rw [List.getD_eq_getElem?_getD, List.getD_eq_getElem?_getD, List.getElem?_map, List.getElem?_eq_getElem hk]
  rfl

theorem sAt_map (l2g : List Nat) (gs : List ℝ) (k : Nat) (hk : k < l2g.length) :
    sAt (l2g.map fun g => gs.getD g 0) k = sAt gs (gOf l2g k) := by
  unfold sAt gOf
  rw [List.getD_eq_getElem?_getD, List.getD_eq_getElem?_getD (l := l2g), List.getElem?_map,
    List.getElem?_eq_getElem hk]
  simp

theorem tetContrib_local (gxyz : List (V3 ℝ)) (gs : List ℝ) (l2g : List Nat) (t : Tet)
    (h : t.n0 < l2g.length ∧ t.n1 < l2g.length ∧ t.n2 < l2g.length ∧ t.n3 < l2g.length) :
    rename (gOf l2g) (tetContrib (l2g.map (xyzAt gxyz)) (l2g.map fun g => gs.getD g 0) t) =
      tetContrib gxyz gs (globTet l2g t) := by
  obtain ⟨h0, h1, h2, h3⟩ := h
  simp only [rename, tetContrib, globTet, xyzAt_map l2g (xyzAt gxyz) _ h0,
    xyzAt_map l2g (xyzAt gxyz) _ h1,
    xyzAt_map l2g (xyzAt gxyz) _ h2, xyzAt_map l2g (xyzAt gxyz) _ h3, sAt_map l2g gs _ h0,
    sAt_map l2g gs _ h1, sAt_map l2g gs _ h2, sAt_map l2g gs _ h3, List.map_cons, List.map_nil]

theorem triContrib_local (gxyz : List (V3 ℝ)) (gs : List ℝ) (l2g : List Nat) (t : Tri)
    (h : t.n0 < l2g.length ∧ t.n1 < l2g.length ∧ t.n2 < l2g.length) :
    rename (gOf l2g) (triContrib (l2g.map (xyzAt gxyz)) (l2g.map fun g => gs.getD g 0) t) =
      triContrib gxyz gs (globTri l2g t) := by
  obtain ⟨h0, h1, h2⟩ := h
  simp only [rename, triContrib, globTri, xyzAt_map l2g (xyzAt gxyz) _ h0,
    xyzAt_map l2g (xyzAt gxyz) _ h1,
    xyzAt_map l2g (xyzAt gxyz) _ h2, sAt_map l2g gs _ h0,
    sAt_map l2g gs _ h1, sAt_map l2g gs _ h2, List.map_cons, List.map_nil]

/-- local projection = global projection at a vertex whose global simplices are all stored, for any kind of simplex:
    `cL` / `cG` make the contribution of a simplex from the local / global arrays, `gl` renames a simplex to global
    ids, `tch g` says that a simplex has the vertex `g` -/
theorem project_map_local {τ : Type} (cL cG : τ → Contrib ℝ) (gl : τ → τ) (tch : Nat → τ → Bool) (l2g : List Nat)
    (nG : Nat) (hnd : l2g.Nodup) (lts gts : List τ)
    (hren : ∀ t ∈ lts, rename (gOf l2g) (cL t) = cG (gl t))
    (hnodes : ∀ t ∈ lts, ∀ k ∈ (cL t).nodes, k < l2g.length)
    (htch : ∀ g t, touches g (cG t) = tch g t)
    (i : Nat) (hi : i < l2g.length) (hg : gOf l2g i < nG)
    (hc : ((lts.map gl).filter (tch (gOf l2g i))).Perm (gts.filter (tch (gOf l2g i)))) :
    (project l2g.length (lts.map cL)).2[i]? = (project nG (gts.map cG)).2[gOf l2g i]? := by
  apply project_local_eq_global l2g.length nG (gOf l2g) (gOf_inj hnd) _ _ _ i hi hg
  · have e : (lts.map cL).map (rename (gOf l2g)) = (lts.map gl).map cG := by
      rw [List.map_map, List.map_map]
      exact List.map_congr_left hren
    have ft : ∀ ts : List τ,
        (ts.map cG).filter (touches (gOf l2g i)) = (ts.filter (tch (gOf l2g i))).map cG := by
      intro ts
      rw [List.filter_map]
      congr 2
      funext t
      exact htch _ t
    rw [e, ft, ft]
    exact hc.map _
  · intro c hc' k hk
    obtain ⟨t, ht, rfl⟩ := List.mem_map.mp hc'
    exact hnodes t ht k hk

theorem l2gradTets_local (gxyz : List (V3 ℝ)) (gs : List ℝ) (gts lts : List Tet) (l2g : List Nat)
    (hnd : l2g.Nodup) (hwf : TetsWF l2g.length lts) (i : Nat) (hi : i < l2g.length)
    (hg : gOf l2g i < gxyz.length)
    (hc : ((lts.map (globTet l2g)).filter (tetTouches (gOf l2g i))).Perm (gts.filter (tetTouches (gOf l2g i)))) :
    (l2gradTets (l2g.map (xyzAt gxyz)) (l2g.map fun g => gs.getD g 0) lts).2[i]? =
      (l2gradTets gxyz gs gts).2[gOf l2g i]? := by
  unfold l2gradTets
  rw [List.length_map]
  refine project_map_local _ (tetContrib gxyz gs) (globTet l2g) tetTouches l2g _ hnd lts gts
    (fun t ht => tetContrib_local gxyz gs l2g t (hwf t ht)) ?_ (fun _ _ => rfl) i hi hg hc
  intro t ht k hk
  obtain ⟨h0, h1, h2, h3⟩ := hwf t ht
  simp only [tetContrib, List.mem_cons, List.not_mem_nil, or_false] at hk
  rcases hk with rfl | rfl | rfl | rfl <;> assumption

theorem l2gradTris_local (gxyz : List (V3 ℝ)) (gs : List ℝ) (gts lts : List Tri) (l2g : List Nat)
    (hnd : l2g.Nodup) (hwf : TrisWF l2g.length lts) (i : Nat) (hi : i < l2g.length)
    (hg : gOf l2g i < gxyz.length)
    (hc : ((lts.map (globTri l2g)).filter (triTouches (gOf l2g i))).Perm (gts.filter (triTouches (gOf l2g i)))) :
    (l2gradTris (l2g.map (xyzAt gxyz)) (l2g.map fun g => gs.getD g 0) lts).2[i]? =
      (l2gradTris gxyz gs gts).2[gOf l2g i]? := by
  unfold l2gradTris
  rw [List.length_map]
  refine project_map_local _ (triContrib gxyz gs) (globTri l2g) triTouches l2g _ hnd lts gts
    (fun t ht => triContrib_local gxyz gs l2g t (hwf t ht)) ?_ (fun _ _ => rfl) i hi hg hc
  intro t ht k hk
  obtain ⟨h0, h1, h2⟩ := hwf t ht
  simp only [triContrib, List.mem_cons, List.not_mem_nil, or_false] at hk
  rcases hk with rfl | rfl | rfl <;> assumption

/-- how a "complete at the vertex" hypothesis is used: what is stored at the vertex, renamed, and what the global mesh has
    there are the same things -/
theorem mem_at_iff {τ : Type} {ren : τ → τ} {p : τ → Bool} {stored glob : List τ}
    (h : ((stored.map ren).filter p).Perm (glob.filter p)) (x : τ) :
    x ∈ glob ∧ p x = true ↔ ∃ c ∈ stored, ren c = x ∧ p x = true := by
  rw [← List.mem_filter, ← h.mem_iff, List.mem_filter, List.mem_map]
  exact ⟨fun ⟨⟨c, hc, e⟩, hp⟩ => ⟨c, hc, e, hp⟩, fun ⟨c, hc, e, hp⟩ => ⟨⟨c, hc, e⟩, hp⟩⟩

/-- clause (ii) at one stored vertex: the stored simplices around it, renamed to global ids, are — as a multiset —
    the simplices of the global mesh around it (every cell incident to the vertex is stored on this rank) -/
def CompleteAt (twod : Bool) (gcells : List Cell) (r : Rank) (i : Nat) : Prop :=
  if twod then
    (((allTris r.cells).map (globTri r.l2g)).filter (triTouches (gOf r.l2g i))).Perm
      ((allTris gcells).filter (triTouches (gOf r.l2g i)))
  else
    (((allTets r.cells).map (globTet r.l2g)).filter (tetTouches (gOf r.l2g i))).Perm
      ((allTets gcells).filter (tetTouches (gOf r.l2g i)))

/-- what the reconstruction assumes of a distribution of a global mesh of `nG` vertices.  A hypothesis of its own, not
    derived from C06's `distInv`: besides `WorldOK` and the counterpart `complete` of clause (ii) it bounds the global ids
    by the coordinate array (`inRange`) and asks the stored sub-simplices to use stored vertices (`wf`: follows from cells
    with as many vertices as their kind says, which `distInv` does not say either).  `TetsWF` / `TrisWF` are in
    `Refine.ReconReal`: open it, or the names are read as auto-bound variables -/
structure DistOK (twod : Bool) (nG : Nat) (gcells : List Cell) (w : World Rank) : Prop extends WorldOK w where
  inRange : ∀ r ∈ w, ∀ g ∈ r.l2g, g < nG
  wf : ∀ r ∈ w, if twod then TrisWF r.l2g.length (allTris r.cells) else TetsWF r.l2g.length (allTets r.cells)
  /-- every cell incident to an OWNED vertex is stored on the owner's rank -/
  complete : ∀ (me : Nat) (r : Rank), w[me]? = some r → ∀ i, r.part[i]? = some me → CompleteAt twod gcells r i

def Consistent {β : Type} (d : β) (w : World Rank) (f : World (List β)) (gf : List β) : Prop :=
  f = w.map fun r => r.restrict d gf

theorem restrict_eq (r : Rank) (gs : List ℝ) : r.restrict (0 : ℝ) gs = r.l2g.map fun g => gs.getD g 0 := rfl

theorem restrict_getElem? {β : Type} (r : Rank) (d : β) (gf : List β) (i : Nat) (hi : i < r.l2g.length) :
    (r.restrict d gf)[i]? = some (gf.getD (gOf r.l2g i) d) := by
  unfold Rank.restrict gOf
  rw [List.getElem?_map, List.getElem?_eq_getElem hi, List.getD_eq_getElem?_getD (l := r.l2g),
    List.getElem?_eq_getElem hi]
  rfl

theorem restrict_map {β γ : Type} (r : Rank) (d : β) (gf : List β) (f : β → γ) :
    (r.restrict d gf).map f = r.restrict (f d) (gf.map f) := by
  unfold Rank.restrict
  rw [List.map_map]
  apply List.map_congr_left
  intro g _
  simp only [Function.comp, List.getD_eq_getElem?_getD, List.getElem?_map]
  cases gf[g]? <;> rfl

theorem world_restrict_map {β γ : Type} (w : World Rank) (d : β) (gf : List β) (f : β → γ) :
    (w.map fun r => r.restrict d gf).map (·.map f) = w.map fun r => r.restrict (f d) (gf.map f) := by
  rw [List.map_map]
  apply List.map_congr_left
  intro r _
  exact restrict_map r d gf f

theorem restrict_length {β : Type} (r : Rank) (d : β) (gf : List β) : (r.restrict d gf).length = r.l2g.length := by
  simp [Rank.restrict]

theorem restrict_getD {β : Type} (r : Rank) (d : β) (gf : List β) (i : Nat) (hi : i < r.l2g.length) :
    (r.restrict d gf).getD i d = gf.getD (gOf r.l2g i) d := by
  rw [List.getD_eq_getElem?_getD, restrict_getElem? r d gf i hi]
  rfl

theorem restrict_replicate {β : Type} (r : Rank) (d : β) (n : Nat) :
    r.restrict d (List.replicate n d) = r.l2g.map fun _ => d := by
  unfold Rank.restrict
  refine List.map_congr_left fun k _ => ?_
  rw [List.getD_eq_getElem?_getD, List.getElem?_replicate]
  split <;> rfl

/-- the local projection of rank `r` at an owned vertex is the serial projection of the global
    mesh at that vertex — for ANY scalar field (the same sums: all cells around an owned vertex are local) -/
theorem l2gradLocal_owned (twod : Bool) (gxyz : List (V3 ℝ)) (gs : List ℝ) (gcells : List Cell) (r : Rank)
    (hnd : r.l2g.Nodup)
    (hwf : if twod then TrisWF r.l2g.length (allTris r.cells) else TetsWF r.l2g.length (allTets r.cells))
    (i : Nat) (hi : i < r.l2g.length) (hg : gOf r.l2g i < gxyz.length) (hc : CompleteAt twod gcells r i) :
    (l2gradLocal twod gxyz r (r.restrict 0 gs)).2[i]? = (l2grad twod gxyz gs gcells).2[gOf r.l2g i]? := by
  unfold l2gradLocal l2grad CompleteAt at *
  cases twod with
  | true =>
    simp only [if_true] at hwf hc ⊢
    exact l2gradTris_local gxyz gs _ _ r.l2g hnd hwf i hi hg hc
  | false =>
    simp only [Bool.false_eq_true, if_false] at hwf hc ⊢
    exact l2gradTets_local gxyz gs _ _ r.l2g hnd hwf i hi hg hc

theorem l2gradLocal_length (twod : Bool) (gxyz : List (V3 ℝ)) (r : Rank) (s : List ℝ) :
    (l2gradLocal twod gxyz r s).2.length = r.l2g.length := by
  unfold l2gradLocal
  rw [l2grad_length]
  simp [Rank.xyz]

theorem rowV3_v3row (v : V3 ℝ) : rowV3 (v3row v) = v := by
  cases v; simp [rowV3, v3row]

theorem rowM6_m6row (m : M6 ℝ) : rowM6 (m6row m) = m := by
  cases m; simp [rowM6, m6row]

theorem ghostV3_spec (w : World Rank) (hw : WorldOK w) (f : World (List (V3 ℝ))) (hf : Shaped w f) :
    ghostV3 w f = some (fromOwners V3.zero w f) :=
  @ghostCoded_spec ℝ Scalar.instInhabited _ RefType.dbl rfl 3 (by norm_num) v3row rowV3 rowV3_v3row (fun _ => rfl)
    V3.zero w hw f hf

theorem ghostM6_spec (d : M6 ℝ) (w : World Rank) (hw : WorldOK w) (f : World (List (M6 ℝ))) (hf : Shaped w f) :
    ghostM6 w f = some (fromOwners d w f) :=
  @ghostCoded_spec ℝ Scalar.instInhabited _ RefType.dbl rfl 6 (le_refl 6) m6row rowM6 rowM6_m6row (fun _ => rfl)
    d w hw f hf

/-- **`ref_recon_l2_projection_grad` is partition independent**: on every world satisfying the distributed
    invariant, for every field given consistently on the ranks, the call completes and EVERY stored copy (owned or
    ghost) of every vertex holds the serial L2 gradient of the global mesh at that vertex -/
theorem l2gradPar_eq_serial (twod : Bool) (gxyz : List (V3 ℝ)) (gs : List ℝ) (gcells : List Cell) (w : World Rank)
    (hw : DistOK twod gxyz.length gcells w) (s : World (List ℝ)) (hs : Consistent 0 w s gs) :
    ∃ st, l2gradPar twod gxyz w s =
      some (st, w.map fun r => r.restrict V3.zero (l2grad twod gxyz gs gcells).2) := by
  subst hs
  set G := (l2grad twod gxyz gs gcells).2 with hG
  -- an owned entry holds the serial value: the local sums are the global sums
  have howned : ∀ (me : Nat) (r : Rank) (i : Nat), w[me]? = some r → r.part[i]? = some me →
      wAt V3.zero (w.map fun r => (l2gradLocal twod gxyz r (r.restrict 0 gs)).2) me i =
        G.getD (r.l2g.getD i 0) V3.zero := by
    intro me r i hr hp
    have hrm := List.mem_of_getElem? hr
    have hi := hw.lt_of_part hr hp
    have hgin : gOf r.l2g i < gxyz.length := hw.inRange r hrm _ (gOf_mem hi)
    rw [wAt_map _ _ hr, List.getD_eq_getElem?_getD, List.getD_eq_getElem?_getD,
      l2gradLocal_owned twod gxyz gs gcells r (hw.nodup r hrm) (hw.wf r hrm) i hi hgin (hw.complete me r hr i hp)]
    rfl
  unfold l2gradPar
  simp only [List.zipWith_map_right, List.zipWith_self, List.map_map, Function.comp_def]
  rw [ghostV3_spec w hw.toWorldOK _ (Shaped.map _ fun r _ => l2gradLocal_length twod gxyz r _),
    fromOwners_of_owned V3.zero hw.toWorldOK _ (fun g => G.getD g V3.zero) howned]
  exact ⟨_, rfl⟩

end Refine.ReconParMesh
