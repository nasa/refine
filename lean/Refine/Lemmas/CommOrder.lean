import Mathlib.Order.Defs.LinearOrder

/-!
  The comparison behind `ref_mpi_min` / `ref_mpi_max` / `ref_mpi_allminwho`.  It stands in a module of its own, below
  the lattice layer of Mathlib: with `Mathlib.Data.Prod.Lex` among the imports the `<` in its body is found through
  the lattice instances of a linear order — an equal term by unfolding, so no proof notices, but a different term in
  every statement that mentions `ltB`.
-/
namespace Refine.Lemmas.Comm

section Order
variable {γ : Type} [LinearOrder γ]

/-- the strict comparison the C evaluates -/
def ltB (a b : γ) : Bool := decide (a < b)

end Order

end Refine.Lemmas.Comm
