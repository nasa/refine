import Refine.Model.NodeIds
import Refine.Lemmas.ListFacts
import Refine.Lemmas.FreeChain
import Refine.Lemmas.ContainersSearch

/-!
  The `NodeIds` state machine (`ref_node.c`).  The free list threaded through `global[]` is an instance of
  `Refine.FreeChain` (`FreeList`; `FreeInv` is the part of `NodeInv` that also the removals with a stale index keep).
  Everything about the live part of `global[]` is said through one relation, `Holds g v x` (slot `v` holds the id `x`):
  the sorted index lists exactly what the array holds (`SortedInv.mem_iff`), `liveSlot` inverts it (`liveSlot_iff`), and
  the two things an operation does to the array — store an id in the head of the free list, vacate a slot — are the
  relations `Stores` and `Vacates`, from which invariants, refinement of the abstract map and frames follow.
-/
namespace Refine.Model.NodeIds
open NodeIds

@[simp] theorem next2index_index2next (i : Nat) : next2index (index2next i) = i := by
  simp [next2index, index2next]; omega

theorem index2next_neg (i : Nat) : index2next i < 0 := by simp [index2next]; omega
theorem index2next_ne_empty (i : Nat) : index2next i ≠ -1 := by simp [index2next]; omega
theorem index2next_inj {i j : Nat} (h : index2next i = index2next j) : i = j := by
  simp [index2next] at h; omega

/-- `IsChain g b l`: following the links of `g` from head `b` visits exactly the slots `l`, in order,
    and ends at `REF_EMPTY`.  A finite list: the chain is acyclic as soon as `l.Nodup`. -/
inductive IsChain (g : List Int) : Int → List Nat → Prop
  | nil : IsChain g (-1) []
  | cons {i : Nat} {l : List Nat} : i < g.length → g.getD i (-1) < 0 →
      IsChain g (g.getD i (-1)) l → IsChain g (index2next i) (i :: l)

theorem IsChain.head_neg {g b l} (h : IsChain g b l) : b < 0 := by
  cases h with
  | nil => decide
  | cons _ _ _ => exact index2next_neg _

theorem isChain_iff {g : List Int} {b : Int} {l : List Nat} :
    IsChain g b l ↔
      FreeChain.Chain g.length (fun i => g.getD i (-1)) (fun i => g.getD i (-1) < 0) index2next b l := by
  constructor
  · intro h
    induction h with
    | nil => exact .nil
    | cons hi hn _ ih => exact .cons hi hn ih
  · intro h
    induction h with
    | nil => exact .nil
    | cons hi hn _ ih => exact .cons hi hn ih

theorem IsChain.lt_length {g b l} (h : IsChain g b l) : ∀ i ∈ l, i < g.length :=
  fun i hi => ((isChain_iff.1 h).lt i hi).1

theorem IsChain.neg_of_mem {g b l} (h : IsChain g b l) : ∀ i ∈ l, g.getD i (-1) < 0 :=
  fun i hi => ((isChain_iff.1 h).lt i hi).2

theorem IsChain.append {g b l} (h : IsChain g b l) (t : List Int) : IsChain (g ++ t) b l :=
  isChain_iff.2 ((isChain_iff.1 h).congr (by simp) fun i hi => by
    simp only [ListFacts.getD_append_left (h.lt_length i hi)]; exact ⟨trivial, id⟩)

theorem isChain_of_agree {g g' : List Int} {b : Int} {l : List Nat} (h : IsChain g b l)
    (hlen : g'.length = g.length) (hag : ∀ i, i ∈ l → g'.getD i (-1) = g.getD i (-1)) : IsChain g' b l :=
  isChain_iff.2 ((isChain_iff.1 h).congr (Nat.le_of_eq hlen.symm) fun i hi => by
    simp only [hag i hi]; exact ⟨trivial, id⟩)

theorem freeRun_length (orig m : Nat) : (freeRun orig m).length = m - orig := by simp [freeRun]

theorem freeRun_getD {orig m k : Nat} (h : k < m - orig) :
    (freeRun orig m).getD k (-1) = if orig + k + 1 = m then (-1 : Int) else index2next (orig + k + 1) :=
  ListFacts.getD_map_range h

theorem mem_freeRun_neg {orig m : Nat} : ∀ y ∈ freeRun orig m, y < 0 := by
  intro y hy
  obtain ⟨k, -, rfl⟩ := List.mem_map.1 hy
  split
  · decide
  · exact index2next_neg _

theorem countP_freeRun (orig m : Nat) : (freeRun orig m).countP (fun x => decide (0 ≤ x)) = 0 :=
  List.countP_eq_zero.2 fun a ha => by have := mem_freeRun_neg a ha; simp only [decide_eq_true_eq]; omega

theorem lt_length_of_getD_nonneg {g : List Int} {v : Nat} (h : 0 ≤ g.getD v (-1)) : v < g.length :=
  ListFacts.lt_length_of_getD_ne (d := -1) (by omega)

theorem countP_of_sign (g g' : List Int) (hl : g'.length = g.length)
    (hs : ∀ i, i < g.length → (0 ≤ g'.getD i (-1) ↔ 0 ≤ g.getD i (-1))) :
    g'.countP (fun x => decide (0 ≤ x)) = g.countP (fun x => decide (0 ≤ x)) := by
  have e : ∀ l : List Int, l.countP (fun x => decide (0 ≤ x)) = (l.map fun x => decide (0 ≤ x)).countP id :=
    fun l => by rw [List.countP_map]; rfl
  rw [e, e]
  congr 1
  apply List.ext_getElem
  · rw [List.length_map, List.length_map, hl]
  · intro i h1 h2
    rw [List.length_map] at h1 h2
    have := hs i h2
    rw [List.getD_eq_getElem?_getD, List.getD_eq_getElem?_getD, List.getElem?_eq_getElem h1,
      List.getElem?_eq_getElem h2] at this
    rw [List.getElem_map, List.getElem_map]
    exact decide_eq_decide.2 this

theorem map_getD_neg (l : List Int) (f : Int → Int) (v : Nat) (hf : ∀ x, x < 0 → f x = x)
    (h : l.getD v (-1) < 0) : (l.map f).getD v (-1) = l.getD v (-1) := by
  simp only [List.getD_eq_getElem?_getD, List.getElem?_map] at h ⊢
  cases hl : l[v]? with
  | none => rfl
  | some x =>
    rw [hl] at h
    simp only [Option.getD_some] at h
    simp [hf x h]

theorem getD_append_freeRun {g : List Int} {m j : Nat} (h1 : g.length ≤ j) (h2 : j < m) :
    (g ++ freeRun g.length m).getD j (-1) = if j + 1 = m then (-1 : Int) else index2next (j + 1) := by
  rw [ListFacts.getD_append_right h1, freeRun_getD (by omega), show g.length + (j - g.length) + 1 = j + 1 by omega]

theorem getD_append_freeRun_neg {g : List Int} {m j : Nat} (h1 : g.length ≤ j) (h2 : j < m) :
    (g ++ freeRun g.length m).getD j (-1) < 0 := by
  rw [getD_append_freeRun h1 h2]; split
  · decide
  · exact index2next_neg _

/-- the free-list clause of `FreeInv` -/
def FreeList (g : List Int) (b : Int) : Prop :=
  ∃ l, IsChain g b l ∧ l.Nodup ∧ ∀ i, i < g.length → (i ∈ l ↔ g.getD i (-1) < 0)

theorem freeList_iff {g : List Int} {b : Int} :
    FreeList g b ↔
      FreeChain.Free g.length (fun i => g.getD i (-1)) (fun i => g.getD i (-1) < 0) index2next b := by
  simp only [FreeList, FreeChain.Free, isChain_iff]

theorem FreeList.head_neg {g : List Int} {b : Int} (h : FreeList g b) : b < 0 := by
  obtain ⟨_, hc, _, _⟩ := h
  exact hc.head_neg

theorem FreeList.pop {g : List Int} {b : Int} (h : FreeList g b) (hb : b ≠ -1) {x : Int} (hx : 0 ≤ x) :
    next2index b < g.length ∧ g.getD (next2index b) (-1) < 0 ∧
      FreeList (g.set (next2index b) x) (g.getD (next2index b) (-1)) := by
  obtain ⟨i, rfl, hi, hf, hpop⟩ := (freeList_iff.1 h).pop hb
  rw [next2index_index2next]
  refine ⟨hi, hf, freeList_iff.2 ?_⟩
  rw [List.length_set]
  exact hpop (.of_set g (-1) i x id (· < 0)) (by rw [ListFacts.getD_set_self g x _ hi]; omega)

theorem FreeList.push {g : List Int} {b : Int} (h : FreeList g b) {v : Nat} (hv : 0 ≤ g.getD v (-1)) :
    FreeList (g.set v b) (index2next v) := by
  have hvlen : v < g.length := lt_length_of_getD_nonneg hv
  refine freeList_iff.2 ?_
  rw [List.length_set]
  exact (freeList_iff.1 h).push hvlen (by omega) (.of_set g (-1) v b id (· < 0))
    (by rw [ListFacts.getD_set_self g b _ hvlen]; exact h.head_neg) (ListFacts.getD_set_self g b _ hvlen)

theorem FreeList.grow {g : List Int} (h : FreeList g (-1)) {chunk : Nat} (hchunk : 0 < chunk) :
    FreeList (g ++ freeRun g.length (g.length + chunk)) (index2next g.length) := by
  refine freeList_iff.2 ?_
  rw [List.length_append, freeRun_length, Nat.add_sub_cancel_left]
  refine (freeList_iff.1 h).grow index2next_ne_empty hchunk (fun j hj => by rw [ListFacts.getD_append_left hj]) ?_
  intro j hlj hj
  exact ⟨getD_append_freeRun_neg hlj hj, getD_append_freeRun hlj hj⟩

theorem FreeList.nil : FreeList [] (-1) := freeList_iff.2 FreeChain.Free.nil

/-- free list acyclic and exactly the invalid slots; `n` counts the valid slots -/
structure FreeInv (s : NodeIds) : Prop where
  chain : ∃ l, IsChain s.global s.blank l ∧ l.Nodup ∧
    ∀ i, i < s.max → (i ∈ l ↔ s.global.getD i (-1) < 0)
  count : s.n = s.global.countP (fun x => decide (0 ≤ x))

theorem FreeInv.freeList {s : NodeIds} (h : FreeInv s) : FreeList s.global s.blank := h.chain

theorem FreeInv.of_freeList {s : NodeIds} (h : FreeList s.global s.blank)
    (hc : s.n = s.global.countP (fun x => decide (0 ≤ x))) : FreeInv s := ⟨h, hc⟩

theorem FreeInv.blank_neg {s : NodeIds} (h : FreeInv s) : s.blank < 0 := h.freeList.head_neg

theorem FreeInv.pop {s t : NodeIds} (h : FreeInv s) (hb : s.blank ≠ -1) {x : Int} (hx : 0 ≤ x)
    (hg : t.global = s.global.set (next2index s.blank) x)
    (hbl : t.blank = s.global.getD (next2index s.blank) (-1)) (hn : t.n = s.n + 1) :
    FreeInv t ∧ next2index s.blank < s.max ∧ s.global.getD (next2index s.blank) (-1) < 0 := by
  obtain ⟨hlt, hneg, hfl⟩ := h.freeList.pop hb hx
  refine ⟨.of_freeList (by rw [hg, hbl]; exact hfl) ?_, hlt, hneg⟩
  rw [hn, hg, List.countP_set hlt, h.count]
  have : ¬ (0 ≤ s.global[next2index s.blank]) := by rw [← ListFacts.getD_eq_getElem (d := -1) hlt]; omega
  simp [this, hx]

/-- `global[v] = blank; blank = index2next(v); n--` for a valid slot `v` -/
theorem FreeInv.push {s t : NodeIds} (h : FreeInv s) {v : Nat} (hv : 0 ≤ s.global.getD v (-1))
    (hg : t.global = s.global.set v s.blank) (hb : t.blank = index2next v) (hn : t.n = s.n - 1) :
    FreeInv t := by
  have hvlen : v < s.global.length := lt_length_of_getD_nonneg hv
  refine .of_freeList (by rw [hg, hb]; exact h.freeList.push hv) ?_
  rw [hn, hg, List.countP_set hvlen, h.count]
  have h1 : 0 ≤ s.global[v] := by rw [← ListFacts.getD_eq_getElem (d := -1) hvlen]; exact hv
  have h2 : ¬ (0 ≤ s.blank) := by have := h.blank_neg; omega
  simp [h1, h2]

@[simp] theorem grow_n (s : NodeIds) : s.grow.n = s.n := by unfold grow; split <;> rfl
@[simp] theorem grow_sorted (s : NodeIds) : s.grow.sorted = s.sorted := by unfold grow; split <;> rfl
@[simp] theorem grow_unusedStk (s : NodeIds) : s.grow.unusedStk = s.unusedStk := by unfold grow; split <;> rfl
@[simp] theorem grow_maxUnused (s : NodeIds) : s.grow.maxUnused = s.maxUnused := by unfold grow; split <;> rfl
@[simp] theorem grow_newN (s : NodeIds) : s.grow.newN = s.newN := by unfold grow; split <;> rfl
@[simp] theorem grow_oldN (s : NodeIds) : s.grow.oldN = s.oldN := by unfold grow; split <;> rfl

theorem FreeInv.congr {a b : NodeIds} (h : FreeInv a) (hg : b.global = a.global) (hb : b.blank = a.blank)
    (hn : b.n = a.n) : FreeInv b := by
  obtain ⟨hc, hcount⟩ := h
  refine ⟨?_, ?_⟩
  · simpa [NodeIds.max, hg, hb] using hc
  · rw [hg, hn]; exact hcount

theorem grow_max_le (s : NodeIds) : s.max ≤ s.grow.max := by
  unfold grow; split <;> simp [NodeIds.max]

/-- the state after the growth branch of `ref_node_add_core`, for a given chunk -/
def grown (s : NodeIds) (chunk : Nat) : NodeIds :=
  { s with global := s.global ++ freeRun s.max (s.max + chunk),
           part := s.part ++ List.replicate chunk 0,
           blank := index2next s.max }

theorem grow_eq (s : NodeIds) :
    s.grow = if s.blank = -1 then grown s (Nat.max 5000 (s.max + s.max / 2)) else s := rfl

theorem grown_FreeInv {s : NodeIds} (h : FreeInv s) (hb : s.blank = -1) {chunk : Nat} (hchunk : 0 < chunk) :
    FreeInv (grown s chunk) := by
  refine .of_freeList (FreeList.grow (by rw [← hb]; exact h.freeList) hchunk) ?_
  show s.n = _
  simp only [grown, List.countP_append, countP_freeRun, Nat.add_zero]
  exact h.count

theorem grow_FreeInv {s : NodeIds} (h : FreeInv s) : FreeInv s.grow ∧ s.grow.blank ≠ -1 := by
  rw [grow_eq]
  split
  next hb =>
    have hchunk : 0 < Nat.max 5000 (s.max + s.max / 2) :=
      Nat.lt_of_lt_of_le (by decide) (Nat.le_max_left 5000 _)
    exact ⟨grown_FreeInv h hb hchunk, index2next_ne_empty _⟩
  next hb =>
    exact ⟨h, hb⟩

theorem isNondecr_iff : ∀ (l : List Int), isNondecr l = true ↔ l.Pairwise (· ≤ ·)
  | [] => by simp [isNondecr]
  | [_] => by simp [isNondecr]
  | a :: b :: rest => by
    have ih := isNondecr_iff (b :: rest)
    simp only [isNondecr, Bool.and_eq_true, decide_eq_true_eq, ih]
    constructor
    · rintro ⟨hab, hp⟩
      refine List.pairwise_cons.2 ⟨?_, hp⟩
      intro x hx
      rcases List.mem_cons.1 hx with rfl | hx
      · exact hab
      · exact Int.le_trans hab ((List.pairwise_cons.1 hp).1 x hx)
    · intro hp
      obtain ⟨h1, h2⟩ := List.pairwise_cons.1 hp
      exact ⟨h1 b (by simp), h2⟩

/-! `ref_sort_search_glob`: `Model/ContainersSort.lean` holds a second transcription of the C function
  (`Sort.searchInt`, returning status and position as the C does).  The two agree, so the bisection argument is the
  one of `Lemmas/ContainersSearch.lean`. -/

/-- status and position as `Sort.searchInt` returns them, as the `Option` of `searchGlob` -/
def ofSort (r : Refine.Model.Status × Int) : Option Nat :=
  if r.1 = Refine.Model.Status.ok then some r.2.toNat else none

theorem searchLoop_eq_sort (xs : List Int) (t : Int) (fuel lower upper mid : Nat) :
    searchLoop xs t fuel lower upper mid = ofSort (Refine.Model.Sort.searchLoop xs t fuel lower upper mid) := by
  fun_induction searchLoop xs t fuel lower upper mid with
  | case1 => rfl
  | case2 fuel lower upper mid hm hge heq => -- found at `mid`
    rw [Refine.Model.Sort.searchLoop, if_pos (by simp [hm]), if_pos hge, if_pos heq]; simp [ofSort]
  | case3 fuel lower upper mid hm hge heq ih => -- `xs[mid] ≤ t`: go right
    rw [Refine.Model.Sort.searchLoop, if_pos (by simp [hm]), if_pos hge, if_neg heq, Nat.shiftRight_eq_div_pow,
      Nat.pow_one, ih]
  | case4 fuel lower upper mid hm hge ih => -- go left
    rw [Refine.Model.Sort.searchLoop, if_pos (by simp [hm]), if_neg hge, Nat.shiftRight_eq_div_pow, Nat.pow_one, ih]
  | case5 fuel lower upper mid hm => -- interval closed
    rw [Refine.Model.Sort.searchLoop, if_neg (by simpa using hm)]; rfl

theorem searchGlob_eq_sort (xs : List Int) (t : Int) : searchGlob xs t = ofSort (Refine.Model.Sort.searchInt xs t) := by
  rw [searchGlob, Refine.Model.Sort.searchInt]
  simp only [Nat.shiftRight_eq_div_pow, Nat.pow_one]
  by_cases h1 : xs.length < 1
  · rw [if_pos h1, if_pos h1]; rfl
  · rw [if_neg h1, if_neg h1]
    by_cases h2 : t < xs.getD 0 0 ∨ t > xs.getD (xs.length - 1) 0
    · rw [if_pos h2, if_pos (show (decide (t < xs.getD 0 0) || decide (t > xs.getD (xs.length - 1) 0)) = true by
        simpa using h2)]; rfl
    · rw [if_neg h2, if_neg (show ¬ (decide (t < xs.getD 0 0) || decide (t > xs.getD (xs.length - 1) 0)) = true by
        simpa using h2)]
      by_cases h3 : t = xs.getD 0 0
      · rw [if_pos h3, if_pos h3]; rfl
      · rw [if_neg h3, if_neg h3]
        by_cases h4 : t = xs.getD (xs.length - 1) 0
        · rw [if_pos h4, if_pos h4]; simp [ofSort]
        · rw [if_neg h4, if_neg h4, searchLoop_eq_sort]

theorem searchGlob_some {xs : List Int} {t : Int} {i : Nat} (h : searchGlob xs t = some i) :
    i < xs.length ∧ xs.getD i 0 = t := by
  rw [searchGlob_eq_sort] at h
  rcases Refine.Model.Sort.searchInt_any xs t with ⟨p, hp, h1, h2⟩ | ⟨hp, _⟩
  · rw [hp] at h; simp [ofSort] at h; subst h; exact ⟨h1, h2⟩
  · rw [hp] at h; simp [ofSort] at h

theorem searchGlob_none {xs : List Int} {t : Int} (hs : xs.Pairwise (· < ·))
    (h : searchGlob xs t = none) : t ∉ xs := by
  rw [searchGlob_eq_sort] at h
  rcases Refine.Model.Sort.searchInt_spec xs (hs.imp Int.le_of_lt) t with ⟨p, hp, _, _⟩ | ⟨_, hn⟩
  · rw [hp] at h; simp [ofSort] at h
  · exact hn

theorem searchGlob_eq_none_iff {xs : List Int} (hs : xs.Pairwise (· < ·)) {t : Int} :
    searchGlob xs t = none ↔ t ∉ xs := by
  refine ⟨searchGlob_none hs, fun hn => ?_⟩
  cases h : searchGlob xs t with
  | none => rfl
  | some i =>
    obtain ⟨hl, hk⟩ := searchGlob_some h
    exact absurd (by rw [← hk, ListFacts.getD_eq_getElem hl]; exact List.getElem_mem hl) hn

/-- the backward scan of `ref_node_add` is the one of `ref_dict_store` (`Model/Containers.lean`) for a key that is not
    there, so what it finds is said by `RDict.storeScan_split` -/
theorem storeScan_eq_insertPointGo {ks : List Int} {g : Int} (hg : g ∉ ks) (m : Nat) (h : m ≤ ks.length) :
    RDict.storeScan ks g m = .insertAt (insertPointGo ks g m) := by
  fun_induction insertPointGo ks g m with
  | case1 => rfl
  | case2 loc hlt =>
    rw [RDict.storeScan, if_neg fun e : ks.getD loc 0 = g => hg (e ▸ ListFacts.getD_mem (by omega)), if_pos hlt]
  | case3 loc hlt ih =>
    rw [RDict.storeScan, if_neg fun e : ks.getD loc 0 = g => hg (e ▸ ListFacts.getD_mem (by omega)), if_neg hlt,
      ih (by omega)]

theorem insertPoint_split {ks : List Int} {g : Int} (hs : ks.Pairwise (· < ·)) (hg : g ∉ ks) :
    ∃ lo hi, ks = lo ++ hi ∧ insertPoint ks g = lo.length ∧ (∀ x ∈ lo, x < g) ∧ ∀ x ∈ hi, g < x := by
  rcases RDict.storeScan_split ks hs g with ⟨lo, hi, rfl, -⟩ | ⟨lo, hi, rfl, hscan, h1, h2⟩
  · exact absurd (by simp) hg
  · rw [storeScan_eq_insertPointGo hg _ (Nat.le_refl _)] at hscan
    exact ⟨lo, hi, rfl, RDict.Scan.insertAt.inj hscan, h1, h2⟩

theorem insert_pairwise {ks : List Int} {g : Int} (hs : ks.Pairwise (· < ·)) (hg : g ∉ ks) :
    (ks.take (insertPoint ks g) ++ g :: ks.drop (insertPoint ks g)).Pairwise (· < ·) := by
  obtain ⟨lo, hi, rfl, hip, h1, h2⟩ := insertPoint_split hs hg
  rw [hip, List.take_left', List.drop_left'] <;> try rfl
  exact RDict.pairwise_insert hs h1 h2

/-- `sorted_global` strictly increasing, `global[sorted_local[i]] = sorted_global[i]`, every valid slot is
    listed, length `n` -/
structure SortedInv (s : NodeIds) : Prop where
  sorted : s.keys.Pairwise (· < ·)
  sound : ∀ p ∈ s.sorted, s.global.getD p.2 (-1) = p.1 ∧ 0 ≤ p.1
  complete : ∀ v, 0 ≤ s.global.getD v (-1) → (s.global.getD v (-1), v) ∈ s.sorted
  len : s.sorted.length = s.n

structure NodeInv (s : NodeIds) : Prop where
  free : FreeInv s
  srt : SortedInv s

theorem add_hit {s : NodeIds} {g : Int} {loc : Nat} (hg : 0 ≤ g) (hm : searchGlob s.keys g = some loc) :
    s.add g = (.ok, (s.sorted.getD loc (0, 0)).2, s) := by
  simp [add, hm, Int.not_lt.2 hg]

theorem add_miss {s : NodeIds} {g : Int} (hg : 0 ≤ g) (hm : searchGlob s.keys g = none) :
    s.add g = (.ok, next2index s.grow.blank,
      { s.grow with
        blank := s.grow.global.getD (next2index s.grow.blank) (-1),
        global := s.grow.global.set (next2index s.grow.blank) g,
        part := s.grow.part.set (next2index s.grow.blank) 0,
        n := s.n + 1,
        sorted := s.sorted.take (insertPoint s.keys g) ++
          (g, next2index s.grow.blank) :: s.sorted.drop (insertPoint s.keys g) }) := by
  simp [add, addCore, hm, Int.not_lt.2 hg]

theorem add_neg {s : NodeIds} {g : Int} (hg : g < 0) : s.add g = (.invalid, 0, s) := by
  simp [add, hg]

theorem addCore_eq {s : NodeIds} {g : Int} (hg : 0 ≤ g) :
    s.addCore g = (.ok, next2index s.grow.blank,
      { s.grow with
        blank := s.grow.global.getD (next2index s.grow.blank) (-1),
        global := s.grow.global.set (next2index s.grow.blank) g,
        part := s.grow.part.set (next2index s.grow.blank) 0,
        n := s.n + 1 }) := by
  simp [addCore, Int.not_lt.2 hg]

theorem keys_getD (s : NodeIds) {i : Nat} (hi : i < s.sorted.length) :
    s.keys.getD i 0 = (s.sorted[i]).1 := by
  simp [keys, List.getD_eq_getElem?_getD, hi]

theorem validSlot_iff {s : NodeIds} {node : Int} :
    s.validSlot node = true ↔ 0 ≤ node ∧ 0 ≤ s.global.getD node.toNat (-1) := by
  simp only [validSlot, Bool.and_eq_true, decide_eq_true_eq]
  constructor
  · rintro ⟨⟨h1, _⟩, h3⟩; exact ⟨by omega, h3⟩
  · rintro ⟨h1, h3⟩
    have := lt_length_of_getD_nonneg h3
    simp only [NodeIds.max]
    refine ⟨⟨by omega, by omega⟩, h3⟩

theorem validSlot_of_getD {s : NodeIds} {v : Nat} (h : 0 ≤ s.global.getD v (-1)) :
    s.validSlot (v : Int) = true := validSlot_iff.2 ⟨by omega, by simpa using h⟩

theorem globalOf_valid {s : NodeIds} {node : Int} (hv : s.validSlot node = true) :
    s.globalOf node = s.global.getD node.toNat (-1) := by
  unfold NodeIds.globalOf
  rw [if_pos hv]

/-- the slot holding global `g` (first match in `global[]`; unique under `NodeInv`) -/
def NodeIds.liveSlot (s : NodeIds) (g : Int) : Option Nat := if g < 0 then none else s.global.idxOf? g

/-- where fresh ids start: `new_n_global`, or `n` while it is still uninitialised (`REF_EMPTY`),
    exactly what `ref_node_next_global` would use -/
def NodeIds.effNew (s : NodeIds) : Int := if s.newN = -1 then (s.n : Int) else s.newN

structure Abs where
  live : Int → Option Nat
  pool : Int → Prop

/-- `abs s = (live : global ↦ slot, pool = unused ∪ [new_n_global, ∞))` -/
def NodeIds.abs (s : NodeIds) : Abs := ⟨s.liveSlot, fun g => g ∈ s.unusedStk ∨ s.effNew ≤ g⟩

theorem abs_live (s : NodeIds) (g : Int) : s.abs.live g = s.liveSlot g := rfl

theorem Abs.ext {a b : Abs} (h1 : ∀ g, a.live g = b.live g) (h2 : ∀ g, a.pool g ↔ b.pool g) : a = b := by
  cases a; cases b
  simp only [Abs.mk.injEq]
  exact ⟨funext h1, funext fun g => propext (h2 g)⟩

/-- two valid slots never hold the same global id -/
def LiveDistinct (s : NodeIds) : Prop :=
  ∀ v w, 0 ≤ s.global.getD v (-1) → s.global.getD v (-1) = s.global.getD w (-1) → v = w

/-- what survives the removals that do not maintain the sorted arrays -/
structure WeakInv (s : NodeIds) : Prop where
  free : FreeInv s
  distinct : LiveDistinct s

/-- no pooled id is negative, no pooled id is live -/
structure PoolInv (s : NodeIds) : Prop where
  nonneg : ∀ x, s.abs.pool x → 0 ≤ x
  fresh : ∀ x, s.abs.pool x → s.liveSlot x = none

structure SamePool (s t : NodeIds) : Prop where
  unused : t.unusedStk = s.unusedStk
  newN : t.newN = s.newN
  oldN : t.oldN = s.oldN

theorem SamePool.trans {s t u : NodeIds} (h1 : SamePool s t) (h2 : SamePool t u) : SamePool s u :=
  ⟨h2.unused.trans h1.unused, h2.newN.trans h1.newN, h2.oldN.trans h1.oldN⟩

structure SameSlots (s t : NodeIds) : Prop where
  global : t.global = s.global
  blank : t.blank = s.blank
  n : t.n = s.n
  sorted : t.sorted = s.sorted

/-! `holds_set` is the one fact about overwriting an entry.  `Stores` and `Vacates` are stated for an arbitrary target
  state given by its field equations (`stores_of_fields`, `vacates_of_fields`), so that no operation is unfolded again
  for its invariants, its refinement or its frame. -/

def Holds (g : List Int) (v : Nat) (x : Int) : Prop := 0 ≤ x ∧ g.getD v (-1) = x

theorem Holds.of_getD {g : List Int} {v : Nat} (h : 0 ≤ g.getD v (-1)) : Holds g v (g.getD v (-1)) := ⟨h, rfl⟩

theorem Holds.lt_length {g : List Int} {v : Nat} {x : Int} (h : Holds g v x) : v < g.length :=
  lt_length_of_getD_nonneg (by rw [h.2]; exact h.1)

theorem holds_set {g : List Int} {i : Nat} (hi : i < g.length) (y : Int) {v : Nat} {x : Int} :
    Holds (g.set i y) v x ↔ (v ≠ i ∧ Holds g v x) ∨ (v = i ∧ x = y ∧ 0 ≤ y) := by
  unfold Holds
  by_cases h : v = i
  · subst h
    rw [ListFacts.getD_set_self g y _ hi]
    constructor
    · rintro ⟨h0, rfl⟩; exact Or.inr ⟨rfl, rfl, h0⟩
    · rintro (⟨h, _⟩ | ⟨_, rfl, h0⟩)
      · exact absurd rfl h
      · exact ⟨h0, rfl⟩
  · rw [ListFacts.getD_set_ne g y _ (Ne.symm h)]
    constructor
    · intro hh; exact Or.inl ⟨h, hh⟩
    · rintro (⟨_, hh⟩ | ⟨e, _⟩)
      · exact hh
      · exact absurd e h

theorem holds_append {g t : List Int} (ht : ∀ y ∈ t, y < 0) {v : Nat} {x : Int} :
    Holds (g ++ t) v x ↔ Holds g v x := by
  unfold Holds
  by_cases hv : v < g.length
  · rw [ListFacts.getD_append_left hv]
  · rw [ListFacts.getD_append_right (Nat.le_of_not_lt hv), ListFacts.getD_eq_default (l := g) (Nat.le_of_not_lt hv)]
    refine ⟨fun ⟨h0, e⟩ => ?_, fun ⟨h0, e⟩ => by omega⟩
    have := ht x (e ▸ ListFacts.getD_mem (ListFacts.lt_length_of_getD_ne (d := -1) (by omega)))
    omega

theorem holds_grow (s : NodeIds) {v : Nat} {x : Int} : Holds s.grow.global v x ↔ Holds s.global v x := by
  rw [grow_eq]
  split
  · exact holds_append mem_freeRun_neg
  · rfl

theorem liveDistinct_iff {s : NodeIds} :
    LiveDistinct s ↔ ∀ v w x, Holds s.global v x → Holds s.global w x → v = w := by
  constructor
  · intro h v w x hv hw; exact h v w (by rw [hv.2]; exact hv.1) (hv.2.trans hw.2.symm)
  · intro h v w hv he; exact h v w _ (.of_getD hv) ⟨hv, he.symm⟩

def NodeIds.liveSet (s : NodeIds) (x : Int) : Prop := ∃ v, Holds s.global v x

theorem liveSlot_iff {s : NodeIds} (hd : LiveDistinct s) {x : Int} {v : Nat} :
    s.liveSlot x = some v ↔ Holds s.global v x := by
  unfold NodeIds.liveSlot Holds
  split
  · exact ⟨fun h => absurd h (by simp), fun h => by omega⟩
  · rw [List.idxOf?_eq_some_iff]
    constructor
    · rintro ⟨hl, heq, _⟩
      exact ⟨by omega, by rw [ListFacts.getD_eq_getElem hl]; exact heq⟩
    · rintro ⟨h0, heq⟩
      have hl := Holds.lt_length ⟨h0, heq⟩
      refine ⟨hl, by rw [← ListFacts.getD_eq_getElem (d := -1) hl]; exact heq, ?_⟩
      intro j hj hjeq
      have hjl : j < s.global.length := by omega
      have : j = v := hd j v (by rw [ListFacts.getD_eq_getElem hjl, hjeq]; exact h0)
        (by rw [ListFacts.getD_eq_getElem hjl, hjeq, heq])
      omega

theorem liveSlot_ext {s t : NodeIds} (hs : LiveDistinct s) (ht : LiveDistinct t) {x y : Int}
    (h : ∀ v, Holds t.global v y ↔ Holds s.global v x) : t.liveSlot y = s.liveSlot x :=
  Option.ext fun v => by rw [liveSlot_iff ht, liveSlot_iff hs, h]

theorem liveSlot_congr {a b : NodeIds} (hg : b.global = a.global) (x : Int) : b.liveSlot x = a.liveSlot x := by
  simp [NodeIds.liveSlot, hg]

theorem SortedInv.mem_iff {s : NodeIds} (h : SortedInv s) {p : Int × Nat} :
    p ∈ s.sorted ↔ Holds s.global p.2 p.1 :=
  ⟨fun hp => ⟨(h.sound p hp).2, (h.sound p hp).1⟩,
   fun hh => by have := h.complete p.2 (by rw [hh.2]; exact hh.1); rwa [hh.2] at this⟩

theorem SortedInv.of_mem_iff {s : NodeIds} (h1 : s.keys.Pairwise (· < ·))
    (h2 : ∀ p, p ∈ s.sorted ↔ Holds s.global p.2 p.1) (h3 : s.sorted.length = s.n) : SortedInv s :=
  ⟨h1, fun p hp => ⟨((h2 p).1 hp).2, ((h2 p).1 hp).1⟩, fun v hv => (h2 (_, v)).2 (.of_getD hv), h3⟩

theorem SortedInv.loc_inj {s : NodeIds} (hs : SortedInv s) {i j : Nat} (hi : i < s.sorted.length)
    (hj : j < s.sorted.length) (e : (s.sorted[i]).1 = (s.sorted[j]).1) : i = j :=
  (List.getElem_inj (xs := s.keys) (h₀ := by simpa [keys] using hi) (h₁ := by simpa [keys] using hj)
    (hs.sorted.imp Int.ne_of_lt)).1 (by simpa [keys] using e)

/-- a strictly increasing index lists every id once, so no two slots hold the same id -/
theorem SortedInv.distinct {s : NodeIds} (hs : SortedInv s) : LiveDistinct s := by
  rw [liveDistinct_iff]
  intro v w x hv hw
  obtain ⟨i, hi, ei⟩ := List.mem_iff_getElem.1 (hs.mem_iff (p := (x, v)).2 hv)
  obtain ⟨j, hj, ej⟩ := List.mem_iff_getElem.1 (hs.mem_iff (p := (x, w)).2 hw)
  obtain rfl := hs.loc_inj hi hj (by rw [ei, ej])
  exact congrArg Prod.snd (ei.symm.trans ej)

theorem NodeInv.weak {s : NodeIds} (h : NodeInv s) : WeakInv s := ⟨h.free, h.srt.distinct⟩

theorem mem_keys_iff {s : NodeIds} (h : NodeInv s) {g : Int} :
    g ∈ s.keys ↔ s.liveSet g := by
  constructor
  · intro hm
    obtain ⟨p, hp, rfl⟩ := List.mem_map.1 hm
    exact ⟨p.2, h.srt.mem_iff.1 hp⟩
  · rintro ⟨v, hv⟩
    exact List.mem_map.2 ⟨(g, v), h.srt.mem_iff.2 hv, rfl⟩

theorem liveSlot_eq_some_iff {s : NodeIds} (h : NodeInv s) {g : Int} {v : Nat} :
    s.liveSlot g = some v ↔ Holds s.global v g := liveSlot_iff h.srt.distinct

theorem keys_nodup {s : NodeIds} (h : NodeInv s) : s.keys.Nodup :=
  h.srt.sorted.imp fun hab => Int.ne_of_lt hab

theorem mem_keys_iff_live {s : NodeIds} (h : NodeInv s) {g : Int} : g ∈ s.keys ↔ s.liveSlot g ≠ none := by
  rw [mem_keys_iff h]
  constructor
  · rintro ⟨v, hv⟩ hn
    rw [(liveSlot_eq_some_iff h).2 hv] at hn
    cases hn
  · intro hn
    cases hl : s.liveSlot g with
    | none => exact absurd hl hn
    | some v => exact ⟨v, (liveSlot_eq_some_iff h).1 hl⟩

theorem liveSet_iff_liveSlot {s : NodeIds} (h : NodeInv s) {x : Int} :
    s.liveSet x ↔ s.liveSlot x ≠ none := by
  rw [← mem_keys_iff_live h, mem_keys_iff h]

/-- `t` is `s` with `x` stored in the vacant slot `v` -/
structure Stores (s t : NodeIds) (v : Nat) (x : Int) : Prop where
  free : FreeInv t
  holds : ∀ w y, Holds t.global w y ↔ Holds s.global w y ∨ (w = v ∧ y = x)
  vacant : ∀ y, ¬ Holds s.global v y

/-- `t` is `s` with slot `v`, which held `x`, vacated -/
structure Vacates (s t : NodeIds) (v : Nat) (x : Int) : Prop where
  free : FreeInv t
  holds : ∀ w y, Holds t.global w y ↔ Holds s.global w y ∧ w ≠ v
  held : Holds s.global v x

/-- the slot-array half of `ref_node_add_core` and of `ref_node_add` of a new global (growth branch included) -/
theorem stores_of_fields {s t : NodeIds} (h : FreeInv s) {x : Int} (hx : 0 ≤ x)
    (hg : t.global = s.grow.global.set (next2index s.grow.blank) x)
    (hb : t.blank = s.grow.global.getD (next2index s.grow.blank) (-1)) (hn : t.n = s.n + 1) :
    Stores s t (next2index s.grow.blank) x := by
  obtain ⟨hft, hbt⟩ := grow_FreeInv h
  obtain ⟨hfree, hlt, hneg⟩ := hft.pop hbt hx hg hb (by rw [hn, grow_n])
  -- the popped slot is negative in `s.grow`, so it holds nothing there nor in `s`
  have hvac : ∀ y, ¬ Holds s.global (next2index s.grow.blank) y := fun y hy => by
    obtain ⟨h0, hy'⟩ := (holds_grow s).2 hy
    omega
  refine ⟨hfree, fun w y => ?_, hvac⟩
  rw [hg, holds_set hlt, holds_grow]
  constructor
  · rintro (⟨_, hh⟩ | ⟨e, e', _⟩)
    · exact Or.inl hh
    · exact Or.inr ⟨e, e'⟩
  · rintro (hh | ⟨e, e'⟩)
    · exact Or.inl ⟨fun e => hvac y (e ▸ hh), hh⟩
    · exact Or.inr ⟨e, e', hx⟩

/-- the slot-array half of the four removals (`global[v] = blank; blank = index2next(v); n--`) -/
theorem vacates_of_fields {s t : NodeIds} (h : FreeInv s) {v : Nat} (hv : 0 ≤ s.global.getD v (-1))
    (hg : t.global = s.global.set v s.blank) (hb : t.blank = index2next v) (hn : t.n = s.n - 1) :
    Vacates s t v (s.global.getD v (-1)) := by
  refine ⟨h.push hv hg hb hn, fun w y => ?_, .of_getD hv⟩
  rw [hg, holds_set (lt_length_of_getD_nonneg hv)]
  have := h.blank_neg
  constructor
  · rintro (⟨e, hh⟩ | ⟨_, _, h0⟩)
    · exact ⟨hh, e⟩
    · omega
  · rintro ⟨hh, e⟩; exact Or.inl ⟨e, hh⟩

theorem Stores.frame {s t : NodeIds} {v : Nat} {x : Int} (h : Stores s t v x) {w : Nat}
    (hw : 0 ≤ s.global.getD w (-1)) : t.global.getD w (-1) = s.global.getD w (-1) :=
  ((h.holds w _).2 (Or.inl (.of_getD hw))).2

theorem Stores.stored {s t : NodeIds} {v : Nat} {x : Int} (h : Stores s t v x) : Holds t.global v x :=
  (h.holds v x).2 (Or.inr ⟨rfl, rfl⟩)

theorem Stores.liveSet {s t : NodeIds} {v : Nat} {x : Int} (h : Stores s t v x) (y : Int) :
    t.liveSet y ↔ s.liveSet y ∨ y = x := by
  constructor
  · rintro ⟨w, hw⟩
    rcases (h.holds w y).1 hw with hh | ⟨_, e⟩
    · exact Or.inl ⟨w, hh⟩
    · exact Or.inr e
  · rintro (⟨w, hh⟩ | e)
    · exact ⟨w, (h.holds w y).2 (Or.inl hh)⟩
    · exact ⟨v, e ▸ h.stored⟩

theorem Stores.distinct {s t : NodeIds} {v : Nat} {x : Int} (h : Stores s t v x) (hd : LiveDistinct s)
    (hfresh : ¬ s.liveSet x) : LiveDistinct t := by
  rw [liveDistinct_iff] at hd ⊢
  intro a b y ha hb
  rcases (h.holds a y).1 ha with ha | ⟨rfl, rfl⟩ <;> rcases (h.holds b y).1 hb with hb | ⟨rfl, e⟩
  · exact hd a b y ha hb
  · exact absurd ⟨a, e ▸ ha⟩ hfresh
  · exact absurd ⟨b, hb⟩ hfresh
  · rfl

theorem Vacates.distinct {s t : NodeIds} {v : Nat} {x : Int} (h : Vacates s t v x) (hd : LiveDistinct s) :
    LiveDistinct t := by
  rw [liveDistinct_iff] at hd ⊢
  exact fun a b y ha hb => hd a b y ((h.holds a y).1 ha).1 ((h.holds b y).1 hb).1

theorem Stores.liveSlot {s t : NodeIds} {v : Nat} {x : Int} (h : Stores s t v x) (hd : LiveDistinct s)
    (hfresh : ¬ s.liveSet x) (y : Int) :
    t.liveSlot y = if y = x then some v else s.liveSlot y := by
  have hdt := h.distinct hd hfresh
  split
  next e =>
    subst e
    exact (liveSlot_iff hdt).2 h.stored
  next e =>
    exact liveSlot_ext hd hdt fun w => by
      rw [h.holds]; exact ⟨fun hh => hh.resolve_right fun hh => e hh.2, Or.inl⟩

theorem Vacates.liveSlot {s t : NodeIds} {v : Nat} {x : Int} (h : Vacates s t v x) (hd : LiveDistinct s)
    (y : Int) : t.liveSlot y = if y = x then none else s.liveSlot y := by
  have hdt := h.distinct hd
  split
  next e =>
    subst e
    cases hl : t.liveSlot y with
    | none => rfl
    | some w =>
      obtain ⟨hh, hne⟩ := (h.holds w y).1 ((liveSlot_iff hdt).1 hl)
      exact absurd ((liveDistinct_iff.1 hd) w v y hh h.held) hne
  next e =>
    exact liveSlot_ext hd hdt fun w => by
      rw [h.holds]
      exact ⟨And.left, fun hh => ⟨hh, fun ew => e ((ew ▸ hh).2.symm.trans h.held.2)⟩⟩

theorem Stores.vacates_holds {s t u : NodeIds} {v : Nat} {x : Int} (h1 : Stores s t v x) (h2 : Vacates t u v x)
    (w : Nat) (y : Int) : Holds u.global w y ↔ Holds s.global w y := by
  rw [h2.holds, h1.holds]
  constructor
  · rintro ⟨hh | ⟨e, _⟩, hne⟩
    · exact hh
    · exact absurd e hne
  · intro hh; exact ⟨Or.inl hh, fun e => h1.vacant y (e ▸ hh)⟩

theorem mem_take_cons_drop {α} {l : List α} {i : Nat} {x p : α} :
    p ∈ l.take i ++ x :: l.drop i ↔ p = x ∨ p ∈ l := by
  have : p ∈ l ↔ p ∈ l.take i ∨ p ∈ l.drop i := by rw [← List.mem_append, List.take_append_drop]
  rw [List.mem_append, List.mem_cons, this]
  exact or_left_comm

theorem mem_livePairs {s : NodeIds} {p : Int × Nat} : p ∈ s.livePairs ↔ Holds s.global p.2 p.1 := by
  simp only [livePairs, List.mem_filter, List.mem_zipIdx_iff_getElem?, decide_eq_true_eq, ge_iff_le, Holds]
  constructor
  · rintro ⟨h1, h2⟩
    exact ⟨h2, by rw [List.getD_eq_getElem?_getD, h1]; rfl⟩
  · rintro ⟨h2, h1⟩
    have hl := Holds.lt_length ⟨h2, h1⟩
    rw [ListFacts.getD_eq_getElem hl] at h1
    exact ⟨by rw [List.getElem?_eq_getElem hl, h1], h2⟩

theorem livePairs_length (s : NodeIds) : s.livePairs.length = s.global.countP (fun x => decide (0 ≤ x)) := by
  have h1 : (s.livePairs.map Prod.fst) = s.global.filter (fun x => decide (0 ≤ x)) := by
    simp only [livePairs]
    rw [show (fun gv : Int × Nat => decide (gv.1 ≥ 0)) = (fun x => decide (0 ≤ x)) ∘ Prod.fst from rfl,
      ← List.filter_map, List.zipIdx_map_fst]
  rw [List.countP_eq_length_filter, ← h1, List.length_map]

theorem livePairs_slots (s : NodeIds) : s.livePairs.Pairwise (fun a b => a.2 ≠ b.2) := by
  have : (s.global.zipIdx.map Prod.snd).Nodup := by rw [List.zipIdx_map_snd]; exact List.nodup_range'
  rw [List.nodup_iff_pairwise_ne, List.pairwise_map] at this
  exact this.sublist List.filter_sublist

/-- a strictly increasing index that lists exactly what the array holds has the right length: both it and `livePairs`
    are duplicate-free lists of the same pairs, and `FreeInv.count` counts the latter -/
theorem NodeInv.of_mem_iff {s : NodeIds} (hf : FreeInv s) (h1 : s.keys.Pairwise (· < ·))
    (h2 : ∀ p, p ∈ s.sorted ↔ Holds s.global p.2 p.1) : NodeInv s := by
  have hnd : s.sorted.Nodup := by
    rw [List.nodup_iff_pairwise_ne]
    exact (List.pairwise_map.1 h1).imp fun {a b} hab (e : a = b) => Int.lt_irrefl b.1 (e ▸ hab)
  have hnd' : s.livePairs.Nodup := (livePairs_slots s).imp fun h e => h (congrArg Prod.snd e)
  have hperm := (List.perm_ext_iff_of_nodup hnd hnd').2 fun p => (h2 p).trans mem_livePairs.symm
  exact ⟨hf, .of_mem_iff h1 h2 (by rw [hperm.length_eq, livePairs_length]; exact hf.count.symm)⟩

theorem Stores.nodeInv {s t : NodeIds} {v : Nat} {x : Int} (h : Stores s t v x) (hs : SortedInv s)
    (hfresh : x ∉ s.keys)
    (hst : t.sorted = s.sorted.take (insertPoint s.keys x) ++ (x, v) :: s.sorted.drop (insertPoint s.keys x)) :
    NodeInv t := by
  refine .of_mem_iff h.free ?_ fun p => ?_
  · have : t.keys = s.keys.take (insertPoint s.keys x) ++ x :: s.keys.drop (insertPoint s.keys x) := by
      simp [keys, hst, List.map_take, List.map_drop]
    rw [this]; exact insert_pairwise hs.sorted hfresh
  · rw [hst, mem_take_cons_drop, h.holds, hs.mem_iff, or_comm]
    exact or_congr Iff.rfl ⟨fun e => by rw [e]; exact ⟨rfl, rfl⟩, fun ⟨a, b⟩ => Prod.ext b a⟩

theorem Vacates.nodeInv {s t : NodeIds} {v : Nat} {x : Int} (h : Vacates s t v x) (hs : SortedInv s)
    {loc : Nat} (hl : loc < s.sorted.length) (hloc : s.sorted[loc] = (x, v))
    (hst : t.sorted = s.sorted.eraseIdx loc) : NodeInv t := by
  refine .of_mem_iff h.free ?_ fun p => ?_
  · simp only [NodeIds.keys, hst]
    exact hs.sorted.sublist ((List.eraseIdx_sublist _ _).map _)
  · rw [hst, h.holds, ← hs.mem_iff, List.mem_eraseIdx_iff_getElem]
    constructor
    · rintro ⟨i, hi, hne, rfl⟩
      refine ⟨List.getElem_mem hi, fun e => hne ?_⟩
      -- an entry for slot `v` carries the id `v` holds, so it is the entry at `loc`
      have hh := hs.mem_iff.1 (List.getElem_mem hi)
      have : s.sorted[i] = s.sorted[loc] := by
        rw [hloc]; exact Prod.ext (by rw [← hh.2, e]; exact h.held.2) e
      exact hs.loc_inj hi hl (by rw [this])
    · rintro ⟨hp, hne⟩
      obtain ⟨i, hi, rfl⟩ := List.mem_iff_getElem.1 hp
      exact ⟨i, hi, fun e => hne (by subst e; rw [hloc]), rfl⟩

theorem Vacates.keys {s t : NodeIds} {v : Nat} {x : Int} (h : Vacates s t v x) (hs : NodeInv s) (ht : NodeInv t)
    (y : Int) : y ∈ t.keys ↔ y ≠ x ∧ y ∈ s.keys := by
  rw [mem_keys_iff_live ht, h.liveSlot hs.srt.distinct, mem_keys_iff_live hs]
  split
  next e => simp [e]
  next e => simp [e]

theorem add_miss_stores {s : NodeIds} (h : NodeInv s) {g : Int} (hg : 0 ≤ g) (hm : searchGlob s.keys g = none) :
    Stores s (s.add g).2.2 (s.add g).2.1 g := by
  have := stores_of_fields (t := (s.add g).2.2) h.free hg (by rw [add_miss hg hm]) (by rw [add_miss hg hm])
    (by rw [add_miss hg hm])
  rwa [show next2index s.grow.blank = (s.add g).2.1 by rw [add_miss hg hm]] at this

theorem add_miss_NodeInv {s : NodeIds} (h : NodeInv s) {g : Int} (hg : 0 ≤ g)
    (hm : searchGlob s.keys g = none) : NodeInv (s.add g).2.2 :=
  (add_miss_stores h hg hm).nodeInv h.srt (searchGlob_none h.srt.sorted hm) (by rw [add_miss hg hm])

theorem add_NodeInv {s : NodeIds} (h : NodeInv s) {g : Int} (hg : 0 ≤ g) :
    (s.add g).1 = .ok ∧ NodeInv (s.add g).2.2 := by
  cases hm : searchGlob s.keys g with
  | some loc => rw [add_hit hg hm]; exact ⟨rfl, h⟩
  | none => exact ⟨by rw [add_miss hg hm], add_miss_NodeInv h hg hm⟩

theorem search_valid {s : NodeIds} (h : NodeInv s) {v : Nat} (hv : 0 ≤ s.global.getD v (-1)) :
    ∃ loc, searchGlob s.keys (s.global.getD v (-1)) = some loc ∧ ∃ hl : loc < s.sorted.length,
      s.sorted[loc] = (s.global.getD v (-1), v) := by
  have hmem := h.srt.complete v hv
  have hk : s.global.getD v (-1) ∈ s.keys := List.mem_map.2 ⟨_, hmem, rfl⟩
  obtain ⟨loc, hloc⟩ := Option.ne_none_iff_exists'.1 fun hn => searchGlob_none h.srt.sorted hn hk
  obtain ⟨hl, hkey⟩ := searchGlob_some hloc
  have hl' : loc < s.sorted.length := by simpa [keys] using hl
  refine ⟨loc, hloc, hl', ?_⟩
  obtain ⟨k, hk, hkeq⟩ := List.mem_iff_getElem.1 hmem
  obtain rfl := h.srt.loc_inj hk hl' (by rw [hkeq, ← keys_getD s hl', hkey])
  exact hkeq

theorem remove_eq {s : NodeIds} {node : Int} {loc : Nat} (hv : s.validSlot node = true)
    (hloc : searchGlob s.keys (s.global.getD node.toNat (-1)) = some loc) :
    s.remove node = (.ok, (({ s with sorted := s.sorted.eraseIdx loc }).pushUnused
      (s.global.getD node.toNat (-1))).freeSlot node.toNat) := by
  simp only [remove, hv, Bool.not_true, Bool.false_eq_true, if_false, hloc]

theorem removeWithoutGlobal_eq {s : NodeIds} {node : Int} {loc : Nat} (hv : s.validSlot node = true)
    (hloc : searchGlob s.keys (s.global.getD node.toNat (-1)) = some loc) :
    s.removeWithoutGlobal node = (.ok, ({ s with sorted := s.sorted.eraseIdx loc }).freeSlot node.toNat) := by
  simp only [removeWithoutGlobal, hv, Bool.not_true, Bool.false_eq_true, if_false, hloc]

theorem remove_spec {s : NodeIds} (h : NodeInv s) {node : Int} (hv : s.validSlot node = true) :
    (s.remove node).1 = .ok ∧ NodeInv (s.remove node).2 ∧
      Vacates s (s.remove node).2 node.toNat (s.global.getD node.toNat (-1)) := by
  obtain ⟨_, hv2⟩ := validSlot_iff.1 hv
  obtain ⟨loc, hloc, hl, hat⟩ := search_valid h hv2
  rw [remove_eq hv hloc]
  have hvac := vacates_of_fields (t := (({ s with sorted := s.sorted.eraseIdx loc }).pushUnused
    (s.global.getD node.toNat (-1))).freeSlot node.toNat) h.free hv2 rfl rfl rfl
  exact ⟨rfl, hvac.nodeInv h.srt hl hat rfl, hvac⟩

theorem removeWithoutGlobal_spec {s : NodeIds} (h : NodeInv s) {node : Int} (hv : s.validSlot node = true) :
    (s.removeWithoutGlobal node).1 = .ok ∧ NodeInv (s.removeWithoutGlobal node).2 ∧
      Vacates s (s.removeWithoutGlobal node).2 node.toNat (s.global.getD node.toNat (-1)) := by
  obtain ⟨_, hv2⟩ := validSlot_iff.1 hv
  obtain ⟨loc, hloc, hl, hat⟩ := search_valid h hv2
  rw [removeWithoutGlobal_eq hv hloc]
  have hvac := vacates_of_fields (t := ({ s with sorted := s.sorted.eraseIdx loc }).freeSlot node.toNat)
    h.free hv2 rfl rfl rfl
  exact ⟨rfl, hvac.nodeInv h.srt hl hat rfl, hvac⟩

theorem remove_NodeInv {s : NodeIds} (h : NodeInv s) {node : Int} (hv : s.validSlot node = true) :
    (s.remove node).1 = .ok ∧ NodeInv (s.remove node).2 :=
  ⟨(remove_spec h hv).1, (remove_spec h hv).2.1⟩

theorem removeWithoutGlobal_NodeInv {s : NodeIds} (h : NodeInv s) {node : Int} (hv : s.validSlot node = true) :
    (s.removeWithoutGlobal node).1 = .ok ∧ NodeInv (s.removeWithoutGlobal node).2 :=
  ⟨(removeWithoutGlobal_spec h hv).1, (removeWithoutGlobal_spec h hv).2.1⟩

theorem slot_mem_keys {s : NodeIds} (h : NodeInv s) {node : Int} (hv : s.validSlot node = true) :
    s.global.getD node.toNat (-1) ∈ s.keys :=
  (mem_keys_iff h).2 ⟨node.toNat, (validSlot_iff.1 hv).2, rfl⟩

theorem search_none_iff_liveSlot {s : NodeIds} (h : NodeInv s) {g : Int} :
    searchGlob s.keys g = none ↔ s.liveSlot g = none := by
  rw [searchGlob_eq_none_iff h.srt.sorted, mem_keys_iff_live h]
  exact Decidable.not_not

theorem liveSlot_of_search {s : NodeIds} (h : NodeInv s) {g : Int} {loc : Nat}
    (hm : searchGlob s.keys g = some loc) : s.liveSlot g = some (s.sorted.getD loc (0, 0)).2 := by
  obtain ⟨hl, hk⟩ := searchGlob_some hm
  have hl' : loc < s.sorted.length := by simpa [keys] using hl
  have hgd : s.sorted.getD loc (0, 0) = s.sorted[loc] := by simp [List.getD_eq_getElem?_getD, hl']
  obtain ⟨h1, h2⟩ := h.srt.sound _ (List.getElem_mem hl')
  rw [keys_getD s hl'] at hk
  rw [hgd]
  exact (liveSlot_eq_some_iff h).2 ⟨by rw [← hk]; exact h2, by rw [h1, hk]⟩

theorem add_live {s : NodeIds} (h : NodeInv s) {g : Int} (hg : 0 ≤ g) (x : Int) :
    (s.add g).2.2.liveSlot x = if x = g then some (s.add g).2.1 else s.liveSlot x := by
  cases hm : searchGlob s.keys g with
  | some loc =>
    rw [add_hit hg hm]
    split
    next hx => subst hx; exact liveSlot_of_search h hm
    · rfl
  | none =>
    exact (add_miss_stores h hg hm).liveSlot h.srt.distinct
      (fun hl => searchGlob_none h.srt.sorted hm ((mem_keys_iff h).2 hl)) x

theorem add_frame {s : NodeIds} (h : NodeInv s) {g : Int} (hg : 0 ≤ g) {v : Nat}
    (hv : 0 ≤ s.global.getD v (-1)) : (s.add g).2.2.global.getD v (-1) = s.global.getD v (-1) := by
  cases hm : searchGlob s.keys g with
  | some loc => rw [add_hit hg hm]
  | none => exact (add_miss_stores h hg hm).frame hv

theorem add_holds {s : NodeIds} (h : NodeInv s) {g : Int} (hg : 0 ≤ g) :
    Holds (s.add g).2.2.global (s.add g).2.1 g :=
  (liveSlot_eq_some_iff (add_NodeInv h hg).2).1 (by rw [add_live h hg, if_pos rfl])

theorem add_valid {s : NodeIds} (h : NodeInv s) {g : Int} (hg : 0 ≤ g) :
    (s.add g).2.2.validSlot ((s.add g).2.1 : Int) = true :=
  validSlot_of_getD (by rw [(add_holds h hg).2]; exact hg)

theorem add_keys {s : NodeIds} (h : NodeInv s) {g : Int} (hg : 0 ≤ g) (x : Int) :
    x ∈ (s.add g).2.2.keys ↔ x = g ∨ x ∈ s.keys := by
  rw [mem_keys_iff_live (add_NodeInv h hg).2, add_live h hg, mem_keys_iff_live h]
  split
  next hx => simp [hx]
  next hx => simp [hx]

theorem add_fields (s : NodeIds) (g : Int) : SamePool s (s.add g).2.2 := by
  by_cases hg : g < 0
  · rw [add_neg hg]; exact ⟨rfl, rfl, rfl⟩
  · cases hm : searchGlob s.keys g with
    | some loc => rw [add_hit (Int.not_lt.1 hg) hm]; exact ⟨rfl, rfl, rfl⟩
    | none => rw [add_miss (Int.not_lt.1 hg) hm]; exact ⟨grow_unusedStk s, grow_newN s, grow_oldN s⟩

/-- what `ref_node_remove` of the valid slot `v` writes -/
structure RemoveFields (s t : NodeIds) (v : Nat) : Prop where
  global : t.global = s.global.set v s.blank
  blank : t.blank = index2next v
  n : t.n = s.n - 1
  unused : t.unusedStk = s.global.getD v (-1) :: s.unusedStk
  newN : t.newN = s.newN
  oldN : t.oldN = s.oldN

theorem remove_fields {s : NodeIds} (h : NodeInv s) {node : Int} (hv : s.validSlot node = true) :
    RemoveFields s (s.remove node).2 node.toNat := by
  obtain ⟨_, hv2⟩ := validSlot_iff.1 hv
  obtain ⟨loc, hloc, _, _⟩ := search_valid h hv2
  rw [remove_eq hv hloc]
  constructor <;> simp [freeSlot, pushUnused]

theorem remove_not_valid {s : NodeIds} (h : NodeInv s) {node : Int} (hv : s.validSlot node = true) :
    (s.remove node).2.validSlot node = false := by
  rw [Bool.eq_false_iff]
  intro hc
  exact (((remove_spec h hv).2.2.holds _ _).1 (.of_getD (validSlot_iff.1 hc).2)).2 rfl

theorem remove_live {s : NodeIds} (h : NodeInv s) {node : Int} (hv : s.validSlot node = true) (x : Int) :
    (s.remove node).2.liveSlot x =
      if x = s.global.getD node.toNat (-1) then none else s.liveSlot x :=
  (remove_spec h hv).2.2.liveSlot h.srt.distinct x

theorem remove_frame {s : NodeIds} (h : NodeInv s) {node : Int} (hv : s.validSlot node = true) {w : Nat}
    (hw : w ≠ node.toNat) : (s.remove node).2.global.getD w (-1) = s.global.getD w (-1) := by
  rw [(remove_fields h hv).global, ListFacts.getD_set_ne _ _ _ hw.symm]

theorem remove_keys {s : NodeIds} (h : NodeInv s) {node : Int} (hv : s.validSlot node = true) (x : Int) :
    x ∈ (s.remove node).2.keys ↔ x ≠ s.global.getD node.toNat (-1) ∧ x ∈ s.keys :=
  have ⟨_, ht, hvac⟩ := remove_spec h hv
  hvac.keys h ht x

theorem rwg_fields {s : NodeIds} (h : NodeInv s) {node : Int} (hv : s.validSlot node = true) :
    (s.removeWithoutGlobal node).2.global = s.global.set node.toNat s.blank ∧
      SamePool s (s.removeWithoutGlobal node).2 := by
  obtain ⟨_, hv2⟩ := validSlot_iff.1 hv
  obtain ⟨loc, hloc, _, _⟩ := search_valid h hv2
  rw [removeWithoutGlobal_eq hv hloc]
  exact ⟨rfl, rfl, rfl, rfl⟩

theorem rwg_keys {s : NodeIds} (h : NodeInv s) {node : Int} (hv : s.validSlot node = true) (x : Int) :
    x ∈ (s.removeWithoutGlobal node).2.keys ↔ x ≠ s.global.getD node.toNat (-1) ∧ x ∈ s.keys :=
  have ⟨_, ht, hvac⟩ := removeWithoutGlobal_spec h hv
  hvac.keys h ht x

theorem NodeInv.congr {a b : NodeIds} (h : NodeInv a) (hg : b.global = a.global) (hb : b.blank = a.blank)
    (hn : b.n = a.n) (hs : b.sorted = a.sorted) : NodeInv b :=
  .of_mem_iff (h.free.congr hg hb hn) (by simpa [keys, hs] using h.srt.sorted) fun p => by
    rw [hs, hg]; exact h.srt.mem_iff

/-- relabelling the ids by a map that is strictly monotone and non-negative on its live ids keeps the
    `ref_node` structure invariant: `t` is `s` with `f` applied to the ids in `sorted_global` and in the live slots of
    `global[]`, the free slots untouched -/
theorem NodeInv.relabel (f : Int → Int) (s t : NodeIds) (hN : NodeInv s)
    (hmono : ∀ g g', g ∈ s.keys → g' ∈ s.keys → g < g' → f g < f g') (hnn : ∀ g, g ∈ s.keys → 0 ≤ f g)
    (hb : t.blank = s.blank) (hn : t.n = s.n) (hs : t.sorted = s.sorted.map fun e => (f e.1, e.2))
    (hlen : t.global.length = s.global.length)
    (hneg : ∀ v, s.global.getD v (-1) < 0 → t.global.getD v (-1) = s.global.getD v (-1))
    (hpos : ∀ v, 0 ≤ s.global.getD v (-1) → t.global.getD v (-1) = f (s.global.getD v (-1))) : NodeInv t := by
  have hkey : ∀ v, 0 ≤ s.global.getD v (-1) → s.global.getD v (-1) ∈ s.keys := fun v hv =>
    (mem_keys_iff hN).2 ⟨v, hv, rfl⟩
  have hsign : ∀ v, (0 ≤ t.global.getD v (-1) ↔ 0 ≤ s.global.getD v (-1)) := by
    intro v
    by_cases hv : 0 ≤ s.global.getD v (-1)
    · rw [hpos v hv]; exact ⟨fun _ => hv, fun _ => hnn _ (hkey v hv)⟩
    · rw [hneg v (by omega)]
  have hk : t.keys = s.keys.map f := by
    show t.sorted.map _ = (s.sorted.map _).map _
    rw [hs, List.map_map, List.map_map]; rfl
  obtain ⟨⟨l, hc, hlnd, hmem⟩, hcount⟩ := hN.free
  refine .of_mem_iff ⟨⟨l, ?_, hlnd, ?_⟩, ?_⟩ ?_ fun p => ?_
  · rw [hb]; exact isChain_of_agree hc hlen fun i hi => hneg i (hc.neg_of_mem i hi)
  · intro i hi
    have hi' : i < s.max := by simpa [NodeIds.max, hlen] using hi
    rw [hmem i hi']
    have := hsign i
    constructor <;> intro h <;> omega
  · rw [hn, hcount]
    exact (countP_of_sign _ _ hlen fun i _ => hsign i).symm
  · rw [hk, List.pairwise_map]
    exact List.Pairwise.imp_of_mem (fun ha hb hab => hmono _ _ ha hb hab) hN.srt.sorted
  · -- slot `p.2` holds `p.1` in `t` iff it holds some `x` with `f x = p.1` in `s`
    rw [hs, List.mem_map]
    constructor
    · rintro ⟨q, hq, rfl⟩
      obtain ⟨h0, e⟩ := hN.srt.mem_iff.1 hq
      exact ⟨hnn _ (List.mem_map.2 ⟨q, hq, rfl⟩), by rw [hpos q.2 (e ▸ h0), e]⟩
    · rintro ⟨h0, e⟩
      have hv := (hsign p.2).1 (e ▸ h0)
      exact ⟨_, hN.srt.complete p.2 hv, Prod.ext ((hpos p.2 hv).symm.trans e) rfl⟩

theorem nextGlobal_cons {s : NodeIds} {g : Int} {rest : List Int} (hu : s.unusedStk = g :: rest) :
    s.nextGlobal = (.ok, g, { s with unusedStk := rest }) := by
  simp [nextGlobal, nUnused, popUnused, hu]

theorem nextGlobal_nil {s : NodeIds} (hu : s.unusedStk = []) :
    s.nextGlobal = (.ok, s.effNew,
      { s with oldN := if s.newN = -1 then (s.n : Int) else s.oldN, newN := s.effNew + 1 }) := by
  have h0 : s.nUnused = 0 := by simp [nUnused, hu]
  simp only [nextGlobal, h0, Nat.lt_irrefl, if_false, NodeIds.effNew, initNGlobal]
  split <;> rfl

theorem nextGlobal_nil' {s : NodeIds} (hu : s.unusedStk = []) (hn : s.newN ≠ -1) :
    s.nextGlobal = (.ok, s.newN, { s with newN := s.newN + 1 }) := by
  rw [nextGlobal_nil hu]
  simp [NodeIds.effNew, hn]

theorem nextGlobal_mem_pool (s : NodeIds) : s.nextGlobal.1 = .ok ∧ s.abs.pool s.nextGlobal.2.1 := by
  cases hu : s.unusedStk with
  | nil => rw [nextGlobal_nil hu]; exact ⟨rfl, Or.inr (Int.le_refl _)⟩
  | cons g rest => rw [nextGlobal_cons hu]; exact ⟨rfl, Or.inl (by simp [hu])⟩

theorem nextGlobal_keeps (s : NodeIds) : SameSlots s s.nextGlobal.2.2 := by
  cases hu : s.unusedStk with
  | nil => rw [nextGlobal_nil hu]; exact ⟨rfl, rfl, rfl, rfl⟩
  | cons g rest => rw [nextGlobal_cons hu]; exact ⟨rfl, rfl, rfl, rfl⟩

theorem nextGlobal_pool (s : NodeIds) (h0 : 0 ≤ s.nextGlobal.2.1) (x : Int) :
    (x = s.nextGlobal.2.1 ∨ s.nextGlobal.2.2.abs.pool x) ↔ s.abs.pool x := by
  cases hu : s.unusedStk with
  | nil =>
    rw [nextGlobal_nil hu] at h0 ⊢
    simp only [NodeIds.abs, hu, List.not_mem_nil, false_or] at h0 ⊢
    generalize s.effNew = m at h0 ⊢
    simp only [NodeIds.effNew]
    rw [if_neg (by omega)]
    omega
  | cons g rest =>
    rw [nextGlobal_cons hu]
    simp only [NodeIds.abs, hu, List.mem_cons, NodeIds.effNew]
    exact or_assoc.symm

theorem freeSlot_WeakInv {s t : NodeIds} (h : WeakInv s) {v : Nat} (hv : 0 ≤ s.global.getD v (-1))
    (hg : t.global = s.global.set v s.blank) (hb : t.blank = index2next v) (hn : t.n = s.n - 1) :
    WeakInv t :=
  have hvac := vacates_of_fields h.free hv hg hb hn
  ⟨hvac.free, hvac.distinct h.distinct⟩

structure RemovalsWeak (s : NodeIds) (node : Int) : Prop where
  remove : WeakInv (s.remove node).2
  removeWithoutGlobal : WeakInv (s.removeWithoutGlobal node).2
  removeInvalidatesSorted : WeakInv (s.removeInvalidatesSorted node).2
  removeWithoutGlobalInvalidatesSorted : WeakInv (s.removeWithoutGlobalInvalidatesSorted node).2

/-- the free-list half of the invariant and the distinctness of live ids survive each of the four removals, for
    every argument and however stale the sorted arrays are: an invalid slot or a failed search leaves the state as
    it is, otherwise the slot is vacated -/
theorem removals_WeakInv {s : NodeIds} (h : WeakInv s) (node : Int) : RemovalsWeak s node := by
  cases hv : s.validSlot node with
  | false =>
    refine ⟨?_, ?_, ?_, ?_⟩ <;>
      simp [remove, removeWithoutGlobal, removeInvalidatesSorted, removeWithoutGlobalInvalidatesSorted, hv, h]
  | true =>
    obtain ⟨_, hv2⟩ := validSlot_iff.1 hv
    refine ⟨?_, ?_, ?_, ?_⟩ <;>
      simp only [remove, removeWithoutGlobal, removeInvalidatesSorted, removeWithoutGlobalInvalidatesSorted, hv,
        Bool.not_true, Bool.false_eq_true, if_false]
    · split
      · exact h
      · exact freeSlot_WeakInv h hv2 rfl rfl rfl
    · split
      · exact h
      · exact freeSlot_WeakInv h hv2 rfl rfl rfl
    · exact freeSlot_WeakInv h hv2 rfl rfl rfl
    · exact freeSlot_WeakInv h hv2 rfl rfl rfl

end Refine.Model.NodeIds
