import Refine.Lemmas.CellRows
import Refine.Lemmas.ListFacts
import Mathlib.Data.List.Perm.Basic

/-! what a well-formed mesh (`WellFormed`, `cellOk`) gives the binary UGRID proofs: the `Kind` table, the shape of a
    cell, the seven header counts `hdrOf`, the sizes of the ten sections, and the writer's order of the boundary faces
    (`sortFaces`, `normalize`) -/
namespace Refine.Lemmas.Ugrid
open Refine.Gen Refine.Model.Endian Refine.Model.Ugrid
open Refine.Model.Meshb (Bytes Status Vertex P Cfg takeN encLE decLE toSigned ofSigned int32 wrap32 adjAdd adjAddAll)
open Refine.Lemmas.Codec (int32_iff)

theorem mem_all (k : Kind) : k ∈ Kind.all := by cases k <;> decide

theorem forall_kind {p : Kind → Prop} : (∀ k, p k) ↔ p .tri ∧ p .qua ∧ p .tet ∧ p .pyr ∧ p .pri ∧ p .hex :=
  ⟨fun h => ⟨h _, h _, h _, h _, h _, h _⟩, fun ⟨a, b, c, d, e, f⟩ k => by cases k <;> assumption⟩

theorem hasTag_tri : Kind.hasTag .tri = true := by decide
theorem hasTag_qua : Kind.hasTag .qua = true := by decide
theorem hasTag_tet : Kind.hasTag .tet = false := by decide
theorem hasTag_pyr : Kind.hasTag .pyr = false := by decide
theorem hasTag_pri : Kind.hasTag .pri = false := by decide
theorem hasTag_hex : Kind.hasTag .hex = false := by decide

theorem nodePer_tri : Kind.nodePer .tri = 3 := by decide
theorem nodePer_qua : Kind.nodePer .qua = 4 := by decide
theorem nodePer_tet : Kind.nodePer .tet = 4 := by decide
theorem nodePer_pyr : Kind.nodePer .pyr = 5 := by decide
theorem nodePer_pri : Kind.nodePer .pri = 6 := by decide
theorem nodePer_hex : Kind.nodePer .hex = 8 := by decide

theorem sizePer_tri : Kind.sizePer .tri = 4 := by decide
theorem sizePer_qua : Kind.sizePer .qua = 5 := by decide
theorem sizePer_tet : Kind.sizePer .tet = 4 := by decide
theorem sizePer_pyr : Kind.sizePer .pyr = 5 := by decide
theorem sizePer_pri : Kind.sizePer .pri = 6 := by decide
theorem sizePer_hex : Kind.sizePer .hex = 8 := by decide

theorem nodePer_pos (k : Kind) : 1 ≤ k.nodePer := by cases k <;> decide

theorem sizePer_le (k : Kind) : k.sizePer ≤ 9 := by cases k <;> decide

theorem sizePer_pos (k : Kind) : 1 ≤ k.sizePer := by cases k <;> decide

theorem ibyte_eq (fl : Flavor) : UgridOffsets.ibyte fl.fat = (fl.ibytes : Int) := by
  unfold UgridOffsets.ibyte Flavor.ibytes; cases fl.fat <;> simp

theorem pack_ibyte_eq (fl : Flavor) : UgridOffsets.pack_ibyte fl.fat = (fl.ibytes : Int) := by
  unfold UgridOffsets.pack_ibyte Flavor.ibytes; cases fl.fat <;> simp

theorem ibytes_cases (fl : Flavor) : fl.ibytes = 4 ∨ fl.ibytes = 8 := by
  unfold Flavor.ibytes; cases fl.fat <;> simp

theorem cellOk_iff (k : Kind) (n : Nat) (c : List Int) :
    cellOk k n c = true ↔ c.length = k.sizePer ∧ (∀ x ∈ c.take k.nodePer, 0 ≤ x ∧ x < (n : Int)) ∧
      (∀ t ∈ c.drop k.nodePer, int32 t) := by
  simp [cellOk, Kind.sizePer, and_assoc]

theorem cellOk_length {k : Kind} {n : Nat} {c : List Int} (h : cellOk k n c = true) : c.length = k.sizePer :=
  ((cellOk_iff k n c).1 h).1

theorem nodesIn_of_cellOk {k : Kind} {n : Nat} {c : List Int} (h : cellOk k n c = true) :
    Refine.Lemmas.Formats.nodesIn k.nodePer 0 (n : Int) c :=
  ⟨by have := cellOk_length h; simp only [Kind.sizePer] at this; omega, ((cellOk_iff k n c).1 h).2.1⟩

theorem take_length_of_cellOk {k : Kind} {n : Nat} {c : List Int} (h : cellOk k n c = true) :
    (c.take k.nodePer).length = k.nodePer :=
  List.length_take_of_le (nodesIn_of_cellOk h).1

theorem connOf_length {k : Kind} {n : Nat} {c : List Int} (h : cellOk k n c = true) :
    (connOf k c).length = k.nodePer :=
  Refine.Lemmas.Formats.conn1_length (nodesIn_of_cellOk h).1

theorem le_maxNodes {n : Nat} (hn : n < 2 ^ 27) : (n : Int) ≤ Refine.Lemmas.Formats.maxNodes := by
  unfold Refine.Lemmas.Formats.maxNodes; omega

theorem length_of_tagged {k : Kind} {n : Nat} {c : List Int} (ht : k.hasTag = true) (h : cellOk k n c = true) :
    c.length = k.nodePer + 1 := by
  simpa [Kind.sizePer, ht] using cellOk_length h

theorem cell_decomp {k : Kind} {n : Nat} {c : List Int} (ht : k.hasTag = true) (h : cellOk k n c = true) :
    c.take k.nodePer ++ [tagOf k c] = c :=
  Refine.ListFacts.take_append_getD (length_of_tagged ht h)

theorem tagOf_int32 {k : Kind} {n : Nat} {c : List Int} (ht : k.hasTag = true) (h : cellOk k n c = true) :
    int32 (tagOf k c) :=
  ((cellOk_iff k n c).1 h).2.2 _ (by
    rw [Refine.ListFacts.drop_eq_getD_cons (d := 0) (by rw [length_of_tagged ht h]; exact Nat.lt_succ_self _)]
    exact List.mem_cons_self)

theorem secConn_eq (fl : Flavor) (k : Kind) (cs : List (List Int)) :
    secConn fl k cs = ((cs.map (connOf k)).flatten).flatMap (Refine.Model.Ugrid.encInt fl) := by
  rw [← List.flatMap_def, List.flatMap_assoc]; rfl

theorem secConn_append (fl : Flavor) (k : Kind) (a b : List (List Int)) :
    secConn fl k (a ++ b) = secConn fl k a ++ secConn fl k b := by
  simp [secConn]

theorem flatten_connOf_length (k : Kind) {n : Nat} (cs : List (List Int)) (h : ∀ c ∈ cs, cellOk k n c = true) :
    ((cs.map (connOf k)).flatten).length = k.nodePer * cs.length := by
  rw [Refine.ListFacts.length_flatten_uniform (n := k.nodePer), List.length_map]
  intro l hl
  obtain ⟨c, hc, rfl⟩ := List.mem_map.1 hl
  exact connOf_length (h c hc)

/-- the 1-based nodes of a section, as written: each an `int`, none below 1 or above `nnode` -/
theorem flatten_connOf_idx (k : Kind) {n : Nat} (hn : n < 2 ^ 27) (cs : List (List Int))
    (h : ∀ c ∈ cs, cellOk k n c = true) : ∀ x ∈ (cs.map (connOf k)).flatten, int32 x ∧ 1 ≤ x ∧ x ≤ (n : Int) := by
  intro x hx
  simp only [List.mem_flatten, List.mem_map] at hx
  obtain ⟨l, ⟨c, hc', rfl⟩, hxl⟩ := hx
  exact Refine.Lemmas.Formats.conn1_idx (le_maxNodes hn) (nodesIn_of_cellOk (h c hc')) x hxl

theorem map_tagOf_int32 {k : Kind} (ht : k.hasTag = true) {n : Nat} {cs : List (List Int)}
    (h : ∀ c ∈ cs, cellOk k n c = true) : ∀ x ∈ cs.map (tagOf k), int32 x :=
  List.forall_mem_map.2 fun c hc => tagOf_int32 ht (h c hc)

theorem secTags_eq (fl : Flavor) (k : Kind) (cs : List (List Int)) :
    secTags fl k cs = (cs.map (tagOf k)).flatMap (Refine.Model.Ugrid.encInt fl) :=
  (List.flatMap_map ..).symm

theorem secTags_append (fl : Flavor) (k : Kind) (a b : List (List Int)) :
    secTags fl k (a ++ b) = secTags fl k a ++ secTags fl k b := by
  simp [secTags]

theorem wf_iff (m : UMesh) :
    WellFormed m = true ↔ m.nodes.length < 2 ^ 27 ∧
      ∀ k : Kind, (m.get k).length < 2 ^ 31 ∧ ∀ c ∈ m.get k, cellOk k m.nodes.length c = true := by
  unfold WellFormed
  simp only [Bool.and_eq_true, decide_eq_true_eq, List.all_eq_true]
  exact ⟨fun ⟨h0, hk⟩ => ⟨h0, fun k => hk k (mem_all k)⟩, fun ⟨h0, hk⟩ => ⟨h0, fun k _ => hk k⟩⟩

/-- the seven counts of the file written for `m` -/
def hdrOf (m : UMesh) : List Int :=
  [m.nodes.length, m.tri.length, m.qua.length, m.tet.length, m.pyr.length, m.pri.length, m.hex.length].map
    fun (n : Nat) => (n : Int)

theorem hdrOf_eq (m : UMesh) :
    hdrOf m = (m.nodes.length : Int) :: Kind.all.map fun k => ((m.get k).length : Int) := rfl

theorem hdrOf_int32 {m : UMesh} (hw : WellFormed m = true) : ∀ x ∈ hdrOf m, int32 x := by
  obtain ⟨hn, hk⟩ := (wf_iff m).1 hw
  rw [hdrOf_eq]
  exact List.forall_mem_cons.2 ⟨Refine.Lemmas.Codec.int32_of_lt (by omega),
    List.forall_mem_map.2 fun k _ => Refine.Lemmas.Codec.int32_of_lt (hk k).1⟩

theorem hdrOf_getD (m : UMesh) (k : Kind) : (hdrOf m).getD k.hdrIndex 0 = ((m.get k).length : Int) := by
  cases k <;> rfl

theorem hdrOf_getD0 (m : UMesh) : (hdrOf m).getD 0 0 = (m.nodes.length : Int) := by simp [hdrOf]

theorem secHeader_length (fl : Flavor) (m : UMesh) : (secHeader fl m).length = 7 * fl.ibytes := by
  unfold secHeader
  rw [flatMap_encInt_length]; simp

theorem secNodes_length (fl : Flavor) (m : UMesh) : (secNodes fl m).length = m.nodes.length * 24 := by
  unfold secNodes; exact flatMap_encVertex_length fl _

theorem secConn_length (fl : Flavor) (k : Kind) {n : Nat} (cs : List (List Int)) (h : ∀ c ∈ cs, cellOk k n c = true) :
    (secConn fl k cs).length = cs.length * (k.nodePer * fl.ibytes) := by
  rw [secConn_eq, flatMap_encInt_length, flatten_connOf_length k cs h]
  rw [Nat.mul_comm k.nodePer cs.length, Nat.mul_assoc]

theorem secTags_length (fl : Flavor) (k : Kind) (cs : List (List Int)) :
    (secTags fl k cs).length = cs.length * fl.ibytes := by
  rw [secTags_eq, flatMap_encInt_length]; simp

theorem sortFaces_perm (k : Kind) (cs : List (List Int)) : (sortFaces k cs).Perm cs := List.mergeSort_perm _ _

theorem sortFaces_length (k : Kind) (cs : List (List Int)) : (sortFaces k cs).length = cs.length :=
  (sortFaces_perm k cs).length_eq

theorem mem_sortFaces {k : Kind} {cs : List (List Int)} {c : List Int} : c ∈ sortFaces k cs ↔ c ∈ cs :=
  (sortFaces_perm k cs).mem_iff

theorem sortFaces_sorted (k : Kind) (cs : List (List Int)) :
    (sortFaces k cs).Pairwise (fun a b => tagOf k a ≤ tagOf k b) := by
  have := List.pairwise_mergeSort (le := fun a b => decide (tagOf k a ≤ tagOf k b))
    (fun a b c hab hbc => by simp only [decide_eq_true_eq] at *; omega)
    (fun a b => by simp only [Bool.or_eq_true, decide_eq_true_eq]; omega) cs
  simpa [sortFaces] using this

theorem sortFaces_of_sorted (k : Kind) (cs : List (List Int))
    (h : cs.Pairwise (fun a b => tagOf k a ≤ tagOf k b)) : sortFaces k cs = cs := by
  unfold sortFaces
  apply List.mergeSort_of_pairwise
  simpa using h

theorem normalize_of_sorted (m : UMesh) (h : FacesSorted m) : normalize m = m := by
  unfold normalize
  rw [sortFaces_of_sorted .tri m.tri h.1, sortFaces_of_sorted .qua m.qua h.2]

theorem get_normalize_perm (m : UMesh) (k : Kind) : ((normalize m).get k).Perm (m.get k) := by
  cases k
  exacts [sortFaces_perm _ _, sortFaces_perm _ _, .refl _, .refl _, .refl _, .refl _]

theorem wf_normalize {m : UMesh} (hw : WellFormed m = true) : WellFormed (normalize m) = true := by
  obtain ⟨hn, hk⟩ := (wf_iff m).1 hw
  exact (wf_iff _).2 ⟨hn, fun k => ⟨(get_normalize_perm m k).length_eq ▸ (hk k).1,
    fun c hc => (hk k).2 c ((get_normalize_perm m k).mem_iff.1 hc)⟩⟩

theorem normalize_idem (m : UMesh) : normalize (normalize m) = normalize m :=
  normalize_of_sorted _ ⟨by simpa [normalize] using sortFaces_sorted .tri m.tri,
    by simpa [normalize] using sortFaces_sorted .qua m.qua⟩

theorem hdrOf_normalize (m : UMesh) : hdrOf (normalize m) = hdrOf m := by
  simp [hdrOf, normalize, sortFaces_length]

end Refine.Lemmas.Ugrid
