import Refine.Lemmas.InterpLocateInv
import Refine.Lemmas.InterpSearch

/-!
  `ref_interp_locate` on a world of ranks keeps `GoodX` on every rank (`GoodWX`), for every pair of clauses that satisfies
  `LocateClauses`: `goodWX_locate`.

  A stage is: every rank does something to its own state (`perRank`), and records move between ranks.  All the invariant
  needs to know about an exchange is that what rank `r` receives was sent to `r` by some rank, unchanged
  (`exchangeLocated_mem`, `migrate_mem`), and what the sender put into it (`geomSends_rec`, `treeSends_rec`: the weights
  of the TARGET point, which is the receiver's own vertex — `targets_ok`, `record_target`).  `LocateClauses` lists, in these
  terms, what a node clause and an agent clause must satisfy; the intermediate worlds of a stage do not occur in it.

  `Good P P3` (Lemmas/InterpLocate.lean) is the instance `clauses_good`; the geometric invariant is the instance
  `clauses_geo` (Lemmas/InterpLocateGeom.lean).
-/

namespace Refine.Lemmas.InterpLocate
open Refine Refine.Model.Geom Refine.Model.Interp Refine.Model.InterpLocate Refine.Model.Comm Refine.Lemmas.Comm
open Refine.Gen

variable {α : Type} {P P3 : Slots α → Prop}

theorem nodeClause_one_two {sg i : Nat} {c p : Int} {s : Slots α} (hsg : sg = 1 ∨ sg = 2) (h : P s) :
    nodeClause P P3 sg i c p s := ⟨fun _ => h, fun h3 => by omega⟩

theorem nodeClause_three {i : Nat} {c p : Int} {s : Slots α} (h : P3 s) : nodeClause P P3 3 i c p s :=
  ⟨fun h12 => by omega, fun _ => h⟩

theorem agentClause_of_ne {a : AgentP α} (h : a.mode ≠ AMode.enclosing) : agentClause P a := fun he => absurd he h

variable [Scalar α]

/-- a record `ref_interp_geom_nodes` sends answers one target: destination and node are the target's, `proc` is the
    sender, the cell is a real cell of the sender's donor and the slots are the weights of the TARGET POINT in it -/
theorem geomSends_rec (r : Nat) (dr : DonorR α) (targets : List (Int × Int × V3 α)) (who : List Int)
    (best : List (α × Int)) : ∀ (l : List (Located α)),
      geomSends r dr targets who best = .ok l → ∀ x ∈ l, ∃ t ∈ targets,
        x.dest = t.1.toNat ∧ x.node = t.2.1 ∧ x.proc = (r : Int) ∧
        ∃ n b, dr.d.cellAt x.cell = some n ∧ Refine.Model.Interp.baryOf dr.d n t.2.2 = (St.ok, b) ∧
          x.bary = storeBary dr.d.twod Slots.unwritten b := by
  unfold geomSends
  fun_induction geomSends.go r dr targets who best with
  -- this rank holds the nearest corner of `t` and finds a cell around it: one record
  | case1 t ts p ps b bs hcond c w hex ih =>
    intro l h x hx
    obtain ⟨l', hl', rfl⟩ := map_eq_ok.mp h
    rcases List.mem_cons.mp hx with rfl | hx'
    · obtain ⟨_, _, n, hn, hb⟩ := Refine.Lemmas.Interp.enclosingInList_ok hex
      exact ⟨t, List.mem_cons_self, rfl, rfl, rfl, n, w, hn, hb, rfl⟩
    · exact (ih l' hl' x hx').imp fun _ ht => ⟨List.mem_cons_of_mem _ ht.1, ht.2⟩
  | case2 => exact fun l h => nomatch h
  -- not this rank's target, or no nearest corner (`REF_EMPTY`)
  | case3 t ts p ps b bs hcond ih =>
    exact fun l h x hx => (ih l h x hx).imp fun _ ht => ⟨List.mem_cons_of_mem _ ht.1, ht.2⟩
  | case4 => intro l h x hx; cases h; cases hx

theorem tree_slots_eq (twod : Bool) (b : B4 α) :
    (if twod then (Slots.unwritten.zero3).write3 b else Slots.unwritten.write4 b) = storeBary twod Slots.unwritten b := by
  cases twod <;> simp [storeBary, Slots.write3, Slots.zero3, Slots.write4, Slots.unwritten]

theorem treeSends_rec (r : Nat) (dr : DonorR α) (targets : List (Int × Int × V3 α)) (who : List Int)
    (best : List (α × Int)) : ∀ (l : List (Located α)) (inc : Bool),
      treeSends r dr targets who best = .ok (l, inc) → ∀ x ∈ l, x.cell ≠ refEmpty → ∃ t ∈ targets,
        x.dest = t.1.toNat ∧ x.node = t.2.1 ∧ x.proc = (r : Int) ∧
        ∃ n b, dr.d.cellAt x.cell = some n ∧ Refine.Model.Interp.baryOf dr.d n t.2.2 = (St.ok, b) ∧
          x.bary = storeBary dr.d.twod Slots.unwritten b := by
  unfold treeSends
  fun_induction treeSends.go r dr targets who best with
  | case1 => exact fun l inc h => nomatch h
  -- this rank won the target with a cell: a record with the weights of `t` in it
  | case2 t ts p ps b bs hp hb n hn wts hbo sl ih =>
    intro l inc h x hx hc
    obtain ⟨q, hq, hq2⟩ := map_eq_ok.mp h
    obtain ⟨rfl, _⟩ := Prod.mk.inj hq2
    rcases List.mem_cons.mp hx with rfl | hx'
    · exact ⟨t, List.mem_cons_self, rfl, rfl, rfl, n, wts, hn, hbo, tree_slots_eq _ _⟩
    · exact (ih q.1 q.2 hq x hx' hc).imp fun _ ht => ⟨List.mem_cons_of_mem _ ht.1, ht.2⟩
  | case3 => exact fun l inc h => nomatch h
  -- this rank won the target without a candidate: a record with cell `REF_EMPTY`
  | case4 t ts p ps b bs hp hb ih =>
    intro l inc h x hx hc
    obtain ⟨q, hq, hq2⟩ := map_eq_ok.mp h
    obtain ⟨rfl, _⟩ := Prod.mk.inj hq2
    rcases List.mem_cons.mp hx with rfl | hx'
    · exact absurd rfl hc
    · exact (ih q.1 q.2 hq x hx' hc).imp fun _ ht => ⟨List.mem_cons_of_mem _ ht.1, ht.2⟩
  -- another rank's target
  | case5 t ts p ps b bs hp ih =>
    exact fun l inc h x hx hc => (ih l inc h x hx hc).imp fun _ ht => ⟨List.mem_cons_of_mem _ ht.1, ht.2⟩
  | case6 => intro l inc h x hx; cases h; cases hx

theorem getElem?_mapIdx_zip {β γ δ : Type} {l1 : List β} {l2 : List γ} {f : Nat → β × γ → δ} {r : Nat} {d : δ}
    (h : ((l1.zip l2).mapIdx f)[r]? = some d) : ∃ a b, l1[r]? = some a ∧ l2[r]? = some b ∧ f r (a, b) = d := by
  obtain ⟨⟨a, b⟩, hz, e⟩ := ListFacts.getElem?_mapIdx_eq_some.mp h
  exact ⟨a, b, (List.getElem?_zip_eq_some.mp hz).1, (List.getElem?_zip_eq_some.mp hz).2, e⟩

theorem getElem?_map_zip {β γ δ : Type} {l1 : List β} {l2 : List γ} {f : β × γ → δ} {r : Nat} {d : δ}
    (h : ((l1.zip l2).map f)[r]? = some d) : ∃ a b, l1[r]? = some a ∧ l2[r]? = some b ∧ f (a, b) = d := by
  rw [List.getElem?_map, Option.map_eq_some_iff] at h
  obtain ⟨⟨a, b⟩, hz, e⟩ := h
  exact ⟨a, b, (List.getElem?_zip_eq_some.mp hz).1, (List.getElem?_zip_eq_some.mp hz).2, e⟩

theorem getElem?_const_map {β γ : Type} {l : List β} {c : γ} {r : Nat} {x : γ}
    (h : (l.map fun _ => c)[r]? = some x) : x = c := by
  rw [List.getElem?_map] at h
  cases hl : l[r]? with
  | none => simp [hl] at h
  | some y => simp [hl] at h; exact h.symm

/-- `concatItems` cannot fail on items of one length: every rank gets the source rank of every item and all items, rank by
    rank (comm's `allconcat_eq` is an unconditional equation) -/
theorem concatItems_ok {β : Type} [Inhabited β] (ty : RefType) (hty : ty.id = true) (ldim : Nat)
    (w : World (List (List β))) (hi : ∀ its ∈ w, ∀ it ∈ its, it.length = ldim) :
    concatItems ty ldim w =
      .ok (w.map fun _ => ((w.mapIdx fun r its => List.replicate its.length (r : Int)).flatten, w.flatten)) := by
  unfold concatItems
  rw [show (w.map fun its => (its.length, its.flatten)) = balanceIn w from rfl, allconcat_eq ty hty ldim w hi]
  simp only [all_ok_map, if_true, List.map_map, Function.comp_def, Int.toNat_natCast]
  rw [chunks_flatten ldim w.flatten fun it hit => by
    obtain ⟨its, hits, hit2⟩ := List.mem_flatten.mp hit
    exact hi its hits it hit2]

/-- the targets every rank sees: `(rank, local node, position)` of every listed node, rank by rank -/
def targetsOf (rw : World (RecvR α)) (lists : World (List Nat)) : List (Int × Int × V3 α) :=
  ((rw.zip lists).mapIdx fun s q => q.2.map fun (i : Nat) => ((s : Int), (i : Int), q.1.pt i)).flatten

/-- the three concatenated lists re-assembled: the targets are exactly `targetsOf` -/
theorem zipTargets_spec (rw : World (RecvR α)) (lists : World (List Nat)) :
    zipTargets (((rw.zip lists).map nodeItems).mapIdx fun r its => List.replicate its.length (r : Int)).flatten
      ((rw.zip lists).map nodeItems).flatten ((rw.zip lists).map xyzItems).flatten = targetsOf rw lists := by
  -- the records, rank by rank; each array is one field of them
  let T := (rw.zip lists).mapIdx fun s q => q.2.map fun (i : Nat) => ((s : Int), (i : Int), q.1.pt i)
  have h1 : (((rw.zip lists).map nodeItems).mapIdx fun r its => List.replicate its.length (r : Int)).flatten
      = T.flatten.map (·.1) := by
    rw [List.map_flatten, ListFacts.mapIdx_map, ListFacts.map_mapIdx]
    exact congrArg _ (List.mapIdx_eq_mapIdx_iff.mpr fun s _ => by
      simp [nodeItems, Function.comp_def, List.map_const'])
  have h2 : ((rw.zip lists).map nodeItems).flatten = T.flatten.map fun t => [t.2.1] := by
    rw [List.map_flatten, ListFacts.map_mapIdx]
    exact congrArg _ (mapIdx_eq_map fun s _ => by simp [nodeItems]).symm
  have h3 : ((rw.zip lists).map xyzItems).flatten = T.flatten.map fun t => [t.2.2.x, t.2.2.y, t.2.2.z] := by
    rw [List.map_flatten, ListFacts.map_mapIdx]
    exact congrArg _ (mapIdx_eq_map fun s _ => by simp [xyzItems]).symm
  rw [h1, h2, h3, zipTargets, List.zip_map', List.zip_map', List.map_map]
  exact (List.map_congr_left fun t _ => by simp [v3OfList]).trans (List.map_id _)

theorem mem_targetsOf {rw : World (RecvR α)} {lists : World (List Nat)} {t : Int × Int × V3 α}
    (h : t ∈ targetsOf rw lists) :
    ∃ (s : Nat) (rc : RecvR α) (i : Nat), rw[s]? = some rc ∧ t = ((s : Int), (i : Int), rc.pt i) := by
  simp only [targetsOf, List.mem_flatten] at h
  obtain ⟨l, hl, ht⟩ := h
  obtain ⟨s, hs, rfl⟩ := List.mem_mapIdx.mp hl
  simp only [List.mem_map] at ht
  obtain ⟨i, _, rfl⟩ := ht
  refine ⟨s, (rw.zip lists)[s].1, i, ?_, rfl⟩
  have : (rw.zip lists)[s]? = some (rw.zip lists)[s] := List.getElem?_eq_getElem hs
  exact (List.getElem?_zip_eq_some.mp this).1

/-- the two `ref_mpi_allconcat`s at the head of stage 1 / stage 3 cannot fail, and every rank then sees `targetsOf` -/
theorem targets_ok (rw : World (RecvR α)) (lists : World (List Nat)) :
    ∃ xyzs nodes, concatItems (β := α) RefType.dbl 3 ((rw.zip lists).map xyzItems) = .ok xyzs ∧
      concatItems RefType.int 1 ((rw.zip lists).map nodeItems) = .ok nodes ∧
      ((nodes.zip xyzs).map fun q => zipTargets q.1.1 q.1.2 q.2.2) = (rw.zip lists).map fun _ => targetsOf rw lists :=
  ⟨_, _, concatItems_ok RefType.dbl rfl 3 _ (by simp only [List.forall_mem_map, xyzItems]; intros; rfl),
    concatItems_ok RefType.int rfl 1 _ (by simp only [List.forall_mem_map, nodeItems]; intros; rfl),
    by simp only [List.map_map, List.zip_map', Function.comp_def, zipTargets_spec]⟩

/-- the record rank `r` receives for a target of the list is about a vertex `i` of its own: node `i`, the position of `i`
    (the target list is `(rw.zip lists).map …`, so the receiver's view exists because a target names it) -/
theorem record_target {rw : World (RecvR α)} {lists : World (List Nat)} {r : Nat} {y : Located α} (hyd : y.dest = r)
    {t : Int × Int × V3 α} (ht : t ∈ targetsOf rw lists) (hd : y.dest = t.1.toNat) (hnode : y.node = t.2.1) :
    ∃ (rc : RecvR α) (i : Nat), rw[r]? = some rc ∧ y.node = (i : Int) ∧ t.2.2 = rc.pt i := by
  obtain ⟨s, rcs, i, hrcs, rfl⟩ := mem_targetsOf ht
  simp only [Int.toNat_natCast] at hd
  rw [hyd] at hd
  subst hd
  exact ⟨rcs, i, hrcs, hnode, rfl⟩

/-- `GoodX` on every rank, with the node clause `PW rank stage i cell part slots` -/
def GoodWX (PW : Nat → Nat → Nat → Int → Int → Slots α → Prop) (QA : AgentP α → Prop) (w : World (RankSt α)) : Prop :=
  ∀ r st, w[r]? = some st → GoodX (PW r) QA st

/-- a step that every rank takes on its own state (and its own entry of `aux`) -/
theorem perRank {β σ τ : Type} {I : Nat → σ → Prop} {J : Nat → τ → Prop} {aux : List β} {w : List σ} {w' : List τ}
    {f : Nat → β × σ → Except ISt τ} (h : collect ((aux.zip w).mapIdx f) = .ok w') (hw : ∀ r s, w[r]? = some s → I r s)
    (hf : ∀ {r b s t}, aux[r]? = some b → I r s → f r (b, s) = .ok t → J r t) : ∀ r t, w'[r]? = some t → J r t := by
  intro r t ht
  obtain ⟨b, s, hb, hs, hft⟩ := getElem?_mapIdx_zip (collect_getElem? h ht)
  exact hf hb (hw r s hs) hft

/-- what a node clause `PW` (by rank) and an agent clause `QA` must satisfy for `ref_interp_locate` on the donor world `dw`
    and the receptor world `rw` to keep `GoodX` on every rank -/
structure LocateClauses (dw : World (DonorR α)) (rw : World (RecvR α))
    (PW : Nat → Nat → Nat → Int → Int → Slots α → Prop) (QA : AgentP α → Prop) : Prop where
  hire : ∀ {r : Nat} {rc : RecvR α}, rw[r]? = some rc → Hires r rc QA
  walk : ∀ {r : Nat} {dr : DonorR α}, dw[r]? = some dr → ∀ (a a' : AgentP α) (rnd rnd' : Nat) (e : ISt), QA a →
    walkAgentP r dr a rnd = (e, a', rnd') → a.mode = AMode.walking → a.part = (r : Int) → QA a'
  hop : ∀ (a : AgentP α) (seed' : Int), QA a → a.mode = AMode.hopPart → QA { a with mode := AMode.walking, seed := seed' }
  arrive : ∀ {r : Nat} {rc : RecvR α}, rw[r]? = some rc → ∀ (a : AgentP α) (node : Nat), QA a → a.mode = AMode.suggestion →
    a.home = (r : Int) → localOf rc.glob a.glob = some node →
    QA { a with mode := AMode.walking, node := (node : Int), glob := refEmpty }
  enclose : ∀ {r : Nat} {rc : RecvR α}, rw[r]? = some rc → ∀ a : AgentP α, QA a → a.mode = AMode.enclosing →
    a.home = (r : Int) → PW r 2 a.node.toNat a.seed a.part a.bary
  /-- a seed record of stage 1 that passes the acceptance test: sent by rank `r2` for vertex `i` of rank `r` -/
  seed : ∀ {r2 : Nat} {dr : DonorR α} {r : Nat} {rc : RecvR α}, dw[r2]? = some dr → rw[r]? = some rc →
    ∀ (i : Nat) (c : Int) (n : CellN) (b : B4 α), dr.d.cellAt c = some n →
    Refine.Model.Interp.baryOf dr.d n (rc.pt i) = (St.ok, b) →
    geomAccept (storeBary dr.d.twod Slots.unwritten b) = true →
    PW r 1 i c (r2 : Int) (storeBary dr.d.twod Slots.unwritten b)
  /-- a record of stage 3 that carries a cell -/
  tree : ∀ {r2 : Nat} {dr : DonorR α} {r : Nat} {rc : RecvR α}, dw[r2]? = some dr → rw[r]? = some rc →
    ∀ (i : Nat) (c : Int) (n : CellN) (b : B4 α), dr.d.cellAt c = some n →
    Refine.Model.Interp.baryOf dr.d n (rc.pt i) = (St.ok, b) →
    PW r 3 i c (r2 : Int) (storeBary dr.d.twod Slots.unwritten b)
  /-- the "no candidate" branch of stage 3 overwrites cell and part of a node whose cell is `REF_EMPTY` -/
  empty : ∀ r sg i p s c' p', PW r sg i refEmpty p s → PW r sg i c' p' s

variable {dw : World (DonorR α)} {rw : World (RecvR α)} {PW : Nat → Nat → Nat → Int → Int → Slots α → Prop}
  {QA : AgentP α → Prop} {w w' : World (RankSt α)}

omit [Scalar α] in
theorem GoodWX.map (hg : GoodWX PW QA w) (f : RankSt α → RankSt α)
    (hf : ∀ r st, GoodX (PW r) QA st → GoodX (PW r) QA (f st)) : GoodWX PW QA (w.map f) := by
  intro r st' hst'
  rw [List.getElem?_map] at hst'
  simp only [Option.map_eq_some_iff] at hst'
  obtain ⟨st1, hst1, rfl⟩ := hst'
  exact hf r st1 (hg r st1 hst1)

theorem goodWX_geomStage (C : LocateClauses dw rw PW QA) (hg : GoodWX PW QA w) (h : geomStage dw rw w = .ok w') :
    GoodWX PW QA w' := by
  unfold geomStage at h
  simp only at h
  obtain ⟨xyzs, nodes, hx, hn, ht⟩ := targets_ok rw (rw.map (·.geom))
  simp only [hx, hn, bind_ok, ht] at h
  obtain ⟨sends, hsends, h⟩ := bind_eq_ok.mp h
  obtain ⟨recvs, hrecvs, h⟩ := bind_eq_ok.mp h
  obtain ⟨w1, hw1, h⟩ := bind_eq_ok.mp h
  simp only [pure, Except.pure, Except.ok.injEq] at h
  subst h
  refine GoodWX.map ?_ _ fun _ _ h => ⟨h.nodes, h.agents⟩
  intro r st1 hst1
  obtain ⟨rc, q, hrc, hq, hrecv⟩ := getElem?_mapIdx_zip (collect_getElem? hw1 hst1)
  obtain ⟨hqw, hqr⟩ := List.getElem?_zip_eq_some.mp hq
  refine goodX_geomRecv r rc (C.hire hrc) q.2 q.1 st1 (hg r q.1 hqw) ?_ hrecv
  intro it hit hacc
  -- the record was sent to `r` by some rank `r2`, for a target of the list
  obtain ⟨r2, l0, y, hs2, hy, hyd, rfl⟩ := exchangeLocated_mem hrecvs hqr hit
  obtain ⟨dr, q2, hdr, hq2, hgs⟩ := getElem?_mapIdx_zip (collect_getElem? hsends hs2)
  rw [getElem?_const_map (List.getElem?_zip_eq_some.mp hq2).1] at hgs
  obtain ⟨t, ht, hd, hnode, hproc, n, b, hcn, hbo, hbary⟩ := geomSends_rec r2 dr _ _ _ l0 hgs y hy
  obtain ⟨rc', i, hrc', hi, hpt⟩ := record_target hyd ht hd hnode
  cases hrc.symm.trans hrc'
  simp only at hacc ⊢
  rw [hbary] at hacc
  rw [hi, Int.toNat_natCast, hproc, hbary]
  exact C.seed hdr hrc i y.cell n b hcn (hpt ▸ hbo) hacc

theorem goodWX_sweep (C : LocateClauses dw rw PW QA) (hg : GoodWX PW QA w) (h : sweep dw rw w = .ok w') : GoodWX PW QA w' := by
  unfold sweep at h
  obtain ⟨w1, hw1, h⟩ := bind_eq_ok.mp h
  obtain ⟨ags, hags, h⟩ := bind_eq_ok.mp h
  simp only at h
  obtain ⟨w3, hw3, h⟩ := bind_eq_ok.mp h
  obtain ⟨w4, hw4, h⟩ := bind_eq_ok.mp h
  obtain ⟨w5, hw5, h⟩ := bind_eq_ok.mp h
  have g1 : GoodWX PW QA w1 := perRank hw1 hg fun hdr hs hwk => goodX_walkAll hs (C.walk hdr) hwk
  -- migration: the per-node data are untouched, no agent is invented
  have g2 : GoodWX PW QA ((w1.zip ags).map fun q => { q.1 with ag := q.2 }) := by
    intro r st hst
    obtain ⟨st1, ag, hst1, hag, rfl⟩ := getElem?_map_zip hst
    refine ⟨(g1 r st1 hst1).nodes, migrate_agentsOK (fun a ha => ?_) hags ag (List.mem_of_getElem? hag)⟩
    obtain ⟨st0, hst0, rfl⟩ := List.mem_map.mp ha
    obtain ⟨r0, hr0⟩ := List.mem_iff_getElem?.mp hst0
    exact (g1 r0 st0 hr0).agents
  have g3 : GoodWX PW QA w3 := perRank hw3 g2 fun _ hs hwk => goodX_hopArrive hs C.hop hwk
  have g4 : GoodWX PW QA w4 := perRank hw4 g3 fun hrc hs hwk => goodX_suggestionArrive hs (C.arrive hrc) hwk
  have g5 : GoodWX PW QA w5 := perRank hw5 g4 fun _ hs hwk => goodX_giveUp hs hwk
  exact perRank h g5 fun hrc hs hwk => goodX_enclose hs (C.hire hrc) (C.enclose hrc) hwk

/-- the `while (n_agents > 0)` loop keeps whatever one sweep keeps -/
theorem sweeps_inv {dw : World (DonorR α)} {rw : World (RecvR α)} (I : World (RankSt α) → Prop)
    (hstep : ∀ w w', I w → sweep dw rw w = .ok w' → I w') (fuel : Nat) (w w' : World (RankSt α)) (hg : I w)
    (h : sweeps dw rw fuel w = .ok w') : I w' := by
  fun_induction sweeps dw rw fuel w with
  | case1 | case3 => cases h; exact hg                             -- no agent left
  | case2 | case5 => cases h                                      -- sweep limit, or a sweep fails
  | case4 fuel w _ w1 hs ih => exact ih (hstep w w1 hg hs) h      -- one sweep, then on

theorem goodWX_processAgents (C : LocateClauses dw rw PW QA) (hg : GoodWX PW QA w) (h : processAgents dw rw w = .ok w') :
    GoodWX PW QA w' := by
  unfold processAgents at h
  obtain ⟨w1, hw1, h⟩ := bind_eq_ok.mp h
  simp only at h
  split at h
  · cases h
  · simp only [pure, Except.pure, Except.ok.injEq] at h
    subst h
    exact GoodWX.map (sweeps_inv _ (fun _ _ hg hs => goodWX_sweep C hg hs) _ _ _ hg hw1) _ fun _ _ h => ⟨h.nodes, h.agents⟩

theorem goodWX_treeStage {ss : World (Refine.Model.Search.Search α)} {fuzz : α} {inc : Bool} (C : LocateClauses dw rw PW QA)
    (hg : GoodWX PW QA w) (h : treeStage dw ss rw fuzz w = .ok (w', inc)) : GoodWX PW QA w' := by
  unfold treeStage at h
  simp only at h
  obtain ⟨xyzs, nodes, hx, hn, ht⟩ := targets_ok rw ((rw.zip w).mapIdx fun r q => treeTargets r q.1 q.2)
  simp only [hx, hn, bind_ok, ht] at h
  obtain ⟨props, hprops, h⟩ := bind_eq_ok.mp h
  obtain ⟨sends, hsends, h⟩ := bind_eq_ok.mp h
  obtain ⟨recvs, hrecvs, h⟩ := bind_eq_ok.mp h
  obtain ⟨w2, hw2, h⟩ := bind_eq_ok.mp h
  have key : GoodWX PW QA w2 := by
    intro r st2 hst2
    obtain ⟨st1, items, hst1, hitems, hrecv⟩ := getElem?_map_zip (collect_getElem? hw2 hst2)
    obtain ⟨st0, pr, hst0, _, rfl⟩ := getElem?_map_zip hst1
    have hg0 := hg r st0 hst0
    simp only at hrecv
    refine goodX_treeRecv (C.empty r) items _ st2 ?_ ?_ hrecv
    · exact ⟨hg0.nodes, hg0.agents⟩
    intro it hit hcne
    obtain ⟨r2, l0, y, hl0, hy, hyd, rfl⟩ := exchangeLocated_mem hrecvs hitems hit
    rw [List.getElem?_map] at hl0
    simp only [Option.map_eq_some_iff] at hl0
    obtain ⟨sd, hs2, rfl⟩ := hl0
    obtain ⟨dr, q2, hdr, hq2, hgs⟩ := getElem?_mapIdx_zip (collect_getElem? hsends hs2)
    rw [getElem?_const_map (List.getElem?_zip_eq_some.mp hq2).1] at hgs
    obtain ⟨t, ht, hd, hnode, hproc, n, b, hcn, hbo, hbary⟩ := treeSends_rec r2 dr _ _ _ sd.1 sd.2 hgs y hy hcne
    obtain ⟨rcs, i, hrcs, hi, hpt⟩ := record_target hyd ht hd hnode
    simp only at hcne ⊢
    rw [hi, Int.toNat_natCast, hproc, hbary]
    exact C.tree hdr hrcs i y.cell n b hcn (hpt ▸ hbo)
  have hgoal : GoodWX PW QA (w2.map fun st => { st with nTree := sumAll (w2.map (·.nTree)) }) :=
    GoodWX.map key _ fun _ _ h => ⟨h.nodes, h.agents⟩
  split at h
  · cases h
  · simp only [pure, Except.pure, Except.ok.injEq, Prod.mk.injEq] at h
    obtain ⟨rfl, _⟩ := h
    exact hgoal

/-- the `fuzz *= 10` retry loop keeps whatever one `ref_interp_tree` keeps -/
theorem treeLoop_inv {dw : World (DonorR α)} {ss : World (Refine.Model.Search.Search α)} {rw : World (RecvR α)}
    (I : World (RankSt α) → Prop)
    (hstep : ∀ fuzz w w' inc, I w → treeStage dw ss rw fuzz w = .ok (w', inc) → I w')
    (k : Nat) (inc : Bool) (fuzz fuzz' : α) (w w' : World (RankSt α)) (hg : I w)
    (h : treeLoop dw ss rw k inc fuzz w = .ok (w', fuzz')) : I w' := by
  fun_induction treeLoop dw ss rw k inc fuzz w with
  | case1 | case3 => cases h                                      -- out of tries with targets left, or a try fails
  | case2 => cases h; exact hg                                    -- out of tries, nothing left to do
  | case4 k inc fuzz w fuzz1 w1 hts ih => exact ih (hstep _ _ _ _ hg hts) h   -- a target without candidate: again, larger fuzz
  -- every target answered
  | case5 k inc fuzz w fuzz1 w1 inc1 hts hi => exact (Prod.mk.inj (Except.ok.inj h)).1 ▸ hstep _ _ _ _ hg hts

theorem goodWX_locate {ss : World (Refine.Model.Search.Search α)} {fuzz fuzz' : α} (C : LocateClauses dw rw PW QA)
    (hg : GoodWX PW QA w) (h : locate dw ss rw fuzz w = .ok (w', fuzz')) : GoodWX PW QA w' := by
  unfold locate at h
  obtain ⟨w1, hw1, h⟩ := bind_eq_ok.mp h
  obtain ⟨w2, hw2, h⟩ := bind_eq_ok.mp h
  exact treeLoop_inv _ (fun _ _ _ _ hg hts => goodWX_treeStage C hg hts) _ _ _ _ _ _
    (goodWX_processAgents C (goodWX_geomStage C hg hw1) hw2) h

omit [Scalar α] in
theorem goodWX_create (seeds : List (Nat × Nat)) :
    GoodWX PW QA (seeds.map fun q => (RankSt.create q.1 q.2 : RankSt α)) := by
  intro r st hst
  rw [List.getElem?_map] at hst
  simp only [Option.map_eq_some_iff] at hst
  obtain ⟨q, _, rfl⟩ := hst
  refine ⟨⟨by simp [RankSt.create], by simp [RankSt.create], by simp [RankSt.create], fun i hi => ?_⟩, fun p hp => ?_⟩
  · have hs : (List.replicate q.1 0).getD i 0 = 0 := by
      simp only [List.getD_eq_getElem?_getD, List.getElem?_replicate]
      split <;> rfl
    exact absurd hs hi
  · simp [RankSt.create, Agents.create] at hp

/-- `Good P P3`: what the senders store satisfies `P` (stages 1, 2) resp. `P3` (stage 3) -/
theorem clauses_good {P P3 : Slots α → Prop}
    (hgeom : ∀ dr ∈ dw, ∀ b, geomAccept (storeBary dr.d.twod Slots.unwritten b) = true →
      P (storeBary dr.d.twod Slots.unwritten b))
    (hwalk : ∀ dr ∈ dw, ∀ b, walkInside b = true → P (storeBary dr.d.twod Slots.unwritten b))
    (htree : ∀ dr ∈ dw, ∀ b, P3 (storeBary dr.d.twod Slots.unwritten b)) :
    LocateClauses dw rw (fun _ => nodeClause P P3) (agentClause P) where
  hire _ _ _ _ := ⟨agentClause_of_ne (by simp [mkWalker]), agentClause_of_ne (by simp [mkSuggestion])⟩
  walk {r dr} hdr a a' rnd rnd' e _ hwk hm _ he := by
    unfold walkAgentP at hwk
    obtain ⟨-, -, -, -, henc⟩ := walkLoopP_spec r dr _ a a' rnd rnd' e hwk (by rw [hm]; simp) (by rw [hm]; simp)
    obtain ⟨_, _, n, b, _, _, hin, hb⟩ := henc he
    exact hb ▸ hwalk _ (List.mem_of_getElem? hdr) b hin
  hop _ _ _ _ := agentClause_of_ne (by simp)
  arrive _ _ _ _ _ _ _ := agentClause_of_ne (by simp)
  enclose _ a ha hm _ := nodeClause_one_two (.inr rfl) (ha hm)
  seed hdr _ _ _ _ b _ _ hacc := nodeClause_one_two (.inl rfl) (hgeom _ (List.mem_of_getElem? hdr) b hacc)
  tree hdr _ _ _ _ b _ _ := nodeClause_three (htree _ (List.mem_of_getElem? hdr) b)
  empty _ _ _ _ _ _ _ h := h

end Refine.Lemmas.InterpLocate
