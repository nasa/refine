import Refine.Lemmas.ContainersSort
import Mathlib.Order.Defs.LinearOrder
import Mathlib.Data.Int.Order.Basic

/-!
  `ref_sort.c`: `ref_sort_shuffle` (a permutation of `0..n-1` for every `rand()` stream) and `ref_sort_search_dbl` over a linear
  order.  The bisection of `ref_sort_search_dbl` needs no sortedness: totality of the order is what makes it end on an interval
  `a[p] ≤ t < a[p+1]` (`searchDbl_spec_any`); sortedness makes that interval unique (`bracket_unique`).  With NaNs the order is
  not total and the C loop can run for ever (the examples at the end).
-/
namespace Refine.Model.Sort
open List

theorem shuffleLoop_perm (n c i : Nat) (rs p : List Nat) (hc : i + c = n - 1)
    (hp : p.Perm (List.range n)) : (shuffleLoop n c i rs p).Perm (List.range n) := by
  induction c generalizing i rs p with
  | zero => simpa only [shuffleLoop] using hp
  | succ c ih =>
    simp only [shuffleLoop]
    have hlen : p.length = n := by simpa using hp.length_eq
    apply ih (i + 1) rs.tail _ (by omega)
    refine (swapAt_perm 0 p _ i ?_ (by omega)).trans hp
    rw [hlen]
    exact Nat.max_lt.2 ⟨by omega, Nat.lt_of_le_of_lt (Nat.min_le_right _ _) (by omega)⟩

theorem shuffle_perm (n : Nat) (rands : List Nat) : (shuffle n rands).Perm (List.range n) :=
  shuffleLoop_perm n (n - 1) 0 rands (List.range n) (by omega) (Perm.refl _)

theorem shuffle_length (n : Nat) (rands : List Nat) : (shuffle n rands).length = n := by
  simpa using (shuffle_perm n rands).length_eq

theorem mem_shuffle (n : Nat) (rands : List Nat) (k : Nat) : k ∈ shuffle n rands ↔ k < n := by
  rw [(shuffle_perm n rands).mem_iff, List.mem_range]

theorem shuffle_nodup (n : Nat) (rands : List Nat) : (shuffle n rands).Nodup :=
  (shuffle_perm n rands).nodup_iff.2 List.nodup_range

section dbl
variable {α : Type} [LinearOrder α] [Inhabited α]

/-- `x <= y` of the C, as a Boolean -/
def leB (x y : α) : Bool := decide (x ≤ y)
/-- `x < y` of the C, as a Boolean -/
def ltB (x y : α) : Bool := decide (x < y)

omit [Inhabited α] in
theorem leB_eq : (leB : α → α → Bool) = fun x y => decide (x ≤ y) := rfl
omit [Inhabited α] in
theorem ltB_eq : (ltB : α → α → Bool) = fun x y => decide (x < y) := rfl

theorem brackets_iff (a : List α) (t : α) (k : Nat) :
    brackets leB ltB a t k = true ↔ a.getD k default ≤ t ∧ t < a.getD (k + 1) default := by
  simp only [brackets, leB, ltB, Bool.and_eq_true, decide_eq_true_eq]

/-- loop invariant of `while (lower < upper)`: `a[lower] <= t`, `t < a[upper]` or `t < a[upper+1]`,
    `mid` is the midpoint, and `upper - lower` iterations of fuel are enough.  No sortedness is
    needed: totality of the order is what makes the bisection terminate with a bracketing interval. -/
theorem searchDblLoop_spec (a : List α) (t : α)
    (fuel lo up mid : Nat) (hlu : lo < up) (hup : up + 1 < a.length)
    (hlo : a.getD lo default ≤ t)
    (hupv : t < a.getD up default ∨ t < a.getD (up + 1) default)
    (hmid : mid = (lo + up) / 2) (hfuel : up ≤ lo + fuel) :
    ∃ p : Nat, searchDblLoop leB ltB a t fuel lo up mid = some (Status.ok, (p : Int)) ∧
      p + 1 < a.length ∧ brackets leB ltB a t p = true := by
  induction fuel generalizing lo up mid with
  | zero => omega
  | succ f ih =>
    simp only [searchDblLoop, Nat.shiftRight_eq_div_pow, Nat.pow_one]
    rw [if_pos hlu]
    by_cases hbl : brackets leB ltB a t lo = true
    · rw [if_pos hbl]; exact ⟨lo, rfl, by omega, hbl⟩
    rw [if_neg hbl]
    by_cases hbu : brackets leB ltB a t up = true
    · rw [if_pos hbu]; exact ⟨up, rfl, hup, hbu⟩
    rw [if_neg hbu]
    by_cases hbm : brackets leB ltB a t mid = true
    · rw [if_pos hbm]; exact ⟨mid, rfl, by omega, hbm⟩
    rw [if_neg hbm]
    -- the interval has at least three points, otherwise `lower` or `upper` brackets the target
    have hgap : lo + 1 < up := by
      by_contra hc
      have hul : up = lo + 1 := by omega
      rw [brackets_iff] at hbl hbu
      rw [hul] at hupv hbu
      rcases hupv with h | h
      · exact hbl ⟨hlo, h⟩
      · exact hbu ⟨not_lt.1 fun hlt => hbl ⟨hlo, hlt⟩, h⟩
    by_cases hle : a.getD mid default ≤ t
    · rw [leB, if_pos (decide_eq_true hle)]
      exact ih mid up _ (by omega) hup hle hupv rfl (by omega)
    · rw [leB, if_neg (by rwa [decide_eq_true_eq])]
      exact ih lo mid _ (by omega) (by omega) hlo (Or.inl (not_le.1 hle)) rfl (by omega)

/-- `ref_sort_search_dbl` over a linear order, for ANY list (sorted or not): the loop terminates
    (never `none`), the status is never `REF_FAILURE`, and the returned position `p` satisfies
    `a[p] <= t < a[p+1]` (clamped to the first / last interval outside `(a[0], a[n-1])`). -/
theorem searchDbl_spec_any (a : List α) (t : α) :
    (a.length = 0 → searchDbl leB ltB a t = some (Status.not_found, EMPTY)) ∧
    (a.length = 1 → searchDbl leB ltB a t = some (Status.ok, 0)) ∧
    (2 ≤ a.length → t ≤ a.getD 0 default → searchDbl leB ltB a t = some (Status.ok, 0)) ∧
    (2 ≤ a.length → ¬ t ≤ a.getD 0 default → a.getD (a.length - 1) default ≤ t →
        searchDbl leB ltB a t = some (Status.ok, ((a.length - 2 : Nat) : Int))) ∧
    (2 ≤ a.length → a.getD 0 default < t → t < a.getD (a.length - 1) default →
        ∃ p : Nat, searchDbl leB ltB a t = some (Status.ok, (p : Int)) ∧ p + 1 < a.length ∧
          a.getD p default ≤ t ∧ t < a.getD (p + 1) default) := by
  simp only [searchDbl, leB, decide_eq_true_eq, Nat.zero_add, Nat.shiftRight_eq_div_pow, Nat.pow_one]
  refine ⟨fun h => ?_, fun h => ?_, fun h h0 => ?_, fun h h0 h1 => ?_, fun h h0 h1 => ?_⟩
  · rw [if_pos (by omega)]
  · rw [if_neg (by omega), if_pos h]
  · rw [if_neg (by omega), if_neg (by omega), if_pos h0]
  · rw [if_neg (by omega), if_neg (by omega), if_neg h0, if_pos h1]
  · rw [if_neg (by omega), if_neg (by omega), if_neg (not_le.2 h0), if_neg (not_le.2 h1)]
    simp only [← brackets_iff]
    by_cases hbm : brackets leB ltB a t ((a.length - 2) / 2) = true
    · rw [if_pos hbm]; exact ⟨(a.length - 2) / 2, rfl, by omega, hbm⟩
    rw [if_neg hbm]
    have h3 : 0 < a.length - 2 := by
      by_contra hc
      rw [show a.length - 2 = 0 by omega, Nat.zero_div, brackets_iff] at hbm
      rw [show a.length - 1 = 0 + 1 by omega] at h1
      exact hbm ⟨le_of_lt h0, h1⟩
    refine searchDblLoop_spec a t (2 * a.length) 0 (a.length - 2) _ h3 (by omega) (le_of_lt h0)
      (Or.inr ?_) (by rw [Nat.zero_add]) (by omega)
    rwa [show a.length - 2 + 1 = a.length - 1 by omega]

/-- in a non-decreasing list the bracketing interval `a[p] <= t < a[p+1]` is unique, so the position
    returned by `searchDbl_spec_any` in the interior case is THE interval holding the target -/
theorem bracket_unique (a : List α) (hs : a.Pairwise (· ≤ ·)) (t : α) (p q : Nat)
    (hp : p + 1 < a.length) (hq : q + 1 < a.length)
    (hp1 : a.getD p default ≤ t) (hp2 : t < a.getD (p + 1) default)
    (hq1 : a.getD q default ≤ t) (hq2 : t < a.getD (q + 1) default) : p = q := by
  have key : ∀ x y : Nat, y + 1 < a.length → x < y → t < a.getD (x + 1) default →
      a.getD y default ≤ t → False := fun x y hy hxy h1 h2 =>
    lt_irrefl _ (lt_of_lt_of_le h1 (le_trans (getD_rel_of_pairwise hs le_refl default hxy (by omega)) h2))
  rcases Nat.lt_trichotomy p q with h | h | h
  · exact (key p q hq h hp2 hq1).elim
  · exact h
  · exact (key q p hp h hq2 hp1).elim

set_option linter.unusedVariables false in
/-- `searchDbl_spec_any` with the comparisons spelled out as `decide` lambdas; `hs` is not used -/
theorem searchDbl_spec' (a : List α) (hs : a.Pairwise (· ≤ ·)) (t : α) :
    (a.length = 0 → searchDbl (fun x y : α => decide (x ≤ y)) (fun x y : α => decide (x < y)) a t
        = some (Status.not_found, EMPTY)) ∧
    (a.length = 1 → searchDbl (fun x y : α => decide (x ≤ y)) (fun x y : α => decide (x < y)) a t
        = some (Status.ok, 0)) ∧
    (2 ≤ a.length → t ≤ a.getD 0 default →
        searchDbl (fun x y : α => decide (x ≤ y)) (fun x y : α => decide (x < y)) a t
        = some (Status.ok, 0)) ∧
    (2 ≤ a.length → ¬ t ≤ a.getD 0 default → a.getD (a.length - 1) default ≤ t →
        searchDbl (fun x y : α => decide (x ≤ y)) (fun x y : α => decide (x < y)) a t
        = some (Status.ok, ((a.length - 2 : Nat) : Int))) ∧
    (2 ≤ a.length → a.getD 0 default < t → t < a.getD (a.length - 1) default →
        ∃ p : Nat, searchDbl (fun x y : α => decide (x ≤ y)) (fun x y : α => decide (x < y)) a t
          = some (Status.ok, (p : Int)) ∧ p + 1 < a.length ∧
          a.getD p default ≤ t ∧ t < a.getD (p + 1) default) :=
  searchDbl_spec_any a t

set_option linter.unusedVariables false in
/-- the search always terminates with `REF_SUCCESS` (or `REF_NOT_FOUND` for `n = 0`); in particular never `none`
    (non-termination) and never `REF_FAILURE`.  Stated for the sorted input the C expects; `hs` is not used. -/
theorem searchDbl_total (a : List α) (hs : a.Pairwise (· ≤ ·)) (t : α) :
    ∃ st pos, searchDbl leB ltB a t = some (st, pos) ∧ st ≠ Status.failure := by
  obtain ⟨h0, h1, h2, h3, h4⟩ := searchDbl_spec_any a t
  by_cases hn0 : a.length = 0
  · exact ⟨_, _, h0 hn0, by decide⟩
  by_cases hn1 : a.length = 1
  · exact ⟨_, _, h1 hn1, by decide⟩
  have hn : 2 ≤ a.length := by omega
  by_cases c0 : t ≤ a.getD 0 default
  · exact ⟨_, _, h2 hn c0, by decide⟩
  by_cases c1 : a.getD (a.length - 1) default ≤ t
  · exact ⟨_, _, h3 hn c0 c1, by decide⟩
  obtain ⟨p, hp, -⟩ := h4 hn (not_le.1 c0) (not_le.1 c1)
  exact ⟨_, _, hp, by decide⟩

end dbl

example : shuffle 5 [3, 7, 100, 2] = [3, 4, 0, 2, 1] := by decide +kernel
example : shuffle 0 [] = [] := by decide +kernel
example : shuffle 1 [5] = [0] := by decide +kernel

example : searchDbl (fun x y : Int => decide (x ≤ y)) (fun x y : Int => decide (x < y))
    [0, 10, 20] 15 = some (Status.ok, 1) := by decide +kernel
example : searchDbl (leB : Int → Int → Bool) ltB [0, 10, 20] 15 = some (Status.ok, 1) := by decide +kernel
example : searchDbl (leB : Int → Int → Bool) ltB [0, 10, 20, 30, 40, 50] 45 = some (Status.ok, 4) := by
  decide +kernel
example : searchDbl (leB : Int → Int → Bool) ltB [0, 10, 20] 25 = some (Status.ok, 1) := by decide +kernel
example : searchDbl (leB : Int → Int → Bool) ltB [0, 10, 20] (-5) = some (Status.ok, 0) := by decide +kernel
example : searchDbl (leB : Nat → Nat → Bool) ltB [] 3 = some (Status.not_found, EMPTY) := by decide +kernel
/-- in a linear order the search succeeds on unsorted lists too (`searchDbl_spec_any`) -/
example : searchDbl (leB : Int → Int → Bool) ltB [0, 50, 1, 60, 1, 70, 1, 80, 1, 90, 40] 20
    = some (Status.ok, 4) := by decide +kernel

/-- IEEE-like comparisons on `Option Int` with `none` playing NaN: every comparison with NaN is false -/
def leNaN : Option Int → Option Int → Bool
  | some x, some y => decide (x ≤ y)
  | _, _ => false
def ltNaN : Option Int → Option Int → Bool
  | some x, some y => decide (x < y)
  | _, _ => false

/-- totality of the order is what the theorems use: with a NaN as last element the `while` loop of the
    C never terminates (`lower = mid = 0`, `upper = 1` for ever), which the model reports as `none` -/
example : searchDbl leNaN ltNaN [some 0, some 1, none] (some 5) = none := by decide +kernel
/-- and with a NaN target the C returns `REF_FAILURE` -/
example : searchDbl leNaN ltNaN [some 0, some 1, some 2] none = some (Status.failure, EMPTY) := by
  decide +kernel

end Refine.Model.Sort
