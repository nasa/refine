import Refine.Model.ContainersAdj
import Refine.Lemmas.ListFacts
import Refine.Lemmas.FreeChain
import Mathlib.Data.List.Basic
import Mathlib.Data.List.Nodup
import Mathlib.Data.List.Perm.Subperm
import Mathlib.Data.List.Range

/-!
  `ref_adj.c`.  The invariant `Inv` is witness based: a list `B` of the blank items and for each node `v` a list `C v` of its items,
  both in chain order, which together partition `[0, nitem)`.  Chains are the inductive predicate `IsChain`, so the fuel of `walk`
  is reasoned about once (`IsChain.walk_eq`).  Every operation is then a statement about what it does to `B` and `C`:
  `link` moves the head of `B` to the front of `C n`, `release` moves an item of `C n` to the front of `B`.
-/

namespace Refine.Model.RAdj

theorem natCast_ne_EMPTY (i : Nat) : (i : Int) ≠ EMPTY := by unfold EMPTY; omega

/-- `IsChain next start l`: following `next` from `start` visits exactly the items `l`
    (all in range) and then reaches `EMPTY`. -/
inductive IsChain (next : List Int) : Int → List Nat → Prop
  | nil : IsChain next EMPTY []
  | cons {i : Nat} {l : List Nat} : i < next.length → IsChain next (next.getD i EMPTY) l →
      IsChain next (i : Int) (i :: l)

/-- `IsChain` is the generic chain of `Refine.FreeChain` read off `next`: the link of item `i` is `next[i]`, every item
    counts as free, item `i` is written `i`; what `FreeChain` proves by induction on a chain comes through this equivalence. -/
theorem isChain_iff {next : List Int} {st : Int} {l : List Nat} :
    IsChain next st l ↔
      FreeChain.Chain next.length (fun i => next.getD i EMPTY) (fun _ => True) (fun i => (i : Int)) st l := by
  constructor
  · intro h
    induction h with
    | nil => exact .nil
    | cons hi _ ih => exact .cons hi trivial ih
  · intro h
    induction h with
    | nil => exact .nil
    | cons hi _ _ ih => exact .cons hi ih

theorem IsChain.of_empty {next : List Int} {l : List Nat} (h : IsChain next EMPTY l) : l = [] := by
  generalize hs : EMPTY = st at h
  cases h with
  | nil => rfl
  | cons _ _ => exact absurd hs.symm (natCast_ne_EMPTY _)

theorem IsChain.of_cons {next : List Int} {st : Int} {i : Nat} {l : List Nat}
    (h : IsChain next st (i :: l)) :
    st = (i : Int) ∧ i < next.length ∧ IsChain next (next.getD i EMPTY) l := by
  cases h with
  | cons hj hl => exact ⟨rfl, hj, hl⟩

theorem IsChain.of_nil {next : List Int} {st : Int} (h : IsChain next st []) : st = EMPTY := by
  cases h with
  | nil => rfl

theorem IsChain.lt {next : List Int} {st : Int} {l : List Nat} (h : IsChain next st l) :
    ∀ k ∈ l, k < next.length := fun k hk => ((isChain_iff.1 h).lt k hk).1

theorem IsChain.unique {next : List Int} {st : Int} {l₁ l₂ : List Nat} (h₁ : IsChain next st l₁)
    (h₂ : IsChain next st l₂) : l₁ = l₂ := by
  induction h₁ generalizing l₂ with
  | nil => exact h₂.of_empty.symm
  | cons _ _ ih =>
    cases l₂ with
    | nil => exact absurd h₂.of_nil (natCast_ne_EMPTY _)
    | cons j l' =>
      obtain ⟨hj, -, hl'⟩ := h₂.of_cons
      obtain rfl := Int.ofNat.inj hj
      rw [ih hl']

theorem IsChain.set {next : List Int} {st : Int} {l : List Nat} (h : IsChain next st l)
    {i : Nat} (x : Int) (hi : i ∉ l) : IsChain (next.set i x) st l :=
  isChain_iff.2 ((isChain_iff.1 h).congr (by rw [List.length_set]) fun j hj =>
    ⟨ListFacts.getD_set_ne _ _ _ (fun e => hi (e ▸ hj)), id⟩)

theorem IsChain.append {next : List Int} {st : Int} {l : List Nat} (h : IsChain next st l)
    (e : List Int) : IsChain (next ++ e) st l :=
  isChain_iff.2 ((isChain_iff.1 h).congr (by rw [List.length_append]; exact Nat.le_add_right _ _) fun j hj =>
    ⟨ListFacts.getD_append_left (h.lt j hj), id⟩)

theorem IsChain.walk_eq {next : List Int} {st : Int} {l : List Nat} (h : IsChain next st l) :
    ∀ fuel, l.length ≤ fuel → walk next fuel st = l.map (fun k : Nat => (k : Int)) := by
  induction h with
  | nil =>
    intro fuel _
    cases fuel <;> simp [walk]
  | @cons j l hj _ ih =>
    intro fuel hf
    cases fuel with
    | zero => simp at hf
    | succ f =>
      have hf' : l.length ≤ f := by simpa using hf
      simp only [walk, natCast_ne_EMPTY, if_false, Int.toNat_natCast, List.map_cons, ih f hf']

theorem walk_empty (next : List Int) (fuel : Nat) : walk next fuel EMPTY = [] := by
  cases fuel <;> simp [walk]

theorem getD_freshNext (next : List Int) (chunk k : Nat) (hk : k < chunk) :
    (next ++ freshNext next.length chunk).getD (next.length + k) EMPTY =
      if k + 1 = chunk then EMPTY else ((next.length + k + 1 : Nat) : Int) := by
  simp [List.getD_eq_getElem?_getD, freshNext, hk]

theorem isChain_fresh (next : List Int) (chunk : Nat) (hc : 0 < chunk) :
    IsChain (next ++ freshNext next.length chunk) (next.length : Int)
      (List.range' next.length chunk) := by
  refine isChain_iff.2 (FreeChain.Chain.run (a := next.length) (m := next.length + chunk) (by simp [freshNext])
    (fun j h1 h2 => ⟨trivial, ?_⟩) chunk next.length rfl (Nat.le_refl _) hc)
  obtain ⟨k, rfl⟩ := Nat.exists_eq_add_of_le h1
  rw [getD_freshNext next chunk k (by omega)]
  by_cases hk : k + 1 = chunk
  · rw [if_pos hk, if_pos (by omega)]; rfl
  · rw [if_neg hk, if_neg (by omega)]

/-! ### the invariant

  The clauses `nodupB`, `nodupC`, `disjBC`, `disjCC`, `cover` of `Wit` say one thing: the chains `B`, `C 0`, `C 1`, …
  partition `[0, nitem)`.  `Wit.perm_range` and its converse `wit_of_perm` are that reading; every `Wit` below whose
  lists change is built by `wit_of_perm`. -/

/-- `Wit s B C`: `B` lists the blank items and `C v` the items of node `v`, in chain order. -/
structure Wit (s : RAdj) (B : List Nat) (C : Nat → List Nat) : Prop where
  ref_len : s.ref.length = s.next.length
  nitem_le : s.next.length ≤ INT_MAX
  chainB : IsChain s.next s.blank B
  chainC : ∀ v, IsChain s.next (s.first.getD v EMPTY) (C v)
  nodupB : B.Nodup
  nodupC : ∀ v, (C v).Nodup
  disjBC : ∀ v, ∀ k ∈ B, k ∉ C v
  disjCC : ∀ v w, v ≠ w → ∀ k ∈ C v, k ∉ C w
  cover : ∀ k, k < s.next.length → k ∈ B ∨ ∃ v, k ∈ C v
  blank_ref : ∀ k ∈ B, s.ref.getD k EMPTY = EMPTY

/-- the structural invariant of `REF_ADJ` -/
def Inv (s : RAdj) : Prop := ∃ (B : List Nat) (C : Nat → List Nat), Wit s B C

variable {s : RAdj} {B : List Nat} {C : Nat → List Nat}

/-- only the nodes below `nnode` have items: beyond, `first[]` reads `EMPTY` -/
theorem IsChain.lt_nnode {first next : List Int} {v k : Nat} {l : List Nat} (h : IsChain next (first.getD v EMPTY) l)
    (hk : k ∈ l) : v < first.length := by
  by_contra hv
  rw [ListFacts.getD_eq_default (Nat.le_of_not_lt hv)] at h
  rw [h.of_empty] at hk
  exact List.not_mem_nil hk

theorem Wit.C_lt (w : Wit s B C) (v : Nat) : ∀ k ∈ C v, k < s.next.length := (w.chainC v).lt

theorem Wit.C_length (w : Wit s B C) (v : Nat) : (C v).length ≤ s.nitem :=
  ListFacts.length_le_of_nodup_lt (w.nodupC v) (w.C_lt v)

theorem Wit.B_length (w : Wit s B C) : B.length ≤ s.nitem :=
  ListFacts.length_le_of_nodup_lt w.nodupB w.chainB.lt

/-- the range check of the macro `ref_adj_first` only repeats the default of `getD` -/
theorem firstOf_nat (s : RAdj) (n : Nat) : s.firstOf (n : Int) = s.first.getD n EMPTY := by
  unfold firstOf nnode
  by_cases h : n < s.first.length
  · simp [h]
  · simp [h]

theorem firstOf_neg (s : RAdj) (node : Int) (h : node < 0) : s.firstOf node = EMPTY := by
  unfold firstOf
  rw [if_neg]
  omega

/-- the chain of node `n` starts at `firstOf n` (also for `n ≥ nnode`) -/
theorem Wit.chain_firstOf (w : Wit s B C) (n : Nat) : IsChain s.next (s.firstOf (n : Int)) (C n) := by
  rw [firstOf_nat]; exact w.chainC n

theorem Wit.walk_firstOf (w : Wit s B C) (n : Nat) (fuel : Nat) (hf : s.nitem ≤ fuel) :
    walk s.next fuel (s.firstOf (n : Int)) = (C n).map (fun k : Nat => (k : Int)) :=
  (w.chain_firstOf n).walk_eq fuel (Nat.le_trans (w.C_length n) hf)

theorem refsOf_neg (s : RAdj) (node : Int) (h : node < 0) : s.refsOf node = [] := by
  rw [refsOf, itemsOf, firstOf_neg s node h, walk_empty]; rfl

theorem refOf_nat (s : RAdj) (k : Nat) : s.refOf (k : Int) = s.ref.getD k EMPTY := by
  simp [refOf]

theorem Wit.refsOf_nat (w : Wit s B C) (n : Nat) :
    s.refsOf (n : Int) = (C n).map (fun k : Nat => s.ref.getD k EMPTY) := by
  rw [refsOf, itemsOf, w.walk_firstOf n s.nitem (Nat.le_refl _), List.map_map]
  apply List.map_congr_left
  intro k _
  simp [refOf]

theorem Wit.blankItems_eq (w : Wit s B C) :
    s.blankItems = B.map (fun k : Nat => (k : Int)) :=
  w.chainB.walk_eq s.nitem w.B_length

theorem Wit.perm_range (w : Wit s B C) :
    (B ++ ((List.range s.first.length).map C).flatten).Perm (List.range s.next.length) := by
  rw [List.perm_ext_iff_of_nodup ?_ List.nodup_range]
  · intro k
    rw [List.mem_range, List.mem_append, List.mem_flatten]
    constructor
    · rintro (hk | ⟨l, hl, hk⟩)
      · exact w.chainB.lt k hk
      · obtain ⟨v, -, rfl⟩ := List.mem_map.mp hl
        exact w.C_lt v k hk
    · intro hk
      rcases w.cover k hk with hB | ⟨v, hv⟩
      · exact Or.inl hB
      · exact Or.inr ⟨C v, List.mem_map.mpr ⟨v, List.mem_range.2 ((w.chainC v).lt_nnode hv), rfl⟩, hv⟩
  · rw [List.nodup_append, ListFacts.nodup_flatten_map_range]
    refine ⟨w.nodupB, ⟨fun v _ => w.nodupC v, fun v v' _ _ k hk hk' => by_contra fun hne => w.disjCC v v' hne k hk hk'⟩,
      fun a ha b hb hab => ?_⟩
    obtain ⟨l, hl, hbl⟩ := List.mem_flatten.mp hb
    obtain ⟨v, -, rfl⟩ := List.mem_map.mp hl
    exact w.disjBC v a ha (hab ▸ hbl)

/-- the converse of `Wit.perm_range` -/
theorem wit_of_perm (s : RAdj) (B : List Nat) (C : Nat → List Nat)
    (href : s.ref.length = s.next.length) (hle : s.next.length ≤ INT_MAX)
    (hB : IsChain s.next s.blank B) (hC : ∀ v, IsChain s.next (s.first.getD v EMPTY) (C v))
    (hblank : ∀ k ∈ B, s.ref.getD k EMPTY = EMPTY)
    (hperm : (B ++ ((List.range s.first.length).map C).flatten).Perm (List.range s.next.length)) :
    Wit s B C := by
  -- only the nodes below `nnode` have items, so every `C v` is one of the concatenated lists or empty
  have hlt : ∀ v k, k ∈ C v → v < s.first.length := fun v _ => (hC v).lt_nnode
  have hmem : ∀ v k, k ∈ C v → k ∈ ((List.range s.first.length).map C).flatten := fun v k hk =>
    List.mem_flatten.2 ⟨C v, List.mem_map.2 ⟨v, List.mem_range.2 (hlt v k hk), rfl⟩, hk⟩
  obtain ⟨hndB, hflat, hdisjB⟩ := List.nodup_append.1 (hperm.nodup_iff.2 List.nodup_range)
  obtain ⟨hndC, hinj⟩ := (ListFacts.nodup_flatten_map_range C _).1 hflat
  refine
    { ref_len := href, nitem_le := hle, chainB := hB, chainC := hC, nodupB := hndB, blank_ref := hblank,
      nodupC := fun v => ?_, disjBC := fun v k hk hkC => hdisjB k hk k (hmem v k hkC) rfl,
      disjCC := fun v v' hne k hk hk' => ?_, cover := fun k hk => ?_ }
  · rcases (C v).eq_nil_or_concat' with h | ⟨l, k, h⟩
    · rw [h]; exact List.nodup_nil
    · exact hndC v (hlt v k (by rw [h]; simp))
  · exact hne (hinj v v' (hlt v k hk) (hlt v' k hk') k hk hk')
  · rcases List.mem_append.1 (hperm.mem_iff.2 (List.mem_range.2 hk)) with h | h
    · exact Or.inl h
    · obtain ⟨l, hl, hkl⟩ := List.mem_flatten.1 h
      obtain ⟨v, -, rfl⟩ := List.mem_map.1 hl
      exact Or.inr ⟨v, hkl⟩

/-- when item `t` leaves the list of node `n < N` and the other lists stay, the concatenation of all lists loses `t`,
    up to order -/
theorem perm_flatten_move (C C' : Nat → List Nat) (t n : Nat) (hn : (C n).Perm (t :: C' n))
    (hother : ∀ v, v ≠ n → C' v = C v) :
    ∀ N, n < N → (((List.range N).map C).flatten).Perm (t :: ((List.range N).map C').flatten) := by
  intro N
  induction N with
  | zero => intro h; omega
  | succ N ih =>
    intro hN
    rw [List.range_succ, List.map_append, List.map_append, List.flatten_append, List.flatten_append]
    simp only [List.map_cons, List.map_nil, List.flatten_cons, List.flatten_nil, List.append_nil]
    by_cases h : N = n
    · have hpre : (List.range N).map C' = (List.range N).map C :=
        List.map_congr_left fun v hv => hother v (by rw [← h]; exact Nat.ne_of_lt (List.mem_range.1 hv))
      rw [hpre, h]
      exact (hn.append_left _).trans List.perm_middle
    · rw [hother N h]
      exact (ih (by omega)).append_right _

theorem inv_create : Inv create :=
  ⟨List.range' 0 20, fun _ => [], wit_of_perm _ _ _ (by simp [create, freshNext]) (by simp [create, freshNext, INT_MAX])
    (isChain_fresh [] 20 (by omega))
    (fun v => by rw [show create.first.getD v EMPTY = EMPTY from ListFacts.getD_replicate]; exact .nil)
    (fun k _ => ListFacts.getD_replicate)
    (by simp [create, freshNext, List.range_eq_range'])⟩

theorem create_refsOf (n : Int) : create.refsOf n = [] := by
  have hfirst : create.firstOf n = EMPTY := by
    unfold firstOf create
    simp only
    split_ifs
    · exact ListFacts.getD_replicate
    · rfl
  simp only [refsOf, itemsOf, hfirst, walk_empty, List.map_nil]

@[simp] theorem growNodes_next (s : RAdj) (node : Int) : (s.growNodes node).next = s.next := by
  unfold growNodes; split <;> rfl

@[simp] theorem growNodes_ref (s : RAdj) (node : Int) : (s.growNodes node).ref = s.ref := by
  unfold growNodes; split <;> rfl

@[simp] theorem growNodes_blank (s : RAdj) (node : Int) : (s.growNodes node).blank = s.blank := by
  unfold growNodes; split <;> rfl

@[simp] theorem growNodes_nitem (s : RAdj) (node : Int) : (s.growNodes node).nitem = s.nitem := by
  unfold nitem; rw [growNodes_next]

theorem growNodes_first_getD (s : RAdj) (node : Int) (v : Nat) :
    (s.growNodes node).first.getD v EMPTY = s.first.getD v EMPTY := by
  unfold growNodes; split
  · exact ListFacts.getD_append_replicate _ _ _ _
  · rfl

theorem growNodes_length_le (s : RAdj) (node : Int) :
    s.first.length ≤ (s.growNodes node).first.length := by
  unfold growNodes; split
  · simp
  · exact Nat.le_refl _

theorem growNodes_lt (s : RAdj) (n : Nat) (hlt : n < INT_MAX) :
    n < (s.growNodes (n : Int)).first.length := by
  unfold growNodes nnode; split
  · simp only [List.length_append, List.length_replicate, Int.toNat_natCast]
    unfold INT_MAX at *
    omega
  · omega

@[simp] theorem growNodes_firstOf (s : RAdj) (node m : Int) :
    (s.growNodes node).firstOf m = s.firstOf m := by
  rcases (by omega : m < 0 ∨ 0 ≤ m) with h | h
  · rw [firstOf_neg _ _ h, firstOf_neg _ _ h]
  · obtain ⟨n, rfl⟩ := Int.eq_ofNat_of_zero_le h
    rw [firstOf_nat, firstOf_nat, growNodes_first_getD]

@[simp] theorem growNodes_refsOf (s : RAdj) (node m : Int) :
    (s.growNodes node).refsOf m = s.refsOf m := by
  have : (s.growNodes node).refOf = s.refOf := by
    funext k; simp [refOf]
  simp [refsOf, itemsOf, this]

theorem wit_growNodes (w : Wit s B C) (node : Int) : Wit (s.growNodes node) B C where
  ref_len := by rw [growNodes_ref, growNodes_next]; exact w.ref_len
  nitem_le := by rw [growNodes_next]; exact w.nitem_le
  chainB := by rw [growNodes_next, growNodes_blank]; exact w.chainB
  chainC := by
    intro v
    rw [growNodes_first_getD, growNodes_next]; exact w.chainC v
  nodupB := w.nodupB
  nodupC := w.nodupC
  disjBC := w.disjBC
  disjCC := w.disjCC
  cover := by rw [growNodes_next]; exact w.cover
  blank_ref := by rw [growNodes_ref]; exact w.blank_ref

theorem inv_growNodes (h : Inv s) (node : Int) : Inv (s.growNodes node) :=
  let ⟨B, C, w⟩ := h; ⟨B, C, wit_growNodes w node⟩

/-- the number of items added by `growItems` -/
def growChunk (s : RAdj) : Nat := min (max 100 (s.nitem / 2)) (INT_MAX - s.nitem)

theorem growItems_eq (s : RAdj) : s.growItems =
    { s with next := s.next ++ freshNext s.nitem (growChunk s),
             ref := s.ref ++ List.replicate (growChunk s) EMPTY,
             blank := (s.nitem : Int) } := rfl

theorem length_freshNext (orig chunk : Nat) : (freshNext orig chunk).length = chunk := by
  simp [freshNext]

theorem growChunk_pos (hle : s.next.length ≤ INT_MAX) (hlt : s.nitem ≠ INT_MAX) : 0 < growChunk s := by
  unfold growChunk nitem INT_MAX at *; omega

theorem wit_growItems (w : Wit s [] C) (hlt : s.nitem ≠ INT_MAX) :
    Wit s.growItems (List.range' s.nitem (growChunk s)) C := by
  have hle := w.nitem_le
  have hsum : s.nitem + growChunk s ≤ INT_MAX := by
    unfold growChunk nitem INT_MAX at *; omega
  rw [growItems_eq]
  refine wit_of_perm _ _ _ ?_ ?_ (isChain_fresh s.next (growChunk s) (growChunk_pos hle hlt))
    (fun v => (w.chainC v).append _) ?_ ?_
  · simp [length_freshNext, w.ref_len]
  · simpa [length_freshNext, nitem] using hsum
  · intro k hk
    have h2 := (List.mem_range'_1.mp hk).1
    show (s.ref ++ List.replicate (growChunk s) EMPTY).getD k EMPTY = EMPTY
    rw [ListFacts.getD_append_replicate, ListFacts.getD_eq_default]
    rw [w.ref_len]; exact h2
  · -- the old items, all in node lists, followed by the new ones
    show (List.range' s.nitem (growChunk s) ++ _).Perm (List.range (s.next ++ freshNext s.nitem (growChunk s)).length)
    rw [List.length_append, length_freshNext, List.range_add, ← List.range'_eq_map_range]
    exact List.perm_append_comm.trans (w.perm_range.append_right _)

theorem growItems_first (s : RAdj) : s.growItems.first = s.first := rfl

theorem growItems_refsOf (w : Wit s [] C) (hlt : s.nitem ≠ INT_MAX) (m : Int) :
    s.growItems.refsOf m = s.refsOf m := by
  rcases (by omega : m < 0 ∨ 0 ≤ m) with h | h
  · rw [refsOf_neg _ _ h, refsOf_neg _ _ h]
  · obtain ⟨n, rfl⟩ := Int.eq_ofNat_of_zero_le h
    rw [(wit_growItems w hlt).refsOf_nat, w.refsOf_nat]
    apply List.map_congr_left
    intro k hk
    have h1 := w.C_lt n k hk
    show (s.ref ++ List.replicate (growChunk s) EMPTY).getD k EMPTY = _
    rw [ListFacts.getD_append_left]
    rw [w.ref_len]; exact h1

theorem link_eq {b : Nat} (hb : s.blank = (b : Int)) (n : Nat) (reference : Int) :
    s.link (n : Int) reference =
      { first := s.first.set n (b : Int), next := s.next.set b (s.first.getD n EMPTY),
        ref := s.ref.set b reference, blank := s.next.getD b EMPTY } := by
  simp [link, hb, firstOf_nat, nextOf]

theorem wit_link {b : Nat} {B' : List Nat} (w : Wit s (b :: B') C) (n : Nat)
    (hn : n < s.first.length) (reference : Int) :
    Wit (s.link (n : Int) reference) B' (fun v => if v = n then b :: C n else C v) := by
  obtain ⟨hb, hbl, hB'⟩ := w.chainB.of_cons
  have hbB' : b ∉ B' := (List.nodup_cons.mp w.nodupB).1
  have hbC : ∀ v, b ∉ C v := fun v => w.disjBC v b List.mem_cons_self
  rw [link_eq hb n]
  refine wit_of_perm _ _ _ ?_ ?_ ?_ ?_ ?_ ?_
  · simpa using w.ref_len
  · simpa using w.nitem_le
  · exact hB'.set _ hbB'
  · intro v
    by_cases hv : v = n
    · subst hv
      simp only [if_true]
      rw [ListFacts.getD_set_self _ _ _ hn]
      refine .cons (by simpa using hbl) ?_
      rw [ListFacts.getD_set_self _ _ _ hbl]
      exact (w.chainC v).set _ (hbC v)
    · simp only [if_neg hv]
      rw [ListFacts.getD_set_ne _ _ _ (Ne.symm hv)]
      exact (w.chainC v).set _ (hbC v)
  · intro k hk
    show (s.ref.set b reference).getD k EMPTY = EMPTY
    rw [ListFacts.getD_set_ne _ _ _ (fun e : b = k => hbB' (e ▸ hk))]
    exact w.blank_ref k (List.mem_cons_of_mem _ hk)
  · -- the items are those of `s`, with `b` moved from the free list to node `n`
    simp only [List.length_set]
    exact ((perm_flatten_move _ C b n (by rw [if_pos rfl]) (fun v hv => (if_neg hv).symm) _ hn).append_left B').trans
      (List.perm_middle.trans w.perm_range)

theorem add_negative (s : RAdj) (node reference : Int) (hn : node < 0) :
    s.add node reference = (s, Status.invalid) := by
  unfold add; rw [if_pos hn]

theorem add_eq_of_nonneg (s : RAdj) (node reference : Int) (hn : 0 ≤ node) :
    s.add node reference =
      if (s.growNodes node).blank = EMPTY then
        if (s.growNodes node).nitem = INT_MAX then (s.growNodes node, Status.failure)
        else ((s.growNodes node).growItems.link node reference, Status.ok)
      else ((s.growNodes node).link node reference, Status.ok) := by
  unfold add; rw [if_neg (by omega)]

/-- `s'` is `s` with `reference` consed onto the list of node `n`, the other lists as they were -/
structure Consed (s s' : RAdj) (n : Nat) (reference : Int) : Prop where
  inv : Inv s'
  nnode_le : s.nnode ≤ s'.nnode
  lt_nnode : n < s'.nnode
  refs_self : s'.refsOf (n : Int) = reference :: s.refsOf (n : Int)
  refs_other : ∀ m : Int, m ≠ (n : Int) → s'.refsOf m = s.refsOf m

/-- `link` on a state `s2` that has the lists of `s` (what `add` reaches after its growth steps) -/
theorem link_full {s2 : RAdj} {b : Nat} {B' : List Nat} (w : Wit s2 (b :: B') C) (n : Nat)
    (hn : n < s2.first.length) (hle : s.nnode ≤ s2.nnode) (hr : ∀ m, s2.refsOf m = s.refsOf m) (reference : Int) :
    Consed s (s2.link (n : Int) reference) n reference := by
  obtain ⟨hb, hbl, -⟩ := w.chainB.of_cons
  have hbC : ∀ v, b ∉ C v := fun v => w.disjBC v b List.mem_cons_self
  have w' := wit_link w n hn reference
  have hnn : (s2.link (n : Int) reference).nnode = s2.nnode := by
    rw [link_eq hb n, nnode, List.length_set]; rfl
  refine ⟨⟨_, _, w'⟩, by rw [hnn]; exact hle, by rw [hnn]; exact hn, ?_, fun m hm => ?_⟩
  · rw [w'.refsOf_nat, ← hr, w.refsOf_nat, link_eq hb n]
    simp only [if_true, List.map_cons]
    rw [ListFacts.getD_set_self _ _ _ (by rw [w.ref_len]; exact hbl)]
    congr 1
    apply List.map_congr_left
    intro k hk
    exact ListFacts.getD_set_ne _ _ _ (fun e => hbC n (e ▸ hk))
  · rw [← hr]
    rcases (by omega : m < 0 ∨ 0 ≤ m) with h | h
    · rw [refsOf_neg _ _ h, refsOf_neg _ _ h]
    · obtain ⟨n', rfl⟩ := Int.eq_ofNat_of_zero_le h
      have hne : n' ≠ n := fun e => hm (by rw [e])
      rw [w'.refsOf_nat, w.refsOf_nat, link_eq hb n]
      simp only [if_neg hne]
      apply List.map_congr_left
      intro k hk
      exact ListFacts.getD_set_ne _ _ _ (fun e => hbC n' (e ▸ hk))

/-- `add` on a valid node: `reference` is consed onto the node's list, or — no blank item and no room for another — only
    `first[]` has grown -/
theorem add_full (h : Inv s) (n : Nat) (reference : Int) (hlt : n < INT_MAX) :
    ((s.add (n : Int) reference).2 = Status.ok ∧ Consed s (s.add (n : Int) reference).1 n reference) ∨
    ((s.add (n : Int) reference).2 = Status.failure ∧ (s.add (n : Int) reference).1 = s.growNodes (n : Int) ∧
      s.blank = EMPTY ∧ s.nitem = INT_MAX) := by
  obtain ⟨B, C, w⟩ := h
  have w1 := wit_growNodes w (n : Int)
  have hle : s.nnode ≤ (s.growNodes (n : Int)).nnode := growNodes_length_le s (n : Int)
  have hn1 := growNodes_lt s n hlt
  rw [add_eq_of_nonneg s _ _ (by omega)]
  by_cases hb : (s.growNodes (n : Int)).blank = EMPTY
  · rw [if_pos hb]
    by_cases hfull : (s.growNodes (n : Int)).nitem = INT_MAX
    · rw [if_pos hfull]
      exact Or.inr ⟨rfl, rfl, by simpa using hb, by simpa using hfull⟩
    · rw [if_neg hfull]
      have hB : B = [] := by
        have := w1.chainB; rw [hb] at this; exact this.of_empty
      subst hB
      have w2 := wit_growItems w1 hfull
      obtain ⟨c, hc⟩ : ∃ c, growChunk (s.growNodes (n : Int)) = c + 1 :=
        Nat.exists_eq_succ_of_ne_zero (growChunk_pos w1.nitem_le hfull).ne'
      rw [hc, List.range'_succ] at w2
      exact Or.inl ⟨rfl, link_full (s := s) w2 n hn1 hle
        (fun m => by rw [growItems_refsOf w1 hfull, growNodes_refsOf]) reference⟩
  · rw [if_neg hb]
    obtain ⟨b, B', rfl⟩ := List.exists_cons_of_ne_nil (l := B) fun e => hb (e ▸ w1.chainB).of_nil
    exact Or.inl ⟨rfl, link_full (s := s) w1 n hn1 hle (growNodes_refsOf s _) reference⟩

/-- `ref_adj_add` on a valid node: the invariant is kept, the only failure is item exhaustion
    (`nitem = REF_INT_MAX` with an empty free list), and on success `reference` is pushed in front
    of `node`'s list while all other lists are unchanged. -/
theorem add_spec (h : Inv s) (node reference : Int) (hn : 0 ≤ node) (hlt : node < (INT_MAX : Int)) :
    Inv (s.add node reference).1 ∧
    ((s.add node reference).2 = Status.ok ∨
      ((s.add node reference).2 = Status.failure ∧ s.blank = EMPTY ∧ s.nitem = INT_MAX)) ∧
    ((s.add node reference).2 = Status.ok →
      (s.add node reference).1.refsOf node = reference :: s.refsOf node ∧
      ∀ m : Int, m ≠ node → (s.add node reference).1.refsOf m = s.refsOf m) := by
  obtain ⟨n, rfl⟩ := Int.eq_ofNat_of_zero_le hn
  rcases add_full h n reference (by omega) with ⟨hok, c⟩ | ⟨hf, hs', hb, hfull⟩
  · exact ⟨c.inv, Or.inl hok, fun _ => ⟨c.refs_self, c.refs_other⟩⟩
  · refine ⟨by rw [hs']; exact inv_growNodes h _, Or.inr ⟨hf, hb, hfull⟩, fun hok => ?_⟩
    rw [hf] at hok; exact absurd hok (by decide)

/-- `add` never shrinks `first[]`, and on success `node` is in range afterwards -/
theorem add_nnode (h : Inv s) (node reference : Int) (hn : 0 ≤ node) (hlt : node < (INT_MAX : Int)) :
    s.nnode ≤ (s.add node reference).1.nnode ∧
    ((s.add node reference).2 = Status.ok → node < ((s.add node reference).1.nnode : Int)) := by
  obtain ⟨n, rfl⟩ := Int.eq_ofNat_of_zero_le hn
  rcases add_full h n reference (by omega) with ⟨-, c⟩ | ⟨hf, hs', -, -⟩
  · exact ⟨c.nnode_le, fun _ => by have := c.lt_nnode; omega⟩
  · refine ⟨by rw [hs']; exact growNodes_length_le s _, fun hok => ?_⟩
    rw [hf] at hok; exact absurd hok (by decide)

/-- a failed `add` leaves all adjacency lists unchanged -/
theorem add_failure_refs (h : Inv s) (node reference : Int) (hn : 0 ≤ node)
    (hlt : node < (INT_MAX : Int)) (hf : (s.add node reference).2 = Status.failure) (m : Int) :
    (s.add node reference).1.refsOf m = s.refsOf m := by
  obtain ⟨n, rfl⟩ := Int.eq_ofNat_of_zero_le hn
  rcases add_full h n reference (by omega) with ⟨hok, -⟩ | ⟨-, hs', -, -⟩
  · rw [hok] at hf; exact absurd hf (by decide)
  · rw [hs']; exact growNodes_refsOf s _ m

section findLoop
variable {next ref : List Int} {reference : Int}

theorem findLoop_head {t : Nat} (ht : ref.getD t EMPTY = reference) (fuel : Nat) (parent : Int) :
    findLoop next ref reference (fuel + 1) (t : Int) parent = ((t : Int), parent) := by
  simp only [findLoop, natCast_ne_EMPTY, if_false, Int.toNat_natCast, ht, if_true]

theorem findLoop_step {a : Nat} (ha : ref.getD a EMPTY ≠ reference) (fuel : Nat) (parent : Int) :
    findLoop next ref reference (fuel + 1) (a : Int) parent =
      findLoop next ref reference fuel (next.getD a EMPTY) (a : Int) := by
  simp only [findLoop, natCast_ne_EMPTY, if_false, Int.toNat_natCast, ha]

/-- the search loop stops at the first item carrying `reference`, with its predecessor as parent -/
theorem findLoop_hit {p t : Nat} {l2 : List Nat} (hp : ref.getD p EMPTY ≠ reference)
    (ht : ref.getD t EMPTY = reference) :
    ∀ (l1 : List Nat) (st parent : Int) (fuel : Nat), IsChain next st (l1 ++ p :: t :: l2) →
      (l1 ++ p :: t :: l2).length ≤ fuel → (∀ k ∈ l1, ref.getD k EMPTY ≠ reference) →
      findLoop next ref reference fuel st parent = ((t : Int), (p : Int)) := by
  intro l1
  induction l1 with
  | nil =>
    intro st parent fuel hc hf _
    obtain ⟨rfl, _, hc'⟩ := hc.of_cons
    obtain ⟨hnt, _, _⟩ := hc'.of_cons
    obtain ⟨f, rfl⟩ : ∃ f, fuel = f + 2 := ⟨fuel - 2, by simp at hf; omega⟩
    rw [findLoop_step hp, hnt, findLoop_head ht]
  | cons a l1 ih =>
    intro st parent fuel hc hf hall
    obtain ⟨rfl, _, hc'⟩ := hc.of_cons
    obtain ⟨f, rfl⟩ : ∃ f, fuel = f + 1 := ⟨fuel - 1, by simp at hf; omega⟩
    rw [findLoop_step (hall a List.mem_cons_self)]
    exact ih _ _ f hc' (by simpa using hf) (fun k hk => hall k (List.mem_cons_of_mem _ hk))

/-- the search loop reports `EMPTY` when no item of the chain carries `reference` -/
theorem findLoop_miss {st : Int} {l : List Nat} (hc : IsChain next st l)
    (hall : ∀ k ∈ l, ref.getD k EMPTY ≠ reference) :
    ∀ (fuel : Nat) (parent : Int), (findLoop next ref reference fuel st parent).1 = EMPTY := by
  induction hc with
  | nil =>
    intro fuel parent
    cases fuel <;> simp [findLoop]
  | @cons a l _ _ ih =>
    intro fuel parent
    cases fuel with
    | zero => simp [findLoop]
    | succ f =>
      rw [findLoop_step (hall a List.mem_cons_self)]
      exact ih (fun k hk => hall k (List.mem_cons_of_mem _ hk)) f _

end findLoop

/-- unlinking `t` (the successor of `p`) from a chain -/
theorem IsChain.unlink {next : List Int} {p t : Nat} {l2 : List Nat} :
    ∀ (l1 : List Nat) (st : Int), IsChain next st (l1 ++ p :: t :: l2) →
      (l1 ++ p :: t :: l2).Nodup →
      IsChain (next.set p (next.getD t EMPTY)) st (l1 ++ p :: l2) := by
  intro l1
  induction l1 with
  | nil =>
    intro st hc hnd
    obtain ⟨rfl, hp, hc'⟩ := hc.of_cons
    obtain ⟨_, _, hc''⟩ := hc'.of_cons
    have hpl2 : p ∉ l2 := by
      have := (List.nodup_cons.mp hnd).1
      exact fun e => this (List.mem_cons_of_mem _ e)
    refine .cons (by simpa using hp) ?_
    rw [ListFacts.getD_set_self _ _ _ hp]
    exact hc''.set _ hpl2
  | cons a l1 ih =>
    intro st hc hnd
    obtain ⟨rfl, ha, hc'⟩ := hc.of_cons
    obtain ⟨hnotin, hnd'⟩ := List.nodup_cons.mp hnd
    have hpa : p ≠ a := by
      intro e; apply hnotin; rw [e]; simp
    refine .cons (by simpa using ha) ?_
    rw [ListFacts.getD_set_ne _ _ _ hpa]
    exact ih _ hc' hnd'

/-- generic step: item `t` leaves the chain of node `n` (leaving `R`) and is pushed on the free list.  `x`, `nx` are
    `first[n]`, `next[]` after the unlinking, which `remove` does in one of two ways: `first[n]` bent around a head `t` (`nx = next`)
    or `next[p]` bent around an interior `t` (`x = first[n]`).  `hkeep` asks that the chains which share no item with `C n` (the
    free list, the other nodes) survive that write: trivially in the first way, by `IsChain.set` in the second. -/
theorem wit_release (w : Wit s B C) (n t : Nat) (R : List Nat) (x : Int) (nx : List Int)
    (hp : (C n).Perm (t :: R)) (hlen : nx.length = s.next.length) (hR : IsChain nx x R)
    (hkeep : ∀ st l, IsChain s.next st l → (∀ k ∈ l, k ∉ C n) → IsChain nx st l) :
    Wit (s.release (t : Int) (s.first.set n x) nx) (t :: B) (fun v => if v = n then R else C v) := by
  have htC : t ∈ C n := hp.mem_iff.mpr List.mem_cons_self
  have hn : n < s.first.length := (w.chainC n).lt_nnode htC
  have htR : t ∉ R := (List.nodup_cons.mp (hp.nodup_iff.mp (w.nodupC n))).1
  have htlt : t < s.next.length := w.C_lt n t htC
  have htB : t ∉ B := fun e => w.disjBC n t e htC
  show Wit { first := s.first.set n x, next := nx.set (t : Int).toNat s.blank,
             ref := s.ref.set (t : Int).toNat EMPTY, blank := (t : Int) } _ _
  rw [Int.toNat_natCast]
  refine wit_of_perm _ _ _ ?_ ?_ ?_ ?_ ?_ ?_
  · simpa [hlen] using w.ref_len
  · simpa [hlen] using w.nitem_le
  · refine .cons (by simpa [hlen] using htlt) ?_
    rw [ListFacts.getD_set_self _ _ _ (by rw [hlen]; exact htlt)]
    exact (hkeep _ _ w.chainB (w.disjBC n)).set _ htB
  · intro v
    by_cases hv : v = n
    · subst hv
      simp only [if_true]
      rw [ListFacts.getD_set_self _ _ _ hn]
      exact hR.set _ htR
    · simp only [if_neg hv]
      rw [ListFacts.getD_set_ne _ _ _ (Ne.symm hv)]
      exact (hkeep _ _ (w.chainC v) (w.disjCC v n hv)).set _ (fun e => w.disjCC v n hv t e htC)
  · intro k hk
    show (s.ref.set t EMPTY).getD k EMPTY = EMPTY
    rcases List.mem_cons.mp hk with rfl | hk
    · exact ListFacts.getD_set_self _ _ _ (by rw [w.ref_len]; exact htlt)
    · rw [ListFacts.getD_set_ne _ _ _ (fun e : t = k => htB (e ▸ hk))]
      exact w.blank_ref k hk
  · -- the items are those of `s`, with `t` moved from node `n` to the free list
    show ((t :: B) ++ ((List.range (s.first.set n x).length).map _).flatten).Perm (List.range (nx.set t s.blank).length)
    rw [List.length_set, List.length_set, hlen]
    exact (List.perm_middle.symm.trans
      ((perm_flatten_move C _ t n (by rw [if_pos rfl]; exact hp) (fun v hv => if_neg hv) _ hn).symm.append_left B)).trans
      w.perm_range

theorem release_refsOf (w : Wit s B C) (n t : Nat) (R : List Nat) (first' nx : List Int)
    (w' : Wit (s.release (t : Int) first' nx) (t :: B) (fun v => if v = n then R else C v))
    (htC : t ∈ C n) (htR : t ∉ R) :
    (s.release (t : Int) first' nx).refsOf (n : Int) = R.map (fun k => s.ref.getD k EMPTY) ∧
    ∀ m : Int, m ≠ (n : Int) → (s.release (t : Int) first' nx).refsOf m = s.refsOf m := by
  have release_ref : (s.release (t : Int) first' nx).ref = s.ref.set t EMPTY := by simp [release]
  constructor
  · rw [w'.refsOf_nat, release_ref]
    simp only [if_true]
    apply List.map_congr_left
    intro k hk
    exact ListFacts.getD_set_ne _ _ _ (fun e => htR (e ▸ hk))
  · intro m hm
    rcases (by omega : m < 0 ∨ 0 ≤ m) with h | h
    · rw [refsOf_neg _ _ h, refsOf_neg _ _ h]
    · obtain ⟨n', rfl⟩ := Int.eq_ofNat_of_zero_le h
      have hne : n' ≠ n := fun e => hm (by rw [e])
      rw [w'.refsOf_nat, w.refsOf_nat, release_ref]
      simp only [if_neg hne]
      apply List.map_congr_left
      intro k hk
      exact ListFacts.getD_set_ne _ _ _ (fun e => w.disjCC n' n hne k hk (e ▸ htC))

/-! `ref_adj_remove` in terms of the node's chain: what it does depends on where the first item carrying `reference` stands -/

/-- no item of the chain carries `reference` (an empty chain included): `REF_INVALID`, nothing changes -/
theorem remove_eq_miss {l : List Nat} (node reference : Int) (hc : IsChain s.next (s.firstOf node) l)
    (hall : ∀ k ∈ l, s.ref.getD k EMPTY ≠ reference) : s.remove node reference = (s, Status.invalid) := by
  cases l with
  | nil => unfold remove; simp only [hc.of_nil, if_true]
  | cons i rest =>
    obtain ⟨hfo, -, -⟩ := hc.of_cons
    have href : reference ≠ s.ref.getD i EMPTY := fun e => hall i List.mem_cons_self e.symm
    have hfl := findLoop_miss hc hall s.nitem EMPTY
    rw [hfo] at hfl
    unfold remove
    rcases hx : findLoop s.next s.ref reference s.nitem (i : Int) EMPTY with ⟨t, p⟩
    rw [hx] at hfl
    simp only at hfl
    simp only [hfo, natCast_ne_EMPTY, if_false, refOf_nat, href, hx, hfl, if_true]

/-- the first item of the chain carries `reference`: it is released and `first[node]` bent around it -/
theorem remove_eq_head {t : Nat} {l2 : List Nat} (node reference : Int)
    (hc : IsChain s.next (s.firstOf node) (t :: l2)) (ht : s.ref.getD t EMPTY = reference) :
    s.remove node reference =
      (s.release (t : Int) (s.first.set node.toNat (s.next.getD t EMPTY)) s.next, Status.ok) := by
  unfold remove
  simp only [hc.of_cons.1, natCast_ne_EMPTY, if_false, refOf_nat, ht, if_true, nextOf, Int.toNat_natCast]

/-- the first item carrying `reference` is `t`, behind `p`: it is released and `next[p]` bent around it -/
theorem remove_eq_found {p t : Nat} {l1 l2 : List Nat} (node reference : Int)
    (hc : IsChain s.next (s.firstOf node) (l1 ++ p :: t :: l2)) (hlen : (l1 ++ p :: t :: l2).length ≤ s.nitem)
    (h1 : ∀ k ∈ l1, s.ref.getD k EMPTY ≠ reference) (hp : s.ref.getD p EMPTY ≠ reference)
    (ht : s.ref.getD t EMPTY = reference) :
    s.remove node reference =
      (s.release (t : Int) s.first (s.next.set p (s.next.getD t EMPTY)), Status.ok) := by
  have hfl := findLoop_hit hp ht l1 _ EMPTY s.nitem hc hlen h1
  -- the C tests the head of the chain first; it does not carry `reference`
  obtain ⟨i, hfo, href⟩ : ∃ i : Nat, s.firstOf node = i ∧ reference ≠ s.ref.getD i EMPTY := by
    cases l1 with
    | nil => exact ⟨p, hc.of_cons.1, fun e => hp e.symm⟩
    | cons a l1 => exact ⟨a, hc.of_cons.1, fun e => h1 a List.mem_cons_self e.symm⟩
  rw [hfo] at hfl
  unfold remove
  simp only [hfo, natCast_ne_EMPTY, if_false, refOf_nat, href, hfl, nextOf, Int.toNat_natCast]

/-- `ref_adj_remove` of a present reference: succeeds, keeps the invariant, erases the first
    occurrence from `node`'s list and leaves the other lists alone. -/
theorem remove_spec_present (h : Inv s) (node reference : Int) (hm : reference ∈ s.refsOf node) :
    (s.remove node reference).2 = Status.ok ∧ Inv (s.remove node reference).1 ∧
    (s.remove node reference).1.refsOf node = (s.refsOf node).erase reference ∧
    ∀ m : Int, m ≠ node → (s.remove node reference).1.refsOf m = s.refsOf m := by
  obtain ⟨B, C, w⟩ := h
  rcases (by omega : node < 0 ∨ 0 ≤ node) with hneg | hnn
  · rw [refsOf_neg _ _ hneg] at hm; simp at hm
  obtain ⟨n, rfl⟩ := Int.eq_ofNat_of_zero_le hnn
  have hrefs := w.refsOf_nat n
  -- the node's chain is `l1 ++ t :: l2` with `t` the first item carrying `reference`; erasing leaves `l1 ++ l2`
  rw [hrefs] at hm
  obtain ⟨as, bs, has, hnot⟩ := List.eq_append_cons_of_mem hm
  obtain ⟨l1, r, hC, rfl, hr⟩ := List.map_eq_append_iff.1 has
  obtain ⟨t, l2, rfl, ht, rfl⟩ := List.map_eq_cons_iff.1 hr
  have h1 : ∀ k ∈ l1, s.ref.getD k EMPTY ≠ reference := fun k hk e => hnot (List.mem_map.2 ⟨k, hk, e⟩)
  have herase : (s.refsOf (n : Int)).erase reference = (l1 ++ l2).map fun k => s.ref.getD k EMPTY := by
    rw [hrefs, hC, List.map_append, List.map_cons, ht, List.erase_append_right _ hnot, List.erase_cons_head,
      List.map_append]
  have hch := w.chain_firstOf n
  have hperm : (C n).Perm (t :: (l1 ++ l2)) := by rw [hC]; exact List.perm_middle
  have htC : t ∈ C n := hperm.mem_iff.2 List.mem_cons_self
  have htR : t ∉ l1 ++ l2 := (List.nodup_cons.1 (hperm.nodup_iff.1 (w.nodupC n))).1
  -- what `remove` does to the arrays: `t` is released after `first[n]` (no predecessor) or `next[p]` was bent around it
  obtain ⟨first', nx, hrm, w'⟩ : ∃ first' nx, s.remove (n : Int) reference = (s.release (t : Int) first' nx, Status.ok) ∧
      Wit (s.release (t : Int) first' nx) (t :: B) (fun v => if v = n then l1 ++ l2 else C v) := by
    rcases List.eq_nil_or_concat' l1 with rfl | ⟨l1, p, rfl⟩
    · rw [hC, List.nil_append] at hch
      refine ⟨_, _, remove_eq_head _ _ hch ht, ?_⟩
      rw [Int.toNat_natCast]
      exact wit_release w n t _ _ s.next hperm rfl hch.of_cons.2.2 (fun _ _ hc _ => hc)
    · rw [List.append_assoc, List.singleton_append] at hC
      have hnd := w.nodupC n
      rw [hC] at hch hnd
      have hpC : p ∈ C n := by rw [hC]; simp
      refine ⟨s.first.set n (s.firstOf (n : Int)), s.next.set p (s.next.getD t EMPTY), ?_,
        wit_release w n t _ _ _ hperm (by simp) ?_ (fun st l hc hdis => hc.set _ (fun e => hdis p e hpC))⟩
      · rw [firstOf_nat, ListFacts.set_getD_self]
        exact remove_eq_found _ _ hch (hC ▸ w.C_length n) (fun k hk => h1 k (by simp [hk])) (h1 p (by simp)) ht
      · rw [List.append_assoc, List.singleton_append]
        exact IsChain.unlink l1 _ hch hnd
  obtain ⟨hself, hother⟩ := release_refsOf w n t _ _ _ w' htC htR
  rw [hrm]
  exact ⟨rfl, ⟨_, _, w'⟩, hself.trans herase.symm, hother⟩

/-- `ref_adj_remove` of an absent reference (this includes invalid nodes): nothing changes and
    `REF_INVALID` is returned; `REF_FAILURE` is never returned under the invariant. -/
theorem remove_spec_absent (h : Inv s) (node reference : Int) (hm : reference ∉ s.refsOf node) :
    s.remove node reference = (s, Status.invalid) := by
  obtain ⟨B, C, w⟩ := h
  rcases (by omega : node < 0 ∨ 0 ≤ node) with hneg | hnn
  · exact remove_eq_miss (l := []) _ _ (by rw [firstOf_neg _ _ hneg]; exact .nil) (by simp)
  obtain ⟨n, rfl⟩ := Int.eq_ofNat_of_zero_le hnn
  rw [w.refsOf_nat n] at hm
  exact remove_eq_miss _ _ (w.chain_firstOf n) fun k hk e => hm (List.mem_map.2 ⟨k, hk, e⟩)

theorem addUniquely_spec (s : RAdj) (node reference : Int) :
    s.addUniquely node reference =
      if reference ∈ s.refsOf node then (s, Status.ok) else s.add node reference := by
  unfold addUniquely
  by_cases hmem : reference ∈ s.refsOf node
  · simp [hmem]
  · simp [hmem]

example : ((create.add 3 7).1.add 3 8).1.refsOf 3 = [8, 7] := by decide +kernel

example : (((create.add 3 7).1.add 3 8).1.remove 3 7).1.refsOf 3 = [8] := by decide +kernel

example : (((create.add 3 7).1.add 3 8).1.remove 3 7).2 = Status.ok := by decide +kernel

example : (((create.add 3 7).1.add 3 8).1.remove 3 9) =
    (((create.add 3 7).1.add 3 8).1, Status.invalid) := by decide +kernel

theorem inv_example : Inv (((create.add 3 7).1.add 3 8).1.remove 3 7).1 := by
  have hlt : (3 : Int) < (INT_MAX : Int) := by unfold INT_MAX; omega
  have h1 : Inv (create.add 3 7).1 := (add_spec inv_create 3 7 (by omega) hlt).1
  have h2 : Inv ((create.add 3 7).1.add 3 8).1 := (add_spec h1 3 8 (by omega) hlt).1
  exact (remove_spec_present h2 3 7 (by decide)).2.1

end Refine.Model.RAdj
