import Refine.Model.Matrix
import Refine.Lemmas.ScalarReal
import Mathlib.LinearAlgebra.Matrix.NonsingularInverse
import Mathlib.LinearAlgebra.Matrix.Notation
import Mathlib.Tactic.Ring
import Mathlib.Tactic.Linarith
import Mathlib.Tactic.LinearCombination

/-!
  Real-number side of the matrix kernel: orthonormality, `IsEigSys`, the bridge from the fixed-shape
  structures to Mathlib's `Matrix (Fin 3) (Fin 3) ℝ`, and the spectral lemma `formM_fun_congr`
  (a function of a symmetric matrix does not depend on which eigen system is used); the closed form of `det_m`.
  The `Lemmas/Matrix*` files declare into the model's namespace `Refine.Model.Matrix`, so that `d.V`, `m.toMat`,
  `st.reprMat` work as dot notation on the model's structures; nothing in them is executable model.
-/
namespace Refine.Model.Matrix
open Refine Refine.ScalarReal
open _root_.Matrix

structure Orthonormal (d : Eig12 ℝ) : Prop where
  n0 : d.x0 * d.x0 + d.y0 * d.y0 + d.z0 * d.z0 = 1
  n1 : d.x1 * d.x1 + d.y1 * d.y1 + d.z1 * d.z1 = 1
  n2 : d.x2 * d.x2 + d.y2 * d.y2 + d.z2 * d.z2 = 1
  p01 : d.x0 * d.x1 + d.y0 * d.y1 + d.z0 * d.z1 = 0
  p02 : d.x0 * d.x2 + d.y0 * d.y2 + d.z0 * d.z2 = 0
  p12 : d.x1 * d.x2 + d.y1 * d.y2 + d.z1 * d.z2 = 0

/-- `d` is an exact eigen decomposition of `m` -/
def IsEigSys (d : Eig12 ℝ) (m : M6 ℝ) : Prop := Orthonormal d ∧ formM d = m

theorem IsEigSys.orth {d : Eig12 ℝ} {m : M6 ℝ} (h : IsEigSys d m) : Orthonormal d := h.1
theorem IsEigSys.form {d : Eig12 ℝ} {m : M6 ℝ} (h : IsEigSys d m) : formM d = m := h.2

structure Orthonormal2 (d : Eig6 ℝ) : Prop where
  n0 : d.x0 * d.x0 + d.y0 * d.y0 = 1
  n1 : d.x1 * d.x1 + d.y1 * d.y1 = 1
  p01 : d.x0 * d.x1 + d.y0 * d.y1 = 0

def M6.toMat (m : M6 ℝ) : Matrix (Fin 3) (Fin 3) ℝ :=
  !![m.m11, m.m12, m.m13; m.m12, m.m22, m.m23; m.m13, m.m23, m.m33]

/-- eigenvectors as columns -/
def Eig12.V (d : Eig12 ℝ) : Matrix (Fin 3) (Fin 3) ℝ :=
  !![d.x0, d.x1, d.x2; d.y0, d.y1, d.y2; d.z0, d.z1, d.z2]

def Eig12.lam (d : Eig12 ℝ) : Fin 3 → ℝ := ![d.l0, d.l1, d.l2]

def M33.toMat (a : M33 ℝ) : Matrix (Fin 3) (Fin 3) ℝ :=
  !![a.r0.x, a.r0.y, a.r0.z; a.r1.x, a.r1.y, a.r1.z; a.r2.x, a.r2.y, a.r2.z]

def Vec3.toFun (v : Vec3 ℝ) : Fin 3 → ℝ := ![v.x, v.y, v.z]

theorem mFull_toMat (m : M6 ℝ) : (mFull m).toMat = m.toMat := rfl

@[ext] theorem M6.ext' {α : Type} {a b : M6 α} (h1 : a.m11 = b.m11) (h2 : a.m12 = b.m12) (h3 : a.m13 = b.m13)
    (h4 : a.m22 = b.m22) (h5 : a.m23 = b.m23) (h6 : a.m33 = b.m33) : a = b := by
  cases a; cases b; simp_all

/-! 3x3 literals: with `mul_fin_three` and `one_fin_three` an identity between `!![…]` literals becomes nine
    scalar equations, without evaluating entries at `Fin` indices -/

theorem lit3_congr {a1 a2 a3 a4 a5 a6 a7 a8 a9 b1 b2 b3 b4 b5 b6 b7 b8 b9 : ℝ}
    (h1 : a1 = b1) (h2 : a2 = b2) (h3 : a3 = b3) (h4 : a4 = b4) (h5 : a5 = b5) (h6 : a6 = b6)
    (h7 : a7 = b7) (h8 : a8 = b8) (h9 : a9 = b9) :
    !![a1, a2, a3; a4, a5, a6; a7, a8, a9] = !![b1, b2, b3; b4, b5, b6; b7, b8, b9] := by
  rw [h1, h2, h3, h4, h5, h6, h7, h8, h9]

theorem lit3_inj {a1 a2 a3 a4 a5 a6 a7 a8 a9 b1 b2 b3 b4 b5 b6 b7 b8 b9 : ℝ}
    (h : !![a1, a2, a3; a4, a5, a6; a7, a8, a9] = !![b1, b2, b3; b4, b5, b6; b7, b8, b9]) :
    a1 = b1 ∧ a2 = b2 ∧ a3 = b3 ∧ a4 = b4 ∧ a5 = b5 ∧ a6 = b6 ∧ a7 = b7 ∧ a8 = b8 ∧ a9 = b9 := by
  have e := fun i j => congrFun (congrFun h i) j
  exact ⟨e 0 0, e 0 1, e 0 2, e 1 0, e 1 1, e 1 2, e 2 0, e 2 1, e 2 2⟩

theorem transpose_fin_three (a1 a2 a3 a4 a5 a6 a7 a8 a9 : ℝ) :
    !![a1, a2, a3; a4, a5, a6; a7, a8, a9]ᵀ = !![a1, a4, a7; a2, a5, a8; a3, a6, a9] := by
  rw [eta_fin_three (!![a1, a2, a3; a4, a5, a6; a7, a8, a9]ᵀ)]
  rfl

theorem add_fin_three (a1 a2 a3 a4 a5 a6 a7 a8 a9 b1 b2 b3 b4 b5 b6 b7 b8 b9 : ℝ) :
    !![a1, a2, a3; a4, a5, a6; a7, a8, a9] + !![b1, b2, b3; b4, b5, b6; b7, b8, b9] =
      !![a1 + b1, a2 + b2, a3 + b3; a4 + b4, a5 + b5, a6 + b6; a7 + b7, a8 + b8, a9 + b9] := by
  rw [eta_fin_three (!![a1, a2, a3; a4, a5, a6; a7, a8, a9] + !![b1, b2, b3; b4, b5, b6; b7, b8, b9])]
  rfl

theorem M6.toMat_injective {a b : M6 ℝ} (h : a.toMat = b.toMat) : a = b := by
  obtain ⟨h1, h2, h3, _, h5, h6, _, _, h9⟩ := lit3_inj h
  exact M6.ext' h1 h2 h3 h5 h6 h9

theorem M6.toMat_transpose (m : M6 ℝ) : m.toMatᵀ = m.toMat := transpose_fin_three ..

theorem diagonal_lam (d : Eig12 ℝ) :
    diagonal d.lam = !![d.l0, 0, 0; 0, d.l1, 0; 0, 0, d.l2] := by
  rw [eta_fin_three (diagonal d.lam)]
  rfl

theorem Eig12.V_transpose (d : Eig12 ℝ) :
    d.Vᵀ = !![d.x0, d.y0, d.z0; d.x1, d.y1, d.z1; d.x2, d.y2, d.z2] := transpose_fin_three ..

theorem toMat_formM (d : Eig12 ℝ) : (formM d).toMat = d.V * diagonal d.lam * d.Vᵀ := by
  rw [diagonal_lam, Eig12.V_transpose, Eig12.V, mul_fin_three, mul_fin_three]
  simp only [M6.toMat, formM, mul_eq, add_eq]
  apply lit3_congr <;> ring

theorem orthonormal_iff (d : Eig12 ℝ) : Orthonormal d ↔ d.Vᵀ * d.V = 1 := by
  rw [Eig12.V_transpose, Eig12.V, mul_fin_three, one_fin_three]
  constructor
  · intro h
    exact lit3_congr (by linear_combination h.n0) (by linear_combination h.p01) (by linear_combination h.p02)
      (by linear_combination h.p01) (by linear_combination h.n1) (by linear_combination h.p12)
      (by linear_combination h.p02) (by linear_combination h.p12) (by linear_combination h.n2)
  · intro h
    obtain ⟨h1, h2, h3, _, h5, h6, _, _, h9⟩ := lit3_inj h
    exact ⟨h1, h5, h9, h2, h3, h6⟩

theorem Orthonormal.rows {d : Eig12 ℝ} (h : Orthonormal d) : d.V * d.Vᵀ = 1 :=
  mul_eq_one_comm.mp ((orthonormal_iff d).mp h)

theorem orthonormal_mapEig {d : Eig12 ℝ} (f : ℝ → ℝ) (h : Orthonormal d) : Orthonormal (mapEig f d) :=
  ⟨h.n0, h.n1, h.n2, h.p01, h.p02, h.p12⟩

theorem orthonormal_id (a b c : ℝ) : Orthonormal ⟨a, b, c, 1, 0, 0, 0, 1, 0, 0, 0, 1⟩ := by
  constructor <;> simp

theorem toMat_formM_mapEig (f : ℝ → ℝ) (d : Eig12 ℝ) :
    (formM (mapEig f d)).toMat = d.V * diagonal (fun i => f (d.lam i)) * d.Vᵀ := by
  rw [toMat_formM, show (mapEig f d).lam = fun i => f (d.lam i) by funext i; fin_cases i <;> rfl]
  rfl

theorem spectral_fun_congr {n : Type} [Fintype n] [DecidableEq n] (V W : Matrix n n ℝ) (a b : n → ℝ)
    (f : ℝ → ℝ) (hV : Vᵀ * V = 1) (hW : Wᵀ * W = 1)
    (h : V * diagonal a * Vᵀ = W * diagonal b * Wᵀ) :
    V * diagonal (fun i => f (a i)) * Vᵀ = W * diagonal (fun i => f (b i)) * Wᵀ := by
  have hV' : V * Vᵀ = 1 := mul_eq_one_comm.mp hV
  have hW' : W * Wᵀ = 1 := mul_eq_one_comm.mp hW
  -- `U = Vᵀ W` intertwines the two diagonal matrices, so `U i j ≠ 0` forces `a i = b j`, and then `f (a i) = f (b j)`
  have hU : diagonal a * (Vᵀ * W) = (Vᵀ * W) * diagonal b := by
    calc diagonal a * (Vᵀ * W) = (Vᵀ * V) * diagonal a * (Vᵀ * W) := by rw [hV, one_mul]
      _ = Vᵀ * (V * diagonal a * Vᵀ) * W := by simp only [Matrix.mul_assoc]
      _ = Vᵀ * (W * diagonal b * Wᵀ) * W := by rw [h]
      _ = (Vᵀ * W) * diagonal b * (Wᵀ * W) := by simp only [Matrix.mul_assoc]
      _ = (Vᵀ * W) * diagonal b := by rw [hW, mul_one]
  have hUf : diagonal (fun i => f (a i)) * (Vᵀ * W) = (Vᵀ * W) * diagonal (fun i => f (b i)) := by
    ext i j
    have e := congrFun (congrFun hU i) j
    rw [diagonal_mul, mul_diagonal] at e
    rw [diagonal_mul, mul_diagonal]
    by_cases hz : (Vᵀ * W) i j = 0
    · rw [hz]; ring
    · have : a i = b j := by
        have : (Vᵀ * W) i j * (a i - b j) = 0 := by linear_combination e
        rcases mul_eq_zero.mp this with h0 | h0
        · exact absurd h0 hz
        · linarith
      rw [this]; ring
  calc V * diagonal (fun i => f (a i)) * Vᵀ
      = V * diagonal (fun i => f (a i)) * (Vᵀ * (W * Wᵀ)) := by rw [hW', mul_one]
    _ = V * (diagonal (fun i => f (a i)) * (Vᵀ * W)) * Wᵀ := by simp only [Matrix.mul_assoc]
    _ = V * ((Vᵀ * W) * diagonal (fun i => f (b i))) * Wᵀ := by rw [hUf]
    _ = (V * Vᵀ) * W * diagonal (fun i => f (b i)) * Wᵀ := by simp only [Matrix.mul_assoc]
    _ = W * diagonal (fun i => f (b i)) * Wᵀ := by rw [hV', one_mul]

/-- matrix functions are well defined: two eigen systems of the same matrix give the same `f(m)` -/
theorem formM_fun_congr {d d' : Eig12 ℝ} {m : M6 ℝ} (f : ℝ → ℝ) (h : IsEigSys d m) (h' : IsEigSys d' m) :
    formM (mapEig f d) = formM (mapEig f d') := by
  apply M6.toMat_injective
  rw [toMat_formM_mapEig, toMat_formM_mapEig]
  apply spectral_fun_congr _ _ _ _ f ((orthonormal_iff d).mp h.orth) ((orthonormal_iff d').mp h'.orth)
  rw [← toMat_formM, ← toMat_formM, h.form, h'.form]

/-- `ref_matrix_det_m` over ℝ: Gaussian elimination without pivoting on the full matrix, three guarded quotients -/
theorem detM_def (a b c d e f : ℝ) : detM (⟨a, b, c, d, e, f⟩ : M6 ℝ) =
    if !(Scalar.divisible b a) then 0 else
    if !(Scalar.divisible c a) then 0 else
    if !(Scalar.divisible (e - c / a * b) (d - b / a * b)) then 0 else
    1 * a * (d - b / a * b) * (f - c / a * c - (e - c / a * b) / (d - b / a * b) * (e - b / a * c)) := by
  simp only [detM, detGen3, mFull, Vec3.axmy, one_eq, zero_eq, mul_eq, sub_eq, div_eq]

theorem detM_diag (a b c : ℝ) (ha : a ≠ 0) (hb : b ≠ 0) : detM (⟨a, 0, 0, b, 0, c⟩ : M6 ℝ) = a * b * c := by
  rw [detM_def]
  simp only [zero_div, mul_zero, sub_zero, divisible_of_ne_zero_of_zero ha, divisible_of_ne_zero_of_zero hb,
    Bool.not_true, Bool.false_eq_true, if_false, one_mul]

end Refine.Model.Matrix
