import Refine.Model.PhysDist
import Refine.Lemmas.ContainersListDict

/-!
  The bc dict behind the wall selection (what a sequence of `ref_dict_store` leaves, the generated predicate as a
  list) and the bc-tag parsers (`scanInt`, `fgets`, `readMapbc`, `parseTags`) of `Refine.Model.PhysDist` on
  well-formed input.
-/
namespace Refine.Lemmas.PhysDist
open Refine Refine.Model Refine.Model.Geom Refine.Model.PhysDist

theorem wallDistanceBc_iff (bc : Int) :
    Refine.Gen.PhysBc.wallDistanceBc bc = true ↔ bc ∈ Refine.Gen.PhysBc.viscousCodes := by
  simp [Refine.Gen.PhysBc.wallDistanceBc, Refine.Gen.PhysBc.viscousCodes, or_assoc]

/-- a dict after a run of `ref_dict_store`, one per entry of `l` (key `key r`, value `val r`): well formed, and a key
    reads the value of the LAST entry that stored it -/
theorem lookup_storeAll {β : Type} (key val : β → Int) (d : RDict) (h : RDict.Inv d) (l : List β) :
    RDict.Inv (l.foldl (fun d r => (d.store (key r) (val r)).1) d) ∧
    ∀ k, RDict.lookup (l.foldl (fun d r => (d.store (key r) (val r)).1) d) k
      = match l.reverse.find? fun r => key r == k with
        | some r => some (val r)
        | none => RDict.lookup d k := by
  induction l using List.reverseRecOn with
  | nil => exact ⟨h, fun _ => rfl⟩
  | append_singleton l r ih =>
    obtain ⟨hinv, hl⟩ := ih
    obtain ⟨_, hinv', hl', _⟩ := RDict.store_spec hinv (key r) (val r)
    rw [List.foldl_append]
    refine ⟨hinv', fun k => ?_⟩
    rw [List.reverse_append, List.reverse_singleton, List.singleton_append, List.find?_cons]
    show RDict.lookup ((l.foldl _ d).store (key r) (val r)).1 k = _
    rw [hl' k]
    by_cases hk : k = key r
    · rw [if_pos hk, hk, beq_self_eq_true]
    · rw [if_neg hk, beq_eq_false_iff_ne.mpr (Ne.symm hk), hl k]

theorem takeWhile_append_stop {β : Type} (p : β → Bool) (l t : List β) (c : β) (hc : p c = false) :
    (l ++ c :: t).takeWhile p = l.takeWhile p := by
  induction l with
  | nil => simp [hc]
  | cons x xs ih => by_cases hx : p x = true <;> simp [hx, ih]

theorem dropWhile_append_stop {β : Type} (p : β → Bool) (l t : List β) (c : β) (hc : p c = false) :
    (l ++ c :: t).dropWhile p = l.dropWhile p ++ c :: t := by
  induction l with
  | nil => simp [hc]
  | cons x xs ih => by_cases hx : p x = true <;> simp [hx, ih]

theorem signSplit_append (s t : List Char) (h : s ≠ []) :
    signSplit (s ++ t) = ((signSplit s).1, (signSplit s).2 ++ t) := by
  fun_cases signSplit s with
  | case1 c u hc => simp only [List.cons_append, signSplit, hc, if_true]
  | case2 c u hc hp => simp only [List.cons_append, signSplit, hc, hp, if_true, Bool.false_eq_true, if_false]
  | case3 c u hc hp => simp only [List.cons_append, signSplit, hc, hp, Bool.false_eq_true, if_false]
  | case4 => exact absurd rfl h

/-- `%d` stops at the newline that ends the line -/
theorem scanInt_append (l t : List Char) (v : Int) (r : List Char) (h : scanInt l = some (v, r)) :
    scanInt (l ++ '\n' :: t) = some (v, r ++ '\n' :: t) := by
  unfold scanInt at h ⊢
  have hne : l.dropWhile isSpace ≠ [] := by
    intro hnil
    simp [hnil, signSplit] at h
  have hdw : (l ++ '\n' :: t).dropWhile isSpace = l.dropWhile isSpace ++ '\n' :: t := by
    rw [List.dropWhile_append, if_neg (by simpa using hne)]
  rw [hdw, signSplit_append _ _ hne]
  simp only
  rw [takeWhile_append_stop isDigit _ t '\n' rfl, dropWhile_append_stop isDigit _ t '\n' rfl]
  simp only at h
  split at h
  · cases h
  · rename_i hd
    simp only [hd]
    simp only [Option.some.injEq, Prod.mk.injEq] at h
    obtain ⟨h1, h2⟩ := h
    rw [h1, h2]
    simp

theorem signSplit_suffix (s : List Char) : (signSplit s).2 <:+ s := by
  fun_cases signSplit s with
  | case1 => exact List.suffix_cons _ _
  | case2 => exact List.suffix_cons _ _
  | case3 => exact List.suffix_refl _
  | case4 => exact List.suffix_refl _

theorem scanInt_suffix (l : List Char) (v : Int) (r : List Char) (h : scanInt l = some (v, r)) : r <:+ l := by
  revert h
  fun_cases scanInt l with
  | case1 => exact nofun
  | case2 =>
    intro h
    cases h
    exact ((List.dropWhile_suffix _).trans (signSplit_suffix _)).trans (List.dropWhile_suffix _)

theorem fgetsGo_line (n : Nat) (l t : List Char) (hnl : '\n' ∉ l) (hlen : l.length < n) :
    fgetsGo n (l ++ '\n' :: t) = (l ++ ['\n'], t) := by
  induction l generalizing n with
  | nil =>
    match n, hlen with
    | k + 1, _ => simp [fgetsGo]
  | cons c cs ih =>
    match n, hlen with
    | k + 1, hlen =>
      have hc : (c == '\n') = false := by
        have : c ≠ '\n' := fun e => hnl (by simp [e])
        simpa using this
      simp only [List.cons_append, fgetsGo, hc, Bool.false_eq_true, if_false]
      rw [ih k (fun hm => hnl (List.mem_cons_of_mem _ hm)) (by simpa using hlen)]

theorem fgets_line (n : Nat) (l t : List Char) (hnl : '\n' ∉ l) (hlen : l.length < n) :
    fgets n (l ++ '\n' :: t) = some (l ++ ['\n'], t) := by
  unfold fgets
  have : (l ++ '\n' :: t).isEmpty = false := by cases l <;> rfl
  rw [this, fgetsGo_line n l t hnl hlen]
  rfl

/-- one record line (without its newline) and the two numbers it starts with -/
structure MapbcRec where
  line : List Char
  id : Int
  ty : Int

/-- the line has no newline, fits the 1023-character buffer, and starts with `id` and `type` in the sense of `%d` -/
def RecOk (r : MapbcRec) : Prop :=
  '\n' ∉ r.line ∧ r.line.length < 1023 ∧
    ∃ r1 r2, scanInt r.line = some (r.id, r1) ∧ scanInt r1 = some (r.ty, r2)

theorem mapbcLoop_records (recs : List MapbcRec) (hr : ∀ r ∈ recs, RecOk r) (tail : List Char) (d : RDict) :
    mapbcLoop recs.length (recs.flatMap (fun r => r.line ++ ['\n']) ++ tail) d
      = (recs.foldl (fun d r => (d.store r.id r.ty).1) d, Status.ok) := by
  induction recs generalizing d with
  | nil => rfl
  | cons rc rest ih =>
    obtain ⟨hnl, hlen, r1, r2, h1, h2⟩ := hr rc List.mem_cons_self
    have hsub : r2 <:+ rc.line := (scanInt_suffix _ _ _ h2).trans (scanInt_suffix _ _ _ h1)
    have hnl2 : '\n' ∉ r2 := fun hm => hnl (hsub.subset hm)
    have hlen2 : r2.length < 1023 := Nat.lt_of_le_of_lt hsub.length_le hlen
    simp only [List.length_cons, List.flatMap_cons, List.append_assoc, List.cons_append,
      List.nil_append, mapbcLoop]
    rw [scanInt_append rc.line _ rc.id r1 h1]
    simp only
    rw [scanInt_append r1 _ rc.ty r2 h2]
    simp only
    rw [fgets_line 1023 r2 _ hnl2 hlen2]
    simp only [List.foldl_cons]
    exact ih (fun r hr' => hr r (List.mem_cons_of_mem _ hr')) _

theorem mapbcLoop_total (n : Nat) (s : List Char) (d : RDict) (hd : RDict.Inv d) :
    ((mapbcLoop n s d).2 = Status.ok ∨ (mapbcLoop n s d).2 = Status.failure) ∧ RDict.Inv (mapbcLoop n s d).1 := by
  fun_induction mapbcLoop n s d with
  | case1 => exact ⟨Or.inl rfl, hd⟩
  | case2 => exact ⟨Or.inr rfl, hd⟩
  | case3 => exact ⟨Or.inr rfl, hd⟩
  | case4 _ _ d id _ _ ty _ _ _ ih => exact ih (RDict.store_spec hd id ty).2.1

/-- the text of a well-formed file: a header line, then one line per record -/
def mapbcText (header : List Char) (recs : List MapbcRec) : List Char :=
  header ++ '\n' :: recs.flatMap (fun r => r.line ++ ['\n'])

/-- **`ref_phys_read_mapbc` on a well-formed file**: whatever follows the announced records, the call succeeds and
    the dict receives exactly the `(id, type)` pairs of the records, in order (a later pair for the same id wins) -/
theorem readMapbc_wellformed (d : RDict) (header : List Char) (recs : List MapbcRec) (tail : List Char)
    (hnl : '\n' ∉ header) (hlen : header.length < 1023)
    (hn : ∃ r, scanInt header = some ((recs.length : Int), r)) (hr : ∀ r ∈ recs, RecOk r) :
    readMapbc d (some (mapbcText header recs ++ tail))
      = (recs.foldl (fun d r => (d.store r.id r.ty).1) d, Status.ok) := by
  obtain ⟨r, hn⟩ := hn
  unfold readMapbc mapbcText
  simp only [List.append_assoc, List.cons_append]
  rw [fgets_line 1023 header _ hnl hlen]
  simp only
  rw [scanInt_append header [] _ r hn]
  simp only [Int.toNat_natCast]
  exact mapbcLoop_records recs hr tail d

/-- the pieces joined by single commas -/
def joinComma : List (List Char) → List Char
  | [] => []
  | [p] => p
  | p :: q :: rest => p ++ ',' :: joinComma (q :: rest)

theorem splitOnComma_single (p : List Char) (hp : ',' ∉ p) : splitOnComma p = [p] := by
  fun_induction splitOnComma p with
  | case1 => rfl
  | case2 c t hc => exact absurd (by simp [beq_iff_eq.mp hc]) hp
  | case3 c t hc h r he ih => rw [ih fun hm => hp (List.mem_cons_of_mem _ hm)] at he; cases he; rfl
  | case4 c t hc he ih => rw [ih fun hm => hp (List.mem_cons_of_mem _ hm)] at he; cases he

theorem splitOnComma_append (p t : List Char) (hp : ',' ∉ p) :
    splitOnComma (p ++ ',' :: t) = p :: splitOnComma t := by
  induction p with
  | nil => simp [splitOnComma]
  | cons c cs ih =>
    have hc : (c == ',') = false := by
      have : c ≠ ',' := fun e => hp (by simp [e])
      simpa using this
    simp only [List.cons_append, splitOnComma, hc, Bool.false_eq_true, if_false]
    rw [ih (fun hm => hp (List.mem_cons_of_mem _ hm))]

theorem splitOnComma_join (pieces : List (List Char)) (hne : pieces ≠ []) (hp : ∀ p ∈ pieces, ',' ∉ p) :
    splitOnComma (joinComma pieces) = pieces := by
  match pieces, hne with
  | [p], _ => exact splitOnComma_single p (hp p (by simp))
  | p :: q :: rest, _ =>
    simp only [joinComma]
    rw [splitOnComma_append p _ (hp p (by simp)),
      splitOnComma_join (q :: rest) (by simp) (fun x hx => hp x (List.mem_cons_of_mem _ hx))]

/-- `strtok` on a list of non-empty comma-free pieces joined by commas gives the pieces back -/
theorem splitComma_join (pieces : List (List Char)) (hp : ∀ p ∈ pieces, ',' ∉ p ∧ p ≠ []) :
    splitComma (joinComma pieces) = pieces := by
  unfold splitComma
  by_cases hne : pieces = []
  · subst hne; rfl
  · rw [splitOnComma_join pieces hne (fun p h => (hp p h).1)]
    apply List.filter_eq_self.mpr
    intro p h
    have := (hp p h).2
    cases p with
    | nil => exact absurd rfl this
    | cons _ _ => rfl

/-- **`ref_phys_parse_tags`**: every piece of a well-formed list is stored with the generated type (4000) -/
theorem parseTags_join (d : RDict) (pieces : List (List Char)) (hp : ∀ p ∈ pieces, ',' ∉ p ∧ p ≠ []) :
    parseTags d (joinComma pieces)
      = (pieces.foldl (fun d p => (d.store (atoi p) Refine.Gen.PhysBc.tagsType).1) d, Status.ok) := by
  unfold parseTags
  rw [splitComma_join pieces hp]

end Refine.Lemmas.PhysDist
