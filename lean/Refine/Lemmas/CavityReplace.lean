import Refine.Lemmas.CavityChain

/-!
  `replace` keeps the signed boundary: the side faces `φ(a,n,b)` of the new tets cancel pairwise because
  `ref_cavity_verify_face_manifold` passed (every directed side of every live face has exactly one live face
  carrying the reversed side).
-/
namespace Refine.Lemmas.Cavity
open Refine.Model.Cavity

variable {G : Type} [AddCommGroup G]

def sides (f : Face) : List (Int × Int) := [(f.n0, f.n1), (f.n1, f.n2), (f.n2, f.n0)]

def rev (d : Int × Int) : Int × Int := (d.2, d.1)

def Nondeg (f : Face) : Prop := f.n0 ≠ f.n1 ∧ f.n1 ≠ f.n2 ∧ f.n2 ≠ f.n0

def allSides (fs : List Face) : List (Int × Int) := fs.flatMap sides

theorem hasSide_iff (f : Face) (a b : Int) : f.hasSide a b = true ↔ (a, b) ∈ sides f := by
  simp only [Face.hasSide, sides, Bool.or_eq_true, Bool.and_eq_true, beq_iff_eq, List.mem_cons, Prod.mk.injEq,
    List.not_mem_nil, or_false, or_assoc]

theorem sides_nodup (f : Face) (hf : Nondeg f) : (sides f).Nodup := by
  obtain ⟨h01, h12, h20⟩ := hf
  simp only [sides, List.nodup_cons, List.mem_cons, Prod.mk.injEq, List.not_mem_nil, or_false, not_false_eq_true,
    List.nodup_nil, and_true]
  exact ⟨fun h => h.elim (fun e => h01 e.1) (fun e => h20 e.1.symm), fun e => h12 e.1⟩

theorem hasSide_count (f : Face) (hf : Nondeg f) (a b : Int) :
    (if f.hasSide a b then 1 else 0) = (sides f).count (a, b) := by
  rw [(sides_nodup f hf).count]
  simp only [hasSide_iff]

theorem sideCount_eq_count (fs : List Face) (hnd : ∀ f ∈ fs, Nondeg f) (a b : Int) :
    sideCount fs a b = (allSides fs).count (a, b) := by
  induction fs with
  | nil => simp [sideCount, allSides]
  | cons f t ih =>
    have ih := ih (fun f hf => hnd f (List.mem_cons_of_mem _ hf))
    have hc := hasSide_count f (hnd f List.mem_cons_self) a b
    simp only [sideCount, allSides, List.flatMap_cons, List.count_append, List.filter_cons] at *
    by_cases h : f.hasSide a b = true
    · simp only [h, if_true, List.length_cons] at *; omega
    · simp only [h] at *; simp only [Bool.false_eq_true, if_false] at *; omega

theorem sideVerdict_pass {fs : List Face} {a b : Int} (h : sideVerdict fs a b = .pass) : sideCount fs a b = 1 := by
  unfold sideVerdict at h
  simp only at h
  split at h
  · cases h
  · split at h
    · cases h
    · omega

theorem verifyFacesLoop_pass (fs todo : List Face) (h : verifyFacesLoop fs todo = .pass) :
    ∀ g ∈ todo, sideCount fs g.n1 g.n0 = 1 ∧ sideCount fs g.n2 g.n1 = 1 ∧ sideCount fs g.n0 g.n2 = 1 := by
  induction todo with
  | nil => simp
  | cons g t ih =>
    unfold verifyFacesLoop at h
    cases h1 : sideVerdict fs g.n1 g.n0 <;> rw [h1] at h <;> simp only [] at h <;> try (cases h)
    cases h2 : sideVerdict fs g.n2 g.n1 <;> rw [h2] at h <;> simp only [] at h <;> try (cases h)
    cases h3 : sideVerdict fs g.n0 g.n2 <;> rw [h3] at h <;> simp only [] at h <;> try (cases h)
    intro x hx
    rcases List.mem_cons.mp hx with rfl | hx
    · exact ⟨sideVerdict_pass h1, sideVerdict_pass h2, sideVerdict_pass h3⟩
    · exact ih h x hx

theorem forall_allSides {P : Int × Int → Prop} {fs : List Face}
    (h : ∀ f ∈ fs, P (f.n0, f.n1) ∧ P (f.n1, f.n2) ∧ P (f.n2, f.n0)) : ∀ d ∈ allSides fs, P d := by
  intro d hd
  obtain ⟨f, hf, hdf⟩ := List.mem_flatMap.mp hd
  simp only [sides, List.mem_cons, List.not_mem_nil, or_false] at hdf
  rcases hdf with rfl | rfl | rfl
  exacts [(h f hf).1, (h f hf).2.1, (h f hf).2.2]

theorem verify_sides (fs : List Face) (hnd : ∀ f ∈ fs, Nondeg f) (h : verifyFacesLoop fs fs = .pass) :
    ∀ d ∈ allSides fs, (allSides fs).count (rev d) = 1 :=
  forall_allSides fun g hg => by
    simp only [← sideCount_eq_count fs hnd, rev]
    exact verifyFacesLoop_pass fs fs h g hg

theorem count_of_rev {D : List (Int × Int)} (hrev : ∀ d ∈ D, D.count (rev d) = 1) :
    ∀ d ∈ D, rev d ∈ D ∧ D.count d = 1 := fun d hd =>
  have hm : rev d ∈ D := List.count_pos_iff.mp (by rw [hrev d hd]; exact Nat.one_pos)
  ⟨hm, hrev (rev d) hm⟩

theorem sum_antisym_zero (D : List (Int × Int)) (ψ : Int × Int → G) (hψ : ∀ d, ψ (rev d) = - ψ d)
    (hloop : ∀ d ∈ D, d.1 ≠ d.2) (hrev : ∀ d ∈ D, D.count (rev d) = 1) : (D.map ψ).sum = 0 := by
  have hnd : D.Nodup := List.nodup_iff_count_le_one.mpr (fun d => by
    by_cases hd : d ∈ D
    · rw [(count_of_rev hrev d hd).2]
    · rw [List.count_eq_zero_of_not_mem hd]; exact Nat.zero_le _)
  rw [← List.sum_toFinset ψ hnd]
  refine Finset.sum_involution (fun d _ => rev d) ?_ ?_ ?_ ?_
  · intro d _; rw [hψ]; abel
  · intro d hd _ he
    have hd' : d ∈ D := List.mem_toFinset.mp hd
    apply hloop d hd'
    have := congrArg Prod.fst he
    simpa [rev] using this.symm
  · intro d hd; exact List.mem_toFinset.mpr (count_of_rev hrev d (List.mem_toFinset.mp hd)).1
  · intro d _; simp [rev]

def sideTerm (φ : Int → Int → Int → G) (n : Int) (d : Int × Int) : G := φ d.1 n d.2

theorem sideTerm_rev {φ : Int → Int → Int → G} (hφ : Alt φ) (n : Int) (d : Int × Int) :
    sideTerm φ n (rev d) = - sideTerm φ n d := by
  simp only [sideTerm, rev]
  exact hφ.swap02 d.1 n d.2

theorem tetFaces_eq (a b c d : Int) :
    tetFaces ⟨a, b, c, d⟩ = [⟨b, d, c⟩, ⟨a, c, d⟩, ⟨a, d, b⟩, ⟨a, b, c⟩] := by rfl

theorem mem_newTets {c : Cav} {t : Tet} (h : t ∈ newTets c) :
    ∃ f ∈ c.validFaces, f.has c.node = false ∧ t = ⟨f.n0, f.n1, f.n2, c.node⟩ := by
  simp only [newTets, List.mem_filterMap] at h
  obtain ⟨f, hf, hft⟩ := h
  unfold newTetOf at hft
  split at hft
  · cases hft
  · next hhas => exact ⟨f, hf, by simpa using hhas, (Option.some.inj hft).symm⟩

/-- the cone formula: the boundary of the new tet of a face (0 for an attached face, which has none) is the face plus
    the side faces through the cavity node -/
theorem newBd_eq {φ : Int → Int → Int → G} (hφ : Alt φ) (hd : Diag φ) (n : Int) (f : Face) :
    ((newTetOf n f).map fun t => faceSum φ (tetFaces t)).getD 0 = φF φ f + ((sides f).map (sideTerm φ n)).sum := by
  unfold newTetOf
  simp only [φF, sides, sideTerm, List.map_cons, List.map_nil, List.sum_cons, List.sum_nil, add_zero]
  split
  · next hh =>
    simp only [Face.has, Bool.or_eq_true, beq_iff_eq] at hh
    simp only [Option.map_none, Option.getD_none]
    rcases hh with (rfl | rfl) | rfl
    · -- f = (n,b,c)
      rw [hd, diag2 hφ hd, hφ.swap f.n0 f.n1 f.n2]; abel
    · -- f = (a,n,c)
      rw [diag2 hφ hd, hd, hφ.swap02 f.n0 f.n1 f.n2]; abel
    · -- f = (a,b,n)
      rw [diag2 hφ hd, hd, hφ.swap12 f.n0 f.n1 f.n2]; abel
  · simp only [Option.map_some, Option.getD_some, tetFaces_eq, faceSum, List.map_cons, List.map_nil, List.sum_cons,
      List.sum_nil, φF, add_zero]
    rw [hφ.rot f.n0 f.n2 n]
    abel

/-- `replace` keeps the signed boundary, on a bare face list: the side faces through `n` cancel in pairs
    (`verify_sides`), what is left of the cones is the face list -/
theorem replace_chain_core {φ : Int → Int → Int → G} (hφ : Alt φ) (hd : Diag φ) (n : Int) (fs : List Face)
    (hnd : ∀ f ∈ fs, Nondeg f) (hv : verifyFacesLoop fs fs = .pass) :
    (((fs.filterMap (newTetOf n)).map fun t => faceSum φ (tetFaces t))).sum = faceSum φ fs := by
  rw [cone_sum _ _ _ _ (newBd_eq hφ hd n), ← sum_map_flatMap sides, ← allSides,
    sum_antisym_zero _ _ (sideTerm_rev hφ n) (forall_allSides hnd) (verify_sides fs hnd hv), add_zero, faceSum]

/-- unsigned conformity of the new star: every directed side of a live face occurs exactly once and its reverse
    exactly once, i.e. the triangle `{a,b,n}` is shared by exactly two cone cells -/
theorem verify_two_sided (fs : List Face) (hnd : ∀ f ∈ fs, Nondeg f) (hv : verifyFacesLoop fs fs = .pass) :
    ∀ d ∈ allSides fs, (allSides fs).count d = 1 ∧ (allSides fs).count (rev d) = 1 := fun d hd =>
  ⟨(count_of_rev (verify_sides fs hnd hv) d hd).2, verify_sides fs hnd hv d hd⟩

end Refine.Lemmas.Cavity

/-! `TetNondeg`, `tetFaces_nondeg`, `tetsBd`, `meshBd` are the combinatorial vocabulary of the statements of `Props/C01`
    and carry its namespace; they stand here because the `Cavity2*` lemma files use them too and do not import a
    property file for it. -/

namespace Refine.Props.C01
open Refine.Model.Cavity Refine.Lemmas.Cavity

def TetNondeg (t : Tet) : Prop :=
  t.n0 ≠ t.n1 ∧ t.n0 ≠ t.n2 ∧ t.n0 ≠ t.n3 ∧ t.n1 ≠ t.n2 ∧ t.n1 ≠ t.n3 ∧ t.n2 ≠ t.n3

theorem tetFaces_nondeg (t : Tet) (h : TetNondeg t) : ∀ f ∈ tetFaces t, Nondeg f := by
  obtain ⟨h01, h02, h03, h12, h13, h23⟩ := h
  intro f hf
  rcases t with ⟨a, b, c, d⟩
  rw [tetFaces_eq] at hf
  simp only [List.mem_cons, List.not_mem_nil, or_false] at hf
  rcases hf with rfl | rfl | rfl | rfl <;> simp only [Nondeg] <;>
    refine ⟨?_, ?_, ?_⟩ <;> first | assumption | (exact Ne.symm ‹_›)

variable {G : Type} [AddCommGroup G]

def tetsBd {α : Type} (φ : Int → Int → Int → G) (g : Grid α) : G :=
  (g.tets.valid.map fun t => faceSum φ (tetFaces t)).sum

/-- `Σ_tets ∂φ − Σ_tris φ(tri)`: the signed boundary chain of the mesh (tris in the orientation of the tet face
    they close) -/
def meshBd {α : Type} (φ : Int → Int → Int → G) (g : Grid α) : G :=
  tetsBd φ g - (g.tris.valid.map fun t => φ t.n0 t.n1 t.n2).sum

end Refine.Props.C01

namespace Refine.Lemmas.Cavity2
open Refine.Model.Cavity Refine.Lemmas.Cavity Refine.Props.C01

variable {α : Type}

theorem cellFaces_nondeg {g : Grid α} (hg : ∀ cell t, g.tets.get? cell = some t → TetNondeg t) (new : List Int) :
    ∀ f ∈ cellFaces g new, Nondeg f := by
  intro f hf
  simp only [cellFaces, List.mem_flatMap] at hf
  obtain ⟨cell, _, hc⟩ := hf
  cases hget : g.tets.get? cell with
  | none => rw [hget] at hc; cases hc
  | some t => rw [hget] at hc; exact tetFaces_nondeg t (hg cell t hget) f hc

end Refine.Lemmas.Cavity2
