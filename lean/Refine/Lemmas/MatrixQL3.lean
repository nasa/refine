import Refine.Lemmas.MatrixQL2

/-!
  The loops of `ref_matrix_diag_m` and the represented matrix.  The `do … while` loop of a row keeps `Q (T + f·P) Qᵀ`
  (`qlLoop_repr`); a sub-diagonal entry leaves the represented matrix only when the convergence test declares it
  negligible (`rowStep_repr`: at most one entry when the block is chosen, one when the row is finished); three rows give
  `DiagRun.facts` (MatrixQL4): `m = Q diag(d) Qᵀ + (the dropped entries, each between the two vectors it coupled when
  it was dropped)`.
-/
namespace Refine.Model.Matrix
open Refine Refine.ScalarReal
open _root_.Matrix

/-- what `QL.isSmall` compares `|e|` with: `1.0e-14 * tst1` (relative variant) or `1.0e-14` -/
noncomputable def QL.tol (st : QL ℝ) : ℝ :=
  if relativeConvergence then (10 : ℝ) ^ (-14 : ℤ) * st.tst1 else (10 : ℝ) ^ (-14 : ℤ)

theorem isSmall_bound (st : QL ℝ) (i : Nat) (h : st.isSmall i = true) : |st.getE i| ≤ st.tol := by
  rw [isSmall_iff] at h
  unfold QL.tol
  split_ifs at h ⊢
  · exact h
  · exact h.le

theorem tol_congr {st st' : QL ℝ} (h : st'.tst1 = st.tst1) : st'.tol = st.tol := by
  unfold QL.tol; rw [h]

theorem tol_mono {st st' : QL ℝ} (h : st.tst1 ≤ st'.tst1) : st.tol ≤ st'.tol := by
  unfold QL.tol
  cases relativeConvergence
  · simp
  · simp only [if_true]
    apply mul_le_mul_of_nonneg_left h
    positivity

theorem tol_nonneg {st : QL ℝ} (ht : 0 ≤ st.tst1) : 0 ≤ st.tol := by
  unfold QL.tol
  cases relativeConvergence
  · simp
  · simp only [if_true]; positivity

theorem tstUpd_mono (l : Nat) (st : QL ℝ) : st.tst1 ≤ (tstUpd l st).tst1 := by
  rw [tstUpd_tst1]; exact le_max_left _ _

/-- `Q · offdiag(a, b) · Qᵀ`: the contribution of sub-diagonal entries `a` (between vectors 0, 1) and `b`
    (between vectors 1, 2) in the coordinates of the input matrix -/
noncomputable def dropMat (q : Eig12 ℝ) (a b : ℝ) : Matrix (Fin 3) (Fin 3) ℝ := q.V * triMat 0 0 0 a b * q.Vᵀ

theorem triMat_add (a b c d e a' b' c' d' e' : ℝ) :
    triMat a b c d e + triMat a' b' c' d' e' = triMat (a + a') (b + b') (c + c') (d + d') (e + e') := by
  rw [triMat, triMat, triMat, add_fin_three]
  exact lit3_congr rfl rfl (add_zero 0) rfl rfl rfl (add_zero 0) rfl rfl

theorem dropMat_zero (q : Eig12 ℝ) : dropMat q 0 0 = 0 := by
  have : triMat 0 0 0 0 0 = 0 := by
    rw [triMat, eta_fin_three (0 : Matrix (Fin 3) (Fin 3) ℝ)]
    rfl
  rw [dropMat, this, Matrix.mul_zero, Matrix.zero_mul]

/-- the state the `do … while` loop of the block l..mm works on: `e[mm]` passed the test and is overwritten by 0
    in the first inner step (only `e[1]` matters: `e[2]` is not part of the matrix) -/
def dropE (mm : Nat) (st : QL ℝ) : QL ℝ := { st with e1 := if mm = 1 then 0 else st.e1 }

theorem startDrop (l mm : Nat) (hl : l < mm) (hm : mm ≤ 2) (st : QL ℝ) :
    st.reprMat l = (dropE mm st).reprMat l + dropMat st.d 0 (if mm = 1 then st.e1 else 0) := by
  unfold QL.reprMat dropMat
  rw [show (dropE mm st).d = st.d from rfl, ← Matrix.add_mul, ← Matrix.mul_add]
  congr 2
  have hc : (l = 0 ∧ mm = 1) ∨ mm = 2 := by omega
  rcases hc with ⟨rfl, rfl⟩ | rfl <;> simp [QL.Tmat, dropE, triMat_add]

/-- finishing row l: `d[l] += f`, and `e[l]` is not looked at again -/
theorem endDrop (l : Nat) (hl : l ≤ 2) (s : QL ℝ) :
    s.reprMat l = (s.setD l (s.getD l + s.f)).reprMat (l + 1) +
      dropMat s.d (if l = 0 then s.e0 else 0) (if l = 1 then s.e1 else 0) := by
  have hV : (s.setD l (s.getD l + s.f)).d.V = s.d.V := by
    rcases l with _ | _ | l <;> rfl
  unfold QL.reprMat dropMat
  rw [hV, ← Matrix.add_mul, ← Matrix.mul_add]
  congr 2
  have hc : l = 0 ∨ l = 1 ∨ l = 2 := by omega
  rcases hc with rfl | rfl | rfl <;> simp [QL.Tmat, QL.getD, QL.setD, triMat_add]

/-- what one sweep over the block l..mm does: it leaves the invariant of the block l+1..mm (`e[l]` may have become
    negligible), it keeps the represented matrix once `e[mm]` is dropped, and it has overwritten that entry by 0 -/
theorem sweep_spec (l mm : Nat) (hl : l < mm) (hm : mm ≤ 2) (st : QL ℝ) (h : QLInv l mm st) :
    QLInv (l + 1) mm (sweep l mm st) ∧
    (sweep l mm st).reprMat l = (dropE mm st).reprMat l ∧ dropE mm (sweep l mm st) = sweep l mm st := by
  have ht : 0 ≤ (sweep l mm st).tst1 := by rw [sweep_tst1]; exact h.tst
  have he : (shift l st).getE l ≠ 0 := by rw [shift_getE]; exact h.sub l (Nat.le_refl _) hl
  have hcases : (l = 0 ∧ mm = 1) ∨ (l = 0 ∧ mm = 2) ∨ (l = 1 ∧ mm = 2) := by omega
  rcases hcases with ⟨rfl, rfl⟩ | ⟨rfl, rfl⟩ | ⟨rfl, rfl⟩
  · obtain ⟨a, _, c⟩ := sweep01_repr st (h.sub 0 (by omega) (by omega))
    refine ⟨⟨?_, ht, fun i h1 h2 => by omega⟩, a, ?_⟩
    · rw [sweep01_eq]
      exact closeSweep_orthonormal (innerStep_orthonormal 0 _ he (shift_orthonormal 0 h.orth))
    -- the sweep has overwritten `e[1]` by 0 already
    · show ({ sweep 0 1 st with e1 := 0 } : QL ℝ) = sweep 0 1 st
      rw [← c]
  · obtain ⟨a, b⟩ := sweep_orthonormal_two st h.orth (h.sub 0 (by omega) (by omega)) (h.sub 1 (by omega) (by omega))
    refine ⟨⟨a, ht, fun i h1 h2 => ?_⟩,
      sweep02_repr st (h.sub 0 (by omega) (by omega)) (h.sub 1 (by omega) (by omega)), rfl⟩
    obtain rfl : i = 1 := by omega
    exact b
  · refine ⟨⟨?_, ht, fun i h1 h2 => by omega⟩, (sweep12_repr st (h.sub 1 (by omega) (by omega))).1, rfl⟩
    rw [sweep12_eq]
    exact closeSweep_orthonormal (innerStep_orthonormal 1 _ he (shift_orthonormal 1 h.orth))

theorem qlLoop_repr (fuel l mm : Nat) (hl : l < mm) (hm : mm ≤ 2) (st st' : QL ℝ) (h : QLInv l mm st)
    (hq : qlLoop fuel l mm st = .ok st') :
    Orthonormal st'.d ∧ st'.reprMat l = (dropE mm st).reprMat l ∧ st'.isSmall l = true ∧ st'.tst1 = st.tst1 := by
  obtain ⟨⟨hJ, r1, _, r3⟩, hs⟩ := qlLoop_rule
    (I := fun s => QLInv l mm s ∧ (dropE mm s).reprMat l = (dropE mm st).reprMat l ∧ s.tst1 = st.tst1)
    (J := fun s => QLInv (l + 1) mm s ∧
      s.reprMat l = (dropE mm st).reprMat l ∧ dropE mm s = s ∧ s.tst1 = st.tst1)
    (fun s ⟨hI, hr, ht⟩ =>
      let ⟨a, b, c⟩ := sweep_spec l mm hl hm s hI; ⟨a, by rw [b, hr], c, by rw [sweep_tst1, ht]⟩)
    (fun s ⟨hJ, hr, hd, ht⟩ hs => ⟨hJ.of_not_small hs, by rw [hd, hr], ht⟩)
    fuel st st' ⟨h, rfl, rfl⟩ hq
  exact ⟨hJ.orth, r1, hs, r3⟩

/-- the entry dropped when the active block of a row is chosen: only row 0 with block 0..1 drops a stored entry
    (`e[1]`, overwritten by 0 in the first inner step); `e[2]` is 0 and not part of the matrix -/
noncomputable def rowEps (l : Nat) (st : QL ℝ) : ℝ :=
  if l = 0 ∧ (tstUpd l st).findSmall l (3 - l) = 1 then st.e1 else 0

theorem rowStep_repr (l : Nat) (hl : l ≤ 2) (st st' : QL ℝ) (ho : Orthonormal st.d)
    (h : rowStep l st = .ok st') :
    Orthonormal st'.d ∧
    st.reprMat l = st'.reprMat (l + 1) + dropMat st.d 0 (rowEps l st) +
        dropMat st'.d (if l = 0 then st'.e0 else 0) (if l = 1 then st'.e1 else 0) ∧
      |rowEps l st| ≤ st'.tol ∧ |st'.getE l| ≤ st'.tol ∧ st.tst1 ≤ st'.tst1 := by
  obtain ⟨mm, s, T⟩ := rowStep_ok hl h
  obtain rfl := T.result
  have h1 := T.le_mm
  have h2 := T.mm_le
  have hsm := T.small
  have hs := T.loop
  obtain ⟨ud, -, u1, -, -, ut⟩ := tstUpd_spec l st
  have hrepr1 : (tstUpd l st).reprMat l = st.reprMat l := by rw [tstUpd_eq]; rfl
  -- the block is chosen: `e[mm]` (a stored entry only for `mm = 1`) leaves the matrix
  have start : Orthonormal s.d ∧ (tstUpd l st).reprMat l = s.reprMat l + dropMat st.d 0 (rowEps l st) ∧
      s.isSmall l = true ∧ s.tst1 = (tstUpd l st).tst1 ∧ |rowEps l st| ≤ (tstUpd l st).tol := by
    unfold rowEps
    rw [T.find]
    split_ifs at hs with hml
    · subst hml; subst hs
      rw [if_neg (by omega), dropMat_zero, add_zero, abs_zero]
      exact ⟨by rw [ud]; exact ho, rfl, hsm, rfl, tol_nonneg ut⟩
    · have hlt : l < mm := by omega
      obtain ⟨hso, r1, r2, r3⟩ := qlLoop_repr 30 l mm hlt h2 _ s
        ⟨by rw [ud]; exact ho, ut, fun i a b => ne_zero_of_not_isSmall _ _ ut (T.notSmall i a b)⟩ hs
      by_cases hm1 : mm = 1
      · refine ⟨hso, ?_, r2, r3, ?_⟩
        · rw [startDrop l mm hlt h2, r1, ud, u1, if_pos hm1, if_pos ⟨by omega, hm1⟩]
        · rw [if_pos ⟨by omega, hm1⟩, ← u1]
          have := isSmall_bound _ mm hsm
          rw [hm1] at this; exact this
      · refine ⟨hso, ?_, r2, r3, ?_⟩
        · rw [startDrop l mm hlt h2, r1, ud, if_neg hm1, if_neg (fun hh => hm1 hh.2)]
        · rw [if_neg (fun hh => hm1 hh.2), abs_zero]; exact tol_nonneg ut
  obtain ⟨hso, q, hsl, hst, hε⟩ := start
  -- the row is finished: `d[l] += f`, and `e[l]` is not looked at again
  have hT : (s.setD l (s.getD l + s.f)).tst1 = s.tst1 := setD_tst1 ..
  refine ⟨orthonormal_setD _ _ hso, ?_, by rw [tol_congr (hT.trans hst)]; exact hε, ?_, ?_⟩
  · have hd : (s.setD l (s.getD l + s.f)).d.V = s.d.V := by rcases l with _ | _ | l <;> rfl
    rw [← hrepr1, q, endDrop l hl s, setD_e0, setD_e1]
    unfold dropMat; rw [hd]; abel
  · rw [setD_getE, tol_congr hT]; exact isSmall_bound s l hsl
  · rw [hT, hst]; exact tstUpd_mono l st

end Refine.Model.Matrix
