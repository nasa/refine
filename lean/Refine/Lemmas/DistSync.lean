import Refine.Model.Dist
import Refine.Lemmas.Dist
import Refine.Lemmas.ListFacts
import Refine.Lemmas.CommBlind

/-!
  `ref_node_synchronize_globals` as the model runs it, loop by loop, equals a closed form.  `syncGlobals` is
  `eliminateUnused ∘ shiftNew`, and each stage has a closed form of its own, usable alone:

  * `shiftNew_eq`, `shiftRank_eq`: `ref_node_shift_new_globals` adds the rank's offset to every id `≥ old_n_global`
    (`shiftedRank`); asks for sorted keys only.
  * `eliminateUnused_eq`: `ref_node_eliminate_unused_globals` subtracts from every id the number of unused ids below it
    (`elimClosed`), under `ElimHyp`: the sorted unused lists `Us w` are jointly duplicate free and keys are sorted (that
    no key is unused is not needed: `Dist.elim_append` holds of every id).  One slice of ranks is `sliceStep_eq`, the loop
    `elimLoop_eq` with invariant `loopState`.
  * `writeBack_length`, `writeBack_getD_not_mem`, `writeBack_getD`: `global[]` rebuilt from `sorted_global`.

  Under `SyncInv` (same `old_n_global` on all ranks, sorted keys, `IdInv` of `Lemmas/Dist.lean` on `absWorld old w`) the
  stages compose: `syncGlobals_eq` — every rank ends as `finalRank`, its ids `IdWorld.newId` of the old ones;
  `mem_syncGlobals` and `syncGlobals_table` read that per rank and per slot.
-/

namespace Refine.Lemmas.DistSync
open Refine.Model.Dist Refine.Model.NodeIds Refine.Lemmas.Dist
open Refine.Model.Comm (World isum RefType GatherV)
open Refine.Lemmas.Comm (isum_eq_sum)

/-! ### `ref_node_shift_new_globals` -/

theorem shiftNew_eq (w : World NodeIds) :
    shiftNew w = w.mapIdx fun r s => shiftRank (w.map newNodes) r s := by
  unfold shiftNew
  rw [Refine.Lemmas.Comm.allgather_eq RefType.int rfl, List.map_map]
  have : (w.map ((fun _ => (Refine.Model.Comm.Status.ok, w.map newNodes)) ∘ newNodes))
      = w.map fun _ => (Refine.Model.Comm.Status.ok, w.map newNodes) := rfl
  rw [this]
  show List.mapIdx _ (List.zip w (w.map fun _ => (Refine.Model.Comm.Status.ok, w.map newNodes))) = _
  rw [ListFacts.zip_map_self, ListFacts.mapIdx_map]

/-- descending list: shifting the leading run of entries `≥ old` is shifting every entry `≥ old` -/
theorem shift_prefix (old off : Int) (r : List (Int × Nat)) (hr : r.Pairwise fun a b => b.1 ≤ a.1) :
    (r.take (r.takeWhile fun e => decide (e.1 ≥ old)).length).map (fun e => (e.1 + off, e.2))
        ++ r.drop (r.takeWhile fun e => decide (e.1 ≥ old)).length
      = r.map fun e => (shiftId old off e.1, e.2) := by
  induction r with
  | nil => rfl
  | cons x xs ih =>
    rw [List.pairwise_cons] at hr
    by_cases hx : x.1 ≥ old
    · simp only [List.takeWhile_cons, hx, decide_true, if_true, List.length_cons, List.take_succ_cons,
        List.map_cons, List.drop_succ_cons, List.cons_append]
      rw [ih hr.2]
      simp [shiftId, hx]
    · simp only [List.takeWhile_cons, hx, decide_false, Bool.false_eq_true, if_false, List.length_nil,
        List.take_zero, List.map_nil, List.drop_zero, List.nil_append]
      symm
      have : ∀ e ∈ x :: xs, (shiftId old off e.1, e.2) = e := by
        intro e he
        have hle : e.1 ≤ x.1 := by
          rcases List.mem_cons.mp he with rfl | he
          · exact le_refl _
          · exact hr.1 e he
        have : ¬ e.1 ≥ old := by omega
        simp [shiftId, this]
      rw [List.map_congr_left this, List.map_id']

theorem shiftTail_eq (old off : Int) (sorted : List (Int × Nat)) (hs : (sorted.map (·.1)).Pairwise (· ≤ ·)) :
    shiftTail old off sorted = sorted.map fun e => (shiftId old off e.1, e.2) := by
  unfold shiftTail
  have hr : sorted.reverse.Pairwise fun a b => b.1 ≤ a.1 := by
    rw [List.pairwise_reverse]
    rw [List.pairwise_map] at hs
    exact hs
  simp only []
  rw [shift_prefix old off sorted.reverse hr, ← List.map_reverse, List.reverse_reverse]

/-- closed form of one rank after `ref_node_shift_new_globals` -/
def shiftedRank (old off total : Int) (s : NodeIds) : NodeIds :=
  { s with global := s.global.map fun g => if g ≥ 0 ∧ g ≥ old then g + off else g,
           sorted := s.sorted.map fun e => (shiftId old off e.1, e.2),
           unusedStk := s.unusedStk.map (shiftId old off),
           oldN := total + old, newN := total + old }

theorem shiftRank_eq (ev : List Int) (r : Nat) (s : NodeIds) (hs : s.keys.Pairwise (· ≤ ·)) :
    shiftRank ev r s = shiftedRank s.oldN (isum (ev.take r)) (isum ev) s := by
  unfold shiftRank shiftedRank
  by_cases h0 : isum (ev.take r) = 0
  · simp only [h0, ne_eq, not_true_eq_false, if_false, NodeIds.initNGlobal]
    have h1 : (s.global.map fun g => if g ≥ 0 ∧ g ≥ s.oldN then g + 0 else g) = s.global :=
      List.map_id'' (fun g => by split <;> simp) _
    have h2 : (s.sorted.map fun e => (shiftId s.oldN 0 e.1, e.2)) = s.sorted :=
      List.map_id'' (fun e => by simp [shiftId]) _
    have h3 : s.unusedStk.map (shiftId s.oldN 0) = s.unusedStk :=
      List.map_id'' (fun e => by simp [shiftId]) _
    rw [h1, h2, h3]
  · simp only [ne_eq, h0, not_false_eq_true, if_true, NodeIds.initNGlobal]
    rw [shiftTail_eq _ _ _ hs]
    rfl

theorem flatten_mapIdx_window {α β : Type} (f : List α → List β) (L : List (List α)) : ∀ a0 a1 : Nat,
    (L.mapIdx fun r u => if a0 ≤ r ∧ r < a1 then f u else []).flatten
      = (((L.take a1).drop a0).map f).flatten := by
  induction L with
  | nil => intro a0 a1; simp
  | cons u L ih =>
    intro a0 a1
    rw [List.mapIdx_cons]
    have hshift : (fun (i : Nat) (u : List α) => if a0 ≤ i + 1 ∧ i + 1 < a1 then f u else [])
        = fun i u => if a0 - 1 ≤ i ∧ i < a1 - 1 then f u else [] := by
      funext i u
      have : (a0 ≤ i + 1 ∧ i + 1 < a1) ↔ (a0 - 1 ≤ i ∧ i < a1 - 1) := by omega
      simp only [this]
    rw [hshift, List.flatten_cons, ih (a0 - 1) (a1 - 1)]
    rcases a1 with _ | n <;> rcases a0 with _ | m <;>
      simp only [Nat.le_zero_eq, Nat.add_one_ne_zero, Nat.lt_irrefl, Nat.le_refl, Nat.zero_lt_succ, false_and, and_false, and_self,
        if_true, if_false, Nat.add_sub_cancel, Nat.zero_sub, List.take_zero, List.drop_zero, List.drop_nil,
        List.take_succ_cons, List.drop_succ_cons, List.map_cons, List.map_nil, List.flatten_cons, List.flatten_nil,
        List.nil_append]

theorem sum_drop_take (l : List Int) (a b : Nat) (h0 : ∀ x ∈ l.take a, x = 0)
    (h1 : ∀ x ∈ (l.drop a).drop b, x = 0) : ((l.drop a).take b).sum = l.sum := by
  have : l = l.take a ++ ((l.drop a).take b ++ (l.drop a).drop b) := by
    rw [List.take_append_drop, List.take_append_drop]
  conv_rhs => rw [this]
  rw [List.sum_append, List.sum_append, List.sum_eq_zero h0, List.sum_eq_zero h1]; omega

/-! ### the slice loop of `ref_node_eliminate_unused_globals` -/

/-- the sorted local unused list of one rank (`ref_sort_in_place_glob` at the top of the function) -/
def sortedUnused (s : NodeIds) : List Int := sortGlob (unusedArr s)
def Us (w : World NodeIds) : List (List Int) := w.map sortedUnused
/-- the unused ids of the ranks already processed when the slice starting at rank `a` begins -/
def Pfx (w : World NodeIds) (a : Nat) : List Int := ((Us w).take a).flatten
/-- the loop state when the slice starting at rank `a` begins (the invariant of the slice loop, `sliceStep_eq`,
    `elimLoop_eq`): every key list is `elim (Pfx w a)` of the original; the ranks below `a` have been gathered and hold an
    empty unused list; the waiting ranks hold theirs reduced by `Pfx w a` -/
def loopState (w : World NodeIds) (a : Nat) : World ElimSt :=
  w.mapIdx fun r s => ⟨s.keys.map (elim (Pfx w a)), if r < a then [] else (sortedUnused s).map (elim (Pfx w a))⟩
/-- `counts[]`: the number of unused ids of every rank, as every rank holds it after the `ref_mpi_allgather` -/
def countsOf (w : World NodeIds) : List Int := w.map fun s => (s.nUnused : Int)

structure ElimHyp (w : World NodeIds) : Prop where
  nodup : (Us w).flatten.Nodup
  keys_sorted : ∀ s ∈ w, s.keys.Pairwise (· ≤ ·)

theorem sortedUnused_length (s : NodeIds) : (sortedUnused s).length = s.nUnused := by
  unfold sortedUnused NodeIds.nUnused
  rw [(sortGlob_perm _).length_eq]; simp [unusedArr]

/-- the contribution of every rank to the gather of the slice `[a0, a1)` -/
def sliceLocals (w : World NodeIds) (a0 a1 : Nat) : List (List Int) :=
  w.mapIdx fun r s => if a0 ≤ r ∧ r < a1 then (sortedUnused s).map (elim (Pfx w a0)) else []

theorem activeCounts_eq (w : World NodeIds) (a0 a1 : Nat) :
    activeCounts (countsOf w) a0 a1 = Refine.Lemmas.Comm.lensI (sliceLocals w a0 a1) := by
  unfold activeCounts countsOf sliceLocals Refine.Lemmas.Comm.lensI
  apply List.ext_getElem
  · simp
  · intro i h1 h2
    simp only [List.getElem_mapIdx, List.getElem_map]
    split
    · simp [sortedUnused_length]
    · simp

theorem activeCounts_getElem (counts : List Int) (a0 a1 i : Nat) (h : i < (activeCounts counts a0 a1).length) :
    (activeCounts counts a0 a1)[i] = if a0 ≤ i ∧ i < a1 then counts[i]'(by simpa [activeCounts] using h) else 0 := by
  simp [activeCounts]

theorem loopState_length (w : World NodeIds) (a : Nat) : (loopState w a).length = w.length := by
  simp [loopState]

theorem sliceLocals_length (w : World NodeIds) (a0 a1 : Nat) : (sliceLocals w a0 a1).length = w.length := by
  simp [sliceLocals]

theorem sliceLocal_elem (w : World NodeIds) (a0 a1 : Nat) (i : Nat) (hi : i < w.length) :
    ((loopState w a0)[i]'(by rw [loopState_length]; exact hi)).unused.take
        ((activeCounts (countsOf w) a0 a1).getD i 0).toNat
      = (sliceLocals w a0 a1)[i]'(by rw [sliceLocals_length]; exact hi) := by
  have hac : (activeCounts (countsOf w) a0 a1).getD i 0
      = if a0 ≤ i ∧ i < a1 then ((w[i]).nUnused : Int) else 0 := by
    have hl : i < (activeCounts (countsOf w) a0 a1).length := by simpa [activeCounts, countsOf] using hi
    rw [List.getD_eq_getElem?_getD, List.getElem?_eq_getElem hl, activeCounts_getElem]
    simp [countsOf]
  rw [hac]
  simp only [loopState, sliceLocals, List.getElem_mapIdx]
  by_cases hwin : a0 ≤ i ∧ i < a1
  · have : ¬ i < a0 := by omega
    simp only [hwin, and_self, if_true, this, if_false, Int.toNat_natCast]
    rw [List.take_of_length_le]
    simp [sortedUnused_length]
  · simp only [hwin, if_false]
    simp

theorem slice_total (w : World NodeIds) (a0 a1 : Nat) :
    (isum (((activeCounts (countsOf w) a0 a1).drop a0).take (a1 - a0))).toNat
      = (sliceLocals w a0 a1).flatten.length := by
  have hsum : ((((activeCounts (countsOf w) a0 a1).drop a0).take (a1 - a0))).sum
      = (activeCounts (countsOf w) a0 a1).sum := by
    apply sum_drop_take
    · intro x hx
      obtain ⟨i, hi, rfl⟩ := List.mem_iff_getElem.mp hx
      have hi' : i < a0 := by
        have := hi; simp only [List.length_take] at this; omega
      rw [List.getElem_take, activeCounts_getElem]
      have : ¬ (a0 ≤ i ∧ i < a1) := by omega
      simp [this]
    · intro x hx
      obtain ⟨i, hi, rfl⟩ := List.mem_iff_getElem.mp hx
      rw [List.getElem_drop, List.getElem_drop, activeCounts_getElem]
      have : ¬ (a0 ≤ a0 + (a1 - a0 + i) ∧ a0 + (a1 - a0 + i) < a1) := by omega
      rw [if_neg this]
  rw [isum_eq_sum, hsum, activeCounts_eq, Refine.Lemmas.Comm.lensI_sum]
  exact Int.toNat_natCast _

theorem gatherActive_eq (w : World NodeIds) (a0 a1 : Nat) :
    gatherActive (countsOf w) a0 a1 (loopState w a0) = w.map fun _ => (sliceLocals w a0 a1).flatten := by
  unfold gatherActive
  simp only []
  have hargs : ((loopState w a0).mapIdx fun r s =>
        (⟨s.unused.take ((activeCounts (countsOf w) a0 a1).getD r 0).toNat, activeCounts (countsOf w) a0 a1,
          List.replicate (isum (((activeCounts (countsOf w) a0 a1).drop a0).take (a1 - a0))).toNat 0⟩ : GatherV Int))
      = Refine.Lemmas.Comm.gathervWorld (sliceLocals w a0 a1)
          (fun _ => List.replicate (isum (((activeCounts (countsOf w) a0 a1).drop a0).take (a1 - a0))).toNat 0) := by
    unfold Refine.Lemmas.Comm.gathervWorld
    apply List.ext_getElem
    · simp [loopState_length, sliceLocals_length]
    · intro i h1 h2
      have hi : i < w.length := by simpa [loopState_length] using h1
      simp only [List.getElem_mapIdx]
      rw [sliceLocal_elem w a0 a1 i hi]
      congr 1
      exact activeCounts_eq w a0 a1
  rw [hargs, Refine.Lemmas.Comm.allgatherv_eq RefType.long rfl]
  · simp [sliceLocals_length]
  · intro r _
    rw [List.length_replicate, slice_total w a0 a1]

theorem sliceLocals_flatten (w : World NodeIds) (a0 a1 : Nat) :
    (sliceLocals w a0 a1).flatten = ((((Us w).take a1).drop a0).flatten).map (elim (Pfx w a0)) := by
  have : sliceLocals w a0 a1
      = (Us w).mapIdx fun r u => if a0 ≤ r ∧ r < a1 then (List.map (elim (Pfx w a0))) u else [] := by
    unfold sliceLocals Us
    rw [ListFacts.mapIdx_map]
  rw [this, flatten_mapIdx_window, List.map_flatten]

theorem Pfx_succ (w : World NodeIds) (a0 a1 : Nat) (h : a0 ≤ a1) :
    Pfx w a1 = Pfx w a0 ++ (((Us w).take a1).drop a0).flatten := by
  unfold Pfx
  have : (Us w).take a0 = ((Us w).take a1).take a0 := by rw [List.take_take, Nat.min_eq_left h]
  rw [← List.flatten_append, this, List.take_append_drop]

theorem Pfx_sublist (w : World NodeIds) (a : Nat) : (Pfx w a).Sublist (Us w).flatten :=
  List.Sublist.flatten (List.take_sublist _ _)

theorem sliceStep_eq (w : World NodeIds) (h : ElimHyp w) (a0 a1 : Nat) (h01 : a0 < a1) :
    sliceStep (countsOf w) a0 a1 (loopState w a0) = loopState w a1 := by
  unfold sliceStep
  simp only []
  rw [gatherActive_eq w a0 a1, sliceLocals_flatten]
  -- what the slice does to any sorted list that was offset by the processed prefix
  have step : ∀ L : List Int, L.Pairwise (· ≤ ·) →
      elimOffset (L.map (elim (Pfx w a0))) (sortGlob (((((Us w).take a1).drop a0).flatten).map (elim (Pfx w a0))))
        = L.map (elim (Pfx w a1)) := fun L hL => by
    have hP := Pfx_succ w a0 a1 (by omega)
    rw [hP]
    exact elimOffset_step _ _ L _ (hP ▸ (Pfx_sublist w a1).nodup h.nodup) hL (sortGlob_sorted _) (sortGlob_perm _)
  apply List.ext_getElem
  · simp [loopState]
  · intro i hi1 hi2
    have hi : i < w.length := by simpa [loopState] using hi2
    simp only [List.getElem_mapIdx, List.getElem_zip, List.getElem_map, loopState]
    rw [step _ (h.keys_sorted _ (List.getElem_mem hi))]
    congr 1
    by_cases hwin : a0 ≤ i ∧ i < a1
    · rw [if_pos hwin, if_pos hwin.2]; rfl
    · by_cases hlo : i < a0
      · rw [if_neg hwin, if_pos hlo, if_pos (by omega)]; rfl
      · rw [if_neg hwin, if_neg hlo, if_neg (by omega)]
        exact step _ (sortGlob_sorted _)

theorem countsOf_length (w : World NodeIds) : (countsOf w).length = w.length := by simp [countsOf]

theorem elimLoop_eq (w : World NodeIds) (h : ElimHyp w) (chunk : Int) (fuel a0 : Nat) (st : World ElimSt)
    (hst : st = loopState w a0) (h1 : a0 ≤ w.length) (h2 : w.length ≤ a0 + fuel) :
    elimLoop (countsOf w) chunk fuel a0 st = loopState w w.length := by
  fun_induction elimLoop (countsOf w) chunk fuel a0 st with
  | case1 a0 st => rw [hst, show a0 = w.length by omega]
  | case2 f a0 st hlt a1 ih =>
    rw [countsOf_length] at hlt
    have hp := activeParts_progress (countsOf w) chunk a0 (by rw [countsOf_length]; exact hlt)
    rw [countsOf_length] at hp
    exact ih (by rw [hst]; exact sliceStep_eq w h a0 _ hp.1) hp.2 (by omega)
  | case3 f a0 st hlt =>
    rw [countsOf_length] at hlt
    rw [hst, show a0 = w.length by omega]

theorem Pfx_all (w : World NodeIds) : Pfx w w.length = (Us w).flatten := by
  unfold Pfx
  rw [List.take_of_length_le (by simp [Us])]

theorem loopState_zero (w : World NodeIds) :
    loopState w 0 = w.map fun s => ⟨s.keys, sortGlob (unusedArr s)⟩ := by
  unfold loopState
  apply List.ext_getElem
  · simp
  · intro i h1 h2
    have hP : Pfx w 0 = [] := by simp [Pfx]
    simp only [List.getElem_mapIdx, List.getElem_map, hP, Nat.not_lt_zero, if_false]
    have : ∀ l : List Int, l.map (elim []) = l := List.map_id'' elim_nil
    rw [this, this]; rfl

theorem countsOf_eq_lens (w : World NodeIds) : countsOf w = Refine.Lemmas.Comm.lensI (Us w) := by
  simp [countsOf, Us, Refine.Lemmas.Comm.lensI, sortedUnused_length]

theorem zip_keys {α : Type} (f : Int → Int) (l : List (Int × α)) :
    (((l.map (·.1)).map f).zip l).map (fun ke => (ke.1, ke.2.2)) = l.map fun e => (f e.1, e.2) := by
  induction l with
  | nil => rfl
  | cons x xs ih => simp only [List.map_cons, List.zip_cons_cons, ih]

/-- closed form of `ref_node_eliminate_unused_globals` -/
def elimClosed (w : World NodeIds) : World NodeIds :=
  w.map fun s =>
    ({ s with sorted := s.sorted.map fun (e : Int × Nat) => (elim (Us w).flatten e.1, e.2),
              global := writeBack s.global (s.sorted.map fun (e : Int × Nat) => (elim (Us w).flatten e.1, e.2)),
              unusedStk := [] }).initNGlobal (s.oldN - ((Us w).flatten.length : Int))

theorem eliminateUnused_eq (w : World NodeIds) (h : ElimHyp w) : eliminateUnused w = elimClosed w := by
  unfold eliminateUnused
  simp only []
  have hcounts : headCounts (Refine.Model.Comm.allgather RefType.int (w.map fun s => (s.nUnused : Int)))
      = countsOf w := by
    rw [Refine.Lemmas.Comm.allgather_eq RefType.int rfl]
    unfold countsOf headCounts
    cases w with
    | nil => rfl
    | cons s t => rfl
  rw [hcounts, ← loopState_zero, elimLoop_eq w h _ _ 0 _ rfl (Nat.zero_le _) (by omega)]
  have htot : isum (countsOf w) = ((Us w).flatten.length : Int) := by
    rw [isum_eq_sum, countsOf_eq_lens, Refine.Lemmas.Comm.lensI_sum]
  rw [htot]
  unfold elimClosed
  apply List.ext_getElem
  · simp [loopState]
  · intro i h1 h2
    have hi : i < w.length := by simpa using h2
    simp only [List.getElem_map, List.getElem_zip, loopState, List.getElem_mapIdx, hi, if_true, Pfx_all,
      List.reverse_nil]
    have hk : (w[i]).keys = (w[i]).sorted.map (·.1) := rfl
    rw [hk, zip_keys]

/-- what `ref_node_synchronize_globals` sees of a world (see `IdWorld`) -/
def absWorld (old : Int) (w : World NodeIds) : IdWorld :=
  { old := old, k := w.map fun s => (newNodes s).toNat, live := w.map (·.keys), unused := w.map unusedArr }

/-- the hypotheses of the headline theorem on the concrete world -/
structure SyncInv (old : Int) (w : World NodeIds) : Prop where
  old_eq : ∀ s ∈ w, s.oldN = old
  new_ge : ∀ s ∈ w, s.oldN ≤ s.newN
  keys_sorted : ∀ s ∈ w, s.keys.Pairwise (· ≤ ·)
  inv : IdInv (absWorld old w)

/-- the state of rank `r` after `ref_node_synchronize_globals`, in closed form -/
def finalRank (A : IdWorld) (r : Nat) (s : NodeIds) : NodeIds :=
  { s with sorted := s.sorted.map fun (e : Int × Nat) => (A.newId r e.1, e.2),
           global := writeBack (s.global.map fun g => if g ≥ 0 ∧ g ≥ A.old then g + A.off r else g)
                      (s.sorted.map fun (e : Int × Nat) => (A.newId r e.1, e.2)),
           unusedStk := [], oldN := A.N, newN := A.N }

theorem sum_cast (k : List Nat) : (k.map Int.ofNat).sum = ((k.sum : Nat) : Int) := by
  induction k with
  | nil => rfl
  | cons a k ih => simp [ih]

theorem sortedUnused_shifted (old : Int) (s : NodeIds) (off tot : Int) :
    (sortedUnused (shiftedRank old off tot s)).Perm ((unusedArr s).map (shiftId old off)) := by
  unfold sortedUnused
  refine (sortGlob_perm _).trans ?_
  simp [unusedArr, shiftedRank, List.map_reverse]

theorem keys_shifted (old : Int) (s : NodeIds) (off tot : Int) :
    (shiftedRank old off tot s).keys = s.keys.map (shiftId old off) := by
  show (s.sorted.map _).map _ = (s.sorted.map _).map _
  rw [List.map_map, List.map_map]
  rfl

theorem ev_eq (old : Int) (w : World NodeIds) (h : SyncInv old w) :
    w.map newNodes = (absWorld old w).k.map Int.ofNat := by
  simp only [absWorld, List.map_map]
  apply List.map_congr_left
  intro s hs
  have := h.new_ge s hs
  simp only [Function.comp, newNodes]
  exact (Int.toNat_of_nonneg (by omega)).symm

/-- `PrefSum.prefSum_getD` written with `List.range` -/
theorem range_getD_sum (k : List Nat) : ∀ r, ((List.range r).map fun q => k.getD q 0).sum = (k.take r).sum :=
  Refine.Lemmas.Comm.prefSum_getD k

theorem off_eq (old : Int) (w : World NodeIds) (h : SyncInv old w) (r : Nat) :
    isum ((w.map newNodes).take r) = (absWorld old w).off r := by
  rw [isum_eq_sum, ev_eq old w h, ← List.map_take, sum_cast, IdWorld.off_eq_take]

theorem total_eq (old : Int) (w : World NodeIds) (h : SyncInv old w) :
    isum (w.map newNodes) + old = (absWorld old w).M := by
  rw [isum_eq_sum, ev_eq old w h, sum_cast]
  unfold IdWorld.M
  have : (absWorld old w).old = old := rfl
  rw [this]; omega

theorem shiftNew_closed (old : Int) (w : World NodeIds) (h : SyncInv old w) :
    shiftNew w = w.mapIdx fun r s => shiftedRank old ((absWorld old w).off r) (isum (w.map newNodes)) s := by
  rw [shiftNew_eq, List.mapIdx_eq_mapIdx_iff]
  intro i hi
  rw [shiftRank_eq _ _ _ (h.keys_sorted _ (List.getElem_mem hi)), h.old_eq _ (List.getElem_mem hi),
    off_eq old w h]

theorem Us_perm (old : Int) (w : World NodeIds) (h : SyncInv old w) :
    (Us (shiftNew w)).flatten.Perm (absWorld old w).shiftedUnused := by
  rw [shiftNew_closed old w h]
  unfold IdWorld.shiftedUnused
  apply List.Perm.flatten_congr
  rw [List.forall₂_iff_get]
  refine ⟨by simp [Us, absWorld], fun i h1 h2 => ?_⟩
  simp only [List.get_eq_getElem, Us, List.getElem_map, List.getElem_mapIdx, absWorld]
  exact sortedUnused_shifted old _ _ _

theorem elimHyp_shiftNew (old : Int) (w : World NodeIds) (h : SyncInv old w) : ElimHyp (shiftNew w) := by
  refine ⟨(Us_perm old w h).nodup_iff.mpr h.inv.unused_nodup, fun s' hs' => ?_⟩
  rw [shiftNew_closed old w h] at hs'
  obtain ⟨i, hi, rfl⟩ := List.mem_iff_getElem.mp hs'
  have hi' : i < w.length := by simpa using hi
  simp only [List.getElem_mapIdx]
  rw [keys_shifted, List.pairwise_map]
  refine (h.keys_sorted _ (List.getElem_mem hi')).imp ?_
  intro a b hab
  rcases Int.lt_or_eq_of_le hab with hlt | heq
  · exact le_of_lt (shiftId_strictMono _ _ (off_nonneg _ i) a b hlt)
  · rw [heq]

section
variable (old : Int) (w : World NodeIds) (h : SyncInv old w)
include h

theorem syncGlobals_eq : syncGlobals w = w.mapIdx fun r s => finalRank (absWorld old w) r s := by
  unfold syncGlobals
  rw [eliminateUnused_eq _ (elimHyp_shiftNew old w h)]
  have hperm := Us_perm old w h
  unfold elimClosed
  generalize hU : (Us (shiftNew w)).flatten = U at hperm
  rw [shiftNew_closed old w h]
  apply List.ext_getElem
  · simp
  · intro i h1 h2
    have hi : i < w.length := by simpa using h2
    simp only [List.getElem_map, List.getElem_mapIdx, shiftedRank, finalRank, NodeIds.initNGlobal, List.map_map]
    have hN : isum (w.map newNodes) + old - (U.length : Int) = (absWorld old w).N := by
      rw [total_eq old w h, hperm.length_eq]; rfl
    have hs : (List.map ((fun (e : Int × Nat) => (elim U e.1, e.2)) ∘ fun e => (shiftId old ((absWorld old w).off i) e.1, e.2))
        (w[i]).sorted) = List.map (fun (e : Int × Nat) => ((absWorld old w).newId i e.1, e.2)) (w[i]).sorted := by
      apply List.map_congr_left
      intro e _
      simp only [Function.comp, IdWorld.newId]
      rw [elim_perm U _ hperm]; rfl
    rw [hs, hN]
    rfl

end

theorem mem_syncGlobals {old : Int} {w : World NodeIds} (h : SyncInv old w) {s' : NodeIds} :
    s' ∈ syncGlobals w ↔ ∃ i s, w[i]? = some s ∧ s' = finalRank (absWorld old w) i s := by
  rw [syncGlobals_eq old w h, List.mem_iff_getElem?]
  exact exists_congr fun i => ListFacts.getElem?_mapIdx_eq_some.trans
    (exists_congr fun s => and_congr_right fun _ => eq_comm)

theorem writeBack_length (es : List (Int × Nat)) (g : List Int) : (writeBack g es).length = g.length :=
  ListFacts.length_foldl_set (fun e : Int × Nat => e.2) (·.1) es g

theorem writeBack_getD_not_mem (es : List (Int × Nat)) : ∀ (g : List Int) (l : Nat) (d : Int),
    l ∉ es.map (·.2) → (writeBack g es).getD l d = g.getD l d := by
  intro g l d hl
  rw [List.getD_eq_getElem?_getD, List.getD_eq_getElem?_getD]
  exact congrArg (·.getD d) (ListFacts.getElem?_foldl_set_of_not_mem (fun e : Int × Nat => e.2) (·.1) es g l
    fun e he h => hl (List.mem_map.mpr ⟨e, he, h⟩))

theorem writeBack_getD (es : List (Int × Nat)) : ∀ (g : List Int) (d : Int), (es.map (·.2)).Nodup →
    ∀ v l, (v, l) ∈ es → l < g.length → (writeBack g es).getD l d = v := by
  intro g d hnd v l hm hl
  obtain ⟨e, he, hel, hget⟩ :=
    ListFacts.getElem?_foldl_set_of_mem (fun e : Int × Nat => e.2) (·.1) es g l hl ⟨_, hm, rfl⟩
  cases List.inj_on_of_nodup_map hnd he hm hel
  rw [List.getD_eq_getElem?_getD]
  exact congrArg (·.getD d) hget

theorem syncGlobals_table {old : Int} {w : World NodeIds} (h : SyncInv old w) {r : Nat} {s s' : NodeIds}
    (hr : w[r]? = some s) (hs' : (syncGlobals w)[r]? = some s') (hnd : (s.sorted.map (·.2)).Nodup) {g : Int} {l : Nat}
    (hm : (g, l) ∈ s.sorted) (hl : l < s.global.length) :
    s'.global.getD l (-1) = (absWorld old w).newId r g ∧ s'.unusedStk = [] ∧
      s'.oldN = (absWorld old w).N ∧ s'.newN = (absWorld old w).N := by
  rw [syncGlobals_eq old w h, List.getElem?_mapIdx, hr] at hs'
  obtain rfl := Option.some.inj hs'
  refine ⟨?_, rfl, rfl, rfl⟩
  show (writeBack _ _).getD l (-1) = _
  apply writeBack_getD
  · rw [List.map_map]; exact hnd
  · exact List.mem_map.mpr ⟨(g, l), hm, rfl⟩
  · simpa using hl

end Refine.Lemmas.DistSync
