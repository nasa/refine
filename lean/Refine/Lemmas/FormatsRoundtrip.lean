import Refine.Lemmas.FormatsText
import Refine.Lemmas.UgridCells

/-! round trips of the token-level text formats: what the readers make of the writers' output -/
namespace Refine.Lemmas.Formats
open Refine.Model.Formats
open Refine.Model.Meshb (Status Vertex Cfg adjAdd adjAddAll int32 wrap32)
open Refine.Model.Ugrid (Kind sortFaces tagOf)
open Refine.Lemmas.Ugrid (mem_sortFaces sortFaces_length)
open Refine.ListFacts (getD_append_left getD_append_right getD_map_of_lt)

@[simp] theorem scanD_nl (ts : List Tok) : scanD (.nl :: ts) = scanD ts := by simp [scanD, dropWs]
@[simp] theorem scanLf_nl (ts : List Tok) : scanLf (.nl :: ts) = scanLf ts := by simp [scanLf, dropWs]
@[simp] theorem rdD_nl (ts : List Tok) : rdD (.nl :: ts) = rdD ts := by simp [rdD]
@[simp] theorem rdLf_nl (ts : List Tok) : rdLf (.nl :: ts) = rdLf ts := by simp [rdLf]

theorem rdD_int (n : Int) (r : List Tok) : rdD (.int n :: r) = .ok (wrap32 n, r) := by
  simp [rdD, scanD, dropWs]

theorem rdLf_num (b : UInt64) (r : List Tok) : rdLf (.num b :: r) = .ok (b, r) := by
  simp [rdLf, scanLf, dropWs]

theorem rdDs_ints (xs : List Int) (h : ∀ x ∈ xs, int32 x) (r : List Tok) :
    rdDs xs.length (ints xs ++ r) = .ok (xs, r) := by
  rw [rdDs_eq_many, ints, List.map_eq_flatMap]
  exact Refine.Lemmas.Reader.many_flatMap id xs (fun x hx r => by
    rw [id, id, List.singleton_append, rdD_int, Refine.Lemmas.Codec.wrap32_of_int32 (h x hx)]) r

theorem rdDs_nl {k : Nat} (hk : 0 < k) (ts : List Tok) : rdDs k (.nl :: ts) = rdDs k ts := by
  cases k with
  | zero => omega
  | succ k => simp [rdDs]

theorem rdLfs_nl {k : Nat} (hk : 0 < k) (ts : List Tok) : rdLfs k (.nl :: ts) = rdLfs k ts := by
  cases k with
  | zero => omega
  | succ k => simp [rdLfs]

theorem rdIdx_nl {chk : Bool} {nnode : Int} {k : Nat} (hk : 0 < k) (ts : List Tok) :
    rdIdx chk nnode k (.nl :: ts) = rdIdx chk nnode k ts := by
  cases k with
  | zero => omega
  | succ k => simp [rdIdx]

theorem rdIdx_ints (chk : Bool) (nnode : Int) (xs : List Int) (h : ∀ x ∈ xs, int32 x ∧ 1 ≤ x ∧ x ≤ nnode) (r : List Tok) :
    rdIdx chk nnode xs.length (ints xs ++ r) = .ok (xs, r) := by
  induction xs with
  | nil => simp [rdIdx, ints]
  | cons x xs ih =>
    obtain ⟨hx, h1, h2⟩ := h x (by simp)
    have := ih (fun y hy => h y (by simp [hy]))
    simp only [ints] at this
    simp only [List.length_cons, rdIdx, ints, List.map_cons, List.cons_append, rdD_int, Refine.Lemmas.Codec.wrap32_of_int32 hx]
    rw [if_neg (by simp; intro _; exact ⟨h1, h2⟩), this]

/-- a block of lines is read from the line end that closes the line before it up to its own last line end -/
theorem rdVerts3_vertLines (vs : List Vertex) (r : List Tok) :
    rdVerts3 vs.length (.nl :: (vs.flatMap (fun p => vertToks p ++ [.nl]) ++ r)) = .ok (vs, .nl :: r) := by
  induction vs with
  | nil => simp [rdVerts3]
  | cons p vs ih =>
    simp only [List.length_cons, rdVerts3, List.flatMap_cons, vertToks, List.cons_append, List.nil_append, rdLfs, rdLf_nl,
      rdLf_num, List.getD_cons_zero, List.getD_cons_succ]
    simp only [vertToks, List.cons_append, List.nil_append] at ih
    rw [ih]

theorem addCell1_conn1 {per : Nat} {nnode : Int} {c : List Int} (hn : nnode ≤ maxNodes) (hc : nodesIn per 0 nnode c)
    (tail : List Int) : addCell1 (conn1 per c) tail = .ok (c.take per ++ tail) := by
  unfold addCell1
  rw [if_neg, adjAddAll_conn1 rfl hn hc, conn1_sub]
  intro h
  obtain ⟨y, hy, hd⟩ := List.any_eq_true.1 h
  have := (conn1_idx hn hc y hy).2.1
  have := of_decide_eq_true hd
  omega

theorem rdCells1_connLines (chk : Bool) {nnode : Int} (hn : nnode ≤ maxNodes) {per : Nat} (hper : 0 < per) (emptyId : Bool)
    {cs : List (List Int)} (hcs : ∀ c ∈ cs, nodesIn per 0 nnode c) {n : Nat} (hl : cs.length = n) (r : List Tok) :
    rdCells1 chk nnode per 0 0 emptyId n (.nl :: (connLines per cs ++ r)) =
      .ok (cs.map (fun c => c.take per ++ (if emptyId then [-1] else [])), .nl :: r) := by
  subst hl
  induction cs with
  | nil => simp [rdCells1, connLines]
  | cons c cs ih =>
    have hc := hcs c (by simp)
    simp only [connLines] at ih ⊢
    simp only [List.length_cons, rdCells1, List.flatMap_cons, List.cons_append, List.append_assoc, List.nil_append]
    rw [rdIdx_nl hper]
    have h1 := rdIdx_ints chk nnode (conn1 per c) (conn1_idx hn hc)
      (Tok.nl :: (cs.flatMap (fun c => ints ((c.take per).map (· + 1)) ++ [Tok.nl]) ++ r))
    rw [conn1_length hc.1] at h1
    rw [show ints ((c.take per).map (· + 1)) = ints (conn1 per c) from rfl, h1]
    simp only [rdDs, List.take_zero]
    rw [addCell1_conn1 hn hc]
    simp only
    rw [ih (fun d hd => hcs d (by simp [hd]))]
    simp

/-- a section of boundary faces, in the words of `TriOk` / `FgridOk` / `UgridOk`: `per` nodes and an id; the id slots
    stay empty until the id lines are read -/
theorem rdCells1_faces (chk : Bool) {nnode : Int} (hn : nnode ≤ maxNodes) {per : Nat} (hper : 0 < per)
    {cs : List (List Int)}
    (hcs : ∀ c ∈ cs, c.length = per + 1 ∧ (∀ x ∈ c.take per, 0 ≤ x ∧ x < nnode) ∧ int32 (c.getD per 0))
    {n : Nat} (hl : cs.length = n) (r : List Tok) :
    rdCells1 chk nnode per 0 0 true n (.nl :: (connLines per cs ++ r)) =
      .ok (cs.map (fun c => c.take per ++ [-1]), .nl :: r) :=
  rdCells1_connLines chk hn hper true (fun c hc => ⟨by have := (hcs c hc).1; omega, (hcs c hc).2.1⟩) hl r

/-- a section of volume cells: `per` nodes and nothing else, so the cells come back as they are -/
theorem rdCells1_vol (chk : Bool) {nnode : Int} (hn : nnode ≤ maxNodes) {per : Nat} (hper : 0 < per)
    {cs : List (List Int)} (hcs : ∀ c ∈ cs, c.length = per ∧ ∀ x ∈ c.take per, 0 ≤ x ∧ x < nnode)
    {n : Nat} (hl : cs.length = n) (r : List Tok) :
    rdCells1 chk nnode per 0 0 false n (.nl :: (connLines per cs ++ r)) = .ok (cs, .nl :: r) := by
  have := rdCells1_connLines chk hn hper false (fun c hc => ⟨by have := (hcs c hc).1; omega, (hcs c hc).2⟩) hl r
  simp only [Bool.false_eq_true, if_false, List.append_nil] at this
  rwa [map_take_self per cs fun c hc => (hcs c hc).1] at this

theorem prealloc_ok (fx : Fix) {nnode : Int} (h : nnode ≤ (preallocLimit : Int)) : prealloc fx nnode = .ok () := by
  unfold prealloc
  rw [if_neg]
  intro hc
  have := hc.2
  omega

theorem rdDs_idLines (per : Nat) {cs : List (List Int)} (h : ∀ c ∈ cs, int32 (c.getD per 0)) {n : Nat}
    (hl : cs.length = n) (r : List Tok) :
    rdDs n (.nl :: (idLines per cs ++ r)) = .ok (cs.map (fun c => c.getD per 0), .nl :: r) := by
  subst hl
  have := Refine.Lemmas.Reader.many_flatMap (one := rdD) (enc := fun x => [Tok.int x, .nl]) (.nl :: ·)
    (cs.map fun c => c.getD per 0) (fun x hx r => by
      obtain ⟨c, hc, rfl⟩ := List.mem_map.1 hx
      simp only [List.cons_append, List.nil_append, rdD_nl, rdD_int, Refine.Lemmas.Codec.wrap32_of_int32 (h c hc)]) r
  rwa [List.length_map, List.flatMap_map, ← rdDs_eq_many] at this

theorem vertLines_eq (vs : List Vertex) :
    vs.flatMap (fun p => vertToks p ++ [Tok.nl]) = vs.flatMap (fun p => vertToks p ++ [Tok.nl]) := rfl

/-- a mesh `.tri` holds: vertices below the bound `ref_adj_add` grows plainly to, triangles = three vertices and an id
    that an `int` holds -/
structure TriOk (m : TMesh) : Prop where
  nodes : (m.nodes.length : Int) ≤ (preallocLimit : Int)
  cells : ∀ c ∈ m.tri, c.length = 4 ∧ (∀ x ∈ c.take 3, 0 ≤ x ∧ x < (m.nodes.length : Int)) ∧ int32 (c.getD 3 0)
  count : (m.tri.length : Int) < 2 ^ 31

theorem decodeTri_encodeTri (fx : Fix) (m : TMesh) (h : TriOk m) :
    decodeTri fx (encodeTri m) = .ok (normalizeTri m) := by
  have hnb : (m.nodes.length : Int) ≤ 1000000 := h.nodes
  have hmax : (m.nodes.length : Int) ≤ maxNodes := by unfold maxNodes; omega
  have hdr : ∀ x ∈ [(m.nodes.length : Int), m.tri.length], int32 x := by
    have := h.count
    simp only [List.mem_cons, List.not_mem_nil, or_false, forall_eq_or_imp, forall_eq, int32]
    omega
  unfold decodeTri encodeTri
  simp only [List.append_assoc, List.singleton_append]
  -- here and in the two round trips below: the reader's reads in file order, each `rw` by the block lemma of the lines
  -- it stands on, the `simp only` after it steps to the next read
  rw [show ∀ r, rdDs 2 _ = _ from rdDs_ints _ hdr]
  simp only [List.getD_cons_zero, List.getD_cons_succ, cnt, Int.toNat_natCast]
  rw [prealloc_ok fx h.nodes]
  simp only
  rw [List.cons_append, rdVerts3_vertLines]
  simp only
  rw [rdCells1_faces fx.index hmax (by decide) h.cells rfl]
  simp only
  rw [← List.append_nil (idLines 3 m.tri), rdDs_idLines 3 (fun c hc => (h.cells c hc).2.2) rfl]
  simp only
  rw [setIds_restore 3 m.tri (fun c hc => (h.cells c hc).1)]
  rfl

theorem rdLfs_numLines (xs : List UInt64) (r : List Tok) :
    rdLfs xs.length (.nl :: (xs.flatMap (fun b => [Tok.num b, Tok.nl]) ++ r)) = .ok (xs, .nl :: r) := by
  rw [rdLfs_eq_many]
  exact Refine.Lemmas.Reader.many_flatMap (one := rdLf) (enc := fun b => [Tok.num b, Tok.nl]) (.nl :: ·) xs
    (fun x _ r => by simp only [List.cons_append, List.nil_append, rdLf_nl, rdLf_num]) r

/-- vertex `i` is read back from places `i`, `n + i` and `2 n + i` of the three columns -/
theorem vertsOfColumns_columns (vs : List Vertex) :
    vertsOfColumns vs.length (vs.map (·.x) ++ (vs.map (·.y) ++ vs.map (·.z))) = vs := by
  conv_rhs => rw [← Refine.ListFacts.map_getD_range (l := vs) (d := default)]
  refine List.map_congr_left fun i hi => ?_
  have hi : i < vs.length := List.mem_range.1 hi
  have hx : (vs.map (·.x) ++ (vs.map (·.y) ++ vs.map (·.z))).getD i 0 = (vs.getD i default).x := by
    rw [getD_append_left (by simpa using hi), getD_map_of_lt default hi]
  have hy : (vs.map (·.x) ++ (vs.map (·.y) ++ vs.map (·.z))).getD (vs.length + i) 0 = (vs.getD i default).y := by
    rw [getD_append_right (by simp), List.length_map, Nat.add_sub_cancel_left,
      getD_append_left (by simpa using hi), getD_map_of_lt default hi]
  have hz : (vs.map (·.x) ++ (vs.map (·.y) ++ vs.map (·.z))).getD (2 * vs.length + i) 0 = (vs.getD i default).z := by
    rw [getD_append_right (by simp; omega), getD_append_right (by simp; omega), List.length_map, List.length_map,
      show 2 * vs.length + i - vs.length - vs.length = i by omega, getD_map_of_lt default hi]
  rw [hx, hy, hz]

/-- a mesh `.fgrid` holds -/
structure FgridOk (m : TMesh) : Prop where
  nodes : (m.nodes.length : Int) ≤ (preallocLimit : Int)
  tris : ∀ c ∈ m.tri, c.length = 4 ∧ (∀ x ∈ c.take 3, 0 ≤ x ∧ x < (m.nodes.length : Int)) ∧ int32 (c.getD 3 0)
  tets : ∀ c ∈ m.tet, c.length = 4 ∧ (∀ x ∈ c.take 4, 0 ≤ x ∧ x < (m.nodes.length : Int))
  ntri : (m.tri.length : Int) < 2 ^ 31
  ntet : (m.tet.length : Int) < 2 ^ 31

theorem decodeFgrid_encodeFgrid (fx : Fix) (m : TMesh) (h : FgridOk m) :
    decodeFgrid fx (encodeFgrid m) = .ok (normalizeFgrid m) := by
  have hnb : (m.nodes.length : Int) ≤ 1000000 := h.nodes
  have hmax : (m.nodes.length : Int) ≤ maxNodes := by unfold maxNodes; omega
  have hdr : ∀ x ∈ [(m.nodes.length : Int), m.tri.length, m.tet.length], int32 x := by
    have := h.ntri
    have := h.ntet
    simp only [List.mem_cons, List.not_mem_nil, or_false, forall_eq_or_imp, forall_eq, int32]
    omega
  unfold decodeFgrid encodeFgrid
  simp only [List.append_assoc, List.singleton_append]
  rw [show ∀ r, rdDs 3 _ = _ from rdDs_ints _ hdr]
  simp only [List.getD_cons_zero, List.getD_cons_succ, cnt, Int.toNat_natCast]
  rw [prealloc_ok fx h.nodes]
  simp only
  -- the three coordinate columns
  have hcol : ∀ (f : Vertex → UInt64), m.nodes.flatMap (fun p => [Tok.num (f p), Tok.nl]) =
      (m.nodes.map f).flatMap (fun b => [Tok.num b, Tok.nl]) := by
    intro f; simp [List.flatMap_map]
  rw [hcol (·.x), hcol (·.y), hcol (·.z), List.cons_append]
  rw [← List.append_assoc, ← List.append_assoc, ← List.flatMap_append, ← List.flatMap_append]
  have hlen : 3 * m.nodes.length = (m.nodes.map (·.x) ++ m.nodes.map (·.y) ++ m.nodes.map (·.z)).length := by
    simp; omega
  rw [hlen, rdLfs_numLines]
  simp only
  rw [rdCells1_faces fx.index hmax (by decide) h.tris rfl]
  simp only
  rw [rdDs_idLines 3 (fun c hc => (h.tris c hc).2.2) rfl]
  simp only
  rw [← List.append_nil (connLines 4 m.tet), rdCells1_vol fx.index hmax (by decide) h.tets rfl]
  simp only
  rw [setIds_restore 3 m.tri (fun c hc => (h.tris c hc).1), List.append_assoc, vertsOfColumns_columns]
  rfl

/-- a mesh ASCII `.ugrid` holds: boundary faces = nodes and an id an `int` holds, volume cells = nodes -/
structure UgridOk (m : TMesh) : Prop where
  nodes : (m.nodes.length : Int) ≤ maxNodes
  tris : ∀ c ∈ m.tri, c.length = 4 ∧ (∀ x ∈ c.take 3, 0 ≤ x ∧ x < (m.nodes.length : Int)) ∧ int32 (c.getD 3 0)
  quas : ∀ c ∈ m.qua, c.length = 5 ∧ (∀ x ∈ c.take 4, 0 ≤ x ∧ x < (m.nodes.length : Int)) ∧ int32 (c.getD 4 0)
  tets : ∀ c ∈ m.tet, c.length = 4 ∧ (∀ x ∈ c.take 4, 0 ≤ x ∧ x < (m.nodes.length : Int))
  pyrs : ∀ c ∈ m.pyr, c.length = 5 ∧ (∀ x ∈ c.take 5, 0 ≤ x ∧ x < (m.nodes.length : Int))
  pris : ∀ c ∈ m.pri, c.length = 6 ∧ (∀ x ∈ c.take 6, 0 ≤ x ∧ x < (m.nodes.length : Int))
  hexs : ∀ c ∈ m.hex, c.length = 8 ∧ (∀ x ∈ c.take 8, 0 ≤ x ∧ x < (m.nodes.length : Int))
  counts : ∀ n ∈ [m.tri.length, m.qua.length, m.tet.length, m.pyr.length, m.pri.length, m.hex.length], (n : Int) < 2 ^ 31

theorem decodeUgridTxt_encodeUgridTxt (m : TMesh) (h : UgridOk m) :
    decodeUgridTxt (encodeUgridTxt m) = .ok (normalizeUgrid m) := by
  have hmax := h.nodes
  have hdr : ∀ x ∈ [(m.nodes.length : Int), m.tri.length, m.qua.length, m.tet.length, m.pyr.length, m.pri.length,
      m.hex.length], int32 x := by
    have := h.counts
    unfold maxNodes at hmax
    simp only [List.mem_cons, List.not_mem_nil, or_false, forall_eq_or_imp, forall_eq, int32] at this ⊢
    omega
  -- the boundary faces come in the writer's order
  have htri := fun c hc => h.tris c (mem_sortFaces (k := .tri).mp hc)
  have hqua := fun c hc => h.quas c (mem_sortFaces (k := .qua).mp hc)
  unfold decodeUgridTxt encodeUgridTxt
  simp only [List.append_assoc, List.singleton_append]
  rw [show ∀ r, rdDs 7 _ = _ from rdDs_ints _ hdr]
  simp only [List.getD_cons_zero, List.getD_cons_succ, cnt, Int.toNat_natCast]
  rw [List.cons_append, rdVerts3_vertLines]
  simp only
  rw [rdCells1_faces true hmax (by decide) htri (sortFaces_length _ _)]
  simp only
  rw [rdCells1_faces true hmax (by decide) hqua (sortFaces_length _ _)]
  simp only
  rw [rdDs_idLines 3 (fun c hc => (htri c hc).2.2) (sortFaces_length _ _)]
  simp only
  rw [rdDs_idLines 4 (fun c hc => (hqua c hc).2.2) (sortFaces_length _ _)]
  simp only
  rw [rdCells1_vol true hmax (by decide) h.tets rfl]
  simp only
  rw [rdCells1_vol true hmax (by decide) h.pyrs rfl]
  simp only
  rw [rdCells1_vol true hmax (by decide) h.pris rfl]
  simp only
  rw [← List.append_nil (connLines 8 m.hex), rdCells1_vol true hmax (by decide) h.hexs rfl]
  simp only
  rw [setIds_restore 3 _ (fun c hc => (htri c hc).1), setIds_restore 4 _ (fun c hc => (hqua c hc).1)]
  rfl

end Refine.Lemmas.Formats
