import Refine.Model.Ugrid
import Refine.Lemmas.CodecBytes
import Refine.Lemmas.ListFacts
import Refine.Lemmas.Endian
import Mathlib.Tactic.Ring

/-! what every reader proof of the UGRID and text-format families starts from: the word level of the binary UGRID codec
    (the generated swap macros are involutions, what the writer emits is what the reader returns, sizes of the encoded
    pieces) -/
namespace Refine.Lemmas.Ugrid
open Refine.Gen Refine.Model.Endian Refine.Model.Ugrid
open Refine.Model.Meshb (Bytes Status Vertex P Cfg takeN encLE decLE toSigned ofSigned int32 wrap32 adjAdd adjAddAll)
open Refine.Lemmas.Codec (takeN_append takeN_ok takeN_len takeN_error decLE_encLE decLE_encLE_of_lt ofSigned_lt
  toSigned32_ofSigned32 encLE_length decLE_lt int32_iff)

/-- `Refine.Lemmas.Codec.ofHex_ofList` for the UGRID files' `ofHex`: `rw [theFile, ofHex_ofList]` before a witness file
    is evaluated hands the kernel its characters instead of the literal's UTF-8 bytes -/
theorem ofHex_ofList (l : List Char) :
    ofHex (String.ofList l) =
      Refine.Model.Meshb.ofHex.go (fun c => if c.toNat ≥ 97 then c.toNat - 87 else c.toNat - 48) l :=
  Refine.Lemmas.Codec.ofHex_ofList l

/-- `SWAP_INT` / `SWAP_LONG` / `SWAP_DBL` (as regenerated from ref_endian.h) are the byte reversal, which undoes itself -/
theorem swap_int_invol (a : Bytes) (h : a.length = 4) : applyPerm Endian.swap_int (applyPerm Endian.swap_int a) = a :=
  Refine.Lemmas.Endian.applyPerm_invol rfl h

theorem swap_long_invol (a : Bytes) (h : a.length = 8) :
    applyPerm Endian.swap_long (applyPerm Endian.swap_long a) = a :=
  Refine.Lemmas.Endian.applyPerm_invol rfl h

theorem swap_dbl_invol (a : Bytes) (h : a.length = 8) : applyPerm Endian.swap_dbl (applyPerm Endian.swap_dbl a) = a :=
  Refine.Lemmas.Endian.applyPerm_invol rfl h

@[simp] theorem applyPerm_length (p : List Nat) (a : Bytes) : (applyPerm p a).length = p.length := by
  simp [applyPerm]

theorem swap_int_length : Endian.swap_int.length = 4 := by decide
theorem swap_long_length : Endian.swap_long.length = 8 := by decide
theorem swap_dbl_length : Endian.swap_dbl.length = 8 := by decide

theorem encWord_length (fl : Flavor) {w : Nat} (hw : w = 4 ∨ w = 8) (n : Nat) : (encWord fl w n).length = w := by
  unfold encWord
  by_cases hs : fl.swap
  · rcases hw with rfl | rfl <;> simp [hs, swap_int_length, swap_long_length]
  · simp [hs]

theorem decWord_encWord (fl : Flavor) {w : Nat} (hw : w = 4 ∨ w = 8) (n : Nat) :
    decWord fl w (encWord fl w n) = n % 256 ^ w := by
  unfold decWord encWord
  by_cases hs : fl.swap
  · simp only [hs, if_true]
    rcases hw with rfl | rfl
    · rw [if_neg (by decide), swap_int_invol _ (by simp), decLE_encLE]
    · rw [if_pos rfl, swap_long_invol _ (by simp), decLE_encLE]
  · simp only [hs]
    simp [decLE_encLE]

theorem rdWord_encWord (fl : Flavor) {w : Nat} (hw : w = 4 ∨ w = 8) (n : Nat) (r : Bytes) :
    rdWord fl w (encWord fl w n ++ r) = .ok (n % 256 ^ w, r) := by
  have hl := encWord_length fl hw n
  unfold rdWord
  have ht : takeN w (encWord fl w n ++ r) = .ok (encWord fl w n, r) := by
    have := takeN_append (encWord fl w n) r
    rwa [hl] at this
  rw [ht]
  simp only [decWord_encWord fl hw]

theorem encInt_length (fl : Flavor) (x : Int) : (encInt fl x).length = fl.ibytes := by
  unfold encInt Flavor.ibytes
  by_cases hf : fl.fat
  · simp [hf, encWord_length fl (Or.inr rfl)]
  · simp [hf, encWord_length fl (Or.inl rfl)]

theorem ofSigned_mod_256 (w : Nat) (x : Int) : ofSigned (8 * w) x % 256 ^ w = ofSigned (8 * w) x := by
  apply Nat.mod_eq_of_lt
  have := ofSigned_lt (8 * w) x
  rwa [show (256 : Nat) ^ w = 2 ^ (8 * w) by rw [Nat.pow_mul]]

theorem rdInt_encInt (fl : Flavor) {x : Int} (h : int32 x) (r : Bytes) :
    rdInt fl (encInt fl x ++ r) = .ok (x, r) := by
  unfold rdInt encInt
  by_cases hf : fl.fat
  · simp only [hf, if_true]
    rw [rdWord_encWord fl (Or.inr rfl)]
    have h1 : ofSigned 64 x % 256 ^ 8 = ofSigned 64 x := ofSigned_mod_256 8 x
    have e := Refine.Lemmas.Codec.ofSigned_mod (by omega : 32 ≤ 64) x
    norm_num at e
    simp only [h1]
    norm_num
    rw [e]
    exact toSigned32_ofSigned32 h
  · simp only [hf, Bool.false_eq_true, if_false]
    rw [rdWord_encWord fl (Or.inl rfl)]
    have h1 : ofSigned 32 x % 256 ^ 4 = ofSigned 32 x := ofSigned_mod_256 4 x
    simp only [h1]
    rw [toSigned32_ofSigned32 h]

theorem encDbl_length (fl : Flavor) (u : UInt64) : (encDbl fl u).length = 8 := by
  unfold encDbl
  by_cases hs : fl.swap <;> simp [hs, swap_dbl_length]

theorem rdDbl_encDbl (fl : Flavor) (u : UInt64) (r : Bytes) : rdDbl fl (encDbl fl u ++ r) = .ok (u, r) := by
  have hl := encDbl_length fl u
  unfold rdDbl
  have ht : takeN 8 (encDbl fl u ++ r) = .ok (encDbl fl u, r) := by
    have := takeN_append (encDbl fl u) r
    rwa [hl] at this
  rw [ht]
  simp only
  have hu : decLE (encLE 8 u.toNat) = u.toNat :=
    decLE_encLE_of_lt (by have := u.toNat_lt; norm_num at this ⊢; omega)
  unfold encDbl
  by_cases hs : fl.swap
  · simp only [hs, if_true]
    rw [swap_dbl_invol _ (by simp), hu]
    simp
  · simp only [hs]
    simp [hu]

theorem encVertex_length (fl : Flavor) (p : Vertex) : (encVertex fl p).length = 24 := by
  simp [encVertex, encDbl_length]

theorem rdInts_eq_many (fl : Flavor) (n : Nat) (s : Bytes) : rdInts fl n s = Refine.Lemmas.Reader.many (rdInt fl) n s := by
  fun_induction rdInts fl n s <;> simp_all only [Refine.Lemmas.Reader.many]

theorem rdInts_flatMap (fl : Flavor) (xs : List Int) (h : ∀ x ∈ xs, int32 x) (r : Bytes) :
    rdInts fl xs.length (xs.flatMap (encInt fl) ++ r) = .ok (xs, r) := by
  rw [rdInts_eq_many]
  exact Refine.Lemmas.Reader.many_flatMap id xs (fun x hx r => rdInt_encInt fl (h x hx) r) r

theorem rdVerts_flatMap (fl : Flavor) (vs : List Vertex) (r : Bytes) :
    rdVerts fl vs.length (vs.flatMap (encVertex fl) ++ r) = .ok (vs, r) := by
  induction vs with
  | nil => simp [rdVerts]
  | cons v vs ih =>
    simp only [List.length_cons, List.flatMap_cons, List.append_assoc, rdVerts, encVertex, rdDbl_encDbl, ih]

theorem flatMap_encInt_length (fl : Flavor) (xs : List Int) :
    (xs.flatMap (encInt fl)).length = xs.length * fl.ibytes :=
  Refine.ListFacts.length_flatMap_const fun x _ => encInt_length fl x

theorem flatMap_encVertex_length (fl : Flavor) (vs : List Vertex) :
    (vs.flatMap (encVertex fl)).length = vs.length * 24 :=
  Refine.ListFacts.length_flatMap_const fun v _ => encVertex_length fl v

theorem rdWord_len {fl : Flavor} {w : Nat} {s r : Bytes} {n : Nat} (h : rdWord fl w s = .ok (n, r)) :
    s.length = w + r.length := by
  revert h
  fun_cases rdWord fl w s <;> intro h <;> cases h
  exact takeN_len ‹_›

theorem rdInt_len {fl : Flavor} {s r : Bytes} {x : Int} (h : rdInt fl s = .ok (x, r)) :
    s.length = fl.ibytes + r.length := by
  unfold Flavor.ibytes
  revert h
  fun_cases rdInt fl s <;> intro h <;> cases h
  · rw [if_pos ‹_›]; exact rdWord_len ‹_›
  · rw [if_neg ‹_›]; exact rdWord_len ‹_›

theorem rdInts_len {fl : Flavor} {n : Nat} {s r : Bytes} {xs : List Int} (h : rdInts fl n s = .ok (xs, r)) :
    xs.length = n ∧ s.length = n * fl.ibytes + r.length := by
  rw [rdInts_eq_many] at h
  exact ⟨Refine.Lemmas.Reader.many_length h,
    Refine.Lemmas.Reader.many_consume_eq (μ := List.length) (fun _ _ _ => rdInt_len) n h⟩

theorem rdDbl_len {fl : Flavor} {s r : Bytes} {x : UInt64} (h : rdDbl fl s = .ok (x, r)) : s.length = 8 + r.length := by
  revert h
  fun_cases rdDbl fl s <;> intro h <;> cases h
  exact takeN_len ‹_›

theorem rdVerts_len {fl : Flavor} {n : Nat} {s r : Bytes} {vs : List Vertex} (h : rdVerts fl n s = .ok (vs, r)) :
    vs.length = n ∧ s.length = n * 24 + r.length := by
  revert h
  fun_induction rdVerts fl n s generalizing vs r <;> intro h <;> cases h
  · simp
  · rename_i _ _ h1 _ _ h2 _ _ h3 _ _ h4 ih
    obtain ⟨hl, hs⟩ := ih h4
    exact ⟨congrArg (· + 1) hl, by rw [rdDbl_len h1, rdDbl_len h2, rdDbl_len h3, hs]; omega⟩

end Refine.Lemmas.Ugrid
