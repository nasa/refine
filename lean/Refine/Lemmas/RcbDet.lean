import Refine.Lemmas.RcbPart
import Refine.Lemmas.RcbReal

/-!
  The part array of `ref_migrate_native_rcb_part` as a function of the owned coordinates (exact arithmetic): every
  owned slot holds `serialPart` of the multiset of all owned coordinates.
-/
namespace Refine.Lemmas.Rcb
open Refine Refine.Model.Comm Refine.Model.Rcb Refine.Lemmas.Comm

section Det
open Refine.Model.Geom
variable [RcbScalar ℝ]

theorem rcbPart_serial (npart : Nat) (seed : Int) (twod : Bool) (rands : List Nat) (w : World (List (PNode ℝ)))
    (h1 : 1 ≤ npart) (hn : npart ≤ w.length) (htot : (w.flatten.length : Int) ≤ INT_MAX)
    (parts : World (List Int)) (hp : rcbPart npart seed twod rands w = some parts)
    (r : Nat) (nodes : List (PNode ℝ)) (pr : List Int) (i : Nat) (nd : PNode ℝ)
    (hw : w[r]? = some nodes) (hpr : parts[r]? = some pr) (hnd : nodes[i]? = some nd) (hown : nd.part = (r : Int)) :
    pr[i]? = some (serialPart (transformOf twod rands) seed twod npart 0 (-1)
      ((w.mapIdx fun r nodes => ownedRecs r nodes).flatten.map (·.p)) nd.p) := by
  obtain ⟨leaves, parts0, hl, hp0, _, hall⟩ := rcbPart_spec splitRatio_ok_real npart seed twod rands w h1 hn htot
  cases hp.symm.trans hp0
  obtain ⟨pr0, hpr0, _, hi⟩ := hall r nodes hw
  cases hpr.symm.trans hpr0
  obtain ⟨k, hk, _, _, _, a, ha, _, hap, rfl⟩ := (hi i nd hnd).1 hown
  have hrt : (((w.mapIdx fun r nodes => ownedRecs r nodes).flatten.length : Nat) : Int) ≤ INT_MAX :=
    Int.le_trans (Int.ofNat_le.mpr (owned_length_le w)) htot
  obtain ⟨l, e, h⟩ := rcbDirection_serial (transformOf twod rands) seed twod npart 0 (-1) _ h1
    (by rw [List.length_mapIdx]; exact hn) hrt
  cases hl.symm.trans e
  rw [hk, h a ha, hap]

theorem rcb_part_deterministic (npart : Nat) (seed : Int) (twod : Bool) (rands : List Nat)
    (w w' : World (List (PNode ℝ)))
    (h1 : 1 ≤ npart) (hn : npart ≤ w.length) (hlen : w'.length = w.length)
    (htot : (w.flatten.length : Int) ≤ INT_MAX) (htot' : (w'.flatten.length : Int) ≤ INT_MAX)
    (hperm : ((w.mapIdx fun r nodes => ownedRecs r nodes).flatten.map (·.p)).Perm
      ((w'.mapIdx fun r nodes => ownedRecs r nodes).flatten.map (·.p)))
    (parts parts' : World (List Int))
    (hp : rcbPart npart seed twod rands w = some parts) (hp' : rcbPart npart seed twod rands w' = some parts') :
    ∀ (r : Nat) (nodes : List (PNode ℝ)) (pr : List Int) (i : Nat) (nd : PNode ℝ),
      w[r]? = some nodes → parts[r]? = some pr → nodes[i]? = some nd → nd.part = (r : Int) →
    ∀ (r' : Nat) (nodes' : List (PNode ℝ)) (pr' : List Int) (j : Nat) (nd' : PNode ℝ),
      w'[r']? = some nodes' → parts'[r']? = some pr' → nodes'[j]? = some nd' → nd'.part = (r' : Int) →
      nd.p = nd'.p → pr[i]? = pr'[j]? := by
  intro r nodes pr i nd hw hpr hnd hown r' nodes' pr' j nd' hw' hpr' hnd' hown' hpp
  rw [rcbPart_serial npart seed twod rands w h1 hn htot parts hp r nodes pr i nd hw hpr hnd hown,
    rcbPart_serial npart seed twod rands w' h1 (by omega) htot' parts' hp' r' nodes' pr' j nd' hw' hpr' hnd' hown',
    hpp, serialPart_perm _ seed twod npart 0 (-1) _ _ hperm]

end Det

end Refine.Lemmas.Rcb
