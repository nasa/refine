import Refine.Lemmas.CodecRoundtrip
import Refine.Lemmas.CodecC20

/-! `.solb` round trips (C09): scalar/vector fields of any `ldim`, metric tensors in libMeshb order -/
namespace Refine.Lemmas.Codec
open Refine.Model.Meshb Refine.Model.Solb Refine.Gen Refine.Lemmas.Reader

/-- What `roundtrip_solb_with` assumes of a field: rows of `ldim` values; the count and `ldim` are written as 32-bit
    integers; `ldim · count` is the `int` product the scalar reader forms for its one `fread`, and eight times it the
    block it allocates (`allocCap`); the file size fits the position field of version `v`. -/
structure SolOK (cfg : Cfg) (v : Nat) (s : SolFile) : Prop where
  version : v = 2 ∨ v = 3 ∨ v = 4
  rows_len : ∀ r ∈ s.rows, r.length = s.ldim
  count_lt : s.rows.length < 2 ^ 31
  ldim_lt : s.ldim < 2 ^ 31
  prod_lt : s.ldim * s.rows.length < 2 ^ 31
  cap : 8 * (s.ldim * s.rows.length) ≤ cfg.allocCap
  size_fits : posFits v ((encodeSolb v s).length : Int)

/-- `Solb.rdLong` and `PartMeshb.rdLong` are one function written in two model files (equal by `rfl`), so a lemma about
    either applies to both: this one and `rdLong_len` (CodecC20) are stated for the Solb copy, `rdLong_error`
    (PartMeshbParse), `rdLong_rdInt` and `rdInt_eq_rdLong` (PartMeshbSerial) for the other.  `encGlob v n` is
    `encInt v n`. -/
theorem rdLong_encGlob (v : Nat) {n : Nat} (h : n < 2 ^ 31) (r : Bytes) :
    rdLong v (encGlob v n ++ r) = .ok ((n : Int), r) := by
  unfold rdLong encGlob
  split
  · unfold rdI32
    rw [rdU_encLE (ofSigned_lt 32 _)]
    dsimp only
    rw [toSigned32_ofSigned32 (int32_of_lt h)]
  · rw [rdU_encLE (ofSigned_lt 64 _)]
    dsimp only
    rw [toSigned_ofSigned (bits := 64) (by omega) (by constructor <;> omega)]

theorem encGlob_length (v n : Nat) : (encGlob v n).length = intSize v := encInt_length v n

theorem rdTypes_replicate (w : Int → Option Nat) (hw : w 1 = some 1) (k acc : Nat) (r : Bytes) :
    rdTypes w k acc ((List.replicate k (le32 1)).flatten ++ r) = .ok (acc + k, r) := by
  induction k generalizing acc with
  | zero => simp [rdTypes]
  | succ k ih =>
    simp only [List.replicate_succ, List.flatten_cons, List.append_assoc]
    unfold rdTypes
    rw [rdI32_le32 (by norm_num)]
    dsimp only
    simp only [Nat.cast_one, hw]
    rw [ih]
    congr 2; omega

theorem rdF64s_eq_many (n : Nat) (s : Bytes) : rdF64s n s = many rdF64 n s := by
  fun_induction rdF64s n s <;> simp_all only [many]

theorem rdRowsWith_eq_many (rd : P (List UInt64)) (n : Nat) (s : Bytes) : rdRowsWith rd n s = many rd n s := by
  fun_induction rdRowsWith rd n s <;> simp_all only [many]

theorem rdF64s_flatMap (xs : List UInt64) (r : Bytes) :
    rdF64s xs.length (xs.flatMap encF64 ++ r) = .ok (xs, r) :=
  (rdF64s_eq_many _ _).trans (many_flatMap id xs (fun x _ => rdF64_encF64 x) r)

theorem rdRows_flatMap (ldim : Nat) (rows : List (List UInt64)) (r : Bytes)
    (h : ∀ x ∈ rows, x.length = ldim) :
    rdRowsWith (rdF64s ldim) rows.length (rows.flatMap (fun x => x.flatMap encF64) ++ r) = .ok (rows, r) :=
  (rdRowsWith_eq_many _ _ _).trans (many_flatMap id rows (fun x hx r => h x hx ▸ rdF64s_flatMap x r) r)

theorem place_all (twod : Bool) (rows arr : List (List UInt64)) (h : arr.length = rows.length) :
    place rows.length twod (rows.length : Int) 0 rows arr = rows := by
  unfold place
  apply List.ext_getElem
  · simp [h]
  · intro j h1 h2
    simp only [List.getElem_map, List.getElem_zip, List.getElem_range]
    have hj : j < rows.length := h2
    have c2 : ¬ (twod = true ∧ (0 : Int) ≤ (j : Int) - (rows.length : Int) - 0 ∧
        (j : Int) - (rows.length : Int) - 0 < (rows.length : Int)) := by omega
    have c1 : (0 : Int) ≤ (j : Int) - 0 ∧ (j : Int) - 0 < (rows.length : Int) := by omega
    rw [if_neg c2, if_pos c1]
    have : ((j : Int) - 0).toNat = j := by omega
    rw [this, List.getD_eq_getElem?_getD, List.getElem?_eq_getElem hj]
    rfl

/-- The `while (nnode_read < nnode)` loop when the whole file is one block: `rows` are read and replace the
    array.  Rows of width 0 are not read at all; then the array must hold them already.  Two units of fuel: one pass
    and the test that ends the loop (the readers run it with `bs.length + 2`). -/
theorem readLoop_one_block {twod : Bool} {width : Nat} {rdRow : P (List UInt64)} {checked : Bool}
    {rows arr : List (List UInt64)} {s r : Bytes} {n : Nat} (fuel : Nat) (hrows : rows.length = n) (hn : n < 2 ^ 31)
    (hprod : checked = true → ((width * n : Nat) : Int) < 2 ^ 31)
    (hrd : if width = 0 then arr = rows ∧ s = r else rdRowsWith rdRow n s = .ok (rows, r))
    (harr : arr.length = n) :
    readLoop n twod n n width rdRow checked (fuel + 2) 0 arr s = .ok (rows, r) := by
  subst hrows
  have hdone : ∀ a, readLoop rows.length twod rows.length rows.length width rdRow checked (fuel + 1)
      (0 + (rows.length : Int)) a r = .ok (a, r) := fun a => by
    unfold readLoop; exact if_neg (by omega)
  unfold readLoop
  split
  next hlt =>
    have hint : ¬ (checked = true ∧ ¬ int32 ((width : Int) * (rows.length : Int))) ∧
        ¬ (checked = true ∧ (width : Int) * (rows.length : Int) < 0) := by
      have : (0 : Int) ≤ (width : Int) * (rows.length : Int) := Int.mul_nonneg (by omega) (by omega)
      constructor
      · rintro ⟨hc, hb⟩
        apply hb
        have := hprod hc
        push_cast at this
        unfold int32
        omega
      · omega
    dsimp only
    rw [Int.sub_zero, wrap32_of_int32 (int32_of_lt hn), min_self, if_neg hint.1, if_neg hint.2]
    split at hrd
    next h0 => rw [if_pos h0, hrd.1, hrd.2]; exact hdone _
    next h0 =>
      rw [if_neg h0, Int.toNat_natCast, hrd]
      dsimp only
      rw [place_all _ _ _ harr]; exact hdone _
  next hlt =>
    obtain rfl : rows = [] := List.eq_nil_of_length_eq_zero (by omega)
    rw [List.eq_nil_of_length_eq_zero harr] at hrd ⊢
    split at hrd
    · rw [hrd.2]
    · cases hrd; rfl

/-- The common prefix of both `.solb` readers on the two-section file both writers produce; `sol` is the
    `SolAtVertices` section, whose body starts with the vertex count and the number of solution types. -/
theorem solPrefix_layout {cfg : Cfg} {v : Nat} {twod : Bool} {sol : Sec} {n ntype : Nat} {rest : Bytes}
    (hver : v = 2 ∨ v = 3 ∨ v = 4) (hkw : sol.kw = 62) (hex : Sec.exact v sol)
    (hbody : sol.body = encGlob v n ++ (le32 ntype ++ rest)) (hn : n < 2 ^ 31) (ht : ntype < 2 ^ 31)
    (hfit : posFits v ((le32 1 ++ le32 v ++ layout v 8 [secDimOf v twod, sol]).length : Int)) :
    ∃ r62, solPrefix cfg (le32 1 ++ le32 v ++ layout v 8 [secDimOf v twod, sol]) =
        .ok (v, if twod then 2 else 3,
          tell (le32 1 ++ le32 v ++ layout v 8 [secDimOf v twod, sol]) r62,
          (n : Int), (ntype : Int), rest ++ r62) := by
  have hss : ∀ s ∈ [secDimOf v twod, sol], Sec.exact v s ∧ s.kw < 156 := by
    intro s hs
    simp only [List.mem_cons, List.not_mem_nil, or_false] at hs
    rcases hs with rfl | rfl
    · simp [Sec.exact, secDimOf, le32_length]
    · exact ⟨hex, by omega⟩
  have hnd : (([secDimOf v twod, sol].map Sec.kw) ++ [54]).Nodup := by
    simp [secDimOf, hkw]
  obtain ⟨kp, hh, hall, _⟩ := layout_located (cfg := cfg) (junk := []) hver hss hnd (by rw [List.append_nil]) hfit
  obtain ⟨r3, hj3⟩ := hall (secDimOf v twod) (by simp)
  obtain ⟨r62, hj62⟩ := hall sol (by simp)
  rw [hkw, hbody] at hj62
  rw [show (secDimOf v twod).kw = 3 from rfl, show (secDimOf v twod).body = le32 (if twod then 2 else 3) from rfl] at hj3
  refine ⟨r62, ?_⟩
  unfold solPrefix
  rw [hh]
  dsimp only
  rw [if_neg (by omega), hj3]
  dsimp only
  rw [rdI32_le32 (by split <;> norm_num)]
  dsimp only
  rw [if_neg (by split <;> norm_num), hj62]
  dsimp only
  rw [List.append_assoc, rdLong_encGlob v hn]
  dsimp only
  rw [List.append_assoc, rdI32_le32 ht]
  dsimp only
  rw [Int.toNat_natCast]

theorem secSol_exact (v : Nat) (s : SolFile) (h : ∀ r ∈ s.rows, r.length = s.ldim) : Sec.exact v (secSol v s) := by
  simp only [Sec.exact, secSol, List.length_append, encGlob_length, le32_length]
  rw [Refine.ListFacts.length_flatMap_const (k := s.ldim * 8)]
  · have : ((List.replicate s.ldim (le32 1)).flatten).length = s.ldim * 4 := by
      simp [le32_length]
    rw [this]; unfold headerSize; ring
  · intro r hr
    rw [Refine.ListFacts.length_flatMap_const (k := 8) (fun _ _ => encF64_length _), h r hr]

/-- **C09 scalar/vector fields**: any `ldim`, versions 2–4, any reader configuration -/
theorem roundtrip_solb_with {cfg : Cfg} {v : Nat} {s : SolFile} (ok : SolOK cfg v s) :
    decodeSolbWith cfg s.rows.length (encodeSolb v s) = .ok (s.ldim, s.rows) := by
  have hdata : (s.rows.flatMap (fun r => r.flatMap encF64)).length = s.rows.length * (s.ldim * 8) :=
    Refine.ListFacts.length_flatMap_const (fun r hr => by
      rw [Refine.ListFacts.length_flatMap_const (k := 8) (fun _ _ => encF64_length _), ok.rows_len r hr])
  obtain ⟨r62, hpre⟩ := solPrefix_layout (cfg := cfg) (twod := s.twod)
    (rest := (List.replicate s.ldim (le32 1)).flatten ++ s.rows.flatMap (fun r => r.flatMap encF64))
    ok.version rfl (secSol_exact v s ok.rows_len) (by simp only [secSol, List.append_assoc])
    ok.count_lt ok.ldim_lt ok.size_fits
  have hcount : (s.rows.length : Int) < 2 ^ 31 := by exact_mod_cast ok.count_lt
  have hprod : (s.ldim : Int) * (s.rows.length : Int) < 2 ^ 31 := by exact_mod_cast ok.prod_lt
  have hnn : (0 : Int) ≤ (s.ldim : Int) * (s.rows.length : Int) := Int.mul_nonneg (by omega) (by omega)
  -- the bytes the count check asks for are there: the data block itself
  have hfits : (s.rows.length : Int) * s.ldim * 8 ≤
      ((s.rows.flatMap (fun r => r.flatMap encF64) ++ r62).length : Int) := by
    rw [List.length_append, hdata]
    push_cast
    rw [Int.mul_assoc]
    omega
  have hcap := ok.cap
  unfold decodeSolbWith scalarPlan encodeSolb
  rw [hpre]
  dsimp only
  rw [Int.toNat_natCast, List.append_assoc, rdTypes_replicate _ (by simp)]
  dsimp only
  rw [Nat.zero_add, if_neg (by omega), if_neg (fun h => h.2 ⟨by omega, hcount, hfits⟩)]
  dsimp only
  rw [chunkOf_small (by omega) hcount]
  rw [if_neg (by unfold int32; omega), if_neg (by omega), if_neg (by omega),
    readLoop_one_block _ rfl ok.count_lt (fun _ => by exact_mod_cast ok.prod_lt) ?_ (by simp)]
  · dsimp only
    rw [if_pos rfl]
  · split
    next hl0 =>
      -- rows of width 0: nothing is written and nothing read; the array of empty rows is the result
      have hnil : ∀ r ∈ s.rows, r = [] := fun r hr => List.eq_nil_of_length_eq_zero (by rw [ok.rows_len r hr, hl0])
      refine ⟨?_, by rw [List.flatMap_eq_nil_iff.2 (fun r hr => by rw [hnil r hr]; rfl)]; rfl⟩
      rw [hl0]
      exact (List.eq_replicate_iff.2 ⟨rfl, hnil⟩).symm
    · exact rdRows_flatMap s.ldim s.rows r62 ok.rows_len

/-- What `roundtrip_metric_with` assumes: six slots per tensor; `6 · count` is the `int` the metric reader sizes its block
    by and `48 · count` bytes what it allocates, whatever the dimension of the file. -/
structure MetricOK (cfg : Cfg) (v : Nat) (twod : Bool) (ms : List (List UInt64)) : Prop where
  version : v = 2 ∨ v = 3 ∨ v = 4
  len6 : ∀ m ∈ ms, m.length = 6
  /-- a 2-D file stores (m11,m12,m22) only; the reader sets m13 = m23 = 0, m33 = 1 -/
  twod_fill : twod = true → ∀ m ∈ ms, m.getD 2 0 = 0 ∧ m.getD 4 0 = 0 ∧ m.getD 5 0 = 0x3ff0000000000000
  count_lt : 6 * ms.length < 2 ^ 31
  cap : 48 * ms.length ≤ cfg.allocCap
  size_fits : posFits v ((encodeMetricSolb v twod ms).length : Int)

theorem metric_slots_roundtrip (twod : Bool) (m : List UInt64) (h6 : m.length = 6)
    (hfill : twod = true → m.getD 2 0 = 0 ∧ m.getD 4 0 = 0 ∧ m.getD 5 0 = 0x3ff0000000000000) :
    metricFromFile twod (metricToFile twod m) = m := by
  match m, h6 with
  | [a, b, c, d, e, f], _ =>
    -- the generated order tables are evaluated on six symbolic entries
    cases twod with
    | false => rfl
    | true =>
      obtain ⟨h2, h4, h5⟩ := hfill rfl
      cases (h2 : c = 0); cases (h4 : e = 0); cases (h5 : f = 0x3ff0000000000000)
      rfl

theorem metricToFile_length (twod : Bool) (m : List UInt64) :
    (metricToFile twod m).length = if twod then 3 else 6 := by
  cases twod <;> simp [metricToFile, MetricOrder.write2, MetricOrder.write3]

theorem rdMetricRow_enc (twod : Bool) (m : List UInt64) (r : Bytes) (h6 : m.length = 6)
    (hfill : twod = true → m.getD 2 0 = 0 ∧ m.getD 4 0 = 0 ∧ m.getD 5 0 = 0x3ff0000000000000) :
    rdMetricRow (if twod then 3 else 6) ((metricToFile twod m).flatMap encF64 ++ r) = .ok (m, r) := by
  unfold rdMetricRow
  rw [← metricToFile_length twod m, rdF64s_flatMap]
  dsimp only
  rw [metricToFile_length twod m, show (((if twod then 3 else 6 : Nat) == 3) : Bool) = twod by cases twod <;> rfl]
  rw [metric_slots_roundtrip twod m h6 hfill]

theorem rdMetricRows_flatMap (twod : Bool) (ms : List (List UInt64)) (r : Bytes)
    (h6 : ∀ m ∈ ms, m.length = 6)
    (hfill : twod = true → ∀ m ∈ ms, m.getD 2 0 = 0 ∧ m.getD 4 0 = 0 ∧ m.getD 5 0 = 0x3ff0000000000000) :
    rdRowsWith (rdMetricRow (if twod then 3 else 6)) ms.length
      (ms.flatMap (fun m => (metricToFile twod m).flatMap encF64) ++ r) = .ok (ms, r) :=
  (rdRowsWith_eq_many ..).trans (many_flatMap id ms
    (fun m hm r => rdMetricRow_enc twod m r (h6 m hm) (fun ht => hfill ht m hm)) r)

theorem rdTypes_singleton (w : Int → Option Nat) (t : Nat) (ht : t < 2 ^ 31) (k : Nat) (hw : w (t : Int) = some k)
    (r : Bytes) : rdTypes w 1 0 (le32 t ++ r) = .ok (k, r) := by
  unfold rdTypes
  rw [rdI32_le32 ht]
  dsimp only
  rw [hw]
  simp [rdTypes]

theorem secMetric_exact (v : Nat) (twod : Bool) (ms : List (List UInt64)) : Sec.exact v (secMetric v twod ms) := by
  simp only [Sec.exact, secMetric, List.length_append, encGlob_length, le32_length]
  rw [Refine.ListFacts.length_flatMap_const (k := (if twod then 3 else 6) * 8)]
  · unfold headerSize; ring
  · intro m _
    rw [Refine.ListFacts.length_flatMap_const (k := 8) (fun _ _ => encF64_length _), metricToFile_length]

/-- **C09 metric files**: the tensor that was set is the tensor that is read -/
theorem roundtrip_metric_with {cfg : Cfg} {v : Nat} {twod : Bool} {ms : List (List UInt64)}
    (ok : MetricOK cfg v twod ms) :
    decodeMetricSolbWith cfg ms.length (encodeMetricSolb v twod ms) = .ok ms := by
  have hcount : ms.length < 2 ^ 31 := by have := ok.count_lt; omega
  obtain ⟨r62, hpre⟩ := solPrefix_layout (cfg := cfg) (twod := twod) (ntype := 1)
    (rest := le32 3 ++ ms.flatMap (fun m => (metricToFile twod m).flatMap encF64))
    ok.version rfl (secMetric_exact v twod ms) (by simp only [secMetric, List.append_assoc])
    hcount (by norm_num) ok.size_fits
  unfold decodeMetricSolbWith metricPlan encodeMetricSolb
  rw [hpre]
  dsimp only
  rw [show ((1 : Nat) : Int).toNat = 1 from rfl, List.append_assoc,
    rdTypes_singleton _ 3 (by norm_num) (if twod then 3 else 6) (by cases twod <;> rfl)]
  dsimp only
  rw [if_neg (by cases twod <;> decide), if_neg (by omega)]
  dsimp only
  rw [chunkOf_small (by omega) (by exact_mod_cast hcount)]
  have := ok.count_lt
  have := ok.cap
  rw [if_neg (by unfold int32; omega), if_neg (by omega), if_neg (by omega),
    readLoop_one_block _ rfl hcount (fun h => by cases h) ?_ (by simp)]
  · dsimp only
    rw [if_pos rfl]
  · rw [if_neg (by split <;> omega)]
    exact rdMetricRows_flatMap twod ms r62 ok.len6 ok.twod_fill

end Refine.Lemmas.Codec
