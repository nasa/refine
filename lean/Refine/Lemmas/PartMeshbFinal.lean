import Refine.Lemmas.PartMeshbWorld

/-! `distribute` in closed form: the world when `ref_part_meshb` reaches the orientation pass — its vertex entries, cells
    and CAD bytes.  The geometry-association records (`PRank.geoms`) are not part of the closed form: the passes that
    write them (`addGeoms`, `geomGhost`) are only shown to leave the rest alone (`NodesBy`) -/
namespace Refine.Lemmas.PartMeshb
open Refine.Lemmas.Reader
open Refine.Model.Meshb Refine.Model.PartMeshb
open Refine.Model.Comm (World)
open Refine.Gen.PartMacros

theorem getElem?_groupsOf_iff (p : Parsed) (i : Nat) (t : CellInfo × Nat × List (List Cell)) :
    (groupsOf p)[i]? = some t ↔ cellInfos[i]? = some t.1 ∧ t.2.1 = i ∧ p.groups[i]? = some t.2.2 := by
  unfold groupsOf
  rw [List.getElem?_map, Option.map_eq_some_iff]
  constructor
  · rintro ⟨⟨⟨ci, k⟩, chs⟩, hx, rfl⟩
    rw [List.getElem?_zip_eq_some, List.getElem?_zipIdx, Option.map_eq_some_iff] at hx
    obtain ⟨⟨a, ha, hak⟩, hg⟩ := hx
    simp only [Prod.mk.injEq] at hak
    obtain ⟨rfl, hk⟩ := hak
    exact ⟨ha, by show k = i; omega, hg⟩
  · rintro ⟨h1, h2, h3⟩
    obtain ⟨ci, k, chs⟩ := t
    simp only at h1 h2 h3
    subst h2
    refine ⟨((ci, k), chs), ?_, rfl⟩
    rw [List.getElem?_zip_eq_some, List.getElem?_zipIdx, Option.map_eq_some_iff]
    exact ⟨⟨ci, h1, by simp⟩, h3⟩

/-- the cells of group `j` of the file, all chunks in order -/
def fileGroup (p : Parsed) (j : Nat) : List Cell := (p.groups.getD j []).flatten

theorem fileGroup_of_getElem? {p : Parsed} {j : Nat} {chs : List (List Cell)} (h : p.groups[j]? = some chs) :
    fileGroup p j = chs.flatten := by
  rw [fileGroup, List.getD_eq_getElem?_getD, h, Option.getD_some]

/-- the cells of group `j` on rank `r` when the reader is done, in local order, as stored -/
def finalGroup (N : Int) (np : Nat) (p : Parsed) (j r : Nat) : List Cell :=
  match cellInfos[j]?, p.groups[j]? with
  | some ci, some chs => (finalCells N np ci r chs.flatten).map (norm ci)
  | _, _ => []

theorem finalGroup_of_none {N : Int} {np : Nat} {p : Parsed} {j : Nat} (h : (groupsOf p)[j]? = none) (r : Nat) :
    finalGroup N np p j r = [] := by
  fun_cases finalGroup N np p j r
  · rw [(getElem?_groupsOf_iff p j (_, j, _)).2 ⟨‹cellInfos[j]? = _›, rfl, ‹p.groups[j]? = _›⟩] at h
    cases h
  · rfl

/-- vertex count positive, the vertex blocks are the blocks of the partition, every cell is routable, and no two
    cells of a group have the same vertex set -/
structure ParsedOK (np : Nat) (p : Parsed) : Prop where
  nn : 1 ≤ p.nnode
  blocks : BlocksOK p.nnode np p.blocks
  cells : ∀ g ∈ cellInfos.zip p.groups, ∀ ch ∈ g.2, ∀ c ∈ ch, CellOK g.1 p.nnode c
  dist : ∀ g ∈ cellInfos.zip p.groups, Distinct g.1 g.2.flatten

/-- all groups, in the order of `groupsOf p`: when the first `i` are placed the others are still empty -/
theorem placeGroups_ok {np : Nat} (hnp : 1 ≤ np) {p : Parsed} (hp : ParsedOK np p) {V : Int → Vertex} {O : Nat → List PNode} :
    ∀ (n i : Nat) (w : World PRank), (groupsOf p).length - i = n →
      CoreIs p.nnode np V O (fun j r => if j < i then finalGroup p.nnode np p j r else []) w →
      ∃ w', placeGroups p.nnode np ((groupsOf p).drop i) w = .ok w' ∧ CoreIs p.nnode np V O (finalGroup p.nnode np p) w'
  | 0, i, w, hn, hW => by
    have hG : (fun j r => if j < i then finalGroup p.nnode np p j r else []) = finalGroup p.nnode np p := by
      funext j r
      split
      · rfl
      · exact (finalGroup_of_none (List.getElem?_eq_none (by omega)) r).symm
    exact ⟨w, by rw [List.drop_eq_nil_of_le (by omega)]; rfl, hG ▸ hW⟩
  | n + 1, i, w, hn, hW => by
    have hi : i < (groupsOf p).length := by omega
    rcases hgi : (groupsOf p)[i] with ⟨ci, k, chs⟩
    obtain ⟨h1, h2, h3⟩ := (getElem?_groupsOf_iff p i (ci, k, chs)).1 (by rw [List.getElem?_eq_getElem hi, hgi])
    simp only at h1 h2 h3
    subst h2
    have hz : (ci, chs) ∈ cellInfos.zip p.groups := List.mem_iff_getElem?.2 ⟨k, List.getElem?_zip_eq_some.2 ⟨h1, h3⟩⟩
    obtain ⟨w1, e1, hW1⟩ := placeGroup_ok hW hnp k ci h1 chs (hp.dist _ hz) (hp.cells _ hz)
      (fun _ _ => if_neg (Nat.lt_irrefl k))
    have hG : setG (fun j r => if j < k then finalGroup p.nnode np p j r else []) k
        (fun r => (finalCells p.nnode np ci r chs.flatten).map (norm ci)) =
        fun j r => if j < k + 1 then finalGroup p.nnode np p j r else [] := by
      funext j r
      unfold setG
      by_cases hj : j = k
      · subst hj
        rw [if_pos rfl, if_pos (Nat.lt_succ_self j), finalGroup, h1, h3]
      · rw [if_neg hj]
        show (if j < k then _ else _) = _
        by_cases hlt : j < k
        · rw [if_pos hlt, if_pos (by omega)]
        · rw [if_neg hlt, if_neg (by omega)]
    rw [hG] at hW1
    obtain ⟨w2, e2, hW2⟩ := placeGroups_ok hnp hp n (k + 1) w1 (by omega) hW1
    refine ⟨w2, ?_, hW2⟩
    rw [List.drop_eq_getElem_cons hi, hgi]
    simp only [placeGroups, e1, e2]

theorem RankInv.transfer {N : Int} {np : Nat} {V : Int → Vertex} {r : Nat} {st st' : PRank}
    (h : RankInv N np V r st) (F : PNode → PNode) (hF : ∀ n, (F n).glob = n.glob ∧ (F n).part = n.part)
    (hx : ∀ n ∈ st.nodes, n.part = (r : Int) → (F n).xyz = n.xyz)
    (hn : st'.nodes = st.nodes.map F) (hc : st'.cells = st.cells) : RankInv N np V r st' := by
  have hhas : ∀ g, st'.has g = st.has g := by
    intro g
    rw [Bool.eq_iff_iff, has_iff, has_iff, hn]
    constructor
    · rintro ⟨n, hn', hg⟩
      obtain ⟨m, hm, rfl⟩ := List.mem_map.1 hn'
      exact ⟨m, hm, by rw [← (hF m).1]; exact hg⟩
    · rintro ⟨n, hn', hg⟩
      exact ⟨F n, List.mem_map.2 ⟨n, hn', rfl⟩, by rw [(hF n).1]; exact hg⟩
  have hgrp : ∀ j, st'.group j = st.group j := by intro j; simp [PRank.group, hc]
  constructor
  case parts =>
    intro n hn'
    rw [hn] at hn'
    obtain ⟨m, hm, rfl⟩ := List.mem_map.1 hn'
    rw [(hF m).1, (hF m).2]
    exact h.parts m hm
  case nodup =>
    rw [hn, List.map_map]
    have : ((fun n : PNode => n.glob) ∘ F) = fun n => n.glob := by funext n; exact (hF n).1
    rw [this]; exact h.nodup
  case owned =>
    intro g h0 h1 hi; rw [hhas]; exact h.owned g h0 h1 hi
  case xyz =>
    intro n hn' hp
    rw [hn] at hn'
    obtain ⟨m, hm, rfl⟩ := List.mem_map.1 hn'
    rw [(hF m).2] at hp
    rw [hx m hm hp, (hF m).1]
    exact h.xyz m hm hp
  case ncells =>
    rw [hc]; exact h.ncells
  case verts =>
    intro k ci hk c hc' x hx'
    rw [hgrp] at hc'; rw [hhas]
    exact h.verts k ci hk c hc' x hx'
  case ghosts =>
    intro n hn' hp
    rw [hn] at hn'
    obtain ⟨m, hm, rfl⟩ := List.mem_map.1 hn'
    rw [(hF m).2] at hp
    obtain ⟨k, ci, hk, c, hc', hx'⟩ := h.ghosts m hm hp
    exact ⟨k, ci, hk, c, by rw [hgrp]; exact hc', by rw [(hF m).1]; exact hx'⟩

theorem addGeoms_frame (t : Nat) (st : PRank) (recs : List RawGeom) :
    (addGeoms t st recs).nodes = st.nodes ∧ (addGeoms t st recs).cells = st.cells ∧
    (addGeoms t st recs).cad = st.cad ∧ (addGeoms t st recs).nGlobal = st.nGlobal := ⟨rfl, rfl, rfl, rfl⟩

structure NodesBy (F : PNode → PNode) (st st' : PRank) : Prop where
  nodes : st'.nodes = st.nodes.map F
  cells : st'.cells = st.cells
  nGlobal : st'.nGlobal = st.nGlobal

theorem foldl_addGeoms_frame (l : List (List RawGeom × Nat)) (st : PRank) :
    NodesBy (fun n => n) st (l.foldl (fun st gt => addGeoms gt.2 st gt.1) st) :=
  List.foldlRecOn l _ (motive := NodesBy (fun n => n) st) ⟨by simp, rfl, rfl⟩
    fun _ hs _ _ => ⟨hs.nodes, hs.cells, hs.nGlobal⟩

/-- the entry a ghost ends with after `ref_node_ghost_real` -/
def ghostFill (w : World PRank) (r : Nat) (n : PNode) : PNode :=
  if n.part != (r : Int) then
    match (w.getD n.part.toNat default).nodes.find? fun o => o.glob == n.glob with
    | some o => { n with xyz := o.xyz }
    | none => n
  else n

section Core
variable {N : Int} {np : Nat} {V : Int → Vertex} {O : Nat → List PNode} {G : Nat → Nat → List Cell}
  {w : World PRank}

theorem CoreIs.owner_has (hC : CoreIs N np V O G w) (r : Nat) (hr : r < np) (n : PNode)
    (hn : n ∈ (w.getD r default).nodes) :
    0 ≤ n.part ∧ n.part.toNat < np ∧ (w.getD n.part.toNat default).has n.glob = true := by
  obtain ⟨h0, h1, hpq⟩ := (hC.inv r hr).parts n hn
  obtain ⟨i0, i1⟩ := imp_range (N := N) (np := np) (by omega) h0 h1
  rw [← hpq] at i0 i1
  have hq : n.part.toNat < np := by omega
  exact ⟨i0, hq, (hC.inv _ hq).owned n.glob h0 h1 (by rw [Int.toNat_of_nonneg i0]; exact hpq.symm)⟩

theorem CoreIs.transfer (hC : CoreIs N np V O G w) {w' : World PRank} (F : Nat → PNode → PNode)
    (hF : ∀ r n, (F r n).glob = n.glob ∧ (F r n).part = n.part) (hx : ∀ (r : Nat) (n : PNode), n.part = (r : Int) → F r n = n)
    (hlen : w'.length = w.length)
    (hR : ∀ r, r < np → NodesBy (F r) (w.getD r default) (w'.getD r default)) :
    CoreIs N np V O G w' := by
  refine ⟨by rw [hlen, hC.len], fun r hr => ?_, fun r hr j => ?_, fun r hr => ?_, fun r hr => ?_⟩
  · exact (hC.inv r hr).transfer (F r) (hF r) (fun n _ hp => by rw [hx r n hp]) (hR r hr).nodes (hR r hr).cells
  · rw [← hC.grp r hr j]
    simp only [PRank.group, (hR r hr).cells]
  · rw [(hR r hr).nodes, List.filter_map, ← hC.own r hr]
    have hfe : (w.getD r default).nodes.filter ((fun n => n.part == (r : Int)) ∘ F r) =
        (w.getD r default).nodes.filter (fun n => n.part == (r : Int)) :=
      List.filter_congr fun n _ => by simp only [Function.comp, (hF r n).2]
    rw [hfe]
    exact ListFacts.map_eq_self fun n hn => hx r n (by simpa using (List.mem_filter.1 hn).2)
  · rw [(hR r hr).nGlobal]; exact hC.glob r hr

theorem ghostFill_glob_part (w : World PRank) (r : Nat) (n : PNode) :
    (ghostFill w r n).glob = n.glob ∧ (ghostFill w r n).part = n.part := by
  fun_cases ghostFill w r n <;> exact ⟨rfl, rfl⟩

theorem ghostFill_owned (w : World PRank) (r : Nat) (n : PNode) (hp : n.part = (r : Int)) : ghostFill w r n = n := by
  simp only [ghostFill]
  rw [if_neg]
  simp [hp]

/-- after `ref_node_ghost_real` every entry carries the coordinates of the file: an owned one had them, a ghost takes
    them from the entry of its owner -/
theorem CoreIs.ghostFill_xyz (hC : CoreIs N np V O G w) (r : Nat) (hr : r < np) (n : PNode)
    (hn : n ∈ (w.getD r default).nodes) : (ghostFill w r n).xyz = some (V n.glob) := by
  by_cases hp : n.part = (r : Int)
  · rw [ghostFill_owned w r n hp]
    exact (hC.inv r hr).xyz n hn hp
  · obtain ⟨_, hq, hhas⟩ := hC.owner_has r hr n hn
    have hnp' := ((hC.inv r hr).parts n hn).2.2
    have hne : (n.part != (r : Int)) = true := by simpa using hp
    simp only [ghostFill, hne, if_true]
    obtain ⟨o, hom, hog, hf⟩ := find_of_has hhas
    simp only [hf]
    have : o.part = ((n.part.toNat : Nat) : Int) := by
      rw [((hC.inv _ hq).parts o hom).2.2, hog, ← hnp']; omega
    rw [(hC.inv _ hq).xyz o hom this, hog]

theorem CoreIs.map (hC : CoreIs N np V O G w) (f : PRank → PRank) (hf : ∀ st, NodesBy (fun n => n) st (f st)) :
    CoreIs N np V O G (w.map f) :=
  hC.transfer (fun _ n => n) (fun _ _ => ⟨rfl, rfl⟩) (fun _ _ _ => rfl) (List.length_map _) fun r hr => by
    rw [Refine.ListFacts.getD_map_of_lt default (hC.len ▸ hr)]; exact hf _

/-- `ref_geom_ghost` touches the geometry records only: every ghost's owner knows the vertex -/
theorem CoreIs.geomGhost_ok (hC : CoreIs N np V O G w) :
    ∃ w', geomGhost np w = .ok w' ∧ CoreIs N np V O G w' ∧
      ∀ r, r < np → (w'.getD r default).cad = (w.getD r default).cad := by
  unfold geomGhost
  split
  · exact ⟨w, rfl, hC, fun _ _ => rfl⟩
  · refine (mapRanks_rel _ (fun _ st st' => NodesBy (fun n => n) st st' ∧ st'.cad = st.cad) w fun r hr => ?_).imp
      fun w' ⟨h, hl, hR⟩ => ⟨h, hC.transfer (fun _ n => n) (fun _ _ => ⟨rfl, rfl⟩) (fun _ _ _ => rfl) hl
        fun r hr => (hR r (hC.len ▸ hr)).1, fun r hr => (hR r (hC.len ▸ hr)).2⟩
    dsimp only
    rw [if_neg]
    · exact ⟨_, rfl, ⟨by simp, rfl, rfl⟩, rfl⟩
    · intro hany
      obtain ⟨n, hn, hb⟩ := List.any_eq_true.1 hany
      rw [(hC.owner_has r (hC.len ▸ hr) n (List.mem_of_mem_filter hn)).2.2] at hb
      simp at hb

/-- `ref_node_ghost_real` completes the coordinates: an owned entry had them, a ghost takes them from its owner -/
theorem CoreIs.ghostReal_ok (hC : CoreIs N np V O G w) :
    ∃ w', ghostReal np w = .ok w' ∧ CoreIs N np V O G w' ∧
      (∀ r, r < np → ∀ n ∈ (w'.getD r default).nodes, n.xyz = some (V n.glob)) ∧
      ∀ r, r < np → (w'.getD r default).cad = (w.getD r default).cad := by
  unfold ghostReal
  split
  · refine ⟨w, rfl, hC, fun r hr n hn => ?_, fun _ _ => rfl⟩
    obtain ⟨i0, i1, _⟩ := hC.owner_has r hr n hn
    exact (hC.inv r hr).xyz n hn (by omega)
  · refine (mapRanks_rel _ (fun r st st' => NodesBy (ghostFill w r) st st' ∧ st'.cad = st.cad) w fun r hr => ?_).imp
      fun w' ⟨h, hl, hR⟩ => ⟨h, hC.transfer (ghostFill w) (ghostFill_glob_part w) (ghostFill_owned w) hl
        fun r hr => (hR r (hC.len ▸ hr)).1, fun r hr n' hn' => ?_, fun r hr => (hR r (hC.len ▸ hr)).2⟩
    · rw [if_neg]
      · exact ⟨_, rfl, ⟨rfl, rfl, rfl⟩, rfl⟩
      · intro hany
        obtain ⟨n, hn, hb⟩ := List.any_eq_true.1 hany
        rw [(hC.owner_has r (hC.len ▸ hr) n hn).2.2] at hb
        simp at hb
    · rw [(hR r (hC.len ▸ hr)).1.nodes] at hn'
      obtain ⟨n, hn, rfl⟩ := List.mem_map.1 hn'
      rw [(ghostFill_glob_part w r n).1]
      exact hC.ghostFill_xyz r hr n hn

end Core

/-- the world just before the orientation pass -/
structure FinalIs (N : Int) (np : Nat) (V : Int → Vertex) (O : Nat → List PNode) (G : Nat → Nat → List Cell)
    (cad : Bytes) (w : World PRank) : Prop extends CoreIs N np V O G w where
  xyz : ∀ r, r < np → ∀ n ∈ (w.getD r default).nodes, n.xyz = some (V n.glob)
  cad : ∀ r, r < np → (w.getD r default).cad = cad

/-- the world of `distribute_ok`: the closed form with the vertex coordinates, owned entries and groups of the file `p` -/
abbrev FinalP (np : Nat) (p : Parsed) (cad : Bytes) (w : World PRank) : Prop :=
  FinalIs p.nnode np (vertexOf p.nnode np p.blocks) (fun r => ownedNodes p.nnode np r (p.blocks.getD r []))
    (finalGroup p.nnode np p) cad w

/-- `distribute` on the data of an accepted file (vertex count positive, blocks as partitioned, cells routable and
    pairwise different as vertex sets): it succeeds, and the world is the closed form -/
theorem distribute_ok {np : Nat} (hnp : 1 ≤ np) {p : Parsed} (hp : ParsedOK np p) :
    ∃ w, distribute np p = .ok w ∧ FinalP np p p.cad w := by
  obtain ⟨w1, h1, hW1⟩ := placeGroups_ok hnp hp _ 0 _ rfl (by simpa using initWorld_is hp.nn hnp p.blocks hp.blocks)
  rw [List.drop_zero] at h1
  unfold distribute
  simp only
  rw [h1]
  simp only
  -- the geometry records and the CAD bytes leave vertices and cells alone
  have hC2 := hW1.map _ fun st => foldl_addGeoms_frame p.geoms.zipIdx st
  have hC3 := hC2.map (fun st => { st with cad := p.cad }) fun st => ⟨by simp, rfl, rfl⟩
  obtain ⟨w4, h4, hC4, hcad4⟩ := hC3.geomGhost_ok
  obtain ⟨w5, h5, hC5, hxyz, hcad5⟩ := hC4.ghostReal_ok
  rw [h4]
  refine ⟨w5, h5, hC5, hxyz, fun r hr => ?_⟩
  rw [hcad5 r hr, hcad4 r hr, Refine.ListFacts.getD_map_of_lt default (hC2.len ▸ hr)]

/-- with `1 ≤ nnode < 2^31` the per-part record counts of `ref_part_node` are the block sizes -/
theorem blockCount_eq {N : Int} {np : Nat} (hN : 1 ≤ N) (hN31 : N < 2 ^ 31) (hnp : 1 ≤ np) (r : Nat) (hr : r < np) :
    blockCount N np r = firstOf N np (r + 1) - firstOf N np r ∧ 0 ≤ blockCount N np r := by
  obtain ⟨b0, b1, b2⟩ := block_bounds hN r hr
  unfold blockCount
  by_cases h0 : r = 0
  · subst h0
    have hz : ref_part_first N (np : Int) 0 = 0 := firstOf_zero hN hnp
    simp only [if_true]
    unfold firstOf at b0 b1 b2 ⊢
    simp only [Nat.cast_zero, Nat.zero_add, Nat.cast_one] at b0 b1 b2 ⊢
    rw [hz] at b1 ⊢
    omega
  · simp only [if_neg h0]
    have : ref_part_first N (np : Int) ((r : Int) + 1) = firstOf N np (r + 1) := (first_succ_cast N np r).symm
    rw [this]
    have hw : wrap32 (firstOf N np (r + 1) - firstOf N np r) = _ := Refine.Lemmas.Codec.wrap32_of_int32 (by
      unfold int32 firstOf at *
      omega)
    unfold firstOf at hw b1 ⊢
    rw [hw]
    omega

theorem blocksOK_of_rdBlocks {N : Int} {np : Nat} {v : Nat} {twod : Bool} {s r : Bytes} {blocks : List (List Vertex)}
    (hN : 1 ≤ N) (hN31 : N < 2 ^ 31) (hnp : 1 ≤ np)
    (h : rdBlocks v twod (blockCounts N np) s = .ok (blocks, r)) : BlocksOK N np blocks := by
  obtain ⟨hl, hi⟩ := rdBlocks_lengths _ h
  have hlen : (blockCounts N np).length = np := by simp [blockCounts]
  refine ⟨by rw [hl, hlen], ?_⟩
  intro q hq
  rw [hi q (by rw [hlen]; exact hq)]
  have hget : (blockCounts N np).getD q 0 = blockCount N np q := Refine.ListFacts.getD_map_range hq
  obtain ⟨e, h0⟩ := blockCount_eq hN hN31 hnp q hq
  rw [hget, Int.toNat_of_nonneg h0, e]

theorem parsedOK_of_parse {cfg : Cfg} {np cm : Nat} {bs : Bytes} {p : Parsed} (hnp : 1 ≤ np)
    (h : parseWith cfg np cm bs = .ok p) (hN : 1 ≤ p.nnode) (hN31 : p.nnode < 2 ^ 31)
    (hd : ∀ g ∈ cellInfos.zip p.groups, Distinct g.1 g.2.flatten) : ParsedOK np p := by
  obtain ⟨_, _, hs⟩ := parse_inv h
  obtain ⟨_, _, _, _, _, _, hb, _⟩ := hs.verts
  exact ⟨hN, blocksOK_of_rdBlocks hN hN31 hnp hb, parse_cells h, hd⟩

theorem flatten_eq_flatMap_range {α : Type} (l : List (List α)) :
    l.flatten = (List.range l.length).flatMap fun r => l.getD r [] := by
  rw [List.flatMap_def, ListFacts.map_getD_range]

theorem blocks_total {N : Int} {np : Nat} {blocks : List (List Vertex)} (hN : 1 ≤ N) (hnp : 1 ≤ np)
    (hb : BlocksOK N np blocks) : blocks.flatten.length = N.toNat := by
  -- the block sizes telescope
  have key : ∀ k, k ≤ np → ((List.range k).map fun r => (blocks.getD r []).length).sum = (firstOf N np k).toNat := by
    intro k
    induction k with
    | zero => intro _; simp [firstOf_zero hN hnp]
    | succ k ih =>
      intro hk
      obtain ⟨b0, b1, _⟩ := block_bounds (np := np) hN k (by omega)
      have hlen := hb.2 k (by omega)
      rw [List.range_succ, List.map_append, List.sum_append, ih (by omega)]
      simp only [List.map_cons, List.map_nil, List.sum_cons, List.sum_nil]
      omega
  rw [flatten_eq_flatMap_range, hb.1, List.length_flatMap, key np (le_refl _), firstOf_np hN hnp]

end Refine.Lemmas.PartMeshb
