import Refine.Lemmas.PartMeshbParse

/-! the declared counts of the parallel meshb reader behind `ref_part_meshb_count_fits` (/repo 4474557): the read
    loops make progress and return, the buffer sizes stay inside `int` -/
namespace Refine.Lemmas.PartMeshb
open Refine.Lemmas.Reader
open Refine.Model.Meshb Refine.Model.PartMeshb Refine.Lemmas.Codec
open Refine.Gen.PartMacros

theorem countFits_iff (n : Int) (s : Bytes) :
    countFits n s = true ↔ 0 ≤ n ∧ n ≤ INT_MAX ∧ n ≤ ((s.length / 4 : Nat) : Int) := by
  simp [countFits, and_assoc]

theorem chunkOf_bounds {cm np : Nat} {n : Int} (hcm : 1 ≤ cm) (hcmax : (cm : Int) ≤ INT_MAX)
    (h0 : 0 ≤ n) (h1 : n ≤ INT_MAX) :
    chunkOf cm n np = max (cm : Int) (Int.tdiv n (np : Int)) ∧ 1 ≤ chunkOf cm n np ∧ chunkOf cm n np ≤ INT_MAX := by
  have d0 : 0 ≤ Int.tdiv n (np : Int) := by
    rw [Int.tdiv_eq_ediv_of_nonneg h0]; exact Int.ediv_nonneg h0 (by omega)
  have d1 : Int.tdiv n (np : Int) ≤ n := by
    rw [Int.tdiv_eq_ediv_of_nonneg h0]; exact Int.ediv_le_self _ h0
  have hm0 : (0 : Int) ≤ max (cm : Int) (Int.tdiv n (np : Int)) := le_max_of_le_right d0
  have hm1 : max (cm : Int) (Int.tdiv n (np : Int)) ≤ INT_MAX := max_le hcmax (le_trans d1 h1)
  unfold chunkOf
  rw [wrap32_of_int32 (by unfold int32; unfold INT_MAX at hm1; omega)]
  refine ⟨rfl, ?_, hm1⟩
  have : (1 : Int) ≤ (cm : Int) := by exact_mod_cast hcm
  exact le_trans this (le_max_left _ _)

theorem sectionSize_pos {chunk n nread : Int} (hc : 1 ≤ chunk) (h0 : 0 ≤ nread) (hlt : nread < n)
    (h1 : n ≤ INT_MAX) : 1 ≤ sectionSize chunk n nread := by
  unfold sectionSize
  rw [wrap32_of_int32 (by unfold int32; unfold INT_MAX at h1; omega)]
  exact le_min hc (by omega)

theorem err_ne_diverge {β : Type} {e : Status} (h : e = .failure) :
    (Except.error e : Except Status β) ≠ .error .diverge := by subst h; nofun

theorem err_ne_diverge_of {α β : Type} {x : Except Status α} {e : Status} (hx : x ≠ .error .diverge)
    (h : x = .error e) : (Except.error e : Except Status β) ≠ .error .diverge := by
  rintro ⟨⟩; exact hx h

theorem rdF64_error {s : Bytes} {e : Status} (h : rdF64 s = .error e) : e = .failure := by
  unfold rdF64 at h
  split at h
  · cases h
  · cases h; exact rdU_error ‹_›

/-- a coordinate or parameter that is read only for some dimensions / geometry types -/
theorem rdF64_opt_error {c : Prop} [Decidable c] {s : Bytes} {e : Status}
    (h : (if c then rdF64 s else .ok (0, s)) = .error e) : e = .failure := by
  split at h
  · exact rdF64_error h
  · cases h

theorem rdVertD_error {v : Nat} {twod : Bool} {s : Bytes} {e : Status} (h : rdVertD v twod s = .error e) :
    e = .failure := by
  revert h
  fun_cases rdVertD v twod s <;> intro h <;> cases h
  · exact rdF64_error ‹_›
  · exact rdF64_error ‹_›
  · rename_i h3
    split at h3
    · cases h3
    · exact rdF64_error h3
  · rename_i h4
    split at h4
    · exact rdLong_error h4
    · cases h4

theorem rdBlocks_error {v : Nat} {twod : Bool} (counts : List Int) {s : Bytes} {e : Status}
    (h : rdBlocks v twod counts s = .error e) : e = .failure := by
  revert h
  fun_induction rdBlocks v twod counts s <;> intro h <;> cases h
  · exact many_error (fun _ _ => rdVertD_error) _ ((rdVertsD_eq_many ..).symm.trans ‹_›)
  · rename_i ih hx
    exact ih hx

theorem rdLongs_error {v : Nat} (k : Nat) {s : Bytes} {e : Status} (h : rdLongs v k s = .error e) :
    e = .failure := by
  rw [rdLongs_eq_many] at h; exact many_error (fun _ _ => rdLong_error) k h

theorem readChunk_error {v : Nat} {ci : CellInfo} {N : Int} {sec : Nat} {s : Bytes} {e : Status}
    (h : readChunk v ci N sec s = .error e) : e = .failure ∨ e = .invalid := by
  unfold readChunk at h
  split at h
  · cases h; exact .inl rfl
  · rw [rdRecs_eq_many] at h
    split at h
    · cases h; exact .inl (many_error (fun _ _ => rdLongs_error _) _ ‹_›)
    · split at h
      · cases h; exact .inr rfl
      · cases h

/-- **the cell read loop returns**: with `chunk ≥ 1`, a count `≤ INT_MAX` and fuel above the records that remain,
    the loop never gets to the model's `diverge` (no trip with `section_size = 0`, fuel not exhausted) -/
theorem rdCellChunks_ne_diverge {v : Nat} {ci : CellInfo} {N chunk ncell : Int} (hc : 1 ≤ chunk)
    (h1 : ncell ≤ INT_MAX) : ∀ (fuel : Nat) (nread : Int) (s : Bytes) (acc : List (List Cell)),
    0 ≤ nread → ncell - nread < (fuel : Int) →
    rdCellChunks v ci N chunk ncell fuel nread s acc ≠ .error .diverge
  | 0, nread, s, acc, h0, hf => by
    unfold rdCellChunks
    rw [if_neg (by push_cast at hf; omega)]
    nofun
  | fuel + 1, nread, s, acc, h0, hf => by
    unfold rdCellChunks
    split
    · rename_i hlt
      have hs := sectionSize_pos hc h0 hlt h1
      simp only
      rw [if_neg (by omega), if_neg (by omega)]
      split
      · rcases readChunk_error ‹_› with h | h <;> subst h <;> nofun
      · exact rdCellChunks_ne_diverge hc h1 fuel _ _ _ (by omega) (by push_cast at hf ⊢; omega)
    · nofun

theorem mallocInts_ne_diverge (cap b : Nat) (c : Int) : mallocInts cap b c ≠ .error .diverge := by
  unfold mallocInts
  repeat' split
  all_goals nofun

theorem rdCellSection_ne_diverge {cfg : Cfg} {cm v np : Nat} {ci : CellInfo} {N n : Int} {s : Bytes}
    (hcm : 1 ≤ cm) (hcmax : (cm : Int) ≤ INT_MAX) (hfit : countFits n s = true) :
    rdCellSection cfg cm v np ci N n s ≠ .error .diverge := by
  obtain ⟨h0, h1, _⟩ := (countFits_iff n s).1 hfit
  obtain ⟨_, hc, _⟩ := chunkOf_bounds (np := np) hcm hcmax h0 h1
  unfold rdCellSection
  simp only
  split
  · exact err_ne_diverge_of (mallocInts_ne_diverge _ _ _) ‹_›
  split
  · exact err_ne_diverge_of (mallocInts_ne_diverge _ _ _) ‹_›
  · exact rdCellChunks_ne_diverge hc h1 _ _ _ _ (le_refl _) (by
      rw [Int.natCast_add, Int.toNat_of_nonneg h0]; omega)

theorem rdGeomRec_error {v t : Nat} {s : Bytes} {e : Status} (h : rdGeomRec v t s = .error e) : e = .failure := by
  revert h
  fun_cases rdGeomRec v t s <;> intro h <;> cases h
  · exact rdLong_error ‹_›
  · exact rdLong_error ‹_›
  · exact rdF64_opt_error ‹_›
  · exact rdF64_opt_error ‹_›
  · exact rdF64_opt_error ‹_›

theorem rdGeomChunks_ne_diverge {v t : Nat} {chunk ngeom : Int} (hc : 1 ≤ chunk) (h1 : ngeom ≤ INT_MAX) :
    ∀ (fuel : Nat) (nread : Int) (s : Bytes) (acc : List RawGeom),
    0 ≤ nread → ngeom - nread < (fuel : Int) →
    rdGeomChunks v t chunk ngeom fuel nread s acc ≠ .error .diverge
  | 0, nread, s, acc, h0, hf => by
    unfold rdGeomChunks
    rw [if_neg (by push_cast at hf; omega)]
    nofun
  | fuel + 1, nread, s, acc, h0, hf => by
    unfold rdGeomChunks
    split
    · rename_i hlt
      have hs := sectionSize_pos hc h0 hlt h1
      simp only
      rw [if_neg (by omega), if_neg (by omega), rdGeomRecs_eq_many]
      split
      · exact err_ne_diverge (many_error (fun _ _ => rdGeomRec_error) _ ‹_›)
      · exact rdGeomChunks_ne_diverge hc h1 fuel _ _ _ (by omega) (by push_cast at hf ⊢; omega)
    · nofun

theorem rdGeomSection_ne_diverge {cfg : Cfg} {cm v np t : Nat} {n : Int} {s : Bytes}
    (hcm : 1 ≤ cm) (hcmax : (cm : Int) ≤ INT_MAX) (hfit : countFits n s = true) :
    rdGeomSection cfg cm v np t n s ≠ .error .diverge := by
  obtain ⟨h0, h1, _⟩ := (countFits_iff n s).1 hfit
  obtain ⟨_, hc, hcm'⟩ := chunkOf_bounds (np := np) hcm hcmax h0 h1
  unfold rdGeomSection
  simp only
  split
  · exact err_ne_diverge_of (mallocInts_ne_diverge _ _ _) ‹_›
  split
  · exact err_ne_diverge_of (mallocInts_ne_diverge _ _ _) ‹_›
  · by_cases hn0 : n = 0
    · subst hn0
      unfold rdGeomChunks
      simp
    · rw [wrap32_of_int32 (by unfold int32; unfold INT_MAX at h1; omega)]
      exact rdGeomChunks_ne_diverge (le_min hc (by omega)) h1 _ _ _ _ (le_refl _) (by
        rw [Int.natCast_add, Int.toNat_of_nonneg h0]; omega)

theorem jump_error {v : Nat} {bs : Bytes} {kp : KeyPos} {kw : Nat} {e : Status}
    (h : jump v bs kp kw = .error e) : e = .failure := by
  unfold jump at h
  split at h
  · cases h
  · split at h
    · cases h; exact rdI32_error ‹_›
    · split at h
      · cases h; rfl
      · split at h
        · cases h; exact rdPos_error ‹_›
        · cases h

theorem kwSectionL_ne_diverge {α : Type} {v : Nat} {bs : Bytes} {kp : KeyPos} {kw : Nat} {dflt : α}
    {body : Int → P α} (hbody : ∀ n s, countFits n s = true → body n s ≠ .error .diverge) :
    kwSectionL v bs kp kw dflt body ≠ .error .diverge := by
  fun_cases kwSectionL v bs kp kw dflt body
  case case1 => exact err_ne_diverge (jump_error ‹_›)
  case case3 => exact err_ne_diverge (rdLong_error ‹_›)
  case case5 => exact err_ne_diverge_of (hbody _ _ (by simpa using ‹¬ (!countFits _ _) = true›)) ‹_›
  all_goals nofun

theorem rdCad_ne_diverge (cfg : Cfg) (v : Nat) (bs : Bytes) (kp : KeyPos) : rdCad cfg v bs kp ≠ .error .diverge := by
  fun_cases rdCad cfg v bs kp
  case case1 => exact err_ne_diverge (jump_error ‹_›)
  case case3 =>
    rename_i hs
    unfold rdSize at hs
    exact err_ne_diverge (by split at hs <;> exact rdU_error hs)
  case case5 => exact err_ne_diverge (takeN_error ‹_›)
  all_goals nofun

/-- **rank 0's reading returns on every byte string** (reader of /repo since 4474557): the model's `diverge` —
    the C loop that does not return — is not a possible outcome of `parseWith Cfg.current` -/
theorem parse_ne_diverge {np cm : Nat} (hcm : 1 ≤ cm) (hcmax : (cm : Int) ≤ INT_MAX) (bs : Bytes) :
    parseWith Cfg.current np cm bs ≠ .error .diverge := by
  fun_cases parseWith Cfg.current np cm bs
  case case1 => /- the header -/ exact err_ne_diverge_of (header_fixed_ne_diverge bs) ‹_›
  case case2 => /- seek to `Dimension` -/ exact err_ne_diverge (jump_error ‹_›)
  case case4 => /- the dimension -/ exact err_ne_diverge (rdI32_error ‹_›)
  case case5 => /- seek to `Vertices` -/ exact err_ne_diverge (jump_error ‹_›)
  case case7 => /- the vertex count -/ exact err_ne_diverge (rdLong_error ‹_›)
  case case8 => /- the vertex blocks -/ exact err_ne_diverge (rdBlocks_error _ ‹_›)
  case case10 => /- the cell sections -/
    obtain ⟨ci, _, he⟩ := each_error ((rdCellGroupsP_eq_each ..).symm.trans ‹_›)
    exact err_ne_diverge_of (kwSectionL_ne_diverge fun n s hf => rdCellSection_ne_diverge hcm hcmax hf) he
  case case11 => /- the geometry sections -/
    obtain ⟨t, _, he⟩ := each_error ((rdGeomTypesP_eq_each ..).symm.trans ‹_›)
    exact err_ne_diverge_of (kwSectionL_ne_diverge fun n s hf => rdGeomSection_ne_diverge hcm hcmax hf) he
  case case12 => /- the CAD bytes -/ exact err_ne_diverge_of (rdCad_ne_diverge _ _ _ _) ‹_›
  -- the three `REF_FAILURE` returns and the accepted file
  all_goals nofun

/-- the file-size bound of `partCell_no_int_overflow`: `(2^31 - 1) / 28 * 4` bytes per rank (≈ 292 MiB) -/
def overflowFreeBytes : Nat := 306783376

/-- with at most `overflowFreeBytes` bytes per rank a chunk has at most `76695844 = (2^31 - 1) / 28` records, and no record
    of `cellInfos` has more than 28 `int`s (`cellInfos_nodePer_le`) -/
theorem chunk_small {np : Nat} {n : Int} {len : Nat} (hnp : 1 ≤ np) (h0 : 0 ≤ n)
    (hfit : n ≤ ((len / 4 : Nat) : Int)) (hlen : len ≤ overflowFreeBytes * np) (h1 : n ≤ INT_MAX) :
    1 ≤ chunkOf chunkConst n np ∧ chunkOf chunkConst n np ≤ 76695844 := by
  obtain ⟨he, hc, _⟩ := chunkOf_bounds (cm := chunkConst) (np := np) (by decide) (by decide) h0 h1
  refine ⟨hc, ?_⟩
  rw [he]
  apply max_le
  · decide
  · rw [Int.tdiv_eq_ediv_of_nonneg h0]
    have hnpI : (0 : Int) < (np : Int) := by exact_mod_cast hnp
    have : n < (76695844 + 1) * (np : Int) := by
      unfold overflowFreeBytes at hlen
      omega
    have := Int.ediv_lt_of_lt_mul hnpI this
    omega

theorem kwSectionL_fits {α : Type} {v : Nat} {bs : Bytes} {kp : KeyPos} {kw : Nat} {dflt a : α}
    {body : Int → P α} (h : kwSectionL v bs kp kw dflt body = .ok a) {next : Int} {s0 s : Bytes} {n : Int}
    (hj : jump v bs kp kw = .ok (some (next, s0))) (hl : rdLong v s0 = .ok (n, s)) : countFits n s = true := by
  rcases kwSectionL_cases h with ⟨hn, _⟩ | ⟨_, _, _, _, _, hj', hl', hf, _⟩
  · rw [hj] at hn; cases hn
  · rw [hj] at hj'; cases hj'
    rw [hl] at hl'; cases hl'
    exact hf

end Refine.Lemmas.PartMeshb
