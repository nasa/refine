import Refine.Lemmas.PartMeshbParse
import Refine.Lemmas.PartLemmas
import Refine.Lemmas.ListFacts
import Refine.Lemmas.Ins
import Mathlib.Data.List.Basic

/-! one rank of the parallel meshb reader: the vertex table and the cell store under `ref_cell_add_many_global` -/
namespace Refine.Lemmas.PartMeshb
open Refine.Model.Meshb Refine.Model.PartMeshb
open Refine.Gen.PartMacros

theorem memFirst_iff (n : Nat) (l : List Int) (x : Int) : memFirst n l x = true ↔ x ∈ l.take n := by
  fun_induction memFirst n l x <;> simp_all

theorem subFirst_iff (m : Nat) (b : List Int) (n : Nat) (a : List Int) :
    subFirst m b n a = true ↔ ∀ x ∈ a.take n, x ∈ b.take m := by
  fun_induction subFirst m b n a <;> simp_all [memFirst_iff]

theorem sameSet_iff (n : Nat) (a b : Cell) :
    sameSet n a b = true ↔ ∀ x, x ∈ a.take n ↔ x ∈ b.take n := by
  simp only [sameSet, Bool.and_eq_true, subFirst_iff]
  constructor
  · rintro ⟨h1, h2⟩ x
    exact ⟨h1 x, h2 x⟩
  · intro h
    exact ⟨fun x => (h x).1, fun x => (h x).2⟩

theorem sameSet_refl (n : Nat) (a : Cell) : sameSet n a a = true := (sameSet_iff n a a).2 fun _ => Iff.rfl

theorem sameSet_congr (n : Nat) (a a' b b' : Cell) (ha : a.take n = a'.take n) (hb : b.take n = b'.take n) :
    sameSet n a b = sameSet n a' b' := by
  rw [Bool.eq_iff_iff, sameSet_iff, sameSet_iff, ha, hb]

/-- what `ref_cell_add` stores: the vertices, and the id column through `(REF_INT)` -/
def norm (ci : CellInfo) (c : Cell) : Cell := c.take ci.nodePer ++ (c.drop ci.nodePer).map wrap32

theorem norm_take (ci : CellInfo) (c : Cell) (h : ci.nodePer ≤ c.length) :
    (norm ci c).take ci.nodePer = c.take ci.nodePer := by
  unfold norm
  rw [List.take_left' (by simp [h])]

theorem norm_idem (ci : CellInfo) (c : Cell) (h : ci.nodePer ≤ c.length) : norm ci (norm ci c) = norm ci c := by
  have hl : (c.take ci.nodePer).length = ci.nodePer := by simp [h]
  unfold norm
  rw [List.take_left' hl, List.drop_left' hl, List.map_map]
  congr 1
  apply List.map_congr_left
  intro x _
  exact Refine.Lemmas.Codec.wrap32_idem x

theorem norm_length (ci : CellInfo) (c : Cell) : (norm ci c).length = c.length := by
  unfold norm
  simp only [List.length_append, List.length_take, List.length_map, List.length_drop]
  omega

theorem norm_getD0 (ci : CellInfo) (c : Cell) (h1 : 1 ≤ ci.nodePer) (h : ci.nodePer ≤ c.length) :
    (norm ci c).getD 0 0 = c.getD 0 0 := by
  rw [norm, Refine.ListFacts.getD_append_left (by rw [List.length_take]; omega), Refine.ListFacts.getD_take c 0 h1]

theorem addCells_cons (ci : CellInfo) (stored : List Cell) (c : Cell) (cs : List Cell) :
    addCells ci stored (c :: cs) =
      addCells ci (if stored.any (sameSet ci.nodePer (norm ci c)) then stored else stored ++ [norm ci c]) cs := rfl

/-- nothing stored is lost, and what is stored is old or the stored form of a new cell -/
theorem addCells_mem (ci : CellInfo) (new : List Cell) : ∀ (stored : List Cell),
    (∀ d ∈ stored, d ∈ addCells ci stored new) ∧
    (∀ d ∈ addCells ci stored new, d ∈ stored ∨ ∃ c ∈ new, d = norm ci c) := by
  induction new with
  | nil => intro stored; simp [addCells]
  | cons c cs ih =>
    intro stored
    rw [addCells_cons]
    obtain ⟨h1, h2⟩ := ih (if stored.any (sameSet ci.nodePer (norm ci c)) then stored else stored ++ [norm ci c])
    constructor
    · intro d hd
      apply h1
      split
      · exact hd
      · exact List.mem_append_left _ hd
    · intro d hd
      rcases h2 d hd with h | ⟨c', hc', rfl⟩
      · split at h
        · exact Or.inl h
        · rcases List.mem_append.1 h with h | h
          · exact Or.inl h
          · simp only [List.mem_singleton] at h
            exact Or.inr ⟨c, List.mem_cons_self, h⟩
      · exact Or.inr ⟨c', List.mem_cons_of_mem _ hc', rfl⟩

theorem has_iff (st : PRank) (g : Int) : st.has g = true ↔ ∃ n ∈ st.nodes, n.glob = g := by
  simp [PRank.has, List.any_eq_true]

/-- `ref_node_local` of a global the rank has: the first entry with that global -/
theorem find_of_has {st : PRank} {g : Int} (hg : st.has g = true) :
    ∃ n ∈ st.nodes, n.glob = g ∧ st.nodes.find? (fun n => n.glob == g) = some n := by
  cases hf : st.nodes.find? (fun n => n.glob == g) with
  | none =>
    rw [List.find?_eq_none] at hf
    obtain ⟨n, hn, rfl⟩ := (has_iff st g).1 hg
    exact absurd (by simp) (hf n hn)
  | some n => exact ⟨n, List.mem_of_find?_eq_some hf, by simpa using List.find?_some hf, rfl⟩

theorem partOf_eq (st : PRank) (g q : Int) (hall : ∀ n ∈ st.nodes, n.glob = g → n.part = q)
    (hhas : st.has g = true) : st.partOf g = q := by
  obtain ⟨n, hn, e, hf⟩ := find_of_has hhas
  unfold PRank.partOf
  rw [hf]
  exact hall n hn e

theorem addNodes_cons (me : Nat) (nodes : List PNode) (g : Int) (gs : List Int) :
    addNodes me nodes (g :: gs) =
      addNodes me (if nodes.any (fun n => n.glob == g) then nodes
                   else nodes ++ [{ glob := g, part := (me : Int), xyz := none }]) gs := rfl

/-- `ref_node_add_many` is the keyed insertion (`Lemmas/Ins`) of default entries, by global -/
theorem addNodes_eq_ins (me : Nat) (gs : List Int) : ∀ nodes : List PNode,
    addNodes me nodes gs =
      (gs.map fun g => ({ glob := g, part := (me : Int), xyz := none } : PNode)).foldl (Shufflin.ins (·.glob)) nodes := by
  induction gs with
  | nil => intro nodes; rfl
  | cons g gs ih =>
    intro nodes
    rw [addNodes_cons, ih, List.map_cons, List.foldl_cons]
    congr 1
    unfold Shufflin.ins
    refine if_congr ?_ rfl rfl
    simp [List.any_eq_true]

theorem addNodes_spec (me : Nat) (gs : List Int) (nodes : List PNode) :
    ∃ extra, addNodes me nodes gs = nodes ++ extra ∧
      (∀ n ∈ extra, n.glob ∈ gs) ∧
      (∀ g ∈ gs, ∃ n ∈ nodes ++ extra, n.glob = g) ∧
      ((nodes.map (·.glob)).Nodup → ((nodes ++ extra).map (·.glob)).Nodup) := by
  obtain ⟨extra, he, hm⟩ := Shufflin.foldl_ins_prefix (fun n : PNode => n.glob)
    (gs.map fun g => ({ glob := g, part := (me : Int), xyz := none } : PNode)) nodes
  rw [← addNodes_eq_ins] at he
  refine ⟨extra, he, fun n hn => ?_, fun g hg => ?_, fun hnd => ?_⟩
  · obtain ⟨g, hg, rfl⟩ := List.mem_map.1 (hm n hn)
    exact hg
  · have := (Shufflin.keys_foldl_ins (fun n : PNode => n.glob)
      (gs.map fun g => ({ glob := g, part := (me : Int), xyz := none } : PNode)) nodes g).2
      (.inr (List.mem_map.2 ⟨({ glob := g, part := (me : Int), xyz := none } : PNode), List.mem_map.2 ⟨g, hg, rfl⟩, rfl⟩))
    rw [← addNodes_eq_ins, he] at this
    obtain ⟨n, hn, e⟩ := List.mem_map.1 this
    exact ⟨n, hn, e⟩
  · rw [← he, addNodes_eq_ins]
    exact Shufflin.nodup_foldl_ins _ _ _ hnd

/-- the `ref_node_part(…) = part` loop when every vertex `g` is given the part `f g`: an entry that is one of the vertices,
    or carries `f` of its global already, ends with it -/
theorem foldl_setPart_const (f : Int → Int) : ∀ (vs : List Int) (nodes : List PNode),
    (∀ n ∈ nodes, n.part = f n.glob ∨ n.glob ∈ vs) →
    vs.foldl (fun ns g => setPart ns g (f g)) nodes = nodes.map fun n => { n with part := f n.glob }
  | [], nodes, hn => by
    rw [List.foldl_nil]
    refine (ListFacts.map_eq_self fun n hm => ?_).symm
    rcases hn n hm with h | h
    · rw [← h]
    · cases h
  | g :: rest, nodes, hn => by
    rw [List.foldl_cons, foldl_setPart_const f rest, setPart, List.map_map]
    · apply List.map_congr_left
      intro n _
      simp only [Function.comp]
      split <;> rfl
    · intro n' hn'
      rw [setPart] at hn'
      obtain ⟨n, hm, rfl⟩ := List.mem_map.1 hn'
      split
      · exact .inl (by rw [show n.glob = g from eq_of_beq ‹_›])
      · rcases hn n hm with h | h
        · exact .inl h
        · rcases List.mem_cons.1 h with e | h'
          · exact absurd (show (n.glob == g) = true by simp [e]) ‹_›
          · exact .inr h'

theorem addManyGlobal_nil (me : Nat) (ci : CellInfo) (k : Nat) (st : PRank) (hk : k < st.cells.length) :
    addManyGlobal me ci k [] st = .ok st := by
  cases st with
  | mk a b cells d e =>
    simp only at hk
    simp [addManyGlobal, addNodes, addCells, PRank.group, List.getD_eq_getElem?_getD, hk]

/-- `V g`: the coordinates of vertex `g` in the file.  The rank knows every vertex of its block with its coordinates,
    every `part` is the block owner, globals are distinct, every vertex of a stored cell is local, every ghost is a
    vertex of a stored cell. -/
structure RankInv (N : Int) (np : Nat) (V : Int → Vertex) (r : Nat) (st : PRank) : Prop where
  parts : ∀ n ∈ st.nodes, 0 ≤ n.glob ∧ n.glob < N ∧ n.part = imp N np n.glob
  nodup : (st.nodes.map (·.glob)).Nodup
  owned : ∀ g, 0 ≤ g → g < N → imp N np g = (r : Int) → st.has g = true
  xyz : ∀ n ∈ st.nodes, n.part = (r : Int) → n.xyz = some (V n.glob)
  ncells : st.cells.length = 16
  verts : ∀ k ci, cellInfos[k]? = some ci → ∀ c ∈ st.group k, ∀ x ∈ c.take ci.nodePer, st.has x = true
  ghosts : ∀ n ∈ st.nodes, n.part ≠ (r : Int) →
    ∃ k ci, cellInfos[k]? = some ci ∧ ∃ c ∈ st.group k, n.glob ∈ c.take ci.nodePer

theorem CellOK.len {ci : CellInfo} {N : Int} {c : Cell} (h : CellOK ci N c) : ci.nodePer ≤ c.length := by
  have := h.1; unfold CellInfo.sizePer at this; omega

section Inv
variable {N : Int} {np : Nat} {V : Int → Vertex} {r : Nat} {st : PRank}

theorem RankInv.partOf_eq (h : RankInv N np V r st) (g : Int) (hg : st.has g = true) : st.partOf g = imp N np g :=
  Refine.Lemmas.PartMeshb.partOf_eq st g _ (fun n hn e => by rw [← e]; exact (h.parts n hn).2.2) hg

theorem group_set_self (st : PRank) (k : Nat) (hk : k < st.cells.length) (x : List Cell) (nodes : List PNode) :
    ({ st with nodes := nodes, cells := st.cells.set k x } : PRank).group k = x := by
  simp [PRank.group, List.getD_eq_getElem?_getD, hk]

theorem group_set_ne (st : PRank) (k j : Nat) (hj : j ≠ k) (x : List Cell) (nodes : List PNode) :
    ({ st with nodes := nodes, cells := st.cells.set k x } : PRank).group j = st.group j := by
  simp [PRank.group, List.getD_eq_getElem?_getD, List.getElem?_set_ne (Ne.symm hj)]

theorem verts_of_implicit (N : Int) (np : Nat) (ci : CellInfo) (cells : List Cell) :
    ((cells.map fun c => (c, implicitParts N np ci c)).flatMap fun cp => (cp.1.take ci.nodePer).zip cp.2) =
      cells.flatMap fun c => (c.take ci.nodePer).map fun g => (g, imp N np g) := by
  rw [List.flatMap_map]
  apply List.flatMap_congr
  intro c _
  simp only [implicitParts]
  exact Refine.ListFacts.zip_map_self _ _

/-- one call of `ref_cell_add_many_global` as the closed form sees it -/
structure RankStep (N : Int) (np : Nat) (V : Int → Vertex) (r k : Nat) (g : List Cell) (st st' : PRank) : Prop where
  inv : RankInv N np V r st'
  grp : st'.group k = g
  other : ∀ j, j ≠ k → st'.group j = st.group j
  nGlobal : st'.nGlobal = st.nGlobal
  own : st'.nodes.filter (fun n => n.part == (r : Int)) = st.nodes.filter (fun n => n.part == (r : Int))

/-- what `RankInv.grow` asks of an added entry `m`: a vertex of the file with its block owner as part, owned by another
    rank, and used by one of the added cells -/
structure NewGhost (N : Int) (np r : Nat) (ci : CellInfo) (new : List Cell) (m : PNode) : Prop where
  range : 0 ≤ m.glob ∧ m.glob < N
  part : m.part = imp N np m.glob
  ghost : m.part ≠ (r : Int)
  used : ∃ c ∈ new, m.glob ∈ c.take ci.nodePer

theorem RankInv.grow (h : RankInv N np V r st)
    {k : Nat} {ci : CellInfo} (hci : cellInfos[k]? = some ci) (extra : List PNode) (new : List Cell)
    (hex : ∀ m ∈ extra, NewGhost N np r ci new m)
    (hnd : ((st.nodes ++ extra).map (·.glob)).Nodup)
    (hloc : ∀ c ∈ new, ∀ x ∈ c.take ci.nodePer, ∃ n ∈ st.nodes ++ extra, n.glob = x) :
    RankStep N np V r k (st.group k ++ new) st
      { st with nodes := st.nodes ++ extra, cells := st.cells.set k (st.group k ++ new) } := by
  have hk16 : k < st.cells.length := h.ncells.symm ▸ cellInfos_lt hci
  have hself := group_set_self st k hk16 (st.group k ++ new) (st.nodes ++ extra)
  have hother := fun j hj => group_set_ne st k j hj (st.group k ++ new) (st.nodes ++ extra)
  set st' : PRank := { st with nodes := st.nodes ++ extra, cells := st.cells.set k (st.group k ++ new) }
  have hhas : ∀ g, (∃ n ∈ st.nodes ++ extra, n.glob = g) → st'.has g = true := fun g hg => (has_iff st' g).2 hg
  have hold : ∀ g, st.has g = true → st'.has g = true := fun g hg => by
    obtain ⟨n, hn, e⟩ := (has_iff st g).1 hg
    exact hhas g ⟨n, List.mem_append_left _ hn, e⟩
  have hsub : ∀ j, ∀ c ∈ st.group j, c ∈ st'.group j := by
    intro j c hc
    by_cases hj : j = k
    · subst hj; rw [hself]; exact List.mem_append_left _ hc
    · rw [hother j hj]; exact hc
  refine ⟨⟨?_, hnd, fun g h0 h1 hi => hold g (h.owned g h0 h1 hi), ?_, by simp [st', h.ncells], ?_, ?_⟩,
    hself, hother, rfl, ?_⟩
  · intro n hn
    rcases List.mem_append.1 hn with hn | hn
    · exact h.parts n hn
    · exact ⟨(hex n hn).range.1, (hex n hn).range.2, (hex n hn).part⟩
  · intro n hn hp
    rcases List.mem_append.1 hn with hn | hn
    · exact h.xyz n hn hp
    · exact absurd hp (hex n hn).ghost
  · intro j cj hcj c hc x hx
    by_cases hj : j = k
    · subst hj
      rw [hself] at hc
      rcases List.mem_append.1 hc with hc | hc
      · exact hold x (h.verts j cj hcj c hc x hx)
      · rw [hci] at hcj
        cases hcj
        exact hhas x (hloc c hc x hx)
    · rw [hother j hj] at hc
      exact hold x (h.verts j cj hcj c hc x hx)
  · intro n hn hp
    rcases List.mem_append.1 hn with hn | hn
    · obtain ⟨j, cj, hcj, c, hc, hx⟩ := h.ghosts n hn hp
      exact ⟨j, cj, hcj, c, hsub j c hc, hx⟩
    · obtain ⟨c, hc, hx⟩ := (hex n hn).used
      exact ⟨k, ci, hci, c, by rw [hself]; exact List.mem_append_right _ hc, hx⟩
  · show (st.nodes ++ extra).filter (fun n => n.part == (r : Int)) = _
    have hB : extra.filter (fun n => n.part == (r : Int)) = [] :=
      List.filter_eq_nil_iff.2 fun n hn => by simpa using (hex n hn).ghost
    rw [List.filter_append, hB, List.append_nil]

/-- `ref_cell_add_many_global` called with the implicit parts, in terms of the vertices `vs` of the cells alone: those
    owned elsewhere are added, every vertex must then be local, and each gets its block owner as part -/
theorem addManyGlobal_implicit (N : Int) (np r : Nat) (ci : CellInfo) (k : Nat) (cells : List Cell) (st : PRank) :
    addManyGlobal r ci k (cells.map fun c => (c, implicitParts N np ci c)) st =
      (let vs := cells.flatMap fun c => c.take ci.nodePer
       let nodes1 := addNodes r st.nodes (vs.filter fun g => imp N np g != (r : Int))
       if vs.any (fun g => !(nodes1.any fun n => n.glob == g)) then .error .not_found else
       .ok { st with nodes := vs.foldl (fun ns g => setPart ns g (imp N np g)) nodes1,
                     cells := st.cells.set k (addCells ci (st.group k) cells) }) := by
  unfold addManyGlobal
  simp only
  have hv := verts_of_implicit N np ci cells
  rw [← List.filterMap_flatMap, hv, ← List.map_flatMap, List.filterMap_map, List.any_map, List.foldl_map, List.map_map]
  have hg : ((fun gp : Int × Int => if (gp.2 != (r : Int)) = true then some gp.1 else none) ∘ fun g => (g, imp N np g)) =
      Option.guard fun g => imp N np g != (r : Int) := by
    funext g; simp [Option.guard]
  rw [hg, List.filterMap_eq_filter,
    show List.map ((fun x : CellP => x.1) ∘ fun c => (c, implicitParts N np ci c)) cells = cells from List.map_id'' (fun _ => rfl) _]
  rfl

/-- **`ref_cell_add_many_global` on a rank that satisfies the invariant**, for cells with in-range vertices carrying
    the implicit parts: it succeeds (`ref_node_local` finds every vertex) and appends the stored forms -/
theorem addManyGlobal_ok (hinv : RankInv N np V r st) (k : Nat) (ci : CellInfo) (hci : cellInfos[k]? = some ci)
    (cells : List Cell) (hok : ∀ c ∈ cells, CellOK ci N c)
    (hexact : addCells ci (st.group k) cells = st.group k ++ cells.map (norm ci)) :
    ∃ st', addManyGlobal r ci k (cells.map fun c => (c, implicitParts N np ci c)) st = .ok st' ∧
      RankStep N np V r k (st.group k ++ cells.map (norm ci)) st st' := by
  set vs : List Int := cells.flatMap fun c => c.take ci.nodePer with hvs
  have hvmem : ∀ g, g ∈ vs ↔ ∃ c ∈ cells, g ∈ c.take ci.nodePer := fun g => List.mem_flatMap
  obtain ⟨extra, he, hnew_default, hnew_local, hnew_nodup⟩ :=
    addNodes_spec r (vs.filter fun g => imp N np g != (r : Int)) st.nodes
  -- every vertex is local after `ref_node_add_many`: the owned ones were, the others have been added
  have hlocal : ∀ g ∈ vs, ∃ n ∈ st.nodes ++ extra, n.glob = g := by
    intro g hg
    by_cases hp : imp N np g = (r : Int)
    · obtain ⟨c, hc, hx⟩ := (hvmem g).1 hg
      obtain ⟨h0, h1⟩ := (hok c hc).2 _ hx
      obtain ⟨n, hn, hng⟩ := (has_iff st g).1 (hinv.owned g h0 h1 hp)
      exact ⟨n, List.mem_append_left _ hn, hng⟩
    · exact hnew_local g (List.mem_filter.2 ⟨hg, by simpa using hp⟩)
  have hcheck : (vs.any fun g => !((st.nodes ++ extra).any fun n => n.glob == g)) = false := by
    rw [List.any_eq_false]
    intro g hg
    obtain ⟨n, hn, hng⟩ := hlocal g hg
    rw [List.any_eq_true.2 ⟨n, hn, by simp [hng]⟩]
    simp
  have hextra : ∀ m ∈ extra, m.glob ∈ vs ∧ imp N np m.glob ≠ (r : Int) := fun m hm => by
    simpa using List.mem_filter.1 (hnew_default m hm)
  -- the parts: the old entries carry their block owner already, the new ones get it
  have hparts : vs.foldl (fun ns g => setPart ns g (imp N np g)) (st.nodes ++ extra) =
      st.nodes ++ extra.map fun n => { n with part := imp N np n.glob } := by
    rw [foldl_setPart_const (imp N np) vs, List.map_append]
    · congr 1
      refine ListFacts.map_eq_self fun n hn => ?_
      rw [← (hinv.parts n hn).2.2]
    · intro n hn
      rcases List.mem_append.1 hn with hn | hn
      · exact .inl (hinv.parts n hn).2.2
      · exact .inr (hextra n hn).1
  refine ⟨_, by rw [addManyGlobal_implicit]; simp only [← hvs, he, hcheck, hparts, hexact]; rfl,
    hinv.grow hci _ _ ?_ ?_ ?_⟩
  · intro m' hm'
    obtain ⟨m, hm, rfl⟩ := List.mem_map.1 hm'
    obtain ⟨c0, hc0, hx⟩ := (hvmem _).1 (hextra m hm).1
    exact ⟨(hok c0 hc0).2 _ hx, rfl, (hextra m hm).2, norm ci c0, List.mem_map.2 ⟨c0, hc0, rfl⟩,
      by rw [norm_take ci c0 (hok c0 hc0).len]; exact hx⟩
  · have : (extra.map fun n => ({ n with part := imp N np n.glob } : PNode)).map (·.glob) = extra.map (·.glob) := by
      rw [List.map_map]; rfl
    rw [List.map_append, this, ← List.map_append]
    exact hnew_nodup hinv.nodup
  · intro c hc x hx
    obtain ⟨c0, hc0, rfl⟩ := List.mem_map.1 hc
    rw [norm_take ci c0 (hok c0 hc0).len] at hx
    obtain ⟨n, hn, hng⟩ := hlocal x ((hvmem x).2 ⟨c0, hc0, hx⟩)
    rcases List.mem_append.1 hn with hn | hn
    · exact ⟨n, List.mem_append_left _ hn, hng⟩
    · exact ⟨_, List.mem_append_right _ (List.mem_map.2 ⟨n, hn, rfl⟩), hng⟩

end Inv

end Refine.Lemmas.PartMeshb
