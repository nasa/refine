import Refine.Model.Endian
import Refine.Lemmas.ListFacts
import Refine.Lemmas.CodecWords

/-! the byte-swap macros of `ref_endian.h` as list permutations: a macro that lists the positions `n-1, …, 0` is the byte
    reversal, for every width, and so undoes itself.  `leBytes`/`ofLeBytes` of the byte-order model are the codec
    models' `encLE`/`decLE` (which the UGRID words are built on), so length and read-back come from CodecWords.
    Core-only imports. -/
namespace Refine.Lemmas.Endian
open Refine.Model.Endian

theorem leBytes_eq_encLE (w n : Nat) : leBytes w n = Refine.Model.Meshb.encLE w n := by
  induction w generalizing n with
  | zero => rfl
  | succ w ih => rw [leBytes, Refine.Model.Meshb.encLE, ih]

theorem ofLeBytes_eq_decLE (bs : List UInt8) : ofLeBytes bs = Refine.Model.Meshb.decLE bs := by
  induction bs with
  | nil => rfl
  | cons b bs ih => rw [ofLeBytes, Refine.Model.Meshb.decLE, ih]

theorem leBytes_length (w n : Nat) : (leBytes w n).length = w := by
  rw [leBytes_eq_encLE]; exact Refine.Lemmas.Codec.encLE_length w n

theorem applyPerm_reverse (l : List UInt8) : applyPerm (List.range l.length).reverse l = l.reverse := by
  rw [applyPerm, List.map_reverse, Refine.ListFacts.map_getD_range]

theorem applyPerm_invol {p : List Nat} (hp : p = (List.range p.length).reverse) {a : List UInt8} (h : a.length = p.length) :
    applyPerm p (applyPerm p a) = a := by
  have hr : ∀ b : List UInt8, b.length = p.length → applyPerm p b = b.reverse := fun b hb => by
    rw [hp, ← hb]; exact applyPerm_reverse b
  rw [hr a h, hr _ (by rw [List.length_reverse, h]), List.reverse_reverse]

end Refine.Lemmas.Endian
