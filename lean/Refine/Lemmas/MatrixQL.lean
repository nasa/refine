import Refine.Lemmas.MatrixRot0
import Mathlib.Tactic.Positivity

/-!
  The implicit QL loop of `ref_matrix_diag_m` over ℝ, for both settings of `relativeConvergence`: every vector update is
  a plane rotation with c² + s² = 1, so a sweep keeps the vectors orthonormal; the invariant `QLInv` of the `do … while`
  loop with its one rule `qlLoop_rule`; what a successful row went through (`RowTrip`); the trace of a run (`DiagRun`).
  The loop, the row and the run carry orthonormality together with the represented matrix in MatrixQL3, 4.
-/
namespace Refine.Model.Matrix
open Refine Refine.ScalarReal

section rotations
open _root_.Matrix

def G01 (c s : ℝ) : Matrix (Fin 3) (Fin 3) ℝ := !![c, s, 0; -s, c, 0; 0, 0, 1]
def G12 (c s : ℝ) : Matrix (Fin 3) (Fin 3) ℝ := !![1, 0, 0; 0, c, s; 0, -s, c]

theorem G01_orth (c s : ℝ) (h : c * c + s * s = 1) : G01 c s * (G01 c s)ᵀ = 1 := by
  rw [G01, transpose_fin_three, mul_fin_three, one_fin_three]
  exact lit3_congr (by linear_combination h) (by ring) (by ring) (by ring) (by linear_combination h) (by ring)
    (by ring) (by ring) (by ring)

theorem G12_orth (c s : ℝ) (h : c * c + s * s = 1) : G12 c s * (G12 c s)ᵀ = 1 := by
  rw [G12, transpose_fin_three, mul_fin_three, one_fin_three]
  exact lit3_congr (by ring) (by ring) (by ring) (by ring) (by linear_combination h) (by ring)
    (by ring) (by ring) (by linear_combination h)

theorem rotVec0_V (c s : ℝ) (d : Eig12 ℝ) : (rotVec 0 c s d).V = d.V * G01 c s := by
  simp only [Eig12.V, G01, mul_fin_three, rotVec, mul_eq, add_eq, sub_eq]
  apply lit3_congr <;> ring

theorem rotVec1_V (c s : ℝ) (d : Eig12 ℝ) : (rotVec 1 c s d).V = d.V * G12 c s := by
  simp only [Eig12.V, G12, mul_fin_three, rotVec, mul_eq, add_eq, sub_eq]
  apply lit3_congr <;> ring

theorem orthonormal_mul {d d' : Eig12 ℝ} {G : Matrix (Fin 3) (Fin 3) ℝ} (hV : d'.V = d.V * G) (hG : G * Gᵀ = 1)
    (ho : Orthonormal d) : Orthonormal d' := by
  rw [orthonormal_iff] at ho ⊢
  rw [hV, transpose_mul, Matrix.mul_assoc, ← Matrix.mul_assoc d.Vᵀ, ho, Matrix.one_mul]
  exact mul_eq_one_comm.mp hG

theorem rotVec_orthonormal (i : Nat) (c s : ℝ) (h : c * c + s * s = 1) {d : Eig12 ℝ} (ho : Orthonormal d) :
    Orthonormal (rotVec i c s d) := by
  rcases i with _ | i
  · exact orthonormal_mul (rotVec0_V c s d) (G01_orth c s h) ho
  · change Orthonormal (rotVec 1 c s d)
    exact orthonormal_mul (rotVec1_V c s d) (G12_orth c s h) ho

end rotations

theorem orthonormal_setD {st : QL ℝ} (i : Nat) (v : ℝ) (h : Orthonormal st.d) : Orthonormal (st.setD i v).d := by
  rcases i with _ | _ | i <;> exact ⟨h.n0, h.n1, h.n2, h.p01, h.p02, h.p12⟩

theorem orthonormal_setE {st : QL ℝ} (i : Nat) (v : ℝ) (h : Orthonormal st.d) : Orthonormal (st.setE i v).d := by
  rcases i with _ | _ | i <;> exact h

@[simp] theorem setD_getE (st : QL ℝ) (i k : Nat) (v : ℝ) : (st.setD i v).getE k = st.getE k := by
  rcases i with _ | _ | i <;> rcases k with _ | _ | k <;> rfl

@[simp] theorem setD_tst1 (st : QL ℝ) (i : Nat) (v : ℝ) : (st.setD i v).tst1 = st.tst1 := by
  rcases i with _ | _ | i <;> rfl

@[simp] theorem setE_tst1 (st : QL ℝ) (i : Nat) (v : ℝ) : (st.setE i v).tst1 = st.tst1 := by
  rcases i with _ | _ | i <;> rfl

@[simp] theorem setD_e0 (st : QL ℝ) (i : Nat) (v : ℝ) : (st.setD i v).e0 = st.e0 := by
  rcases i with _ | _ | i <;> rfl
@[simp] theorem setD_e1 (st : QL ℝ) (i : Nat) (v : ℝ) : (st.setD i v).e1 = st.e1 := by
  rcases i with _ | _ | i <;> rfl
@[simp] theorem setD_e2 (st : QL ℝ) (i : Nat) (v : ℝ) : (st.setD i v).e2 = st.e2 := by
  rcases i with _ | _ | i <;> rfl

theorem getE_congr {st st' : QL ℝ} (h0 : st'.e0 = st.e0) (h1 : st'.e1 = st.e1) (h2 : st'.e2 = st.e2)
    (k : Nat) : st'.getE k = st.getE k := by
  rcases k with _ | _ | k <;> simp only [QL.getE, h0, h1, h2]

theorem shift_getE (l k : Nat) (st : QL ℝ) : (shift l st).getE k = st.getE k := by
  apply getE_congr
  all_goals
    unfold shift
    dsimp only
    split_ifs <;> simp only [setD_e0, setD_e1, setD_e2]

theorem shift_tst1 (l : Nat) (st : QL ℝ) : (shift l st).tst1 = st.tst1 := by
  unfold shift
  dsimp only
  split_ifs <;> simp only [setD_tst1]

theorem shift_orthonormal (l : Nat) {st : QL ℝ} (h : Orthonormal st.d) : Orthonormal (shift l st).d := by
  unfold shift
  dsimp only
  split_ifs
  · exact orthonormal_setD _ _ (orthonormal_setD _ _ (orthonormal_setD _ _ h))
  · exact orthonormal_setD _ _ (orthonormal_setD _ _ h)

noncomputable def Sweep.r (i : Nat) (w : Sweep ℝ) : ℝ := Real.sqrt (w.p * w.p + w.st.getE i * w.st.getE i)

theorem Sweep.r_ne (i : Nat) (w : Sweep ℝ) (he : w.st.getE i ≠ 0) : w.r i ≠ 0 := (sqrt_sumsq_pos (Or.inr he)).ne'
theorem Sweep.r_sq (i : Nat) (w : Sweep ℝ) : w.r i * w.r i = w.p * w.p + w.st.getE i * w.st.getE i :=
  Real.mul_self_sqrt (add_nonneg (mul_self_nonneg _) (mul_self_nonneg _))

theorem innerStep_c (i : Nat) (w : Sweep ℝ) : (innerStep i w).c = w.p / w.r i := rfl
theorem innerStep_s (i : Nat) (w : Sweep ℝ) : (innerStep i w).s = w.st.getE i / w.r i := rfl
theorem innerStep_p (i : Nat) (w : Sweep ℝ) :
    (innerStep i w).p = (innerStep i w).c * w.st.getD i - (innerStep i w).s * (w.c * w.st.getE i) := rfl
theorem innerStep_c2 (i : Nat) (w : Sweep ℝ) : (innerStep i w).c2 = w.c := rfl
theorem innerStep_c3 (i : Nat) (w : Sweep ℝ) : (innerStep i w).c3 = w.c2 := rfl
theorem innerStep_s2 (i : Nat) (w : Sweep ℝ) : (innerStep i w).s2 = w.s := rfl

/-- the rotation `(c, s) = (p/r, e[i]/r)` of an inner step: unit, annihilates `(p, e[i])`, and `r` in its terms -/
theorem innerStep_rot (i : Nat) (w : Sweep ℝ) (he : w.st.getE i ≠ 0) :
    (innerStep i w).c * (innerStep i w).c + (innerStep i w).s * (innerStep i w).s = 1 ∧
    (innerStep i w).c * w.st.getE i = (innerStep i w).s * w.p ∧
    w.r i = (innerStep i w).s * w.st.getE i + (innerStep i w).c * w.p := by
  rw [innerStep_c, innerStep_s]
  have h1 := w.r_ne i he
  have h2 := w.r_sq i
  generalize w.r i = r at *
  refine ⟨div_norm_unit h1 h2, by ring, ?_⟩
  field_simp
  linear_combination h2

theorem innerStep1_st (w : Sweep ℝ) : (innerStep 1 w).st =
    { w.st with
      d := rotVec 1 (innerStep 1 w).c (innerStep 1 w).s
        { w.st.d with l2 := w.c * w.p + (innerStep 1 w).s * ((innerStep 1 w).c * (w.c * w.st.e1) + (innerStep 1 w).s * w.st.d.l1) }
      e2 := w.s * w.r 1 } := rfl

theorem innerStep0_st (w : Sweep ℝ) : (innerStep 0 w).st =
    { w.st with
      d := rotVec 0 (innerStep 0 w).c (innerStep 0 w).s
        { w.st.d with l1 := w.c * w.p + (innerStep 0 w).s * ((innerStep 0 w).c * (w.c * w.st.e0) + (innerStep 0 w).s * w.st.d.l0) }
      e1 := w.s * w.r 0 } := rfl

theorem innerStep_orthonormal (i : Nat) (w : Sweep ℝ) (he : w.st.getE i ≠ 0) (ho : Orthonormal w.st.d) :
    Orthonormal (innerStep i w).st.d :=
  rotVec_orthonormal i _ _ (innerStep_rot i w he).1 (orthonormal_setD _ _ (orthonormal_setE _ _ ho))

theorem innerStep_tst1 (i : Nat) (w : Sweep ℝ) : (innerStep i w).st.tst1 = w.st.tst1 := by
  unfold innerStep
  dsimp only
  rw [setD_tst1, setE_tst1]

theorem innerLoop_tst1 (n top : Nat) (w : Sweep ℝ) : (innerLoop n top w).st.tst1 = w.st.tst1 := by
  induction n generalizing top w with
  | zero => rfl
  | succ n ih => unfold innerLoop; rw [ih, innerStep_tst1]

theorem sweep_tst1 (l mm : Nat) (st : QL ℝ) : (sweep l mm st).tst1 = st.tst1 := by
  unfold sweep
  dsimp only
  rw [setD_tst1, setE_tst1, innerLoop_tst1, shift_tst1]

/-- locals at the start of the `ql transformation` loop -/
noncomputable def initSweep (mm : Nat) (st : QL ℝ) : Sweep ℝ :=
  { st := st, p := st.getD mm, c := Scalar.one, c2 := Scalar.one, c3 := Scalar.zero, s := Scalar.zero, s2 := Scalar.zero }

/-- the three assignments after the loop: `p = -s*s2*c3*el1*e[l]/dl1; e[l] = s*p; d[l] = c*p` -/
noncomputable def closeSweep (l : Nat) (el1 dl1 : ℝ) (w : Sweep ℝ) : QL ℝ :=
  let p := (-. w.s) *. w.s2 *. w.c3 *. el1 *. w.st.getE l /. dl1
  (w.st.setE l (w.s *. p)).setD l (w.c *. p)

theorem sweep02_eq (st : QL ℝ) : sweep 0 2 st =
    closeSweep 0 st.e1 (shift 0 st).d.l1 (innerStep 0 (innerStep 1 (initSweep 2 (shift 0 st)))) := rfl
theorem sweep01_eq (st : QL ℝ) : sweep 0 1 st =
    closeSweep 0 st.e1 (shift 0 st).d.l1 (innerStep 0 (initSweep 1 (shift 0 st))) := rfl
theorem sweep12_eq (st : QL ℝ) : sweep 1 2 st =
    closeSweep 1 st.e2 (shift 1 st).d.l2 (innerStep 1 (initSweep 2 (shift 1 st))) := rfl

theorem closeSweep_orthonormal {l : Nat} {a b : ℝ} {w : Sweep ℝ} (h : Orthonormal w.st.d) :
    Orthonormal (closeSweep l a b w).d := orthonormal_setD _ _ (orthonormal_setE _ _ h)

/-- a sweep over the full 3x3 block (l = 0, mm = 2): two rotations; the middle sub-diagonal entry stays non-zero -/
theorem sweep_orthonormal_two (st : QL ℝ) (ho : Orthonormal st.d) (he0 : st.getE 0 ≠ 0) (he1 : st.getE 1 ≠ 0) :
    Orthonormal (sweep 0 2 st).d ∧ (sweep 0 2 st).getE 1 ≠ 0 := by
  have e0' : (shift 0 st).getE 0 ≠ 0 := by rw [shift_getE]; exact he0
  have e1' : (shift 0 st).getE 1 ≠ 0 := by rw [shift_getE]; exact he1
  have o1 := innerStep_orthonormal 1 (initSweep 2 (shift 0 st)) e1' (shift_orthonormal 0 ho)
  rw [sweep02_eq]
  generalize hw : innerStep 1 (initSweep 2 (shift 0 st)) = w1 at o1
  have w1e0 : w1.st.getE 0 ≠ 0 := by rw [← hw]; exact e0'
  constructor
  · exact orthonormal_setD _ _ (orthonormal_setE _ _ (innerStep_orthonormal 0 w1 w1e0 o1))
  · show (innerStep 0 w1).st.e1 ≠ 0
    rw [innerStep0_st]
    show w1.s * w1.r 0 ≠ 0
    rw [← hw, innerStep_s]
    exact mul_ne_zero (div_ne_zero e1' (Sweep.r_ne 1 _ e1')) (Sweep.r_ne 0 _ (by rw [hw]; exact w1e0))

theorem isSmall_iff (st : QL ℝ) (i : Nat) :
    st.isSmall i = true ↔
      if relativeConvergence then |st.getE i| ≤ (10 : ℝ) ^ (-14 : ℤ) * st.tst1 else |st.getE i| < (10 : ℝ) ^ (-14 : ℤ) := by
  unfold QL.isSmall
  dsimp only
  have hz : Scalar.cabs (Scalar.sub (Scalar.add st.tst1 (Scalar.cabs (st.getE i))) st.tst1) = |st.getE i| := by
    rw [cabs_eq, cabs_eq, add_eq, sub_eq]; simp
  rw [hz]
  cases relativeConvergence
  · simp only [Bool.false_eq_true, if_false, lt_iff, ofDec_eq]; simp
  · simp only [if_true, le_iff, ofDec_eq, mul_eq]; simp

/-- a zero sub-diagonal entry passes the convergence test (needs `0 ≤ tst1` for the relative variant) -/
theorem isSmall_of_zero (st : QL ℝ) (i : Nat) (ht : 0 ≤ st.tst1) (he : st.getE i = 0) : st.isSmall i = true := by
  rw [isSmall_iff, he, abs_zero]
  split_ifs
  · exact mul_nonneg (by positivity) ht
  · positivity

theorem ne_zero_of_not_isSmall (st : QL ℝ) (i : Nat) (ht : 0 ≤ st.tst1) (h : st.isSmall i = false) :
    st.getE i ≠ 0 := by
  intro he
  rw [isSmall_of_zero st i ht he] at h
  exact absurd h (by decide)

/-- the search `for (mm = l; mm < 3; mm++)` returns the first index that passes the test, or the end of the range -/
theorem findSmall_spec (st : QL ℝ) (n mm : Nat) :
    mm ≤ st.findSmall mm n ∧ st.findSmall mm n ≤ mm + n ∧
    (∀ i, mm ≤ i → i < st.findSmall mm n → st.isSmall i = false) ∧
    (st.findSmall mm n < mm + n → st.isSmall (st.findSmall mm n) = true) := by
  fun_induction QL.findSmall st mm n with
  | case1 mm => exact ⟨Nat.le_refl _, Nat.le_refl _, fun i h1 h2 => by omega, fun h => by omega⟩
  | case2 mm n hs => exact ⟨Nat.le_refl _, by omega, fun i h1 h2 => by omega, fun _ => hs⟩
  | case3 mm n hs ih =>
    obtain ⟨a, b, c, d⟩ := ih
    refine ⟨by omega, by omega, fun i h1 h2 => ?_, fun h => d (by omega)⟩
    by_cases hi : i = mm
    · rw [hi]; exact Bool.eq_false_iff.mpr hs
    · exact c i (by omega) h2

/-- loop invariant of the `do … while` loop for the block l..mm -/
structure QLInv (l mm : Nat) (st : QL ℝ) : Prop where
  orth : Orthonormal st.d
  tst : 0 ≤ st.tst1
  sub : ∀ i, l ≤ i → i < mm → st.getE i ≠ 0

theorem QLInv.of_not_small {l mm : Nat} {s : QL ℝ} (h : QLInv (l + 1) mm s) (hs : s.isSmall l = false) :
    QLInv l mm s := by
  refine ⟨h.orth, h.tst, fun i h1 h2 => ?_⟩
  rcases Nat.eq_or_lt_of_le h1 with rfl | hlt
  · exact ne_zero_of_not_isSmall _ _ h.tst hs
  · exact h.sub i hlt h2

/-- invariant rule for the `do … while` loop: `I` holds before each sweep, `J` after it, and a failed convergence test
    turns `J` back into `I`; a successful loop ends in `J` with `e[l]` passing the test -/
theorem qlLoop_rule {I J : QL ℝ → Prop} {l mm : Nat} (step : ∀ s, I s → J (sweep l mm s))
    (again : ∀ s, J s → s.isSmall l = false → I s) :
    ∀ (fuel : Nat) (st st' : QL ℝ), I st → qlLoop fuel l mm st = .ok st' → J st' ∧ st'.isSmall l = true := by
  intro fuel st st' hI hq
  fun_induction qlLoop fuel l mm st with
  | case1 => cases hq
  | case2 fuel l mm st s hs =>
    obtain rfl := Except.ok.inj hq
    exact ⟨step _ hI, hs⟩
  | case3 fuel l mm st s hs ih =>
    exact ih step again (again _ (step _ hI) (Bool.eq_false_iff.mpr hs)) hq

/-- the `if (tst1 < h) tst1 = h;` update at the top of a row -/
noncomputable def tstUpd (l : Nat) (st : QL ℝ) : QL ℝ :=
  if Scalar.lt st.tst1 (Scalar.add (Scalar.cabs (st.getD l)) (Scalar.cabs (st.getE l))) then
    { st with tst1 := Scalar.add (Scalar.cabs (st.getD l)) (Scalar.cabs (st.getE l)) } else st

/-- `rowStep` begins with this update as an anonymous `let`; after `unfold rowStep` this equation names it -/
theorem tstUpd_def (l : Nat) (st : QL ℝ) :
    (if Scalar.lt st.tst1 (Scalar.add (Scalar.cabs (st.getD l)) (Scalar.cabs (st.getE l))) = true then
      ({ st with tst1 := Scalar.add (Scalar.cabs (st.getD l)) (Scalar.cabs (st.getE l)) } : QL ℝ) else st)
    = tstUpd l st := rfl

theorem tstUpd_eq (l : Nat) (st : QL ℝ) :
    tstUpd l st = { st with tst1 := max st.tst1 (|st.getD l| + |st.getE l|) } := by
  unfold tstUpd
  rw [add_eq, cabs_eq, cabs_eq]
  split_ifs with hc
  · rw [lt_iff] at hc; rw [max_eq_right hc.le]
  · rw [lt_iff, not_lt] at hc; rw [max_eq_left hc]

/-- the update makes `tst1 ≥ |d[l]| + |e[l]| ≥ 0` by itself: no hypothesis on the incoming `tst1` -/
theorem tstUpd_nonneg (l : Nat) (st : QL ℝ) : 0 ≤ (tstUpd l st).tst1 := by
  rw [tstUpd_eq]; exact le_max_of_le_right (add_nonneg (abs_nonneg _) (abs_nonneg _))

theorem tstUpd_spec (l : Nat) (st : QL ℝ) :
    (tstUpd l st).d = st.d ∧ (tstUpd l st).e0 = st.e0 ∧ (tstUpd l st).e1 = st.e1 ∧ (tstUpd l st).e2 = st.e2 ∧
    (tstUpd l st).f = st.f ∧ 0 ≤ (tstUpd l st).tst1 := by
  refine ⟨?_, ?_, ?_, ?_, ?_, tstUpd_nonneg l st⟩ <;> rw [tstUpd_eq]

theorem tstUpd_getE (l k : Nat) (st : QL ℝ) : (tstUpd l st).getE k = st.getE k := by
  rw [tstUpd_eq]; rfl

theorem tstUpd_tst1 (l : Nat) (st : QL ℝ) : (tstUpd l st).tst1 = max st.tst1 (|st.getD l| + |st.getE l|) := by
  rw [tstUpd_eq]

theorem rowStep_of_small (l : Nat) (hl : l ≤ 2) (st : QL ℝ) (hs : (tstUpd l st).isSmall l = true) :
    rowStep l st = .ok ((tstUpd l st).setD l ((tstUpd l st).getD l + (tstUpd l st).f)) := by
  unfold rowStep
  dsimp only
  rw [tstUpd_def]
  have hf : (tstUpd l st).findSmall l (3 - l) = l := by
    have : 3 - l = (2 - l) + 1 := by omega
    rw [this]; unfold QL.findSmall; rw [if_pos hs]
  rw [hf]
  have h3 : (l == 3) = false := by simp; omega
  simp only [h3, Bool.false_eq_true, if_false, bne_self_eq_false, add_eq]

/-- a successful trip `rowStep l st = .ok st'` of the row loop: the search stops at the first `mm ≤ 2` whose `e[mm]`
    passes the test; the row ends from the state `s` = the updated input (`mm = l`, no sweep) or the result of the
    `do … while` loop over the block `l..mm`, with `d[l] += f` -/
structure RowTrip (l : Nat) (st st' : QL ℝ) (mm : Nat) (s : QL ℝ) : Prop where
  le_mm : l ≤ mm
  mm_le : mm ≤ 2
  find : (tstUpd l st).findSmall l (3 - l) = mm
  small : (tstUpd l st).isSmall mm = true
  notSmall : ∀ i, l ≤ i → i < mm → (tstUpd l st).isSmall i = false
  loop : if mm = l then s = tstUpd l st else qlLoop 30 l mm (tstUpd l st) = .ok s
  result : st' = s.setD l (s.getD l + s.f)

theorem rowStep_ok {l : Nat} (hl : l ≤ 2) {st st' : QL ℝ} (h : rowStep l st = .ok st') :
    ∃ (mm : Nat) (s : QL ℝ), RowTrip l st st' mm s := by
  unfold rowStep at h
  dsimp only at h
  rw [tstUpd_def] at h
  simp only [add_eq] at h
  obtain ⟨f1, f2, f3, f4⟩ := findSmall_spec (tstUpd l st) (3 - l) l
  generalize hmm : (tstUpd l st).findSmall l (3 - l) = mm at h f1 f2 f3 f4
  by_cases h3 : (mm == 3) = true
  · rw [if_pos h3] at h; exact absurd h (by simp)
  rw [if_neg h3] at h
  have hm2 : mm ≤ 2 := by
    have : mm ≠ 3 := by simpa using h3
    omega
  by_cases hne : (mm != l) = true
  · rw [if_pos hne] at h
    have hml : mm ≠ l := by simpa using hne
    split at h
    · rename_i s hq
      exact ⟨mm, s, f1, hm2, hmm, f4 (by omega), f3, by rw [if_neg hml]; exact hq, (Except.ok.inj h).symm⟩
    · exact absurd h (by simp)
  · rw [if_neg hne] at h
    have hml : mm = l := by simpa using hne
    exact ⟨mm, _, f1, hm2, hmm, f4 (by omega), f3, by rw [if_pos hml], (Except.ok.inj h).symm⟩

/-- the trace of a successful run of `ref_matrix_diag_m`: the states after rows 0, 1, 2 -/
structure DiagRun (m : M6 ℝ) (d : Eig12 ℝ) where
  st1 : QL ℝ
  st2 : QL ℝ
  st3 : QL ℝ
  h1 : rowStep 0 (rot0 m) = .ok st1
  h2 : rowStep 1 st1 = .ok st2
  h3 : rowStep 2 st2 = .ok st3
  hd : st3.d = d

theorem diagM_run (m : M6 ℝ) (d : Eig12 ℝ) (h : diagM m = .ok d) : Nonempty (DiagRun m d) := by
  revert h
  fun_cases diagM m <;> intro h <;> cases h
  exact ⟨⟨_, _, _, ‹_›, ‹_›, ‹_›, rfl⟩⟩

theorem DiagRun.diagM_eq {m : M6 ℝ} {d : Eig12 ℝ} (r : DiagRun m d) : diagM m = .ok d := by
  unfold diagM
  simp only [M6.allFinite, isFinite_eq, Bool.and_self, Bool.not_true, Bool.false_eq_true, if_false]
  rw [r.h1]; dsimp only
  rw [r.h2]; dsimp only
  rw [r.h3]; dsimp only
  rw [r.hd]

/-- the state after a row is accepted without a sweep; `t` is the updated `tst1` -/
def acceptRow (l : Nat) (st : QL ℝ) (t : ℝ) : QL ℝ := ({ st with tst1 := t } : QL ℝ).setD l (st.getD l + st.f)

theorem rowStep_of_zero (l : Nat) (hl : l ≤ 2) (st : QL ℝ) (he : st.getE l = 0) :
    ∃ t : ℝ, rowStep l st = .ok (acceptRow l st t) := by
  refine ⟨(tstUpd l st).tst1, ?_⟩
  rw [rowStep_of_small l hl st (isSmall_of_zero _ l (tstUpd_nonneg l st) ((tstUpd_getE l l st).trans he))]
  unfold acceptRow tstUpd
  split_ifs <;> rfl

theorem acceptRow_getE (l k : Nat) (st : QL ℝ) (t : ℝ) : (acceptRow l st t).getE k = st.getE k := by
  unfold acceptRow; rw [setD_getE]; rcases k with _ | _ | k <;> rfl

theorem rot0_diag (a b c : ℝ) : rot0 (⟨a, 0, 0, b, 0, c⟩ : M6 ℝ) =
    { d := ⟨a, b, c, 1, 0, 0, 0, 1, 0, 0, 0, 1⟩, e0 := 0, e1 := 0, e2 := 0, f := 0, tst1 := 0 } :=
  rot0_of_zero _ rfl rfl

/-- once row 0 is done and `e[1] = e[2] = 0`, rows 1 and 2 are accepted without a sweep: `d[1] += f`, `d[2] += f` -/
theorem DiagRun.of_row0 {m : M6 ℝ} {s1 : QL ℝ} {d : Eig12 ℝ} (h0 : rowStep 0 (rot0 m) = .ok s1)
    (h1 : s1.e1 = 0) (h2 : s1.e2 = 0) (hd : { s1.d with l1 := s1.d.l1 + s1.f, l2 := s1.d.l2 + s1.f } = d) :
    ∃ r : DiagRun m d, r.st1 = s1 ∧ r.st2.e1 = 0 := by
  obtain ⟨t1, r1⟩ := rowStep_of_zero 1 (by omega) s1 h1
  obtain ⟨t2, r2⟩ := rowStep_of_zero 2 (by omega) (acceptRow 1 s1 t1) (by rw [acceptRow_getE]; exact h2)
  exact ⟨⟨s1, _, _, h0, r1, r2, hd⟩, rfl, (acceptRow_getE 1 1 s1 t1).trans h1⟩

theorem diagRun_diag (a b c : ℝ) :
    ∃ r : DiagRun ⟨a, 0, 0, b, 0, c⟩ ⟨a, b, c, 1, 0, 0, 0, 1, 0, 0, 0, 1⟩, r.st1.e0 = 0 ∧ r.st2.e1 = 0 := by
  obtain ⟨t0, r0⟩ := rowStep_of_zero 0 (by omega) (rot0 ⟨a, 0, 0, b, 0, c⟩) (by rw [rot0_diag]; rfl)
  obtain ⟨r, hr, e2⟩ := DiagRun.of_row0 (d := ⟨a, b, c, 1, 0, 0, 0, 1, 0, 0, 0, 1⟩) r0
    ((acceptRow_getE 0 1 _ t0).trans (by rw [rot0_diag]; rfl)) ((acceptRow_getE 0 2 _ t0).trans (rot0_e2 _))
    (by rw [rot0_diag]; simp [acceptRow, QL.setD, QL.getD])
  exact ⟨r, by rw [hr]; exact (acceptRow_getE 0 0 _ t0).trans (by rw [rot0_diag]; rfl), e2⟩

theorem diagM_diag (a b c : ℝ) :
    diagM (⟨a, 0, 0, b, 0, c⟩ : M6 ℝ) = .ok ⟨a, b, c, 1, 0, 0, 0, 1, 0, 0, 0, 1⟩ :=
  let ⟨r, _⟩ := diagRun_diag a b c; r.diagM_eq

end Refine.Model.Matrix
