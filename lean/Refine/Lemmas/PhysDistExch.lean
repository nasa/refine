import Refine.Model.PhysDist
import Refine.Lemmas.CommBlind
import Refine.Lemmas.PartLemmas
import Refine.Lemmas.DistGhostFull
import Refine.Lemmas.CommExchange

/-!
  The query exchange of `ref_phys_wall_distance` (`Refine.Model.PhysDist.wallDistParWith`): destinations are ranks,
  the `a_next` pack is the bucket layout, the first `ref_mpi_alltoallv` delivers every query to its destination, the
  second one returns the answers in the bucket layout of the ASKING rank, and the second `a_next` walk (`collect`)
  puts every answer on the vertex that asked.
-/
namespace Refine.Lemmas.PhysDist
open Refine Refine.Model Refine.Model.Geom Refine.Model.PhysDist
open Refine.Model.Comm Refine.Lemmas.Comm


variable {α : Type}

/-- the three scalars of a point, as sent -/
def item (p : V3 α) : List α := [p.x, p.y, p.z]

/-- the queries that leave rank `me`, as `(destination, item)` pairs in node order -/
def pairsOf (me : Nat) (pl : List (Int × V3 α)) : List (Nat × List α) :=
  (sentOf me pl).map fun p => (p.1.toNat, item p.2)

def pairsW (w : World (PRank α)) : World (List (Nat × List α)) :=
  w.mapIdx fun me r => pairsOf me (plan w.length me r)

theorem pairsW_length (w : World (PRank α)) : (pairsW w).length = w.length := by simp [pairsW]

theorem plan_dest_range (np me : Nat) (hnp : 1 ≤ np) (r : PRank α) :
    ∀ p ∈ plan np me r, 0 ≤ p.1 ∧ p.1 < (np : Int) := by
  intro p hp
  unfold plan at hp
  simp only [List.mem_mapIdx] at hp
  obtain ⟨k, hk, rfl⟩ := hp
  simp only
  have hk' : k < nbalance np (r.nodes.filter fun nd => nd.part == (me : Int)).length := by
    simp only [List.length_take] at hk
    omega
  have h := Refine.Lemmas.Part.implicit_bracket
    (nbalance np (r.nodes.filter fun nd => nd.part == (me : Int)).length : Int) (np : Int) (k : Int)
    (by omega) (by omega) (by omega) (by omega)
  exact ⟨h.1, h.2.1⟩

theorem pairsOf_dest (np me : Nat) (pl : List (Int × V3 α)) (hrange : ∀ p ∈ pl, 0 ≤ p.1 ∧ p.1 < (np : Int)) :
    ∀ x ∈ pairsOf me pl, x.1 < np := by
  intro x hx
  simp only [pairsOf, sentOf, List.mem_map, List.mem_filter] at hx
  obtain ⟨p, ⟨hp, _⟩, rfl⟩ := hx
  have := hrange p hp
  simp only
  omega

theorem pairsOf_item (me : Nat) (pl : List (Int × V3 α)) : ∀ x ∈ pairsOf me pl, x.2.length = 3 := by
  intro x hx
  simp only [pairsOf, List.mem_map] at hx
  obtain ⟨p, _, rfl⟩ := hx
  rfl

theorem pairsW_dest (w : World (PRank α)) : ∀ pairs ∈ pairsW w, ∀ x ∈ pairs, x.1 < (pairsW w).length := by
  intro pairs hp x hx
  rw [pairsW_length]
  simp only [pairsW, List.mem_mapIdx] at hp
  obtain ⟨me, hme, rfl⟩ := hp
  exact pairsOf_dest w.length me _ (plan_dest_range w.length me (by omega) _) x hx

theorem pairsW_item (w : World (PRank α)) : ∀ pairs ∈ pairsW w, ∀ x ∈ pairs, x.2.length = 3 := by
  intro pairs hp x hx
  simp only [pairsW, List.mem_mapIdx] at hp
  obtain ⟨me, _, rfl⟩ := hp
  exact pairsOf_item me _ x hx

theorem blindOfPlan_eq (np me : Nat) (hnp : 1 ≤ np) (r : PRank α) :
    blindOfPlan me (plan np me r) = blindOf (pairsOf me (plan np me r)) := by
  unfold blindOfPlan blindOf pairsOf
  have hnn : ∀ p ∈ sentOf me (plan np me r), ((p.1.toNat : Nat) : Int) = p.1 := by
    intro p hp
    have := plan_dest_range np me hnp r p (List.mem_filter.mp hp).1
    omega
  congr 1
  · rw [List.map_map]
    apply List.map_congr_left
    intro p hp
    exact (hnn p hp).symm
  · rw [List.map_map, List.flatMap_def]
    rfl

theorem blinds_eq (w : World (PRank α)) :
    ((w.mapIdx fun me r => plan w.length me r).mapIdx fun me pl => blindOfPlan me pl) = (pairsW w).map blindOf := by
  apply List.ext_getElem
  · simp [pairsW]
  · intro me h1 h2
    have hme : me < w.length := by simpa using h1
    simp only [List.getElem_mapIdx, List.getElem_map, pairsW]
    exact blindOfPlan_eq w.length me (by omega) _

section Exchange
variable [Inhabited α]

/-- a received item as a point -/
def unitem (l : List α) : V3 α := ⟨l.getD 0 default, l.getD 1 default, l.getD 2 default⟩

theorem unitem_item (p : V3 α) : unitem (item p) = p := by
  cases p; rfl

theorem pts_items (its : List (List α)) (h : ∀ it ∈ its, it.length = 3) : pts its.flatten = its.map unitem := by
  induction its with
  | nil => rfl
  | cons it rest ih =>
    have h3 := h it List.mem_cons_self
    match it, h3 with
    | [a, b, c], _ =>
      simp only [List.flatten_cons, List.cons_append, List.nil_append, pts, List.map_cons]
      rw [ih (fun it hit => h it (List.mem_cons_of_mem _ hit))]
      rfl

/-- `a_size` of every rank -/
def aSizesW (pw : World (List (Nat × List α))) : World (List Int) :=
  (pw.map blindOf).map fun b => countDest pw.length b.proc

/-- the first `ref_mpi_alltoallv` (coordinates, 3 scalars per query): every rank receives the queries addressed to
    it, by asking rank and then in that rank's order -/
theorem queries_delivered (pw : World (List (Nat × List α)))
    (hd : ∀ pairs ∈ pw, ∀ x ∈ pairs, x.1 < pw.length) (hi : ∀ pairs ∈ pw, ∀ x ∈ pairs, x.2.length = 3)
    (htot : (3 : Int) * pw.flatten.length ≤ Comm.INT_MAX) :
    alltoallv false RefType.dbl 0 3
        (((pw.map blindOf).zip (mpiAlltoall (aSizesW pw))).map fun x => blindArgs 3 pw.length x.1 x.2)
      = some ((List.range pw.length).map fun r => (Comm.Status.ok, (delivered r pw).flatten)) :=
  blindExchange_of_total false RefType.dbl rfl 0 3 pw hd hi nofun fun _ => htot

/-- the arguments of the second exchange as the model forms them -/
def args2W (A : Nat → List α → α) (pw : World (List (Nat × List α))) : World (A2A α) :=
  (((List.range pw.length).map fun r => (delivered r pw).map (A r)).zip
      ((aSizesW pw).zip (mpiAlltoall (aSizesW pw)))).map fun x =>
    ⟨x.1, x.2.2, List.replicate (isum x.2.1).toNat default, x.2.1⟩

/-- the second `ref_mpi_alltoallv` (one scalar per query): rank `s` receives, rank by rank `q` and in the order it
    asked, the answers `A q` to its own queries (`DistGhostFull.reply` on the bucket world `blindBlocks pw`) -/
theorem answers_returned (A : Nat → List α → α) (pw : World (List (Nat × List α)))
    (hd : ∀ pairs ∈ pw, ∀ x ∈ pairs, x.1 < pw.length)
    (htot : (pw.flatten.length : Int) ≤ Comm.INT_MAX) :
    alltoallv false RefType.dbl 0 1 (args2W A pw)
      = some ((List.range pw.length).map fun s =>
          (Comm.Status.ok, (List.range pw.length).flatMap fun q => (bucket q (pw.getD s [])).map (A q))) := by
  have hlen : (blindBlocks pw).length = pw.length := List.length_map _
  have hcol : ∀ r, r < pw.length → (column r (blindBlocks pw)).flatten = delivered r pw := fun r hr => by
    rw [column_blindBlocks pw r hr, delivered, List.flatMap_def]
  have hcnt : (blindBlocks pw).map countsI = aSizesW pw := countsI_blindBlocks pw hd
  have h1 : false = false → ((1 : Nat) : Int) * pw.flatten.length ≤ Comm.INT_MAX := fun _ => by simpa using htot
  have h := Refine.Lemmas.DistGhostFull.reply RefType.dbl rfl (default : α) 1 (blindBlocks pw)
    (by
      intro b hb
      obtain ⟨pairs, _, rfl⟩ := List.mem_map.mp hb
      rw [List.length_map, List.length_range, hlen])
    (fun r it => [A r it]) (fun _ _ _ _ _ _ => rfl)
    (fun r hr => by
      rw [hcol r (hlen ▸ hr)]
      exact recvBound_of_total h1 rfl r (hlen ▸ hr))
    (by
      intro b hb
      obtain ⟨pairs, hp, rfl⟩ := List.mem_map.mp hb
      rw [← countsI_sum_eq_length, countsI_blindRow pw.length pairs (hd pairs hp)]
      exact sendBound_of_total h1 rfl pairs hp)
  have hargs : args2W A pw = Refine.Lemmas.DistGhostFull.replyArgs default 1 (blindBlocks pw)
      ((blindBlocks pw).mapIdx fun r _ => (((column r (blindBlocks pw)).flatten).map fun it => [A r it]).flatten) := by
    rw [Refine.Lemmas.DistGhostFull.replyArgs, hcnt, args2W]
    congr 1
    · funext x
      rw [Nat.one_mul]
    · congr 1
      apply List.ext_getElem
      · rw [List.length_map, List.length_range, List.length_mapIdx, hlen]
      · intro r h1 _
        rw [List.length_map, List.length_range] at h1
        rw [List.getElem_map, List.getElem_range, List.getElem_mapIdx, hcol r h1,
          Refine.ListFacts.flatten_map_singleton]
  rw [hargs]
  refine h.trans ?_
  rw [hlen]
  congr 1
  apply List.map_congr_left
  intro s hs
  have hs' := List.mem_range.mp hs
  rw [Refine.ListFacts.getD_eq_getElem (by rw [hlen]; exact hs'), Refine.ListFacts.getD_eq_getElem hs']
  have hrow : ((blindBlocks pw)[s]'(by rw [hlen]; exact hs')).mapIdx (fun p l => l.map fun it => [A p it])
      = (List.range pw.length).map fun q => (bucket q pw[s]).map fun it => [A q it] := by
    rw [blindBlocks_getElem, ListFacts.mapIdx_map]
    exact List.ext_getElem (by simp) fun q _ _ => by simp
  rw [hrow, List.flatten_flatten, List.map_map, List.flatMap_def]
  congr 2
  exact List.map_congr_left fun q _ => Refine.ListFacts.flatten_map_singleton _ (A q)

end Exchange

/-- the answers rank `me` expects from rank `q`, in the order it sent the queries -/
def valsFrom (A : Nat → List α → α) (me : Nat) (todo : List (Int × V3 α)) (q : Nat) : List α :=
  (bucket q (pairsOf me todo)).map (A q)

theorem pairsOf_cons_sent (me : Nat) (p : Int) (x : V3 α) (rest : List (Int × V3 α)) (h : (p == (me : Int)) = false) :
    pairsOf me ((p, x) :: rest) = (p.toNat, item x) :: pairsOf me rest := by
  have : (p != (me : Int)) = true := by simp only [bne, h, Bool.not_false]
  simp [pairsOf, sentOf, this]

theorem pairsOf_cons_stay (me : Nat) (p : Int) (x : V3 α) (rest : List (Int × V3 α)) (h : (p == (me : Int)) = true) :
    pairsOf me ((p, x) :: rest) = pairsOf me rest := by
  have : (p != (me : Int)) = false := by simp only [bne, h, Bool.not_true]
  simp [pairsOf, sentOf, this]

theorem prefix_drop_cons {β : Type} {v : β} {tl D : List β} {n : Nat} (d : β) (h : (v :: tl) <+: D.drop n) :
    D.getD n d = v ∧ tl <+: D.drop (n + 1) := by
  obtain ⟨s, hs⟩ := h
  constructor
  · rw [List.getD_eq_getElem?_getD, ← Nat.add_zero n, ← List.getElem?_drop, ← hs]
    rfl
  · exact ⟨s, by rw [← List.drop_drop, ← hs]; rfl⟩

section ReadBack
variable [Inhabited α]

/-- The second `a_next` walk with the invariant a reader needs: what rank `me` still expects from rank `q`
    (`valsFrom` of the remaining plan) is a prefix of the buffer `D` from `a_next[q]` on. -/
theorem collect_read (np me : Nat) (A : Nat → List α → α) (own : V3 α → α) (D : List α)
    (pl : List (Int × V3 α)) (hrange : ∀ p ∈ pl, 0 ≤ p.1 ∧ p.1 < (np : Int)) (aNext : List Int)
    (hlen : aNext.length = np)
    (inv : ∀ q, q < np → 0 ≤ aNext.getD q 0 ∧ valsFrom A me pl q <+: D.drop (aNext.getD q 0).toNat) :
    collect me D own pl aNext
      = pl.map fun p => if p.1 == (me : Int) then own p.2 else A p.1.toNat (item p.2) := by
  fun_induction collect me D own pl aNext with
  | case1 => rfl
  | case2 p x rest aNext hme ih =>
    -- stationary: nothing is read
    simp only [hme, if_true, List.map_cons]
    refine congrArg _ (ih (fun q hq => hrange q (List.mem_cons_of_mem _ hq)) hlen fun q hq => ?_)
    have := inv q hq
    rwa [valsFrom, pairsOf_cons_stay me p x rest hme] at this
  | case3 p x rest aNext hme ih =>
    have hr := hrange (p, x) List.mem_cons_self
    have hme' : (p == (me : Int)) = false := by simpa using hme
    have hq0 : p.toNat < np := by omega
    -- the answer expected next from `p` stands at `a_next[p]`
    obtain ⟨hn, hpre⟩ := inv p.toNat hq0
    rw [valsFrom, pairsOf_cons_sent me p x rest hme', bucket_cons_self, List.map_cons] at hpre
    obtain ⟨hget, hnext⟩ := prefix_drop_cons default hpre
    simp only [hme', Bool.false_eq_true, if_false, List.map_cons]
    refine congr (congrArg _ hget)
      (ih (fun q hq => hrange q (List.mem_cons_of_mem _ hq)) (by rw [length_incrAt, hlen]) fun q hq => ?_)
    rw [incrAt_getD aNext p.toNat q (hlen ▸ hq0)]
    by_cases hqp : q = p.toNat
    · subst hqp
      rw [if_pos rfl, Int.toNat_add hn (by decide)]
      exact ⟨by omega, hnext⟩
    · rw [if_neg hqp]
      have := inv q hq
      rwa [valsFrom, pairsOf_cons_sent me p x rest hme', bucket_cons_ne p.toNat q hqp] at this

theorem collect_spec (np me : Nat) (A : Nat → List α → α) (own : V3 α → α)
    (pl : List (Int × V3 α)) (hrange : ∀ p ∈ pl, 0 ≤ p.1 ∧ p.1 < (np : Int)) :
    collect me ((List.range np).flatMap fun q => (bucket q (pairsOf me pl)).map (A q)) own pl
        (displs (countDest np (blindOf (pairsOf me pl)).proc))
      = pl.map fun p => if p.1 == (me : Int) then own p.2 else A p.1.toNat (item p.2) := by
  have init := PackInv.init 1 np _ (pairsOf_dest np me pl hrange) (valsFrom A me pl)
    fun p _ => by rw [valsFrom, List.length_map, Nat.one_mul]
  refine collect_read np me A own _ pl hrange _ init.len fun q hq => ⟨init.nonneg q hq, ?_⟩
  have hn := init.next q hq
  rw [Nat.one_mul, List.length_nil, Nat.add_zero] at hn
  rw [show (blindOf (pairsOf me pl)).proc = (pairsOf me pl).map fun x => (x.1 : Int) from rfl, hn]
  have hs := segData_split np q hq (fun _ => []) (valsFrom A me pl)
  simp only [segData, List.nil_append] at hs hn ⊢
  show _ <+: List.drop _ (List.flatMap (fun q => valsFrom A me pl q) (List.range np))
  rw [hs, List.append_assoc, List.drop_left]
  exact List.prefix_append _ _

end ReadBack

end Refine.Lemmas.PhysDist
