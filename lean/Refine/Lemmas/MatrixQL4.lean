import Refine.Lemmas.MatrixQL3
import Refine.Lemmas.MatrixFun

/-!
  The whole of `ref_matrix_diag_m`, back in the fixed-shape `M6`.  The three `rowStep_repr` of a run (`DiagRun`) add up
  to `DiagRun.facts`: orthonormal vectors (`diagM_orthonormal'`) and `m = Q diag(d) Qᵀ` plus the dropped entries `eps0`,
  `eps1`, `eps2`, each within the final tolerance, `eps1` and `eps2` being what is left in `e[0]`, `e[1]` at the end
  (`eps1_eq`, `eps2_eq`); a dropped entry of size `|a|` moves the quadratic form by at most `|a| |x|²`
  (`vtMv_offDiag_le`); `ZeroResidual` is the case where nothing non-zero was dropped.
-/
namespace Refine.Model.Matrix
open Refine Refine.ScalarReal
open _root_.Matrix

noncomputable instance : Add (M6 ℝ) :=
  ⟨fun a b => ⟨a.m11 + b.m11, a.m12 + b.m12, a.m13 + b.m13, a.m22 + b.m22, a.m23 + b.m23, a.m33 + b.m33⟩⟩

theorem M6.add_def (a b : M6 ℝ) :
    a + b = ⟨a.m11 + b.m11, a.m12 + b.m12, a.m13 + b.m13, a.m22 + b.m22, a.m23 + b.m23, a.m33 + b.m33⟩ := rfl

theorem toMat_add (a b : M6 ℝ) : (a + b).toMat = a.toMat + b.toMat := by
  simp only [M6.add_def, M6.toMat, add_fin_three]

theorem vtMv_add (a b : M6 ℝ) (x : Vec3 ℝ) : vtMv (a + b) x = vtMv a x + vtMv b x := by
  simp only [vtMv, M6.add_def, mul_eq, add_eq]; ring

/-- `Q · offdiag(a, b) · Qᵀ` as an `M6`: entry `a` couples vectors 0 and 1 of `q`, entry `b` vectors 1 and 2 -/
noncomputable def offDiag (q : Eig12 ℝ) (a b : ℝ) : M6 ℝ := tridiagForm { q with l0 := 0, l1 := 0, l2 := 0 } a b

theorem toMat_offDiag (q : Eig12 ℝ) (a b : ℝ) : (offDiag q a b).toMat = dropMat q a b := by
  unfold offDiag dropMat; rw [toMat_tridiagForm]; rfl

theorem offDiag_zero (q : Eig12 ℝ) : offDiag q 0 0 = ⟨0, 0, 0, 0, 0, 0⟩ := by
  apply M6.ext' <;> simp only [offDiag, tridiagForm] <;> ring

theorem vtMv_offDiag (q : Eig12 ℝ) (a b : ℝ) (x : Vec3 ℝ) :
    vtMv (offDiag q a b) x =
      2 * a * (q.x0 * x.x + q.y0 * x.y + q.z0 * x.z) * (q.x1 * x.x + q.y1 * x.y + q.z1 * x.z) +
      2 * b * (q.x1 * x.x + q.y1 * x.y + q.z1 * x.z) * (q.x2 * x.x + q.y2 * x.y + q.z2 * x.z) := by
  simp only [vtMv, offDiag, tridiagForm, mul_eq, add_eq]; ring

theorem offDiag_form_le (a b u v w : ℝ) :
    |2 * a * u * v + 2 * b * v * w| ≤ (|a| + |b|) * (u ^ 2 + v ^ 2 + w ^ 2) := by
  have two : ∀ a u v : ℝ, |2 * a * u * v| ≤ |a| * (u ^ 2 + v ^ 2) := by
    intro a u v
    rw [show 2 * a * u * v = a * (2 * u * v) by ring, abs_mul]
    apply mul_le_mul_of_nonneg_left _ (abs_nonneg a)
    rw [abs_le]
    constructor <;> linarith [sq_nonneg (u - v), sq_nonneg (u + v)]
  linarith [abs_add_le (2 * a * u * v) (2 * b * v * w), two a u v, two b v w,
    mul_nonneg (abs_nonneg a) (sq_nonneg w), mul_nonneg (abs_nonneg b) (sq_nonneg u)]

/-- a dropped entry of size `|a|` moves the quadratic form by at most `|a| |x|²` (operator norm) -/
theorem vtMv_offDiag_le {q : Eig12 ℝ} (ho : Orthonormal q) (a b : ℝ) (x : Vec3 ℝ) :
    |vtMv (offDiag q a b) x| ≤ (|a| + |b|) * (x.x * x.x + x.y * x.y + x.z * x.z) := by
  rw [vtMv_offDiag, ← ho.parseval x]
  exact offDiag_form_le _ _ _ _ _

theorem reprMat0_rot0 (m : M6 ℝ) : (rot0 m).reprMat 0 = m.toMat := by
  obtain ⟨_, hT⟩ := rot0_spec m
  have hf := rot0_f m
  conv_rhs => rw [← hT]
  rw [toMat_tridiagForm]
  unfold QL.reprMat QL.Tmat
  simp [hf]

theorem reprMat3 (st : QL ℝ) : st.reprMat 3 = (formM st.d).toMat := by
  rw [← tridiagForm_zero, toMat_tridiagForm]
  unfold QL.reprMat QL.Tmat
  simp

/-- the three sub-diagonal entries the convergence test dropped during the run -/
noncomputable def DiagRun.eps0 {m : M6 ℝ} {d : Eig12 ℝ} (_ : DiagRun m d) : ℝ := rowEps 0 (rot0 m)
def DiagRun.eps1 {m : M6 ℝ} {d : Eig12 ℝ} (r : DiagRun m d) : ℝ := r.st1.e0
def DiagRun.eps2 {m : M6 ℝ} {d : Eig12 ℝ} (r : DiagRun m d) : ℝ := r.st2.e1

/-- the residual `m - Q diag(d) Qᵀ`: each dropped entry between the two vectors it coupled when it was dropped -/
noncomputable def DiagRun.resid {m : M6 ℝ} {d : Eig12 ℝ} (r : DiagRun m d) : M6 ℝ :=
  offDiag (rot0 m).d 0 r.eps0 + offDiag r.st1.d r.eps1 0 + offDiag r.st2.d 0 r.eps2

/-- the tolerance of the convergence test at the end of the run (`tst1` only grows) -/
noncomputable def DiagRun.tol {m : M6 ℝ} {d : Eig12 ℝ} (r : DiagRun m d) : ℝ := r.st3.tol

/-- `eq` is on Mathlib matrices -/
structure DiagRun.Facts {m : M6 ℝ} {d : Eig12 ℝ} (r : DiagRun m d) : Prop where
  o0 : Orthonormal (rot0 m).d
  o1 : Orthonormal r.st1.d
  o2 : Orthonormal r.st2.d
  od : Orthonormal d
  b0 : |r.eps0| ≤ r.tol
  b1 : |r.eps1| ≤ r.tol
  b2 : |r.eps2| ≤ r.tol
  eq : m.toMat = (formM d).toMat + dropMat (rot0 m).d 0 r.eps0 + dropMat r.st1.d r.eps1 0 + dropMat r.st2.d 0 r.eps2

theorem DiagRun.facts {m : M6 ℝ} {d : Eig12 ℝ} (r : DiagRun m d) : r.Facts := by
  have o0 := (rot0_spec m).1
  obtain ⟨o1, q0, a0, c0, -⟩ := rowStep_repr 0 (by omega) _ _ o0 r.h1
  obtain ⟨o2, q1, _, c1, m1⟩ := rowStep_repr 1 (by omega) _ _ o1 r.h2
  obtain ⟨o3, q2, _, _, m2⟩ := rowStep_repr 2 (by omega) _ _ o2 r.h3
  have e1 : rowEps 1 r.st1 = 0 := by simp [rowEps]
  have e2 : rowEps 2 r.st2 = 0 := by simp [rowEps]
  have l12 : r.st1.tol ≤ r.st3.tol := tol_mono (le_trans m1 m2)
  have l23 : r.st2.tol ≤ r.st3.tol := tol_mono m2
  refine ⟨o0, o1, o2, r.hd ▸ o3, le_trans a0 l12, le_trans c0 l12, le_trans c1 l23, ?_⟩
  rw [← reprMat0_rot0, q0, q1, q2, reprMat3, r.hd, e1, e2]
  simp only [dropMat_zero, add_zero, if_true, if_false, one_ne_zero, OfNat.ofNat_ne_zero, OfNat.ofNat_ne_one]
  unfold DiagRun.eps0 DiagRun.eps1 DiagRun.eps2
  abel

theorem diagM_orthonormal' (m : M6 ℝ) (d : Eig12 ℝ) (h : diagM m = .ok d) : Orthonormal d := by
  obtain ⟨r⟩ := diagM_run m d h
  exact r.facts.od

theorem DiagRun.eq_add_resid {m : M6 ℝ} {d : Eig12 ℝ} (r : DiagRun m d) : m = formM d + r.resid := by
  apply M6.toMat_injective
  rw [r.facts.eq]
  simp only [toMat_add, toMat_offDiag, DiagRun.resid]
  abel

theorem qlLoop12_e0 (fuel : Nat) (st st' : QL ℝ) (hq : qlLoop fuel 1 2 st = .ok st') : st'.e0 = st.e0 :=
  (qlLoop_rule (I := fun s => s.e0 = st.e0) (J := fun s => s.e0 = st.e0)
    (fun s hs => by rw [sweep12_e0, hs]) (fun _ hJ _ => hJ) fuel st st' rfl hq).1

theorem rowStep_e0 (l : Nat) (hl : 1 ≤ l) (hl2 : l ≤ 2) (st st' : QL ℝ) (h : rowStep l st = .ok st') :
    st'.e0 = st.e0 := by
  obtain ⟨mm, s, T⟩ := rowStep_ok hl2 h
  rw [T.result, setD_e0]
  have hs := T.loop
  have h1 := T.le_mm
  have h2 := T.mm_le
  split_ifs at hs with hml
  · rw [hs]; exact tstUpd_getE l 0 st
  · obtain rfl : l = 1 := by omega
    obtain rfl : mm = 2 := by omega
    rw [qlLoop12_e0 30 _ s hs]; exact tstUpd_getE 1 0 st

theorem rowStep2_e1 (st st' : QL ℝ) (h : rowStep 2 st = .ok st') : st'.e1 = st.e1 := by
  obtain ⟨mm, s, T⟩ := rowStep_ok (le_refl 2) h
  have hs := T.loop
  rw [if_pos (by have := T.le_mm; have := T.mm_le; omega)] at hs
  rw [T.result, setD_e1, hs]; exact tstUpd_getE 2 1 st

theorem DiagRun.eps1_eq {m : M6 ℝ} {d : Eig12 ℝ} (r : DiagRun m d) : r.eps1 = r.st3.e0 := by
  unfold DiagRun.eps1
  rw [rowStep_e0 2 (by omega) (by omega) _ _ r.h3, rowStep_e0 1 (by omega) (by omega) _ _ r.h2]

theorem DiagRun.eps2_eq {m : M6 ℝ} {d : Eig12 ℝ} (r : DiagRun m d) : r.eps2 = r.st3.e1 := by
  unfold DiagRun.eps2
  rw [rowStep2_e1 _ _ r.h3]

/-- `diagM m` returned `d` and every sub-diagonal entry the convergence test dropped was exactly zero -/
def ZeroResidual (m : M6 ℝ) (d : Eig12 ℝ) : Prop := ∃ r : DiagRun m d, r.eps0 = 0 ∧ r.eps1 = 0 ∧ r.eps2 = 0

theorem DiagRun.isEigSys {m : M6 ℝ} {d : Eig12 ℝ} (r : DiagRun m d) (h0 : r.eps0 = 0) (h1 : r.eps1 = 0)
    (h2 : r.eps2 = 0) : IsEigSys d m := by
  refine ⟨r.facts.od, ?_⟩
  apply M6.toMat_injective
  have e := r.facts.eq
  rw [h0, h1, h2] at e
  simp only [dropMat_zero, add_zero] at e
  exact e.symm

/-- a diagonal matrix is decomposed without residual -/
theorem zeroResidual_diag (a b c : ℝ) : ZeroResidual ⟨a, 0, 0, b, 0, c⟩ ⟨a, b, c, 1, 0, 0, 0, 1, 0, 0, 0, 1⟩ := by
  obtain ⟨r, h1, h2⟩ := diagRun_diag a b c
  refine ⟨r, ?_, h1, h2⟩
  unfold DiagRun.eps0 rowEps; rw [rot0_diag]; simp

/-- a non-diagonal input, [[1,3,4],[3,2,0],[4,0,2]]: the first rotation has `L = 5`, then row 0 needs a genuine QL sweep -/
theorem rot0_example345 : rot0 (⟨1, 3, 4, 2, 0, 2⟩ : M6 ℝ) =
    { d := ⟨1, 2, 2, 1, 0, 0, 0, 3 / 5, 4 / 5, 0, 4 / 5, -(3 / 5)⟩, e0 := 5, e1 := 0, e2 := 0, f := 0, tst1 := 0 } := by
  rw [rot0_of_pos _ (L := 5) (by norm_num) (by norm_num)]
  norm_num

theorem example345_not_small : (tstUpd 0 (rot0 (⟨1, 3, 4, 2, 0, 2⟩ : M6 ℝ))).isSmall 0 = false := by
  rw [Bool.eq_false_iff, Ne, isSmall_iff, tstUpd_tst1, tstUpd_getE, rot0_example345]
  simp only [QL.getD, QL.getE]
  split_ifs <;> norm_num

end Refine.Model.Matrix
