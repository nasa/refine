/-!
  Facts about core `List` functions that several model libraries need and core does not state.
  `l.getD i d` is `l[i]?.getD d`, so a fact about reading with a default after `set`, `take`, `drop`, `++`, `map`, … is
  the core `getElem?` lemma seen through `List.getD_eq_getElem?_getD`; each is stated once, for every element type and
  default.
  Core imports only: the lemma files that need no Mathlib (`NodeIds`, `CellStore`, `Comm`) stay free of it.

  A trap: `List.getD_eq_getElem?_getD` is itself a `simp` lemma, so a plain `simp` turns every `l.getD i d` of the goal
  into `l[i]?.getD d`, after which neither these lemmas nor a hypothesis `e : l.getD i d = k` rewrite (and `simp [e]`
  does not use `e`).  Either keep the form, `simp [-List.getD_eq_getElem?_getD, e, …]`, or bring hypotheses along,
  `simp at e ⊢`, or go back afterwards with `simp only [← List.getD_eq_getElem?_getD]`.
-/
namespace Refine.ListFacts

variable {α β γ : Type}

section
variable {l t : List α} {i j : Nat} {x d : α}

theorem getD_eq_getElem (h : i < l.length) : l.getD i d = l[i] := (List.getElem_eq_getD d).symm

theorem getD_eq_default (h : l.length ≤ i) : l.getD i d = d := by
  simp [List.getD_eq_getElem?_getD, h]

theorem lt_length_of_getD_ne (h : l.getD i d ≠ d) : i < l.length :=
  Nat.lt_of_not_le fun hle => h (getD_eq_default hle)

theorem getD_mem (h : i < l.length) : l.getD i d ∈ l := by
  rw [getD_eq_getElem h]; exact List.getElem_mem h

theorem mem_iff_getD : x ∈ l ↔ ∃ k, k < l.length ∧ l.getD k d = x := by
  rw [List.mem_iff_getElem]
  exact ⟨fun ⟨k, h, e⟩ => ⟨k, h, by rw [getD_eq_getElem h, e]⟩, fun ⟨k, h, e⟩ => ⟨k, h, by rw [← getD_eq_getElem h, e]⟩⟩

theorem pairwise_iff_getD {R : α → α → Prop} :
    l.Pairwise R ↔ ∀ a b, a < b → b < l.length → R (l.getD a d) (l.getD b d) := by
  rw [List.pairwise_iff_getElem]
  constructor
  · intro h a b hab hb
    rw [getD_eq_getElem (Nat.lt_trans hab hb), getD_eq_getElem hb]
    exact h a b _ hb hab
  · intro h a b ha hb hab
    have := h a b hab hb
    rwa [getD_eq_getElem ha, getD_eq_getElem hb] at this

theorem map_getD_range : (List.range l.length).map (fun k => l.getD k d) = l :=
  List.ext_getElem (by simp) fun k _ h2 => by simp [List.getD_eq_getElem?_getD, h2]

theorem getD_set : (l.set i x).getD j d = if i = j ∧ i < l.length then x else l.getD j d := by
  simp only [List.getD_eq_getElem?_getD, List.getElem?_set]
  by_cases h : i = j
  · subst h; by_cases h2 : i < l.length <;> simp [h2]
  · simp [h]

theorem getD_set_self (l : List α) {i : Nat} (x d : α) (h : i < l.length) : (l.set i x).getD i d = x := by
  simp [List.getD_eq_getElem?_getD, List.getElem?_set_self h]

theorem getD_set_ne (l : List α) {i j : Nat} (x d : α) (h : i ≠ j) : (l.set i x).getD j d = l.getD j d := by
  simp [List.getD_eq_getElem?_getD, List.getElem?_set_ne h]

theorem set_getD_self : l.set i (l.getD i d) = l := by
  by_cases h : i < l.length
  · rw [getD_eq_getElem h]; exact List.set_getElem_self h
  · exact List.set_eq_of_length_le (Nat.le_of_not_lt h)

theorem take_append_getD {n : Nat} (h : l.length = n + 1) : l.take n ++ [l.getD n d] = l := by
  have hn : n < l.length := by omega
  rw [getD_eq_getElem hn, List.take_append_getElem hn, List.take_of_length_le (by omega)]

theorem drop_eq_getD_cons (h : i < l.length) : l.drop i = l.getD i d :: l.drop (i + 1) := by
  rw [getD_eq_getElem h]; exact List.drop_eq_getElem_cons h


theorem getD_take (l : List α) {k n : Nat} (d : α) (h : k < n) : (l.take n).getD k d = l.getD k d := by
  simp [List.getD_eq_getElem?_getD, h]

theorem getD_append_left (h : i < l.length) : (l ++ t).getD i d = l.getD i d := by
  simp [List.getD_eq_getElem?_getD, List.getElem?_append_left h]

theorem getD_append_right (h : l.length ≤ i) : (l ++ t).getD i d = t.getD (i - l.length) d := by
  simp [List.getD_eq_getElem?_getD, List.getElem?_append_right h]

theorem getD_replicate {n : Nat} : (List.replicate n d).getD i d = d := by
  simp only [List.getD_eq_getElem?_getD, List.getElem?_replicate]; split <;> rfl

theorem getD_append_replicate (l : List α) (n i : Nat) (d : α) : (l ++ List.replicate n d).getD i d = l.getD i d := by
  by_cases h : i < l.length
  · exact getD_append_left h
  · rw [getD_append_right (Nat.le_of_not_lt h), getD_replicate, getD_eq_default (Nat.le_of_not_lt h)]


theorem getD_toArray : l.toArray.getD i d = l.getD i d := by
  simp [Array.getD_eq_getD_getElem?, List.getD_eq_getElem?_getD]

theorem getD_map {f : α → β} : (l.map f).getD i (f d) = f (l.getD i d) := by
  simp only [List.getD_eq_getElem?_getD, List.getElem?_map]; cases l[i]? <;> rfl

/-- below the length the default of the mapped list does not matter -/
theorem getD_map_of_lt {f : α → β} (d : α) {e : β} (h : i < l.length) : (l.map f).getD i e = f (l.getD i d) := by
  simp [List.getD_eq_getElem?_getD, h]

theorem getD_map_range {n : Nat} {f : Nat → β} {e : β} (h : i < n) : ((List.range n).map f).getD i e = f i := by
  simp [List.getD_eq_getElem?_getD, h]

end

theorem pairwise_ext {R : α → α → Prop} (asym : ∀ a b, R a b → R b a → False) {l₁ l₂ : List α}
    (h₁ : l₁.Pairwise R) (h₂ : l₂.Pairwise R) (h : ∀ x, x ∈ l₁ ↔ x ∈ l₂) : l₁ = l₂ := by
  have nd : ∀ {l : List α}, l.Pairwise R → l.Nodup := fun hl =>
    hl.imp fun {a b} hab e => by subst e; exact asym a a hab hab
  exact List.Perm.eq_of_pairwise (fun a b _ _ hab hba => (asym a b hab hba).elim) h₁ h₂
    ((List.perm_ext_iff_of_nodup (nd h₁) (nd h₂)).mpr h)

theorem length_le_of_nodup_lt {l : List Nat} {n : Nat} (hnd : l.Nodup) (h : ∀ k ∈ l, k < n) : l.length ≤ n := by
  have := hnd.length_le_of_subset (l₂ := List.range n) fun k hk => List.mem_range.2 (h k hk)
  rwa [List.length_range] at this


theorem concat_induction {P : List α → Prop} (nil : P []) (concat : ∀ l a, P l → P (l ++ [a])) : ∀ l, P l := by
  intro l
  rw [← List.reverse_reverse l]
  induction l.reverse with
  | nil => exact nil
  | cons a t ih => rw [List.reverse_cons]; exact concat _ a ih

theorem map_eq_self {f : α → α} {l : List α} (h : ∀ x ∈ l, f x = x) : l.map f = l :=
  (List.map_congr_left h).trans (List.map_id' l)

theorem mem_map_subst [DecidableEq α] {o n x : α} {l : List α} :
    x ∈ l.map (fun y => if y = o then n else y) ↔ (x = n ∧ o ∈ l) ∨ (x ∈ l ∧ x ≠ o) := by
  rw [List.mem_map]
  constructor
  · rintro ⟨y, hy, rfl⟩
    by_cases h : y = o
    · exact .inl ⟨if_pos h, h ▸ hy⟩
    · exact .inr ⟨(if_neg h).symm ▸ hy, (if_neg h).symm ▸ h⟩
  · rintro (⟨rfl, ho⟩ | ⟨hx, hne⟩)
    · exact ⟨o, ho, if_pos rfl⟩
    · exact ⟨x, hx, if_neg hne⟩

theorem getElem?_mapIdx_eq_some {l : List α} {f : Nat → α → β} {r : Nat} {p : β} :
    (l.mapIdx f)[r]? = some p ↔ ∃ s, l[r]? = some s ∧ f r s = p := by
  simp [List.getElem?_mapIdx, Option.map_eq_some_iff]

theorem map_mapIdx (l : List α) (f : Nat → α → β) (g : β → γ) :
    (l.mapIdx f).map g = l.mapIdx fun i a => g (f i a) := by
  simp [List.mapIdx_eq_zipIdx_map]

theorem mapIdx_map (l : List α) (g : α → β) (f : Nat → β → γ) :
    (l.map g).mapIdx f = l.mapIdx fun i a => f i (g a) := by
  simp [List.mapIdx_eq_zipIdx_map, List.zipIdx_map]

theorem zip_map_self (l : List α) (f : α → β) : l.zip (l.map f) = l.map fun x => (x, f x) := by
  simpa using List.zip_map' (f := id) (g := f) (l := l)

theorem zip_zipIdx_map (l : List α) (n : Nat) (g : α × Nat → β) :
    l.zip ((l.zipIdx n).map g) = (l.zipIdx n).map fun p => (p.1, g p) := by
  induction l generalizing n with
  | nil => rfl
  | cons a l ih => simp [List.zipIdx_cons, ih]

theorem flatMap_congr {l : List α} {f g : α → List β} (h : ∀ x ∈ l, f x = g x) : l.flatMap f = l.flatMap g := by
  rw [List.flatMap_def, List.flatMap_def, List.map_congr_left h]

theorem flatten_map_singleton (l : List α) (f : α → β) : (l.map fun x => [f x]).flatten = l.map f := by
  rw [← List.flatMap_def, ← List.map_eq_flatMap]

theorem filter_append_disjoint (p q : α → Bool) (l : List α) (hd : ∀ a ∈ l, ¬ (p a = true ∧ q a = true)) :
    (l.filter p ++ l.filter q).Perm (l.filter fun a => p a || q a) := by
  have h := List.filter_append_perm p (l.filter fun a => p a || q a)
  rw [List.filter_filter, List.filter_filter] at h
  have e1 : l.filter (fun a => p a && (p a || q a)) = l.filter p :=
    List.filter_congr fun a _ => by cases p a <;> simp
  have e2 : l.filter (fun a => !p a && (p a || q a)) = l.filter q := List.filter_congr fun a ha => by
    have := hd a ha
    cases hp : p a <;> cases hq : q a <;> simp_all
  rwa [e1, e2] at h

theorem flatMap_filter_range_perm (owner : α → Nat) (l : List α) (n : Nat) :
    ((List.range n).flatMap fun r => l.filter fun x => owner x == r).Perm (l.filter fun x => decide (owner x < n)) := by
  induction n with
  | zero => simp
  | succ n ih =>
    rw [List.range_succ, List.flatMap_append, List.flatMap_singleton]
    refine (ih.append_right _).trans
      ((filter_append_disjoint (fun x => decide (owner x < n)) (fun x => owner x == n) l ?_).trans ?_)
    · intro x _ h
      simp only [decide_eq_true_eq, beq_iff_eq] at h
      omega
    · refine List.Perm.of_eq (List.filter_congr fun x _ => ?_)
      by_cases h1 : owner x < n
      · simp [h1, Nat.lt_succ_of_lt h1]
      · by_cases h2 : owner x = n
        · simp [h2]
        · have h3 : ¬ owner x < n + 1 := by omega
          simp [h1, h2, h3]

theorem flatMap_filter_range_perm_of_lt {owner : α → Nat} {l : List α} {n : Nat} (h : ∀ x ∈ l, owner x < n) :
    ((List.range n).flatMap fun r => l.filter fun x => owner x == r).Perm l := by
  have := flatMap_filter_range_perm owner l n
  rwa [List.filter_eq_self.2 fun x hx => decide_eq_true (h x hx)] at this

theorem nodup_flatten_iff {L : List (List β)} :
    L.flatten.Nodup ↔ (∀ l ∈ L, l.Nodup) ∧
      ∀ (i j : Nat) (hi : i < L.length) (hj : j < L.length), ∀ x, x ∈ L[i] → x ∈ L[j] → i = j := by
  unfold List.Nodup
  rw [List.pairwise_flatten, List.pairwise_iff_getElem]
  refine and_congr_right fun _ => ⟨fun h i j hi hj x hx hy => ?_, fun h i j hi hj hij x hx y hy e => ?_⟩
  · rcases Nat.lt_trichotomy i j with hlt | heq | hgt
    · exact absurd rfl (h i j hi hj hlt x hx x hy)
    · exact heq
    · exact absurd rfl (h j i hj hi hgt x hy x hx)
  · exact Nat.ne_of_lt hij (h i j hi hj x hx (e ▸ hy))

theorem nodup_flatten_map_range (C : Nat → List β) (n : Nat) :
    ((List.range n).map C).flatten.Nodup ↔
      (∀ v, v < n → (C v).Nodup) ∧ ∀ v w, v < n → w < n → ∀ k, k ∈ C v → k ∈ C w → v = w := by
  simp only [nodup_flatten_iff, List.forall_mem_map, List.mem_range, List.length_map, List.length_range,
    List.getElem_map, List.getElem_range]

theorem nodup_flatten_zipIdx (w : List α) (f : α × Nat → List β) :
    (w.zipIdx.map f).flatten.Nodup ↔
      (∀ (q : Nat) (s : α), w[q]? = some s → (f (s, q)).Nodup) ∧
      ∀ (q r : Nat) (s t : α), w[q]? = some s → w[r]? = some t → ∀ x, x ∈ f (s, q) → x ∈ f (t, r) → q = r := by
  simp only [nodup_flatten_iff, List.forall_mem_map, List.length_map, List.length_zipIdx,
    List.getElem_map, List.getElem_zipIdx, Nat.zero_add, List.getElem?_eq_some_iff, Prod.forall,
    List.mk_mem_zipIdx_iff_getElem?]
  exact and_congr ⟨fun h q s => h s q, fun h s q => h q s⟩
    ⟨fun h q r s t ⟨hq, es⟩ ⟨hr, et⟩ => es ▸ et ▸ h q r hq hr, fun h q r hq hr => h q r _ _ ⟨hq, rfl⟩ ⟨hr, rfl⟩⟩


theorem length_flatten_uniform {n : Nat} {L : List (List α)} (h : ∀ l ∈ L, l.length = n) :
    L.flatten.length = n * L.length := by
  induction L with
  | nil => rfl
  | cons a t ih =>
    rw [List.flatten_cons, List.length_append, h a List.mem_cons_self,
      ih fun x hx => h x (List.mem_cons_of_mem _ hx), List.length_cons, Nat.mul_succ, Nat.add_comm]

theorem length_flatMap_const {l : List α} {f : α → List β} {k : Nat} (h : ∀ x ∈ l, (f x).length = k) :
    (l.flatMap f).length = l.length * k := by
  rw [List.flatMap_def, length_flatten_uniform (n := k) (by simpa using h), List.length_map, Nat.mul_comm]

/-- `ch` stands for the model's `chunks` (two copies: `Model/Dist`, `Model/InterpLocate`) and for `rows per` of
    `Model/Ugrid`; the two hypotheses are the defining equations, so every instance is
    `chunks_flatten_of (fun _ => rfl) (fun _ _ => rfl)` -/
theorem chunks_flatten_of {ch : Nat → List β → List (List β)} {ldim : Nat} (h0 : ∀ l, ch 0 l = [])
    (hs : ∀ k l, ch (k + 1) l = l.take ldim :: ch k (l.drop ldim)) :
    ∀ L : List (List β), (∀ x ∈ L, x.length = ldim) → ch L.length L.flatten = L
  | [], _ => h0 _
  | x :: rest, h => by
    have hx : x.length = ldim := h x List.mem_cons_self
    rw [List.length_cons, List.flatten_cons, hs, List.take_left' hx, List.drop_left' hx,
      chunks_flatten_of h0 hs rest fun y hy => h y (List.mem_cons_of_mem _ hy)]


theorem sum_mapIdx_le (l : List α) (f : Nat → α → Nat) (g : α → Nat) (h : ∀ i x, l[i]? = some x → f i x ≤ g x) :
    (l.mapIdx f).sum ≤ (l.map g).sum := by
  induction l generalizing f with
  | nil => simp
  | cons a l ih =>
    simp only [List.mapIdx_cons, List.map_cons, List.sum_cons]
    exact Nat.add_le_add (h 0 a rfl) (ih _ fun i x => h (i + 1) x)

/-- `eraseDups` recurses on a filtered tail, hence the recursion on the length -/
theorem nodup_eraseDups [BEq α] [LawfulBEq α] : ∀ l : List α, l.eraseDups.Nodup
  | [] => by simp
  | a :: as => by
    rw [List.eraseDups_cons, List.nodup_cons]
    exact ⟨by simp [List.mem_filter], nodup_eraseDups _⟩
termination_by l => l.length
decreasing_by exact Nat.lt_succ_of_le (List.length_filter_le _ _)

/-! ### a loop of array writes `a[idx e] = val e` -/

section
variable {ε : Type} (idx : ε → Nat) (val : ε → α)

theorem length_foldl_set (es : List ε) (a : List α) :
    (es.foldl (fun a e => a.set (idx e) (val e)) a).length = a.length := by
  induction es generalizing a with
  | nil => rfl
  | cons e es ih => rw [List.foldl_cons, ih, List.length_set]

theorem getElem?_foldl_set_of_not_mem (es : List ε) (a : List α) (i : Nat) (h : ∀ e ∈ es, idx e ≠ i) :
    (es.foldl (fun a e => a.set (idx e) (val e)) a)[i]? = a[i]? := by
  induction es generalizing a with
  | nil => rfl
  | cons e es ih =>
    rw [List.foldl_cons, ih _ fun y hy => h y (List.mem_cons_of_mem _ hy),
      List.getElem?_set_ne (h e List.mem_cons_self)]

theorem getElem?_foldl_set_of_mem (es : List ε) (a : List α) (i : Nat) (hi : i < a.length)
    (h : ∃ e ∈ es, idx e = i) :
    ∃ e ∈ es, idx e = i ∧ (es.foldl (fun a e => a.set (idx e) (val e)) a)[i]? = some (val e) := by
  induction es generalizing a with
  | nil => obtain ⟨e, he, _⟩ := h; cases he
  | cons y ys ih =>
    rw [List.foldl_cons]
    by_cases hlater : ∃ e ∈ ys, idx e = i
    · obtain ⟨e, he, hei, hget⟩ := ih (a.set (idx y) (val y)) (by rw [List.length_set]; exact hi) hlater
      exact ⟨e, List.mem_cons_of_mem _ he, hei, hget⟩
    · have hy : idx y = i := by
        obtain ⟨e, he, hei⟩ := h
        rcases List.mem_cons.mp he with rfl | he
        · exact hei
        · exact absurd ⟨e, he, hei⟩ hlater
      refine ⟨y, List.mem_cons_self, hy, ?_⟩
      rw [getElem?_foldl_set_of_not_mem idx val ys _ i fun e he hei => hlater ⟨e, he, hei⟩, hy,
        List.getElem?_set_self hi]

end

end Refine.ListFacts
