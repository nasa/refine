import Refine.Model.ContainersCheck
import Refine.Lemmas.ContainersListDict

/-! the executable invariant checkers of `REF_LIST` / `REF_DICT` decide exactly `Inv` -/
namespace Refine.Model

theorem sortedLt_iff (l : List Int) : sortedLt l = true ↔ l.Pairwise (· < ·) := by
  rw [← List.isChain_iff_pairwise]
  induction l using sortedLt.induct <;> simp_all [sortedLt]

theorem RDict.invCheck_iff (d : RDict) : d.invCheck = true ↔ RDict.Inv d := by
  simp only [RDict.invCheck, RDict.Inv, Bool.and_eq_true, sortedLt_iff, beq_iff_eq, decide_eq_true_eq]
  tauto

theorem RList.invCheck_iff (l : RList) : l.invCheck = true ↔ RList.Inv l := by
  simp only [RList.invCheck, RList.Inv, Bool.and_eq_true, beq_iff_eq, decide_eq_true_eq]

end Refine.Model
