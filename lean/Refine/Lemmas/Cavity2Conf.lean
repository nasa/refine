import Refine.Lemmas.Cavity2Form

/-!
  `ref_cavity_enlarge_seg` / `ref_cavity_enlarge_conforming`: every call that changes the cavity and leaves the state
  unknown lists one new live boundary tri (and possibly new live tets), so the budgets of the modelled loop are never
  exhausted.  The loops are followed with `Listed`; `Grow` is what it says of a cavity with consistent stores.
-/
namespace Refine.Lemmas.Cavity2
open Refine.Model.Cavity Refine.Model.Cavity2 Refine.Lemmas.Cavity Refine.Props.C01

variable {α : Type}

structure Grow (g : Grid α) (c c' : Cav) : Prop where
  finv : SlotsInv c'.faces
  sinv : SlotsInv c'.segs
  node : c'.node = c.node
  surf : c'.surfNode = c.surfNode
  tets : ∃ new, c'.tetList = c.tetList ++ new ∧ new.Nodup ∧ (∀ cell ∈ new, cell ∉ c.tetList) ∧
    (∀ cell ∈ new, ∃ t, g.tets.get? cell = some t)
  tris : ∃ new, c'.triList = c.triList ++ new ∧ new.Nodup ∧ (∀ cell ∈ new, cell ∉ c.triList) ∧
    (∀ cell ∈ new, ∃ t, g.tris.get? cell = some t)

theorem Listed.grow {g : Grid α} {c c' : Cav} (h : Listed g c c') (hf : SlotsInv c.faces) (hs : SlotsInv c.segs) :
    Grow g c c' := ⟨h.finv hf, h.sinv hs, h.node, h.surf, h.tets, h.tris⟩

/-- what `ref_cavity_add_tri` and `ref_cavity_enlarge_seg` do, whatever they return -/
structure TriGrown (g : Grid α) (c c' : Cav) : Prop where
  listed : Listed g c c'
  longer : c' = c ∨ c'.state ≠ .unknown ∨ c.triList.length < c'.triList.length

theorem TriGrown.refl (g : Grid α) (c : Cav) : TriGrown g c c := ⟨.refl c, Or.inl rfl⟩

theorem TriGrown.trans {g : Grid α} {a b c : Cav} (h1 : TriGrown g a b) (h2 : TriGrown g b c) : TriGrown g a c := by
  refine ⟨h1.listed.trans h2.listed, ?_⟩
  rcases h2.longer with rfl | h | h
  · exact h1.longer
  · exact Or.inr (Or.inl h)
  · rcases h1.longer with rfl | h' | h'
    · exact Or.inr (Or.inr h)
    · exact Or.inr (Or.inl fun e => h' (h2.listed.state e))
    · exact Or.inr (Or.inr (lt_trans h' h))

theorem addTri_grown (g : Grid α) (c : Cav) (cell : Int) : TriGrown g c (addTri g c cell).2 := by
  refine ⟨addTri_listed g c cell, ?_⟩
  fun_cases addTri g c cell with
  | case1 => exact Or.inl rfl
  | case2 => exact Or.inl rfl
  | case3 => exact Or.inr (Or.inl (by simp))
  | case4 tri _ _ _ =>
    obtain ⟨new, e, _⟩ := (addTriSegs_listed g (triSegs tri) { c with triList := c.triList ++ [cell] }).tris
    refine Or.inr (Or.inr ?_)
    rw [e]; simp only [List.length_append, List.length_cons, List.length_nil]; omega

theorem condAddTri_grown (g : Grid α) (c : Cav) (b : Bool) (cell : Int) :
    TriGrown g c (if b = true then addTri g c cell else (.ok, c)).2 := by
  split
  · exact addTri_grown g c cell
  · exact .refl g c

theorem enlargeSeg_grown (g : Grid α) (c : Cav) (i : Nat) : TriGrown g c (enlargeSeg g c i).2 := by
  fun_cases enlargeSeg g c i
  case case3 s _ p0 p1 _ have0 have1 _ c1 h1 _ =>          -- first add ok, second add called
    have e := condAddTri_grown g c have0 (p1.1 : Int)
    rw [h1] at e
    exact e.trans (addTri_grown g c1 _)
  case case4 s _ p0 p1 _ have0 have1 _ c1 h1 _ =>          -- first add ok, no second add
    have e := condAddTri_grown g c have0 (p1.1 : Int)
    rwa [h1] at e
  case case5 s _ p0 p1 _ have0 have1 _ _ => exact condAddTri_grown g c have0 (p1.1 : Int)
  case case7 => exact ⟨.flagged (by decide), Or.inr (Or.inl (by simp))⟩
  all_goals exact .refl g c

theorem scanConf_hit (g : Grid α) (conf : Cav → Seg → Bool) (c : Cav)
    (rows : List (Option Seg)) (i : Nat) (st : Bool) (j : Nat) (c' : Cav) (st' : Bool)
    (h : scanConf g conf c rows i st = .hit j c' st') : Listed g c c' ∧ c.triList.length < c'.triList.length := by
  fun_induction scanConf g conf c rows i st with
  | case1 => cases h
  | case2 t i st ih => exact ih h
  | case3 s t i st _ ih => exact ih h
  | case4 s t i st _ _ ih => exact ih h
  | case5 => cases h
  | case6 s t i st _ _ _ _ ih => exact ih h
  | case7 s t i st _ _ c1 he hun hne =>
    have ad := enlargeSeg_grown g c i
    rw [he] at ad
    cases h
    rcases ad.longer with e | e | e
    · exact absurd e hne
    · exact absurd (by simpa using hun) e
    · exact ⟨ad.listed, e⟩
  | case8 => cases h

/-- what the result of a sweep with `k` cavity-changing enlarge calls left says: the lists only grew, and every such
    call listed a new boundary tri -/
def ConfSweepPost (g : Grid α) (c : Cav) (k : Nat) : SweepRes → Prop
  | .done c' _ => Listed g c c' ∧ (c' ≠ c → c.triList.length < c'.triList.length)
  | .exit _ _ => True
  | .fuel c' => Listed g c c' ∧ c.triList.length + k ≤ c'.triList.length

theorem confSweep_post (g : Grid α) (conf : Cav → Seg → Bool) (k : Nat) (c : Cav) (i : Nat) (grew : Bool)
    {r : SweepRes} (h : confSweep g conf k c i grew = r) : ConfSweepPost g c k r := by
  subst h
  fun_induction confSweep g conf k c i grew with
  | case1 c => exact ⟨.refl c, Nat.le_refl _⟩
  | case2 k c => exact ⟨.refl c, fun hne => absurd rfl hne⟩
  | case3 => trivial
  | case4 k c i grew j c1 st1 hsc ih =>
    obtain ⟨hg, hl⟩ := scanConf_hit g conf c _ _ _ _ _ _ hsc
    revert ih
    cases confSweep g conf k c1 (j + 1) true with
    | done c' grew' =>
      refine fun post => ⟨hg.trans post.1, fun _ => ?_⟩
      by_cases e : c' = c1
      · subst e; exact hl
      · exact lt_trans hl (post.2 e)
    | exit s c' => exact fun _ => trivial
    | fuel c' => exact fun post => ⟨hg.trans post.1, by have := post.2; omega⟩

def ConfLoopPost (g : Grid α) (c : Cav) (adds n : Nat) : Res ⊕ Cav → Prop
  | .inr c' => Listed g c c'
  | .inl (.fuel c') => Listed g c c' ∧
      (c.triList.length + n ≤ c'.triList.length ∨ c.triList.length + adds ≤ c'.triList.length)
  | .inl _ => True

theorem confLoop_post (g : Grid α) (conf : Cav → Seg → Bool) (adds n : Nat) (c : Cav)
    {r : Res ⊕ Cav} (h : confLoop g conf adds n c = r) : ConfLoopPost g c adds n r := by
  subst h
  fun_induction confLoop g conf adds n c with
  | case1 c => exact ⟨.refl c, Or.inl (Nat.le_refl _)⟩
  | case2 n c c1 grew hsw _ => exact (confSweep_post g conf adds c 0 false hsw).1
  | case3 => trivial
  | case4 n c c1 grew hsw _ hne ih =>
    obtain ⟨hg, hl⟩ := confSweep_post g conf adds c 0 false hsw
    revert ih
    cases confLoop g conf adds n c1 with
    | inr c' => exact fun post => hg.trans post
    | inl r =>
      cases r with
      | ret s c' => exact fun _ => trivial
      | hang c' => exact fun _ => trivial
      | fuel c' => exact fun post => ⟨hg.trans post.1, by have := post.2; have := hl hne; omega⟩
  | case5 => trivial
  | case6 n c c1 hsw => have sw := confSweep_post g conf adds c 0 false hsw; exact ⟨sw.1, Or.inr sw.2⟩

theorem confLoop_no_fuel (g : Grid α) (conf : Cav → Seg → Bool) (adds n : Nat) (c : Cav) (hinv : CavInv g c)
    (hadds : g.tris.slots.rows.length < adds)
    (hn : g.tris.slots.rows.length < c.triList.length + n) (c' : Cav) :
    confLoop g conf adds n c ≠ .inl (.fuel c') := by
  intro h
  obtain ⟨hg, hl⟩ := confLoop_post g conf adds n c h
  have := (hinv.of_fresh (hg.finv hinv.finv) (hg.sinv hinv.sinv) hg.tets hg.tris).tri_length_le
  omega

/-! Cited by no proof; named (by pattern) by the C01 entry of `MANIFEST.json`. -/

theorem confLoop_done (g : Grid α) (conf : Cav → Seg → Bool) (adds n : Nat) (c c' : Cav) (hinv : CavInv g c)
    (htl : c.tetList ≠ []) (h : confLoop g conf adds n c = .inr c') : Grow g c c' :=
  Listed.grow (confLoop_post g conf adds n c h) hinv.finv hinv.sinv

end Refine.Lemmas.Cavity2
