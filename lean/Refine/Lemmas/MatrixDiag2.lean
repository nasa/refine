import Refine.Lemmas.MatrixReal
import Mathlib.Tactic.FieldSimp

/-!
  `ref_matrix_diag_m2` (closed-form 2x2) over ℝ, and the `ref_math_divisible` guards on `sqrt(a² + b²)` it shares
  with the first rotation of `ref_matrix_diag_m`.
-/
namespace Refine.Model.Matrix
open Refine Refine.ScalarReal

theorem ofDec_half : (Scalar.ofDec 5 (-1) : ℝ) = 1 / 2 := by
  rw [ofDec_eq]; norm_num

/-- a plane rotation `(c, s)` diagonalises `m` exactly when the off-diagonal entry of `Vᵀ m V` vanishes; the
    eigenvalues are then the diagonal entries of `Vᵀ m V` (vectors `(s, -c)`, `(c, s)`) -/
theorem formM2_rot (m : M3 ℝ) (c s : ℝ) (h1 : c * c + s * s = 1)
    (h2 : c * s * (m.m11 - m.m22) = (c * c - s * s) * m.m12) :
    Orthonormal2 ⟨c * c * m.m22 - 2 * (c * s) * m.m12 + s * s * m.m11,
        c * c * m.m11 + 2 * (c * s) * m.m12 + s * s * m.m22, s, -c, c, s⟩ ∧
    formM2 ⟨c * c * m.m22 - 2 * (c * s) * m.m12 + s * s * m.m11,
        c * c * m.m11 + 2 * (c * s) * m.m12 + s * s * m.m22, s, -c, c, s⟩ = m := by
  refine ⟨⟨by linear_combination h1, by linear_combination h1, by ring⟩, ?_⟩
  cases m with
  | mk m11 m12 m22 =>
  simp only [formM2, mul_eq, add_eq] at h2 ⊢
  congr 1
  -- each entry of `formM2 … - m` lies in the ideal of `h1`, `h2`; the multipliers are the quotients of the division
  · linear_combination (m11 * (c * c + s * s + 1)) * h1 - 2 * c * s * h2
  · linear_combination m12 * (c * c + s * s + 1) * h1 + (c * c - s * s) * h2
  · linear_combination (m22 * (c * c + s * s + 1)) * h1 + 2 * c * s * h2

/-- the tail of diag_m2 is exact for every unit (c2, s2), c2 ≤ 0, parallel to ((m11-m22)/2, m12) -/
theorem diagM2Fin_spec (m : M3 ℝ) (c2 s2 : ℝ) (hn : c2 * c2 + s2 * s2 = 1) (hc : c2 ≤ 0)
    (hp : c2 * m.m12 = s2 * ((m.m11 - m.m22) / 2)) :
    Orthonormal2 (diagM2Fin m c2 s2) ∧ formM2 (diagM2Fin m c2 s2) = m := by
  -- half-angle formulas: `(c2, s2) = (cos 2t, sin 2t)`, `s = sin t > 0`, `c = cos t`, so `2cs = s2`, `c² - s² = c2`
  set s := Real.sqrt (1 / 2 * (1 - c2)) with hsdef
  have hpos : 0 < 1 / 2 * (1 - c2) := by linarith
  have hs0 : 0 < s := Real.sqrt_pos.mpr hpos
  have hss : s * s = (1 - c2) / 2 := by
    rw [hsdef, Real.mul_self_sqrt hpos.le]; ring
  set c := 1 / 2 * s2 / s with hcdef
  have hcs : c * s = s2 / 2 := by
    rw [hcdef]; field_simp
  have hcc : c * c = (1 + c2) / 2 := by
    have h1 : c * c * (s * s) = (1 + c2) / 2 * (s * s) := by
      linear_combination (c * s + s2 / 2) * hcs + (1 / 4) * hn - ((1 + c2) / 2) * hss
    exact mul_right_cancel₀ (mul_self_ne_zero.mpr hs0.ne') h1
  have hd : diagM2Fin m c2 s2 = ⟨c * c * m.m22 - 2 * (c * s) * m.m12 + s * s * m.m11,
        c * c * m.m11 + 2 * (c * s) * m.m12 + s * s * m.m22, s, -c, c, s⟩ := by
    simp only [diagM2Fin, ofDec_half, mul_eq, sub_eq, add_eq, div_eq, neg_eq, sqrt_eq, one_eq]
    rw [← hsdef, ← hcdef, hcs]
    congr 1 <;> ring
  rw [hd]
  exact formM2_rot m c s (by linear_combination hss + hcc)
    (by rw [hcs, hcc, hss]; linear_combination -hp)

theorem sqrt_sumsq_pos {a b : ℝ} (h : a ≠ 0 ∨ b ≠ 0) : 0 < Real.sqrt (a * a + b * b) := by
  apply Real.sqrt_pos.mpr
  rcases h with h | h
  · linarith [mul_self_pos.mpr h, mul_self_nonneg b]
  · linarith [mul_self_pos.mpr h, mul_self_nonneg a]

theorem divisible_sqrt_sumsq {a b : ℝ} (h : a ≠ 0 ∨ b ≠ 0) :
    Scalar.divisible a (Real.sqrt (a * a + b * b)) = true ∧
    Scalar.divisible b (Real.sqrt (a * a + b * b)) = true := by
  have hpos := sqrt_sumsq_pos h
  exact ⟨divisible_of_le hpos (Real.abs_le_sqrt (by linarith [mul_self_nonneg b])),
    divisible_of_le hpos (Real.abs_le_sqrt (by linarith [mul_self_nonneg a]))⟩

theorem div_norm_unit {a b l : ℝ} (hl : l ≠ 0) (hll : l * l = a * a + b * b) :
    a / l * (a / l) + b / l * (b / l) = 1 := by
  field_simp; linear_combination -hll

/-- over ℝ `ref_matrix_diag_m2` never fails (the two `RAS(ref_math_divisible(·, l))` guards always pass), and what it
    returns is the closed form for a unit `(c2, s2)`, `c2 ≤ 0`, parallel to `((m11 - m22)/2, m12)` -/
theorem diagM2_eq (m : M3 ℝ) :
    ∃ c2 s2 : ℝ, c2 * c2 + s2 * s2 = 1 ∧ c2 ≤ 0 ∧ c2 * m.m12 = s2 * ((m.m11 - m.m22) / 2) ∧
      diagM2 m = .ok (diagM2Fin m c2 s2) := by
  unfold diagM2
  simp only [isFinite_eq, Bool.and_self, Bool.not_true, Bool.false_eq_true, if_false, ofDec_half]
  set c2 : ℝ := Scalar.mul (1 / 2) (Scalar.sub m.m11 m.m22) with hc2
  have hc2' : c2 = (m.m11 - m.m22) / 2 := by rw [hc2, mul_eq, sub_eq]; ring
  set norm : ℝ := Scalar.cmax (Scalar.cabs c2) (Scalar.cabs m.m12) with hnorm
  have hnorm' : norm = max |c2| |m.m12| := by rw [hnorm, cmax_eq, cabs_eq, cabs_eq]
  by_cases hdiv : (Scalar.divisible c2 norm && Scalar.divisible m.m12 norm) = true
  · rw [if_pos hdiv]
    have hn0 : norm ≠ 0 := divisible_ne_zero (Bool.and_eq_true_iff.mp hdiv).1
    simp only [div_eq, mul_eq, add_eq, sqrt_eq]
    set a := c2 / norm with ha
    set b := m.m12 / norm with hb
    have hab : a ≠ 0 ∨ b ≠ 0 := by
      by_contra hcon
      rw [not_or, not_not, not_not, ha, hb, div_eq_zero_iff, div_eq_zero_iff] at hcon
      apply hn0
      rw [hnorm', hcon.1.resolve_right hn0, hcon.2.resolve_right hn0, abs_zero, max_self]
    obtain ⟨g1, g2⟩ := divisible_sqrt_sumsq hab
    simp only [g1, g2, Bool.not_true, Bool.false_eq_true, if_false]
    have hl0 : Real.sqrt (a * a + b * b) ≠ 0 := divisible_ne_zero g1
    have hll : Real.sqrt (a * a + b * b) * Real.sqrt (a * a + b * b) = a * a + b * b :=
      Real.mul_self_sqrt (add_nonneg (mul_self_nonneg a) (mul_self_nonneg b))
    generalize Real.sqrt (a * a + b * b) = l at hl0 hll ⊢
    have hunit : a / l * (a / l) + b / l * (b / l) = 1 := div_norm_unit hl0 hll
    have hpar : a / l * m.m12 = b / l * ((m.m11 - m.m22) / 2) := by
      rw [ha, hb, ← hc2']; field_simp
    by_cases hpos : Scalar.bgt (a / l) Scalar.zero = true
    · rw [if_pos hpos]
      unfold Scalar.bgt at hpos
      rw [lt_iff, zero_eq] at hpos
      exact ⟨-(a / l), -(b / l), by linear_combination hunit, by linarith, by linear_combination -hpar, rfl⟩
    · rw [if_neg hpos]
      unfold Scalar.bgt at hpos
      rw [Bool.not_eq_true, lt_false_iff, zero_eq] at hpos
      exact ⟨a / l, b / l, hunit, hpos, hpar, rfl⟩
  · rw [if_neg hdiv]
    -- `|c2|, |m12| ≤ norm`, so the guard fails only for `norm = 0`; `m12 = 0` is all the diagonal exit needs
    have hm12 : m.m12 = 0 := by
      by_contra hne
      apply hdiv
      have hpos : 0 < norm := by
        rw [hnorm']; exact lt_of_lt_of_le (abs_pos.mpr hne) (le_max_right _ _)
      rw [Bool.and_eq_true_iff]
      exact ⟨divisible_of_le hpos (by rw [hnorm']; exact le_max_left _ _),
             divisible_of_le hpos (by rw [hnorm']; exact le_max_right _ _)⟩
    refine ⟨Scalar.ofInt (-1), Scalar.zero, ?_, ?_, ?_, rfl⟩
    · rw [ofInt_eq, zero_eq]; norm_num
    · rw [ofInt_eq]; norm_num
    · rw [hm12, zero_eq]; ring

end Refine.Model.Matrix
