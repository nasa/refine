import Refine.Lemmas.SmoothInterp

/-!
  Split insertion (`ref_interp_locate_between`, `ref_metric_interpolate_between`) against the donor relation; the
  improver rule for a vertex that enters located on this rank (`improve_local_rule`, `StableAt`); and the vocabulary
  of histories — a grid state, what a step writes to it, which vertices are tracked (`GridWeak`, `GridFresh`,
  `stepOp_improve`, `stepOp_between`, `OpOk`, `opDom`).  The history theorems themselves are in `Props/C05Smooth.lean`.
-/
namespace Refine.Lemmas.SmoothInterp
open Refine.Model.SmoothInterp

variable {P B M : Type}

/-- a walk of `ref_interp_locate_between` that ends enclosing started on this rank, so its donor is local -/
theorem betweenWalk_some {bg : Bg P B M} {D : P → Int → B → Prop} (hs : Sound bg D) (fr : Option (Int × Int)) (x : P)
    (c p : Int) (b : B) (h : betweenWalk bg fr x = .ok (some (c, p, b))) : p = bg.rank ∧ D x c b := by
  revert h
  fun_cases betweenWalk bg fr x with
  | case1 => nofun
  | case2 => nofun
  | case3 => nofun
  | case4 cell part he c' p' b' hw =>
    rintro ⟨⟩
    exact ⟨(hs.walk_part _ _ _ _ _ _ hw).trans he.2.symm, hs.walk_donor _ _ _ _ _ _ hw⟩
  | case5 => nofun

theorem betweenWalks_some {bg : Bg P B M} {D : P → Int → B → Prop} (hs : Sound bg D) (n0 n1 : Option (Int × Int)) (x : P)
    (c p : Int) (b : B) (h : betweenWalks bg n0 n1 x = .ok (some (c, p, b))) : p = bg.rank ∧ D x c b := by
  revert h
  fun_cases betweenWalks bg n0 n1 x with
  | case1 => nofun
  | case2 r h0 => rintro ⟨⟩; exact betweenWalk_some hs n0 x c p b h0
  | case3 h0 => exact betweenWalk_some hs n1 x c p b

def LocatedPost (bg : Bg P B M) (D : P → Int → B → Prop) (s : NodeSt P B M) (r : Status × NodeSt P B M) : Prop :=
  r.2.xyz = s.xyz ∧ r.2.met = s.met ∧
  (r.1 = .ok → r.2.cell ≠ EMPTY → r.2.part = bg.rank ∧ D s.xyz r.2.cell r.2.bary)

theorem betweenFinish_none_spec {bg : Bg P B M} {D : P → Int → B → Prop} (hs : Sound bg D) (s : NodeSt P B M)
    (h : s.cell ≠ EMPTY → s.part = bg.rank ∧ D s.xyz s.cell s.bary) :
    LocatedPost bg D s (betweenFinish bg s none) := by
  unfold LocatedPost betweenFinish
  simp only
  by_cases hg : (!bg.para) = true ∧ s.cell = EMPTY
  · rw [if_pos hg]
    cases hq : bg.seq s.xyz with
    | abort => simp
    | none => simp [hg.2]
    | found c b =>
      have hc : c ≠ EMPTY := hs.seq_nonempty _ _ _ hq
      simp only [ne_eq, hc, not_false_eq_true, if_true, true_and]
      exact fun _ _ => hs.seq_donor _ _ _ hq
  · rw [if_neg hg]
    exact ⟨rfl, rfl, fun _ hc => h hc⟩

/-- `ref_interp_locate_between`: position and metric untouched; a vertex that comes out
    located is located on this rank at a donor of its position — on the walk path AND on the sequential fall-back
    (the statement that needs the repair of /repo 7d5a551: `part[new_node] = rank`) -/
theorem locateBetween_spec {bg : Bg P B M} {D : P → Int → B → Prop} (hs : Sound bg D) (n0 n1 : Option (Int × Int))
    (s : NodeSt P B M) :
    LocatedPost bg D s (locateBetween bg n0 n1 s) := by
  unfold locateBetween
  simp only
  cases h0 : betweenWalks bg n0 n1 s.xyz with
  | error e => simp [LocatedPost]
  | ok w =>
    -- an enclosing walk's result is stored first; what follows is the same from either record
    cases w with
    | none => exact betweenFinish_none_spec hs { s with cell := EMPTY } fun hc => absurd rfl hc
    | some r =>
      exact betweenFinish_none_spec hs { s with cell := r.1, part := r.2.1, bary := r.2.2 }
        fun _ => betweenWalks_some hs n0 n1 s.xyz r.1 r.2.1 r.2.2 h0

theorem betweenFinish_none_total {bg : Bg P B M} {D : P → Int → B → Prop} (ht : Total bg D) (s : NodeSt P B M)
    (hd : ∃ c b, D s.xyz c b) : (betweenFinish bg s none).2.cell ≠ EMPTY := by
  obtain ⟨c0, b0, hd⟩ := hd
  obtain ⟨c', b', hq, hc'⟩ := ht.seq_complete _ _ _ hd
  unfold betweenFinish
  by_cases hc : s.cell = EMPTY
  · simp [ht.serial, hc, hq, hc']
  · simp [hc]

/-- serial, complete fall-back: an inserted vertex whose position has a donor at all comes out located -/
theorem locateBetween_total {bg : Bg P B M} {D : P → Int → B → Prop} (ht : Total bg D)
    (n0 n1 : Option (Int × Int)) (s : NodeSt P B M) (hd : ∃ c b, D s.xyz c b)
    (hok : (locateBetween bg n0 n1 s).1 = .ok) : (locateBetween bg n0 n1 s).2.cell ≠ EMPTY := by
  unfold locateBetween at hok ⊢
  simp only at hok ⊢
  cases h0 : betweenWalks bg n0 n1 s.xyz with
  | error e => rw [h0] at hok; simp at hok
  | ok w =>
    cases w with
    | none => exact betweenFinish_none_total ht { s with cell := EMPTY } hd
    | some r => exact betweenFinish_none_total ht { s with cell := r.1, part := r.2.1, bary := r.2.2 } hd

theorem between_frame (cfg : Cfg) {bg : Bg P B M} {D : P → Int → B → Prop} (hs : Sound bg D)
    (n0 n1 : Option (Int × Int)) (s : NodeSt P B M) :
    (metricInterpolateBetween cfg bg n0 n1 s).2.xyz = s.xyz := by
  have h := (locateBetween_spec hs n0 n1 s).1
  fun_cases metricInterpolateBetween cfg bg n0 n1 s with
  | case1 | case2 => rfl
  | case3 _ _ _ hr | case4 _ _ _ hr | case5 _ _ _ hr => rw [hr] at h; exact h
  | case6 => exact h

/-- an inserted vertex that is located on this rank has a fresh record; an unlocated one keeps the edge-interpolated
    metric it arrived with -/
theorem between_spec {cfg : Cfg} (hl : Live cfg) {bg : Bg P B M} {D : P → Int → B → Prop} (hs : Sound bg D)
    (n0 n1 : Option (Int × Int)) (s : NodeSt P B M) (hok : (metricInterpolateBetween cfg bg n0 n1 s).1 = .ok) :
    Fresh bg D (metricInterpolateBetween cfg bg n0 n1 s).2 ∨
    ((metricInterpolateBetween cfg bg n0 n1 s).2.cell = EMPTY ∧ (metricInterpolateBetween cfg bg n0 n1 s).2.met = s.met ∧
      (locateBetween bg n0 n1 s).1 = .ok ∧ (locateBetween bg n0 n1 s).2.cell = EMPTY) := by
  have h := locateBetween_spec hs n0 n1 s
  revert hok
  fun_cases metricInterpolateBetween cfg bg n0 n1 s with
  | case1 hI => simp [hl.1] at hI
  | case2 _ hC => simp [hl.2] at hC
  | case3 _ _ s1 hr hcond =>
    rw [hr] at h ⊢
    intro _
    -- located elsewhere is excluded by the specification of the location: the skip is for an unlocated vertex
    have hc : s1.cell = EMPTY := Decidable.by_contra fun hc => hcond.elim hc fun hp => hp (h.2.2 rfl hc).1.symm
    exact .inr ⟨hc, h.2.1, rfl, hc⟩
  | case4 => nofun
  | case5 _ _ s1 hr hcond m hi =>
    rw [hr] at h ⊢
    intro _
    have hc : s1.cell ≠ EMPTY := fun hc => hcond (.inl hc)
    obtain ⟨hp, hd⟩ := h.2.2 rfl hc
    exact .inl ⟨hc, hp, h.1 ▸ hd, hi⟩
  | case6 _ _ hx =>
    intro hok
    exact (hx _ (Prod.ext hok rfl)).elim

/-- every vertex that is located on this rank has a fresh record -/
def GridWeak (bg : Bg P B M) (D : P → Int → B → Prop) (G : GridSt P B M) : Prop := ∀ n, MetricAtPosition bg D (G n)

/-- every vertex of `A` is located on this rank with a fresh record -/
def GridFresh (bg : Bg P B M) (D : P → Int → B → Prop) (A : Nat → Prop) (G : GridSt P B M) : Prop :=
  ∀ n, A n → Fresh bg D (G n)

theorem GridSt.set_same (G : GridSt P B M) (n : Nat) (s : NodeSt P B M) : (G.set n s) n = s := by
  unfold GridSt.set; simp

theorem GridSt.set_other (G : GridSt P B M) (n i : Nat) (s : NodeSt P B M) (h : i ≠ n) : (G.set n s) i = G i := by
  unfold GridSt.set; simp [h]

theorem GridSt.set_all {Q : NodeSt P B M → Prop} {A : Nat → Prop} {G : GridSt P B M} {k : Nat} {s : NodeSt P B M}
    (hG : ∀ n, A n → n ≠ k → Q (G n)) (hs : A k → Q s) : ∀ n, A n → Q ((G.set k s) n) := by
  intro n hn
  by_cases h : n = k
  · subst h; rw [GridSt.set_same]; exact hs hn
  · rw [GridSt.set_other _ _ _ _ h]; exact hG n hn h

theorem stepOp_improve {cfg : Cfg} {bg : Bg P B M} {G G' : GridSt P B M} {kind : Kind} {node : Nat}
    {g : GridSt P B M → Guards P B M} {tries : Nat} {trial : GridSt P B M → Nat → P}
    (h : stepOp cfg bg G (.improve kind node g tries trial) = some G') :
    (improve kind cfg bg (g G) tries (trial G) (G node)).outcome ≠ .aborted ∧
    G' = G.set node (improve kind cfg bg (g G) tries (trial G) (G node)).st := by
  unfold stepOp at h
  simp only at h
  cases ho : (improve kind cfg bg (g G) tries (trial G) (G node)).outcome with
  | aborted => rw [ho] at h; cases h
  | accepted j => rw [ho] at h; exact ⟨(fun e => nomatch e), (Option.some.inj h).symm⟩
  | rolledBack => rw [ho] at h; exact ⟨(fun e => nomatch e), (Option.some.inj h).symm⟩

theorem stepOp_between {cfg : Cfg} {bg : Bg P B M} {G G' : GridSt P B M} {n0 n1 : Option Nat} {new : Nat} {xyz : P}
    {met : M} (h : stepOp cfg bg G (.between n0 n1 new xyz met) = some G') :
    ∃ s, metricInterpolateBetween cfg bg (endOf G n0) (endOf G n1) { (G new) with xyz := xyz, met := met } = (.ok, s) ∧
      G' = G.set new s := by
  unfold stepOp at h
  simp only at h
  rcases hr : metricInterpolateBetween cfg bg (endOf G n0) (endOf G n1) { (G new) with xyz := xyz, met := met }
    with ⟨st, s1⟩
  rw [hr] at h
  cases st with
  | notFound => cases h
  | failure => cases h
  | ok => exact ⟨s1, rfl, (Option.some.inj h).symm⟩

/-- Improver rule for a vertex that enters located on this rank.  Every accepted try leaves a fresh record at the
    trial position; what holds after the roll-back is whatever one interpolation at the original position from a
    located guess establishes (`Rb`). -/
theorem improve_local_rule {cfg : Cfg} (hl : Live cfg) {bg : Bg P B M} {D : P → Int → B → Prop} (hs : Sound bg D)
    (kind : Kind) (g : Guards P B M) (tries : Nat) (trial : Nat → P) (s0 : NodeSt P B M) (h0 : Local bg s0)
    (Rb : NodeSt P B M → Prop)
    (hrb : ∀ s, Local bg s → (metricInterpolateNode cfg bg { s with xyz := s0.xyz }).1 ≠ .failure →
      Rb (metricInterpolateNode cfg bg { s with xyz := s0.xyz }).2) :
    LoopPost g trial (fun x s => Fresh bg D s ∧ s.xyz = x) Rb tries (improve kind cfg bg g tries trial s0) := by
  have hguess : interpGuess cfg s0 = s0.cell := by unfold interpGuess; simp [hl.1, hl.2]
  have hg : interpGuess cfg s0 ≠ EMPTY := by rw [hguess]; exact h0.1
  exact loop_rule kind.reinterp cfg bg g trial s0.xyz (interpGuess cfg s0) (Local bg)
    (fun x s => Fresh bg D s ∧ s.xyz = x) Rb
    (by
      intro s x hinv hnf
      have hloc := interpolate_local hl hs { s with xyz := x } hinv
      rcases hr : metricInterpolateNode cfg bg { s with xyz := x } with ⟨st, s2⟩
      rw [hr] at hloc hnf
      unfold LocalPost at hloc
      simp only at hloc hnf ⊢
      rcases hloc with ⟨hst, hf⟩ | ⟨hst, he⟩ | hst
      · subst hst
        rw [restoreGuess_ok]
        exact ⟨⟨hf.1.1, hf.1.2.1⟩, fun _ => hf⟩
      · subst hst
        refine ⟨?_, fun h => by cases h⟩
        unfold restoreGuess
        simp only [ne_eq, hg, not_false_eq_true, reduceCtorEq, and_self, if_true]
        rw [he.1]
        exact ⟨hg, hinv.2⟩
      · exact absurd hst hnf)
    hrb tries 0 s0 [] h0

/-- the original position is re-located to exactly the original donor record from every located guess -/
def StableAt (bg : Bg P B M) (s0 : NodeSt P B M) : Prop :=
  ∀ s, Local bg s → locateNode bg { s with xyz := s0.xyz } =
    (.ok, { s with xyz := s0.xyz, cell := s0.cell, part := s0.part, bary := s0.bary })

theorem interpolate_stable {cfg : Cfg} (hl : Live cfg) {bg : Bg P B M} {D : P → Int → B → Prop} (s0 : NodeSt P B M)
    (h0 : Fresh bg D s0) (hst : StableAt bg s0) (s : NodeSt P B M) (hloc : Local bg s) :
    metricInterpolateNode cfg bg { s with xyz := s0.xyz } = (.ok, s0) := by
  unfold metricInterpolateNode
  simp only [hl.1, hl.2, Bool.not_true, Bool.false_eq_true, if_false]
  rw [hst s hloc]
  have hn : ¬ (s0.cell = EMPTY ∨ bg.rank ≠ s0.part) := by
    rintro (h1 | h1)
    · exact h0.1 h1
    · exact h1 h0.2.1.symm
  simp only [hn, if_false, h0.2.2.2]

/-- what a step needs for the strong invariant: the position of an inserted vertex has a donor -/
def OpOk (D : P → Int → B → Prop) : Op P B M → Prop
  | .improve .. => True
  | .between _ _ _ xyz _ => ∃ c b, D xyz c b

/-- the vertices known to be fresh after a step: an insertion adds its vertex -/
def opDom (A : Nat → Prop) : Op P B M → Nat → Prop
  | .improve .., n => A n
  | .between _ _ new _ _, n => A n ∨ n = new

def opsDom (A : Nat → Prop) : List (Op P B M) → Nat → Prop
  | [] => A
  | op :: rest => opsDom (opDom A op) rest


end Refine.Lemmas.SmoothInterp
