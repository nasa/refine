import Refine.Lemmas.Gradation
import Refine.Lemmas.ExceptLoop
import Refine.Props.C10
import Refine.Model.MetricPipe

/-!
  The relaxation loop of `ref_metric_buffer_at_complexity` as a counted loop, what one relaxation is, SPD of the
  buffer cap, and the facts about `ref_args_find` used by the option theorems.  First the shape "the last
  operation is the exact rescale" that every modelled driver has (`EndsWithRescale`; its two consequences are the
  stage theorems of `Props/C10`, hence the import).
-/
namespace Refine.Lemmas.MetricPipe
open Refine Refine.Scalar Refine.ScalarReal Refine.Model.Matrix Refine.Model.Metric Refine.Model.Gradation
open Refine.Model.MetricPipe
open Refine.Model.Recon (Cell)
open Refine.Model.Geom (V3)

/-- the field `out` is what `ref_metric_set_complexity`'s block returns on some field `g` that is embedded on a
    2-D grid: the shape every modelled driver ends with -/
def EndsWithRescale (twod : Bool) (owned : Nat → Bool) (xyz : List (V3 ℝ)) (cells : List Cell) (target : ℝ)
    (out : List (M6 ℝ)) : Prop :=
  ∃ g, setComplexity twod owned xyz g cells target = .ok out ∧ (twod = true → ∀ m ∈ g, IsEmbedded m)

theorem EndsWithRescale.embedded {owned : Nat → Bool} {xyz : List (V3 ℝ)} {cells : List Cell} {target : ℝ}
    {out : List (M6 ℝ)} (h : EndsWithRescale true owned xyz cells target out) : ∀ m ∈ out, IsEmbedded m := by
  obtain ⟨g, hs, _⟩ := h
  exact Props.C10.setComplexity_true_embedded hs

theorem EndsWithRescale.complexity {twod : Bool} {owned : Nat → Bool} {xyz : List (V3 ℝ)} {cells : List Cell} {target : ℝ}
    {out : List (M6 ℝ)} (h : EndsWithRescale twod owned xyz cells target out) (ht : 0 < target)
    (hc : ∀ g, setComplexity twod owned xyz g cells target = .ok out → 0 < complexity owned xyz g cells)
    (hdim : twod = !(haveVolCells owned cells)) : complexity owned xyz out cells = target := by
  obtain ⟨g, hs, he⟩ := h
  exact Props.C10.setComplexity_exact twod owned xyz g out cells target hs (hc g hs) ht hdim he

theorem bufLoop_isLoop (twod : Bool) (owned : Nat → Bool) (xyz : List (V3 ℝ)) (cells : List Cell) (target : ℝ) :
    Refine.Lemmas.IsLoop (bufLoop twod owned xyz cells target) (bufRelax twod owned xyz cells target) where
  zero := fun _ => rfl
  succ := fun n s => by rw [bufLoop]; cases bufRelax twod owned xyz cells target s <;> rfl

theorem bufRelax_split {twod : Bool} {owned : Nat → Bool} {xyz : List (V3 ℝ)} {cells : List Cell} {target : ℝ}
    {metric out : List (M6 ℝ)} (h : bufRelax twod owned xyz cells target metric = .ok out) :
    ∃ buffered, buffer xyz metric = .ok buffered ∧
      setComplexity twod owned xyz (reEmbed twod buffered) cells target = .ok out := by
  revert h
  fun_cases bufRelax twod owned xyz cells target metric with
  | case1 => nofun
  | case2 b hb => exact fun h => ⟨b, hb, h⟩

/-- positive eigenvalues returned by every successful decomposition of the field's tensors (what an exact
    decomposition of an SPD tensor gives; the frame's orthonormality is proved, the exactness is not) -/
def EigPos (metric : List (M6 ℝ)) : Prop :=
  ∀ m ∈ metric, ∀ d, diagM m = .ok d → 0 < d.l0 ∧ 0 < d.l1 ∧ 0 < d.l2

theorem bufferNode_spd {rmax xmax : ℝ} {p : V3 ℝ} {m out : M6 ℝ}
    (hpos : ∀ d, diagM m = .ok d → 0 < d.l0 ∧ 0 < d.l1 ∧ 0 < d.l2)
    (h : bufferNode rmax xmax p m = .ok out) : SPD out := by
  revert h
  fun_cases bufferNode rmax xmax p m with
  | case1 => nofun
  | case2 d hd hmin hsq hg eig =>
    rintro ⟨⟩
    obtain ⟨p0, p1, p2⟩ := hpos d hd
    have h2 : 0 < bufferHmin rmax xmax p * bufferHmin rmax xmax p :=
      lt_of_le_of_ne (mul_self_nonneg _) (Ne.symm (divisible_ne_zero hg))
    have he : (0 : ℝ) < 1 / (bufferHmin rmax xmax p * bufferHmin rmax xmax p) := by positivity
    refine formM_mapEig_spd hd _ ?_
    simp only [eig, cmin_eq, one_eq, div_eq]
    exact ⟨lt_min p0 he, lt_min p1 he, lt_min p2 he⟩
  | case3 d hd hmin hsq hg =>
    rintro ⟨⟩
    exact formM_spd (diagM_orthonormal' m d hd) (hpos d hd)

theorem bufferGo_spd (rmax xmax : ℝ) (ps : List (V3 ℝ)) (ms out : List (M6 ℝ)) (hpos : EigPos ms)
    (h : bufferGo rmax xmax ps ms = .ok out) : ∀ m ∈ out, SPD m := by
  fun_induction bufferGo rmax xmax ps ms generalizing out with
  | case1 p ps m ms e he => cases h
  | case2 p ps m ms x hx e he ih => cases h
  | case3 p ps m ms x hx xs hxs ih =>
    cases h
    exact List.forall_mem_cons.mpr ⟨bufferNode_spd (hpos m (List.mem_cons_self ..)) hx,
      ih xs (fun m hm => hpos m (List.mem_cons_of_mem _ hm)) hxs⟩
  | case4 => cases h; exact fun m hm => nomatch hm

theorem buffer_spd (xyz : List (V3 ℝ)) (metric out : List (M6 ℝ)) (hpos : EigPos metric)
    (h : buffer xyz metric = .ok out) : ∀ m ∈ out, SPD m :=
  bufferGo_spd _ _ _ _ _ hpos h

theorem argsFind_go_none (args : List String) (t : String) (i : Nat) :
    argsFind.go t args i = none ↔ t ∉ args := by
  fun_induction argsFind.go t args i with
  | case1 => simp
  | case2 a rest i h =>
    exact iff_of_false nofun fun hn => hn (by rw [beq_iff_eq.mp h]; exact List.mem_cons_self)
  | case3 a rest i h ih =>
    rw [ih, List.mem_cons, not_or]
    exact ⟨fun hr => ⟨fun e => h (beq_iff_eq.mpr e.symm), hr⟩, fun hr => hr.2⟩

theorem argsFind_none_iff (args : List String) (t : String) : argsFind args t = none ↔ t ∉ args := by
  unfold argsFind
  exact argsFind_go_none args t 0

end Refine.Lemmas.MetricPipe
