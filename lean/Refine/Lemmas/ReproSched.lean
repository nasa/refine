import Refine.Model.ReproSched
import Refine.Lemmas.CommA2A
import Mathlib.Data.List.Perm.Basic

/-!
  Why a tagged point-to-point exchange does not depend on the schedule.  MPI matching (`matchRecvs`) sees only the
  per-(source, tag) subsequences of the mailbox; permutations of messages with pairwise distinct (source, dest, tag) have
  the same such subsequences (no ordering assumption on the network at all); deposits into pairwise disjoint in-bounds
  regions commute (`complete_perm`).  Hence `p2pSched_congr`, on the rank loop `Lemmas.Comm.p2pWith` that `p2pSched` and
  `p2pExchange` share.  The predicates of the `Props/C18Mech` statements (`hasKey`, `FifoEq`, `key3`, `InBounds`,
  `Disjoint`, `RecvsOk`; `canonOrder` in `ReproSchedSpec`) are defined here, in the model's namespace
  `Refine.Model.ReproSched`, and so are all lemmas of the three `ReproSched*` files.
-/
namespace Refine.Model.ReproSched
open Refine.Model.Comm Refine.Lemmas.Comm

variable {α : Type}

def hasKey (s t : Int) (m : Env α) : Bool := m.src == s && m.tag == t

theorem hasKey_ne {s t s' t' : Int} {m : Env α} (hm : hasKey s t m = true) (hne : (s', t') ≠ (s, t)) :
    hasKey s' t' m = false := by
  simp only [hasKey, Bool.and_eq_true, beq_iff_eq] at hm
  rw [Bool.eq_false_iff]
  intro h
  simp only [hasKey, Bool.and_eq_true, beq_iff_eq] at h
  apply hne
  rw [← hm.1, ← hm.2, h.1, h.2]

theorem takeFirst_none_iff (s t : Int) (mb : List (Env α)) :
    takeFirst s t mb = none ↔ mb.filter (hasKey s t) = [] := by
  fun_induction takeFirst s t mb
  case case1 => simp
  case case2 m ms h => simp [show hasKey s t m = true from h]
  case case3 m ms h ih =>
    have hk : hasKey s t m = false := by simpa [hasKey] using h
    simp only [Option.map_eq_none_iff, List.filter_cons, hk, Bool.false_eq_true, if_false, ih]

theorem takeFirst_some (s t : Int) (mb : List (Env α)) {m : Env α} {mb' : List (Env α)}
    (h : takeFirst s t mb = some (m, mb')) :
    mb.filter (hasKey s t) = m :: mb'.filter (hasKey s t) ∧
    ∀ s' t', (s', t') ≠ (s, t) → mb'.filter (hasKey s' t') = mb.filter (hasKey s' t') := by
  fun_induction takeFirst s t mb generalizing m mb'
  case case1 => cases h
  case case2 x xs hx =>
    have hk : hasKey s t x = true := hx
    obtain ⟨rfl, rfl⟩ := Prod.mk.inj (Option.some.inj h)
    exact ⟨by simp [hk], fun s' t' hne => by simp [hasKey_ne hk hne]⟩
  case case3 x xs hx ih =>
    have hk : hasKey s t x = false := by simpa [hasKey] using hx
    obtain ⟨⟨m0, rest⟩, hr, he⟩ := Option.map_eq_some_iff.mp h
    obtain ⟨rfl, rfl⟩ := Prod.mk.inj he
    obtain ⟨h1, h2⟩ := ih hr
    exact ⟨by simp [hk, h1], fun s' t' hne => by simp only [List.filter_cons]; rw [h2 s' t' hne]⟩

theorem matchRecvs_congr : ∀ (rqs : List Rcv) (mb1 mb2 : List (Env α)),
    (∀ s t, mb1.filter (hasKey s t) = mb2.filter (hasKey s t)) → matchRecvs mb1 rqs = matchRecvs mb2 rqs
  | [], _, _, _ => rfl
  | rq :: rqs, mb1, mb2, h => by
    unfold matchRecvs
    cases h1 : takeFirst rq.source rq.tag mb1 with
    | none =>
      have e1 := (takeFirst_none_iff _ _ mb1).1 h1
      rw [h] at e1
      rw [(takeFirst_none_iff _ _ mb2).2 e1]
    | some r1 =>
      obtain ⟨m1, mb1'⟩ := r1
      obtain ⟨a1, b1⟩ := takeFirst_some _ _ mb1 h1
      cases h2 : takeFirst rq.source rq.tag mb2 with
      | none =>
        have e2 := (takeFirst_none_iff _ _ mb2).1 h2
        rw [← h, a1] at e2
        exact absurd e2 (by simp)
      | some r2 =>
        obtain ⟨m2, mb2'⟩ := r2
        obtain ⟨a2, b2⟩ := takeFirst_some _ _ mb2 h2
        have hcons : m1 :: mb1'.filter (hasKey rq.source rq.tag) = m2 :: mb2'.filter (hasKey rq.source rq.tag) := by
          rw [← a1, ← a2]; exact h _ _
        have hm : m1 = m2 := (List.cons.inj hcons).1
        have ht := (List.cons.inj hcons).2
        have hall : ∀ s t, mb1'.filter (hasKey s t) = mb2'.filter (hasKey s t) := by
          intro s t
          by_cases hk : (s, t) = (rq.source, rq.tag)
          · have hs : s = rq.source := (Prod.mk.inj hk).1
            have htt : t = rq.tag := (Prod.mk.inj hk).2
            subst hs; subst htt; exact ht
          · rw [b1 s t hk, b2 s t hk]; exact h s t
        simp only []
        rw [hm, matchRecvs_congr rqs mb1' mb2' hall]

/-- two arrival orders deliver, for every (source, dest, tag), the same messages in the same order
    (MPI's non-overtaking guarantee is exactly that this holds between any two runs) -/
def FifoEq (a1 a2 : List (Env α)) : Prop :=
  ∀ d s t : Int, (mailbox a1 d).filter (hasKey s t) = (mailbox a2 d).filter (hasKey s t)

def key3 (m : Env α) : Int × Int × Int := (m.src, m.dest, m.tag)

theorem fifoEq_of_perm_nodup {a1 a2 : List (Env α)} (hp : a1.Perm a2) (hn : (a2.map key3).Nodup) : FifoEq a1 a2 := by
  intro d s t
  -- both sides are duplicate free in `key3`, and every entry has the key `(s, d, t)`
  have hpw : ∀ a : List (Env α), (a.map key3).Nodup →
      ((mailbox a d).filter (hasKey s t)).Pairwise fun x y => key3 x ≠ key3 y := fun a h =>
    (List.pairwise_map.mp h).sublist (List.filter_sublist.trans List.filter_sublist)
  have hkey : ∀ a : List (Env α), ∀ x ∈ (mailbox a d).filter (hasKey s t), key3 x = (s, d, t) := fun a x hx => by
    simp only [mailbox, hasKey, List.mem_filter, Bool.and_eq_true, beq_iff_eq] at hx
    simp only [key3, hx.1.2, hx.2.1, hx.2.2]
  exact List.Perm.eq_of_pairwise (fun x y hx hy h _ => absurd ((hkey a1 x hx).trans (hkey a2 y hy).symm) h)
    (hpw a1 ((hp.map key3).nodup_iff.mpr hn)) (hpw a2 hn) ((hp.filter _).filter _)

def InBounds (N : Nat) (pr : Rcv × Env α) : Prop := 0 ≤ pr.1.off ∧ pr.1.off.toNat + pr.2.data.length ≤ N

def Disjoint (p q : Rcv × Env α) : Prop :=
  p.1.off.toNat + p.2.data.length ≤ q.1.off.toNat ∨ q.1.off.toNat + q.2.data.length ≤ p.1.off.toNat

def depOf (pr : Rcv × Env α) : Nat × List α := (pr.1.off.toNat, pr.2.data)

/-- completing the matched receives in the order `order` is a `deposit` of the pairs selected, in that order -/
theorem complete_eq_deposit (pairs : List (Rcv × Env α)) (order : List Nat) (buf : List α) :
    complete pairs order buf = deposit buf (order.filterMap fun i => pairs[i]?.map depOf) := by
  unfold complete deposit
  induction order generalizing buf with
  | nil => rfl
  | cons i is ih =>
    rw [List.foldl_cons, List.filterMap_cons]
    cases pairs[i]? with
    | none => exact ih _
    | some pr => exact ih _

theorem complete_perm {N : Nat} (pairs : List (Rcv × Env α)) (hin : ∀ pr ∈ pairs, InBounds N pr)
    (hdis : ∀ (i j : Nat) (p q : Rcv × Env α), i ≠ j → pairs[i]? = some p → pairs[j]? = some q → Disjoint p q)
    {o1 o2 : List Nat} (hp : o1.Perm o2) :
    ∀ (buf : List α), buf.length = N → complete pairs o1 buf = complete pairs o2 buf := by
  intro buf hb
  rw [complete_eq_deposit, complete_eq_deposit]
  refine deposit_perm (hp.filterMap _) ?_ ?_ buf hb
  · intro d hd
    obtain ⟨i, _, hi⟩ := List.mem_filterMap.mp hd
    obtain ⟨pr, hpr, rfl⟩ := Option.map_eq_some_iff.mp hi
    exact (hin pr (List.mem_of_getElem? hpr)).2
  · -- the same index twice is the same deposit; two indices are disjoint
    intro d hd e he
    obtain ⟨i, _, hi⟩ := List.mem_filterMap.mp hd
    obtain ⟨j, _, hj⟩ := List.mem_filterMap.mp he
    obtain ⟨p, hpi, rfl⟩ := Option.map_eq_some_iff.mp hi
    obtain ⟨q, hqj, rfl⟩ := Option.map_eq_some_iff.mp hj
    by_cases hij : i = j
    · subst hij
      rw [hpi] at hqj
      exact Or.inl (congrArg depOf (Option.some.inj hqj))
    · exact Or.inr (hdis i j p q hij hpi hqj)

theorem matchRecvs_fst (rqs : List Rcv) (mb : List (Env α)) {pairs : List (Rcv × Env α)}
    (h : matchRecvs mb rqs = some pairs) :
    pairs.map (·.1) = rqs ∧ ∀ pr ∈ pairs, (pr.2.data.length : Int) ≤ pr.1.cnt := by
  fun_induction matchRecvs mb rqs generalizing pairs
  case case1 => cases h; simp
  case case2 => cases h
  case case3 mb rq rqs m mb' _ hc ih =>
    obtain ⟨l, hl, rfl⟩ := Option.map_eq_some_iff.mp h
    obtain ⟨ih1, ih2⟩ := ih hl
    refine ⟨by simp [ih1], fun pr hpr => ?_⟩
    rcases List.mem_cons.mp hpr with rfl | hpr
    · exact hc
    · exact ih2 pr hpr
  case case4 => cases h

def RecvsOk (N : Nat) (rqs : List Rcv) : Prop :=
  (∀ rq ∈ rqs, 0 ≤ rq.off ∧ 0 ≤ rq.cnt ∧ rq.off + rq.cnt ≤ (N : Int)) ∧
  rqs.Pairwise fun a b => a.off + a.cnt ≤ b.off ∨ b.off + b.cnt ≤ a.off

theorem pairs_ok_of_recvsOk {N : Nat} {rqs : List Rcv} (hok : RecvsOk N rqs) {mb : List (Env α)}
    {pairs : List (Rcv × Env α)} (hm : matchRecvs mb rqs = some pairs) :
    (∀ pr ∈ pairs, InBounds N pr) ∧
    (∀ (i j : Nat) (p q : Rcv × Env α), i ≠ j → pairs[i]? = some p → pairs[j]? = some q → Disjoint p q) := by
  obtain ⟨hfst, hlen⟩ := matchRecvs_fst rqs mb hm
  constructor
  · intro pr hpr
    have hrq : pr.1 ∈ rqs := by rw [← hfst]; exact List.mem_map_of_mem hpr
    obtain ⟨h0, _, h2⟩ := hok.1 pr.1 hrq
    have := hlen pr hpr
    refine ⟨h0, ?_⟩
    omega
  · intro i j p q hij hi hj
    have hpi : rqs[i]? = some p.1 := by rw [← hfst, List.getElem?_map, hi]; rfl
    have hqj : rqs[j]? = some q.1 := by rw [← hfst, List.getElem?_map, hj]; rfl
    have hlp := hlen p (List.mem_of_getElem? hi)
    have hlq := hlen q (List.mem_of_getElem? hj)
    have hp0 := (hok.1 p.1 (List.mem_of_getElem? hpi))
    have hq0 := (hok.1 q.1 (List.mem_of_getElem? hqj))
    have hpw := hok.2
    rw [List.pairwise_iff_getElem] at hpw
    obtain ⟨hi', ei⟩ := List.getElem?_eq_some_iff.1 hpi
    obtain ⟨hj', ej⟩ := List.getElem?_eq_some_iff.1 hqj
    unfold Disjoint
    obtain ⟨a, ha⟩ := Int.eq_ofNat_of_zero_le hp0.1
    obtain ⟨b, hb⟩ := Int.eq_ofNat_of_zero_le hq0.1
    rw [ha, hb, Int.toNat_natCast, Int.toNat_natCast]
    rcases Nat.lt_or_gt_of_ne hij with hlt | hgt
    · have := hpw i j hi' hj' hlt
      rw [ei, ej] at this
      omega
    · have := hpw j i hj' hi' hgt
      rw [ei, ej] at this
      omega

theorem p2pSched_eq_p2pWith (a : List (Env α)) (c : Nat → List Nat) (w : World (Posted α)) :
    p2pSched a c w = p2pWith (fun r p => recvSched a (c r) (r : Int) p.rcvs p.buf) w := rfl

/-- **schedule independence of the tagged point-to-point exchange**: two arrival orders that are FIFO-equal and
    two families of completion orders that are permutations of each other give the same result on every rank,
    provided every rank's posted receives are pairwise disjoint and inside its buffer -/
theorem p2pSched_congr (w : World (Posted α)) (a1 a2 : List (Env α)) (c1 c2 : Nat → List Nat)
    (hf : FifoEq a1 a2) (hc : ∀ r, (c1 r).Perm (c2 r))
    (hok : ∀ p ∈ w, RecvsOk p.buf.length p.rcvs) :
    p2pSched a1 c1 w = p2pSched a2 c2 w := by
  rw [p2pSched_eq_p2pWith, p2pSched_eq_p2pWith]
  apply p2pWith_congr
  intro r p hp
  unfold recvSched
  rw [matchRecvs_congr p.rcvs (mailbox a1 r) (mailbox a2 r) (hf r)]
  cases hmr : matchRecvs (mailbox a2 (r : Int)) p.rcvs with
  | none => rfl
  | some pairs =>
    obtain ⟨hin, hdis⟩ := pairs_ok_of_recvsOk (hok p (List.mem_of_getElem? hp)) hmr
    exact congrArg some (complete_perm pairs hin hdis (hc r) p.buf rfl)

/-- blocking receive loops (`MPI_Recv` one after the other): the completion order is the posted order in both
    runs; only the arrival order differs, and no condition on the buffer regions is needed -/
theorem p2pSched_congr_arrival (w : World (Posted α)) (a1 a2 : List (Env α)) (c : Nat → List Nat)
    (hf : FifoEq a1 a2) : p2pSched a1 c w = p2pSched a2 c w := by
  rw [p2pSched_eq_p2pWith, p2pSched_eq_p2pWith]
  apply p2pWith_congr
  intro r p _
  unfold recvSched
  rw [matchRecvs_congr p.rcvs (mailbox a1 r) (mailbox a2 r) (hf r)]

theorem postAll_sublist {β : Type} (ty : RefType) (maxTag : Int) (tagOf : β → Int) (xs : List β) :
    (postAll ty maxTag tagOf xs).2.Sublist xs := by
  fun_induction postAll ty maxTag tagOf xs
  case case1 => exact List.Sublist.refl _
  case case4 ih => exact ih.cons_cons _
  all_goals exact List.nil_sublist _

end Refine.Model.ReproSched
