import Refine.Lemmas.ReconParMesh

/-!
  `ref_recon_l2_projection_hessian` on a distributed mesh, the assembly step: assembling the restrictions of three
  gradient fields to a rank is restricting the assembled Hessian (`assemble_restrict`, `assembleW_maps`).  With the
  refresh of the projected gradient before it is projected again this gives `C19Par.l2hessian_partition_independent`.
  At the end, in namespace `Refine.ReconParSigned`: `m6row_length`, the row layout of a Hessian entry.
-/
namespace Refine.ReconParHess
open Refine Refine.Model.Geom Refine.Model.Recon Refine.Model.ReconPar Refine.ScalarReal Refine.GeomReal
open Refine.ReconReal Refine.ReconParGhost Refine.ReconParMesh
open Refine.Model.Comm (World RefType)

def z6 : M6 ℝ := ⟨0, 0, 0, 0, 0, 0⟩

theorem assemble_length (n : Nat) (a b c : List (V3 ℝ)) : (assemble n a b c).length = n := by
  simp [assemble]

theorem assemble_restrict (r : Rank) (nG : Nat) (hr : ∀ g ∈ r.l2g, g < nG) (G GX GY GZ : List (V3 ℝ)) :
    assemble (r.restrict V3.zero G).length (r.restrict V3.zero GX) (r.restrict V3.zero GY) (r.restrict V3.zero GZ) =
      r.restrict z6 (assemble nG GX GY GZ) := by
  apply List.ext_getElem?
  intro i
  rw [restrict_length]
  by_cases hi : i < r.l2g.length
  · rw [restrict_getElem? r _ _ i hi]
    have hg : gOf r.l2g i < nG := hr _ (gOf_mem hi)
    unfold assemble
    rw [List.getElem?_map, List.getElem?_range hi, Option.map_some, List.getD_eq_getElem?_getD (l := List.map _ _),
      List.getElem?_map, List.getElem?_range hg, Option.map_some, Option.getD_some,
      restrict_getD r _ GX i hi, restrict_getD r _ GY i hi, restrict_getD r _ GZ i hi]
  · rw [List.getElem?_eq_none (by rw [assemble_length]; omega),
      List.getElem?_eq_none (by rw [restrict_length]; omega)]

theorem assembleW_maps (w : World Rank) (a b c d : Rank → List (V3 ℝ)) :
    assembleW (w.map a) (w.map b) (w.map c) (w.map d) =
      w.map fun r => assemble (a r).length (b r) (c r) (d r) := by
  simp only [assembleW, List.zip_map', List.zipWith_map, List.zipWith_self]

end Refine.ReconParHess

namespace Refine.ReconParSigned
open Refine Refine.Model.Geom Refine.Model.Recon Refine.Model.ReconPar Refine.ScalarReal Refine.GeomReal
open Refine.ReconParGhost Refine.ReconParMesh Refine.ReconParHess
open Refine.Model.Comm (World RefType)

theorem m6row_length (m : M6 ℝ) : (m6row m).length = 6 := rfl

end Refine.ReconParSigned
