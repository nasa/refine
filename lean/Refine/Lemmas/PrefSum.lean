/-!
  Prefix sums of a size function: the offset of block `q` is the sum of the sizes before it.  Used for the
  `a_next` array of `ref_mpi_blindsend`, the shares of `ref_mpi_balance` and the id offsets of `ref_node_synchronize_globals`.
  Core only.
-/
namespace Refine.Lemmas.Comm

def prefSum (cs : Nat → Nat) (q : Nat) : Nat := ((List.range q).map cs).sum

theorem prefSum_succ (cs : Nat → Nat) (q : Nat) : prefSum cs (q + 1) = prefSum cs q + cs q := by
  simp [prefSum, List.range_succ, List.sum_append]

theorem prefSum_mono (cs : Nat → Nat) (q k : Nat) (h : q ≤ k) : prefSum cs q ≤ prefSum cs k := by
  induction k with
  | zero => have : q = 0 := by omega
            subst this; exact Nat.le_refl _
  | succ k ih =>
    by_cases hq : q = k + 1
    · subst hq; exact Nat.le_refl _
    · have := ih (by omega)
      rw [prefSum_succ]; omega

theorem prefSum_step_le (cs : Nat → Nat) {r q : Nat} (h : r < q) : prefSum cs r + cs r ≤ prefSum cs q :=
  prefSum_succ cs r ▸ prefSum_mono cs (r + 1) q h

theorem prefSum_locate (cs : Nat → Nat) {x n : Nat} (h : x < prefSum cs n) :
    ∃ r, r < n ∧ prefSum cs r ≤ x ∧ x < prefSum cs r + cs r := by
  induction n with
  | zero => exact absurd h (Nat.not_lt_zero _)
  | succ n ih =>
    rw [prefSum_succ] at h
    by_cases h' : x < prefSum cs n
    · obtain ⟨r, hr, h1, h2⟩ := ih h'; exact ⟨r, Nat.lt_succ_of_lt hr, h1, h2⟩
    · exact ⟨n, Nat.lt_succ_self n, Nat.le_of_not_lt h', h⟩

theorem prefSum_getD (k : List Nat) (r : Nat) : prefSum (fun q => k.getD q 0) r = (k.take r).sum := by
  induction r with
  | zero => rfl
  | succ r ih =>
    rw [prefSum_succ, ih, List.take_add_one, List.sum_append]
    cases h : k[r]? <;> simp [List.getD_eq_getElem?_getD, h]

theorem sum_range_cast (cs : Nat → Nat) (q : Nat) :
    ((List.range q).map fun j => (cs j : Int)).sum = (prefSum cs q : Int) := by
  induction q with
  | zero => simp [prefSum]
  | succ q ih =>
    rw [prefSum_succ, List.range_succ, List.map_append, List.sum_append, ih]
    simp

theorem prefSum_mul (ldim : Nat) (cs : Nat → Nat) (q : Nat) :
    prefSum (fun j => ldim * cs j) q = ldim * prefSum cs q := by
  induction q with
  | zero => simp [prefSum]
  | succ q ih => rw [prefSum_succ, prefSum_succ, ih, Nat.mul_add]

end Refine.Lemmas.Comm
