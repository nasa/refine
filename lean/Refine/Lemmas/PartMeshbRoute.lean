import Refine.Lemmas.PartMeshbRank
import Refine.Lemmas.CommPack

/-! the routing of a chunk in `ref_part_meshb_cell`: the cells of an accepted file have a rank as destination, so
    `routeChunk` returns and hands rank `r` the cells with `dest = r` (`directCells`); the counting sort of the C
    (`elements_to_send`, `start_to_send`, `new_location`) puts exactly those into the slice of part `r`, in chunk order -/
namespace Refine.Lemmas.PartMeshb
open Refine.Model.Meshb Refine.Model.PartMeshb Refine.Model.Comm Refine.Lemmas.Comm

/-- the cells of `cs` routed to rank `r` by the reading loop: FIRST vertex owned by `r`, file order -/
def directCells (N : Int) (np r : Nat) (cs : List Cell) : List Cell :=
  cs.filter fun c => destOf N np c == (r : Int)

theorem mem_directCells {N : Int} {np r : Nat} {cs : List Cell} {c : Cell} :
    c ∈ directCells N np r cs ↔ c ∈ cs ∧ destOf N np c = (r : Int) := by
  simp [directCells]

theorem directCells_append (N : Int) (np r : Nat) (a b : List Cell) :
    directCells N np r (a ++ b) = directCells N np r a ++ directCells N np r b := by
  simp [directCells]

theorem dest_range {ci : CellInfo} {N : Int} {np : Nat} {c : Cell} (hci : 2 ≤ ci.nodePer) (hnp : 1 ≤ np)
    (h : CellOK ci N c) :
    c.getD 0 0 ∈ c.take ci.nodePer ∧ 0 ≤ destOf N np c ∧ destOf N np c < (np : Int) := by
  have hlen := h.len
  have hmem : c.getD 0 0 ∈ c.take ci.nodePer :=
    Refine.ListFacts.getD_take c 0 (show 0 < ci.nodePer by omega) ▸
      Refine.ListFacts.getD_mem (by rw [List.length_take]; omega)
  obtain ⟨h0, h1⟩ := h.2 _ hmem
  exact ⟨hmem, imp_range hnp h0 h1⟩

theorem routeChunk_ok {ci : CellInfo} {N : Int} {np : Nat} {ch : List Cell} (hci : 2 ≤ ci.nodePer) (hnp : 1 ≤ np)
    (h : ∀ c ∈ ch, CellOK ci N c) :
    routeChunk N np ch = .ok ((List.range np).map fun r => directCells N np r ch) := by
  unfold routeChunk
  rw [if_neg]
  · rfl
  · intro hany
    rw [List.any_eq_true] at hany
    obtain ⟨d, hd, hbad⟩ := hany
    obtain ⟨c, hc, rfl⟩ := List.mem_map.1 hd
    obtain ⟨_, i0, i1⟩ := dest_range (np := np) hci hnp (h c hc)
    have := of_decide_eq_true hbad
    omega

/-- the chunk as (destination, one-cell item) pairs -/
def pairsOf (N : Int) (np : Nat) (cells : List Cell) : List (Nat × List Cell) :=
  cells.map fun c => ((destOf N np c).toNat, [c])

theorem bucket_pairsOf (N : Int) (np : Nat) (cells : List Cell) (q : Nat)
    (h0 : ∀ c ∈ cells, 0 ≤ destOf N np c) :
    (bucket q (pairsOf N np cells)).flatten = cells.filter fun c => destOf N np c == (q : Int) := by
  unfold bucket pairsOf
  rw [List.filter_map, List.map_map, show ((fun x : Nat × List Cell => x.2) ∘ fun c => ((destOf N np c).toNat, [c])) =
    fun c => [c] from rfl, ← List.flatMap_def, List.flatMap_singleton']
  refine List.filter_congr fun c hc => ?_
  have := h0 c hc
  simp only [Function.comp, beq_eq_decide]
  exact decide_eq_decide.2 ⟨fun h => by omega, fun h => by omega⟩

/-- **the routing as coded is the routing the driver runs**: the counting sort read back by slices (`Comm.pack_slice`)
    gives, for part `p`, the one-cell items addressed to `p` -/
theorem routeChunkCoded_eq (N : Int) (np : Nat) (cells : List Cell) :
    routeChunkCoded N np cells = routeChunk N np cells := by
  unfold routeChunkCoded routeChunk
  by_cases hany : (cells.map (destOf N np)).any (fun d => decide (d < 0 ∨ (np : Int) ≤ d)) = true
  · rw [if_pos hany, if_pos hany]
  · rw [if_neg hany, if_neg hany]
    have hrange : ∀ c ∈ cells, 0 ≤ destOf N np c ∧ destOf N np c < (np : Int) := by
      intro c hc
      by_contra hb
      apply hany
      rw [List.any_eq_true]
      exact ⟨destOf N np c, List.mem_map.2 ⟨c, hc, rfl⟩, by simp; omega⟩
    have hd : ∀ x ∈ pairsOf N np cells, x.1 < np := by
      intro x hx
      obtain ⟨c, hc, rfl⟩ := List.mem_map.1 hx
      have := hrange c hc
      simp only
      omega
    have hdest : cells.map (destOf N np) = (pairsOf N np cells).map fun x => (x.1 : Int) := by
      simp only [pairsOf, List.map_map]
      refine List.map_congr_left fun c hc => ?_
      have := hrange c hc
      simp only [Function.comp]
      omega
    have hsend : cells = ((pairsOf N np cells).map (·.2)).flatten := by
      simp only [pairsOf, List.map_map]
      exact (List.flatMap_def .. ▸ List.flatMap_singleton' cells).symm
    refine congrArg Except.ok (List.map_congr_left fun p hp => ?_)
    rw [← bucket_pairsOf N np cells p fun c hc => (hrange c hc).1]
    conv_lhs => rw [hdest]; arg 1; arg 3; rw [hsend]
    have := pack_slice 1 np _ hd (fun x hx => by obtain ⟨c, _, rfl⟩ := List.mem_map.1 hx; rfl)
      (List.replicate cells.length []) (by simp [pairsOf]) p (List.mem_range.1 hp)
    simpa only [Nat.one_mul] using this

end Refine.Lemmas.PartMeshb
