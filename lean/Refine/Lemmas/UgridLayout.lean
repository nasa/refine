import Refine.Lemmas.UgridCells

/-! a binary UGRID file is ten sections whose sizes the seven header counts decide.  The generated offsets and the count
    test of the parallel reader are statements about those sizes; `At bs pos X` says which bytes stand at an offset -/
namespace Refine.Lemmas.Ugrid
open Refine.Gen Refine.Model.Endian Refine.Model.Ugrid
open Refine.Model.Meshb (Bytes Status Vertex P Cfg takeN encLE decLE toSigned ofSigned int32 wrap32 adjAdd adjAddAll)

theorem le_tdiv_iff {a len d : Int} (hl : 0 ≤ len) (hd : 0 < d) : a ≤ Int.tdiv len d ↔ a * d ≤ len := by
  rw [Int.tdiv_eq_ediv_of_nonneg hl, Int.le_ediv_iff_mul_le hd]

/-- the count test of 10247dc (regenerated) without the C division, kind by kind: no count is negative, the vertices
    fit in `len` bytes, and so do the `count × size_per` integers of every kind (`size_per`, not `node_per`: the C
    charges the tag of a boundary face to its connectivity row) -/
theorem counts_fit_iff {len ib : Int} (hl : 0 ≤ len) (hib : 0 < ib) (hdr : List Int) :
    UgridOffsets.counts_fit len ib (hdr.getD 0 0) (hdr.getD 1 0) (hdr.getD 2 0) (hdr.getD 3 0) (hdr.getD 4 0)
        (hdr.getD 5 0) (hdr.getD 6 0) ↔
      (0 ≤ hdr.getD 0 0 ∧ hdr.getD 0 0 * 24 ≤ len) ∧
      ∀ k : Kind, 0 ≤ hdr.getD k.hdrIndex 0 ∧ hdr.getD k.hdrIndex 0 * (k.sizePer * ib) ≤ len := by
  unfold UgridOffsets.counts_fit
  simp only [forall_kind, Kind.hdrIndex, sizePer_tri, sizePer_qua, sizePer_tet, sizePer_pyr, sizePer_pri, sizePer_hex,
    le_tdiv_iff hl (by omega : (0 : Int) < 24), le_tdiv_iff hl (Int.mul_pos (by omega : (0 : Int) < 4) hib),
    le_tdiv_iff hl (Int.mul_pos (by omega : (0 : Int) < 5) hib), le_tdiv_iff hl (Int.mul_pos (by omega : (0 : Int) < 6) hib),
    le_tdiv_iff hl (Int.mul_pos (by omega : (0 : Int) < 8) hib), and_assoc, Nat.cast_ofNat]

/-- positions of the ten sections of `encodeRaw fl m` (prefix sums of the section sizes) -/
def rawStart (fl : Flavor) (m : UMesh) (i : Nat) : Nat := ((sectionsRaw fl m).take i).flatten.length

/-- every generated section offset of ref_part_bin_ugrid, evaluated on the header of the
    file, is the byte position of that section -/
theorem offsets_raw (fl : Flavor) (m : UMesh) (hw : WellFormed m = true) :
    offsetsOf .tri (UgridOffsets.ibyte fl.fat) (hdrOf m) = (((rawStart fl m 2 : Nat) : Int), ((rawStart fl m 4 : Nat) : Int)) ∧
    offsetsOf .qua (UgridOffsets.ibyte fl.fat) (hdrOf m) = (((rawStart fl m 3 : Nat) : Int), ((rawStart fl m 5 : Nat) : Int)) ∧
    (offsetsOf .tet (UgridOffsets.ibyte fl.fat) (hdrOf m)).1 = ((rawStart fl m 6 : Nat) : Int) ∧
    (offsetsOf .pyr (UgridOffsets.ibyte fl.fat) (hdrOf m)).1 = ((rawStart fl m 7 : Nat) : Int) ∧
    (offsetsOf .pri (UgridOffsets.ibyte fl.fat) (hdrOf m)).1 = ((rawStart fl m 8 : Nat) : Int) ∧
    (offsetsOf .hex (UgridOffsets.ibyte fl.fat) (hdrOf m)).1 = ((rawStart fl m 9 : Nat) : Int) := by
  obtain ⟨hn, hk⟩ := (wf_iff m).1 hw
  have l2 := secConn_length fl .tri m.tri (hk .tri).2
  have l3 := secConn_length fl .qua m.qua (hk .qua).2
  have l6 := secConn_length fl .tet m.tet (hk .tet).2
  have l7 := secConn_length fl .pyr m.pyr (hk .pyr).2
  have l8 := secConn_length fl .pri m.pri (hk .pri).2
  simp only [nodePer_tri, nodePer_qua, nodePer_tet, nodePer_pyr, nodePer_pri] at l2 l3 l6 l7 l8
  rw [ibyte_eq]
  simp only [offsetsOf, hdrOf, List.map_cons, List.map_nil, List.getD_cons_zero, List.getD_cons_succ, rawStart,
    sectionsRaw, List.take_succ_cons, List.take_zero, List.flatten_cons, List.flatten_nil, List.length_append,
    List.length_nil, UgridOffsets.tri_conn, UgridOffsets.tri_faceid, UgridOffsets.qua_conn, UgridOffsets.qua_faceid,
    UgridOffsets.tet_conn, UgridOffsets.pyr_conn, UgridOffsets.pri_conn, UgridOffsets.hex_conn, Prod.mk.injEq,
    secHeader_length, secNodes_length, secTags_length, l2, l3, l6, l7, l8]
  push_cast
  refine ⟨⟨?_, ?_⟩, ⟨?_, ?_⟩, ?_, ?_, ?_, ?_⟩ <;> ring

/-- the bytes `X` stand in the file `bs` at byte position `pos`: what a `fseeko` to `pos` and an `fread` of `X.length`
    bytes return, whatever else the file holds -/
def At (bs : Bytes) (pos : Int) (X : Bytes) : Prop := ∃ A B, bs = A ++ X ++ B ∧ (A.length : Int) = pos

theorem At.pread {bs X : Bytes} {pos : Int} (h : At bs pos X) {n : Nat} (hn : X.length = n) :
    Refine.Model.Ugrid.pread bs pos n = .ok X := by
  obtain ⟨A, B, rfl, rfl⟩ := h
  subst hn
  unfold Refine.Model.Ugrid.pread
  rw [if_neg (by omega), Int.toNat_natCast, List.append_assoc, List.drop_left, Refine.Lemmas.Codec.takeN_append]

theorem At.sub {bs U X V : Bytes} {pos : Int} (h : At bs pos (U ++ X ++ V)) : At bs (pos + U.length) X := by
  obtain ⟨A, B, rfl, rfl⟩ := h
  exact ⟨A ++ U, V ++ B, by simp only [List.append_assoc], by simp⟩

theorem At.rows {bs : Bytes} {pos : Int} {α : Type} (sec : List α → Bytes) (hsec : ∀ a b, sec (a ++ b) = sec a ++ sec b)
    (cs : List α) (h : At bs pos (sec cs)) (r s : Nat) :
    At bs (pos + (sec (cs.take r)).length) (sec ((cs.drop r).take s)) := by
  have : cs = cs.take r ++ (cs.drop r).take s ++ cs.drop (r + s) := by
    rw [List.append_assoc, ← List.drop_drop, List.take_append_drop, List.take_append_drop]
  rw [this, hsec, hsec] at h
  exact h.sub

theorem at_flatten (l : List Bytes) (i : Nat) (h : i < l.length) : At l.flatten ((l.take i).flatten.length : Nat) l[i] :=
  ⟨(l.take i).flatten, (l.drop (i + 1)).flatten, by
    conv_lhs => rw [← List.take_append_drop i l, List.drop_eq_getElem_cons h]
    simp only [List.flatten_append, List.flatten_cons, List.append_assoc], rfl⟩

/-- the connectivity rows of kind `k`, and the tags of a boundary kind, stand in the written file at the offsets that
    ref_part_bin_ugrid generates from the header -/
theorem encodeRaw_at (fl : Flavor) (m : UMesh) (hw : WellFormed m = true) (k : Kind) :
    At (encodeRaw fl m) (offsetsOf k (UgridOffsets.ibyte fl.fat) (hdrOf m)).1 (secConn fl k (m.get k)) ∧
    (k.hasTag = true →
      At (encodeRaw fl m) (offsetsOf k (UgridOffsets.ibyte fl.fat) (hdrOf m)).2 (secTags fl k (m.get k))) := by
  obtain ⟨o1, o2, o3, o4, o5, o6⟩ := offsets_raw fl m hw
  -- `rawStart fl m i` is where section `i` of the ten stands
  have sec := fun i (h : i < 10) => at_flatten (sectionsRaw fl m) i h
  cases k
  · exact ⟨o1 ▸ sec 2 (by decide), fun _ => o1 ▸ sec 4 (by decide)⟩
  · exact ⟨o2 ▸ sec 3 (by decide), fun _ => o2 ▸ sec 5 (by decide)⟩
  · exact ⟨o3 ▸ sec 6 (by decide), fun h => absurd h (by decide)⟩
  · exact ⟨o4 ▸ sec 7 (by decide), fun h => absurd h (by decide)⟩
  · exact ⟨o5 ▸ sec 8 (by decide), fun h => absurd h (by decide)⟩
  · exact ⟨o6 ▸ sec 9 (by decide), fun h => absurd h (by decide)⟩

end Refine.Lemmas.Ugrid
