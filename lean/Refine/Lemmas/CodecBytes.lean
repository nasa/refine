import Refine.Model.Meshb
import Refine.Lemmas.CodecReader
import Refine.Lemmas.CodecWords
import Mathlib.Tactic.Ring
import Mathlib.Tactic.Linarith

/-! byte-level lemmas for the codec models (the word level is CodecWords): checked reads and the encoders they read
    back, the record loops as `many`, `ref_adj_add`; at the end `ofHex_ofList`, one half of the device for evaluating a reader on a witness
    file (the other, `exists_ok_of_decide`, is in CodecReader).
    No proof here uses `ring` or `linarith`; the two Mathlib imports are there for what the statements MEAN: with Mathlib in
    scope `2 ^ 63 : ℕ` in `posFits` and in the `n < 2 ^ 31` hypotheses elaborates through `Monoid.npow`, as every module
    downstream (all of which import Mathlib) reads it; without them it would be core's `instPowNat`, a different term. -/
namespace Refine.Lemmas.Codec
open Refine.Model.Meshb Refine.Lemmas.Reader

theorem takeN_append (a r : Bytes) : takeN a.length (a ++ r) = .ok (a, r) := by
  induction a with
  | nil => cases r <;> rfl
  | cons b a ih => simp [takeN, ih]

theorem takeN_ok {n : Nat} {s a r : Bytes} (h : takeN n s = .ok (a, r)) : s = a ++ r ∧ a.length = n := by
  revert h
  fun_induction takeN n s generalizing a <;> intro h <;> cases h
  · exact ⟨rfl, rfl⟩
  · rename_i ih hx
    obtain ⟨rfl, hl⟩ := ih hx
    exact ⟨rfl, congrArg _ hl⟩

theorem takeN_len {n : Nat} {s a r : Bytes} (h : takeN n s = .ok (a, r)) : s.length = n + r.length := by
  obtain ⟨rfl, hl⟩ := takeN_ok h
  rw [List.length_append, hl]

theorem takeN_error {n : Nat} {s : Bytes} {e : Status} (h : takeN n s = .error e) : e = .failure := by
  revert h
  fun_induction takeN n s <;> intro h <;> cases h
  · rfl
  · rename_i ih hx; exact ih hx

theorem rdU_error {k : Nat} {s : Bytes} {e : Status} (h : rdU k s = .error e) : e = .failure := by
  revert h
  fun_cases rdU k s <;> intro h <;> cases h
  exact takeN_error ‹_›

theorem rdI32_error {s : Bytes} {e : Status} (h : rdI32 s = .error e) : e = .failure := by
  revert h
  fun_cases rdI32 s <;> intro h <;> cases h
  exact rdU_error ‹_›

theorem rdPos_error {v : Nat} {s : Bytes} {e : Status} (h : rdPos v s = .error e) : e = .failure := by
  revert h
  fun_cases rdPos v s <;> intro h
  · cases h
  · cases h; exact rdU_error ‹_›
  · exact rdI32_error h

theorem rdU_append (k : Nat) (a r : Bytes) (h : a.length = k) : rdU k (a ++ r) = .ok (decLE a, r) := by
  subst h; simp [rdU, takeN_append]

theorem rdU_ok {k : Nat} {s r : Bytes} {n : Nat} (h : rdU k s = .ok (n, r)) :
    ∃ a, s = a ++ r ∧ a.length = k ∧ n = decLE a := by
  revert h
  fun_cases rdU k s <;> intro h <;> cases h
  exact ⟨_, (takeN_ok ‹_›).1, (takeN_ok ‹_›).2, rfl⟩

theorem rdU_lt {k : Nat} {s r : Bytes} {n : Nat} (h : rdU k s = .ok (n, r)) : n < 256 ^ k := by
  obtain ⟨a, _, hl, rfl⟩ := rdU_ok h
  rw [← hl]; exact decLE_lt a

theorem rdU_len {k : Nat} {s r : Bytes} {n : Nat} (h : rdU k s = .ok (n, r)) : s.length = k + r.length := by
  revert h
  fun_cases rdU k s <;> intro h <;> cases h
  exact takeN_len ‹_›

/-- a reader that only converts what `rdU k` returns consumes `k` bytes; the `match` is the one `rdI32` and `rdF64` are
    written with, so both are instances by unfolding -/
theorem rdU_map_len {α : Type} {k : Nat} {f : Nat → α} {s r : Bytes} {x : α}
    (h : (match rdU k s with
          | .ok (n, r) => (.ok (f n, r) : Except Status (α × Bytes))
          | .error e => .error e) = .ok (x, r)) :
    s.length = k + r.length := by
  split at h
  next h' => cases h; exact rdU_len h'
  · cases h

theorem rdI32_len {s r : Bytes} {n : Int} (h : rdI32 s = .ok (n, r)) : s.length = 4 + r.length :=
  rdU_map_len h

theorem intSize_ge (v : Nat) : 4 ≤ intSize v := by unfold intSize; split <;> omega

theorem rdInt_len {v : Nat} {s r : Bytes} {n : Int} (h : rdInt v s = .ok (n, r)) :
    s.length = intSize v + r.length := by
  unfold intSize
  revert h
  fun_cases rdInt v s <;> intro h
  · rw [if_neg (by omega)]; exact rdI32_len h
  · cases h; rw [if_pos (by omega)]; exact rdU_len ‹_›
  · cases h

theorem rdPos_len {v : Nat} {s r : Bytes} {n : Int} (h : rdPos v s = .ok (n, r)) :
    s.length = fpSize v + r.length := by
  unfold fpSize
  revert h
  fun_cases rdPos v s <;> intro h
  · cases h; rw [if_pos (by omega)]; exact rdU_len ‹_›
  · cases h
  · rw [if_neg (by omega)]; exact rdI32_len h

theorem rdF64_len {s r : Bytes} {x : UInt64} (h : rdF64 s = .ok (x, r)) : s.length = 8 + r.length :=
  rdU_map_len h

theorem rdReal_len {v : Nat} {s r : Bytes} {x : UInt64} (h : rdReal v s = .ok (x, r)) :
    s.length ≥ 4 + r.length := by
  revert h
  fun_cases rdReal v s <;> intro h
  · cases h; have := rdU_len ‹_›; omega
  · cases h
  · have := rdF64_len h; omega

theorem le32_length (n : Nat) : (le32 n).length = 4 := by simp [le32]

theorem rdU_encLE {k n : Nat} (h : n < 256 ^ k) (r : Bytes) : rdU k (encLE k n ++ r) = .ok (n, r) := by
  rw [rdU_append k _ r (encLE_length k n), decLE_encLE_of_lt h]

theorem rdI32_le32 {n : Nat} (h : n < 2 ^ 31) (r : Bytes) : rdI32 (le32 n ++ r) = .ok ((n : Int), r) := by
  unfold rdI32
  rw [le32, rdU_encLE (by omega)]
  exact congrArg (fun x => Except.ok (x, r)) (if_pos h)

theorem encInt_length (v : Nat) (x : Int) : (encInt v x).length = intSize v := by
  unfold encInt intSize
  split
  · rw [encLE_length, if_neg (by omega)]
  · rw [encLE_length, if_pos (by omega)]

theorem encPos_length (v : Nat) (x : Int) : (encPos v x).length = fpSize v := by
  unfold encPos fpSize
  split
  · rw [encLE_length, if_pos (by omega)]
  · rw [encLE_length, if_neg (by omega)]

@[simp] theorem encF64_length (u : UInt64) : (encF64 u).length = 8 := by simp [encF64]

theorem rdInt_encInt (v : Nat) {x : Int} (h : int32 x) (r : Bytes) :
    rdInt v (encInt v x ++ r) = .ok (x, r) := by
  unfold rdInt encInt
  split
  · unfold rdI32
    rw [rdU_encLE (ofSigned_lt 32 x)]
    dsimp only
    rw [toSigned32_ofSigned32 h]
  · rw [rdU_encLE (ofSigned_lt 64 x)]
    dsimp only
    rw [ofSigned_mod (by omega : 32 ≤ 64) x, toSigned32_ofSigned32 h]

theorem rdSize_encInt (v : Nat) {n : Nat} (h : n < 2 ^ 31) (r : Bytes) :
    rdSize v (encInt v (n : Int) ++ r) = .ok (n, r) := by
  unfold rdSize encInt
  split
  · rw [ofSigned_natCast (by omega), rdU_encLE (by omega)]
  · rw [ofSigned_natCast (by omega), rdU_encLE (by omega)]

/-- a file position fits the position field of version `v` -/
def posFits (v : Nat) (p : Int) : Prop :=
  if 3 ≤ v then -((2 ^ 63 : Nat) : Int) ≤ p ∧ p < ((2 ^ 63 : Nat) : Int)
  else -((2 ^ 31 : Nat) : Int) ≤ p ∧ p < ((2 ^ 31 : Nat) : Int)

theorem rdPos_encPos (v : Nat) {p : Int} (h : posFits v p) (r : Bytes) :
    rdPos v (encPos v p ++ r) = .ok (p, r) := by
  unfold rdPos encPos
  unfold posFits at h
  split
  next hv =>
    rw [if_pos hv] at h
    rw [rdU_encLE (ofSigned_lt 64 p)]
    dsimp only
    rw [toSigned_ofSigned (bits := 64) (by omega) h]
  next hv =>
    rw [if_neg hv] at h
    unfold rdI32
    rw [rdU_encLE (ofSigned_lt 32 p)]
    dsimp only
    rw [toSigned_ofSigned (bits := 32) (by omega) h]

theorem rdF64_encF64 (u : UInt64) (r : Bytes) : rdF64 (encF64 u ++ r) = .ok (u, r) := by
  unfold rdF64 encF64
  rw [rdU_encLE u.toNat_lt]
  exact congrArg (fun x => Except.ok (x, r)) (UInt64.ofNat_toNat)

theorem rdReal_encF64 {v : Nat} (hv : v ≠ 1) (u : UInt64) (r : Bytes) :
    rdReal v (encF64 u ++ r) = .ok (u, r) := by
  unfold rdReal; simp [hv, rdF64_encF64]

theorem rdInts_eq_many (v n : Nat) (s : Bytes) : rdInts v n s = many (rdInt v) n s := by
  fun_induction rdInts v n s <;> simp_all only [many]

/-- one cell record: its integers, then `ref_cell_add` -/
def rdCell (cfg : Cfg) (v : Nat) (ci : CellInfo) (nnode : Int) : P (List Int) := fun s =>
  match rdInts v (ci.nodePer + 1) s with
  | .error e => .error e
  | .ok (raw, s) =>
    match cellOfRecord cfg ci nnode raw with
    | .error e => .error e
    | .ok c => .ok (c, s)

theorem rdCell_eq_ok_iff {cfg : Cfg} {v : Nat} {ci : CellInfo} {nnode : Int} {s r : Bytes} {c : List Int} :
    rdCell cfg v ci nnode s = .ok (c, r) ↔
      ∃ raw, rdInts v (ci.nodePer + 1) s = .ok (raw, r) ∧ cellOfRecord cfg ci nnode raw = .ok c := by
  constructor
  · intro h
    revert h
    fun_cases rdCell cfg v ci nnode s <;> intro h <;> cases h
    exact ⟨_, ‹_›, ‹_›⟩
  · rintro ⟨raw, h1, h2⟩; simp only [rdCell, h1, h2]

theorem rdCells_eq_many (cfg : Cfg) (v : Nat) (ci : CellInfo) (nnode : Int) (n : Nat) (s : Bytes) :
    rdCells cfg v ci nnode n s = many (rdCell cfg v ci nnode) n s := by
  fun_induction rdCells cfg v ci nnode n s <;> simp_all only [many, rdCell]

/-- `ref_adj_add` takes a vertex exactly when it passes its three guards: not negative, `+ 100` stays in `int`, the
    grown adjacency stays under the allocator cap -/
theorem adjAdd_eq_ok_iff {cfg : Cfg} {x : Int} :
    adjAdd cfg x = .ok () ↔ 0 ≤ x ∧ x ≤ 2 ^ 31 - 1 - 100 ∧ 4 * (x.toNat + 100) ≤ cfg.allocCap := by
  fun_cases adjAdd cfg x <;> simp only [reduceCtorEq, false_iff, true_iff] <;> omega

theorem adjAddAll_eq_ok_iff {cfg : Cfg} {xs : List Int} :
    adjAddAll cfg xs = .ok () ↔ ∀ x ∈ xs, 0 ≤ x ∧ x ≤ 2 ^ 31 - 1 - 100 ∧ 4 * (x.toNat + 100) ≤ cfg.allocCap := by
  induction xs with
  | nil => simp [adjAddAll]
  | cons x xs ih =>
    rw [adjAddAll, List.forall_mem_cons, ← ih, ← adjAdd_eq_ok_iff]
    cases adjAdd cfg x <;> simp

/-- the header scan stops at `next_position = 0` (the `End` keyword) -/
theorem headerScan_zero (cfg : Cfg) (v : Nat) (bs : Bytes) (fuel : Nat) (kp : KeyPos) :
    headerScan cfg v bs fuel 0 kp = .ok kp := by
  cases fuel <;> simp [headerScan]

/-- A string literal is `String.ofList` of its characters by definition, so this gives the kernel the
    characters of a witness file directly instead of having it decode the literal's UTF-8 by well-founded
    recursion.  Use as `rw [theFile, ofHex_ofList]` before `decide +kernel`. -/
theorem ofHex_ofList (l : List Char) :
    ofHex (String.ofList l) = ofHex.go (fun c => if c.toNat ≥ 97 then c.toNat - 87 else c.toNat - 48) l := by
  unfold ofHex; rw [String.toList_ofList]

end Refine.Lemmas.Codec
