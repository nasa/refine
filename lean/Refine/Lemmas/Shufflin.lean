import Refine.Model.Shufflin
import Refine.Lemmas.ListFacts
import Refine.Lemmas.Ins

/-!
  The per-rank receive loops of `ref_migrate_shufflin`
  (`recvNode`, `addGhosts`, `recvCell`) on tables whose entries agree with the new partition `P` (and, for the vertices a
  rank owns, with the payload `Y`).  Each loop is a `foldl (ins key)`, "insert when the key is absent": `addGhosts` as it
  stands, `recvNode` (key: the global) and `recvCell` (key: the cell) on such tables; what the tables contain afterwards
  is read off `mem_foldl_ins`, `keys_foldl_ins`, `nodup_foldl_ins`.
-/
namespace Refine.Lemmas.Shufflin
open Refine.Model.Dist Refine.Model.Shufflin
open Refine.Model.Comm (World allSome)

theorem hasGlob_iff (nodes : List DNode) (g : Int) : hasGlob nodes g = true ↔ g ∈ nodes.map (·.glob) := by
  unfold hasGlob
  simp only [List.any_eq_true, beq_iff_eq, List.mem_map]

/-- `nd` carries the new part of its global and, if that part is `me`, the payload of its global -/
def Entry (P : Int → Int) (Y : Int → List Nat) (me : Nat) (nd : DNode) : Prop :=
  nd.part = P nd.glob ∧ (nd.part = (me : Int) → nd.payload = Y nd.glob)

def Table (P : Int → Int) (Y : Int → List Nat) (me : Nat) (nodes : List DNode) : Prop :=
  (nodes.map (·.glob)).Nodup ∧ ∀ nd ∈ nodes, Entry P Y me nd

theorem table_foldl_ins {P : Int → Int} {Y : Int → List Nat} {me : Nat} {nodes xs : List DNode}
    (ht : Table P Y me nodes) (hxs : ∀ x ∈ xs, Entry P Y me x) : Table P Y me (xs.foldl (ins (·.glob)) nodes) :=
  ⟨nodup_foldl_ins _ _ _ ht.1, fun nd hnd => (mem_foldl_ins _ _ _ _ hnd).elim (ht.2 nd) (hxs nd)⟩

/-- `recvNode` for a received copy whose part is this rank: the stored copy, if any, is already what the payload loop
    writes -/
theorem recvNode_eq {P : Int → Int} {Y : Int → List Nat} {me : Nat} {nodes : List DNode} {nd : DNode}
    (hn : ∀ x ∈ nodes, Entry P Y me x) (hnd : Entry P Y me nd) (hp : nd.part = (me : Int)) :
    recvNode me nodes nd = ins (·.glob) nodes nd := by
  unfold recvNode ins
  by_cases h : nd.glob ∈ nodes.map (·.glob)
  · rw [if_pos ((hasGlob_iff _ _).mpr h), if_pos h]
    refine Refine.ListFacts.map_eq_self fun x hx => ?_
    split
    rename_i hg
    rw [beq_iff_eq] at hg
    obtain ⟨h1, h2⟩ := hn x hx
    have hpx : x.part = (me : Int) := by rw [h1, hg, ← hnd.1, hp]
    rw [← hpx, hnd.2 hp, ← hg, ← h2 hpx]
    rfl
  · rw [if_neg (fun hg => h ((hasGlob_iff _ _).mp hg)), if_neg h, ← hp]

/-- the receive loop of `ref_migrate_shufflin_node` -/
theorem foldl_recvNode_eq {P : Int → Int} {Y : Int → List Nat} {me : Nat} (rs : List DNode)
    (hrs : ∀ nd ∈ rs, Entry P Y me nd ∧ nd.part = (me : Int)) :
    ∀ (nodes : List DNode), (∀ x ∈ nodes, Entry P Y me x) →
      rs.foldl (recvNode me) nodes = rs.foldl (ins (·.glob)) nodes := by
  induction rs with
  | nil => intro nodes _; rfl
  | cons nd rs ih =>
    intro nodes hn
    obtain ⟨h1, h2⟩ := hrs nd List.mem_cons_self
    rw [List.foldl_cons, List.foldl_cons, recvNode_eq hn h1 h2]
    exact ih (fun x hx => hrs x (List.mem_cons_of_mem _ hx)) _
      (fun x hx => (mem_ins _ _ _ _ hx).elim (hn x) (fun e => e ▸ h1))

/-! ### `ref_cell_add_many_global`, first loop -/

/-- a message as a rank whose table agrees with `P` builds it -/
def MsgOk (P : Int → Int) (m : CellMsg) : Prop := m.parts = m.cell.nodes.map P

/-- the entries `ref_node_add_many` makes for a received cell: its vertices of another part, payload not yet known -/
def ghostsOf (me : Nat) (m : CellMsg) : List DNode :=
  ((m.cell.nodes.zip m.parts).filter fun gp => gp.2 != (me : Int)).map fun gp => ⟨gp.1, gp.2, []⟩

theorem addGhosts_eq (me : Nat) (nodes : List DNode) (m : CellMsg) :
    addGhosts me nodes m = (ghostsOf me m).foldl (ins (·.glob)) nodes := by
  unfold addGhosts ghostsOf
  rw [List.foldl_map, List.foldl_filter]
  congr 1
  funext ns gp
  unfold ins
  by_cases h1 : gp.2 = (me : Int) <;> by_cases h2 : gp.1 ∈ ns.map (·.glob) <;>
    simp [h1, h2, hasGlob_iff]

theorem foldl_addGhosts_eq (me : Nat) (msgs : List CellMsg) (nodes : List DNode) :
    msgs.foldl (addGhosts me) nodes = (msgs.flatMap (ghostsOf me)).foldl (ins (·.glob)) nodes := by
  rw [List.foldl_flatMap]
  congr 1
  funext ns m
  exact addGhosts_eq me ns m

theorem mem_ghostsOf {P : Int → Int} {me : Nat} {m : CellMsg} (hm : MsgOk P m) (nd : DNode) :
    nd ∈ ghostsOf me m ↔ ∃ v ∈ m.cell.nodes, P v ≠ (me : Int) ∧ nd = ⟨v, P v, []⟩ := by
  unfold ghostsOf
  rw [hm, Refine.ListFacts.zip_map_self]
  simp only [List.mem_map, List.mem_filter, bne_iff_ne, ne_eq]
  constructor
  · rintro ⟨gp, ⟨⟨v, hv, rfl⟩, hne⟩, rfl⟩
    exact ⟨v, hv, hne, rfl⟩
  · rintro ⟨v, hv, hne, rfl⟩
    exact ⟨(v, P v), ⟨⟨v, hv, rfl⟩, hne⟩, rfl⟩

theorem foldl_addGhosts_spec {P : Int → Int} {Y : Int → List Nat} {me : Nat} {msgs : List CellMsg} {ns : List DNode}
    (ht : Table P Y me ns) (hm : ∀ m ∈ msgs, MsgOk P m) :
    Table P Y me (msgs.foldl (addGhosts me) ns) ∧
    ∀ g, g ∈ (msgs.foldl (addGhosts me) ns).map (·.glob) ↔
      g ∈ ns.map (·.glob) ∨ ∃ m ∈ msgs, g ∈ m.cell.nodes ∧ P g ≠ (me : Int) := by
  rw [foldl_addGhosts_eq]
  refine ⟨table_foldl_ins ht fun x hx => ?_, fun g => ?_⟩
  · obtain ⟨m, hmm, hx⟩ := List.mem_flatMap.mp hx
    obtain ⟨v, _, hne, rfl⟩ := (mem_ghostsOf (hm m hmm) x).mp hx
    exact ⟨rfl, fun h => absurd h hne⟩
  · rw [keys_foldl_ins]
    refine or_congr_right ?_
    simp only [List.mem_map, List.mem_flatMap]
    constructor
    · rintro ⟨x, ⟨m, hmm, hx⟩, rfl⟩
      obtain ⟨v, hv, hne, rfl⟩ := (mem_ghostsOf (hm m hmm) x).mp hx
      exact ⟨m, hmm, hv, hne⟩
    · rintro ⟨m, hmm, hv, hne⟩
      exact ⟨⟨g, P g, []⟩, ⟨m, hmm, (mem_ghostsOf (hm m hmm) _).mpr ⟨g, hv, hne, rfl⟩⟩, rfl⟩

/-! ### `ref_cell_add_many_global`, second loop -/

theorem setPart_id (P : Int → Int) (nodes : List DNode) (g : Int) (h : ∀ nd ∈ nodes, nd.part = P nd.glob) :
    setPart nodes g (P g) = nodes := by
  unfold setPart
  refine Refine.ListFacts.map_eq_self fun x hx => ?_
  split
  rename_i hg
  rw [beq_iff_eq] at hg
  rw [← hg, ← h x hx]
  rfl

theorem foldl_setPart_id (P : Int → Int) (nodes : List DNode) (h : ∀ nd ∈ nodes, nd.part = P nd.glob)
    (vs : List Int) : (vs.zip (vs.map P)).foldl (fun ns gp => setPart ns gp.1 gp.2) nodes = nodes := by
  rw [Refine.ListFacts.zip_map_self, List.foldl_map]
  exact List.foldl_fixed' (fun v => setPart_id P nodes v h) vs

theorem sameVerts_refl (c : DCell) : sameVerts c c = true := by
  unfold sameVerts
  simp

/-- two cells of the set `S` in one group with the same vertex set are equal (what `ref_cell_with` relies on) -/
def Uniq (S : DCell → Prop) : Prop :=
  ∀ x y, S x → S y → x.group = y.group → sameVerts x y = true → x = y

theorem hasCellWith_iff {S : DCell → Prop} (hu : Uniq S) {cells : List DCell} {c : DCell}
    (hcs : ∀ x ∈ cells, S x) (hc : S c) : hasCellWith cells c = true ↔ c ∈ cells := by
  unfold hasCellWith
  simp only [List.any_eq_true, Bool.and_eq_true, beq_iff_eq]
  constructor
  · rintro ⟨x, hx, hg, hv⟩
    exact hu x c (hcs x hx) hc hg hv ▸ hx
  · intro h
    exact ⟨c, h, rfl, sameVerts_refl c⟩

theorem recvCell_eq {P : Int → Int} {S : DCell → Prop} (hu : Uniq S) {nodes : List DNode} {cells : List DCell}
    {m : CellMsg} (hparts : ∀ nd ∈ nodes, nd.part = P nd.glob) (hm : MsgOk P m)
    (hpres : ∀ v ∈ m.cell.nodes, v ∈ nodes.map (·.glob)) (hcs : ∀ x ∈ cells, S x) (hc : S m.cell) :
    recvCell (some (nodes, cells)) m = some (nodes, ins id cells m.cell) := by
  unfold recvCell ins
  have hall : m.cell.nodes.all (hasGlob nodes) = true :=
    List.all_eq_true.mpr fun v hv => (hasGlob_iff _ _).mpr (hpres v hv)
  simp only [hall, if_true, show m.parts = m.cell.nodes.map P from hm, foldl_setPart_id P nodes hparts,
    hasCellWith_iff hu hcs hc, List.map_id, id]

theorem foldl_recvCell_eq {P : Int → Int} {S : DCell → Prop} (hu : Uniq S) {nodes : List DNode}
    (hparts : ∀ nd ∈ nodes, nd.part = P nd.glob) (msgs : List CellMsg)
    (hm : ∀ m ∈ msgs, MsgOk P m ∧ S m.cell ∧ ∀ v ∈ m.cell.nodes, v ∈ nodes.map (·.glob)) :
    ∀ (cells : List DCell), (∀ x ∈ cells, S x) →
      msgs.foldl recvCell (some (nodes, cells)) = some (nodes, (msgs.map (·.cell)).foldl (ins id) cells) := by
  induction msgs with
  | nil => intro cells _; rfl
  | cons m rest ih =>
    intro cells hcs
    obtain ⟨h1, h2, h3⟩ := hm m List.mem_cons_self
    rw [List.foldl_cons, recvCell_eq hu hparts h1 h3 hcs h2, List.map_cons, List.foldl_cons]
    exact ih (fun m' hm' => hm m' (List.mem_cons_of_mem _ hm')) _
      (fun x hx => (mem_ins id cells m.cell x hx).elim (hcs x) (fun e => e ▸ h2))

end Refine.Lemmas.Shufflin
