import Refine.Lemmas.MatrixReal
import Mathlib.Algebra.BigOperators.Fin
import Mathlib.Algebra.Order.BigOperators.Group.Finset

/-!
  The routines built on `diag_m` (log, exp, sqrt, intersect, bound) as their users see them: each returns a function of
  the eigen system its inner `diag_m` found (`logM_of` … `combine_of`), and in an orthonormal frame the quadratic form of
  `form_m d` is a mixture of the eigenvalues (`Orthonormal.vtMv_formM_mix`), whence the Rayleigh bounds.
-/
namespace Refine.Model.Matrix
open Refine Refine.ScalarReal
open _root_.Matrix

section general
variable {n : Type} [Fintype n] [DecidableEq n]

theorem spectral_mul (V : Matrix n n ℝ) (a b : n → ℝ) (hV : Vᵀ * V = 1) :
    (V * diagonal a * Vᵀ) * (V * diagonal b * Vᵀ) = V * diagonal (fun i => a i * b i) * Vᵀ := by
  calc (V * diagonal a * Vᵀ) * (V * diagonal b * Vᵀ)
      = V * diagonal a * (Vᵀ * V) * diagonal b * Vᵀ := by simp only [Matrix.mul_assoc]
    _ = V * (diagonal a * diagonal b) * Vᵀ := by rw [hV]; simp only [Matrix.mul_assoc, Matrix.one_mul]
    _ = V * diagonal (fun i => a i * b i) * Vᵀ := by rw [diagonal_mul_diagonal]

theorem spectral_one (V : Matrix n n ℝ) (hV : V * Vᵀ = 1) :
    V * diagonal (fun _ => (1 : ℝ)) * Vᵀ = 1 := by
  rw [show diagonal (fun _ : n => (1 : ℝ)) = 1 from diagonal_one, Matrix.mul_one, hV]

omit [DecidableEq n] in
theorem quad_conj (H C : Matrix n n ℝ) (hH : Hᵀ = H) (x : n → ℝ) :
    x ⬝ᵥ ((H * C * H) *ᵥ x) = (H *ᵥ x) ⬝ᵥ (C *ᵥ (H *ᵥ x)) := by
  rw [← mulVec_mulVec, ← mulVec_mulVec, dotProduct_mulVec, ← mulVec_transpose, hH]

theorem quad_spectral (V : Matrix n n ℝ) (a : n → ℝ) (y : n → ℝ) :
    y ⬝ᵥ ((V * diagonal a * Vᵀ) *ᵥ y) = ∑ k, a k * ((Vᵀ *ᵥ y) k) ^ 2 := by
  rw [← mulVec_mulVec, ← mulVec_mulVec, dotProduct_mulVec, ← mulVec_transpose]
  simp only [dotProduct, mulVec_diagonal]
  apply Finset.sum_congr rfl
  intro k _
  ring

/-- core of `intersect` / `bound`: with `A = H²`, `N = H⁻¹` and an exact eigen system (μ, W) of `N B N`, the quadratic
    forms of `A`, `B` and `H W c(μ) Wᵀ H` are `Σ w_k²`, `Σ μ_k w_k²`, `Σ c(μ_k) w_k²` in the one basis `w = Wᵀ H x`; the
    clamp `c = max 1` (intersect) resp. `min 1` (bound) then compares them term by term -/
theorem combine_core (H N B W : Matrix n n ℝ) (μ : n → ℝ) (c : ℝ → ℝ)
    (hH : Hᵀ = H) (hHN : H * N = 1) (hW : Wᵀ * W = 1)
    (hB : N * B * N = W * diagonal μ * Wᵀ) (x : n → ℝ) :
    x ⬝ᵥ ((H * H) *ᵥ x) = ∑ k, ((Wᵀ *ᵥ (H *ᵥ x)) k) ^ 2 ∧
    x ⬝ᵥ (B *ᵥ x) = ∑ k, μ k * ((Wᵀ *ᵥ (H *ᵥ x)) k) ^ 2 ∧
    x ⬝ᵥ ((H * (W * diagonal (fun k => c (μ k)) * Wᵀ) * H) *ᵥ x)
      = ∑ k, c (μ k) * ((Wᵀ *ᵥ (H *ᵥ x)) k) ^ 2 := by
  have hNH : N * H = 1 := mul_eq_one_comm.mp hHN
  -- all three are `H (W diag(g) Wᵀ) H` for `g = 1`, `μ`, `c ∘ μ`
  have key : ∀ g : n → ℝ, x ⬝ᵥ ((H * (W * diagonal g * Wᵀ) * H) *ᵥ x) = ∑ k, g k * ((Wᵀ *ᵥ (H *ᵥ x)) k) ^ 2 :=
    fun g => by rw [quad_conj H _ hH, quad_spectral]
  refine ⟨?_, ?_, key _⟩
  · have := key fun _ => 1
    rwa [spectral_one W (mul_eq_one_comm.mp hW), Matrix.mul_one, funext fun k => one_mul _] at this
  · rw [← key μ, ← hB]
    congr 2
    calc B = (H * N) * B * (N * H) := by rw [hHN, hNH, Matrix.one_mul, Matrix.mul_one]
      _ = H * (N * B * N) * H := by simp only [Matrix.mul_assoc]

end general

theorem toMat_multM0M1M0 (a b : M6 ℝ) : (multM0M1M0 a b).toMat = a.toMat * b.toMat * a.toMat := by
  simp only [M6.toMat, mul_fin_three, multM0M1M0, multM, mul_eq, add_eq]
  apply lit3_congr <;> ring

theorem vtMv_eq (m : M6 ℝ) (x : Vec3 ℝ) : vtMv m x = x.toFun ⬝ᵥ (m.toMat *ᵥ x.toFun) := by
  simp only [vtMv, M6.toMat, Vec3.toFun, dotProduct, mulVec, Fin.sum_univ_three, mul_eq, add_eq]
  simp

/-- `formM` of an eigen system as a function of the matrix: `f(m) g(m) = (fg)(m)` -/
theorem toMat_formM_mul (d : Eig12 ℝ) (ho : Orthonormal d) (f g : ℝ → ℝ) :
    (formM (mapEig f d)).toMat * (formM (mapEig g d)).toMat = (formM (mapEig (fun t => f t * g t) d)).toMat := by
  rw [toMat_formM_mapEig, toMat_formM_mapEig, toMat_formM_mapEig]
  exact spectral_mul d.V _ _ ((orthonormal_iff d).mp ho)

theorem mapEig_congr (d : Eig12 ℝ) (f g : ℝ → ℝ) (h0 : f d.l0 = g d.l0) (h1 : f d.l1 = g d.l1)
    (h2 : f d.l2 = g d.l2) : mapEig f d = mapEig g d := by
  simp only [mapEig, h0, h1, h2]

@[simp] theorem mapEig_id (d : Eig12 ℝ) : mapEig (fun t => t) d = d := rfl

theorem mapEig_eq_self (d : Eig12 ℝ) (f : ℝ → ℝ) (h0 : f d.l0 = d.l0) (h1 : f d.l1 = d.l1)
    (h2 : f d.l2 = d.l2) : mapEig f d = d :=
  mapEig_congr d f (fun t => t) h0 h1 h2

theorem mapEig_mapEig (d : Eig12 ℝ) (f g : ℝ → ℝ) : mapEig f (mapEig g d) = mapEig (fun t => f (g t)) d := rfl

/-- `g(f(m)) = m` when `g ∘ f` fixes the eigenvalues of `m`: `d'` is an exact system of `f(m) = V f(Λ) Vᵀ`, and by
    `formM_fun_congr` `g` may be applied in the system `(f(Λ), V)` instead -/
theorem formM_comp_inv {m : M6 ℝ} {d d' : Eig12 ℝ} (f g : ℝ → ℝ) (he : IsEigSys d m)
    (he' : IsEigSys d' (formM (mapEig f d)))
    (h0 : g (f d.l0) = d.l0) (h1 : g (f d.l1) = d.l1) (h2 : g (f d.l2) = d.l2) : formM (mapEig g d') = m := by
  have hsys : IsEigSys (mapEig f d) (formM (mapEig f d)) := ⟨orthonormal_mapEig _ he.orth, rfl⟩
  rw [formM_fun_congr g he' hsys, mapEig_mapEig, mapEig_eq_self d _ h0 h1 h2, he.form]

theorem toMat_formM_one (d : Eig12 ℝ) (ho : Orthonormal d) :
    (formM (mapEig (fun _ => (1 : ℝ)) d)).toMat = 1 := by
  rw [toMat_formM_mapEig]
  exact spectral_one d.V ho.rows

theorem sqrtTail_ok {d : Eig12 ℝ} {sq isq : M6 ℝ} (h : sqrtTail d = .ok (sq, isq)) :
    Real.sqrt d.l0 ≠ 0 ∧ Real.sqrt d.l1 ≠ 0 ∧ Real.sqrt d.l2 ≠ 0 ∧
    sq = formM (mapEig Real.sqrt d) ∧ isq = formM (mapEig (fun t => 1 / Real.sqrt t) d) := by
  unfold sqrtTail at h
  simp only [one_eq, div_eq] at h
  by_cases g0 : Scalar.divisible 1 (mapEig Scalar.sqrt d).l0 = true
  · by_cases g1 : Scalar.divisible 1 (mapEig Scalar.sqrt d).l1 = true
    · by_cases g2 : Scalar.divisible 1 (mapEig Scalar.sqrt d).l2 = true
      · simp only [g0, g1, g2, Bool.not_true, Bool.false_eq_true, if_false] at h
        injection h with h
        injection h with ha hb
        refine ⟨divisible_ne_zero g0, divisible_ne_zero g1, divisible_ne_zero g2, ha.symm, ?_⟩
        rw [← hb]; rfl
      · simp [g0, g1, g2] at h
    · simp [g0, g1] at h
  · simp [g0] at h

theorem sqrtTail_div_zero_or_ok (d : Eig12 ℝ) :
    sqrtTail d = .error .div_zero ∨ ∃ p, sqrtTail d = .ok p := by
  fun_cases sqrtTail d
  · exact Or.inl rfl
  · exact Or.inl rfl
  · exact Or.inl rfl
  · exact Or.inr ⟨_, rfl⟩

theorem vtMv_formM (d : Eig12 ℝ) (x : Vec3 ℝ) :
    vtMv (formM d) x =
      d.l0 * (d.x0 * x.x + d.y0 * x.y + d.z0 * x.z) ^ 2 +
      d.l1 * (d.x1 * x.x + d.y1 * x.y + d.z1 * x.z) ^ 2 +
      d.l2 * (d.x2 * x.x + d.y2 * x.y + d.z2 * x.z) ^ 2 := by
  simp only [vtMv, formM, mul_eq, add_eq]; ring

theorem Orthonormal.parseval {q : Eig12 ℝ} (ho : Orthonormal q) (x : Vec3 ℝ) :
    (q.x0 * x.x + q.y0 * x.y + q.z0 * x.z) ^ 2 + (q.x1 * x.x + q.y1 * x.y + q.z1 * x.z) ^ 2 +
      (q.x2 * x.x + q.y2 * x.y + q.z2 * x.z) ^ 2 = x.x * x.x + x.y * x.y + x.z * x.z := by
  -- the rows of an orthonormal frame are orthonormal too: the nine entries of `V Vᵀ = 1`
  have hm := ho.rows
  rw [Eig12.V_transpose, Eig12.V, mul_fin_three, one_fin_three] at hm
  obtain ⟨xx, xy, xz, _, yy, yz, _, _, zz⟩ := lit3_inj hm
  linear_combination (x.x * x.x) * xx + (x.y * x.y) * yy + (x.z * x.z) * zz + (2 * x.x * x.y) * xy +
    (2 * x.x * x.z) * xz + (2 * x.y * x.z) * yz

/-- the weights are `a_k = (v_k · x)²` -/
theorem Orthonormal.vtMv_formM_mix {d : Eig12 ℝ} (ho : Orthonormal d) (x : Vec3 ℝ) :
    ∃ a0 a1 a2 : ℝ, 0 ≤ a0 ∧ 0 ≤ a1 ∧ 0 ≤ a2 ∧ a0 + a1 + a2 = x.x * x.x + x.y * x.y + x.z * x.z ∧
      vtMv (formM d) x = d.l0 * a0 + d.l1 * a1 + d.l2 * a2 :=
  ⟨_, _, _, sq_nonneg _, sq_nonneg _, sq_nonneg _, ho.parseval x, vtMv_formM d x⟩

theorem IsEigSys.vtMv_vec0 {d : Eig12 ℝ} {m : M6 ℝ} (he : IsEigSys d m) : vtMv m ⟨d.x0, d.y0, d.z0⟩ = d.l0 := by
  obtain ⟨ho, rfl⟩ := he
  rw [vtMv_formM]
  have e1 : d.x1 * d.x0 + d.y1 * d.y0 + d.z1 * d.z0 = 0 := by linear_combination ho.p01
  have e2 : d.x2 * d.x0 + d.y2 * d.y0 + d.z2 * d.z0 = 0 := by linear_combination ho.p02
  simp only [ho.n0, e1, e2]; ring

theorem Vec3.normSq_pos {x : Vec3 ℝ} (hx : x.x ≠ 0 ∨ x.y ≠ 0 ∨ x.z ≠ 0) :
    0 < x.x * x.x + x.y * x.y + x.z * x.z := by
  rcases hx with h | h | h <;>
    linarith [mul_self_pos.mpr h, mul_self_nonneg x.x, mul_self_nonneg x.y, mul_self_nonneg x.z]

theorem lt_weighted_sum {t l0 l1 l2 a b c : ℝ} (h0 : t < l0) (h1 : t < l1) (h2 : t < l2)
    (ha : 0 ≤ a) (hb : 0 ≤ b) (hc : 0 ≤ c) (hs : 0 < a + b + c) :
    t * (a + b + c) < l0 * a + l1 * b + l2 * c := by
  -- every value `l_k` exceeds `t` by at least the smallest margin `μ > 0`
  obtain ⟨μ, hμ, m0, m1, m2⟩ : ∃ μ, 0 < μ ∧ μ ≤ l0 - t ∧ μ ≤ l1 - t ∧ μ ≤ l2 - t :=
    ⟨min (l0 - t) (min (l1 - t) (l2 - t)), lt_min (sub_pos.mpr h0) (lt_min (sub_pos.mpr h1) (sub_pos.mpr h2)),
      min_le_left _ _, (min_le_right _ _).trans (min_le_left _ _), (min_le_right _ _).trans (min_le_right _ _)⟩
  linarith [mul_le_mul_of_nonneg_right m0 ha, mul_le_mul_of_nonneg_right m1 hb, mul_le_mul_of_nonneg_right m2 hc,
    mul_pos hμ hs]

theorem formM_lower (d : Eig12 ℝ) (ho : Orthonormal d) {t : ℝ} (h0 : t < d.l0) (h1 : t < d.l1) (h2 : t < d.l2)
    (x : Vec3 ℝ) (hx : x.x ≠ 0 ∨ x.y ≠ 0 ∨ x.z ≠ 0) :
    t * (x.x * x.x + x.y * x.y + x.z * x.z) < vtMv (formM d) x := by
  obtain ⟨a0, a1, a2, p0, p1, p2, hs, hv⟩ := ho.vtMv_formM_mix x
  rw [hv, ← hs]
  exact lt_weighted_sum h0 h1 h2 p0 p1 p2 (by rw [hs]; exact Vec3.normSq_pos hx)

theorem formM_bounds {d : Eig12 ℝ} (ho : Orthonormal d) {lo hi : ℝ} (h0 : lo ≤ d.l0 ∧ d.l0 ≤ hi)
    (h1 : lo ≤ d.l1 ∧ d.l1 ≤ hi) (h2 : lo ≤ d.l2 ∧ d.l2 ≤ hi) (x : Vec3 ℝ) :
    lo * (x.x * x.x + x.y * x.y + x.z * x.z) ≤ vtMv (formM d) x ∧
      vtMv (formM d) x ≤ hi * (x.x * x.x + x.y * x.y + x.z * x.z) := by
  obtain ⟨a0, a1, a2, p0, p1, p2, hs, hv⟩ := ho.vtMv_formM_mix x
  rw [hv, ← hs]
  constructor
  · linarith [mul_le_mul_of_nonneg_right h0.1 p0, mul_le_mul_of_nonneg_right h1.1 p1,
      mul_le_mul_of_nonneg_right h2.1 p2]
  · linarith [mul_le_mul_of_nonneg_right h0.2 p0, mul_le_mul_of_nonneg_right h1.2 p1,
      mul_le_mul_of_nonneg_right h2.2 p2]

theorem vtMv_formM_pos (d : Eig12 ℝ) (ho : Orthonormal d) (hpos : 0 < d.l0 ∧ 0 < d.l1 ∧ 0 < d.l2)
    (x : Vec3 ℝ) (hx : x.x ≠ 0 ∨ x.y ≠ 0 ∨ x.z ≠ 0) : 0 < vtMv (formM d) x := by
  have h := formM_lower d ho hpos.1 hpos.2.1 hpos.2.2 x hx
  rwa [zero_mul] at h

theorem formM_swap01 (d : Eig12 ℝ) : formM (swap01 d) = formM d := by
  apply M6.ext' <;> simp only [formM, swap01, mul_eq, add_eq] <;> ring

theorem formM_swap02 (d : Eig12 ℝ) : formM (swap02 d) = formM d := by
  apply M6.ext' <;> simp only [formM, swap02, mul_eq, add_eq] <;> ring

theorem formM_swap12 (d : Eig12 ℝ) : formM (swap12 d) = formM d := by
  apply M6.ext' <;> simp only [formM, swap12, mul_eq, add_eq] <;> ring

theorem Orthonormal.swap01 {d : Eig12 ℝ} (h : Orthonormal d) : Orthonormal (swap01 d) :=
  ⟨h.n1, h.n0, h.n2, by simp only [Matrix.swap01]; linear_combination h.p01, h.p12, h.p02⟩

theorem Orthonormal.swap02 {d : Eig12 ℝ} (h : Orthonormal d) : Orthonormal (swap02 d) := by
  -- the three products come out with their factors in the other order
  refine ⟨h.n2, h.n1, h.n0, ?_, ?_, ?_⟩ <;> simp only [Matrix.swap02]
  · linear_combination h.p12
  · linear_combination h.p02
  · linear_combination h.p01

theorem Orthonormal.swap12 {d : Eig12 ℝ} (h : Orthonormal d) : Orthonormal (swap12 d) :=
  ⟨h.n0, h.n2, h.n1, h.p02, h.p01, by simp only [Matrix.swap12]; linear_combination h.p12⟩

theorem IsEigSys.swap01 {d : Eig12 ℝ} {m : M6 ℝ} (h : IsEigSys d m) : IsEigSys (Matrix.swap01 d) m :=
  ⟨h.orth.swap01, (formM_swap01 d).trans h.form⟩
theorem IsEigSys.swap02 {d : Eig12 ℝ} {m : M6 ℝ} (h : IsEigSys d m) : IsEigSys (Matrix.swap02 d) m :=
  ⟨h.orth.swap02, (formM_swap02 d).trans h.form⟩
theorem IsEigSys.swap12 {d : Eig12 ℝ} {m : M6 ℝ} (h : IsEigSys d m) : IsEigSys (Matrix.swap12 d) m :=
  ⟨h.orth.swap12, (formM_swap12 d).trans h.form⟩

theorem logM_of {m : M6 ℝ} {d : Eig12 ℝ} (h : diagM m = .ok d) : logM m = .ok (formM (mapEig Real.log d)) := by
  unfold logM; rw [h]; rfl

theorem expM_of {m : M6 ℝ} {d : Eig12 ℝ} (h : diagM m = .ok d) : expM m = .ok (formM (mapEig Real.exp d)) := by
  unfold expM; rw [h]; rfl

theorem sqrtM_of {m : M6 ℝ} {d : Eig12 ℝ} (h : diagM m = .ok d) (h0 : 0 ≤ d.l0) (h1 : 0 ≤ d.l1) (h2 : 0 ≤ d.l2) :
    sqrtM m = sqrtTail d := by
  unfold sqrtM; rw [h]
  have hg : (Scalar.lt d.l0 Scalar.zero || Scalar.lt d.l1 Scalar.zero || Scalar.lt d.l2 Scalar.zero) = false := by
    rw [Bool.or_eq_false_iff, Bool.or_eq_false_iff, lt_false_iff, lt_false_iff, lt_false_iff, zero_eq]
    exact ⟨⟨h0, h1⟩, h2⟩
  simp only [hg, Bool.false_eq_true, if_false]

theorem sqrtAbsM_of {m : M6 ℝ} {d : Eig12 ℝ} (h : diagM m = .ok d) : sqrtAbsM m = sqrtTail (mapEig Scalar.cabs d) := by
  unfold sqrtAbsM; rw [h]

theorem intersect_of {m1 s is : M6 ℝ} (hs : sqrtM m1 = .ok (s, is)) (m2 : M6 ℝ) :
    intersect m1 m2 = combine (fun x => Scalar.cmax Scalar.one x) s is m2 := by
  unfold intersect; rw [hs]

theorem bound_of {m1 s is : M6 ℝ} (hs : sqrtAbsM m1 = .ok (s, is)) (m2 : M6 ℝ) :
    bound m1 m2 = combine (fun x => Scalar.cmin Scalar.one x) s is m2 := by
  unfold bound; rw [hs]

theorem combine_of {is m2 : M6 ℝ} {d2 : Eig12 ℝ} (h2 : diagM (multM0M1M0 is m2) = .ok d2) (clamp : ℝ → ℝ) (s : M6 ℝ) :
    combine clamp s is m2 = .ok (multM0M1M0 s (formM (mapEig clamp d2))) := by
  unfold combine; dsimp only; rw [h2]

theorem sqrtAbsM_eq_sqrtM (m : M6 ℝ) (d : Eig12 ℝ) (h1 : diagM m = .ok d)
    (hnn : 0 ≤ d.l0 ∧ 0 ≤ d.l1 ∧ 0 ≤ d.l2) : sqrtAbsM m = sqrtM m := by
  rw [sqrtAbsM_of h1, sqrtM_of h1 hnn.1 hnn.2.1 hnn.2.2,
    mapEig_eq_self d Scalar.cabs (by rw [cabs_eq]; exact abs_of_nonneg hnn.1)
      (by rw [cabs_eq]; exact abs_of_nonneg hnn.2.1) (by rw [cabs_eq]; exact abs_of_nonneg hnn.2.2)]

theorem formM_diag (a b c : ℝ) : formM (⟨a, b, c, 1, 0, 0, 0, 1, 0, 0, 0, 1⟩ : Eig12 ℝ) = ⟨a, 0, 0, b, 0, c⟩ := by
  apply M6.ext' <;> simp only [formM, mul_eq, add_eq] <;> ring

theorem isEigSys_diag (a b c : ℝ) : IsEigSys ⟨a, b, c, 1, 0, 0, 0, 1, 0, 0, 0, 1⟩ (⟨a, 0, 0, b, 0, c⟩ : M6 ℝ) :=
  ⟨orthonormal_id a b c, formM_diag a b c⟩

theorem multM0M1M0_diag (a b c x y z : ℝ) :
    multM0M1M0 (⟨a, 0, 0, b, 0, c⟩ : M6 ℝ) ⟨x, 0, 0, y, 0, z⟩ = ⟨a * x * a, 0, 0, b * y * b, 0, c * z * c⟩ := by
  apply M6.ext' <;> simp only [multM0M1M0, multM, mul_eq, add_eq] <;> ring

end Refine.Model.Matrix
