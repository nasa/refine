import Refine.Lemmas.UgridRoundtrip
import Refine.Lemmas.UgridLayout

/-! the parallel UGRID reader (`partRead`) on a laid-out file: seeking to the generated offsets and reading in chunks of
    any size returns the cells of the file -/
namespace Refine.Lemmas.Ugrid
open Refine.Gen Refine.Model.Endian Refine.Model.Ugrid
open Refine.Model.Meshb (Bytes Status Vertex P Cfg takeN encLE decLE toSigned ofSigned int32 wrap32 adjAdd adjAddAll)
open Refine.Lemmas.Codec (takeN_append int32_iff toSigned32_ofSigned32 toSigned_ofSigned ofSigned_lt wrap32_of_int32)

theorem toSigned_word (fl : Flavor) {x : Int} (h : int32 x) :
    toSigned (8 * fl.ibytes) (decWord fl fl.ibytes (Refine.Model.Ugrid.encInt fl x)) = x := by
  unfold Refine.Model.Ugrid.encInt Flavor.ibytes
  by_cases hf : fl.fat
  · simp only [hf, if_true]
    rw [decWord_encWord fl (Or.inr rfl)]
    have h1 : ofSigned 64 x % 256 ^ 8 = ofSigned 64 x := ofSigned_mod_256 8 x
    rw [h1]
    have := (int32_iff x).1 h
    exact toSigned_ofSigned (bits := 64) (by norm_num) (by norm_num at this ⊢; omega)
  · simp only [hf, Bool.false_eq_true, if_false]
    rw [decWord_encWord fl (Or.inl rfl)]
    have h1 : ofSigned 32 x % 256 ^ 4 = ofSigned 32 x := ofSigned_mod_256 4 x
    rw [h1]
    exact toSigned32_ofSigned32 h

theorem wordsOf_flatMap (fl : Flavor) (xs : List Int) (h : ∀ x ∈ xs, int32 x) :
    wordsOf fl fl.ibytes xs.length (xs.flatMap (Refine.Model.Ugrid.encInt fl)) = xs := by
  induction xs with
  | nil => simp [wordsOf]
  | cons x xs ih =>
    simp only [List.length_cons, List.flatMap_cons, wordsOf]
    have hl := encInt_length fl x
    rw [List.take_left' hl, List.drop_left' hl, toSigned_word fl (h x (by simp)),
      ih (fun y hy => h y (by simp [hy]))]

theorem wordsOf_secConn (fl : Flavor) (k : Kind) {n : Nat} (hn : n < 2 ^ 27) (cs : List (List Int))
    (h : ∀ c ∈ cs, cellOk k n c = true) :
    wordsOf fl fl.ibytes (cs.length * k.nodePer) (secConn fl k cs) = (cs.map (connOf k)).flatten := by
  have := wordsOf_flatMap fl _ fun x hx => (flatten_connOf_idx k hn cs h x hx).1
  rwa [flatten_connOf_length k cs h, Nat.mul_comm, ← secConn_eq] at this

theorem wordsOf_secTags (fl : Flavor) {k : Kind} (ht : k.hasTag = true) {n : Nat} (cs : List (List Int))
    (h : ∀ c ∈ cs, cellOk k n c = true) :
    wordsOf fl fl.ibytes cs.length (secTags fl k cs) = cs.map (tagOf k) := by
  have := wordsOf_flatMap fl (cs.map (tagOf k)) (map_tagOf_int32 ht h)
  rwa [List.length_map, ← secTags_eq] at this

theorem zip_tags (k : Kind) (ht : k.hasTag = true) {n : Nat} (X : List (List Int)) (h : ∀ c ∈ X, cellOk k n c = true) :
    ((X.map (fun c => c.take k.nodePer)).zip (X.map (tagOf k))).map (fun p => p.1 ++ [wrap32 p.2]) = X := by
  rw [List.zip_map', List.map_map]
  exact Refine.ListFacts.map_eq_self fun c hc => by
    simp only [Function.comp, wrap32_of_int32 (tagOf_int32 ht (h c hc)), cell_decomp ht (h c hc)]

theorem flatten_conn_sub (k : Kind) (X : List (List Int)) :
    ((X.map (connOf k)).flatten).map (· - 1) = (X.map (fun c => c.take k.nodePer)).flatten := by
  rw [List.map_flatten, List.map_map]
  exact congrArg (List.flatten <| X.map ·) (funext (Refine.Lemmas.Formats.conn1_sub k.nodePer))

/-- the position `ref_part_bin_ugrid_pack_cell` seeks to, in the form the section sizes have: `r` rows of `per`
    integers behind `co` -/
theorem seekC_eq (fl : Flavor) (co fo : Int) (per r : Nat) :
    (if fl.fat then UgridOffsets.seek_conn_fat co fo (UgridOffsets.pack_ibyte fl.fat) per r
     else UgridOffsets.seek_conn_thin co fo (UgridOffsets.pack_ibyte fl.fat) per r) =
      co + ((r * (per * fl.ibytes) : Nat) : Int) := by
  rw [pack_ibyte_eq]
  unfold UgridOffsets.seek_conn_fat UgridOffsets.seek_conn_thin
  split <;> (push_cast; ring)

theorem seekT_eq (fl : Flavor) (co fo : Int) (per r : Nat) :
    (if fl.fat then UgridOffsets.seek_tag_fat co fo (UgridOffsets.pack_ibyte fl.fat) per r
     else UgridOffsets.seek_tag_thin co fo (UgridOffsets.pack_ibyte fl.fat) per r) =
      fo + ((r * fl.ibytes : Nat) : Int) := by
  rw [pack_ibyte_eq]
  unfold UgridOffsets.seek_tag_fat UgridOffsets.seek_tag_thin
  split <;> (push_cast; ring)

theorem itemsC_eq (fl : Flavor) (s per : Nat) :
    (if fl.fat then UgridOffsets.items_conn_fat (s : Int) (per : Int)
     else UgridOffsets.items_conn_thin (s : Int) (per : Int)).toNat = s * per := by
  unfold UgridOffsets.items_conn_fat UgridOffsets.items_conn_thin
  split <;> (rw [← Int.natCast_mul]; exact Int.toNat_natCast _)

theorem itemsT_eq (fl : Flavor) (s per : Nat) :
    (if fl.fat then UgridOffsets.items_tag_fat (s : Int) (per : Int)
     else UgridOffsets.items_tag_thin (s : Int) (per : Int)).toNat = s := by
  unfold UgridOffsets.items_tag_fat UgridOffsets.items_tag_thin
  split <;> exact Int.toNat_natCast _

/-- `ref_part_bin_ugrid_pack_cell` on a file that has the connectivity rows of the cells `X` at
    `conn_offset + ibyte·node_per·ncell_read` and (boundary faces) their tags at `faceid_offset + ibyte·ncell_read` -/
theorem packCell_secConn (fl : Flavor) (k : Kind) {n : Nat} (hn : n < 2 ^ 27) (X : List (List Int))
    (hX : ∀ c ∈ X, cellOk k n c = true) (bs : Bytes) (co fo : Int) (r : Nat)
    (h1 : At bs (co + ((r * (k.nodePer * fl.ibytes) : Nat) : Int)) (secConn fl k X))
    (h2 : k.hasTag = true → At bs (fo + ((r * fl.ibytes : Nat) : Int)) (secTags fl k X)) :
    packCell fl bs k co fo X.length r = .ok X := by
  unfold packCell
  simp only [seekC_eq, seekT_eq, itemsC_eq, itemsT_eq]
  -- the connectivity block: read, decoded, none of its words the most negative one, cut into rows
  rw [h1.pread (by rw [secConn_length fl k X hX]; ring)]
  simp only
  rw [wordsOf_secConn fl k hn X hX]
  have hany : ((X.map (connOf k)).flatten).any (fun x => decide (x = -(2 ^ (8 * fl.ibytes - 1) : Int))) = false :=
    List.any_eq_false.2 fun x hx => by
      have := (flatten_connOf_idx k hn X hX x hx).2.1
      have hp : (0 : Int) < 2 ^ (8 * fl.ibytes - 1) := Int.pow_pos (by decide)
      simp only [decide_eq_true_eq]
      omega
  simp only [hany, Bool.false_eq_true, if_false]
  rw [flatten_conn_sub, rows_map_flatten k.nodePer _ X fun c hc => take_length_of_cellOk (hX c hc)]
  by_cases ht : k.hasTag = true
  · -- boundary faces: the tag block, zipped to the rows
    simp only [ht, if_true]
    rw [(h2 ht).pread (by rw [secTags_length]; ring)]
    simp only
    rw [wordsOf_secTags fl ht X hX, zip_tags k ht X hX]
  · have ht' : k.hasTag = false := by simpa using ht
    simp only [ht', Bool.false_eq_true, if_false]
    rw [(List.map_congr_left fun c _ => by simp [stub, ht']).trans (stub_noTag k ht' X hX)]

/-- `X.all (partIndexOk k n)` is the text readers' `cellsInRange n k.nodePer X` -/
theorem partIndexOk_of_cellOk {k : Kind} {n : Nat} {X : List (List Int)} (h : ∀ c ∈ X, cellOk k n c = true) :
    X.all (partIndexOk k (n : Int)) = true :=
  Refine.Lemmas.Formats.cellsInRange_of (per := k.nodePer) fun c hc => nodesIn_of_cellOk (h c hc)

/-- the chunk loop of ref_part_bin_ugrid_cell from cell `r` on, for every chunk size ≥ 1, on any file that has the
    connectivity rows of `cs` at `co` and (boundary faces) their tags at `fo`: the remaining cells of the section,
    whatever the chunking -/
theorem partCellLoop_secConn (cfg : Cfg) (fl : Flavor) (k : Kind) {n : Nat} (hn : n < 2 ^ 27) (cs : List (List Int))
    (hcs : ∀ c ∈ cs, cellOk k n c = true) (bs : Bytes) (co fo : Int)
    (hco : At bs co (secConn fl k cs)) (hfo : k.hasTag = true → At bs fo (secTags fl k cs))
    (chunk : Nat) (hch : 1 ≤ chunk) (fuel r : Nat) (hf : cs.length - r ≤ fuel) :
    partCellLoop cfg fl bs k (n : Int) co fo chunk fuel cs.length r = .ok (cs.drop r) := by
  induction fuel generalizing r with
  | zero =>
    simp only [partCellLoop, List.drop_eq_nil_of_le (by omega : cs.length ≤ r)]
  | succ fuel ih =>
    simp only [partCellLoop]
    by_cases hdone : cs.length ≤ r
    · simp [hdone, List.drop_eq_nil_of_le hdone]
    · simp only [hdone, if_false]
      set s := min chunk (cs.length - r) with hs
      have hXlen : ((cs.drop r).take s).length = s := by simp; omega
      have hXok : ∀ c ∈ (cs.drop r).take s, cellOk k n c = true :=
        fun c hc => hcs c (List.mem_of_mem_drop (List.mem_of_mem_take hc))
      have htk : ∀ c ∈ cs.take r, cellOk k n c = true := fun c hc => hcs c (List.mem_of_mem_take hc)
      have hlr : (cs.take r).length = r := by simp; omega
      -- the chunk stands `r` rows into the connectivity section and `r` tags into the tag section
      have hpk := packCell_secConn fl k hn _ hXok bs co fo r
        (by have := hco.rows (secConn fl k) (secConn_append fl k) cs r s
            rwa [secConn_length fl k _ htk, hlr] at this)
        (fun ht => by
          have := (hfo ht).rows (secTags fl k) (secTags_append fl k) cs r s
          rwa [secTags_length, hlr] at this)
      rw [hXlen] at hpk
      rw [hpk]
      simp only
      rw [if_neg (by rw [partIndexOk_of_cellOk hXok]; simp), ih (r + s) (by omega)]
      simp only
      rw [← List.drop_drop, List.take_append_drop]

end Refine.Lemmas.Ugrid
