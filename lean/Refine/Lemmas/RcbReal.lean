import Refine.Lemmas.Rcb
import Refine.Lemmas.ScalarReal
import Refine.Lemmas.CommSelect
import Refine.Lemmas.FoldMin
import Mathlib.Tactic.Linarith
import Mathlib.Data.List.Perm.Basic

/-!
  The native RCB in exact arithmetic (`α := ℝ`).
  `ref_migrate_split_ratio`, the sizes of the two halves of one cut, and the partition as a function of the multiset
  of coordinates: `ref_search_selection`, `ref_migrate_split_dir` and the record count only see the multiset of the
  transformed coordinates of the communicator, so the parallel recursion computes `serialPart`, the serial bisection
  of the gathered points.
  The interpretation of `sin / cos / acos / (REF_LONG)` (`RcbScalar ℝ`) is arbitrary, except in `cutPos_target`, which
  is about the cast the C has: truncation toward zero (`floorRcb`).
-/
namespace Refine.Lemmas.Rcb
open Refine Refine.Model.Comm Refine.Model.Rcb Refine.Model.Geom Refine.Lemmas.Comm Refine.ScalarReal Refine.FoldMin

theorem splitRatio_real (n : Nat) (hn : n ≠ 0) :
    splitRatio (α := ℝ) (n : Int) = (Status.ok, ((n / 2 : Nat) : ℝ) / (n : ℝ)) := by
  unfold splitRatio
  simp only [show Int.tdiv (n : Int) 2 = ((n / 2 : Nat) : Int) from (Int.ofNat_tdiv n 2).symm]
  have hdiv : Scalar.divisible ((Scalar.ofInt ((n / 2 : Nat) : Int) : ℝ)) (Scalar.ofInt (n : Int)) = true := by
    rw [divisible_iff, ofInt_eq, ofInt_eq]
    have h1 : ((n / 2 : Nat) : ℝ) ≤ (n : ℝ) := Nat.cast_le.mpr (Nat.div_le_self n 2)
    have h2 : (0 : ℝ) < (n : ℝ) := Nat.cast_pos.mpr (Nat.pos_of_ne_zero hn)
    have h4 : (1 : ℝ) < (10 : ℝ) ^ (20 : ℤ) := by norm_num
    rw [Int.cast_natCast, Int.cast_natCast, abs_of_nonneg (Nat.cast_nonneg _), abs_of_pos (by positivity), one_mul]
    exact h1.trans_lt (lt_mul_of_one_lt_left h2 h4)
  rw [if_pos hdiv, div_eq, ofInt_eq, ofInt_eq, Int.cast_natCast, Int.cast_natCast]

theorem splitRatio_zero : (splitRatio (α := ℝ) 0).1 = Status.div_zero := by
  unfold splitRatio
  have : Scalar.divisible ((Scalar.ofInt (Int.tdiv 0 2) : ℝ)) (Scalar.ofInt 0) = false := by
    rw [Bool.eq_false_iff, ne_eq, divisible_iff]
    simp
  simp only [this]
  rfl

/-- the hypothesis `hst` of `rcbDirection_spec` holds in exact arithmetic -/
theorem splitRatio_ok_real : ∀ n : Nat, 2 ≤ n → (splitRatio (α := ℝ) (n : Int)).1 = Status.ok := by
  intro n hn
  rw [splitRatio_real n (by omega)]

/-- number of entries equal to `v` -/
noncomputable def ties (v : ℝ) (xs : List ℝ) : Int := ((xs.filter fun x => decide (x = v)).length : Int)

/-- the copy-loop test on a coordinate -/
noncomputable def outerB (v0 v1 : ℝ) (x : ℝ) : Bool := decide (x < v0) || decide (v1 < x)

/-- counting along a partition of a predicate into two exclusive ones -/
theorem filter_length_split {β : Type} (p q r : β → Bool) (h : ∀ x, p x = (q x || r x) ∧ (q x && r x) = false)
    (xs : List β) : (xs.filter p).length = (xs.filter q).length + (xs.filter r).length := by
  rw [← List.length_append, (Refine.ListFacts.filter_append_disjoint q r xs fun a _ hqr => by
    have := (h a).2
    rw [hqr.1, hqr.2] at this
    cases this).length_eq]
  exact congrArg _ (List.filter_congr fun x _ => (h x).1)

theorem countLe_eq_lt_add_ties (v : ℝ) (xs : List ℝ) : countLeR v xs = countLt v xs + ties v xs := by
  unfold countLeR countLt ties
  rw [filter_length_split _ (fun x => decide (x < v)) (fun x => decide (x = v)) _ xs, Int.natCast_add]
  intro x
  rw [← Bool.decide_or, ← Bool.decide_and]
  exact ⟨decide_eq_decide.mpr le_iff_lt_or_eq, decide_eq_false fun h => h.1.ne h.2⟩

theorem outer_length (v0 v1 : ℝ) (hv : v0 ≤ v1) (xs : List ℝ) :
    ((xs.filter (outerB v0 v1)).length : Int) = countLt v0 xs + ((xs.length : Int) - countLeR v1 xs) := by
  unfold countLeR countLt
  have h1 := filter_length_split (outerB v0 v1) (fun x => decide (x < v0)) (fun x => decide (v1 < x))
    (fun x => ⟨rfl, by rw [← Bool.decide_and]; exact decide_eq_false fun h => (h.1.trans_le hv).not_gt h.2⟩) xs
  have h2 := filter_length_split (fun _ => true) (fun x => decide (x ≤ v1)) (fun x => decide (v1 < x))
    (fun x => by
      rw [← Bool.decide_or, ← Bool.decide_and]
      exact ⟨(decide_eq_true (le_or_gt x v1)).symm, decide_eq_false fun h => h.1.not_gt h.2⟩) xs
  rw [List.filter_true] at h2
  omega

theorem isKth_mono (xs : List ℝ) (p0 p1 : Int) (v0 v1 : ℝ) (h0 : IsKth xs p0 v0) (h1 : IsKth xs p1 v1)
    (hp : p0 ≤ p1) : v0 ≤ v1 := by
  by_contra hlt
  have hlt : v1 < v0 := not_le.mp hlt
  have : countLeR v1 xs ≤ countLt v0 xs := by
    unfold countLeR countLt
    have := filter_length_mono (fun x => decide (x ≤ v1)) (fun x => decide (x < v0)) xs
      (by intro x hx; simp only [decide_eq_true_eq] at hx ⊢; exact lt_of_le_of_lt hx hlt)
    exact_mod_cast this
  have a := h0.1
  have b := h1.2
  omega

/-- with exact `k`-th values at the two positions the outer half has between
    `p0 + (N-1-p1) - (ties(v0)-1) - (ties(v1)-1)` and `p0 + (N-1-p1)` entries -/
theorem outer_count (xs : List ℝ) (p0 p1 : Int) (v0 v1 : ℝ) (h0 : IsKth xs p0 v0) (h1 : IsKth xs p1 v1)
    (hp : p0 ≤ p1) :
    p0 + ((xs.length : Int) - 1 - p1) - (ties v0 xs - 1) - (ties v1 xs - 1) ≤ ((xs.filter (outerB v0 v1)).length : Int)
      ∧ ((xs.filter (outerB v0 v1)).length : Int) ≤ p0 + ((xs.length : Int) - 1 - p1) := by
  have hv := isKth_mono xs p0 p1 v0 v1 h0 h1 hp
  rw [outer_length v0 v1 hv xs]
  have e0 := countLe_eq_lt_add_ties v0 xs
  have e1 := countLe_eq_lt_add_ties v1 xs
  have a0 := h0.1
  have b0 := h0.2
  have a1 := h1.1
  have b1 := h1.2
  constructor <;> omega

/-- the coordinates the copy loop tests: `x[i] = transformed[dir]` of every record of the communicator -/
noncomputable def xsOf (t : M9 ℝ) (d : Nat) (w : World (List (Rec ℝ))) : List ℝ :=
  w.flatten.map fun r => coordOf d (ax t r.p)

theorem inOuter_real (t : M9 ℝ) (c : Cut ℝ) (r : Rec ℝ) :
    inOuter t c r = outerB c.v0 c.v1 (coordOf c.dir (ax t r.p)) := rfl

theorem half0_length (t : M9 ℝ) (c : Cut ℝ) (w : World (List (Rec ℝ))) :
    ((w.map (splitLocal t c)).map (·.1)).flatten.length = ((xsOf t c.dir w).filter (outerB c.v0 c.v1)).length := by
  rw [halves_fst_flatten]
  unfold xsOf
  rw [List.filter_map, List.length_map]
  rfl

/-- libm and the `(REF_LONG)` cast (truncation toward zero) over ℝ -/
@[reducible] noncomputable def floorRcb : RcbScalar ℝ where
  sin := Real.sin
  cos := Real.cos
  acos := Real.arccos
  truncInt := fun x => if 0 ≤ x then ⌊x⌋ else ⌈x⌉

/-- the positions `(REF_LONG)(total*ratio0)`, `(REF_LONG)(total*ratio1)` for a non-negative seed, `npart ≥ 2` and `N ≥ 0`
    records: `0 ≤ p0 ≤ p1 ≤ N`, and the target size `p0 + (N-1-p1)` of half 0 lies strictly between `N*ratio - 2` and
    `N*ratio`, `ratio = (npart/2)/npart` -/
theorem cutPos_target (seed : Int) (hs : 0 ≤ seed) (npart : Nat) (h2 : 2 ≤ npart) (N : Int) (hN : 0 ≤ N) :
    let p := @cutPos ℝ _ floorRcb seed npart N
    let r : ℝ := ((npart / 2 : Nat) : ℝ) / (npart : ℝ)
    0 ≤ p.1 ∧ p.1 ≤ p.2 ∧ p.2 ≤ N
      ∧ (N : ℝ) * r - 2 < ((p.1 + (N - 1 - p.2) : Int) : ℝ)
      ∧ ((p.1 + (N - 1 - p.2) : Int) : ℝ) < (N : ℝ) * r := by
  intro p r
  have hnp : (0 : ℝ) < (npart : ℝ) := Nat.cast_pos.mpr (by omega)
  have hr0 : 0 ≤ r := div_nonneg (Nat.cast_nonneg _) hnp.le
  have hr1 : r ≤ 1 := div_le_one_of_le₀ (Nat.cast_le.mpr (Nat.div_le_self _ _)) hnp.le
  set s : ℝ := ((Int.tmod seed 3 : Int) : ℝ) / 3 with hsdef
  have hs0 : 0 ≤ s := div_nonneg (Int.cast_nonneg (Int.tmod_nonneg 3 hs)) (by norm_num)
  have hs1 : s ≤ 1 :=
    div_le_one_of_le₀ (by exact_mod_cast (Int.tmod_lt_of_pos seed (by decide : (0 : Int) < 3)).le) (by norm_num)
  have hNr : (0 : ℝ) ≤ (N : ℝ) := Int.cast_nonneg hN
  have hrs : r * s ≤ r := mul_le_of_le_one_right hr0 hs1
  have hrs0 : 0 ≤ r * s := mul_nonneg hr0 hs0
  have e1 : (0 : ℝ) ≤ (N : ℝ) * (r * s) := mul_nonneg hNr hrs0
  have e2 : (0 : ℝ) ≤ (N : ℝ) * (1 - (r - r * s)) := mul_nonneg hNr (sub_nonneg.mpr ((sub_le_self r hrs0).trans hr1))
  -- the two arguments of the cast differ by `N * (1 - ratio)`
  have hxy : (N : ℝ) * (1 - (r - r * s)) = (N : ℝ) * (r * s) + ((N : ℝ) - (N : ℝ) * r) := by ring
  have hd : (0 : ℝ) ≤ (N : ℝ) - (N : ℝ) * r := sub_nonneg.mpr (mul_le_of_le_one_right hNr hr1)
  have hp : p = (⌊(N : ℝ) * (r * s)⌋, ⌊(N : ℝ) * (1 - (r - r * s))⌋) := by
    show @cutPos ℝ _ floorRcb seed npart N = _
    unfold cutPos ratioShift
    simp only [splitRatio_real npart (by omega), mul_eq, sub_eq, div_eq, ofInt_eq, Int.cast_ofNat, Int.cast_one]
    show (if 0 ≤ (N : ℝ) * (r * s) then ⌊(N : ℝ) * (r * s)⌋ else ⌈(N : ℝ) * (r * s)⌉,
      if 0 ≤ (N : ℝ) * (1 - (r - r * s)) then ⌊(N : ℝ) * (1 - (r - r * s))⌋ else ⌈(N : ℝ) * (1 - (r - r * s))⌉) = _
    rw [if_pos e1, if_pos e2]
  rw [hp]
  have a1 := Int.floor_le ((N : ℝ) * (r * s))
  have a2 := Int.lt_floor_add_one ((N : ℝ) * (r * s))
  have b1 := Int.floor_le ((N : ℝ) * (1 - (r - r * s)))
  have b2 := Int.lt_floor_add_one ((N : ℝ) * (1 - (r - r * s)))
  refine ⟨Int.floor_nonneg.mpr e1, Int.floor_le_floor (by rw [hxy]; exact le_add_of_nonneg_right hd), ?_, ?_, ?_⟩
  · have hle : (N : ℝ) * (1 - (r - r * s)) ≤ (N : ℝ) := mul_le_of_le_one_right hNr (sub_le_self 1 (sub_nonneg.mpr hrs))
    exact (Int.floor_le_floor hle).trans_eq (Int.floor_intCast N)
  · push_cast
    linarith only [a2, b1, hxy]
  · push_cast
    linarith only [a1, b2, hxy]

theorem worldMin_perm (u u' : World (List ℝ)) (h : u.flatten.Perm u'.flatten) : worldMin u = worldMin u' := by
  rw [worldMin_flatten u, worldMin_flatten u']
  exact h.foldl_eq BIG

theorem worldMax_perm (u u' : World (List ℝ)) (h : u.flatten.Perm u'.flatten) : worldMax u = worldMax u' := by
  rw [worldMax_flatten u, worldMax_flatten u']
  exact h.foldl_eq (-BIG)

theorem worldCountLe_perm (u u' : World (List ℝ)) (h : u.flatten.Perm u'.flatten) (mid : ℝ) :
    worldCountLe mid u = worldCountLe mid u' := by
  rw [worldCountLe_eq, worldCountLe_eq]
  unfold countLeR
  rw [(h.filter _).length_eq]

theorem bisect_congr (u u' : World (List ℝ)) (h : ∀ mid, worldCountLe mid u = worldCountLe mid u') (pos : Int)
    (k : Nat) (s : ℝ × ℝ × ℝ) : bisect u pos k s = bisect u' pos k s := by
  induction k generalizing s with
  | zero => rfl
  | succ k ih =>
    simp only [bisect]
    have : bisectStep u pos s = bisectStep u' pos s := by
      unfold bisectStep
      simp only [h]
    rw [this, ih]

theorem isum_lengths {β : Type} (u : List (List β)) : isum (u.map fun l => (l.length : Int)) = (u.flatten.length : Int) :=
  isum_countsI u

/-- `ref_search_selection` returns the same value on two communicators that hold the same multiset of numbers,
    however distributed and ordered -/
theorem selection_perm (u u' : World (List ℝ)) (h : u.flatten.Perm u'.flatten) (pos : Int) :
    selection u pos = selection u' pos := by
  unfold selection selectionState
  rw [isum_lengths, isum_lengths, h.length_eq, worldMin_perm u u' h, worldMax_perm u u' h,
    bisect_congr u u' (worldCountLe_perm u u' h)]

/-- what every rank holds, mapped entry by entry: permuted coordinates give permuted images -/
theorem perm_map_flatten {β γ δ : Type} (f : β → γ) (g : γ → δ) (u u' : List (List β))
    (h : (u.flatten.map f).Perm (u'.flatten.map f)) :
    (u.map fun l => l.map fun x => g (f x)).flatten.Perm (u'.map fun l => l.map fun x => g (f x)).flatten := by
  rw [← List.map_flatten, ← List.map_flatten]
  have := h.map g
  rw [List.map_map, List.map_map] at this
  exact this

theorem splitDirT_perm (u u' : World (List (V3 ℝ))) (h : u.flatten.Perm u'.flatten) : splitDirT u = splitDirT u' := by
  have hj : ∀ j : Nat, (u.map fun l => l.map (coordOf j)).flatten.Perm (u'.map fun l => l.map (coordOf j)).flatten :=
    fun j => perm_map_flatten id (coordOf j) u u' (by rw [List.map_id, List.map_id]; exact h)
  unfold splitDirT
  simp only [worldMin_perm _ _ (hj _), worldMax_perm _ _ (hj _)]

theorem inOuter_p (t : M9 ℝ) (c : Cut ℝ) (r r' : Rec ℝ) (h : r.p = r'.p) : inOuter t c r = inOuter t c r' := by
  unfold inOuter
  rw [h]

section Cut
variable [RcbScalar ℝ]

/-- the cut of one level (direction, `value0`, `value1`) is a function of the multiset of the coordinates held by
    the communicator (and of `t`, `seed`, `npart`, `dir`) -/
theorem cutOf_perm (t : M9 ℝ) (seed : Int) (npart : Nat) (dir : Int) (w w' : World (List (Rec ℝ)))
    (h : (w.flatten.map (·.p)).Perm (w'.flatten.map (·.p))) : cutOf t seed npart dir w = cutOf t seed npart dir w' := by
  have hdir : cutDir t dir w = cutDir t dir w' := by
    unfold cutDir
    rw [splitDirT_perm _ _ (perm_map_flatten (fun r : Rec ℝ => r.p) (ax t) w w' h)]
  have hco : ∀ d, (cutCoords t d w).flatten.Perm (cutCoords t d w').flatten := fun d =>
    perm_map_flatten (fun r : Rec ℝ => r.p) (fun p => coordOf d (ax t p)) w w' h
  have htot : isum (w.map fun l => (l.length : Int)) = isum (w'.map fun l => (l.length : Int)) := by
    rw [isum_lengths, isum_lengths]
    have := h.length_eq
    rw [List.length_map, List.length_map] at this
    rw [this]
  unfold cutOf
  simp only [hdir, htot]
  rw [selection_perm _ _ (hco _), selection_perm _ _ (hco _)]

/-- a bare point as a record: owner and slot play no part in a cut -/
def recOf (p : V3 ℝ) : Rec ℝ := ⟨p, 0, 0⟩

/-- The serial recursive bisection of a list of points, as a function: the part id of `p`.  A level cuts with `cutOf` on
    the one-rank communicator that holds all points; points outside the band go to the first `npart / 2` parts. -/
noncomputable def serialPart (t : M9 ℝ) (seed : Int) (twod : Bool) (npart : Nat) (offset dir : Int)
    (pts : List (V3 ℝ)) (p : V3 ℝ) : Int :=
  if _h : npart ≤ 1 then offset else
    let c := cutOf t seed npart dir [pts.map recOf]
    if inOuter t c (recOf p) then
      serialPart t seed twod (npart / 2) offset (nextDir c.dir twod) (pts.filter fun q => inOuter t c (recOf q)) p
    else
      serialPart t seed twod (npart - npart / 2) (offset + ((npart / 2 : Nat) : Int)) (nextDir c.dir twod)
        (pts.filter fun q => !inOuter t c (recOf q)) p
termination_by npart
decreasing_by all_goals omega

theorem serialPart_one (t : M9 ℝ) (seed : Int) (twod : Bool) (offset dir : Int) (pts : List (V3 ℝ)) (p : V3 ℝ) :
    serialPart t seed twod 1 offset dir pts p = offset := by
  rw [serialPart, dif_pos (Nat.le_refl 1)]

theorem cutOf_serial (t : M9 ℝ) (seed : Int) (npart : Nat) (dir : Int) (w : World (List (Rec ℝ))) (pts : List (V3 ℝ))
    (h : (w.flatten.map (·.p)).Perm pts) : cutOf t seed npart dir w = cutOf t seed npart dir [pts.map recOf] := by
  refine cutOf_perm t seed npart dir w _ ?_
  rw [List.flatten_singleton, List.map_map]
  exact h.trans (by rw [show ((fun r : Rec ℝ => r.p) ∘ recOf) = id from rfl, List.map_id])

theorem serialPart_perm (t : M9 ℝ) (seed : Int) (twod : Bool) (npart : Nat) (offset dir : Int)
    (pts pts' : List (V3 ℝ)) (h : pts.Perm pts') (p : V3 ℝ) :
    serialPart t seed twod npart offset dir pts p = serialPart t seed twod npart offset dir pts' p := by
  induction npart using Nat.strongRecOn generalizing offset dir pts pts' with
  | ind npart ih =>
    rw [serialPart, serialPart]
    split
    · rfl
    · have hc : cutOf t seed npart dir [pts.map recOf] = cutOf t seed npart dir [pts'.map recOf] :=
        cutOf_perm t seed npart dir _ _ (by simpa using h.map _)
      rw [hc]
      dsimp only
      split
      · exact ih _ (by omega) _ _ _ _ (h.filter _)
      · exact ih _ (by omega) _ _ _ _ (h.filter _)

/-- **The parallel recursion computes the serial partition** of the coordinates its communicator holds: whatever the
    number of ranks (`≥ npart`), however the records are spread over them and ordered on a rank, whatever their owner and
    slot labels, a record ends with the part id `serialPart` gives its coordinates.  No tie condition is needed: the copy
    loop tests a coordinate against the cut values only, never a position. -/
theorem rcbDirection_serial (t : M9 ℝ) (seed : Int) (twod : Bool) (npart : Nat) (offset dir : Int)
    (w : World (List (Rec ℝ))) (h1 : 1 ≤ npart) (hlen : npart ≤ w.length)
    (htot : (w.flatten.length : Int) ≤ INT_MAX) :
    ∃ leaves, rcbDirection t seed twod npart offset dir w = some leaves ∧
      ∀ a ∈ assignments leaves, a.2 = serialPart t seed twod npart offset dir (w.flatten.map (·.p)) a.1.p := by
  -- the motive also says where the records come from: that decides the side at the level above
  refine (rcbDirection_induction splitRatio_ok_real t seed twod
    (fun npart offset dir w leaves => ∀ a ∈ assignments leaves,
      a.1 ∈ w.flatten ∧ a.2 = serialPart t seed twod npart offset dir (w.flatten.map (·.p)) a.1.p)
    ?_ ?_ npart offset dir w h1 hlen htot).imp fun _ h => ⟨h.1, fun a ha => (h.2 a ha).2⟩
  · intro offset dir w _ a ha
    rw [serialPart_one]
    simp only [assignments, List.mem_flatMap, List.mem_map] at ha
    obtain ⟨_, ⟨l, hl, rfl⟩, r, hr, rfl⟩ := ha
    exact ⟨List.mem_flatten.mpr ⟨l, hl, hr⟩, rfl⟩
  · intro npart offset dir w s0 s1 r0 r1 h2 _ L ih0 ih1 a ha
    rw [cutOf_serial t seed npart dir w _ (List.Perm.refl _)] at L ih0 ih1
    -- a test that only reads the coordinates filters the coordinate list
    have sub : ∀ q : Rec ℝ → Bool, (∀ r, q r = q (recOf r.p)) →
        (w.flatten.filter q).map (·.p) = (w.flatten.map (·.p)).filter fun x => q (recOf x) := fun q hq => by
      rw [List.filter_map]
      exact congrArg _ (List.filter_congr fun r _ => hq r)
    rw [serialPart, dif_neg (by omega)]
    dsimp only
    rw [assignments_append] at ha
    rcases List.mem_append.mp ha with ha | ha
    · obtain ⟨hm, hs⟩ := ih0 a ha
      rw [L.flat0] at hm hs
      obtain ⟨hw, hside⟩ := List.mem_filter.mp hm
      rw [if_pos ((inOuter_p t _ (recOf a.1.p) a.1 rfl).trans hside), hs, sub _ fun r => inOuter_p t _ r (recOf r.p) rfl]
      exact ⟨hw, rfl⟩
    · obtain ⟨hm, hs⟩ := ih1 a ha
      rw [L.flat1] at hm hs
      obtain ⟨hw, hside⟩ := List.mem_filter.mp hm
      rw [if_neg (by rw [inOuter_p t _ (recOf a.1.p) a.1 rfl]; simpa using hside), hs,
        sub _ fun r => congrArg (!·) (inOuter_p t _ r (recOf r.p) rfl)]
      exact ⟨hw, rfl⟩

end Cut

end Refine.Lemmas.Rcb
