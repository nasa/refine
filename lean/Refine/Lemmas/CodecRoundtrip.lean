import Refine.Lemmas.CodecBodies
import Refine.Lemmas.CodecAccept

/-! `decodeMeshbWith cfg (encodeMeshb v m) = .ok m` for well-formed `m` (C08) -/
namespace Refine.Lemmas.Codec
open Refine.Model.Meshb Refine.Gen

/-- What `roundtrip_meshb_with` assumes of a mesh: non-empty, counts and ids are 32-bit, every cell has its
    `size_per` entries with vertex indices that `ref_adj_add` accepts, a 2-D mesh has z = 0 (the file
    does not store z), geometry records are grouped by type with distinct (node,type,id), type-0 records
    carry no parameters (the file stores none), and the file size fits the position field of version `v`. -/
structure WellFormed (cfg : Cfg) (v : Nat) (m : MeshFile) : Prop where
  version : v = 2 ∨ v = 3 ∨ v = 4
  nodes_pos : m.nodes ≠ []
  nodes_lt : m.nodes.length < 2 ^ 31
  twod_z : m.twod = true → ∀ p ∈ m.nodes, p.z = 0
  cells_len : m.cells.length = 16
  cells_lt : ∀ g ∈ m.cells, g.length < 2 ^ 31
  cell_ok : ∀ p ∈ cellInfos.zip m.cells, ∀ c ∈ p.2, CellOK cfg p.1 m.nodes.length c
  geoms_sorted : m.geoms = geomsOf 0 m.geoms ++ (geomsOf 1 m.geoms ++ geomsOf 2 m.geoms)
  geom_ok : ∀ g ∈ m.geoms, GeomOK cfg m.nodes.length g
  geoms_nodup : (m.geoms.map geomKey).Nodup
  geoms_lt : m.geoms.length < 2 ^ 31
  cad_lt : m.cad.length < 2 ^ 31
  cad_cap : m.cad.length ≤ cfg.allocCap
  size_fits : posFits v ((encodeMeshb v m).length : Int)

theorem encCell_length {cfg : Cfg} {v : Nat} {ci : CellInfo} {nnode : Int} {c : List Int}
    (hf : ci.isPyr = true → ci.nodePer = 5 ∧ ci.lastId = false) (hc : CellOK cfg ci nnode c) :
    (encCell v ci c).length = intSize v * (ci.nodePer + 1) := by
  rw [encCell_eq, Refine.ListFacts.length_flatMap_const (k := intSize v) (fun x _ => encInt_length v x),
    cellRecord_length hf hc.1]
  ring

theorem encGeom_length {v t : Nat} (ht : t ≤ 2) (g : GeomRec) :
    (encGeom v t g).length = intSize v * 2 + 8 * t + (if 0 < t then 8 else 0) := by
  rcases (by omega : t = 0 ∨ t = 1 ∨ t = 2) with rfl | rfl | rfl
  · simp [encGeom, encInt_length]; ring
  · simp [encGeom, encInt_length]; ring
  · simp [encGeom, encInt_length]; ring

theorem mem_master {v : Nat} {m : MeshFile} {e : Bool × Sec} : e ∈ master v m ↔
    e = (true, secDim v m) ∨ e = (!m.nodes.isEmpty, secVerts v m) ∨
    (∃ p ∈ cellInfos.zip m.cells, e = (!p.2.isEmpty, secCells v p.1 p.2)) ∨
    (∃ t, t ≤ 2 ∧ e = (!(geomsOf t m.geoms).isEmpty, secGeom v t (geomsOf t m.geoms))) ∨
    e = (!m.cad.isEmpty, secCad v m.cad) := by
  have h3 : ∀ t, t ∈ [0, 1, 2] ↔ t ≤ 2 := by
    intro t
    simp only [List.mem_cons, List.not_mem_nil, or_false]
    omega
  simp only [master, List.mem_append, List.mem_cons, List.mem_map, List.not_mem_nil, or_false, or_assoc, h3,
    eq_comm (b := e)]

theorem cellInfos_kw_lt : ∀ ci ∈ cellInfos, ci.kw < 156 := by decide

theorem master_exact {cfg : Cfg} {v : Nat} {m : MeshFile} (wf : WellFormed cfg v m) :
    ∀ e ∈ master v m, Sec.exact v e.2 ∧ e.2.kw < 156 := by
  intro e he
  rcases mem_master.1 he with rfl | rfl | ⟨p, hp, rfl⟩ | ⟨t, ht, rfl⟩ | rfl
  · simp [Sec.exact, secDim, le32_length]
  · refine ⟨?_, by simp [secVerts]⟩
    simp only [Sec.exact, secVerts, List.length_append, encInt_length]
    rw [Refine.ListFacts.length_flatMap_const (k := dim m * 8 + intSize v)]
    · unfold headerSize; ring
    · intro p _
      unfold encVertex dim
      cases m.twod <;> simp [encInt_length] <;> ring
  · refine ⟨?_, cellInfos_kw_lt _ (List.of_mem_zip hp).1⟩
    simp only [Sec.exact, secCells, List.length_append, encInt_length]
    rw [Refine.ListFacts.length_flatMap_const (k := intSize v * (p.1.nodePer + 1))
      (fun c hc => encCell_length (cellInfos_facts _ (List.of_mem_zip hp).1) (wf.cell_ok p hp c hc))]
    unfold headerSize; ring
  · refine ⟨?_, by simp [secGeom]; omega⟩
    simp only [Sec.exact, secGeom, List.length_append, encInt_length]
    rw [Refine.ListFacts.length_flatMap_const (fun g _ => encGeom_length ht g)]
    unfold headerSize; ring
  · refine ⟨?_, by simp [secCad]⟩
    simp only [Sec.exact, secCad, List.length_append, encInt_length]
    unfold headerSize; ring

theorem sections_mem {v : Nat} {m : MeshFile} {s : Sec} :
    s ∈ sections v m ↔ (true, s) ∈ master v m := by
  unfold sections
  simp only [List.mem_map, List.mem_filter]
  constructor
  · rintro ⟨e, ⟨he, hb⟩, rfl⟩
    obtain ⟨b, s'⟩ := e
    simp only at hb; subst hb; exact he
  · intro h; exact ⟨(true, s), ⟨h, rfl⟩, rfl⟩

theorem master_kws {cfg : Cfg} {v : Nat} {m : MeshFile} (wf : WellFormed cfg v m) :
    (master v m).map (fun e => e.2.kw) = [3, 4] ++ cellInfos.map CellInfo.kw ++ [40, 41, 42] ++ [126] := by
  unfold master
  simp only [List.map_append, List.map_cons, List.map_nil, List.map_map]
  congr 2
  · congr 1
    have : ((fun e : Bool × Sec => e.2.kw) ∘ fun p : CellInfo × List (List Int) => (!p.2.isEmpty, secCells v p.1 p.2)) =
        (fun ci : CellInfo => ci.kw) ∘ Prod.fst := by
      funext p; simp [secCells]
    rw [this, ← List.map_map, List.map_fst_zip]
    rw [wf.cells_len]; decide

theorem master_kws_nodup : ([3, 4] ++ cellInfos.map CellInfo.kw ++ [40, 41, 42] ++ [126] ++ [54]).Nodup := by decide

theorem sections_kws_nodup {cfg : Cfg} {v : Nat} {m : MeshFile} (wf : WellFormed cfg v m) :
    ((sections v m).map Sec.kw ++ [54]).Nodup := by
  have hsub : List.Sublist ((sections v m).map Sec.kw) ((master v m).map (fun e => e.2.kw)) := by
    unfold sections
    rw [List.map_map]
    exact (List.filter_sublist).map _
  have := master_kws_nodup
  rw [← master_kws wf] at this
  exact List.Nodup.sublist (List.Sublist.append hsub (List.Sublist.refl _)) this

theorem absent_kw {cfg : Cfg} {v : Nat} {m : MeshFile} (wf : WellFormed cfg v m) {e : Bool × Sec}
    (he : e ∈ master v m) (hb : e.1 = false) : e.2.kw ∉ (sections v m).map Sec.kw ++ [54] := by
  have hnd := master_kws_nodup
  rw [← master_kws wf] at hnd
  intro hmem
  rcases List.mem_append.1 hmem with hm | hm
  · obtain ⟨s, hs, hk⟩ := List.mem_map.1 hm
    have hs' := sections_mem.1 hs
    have hnd' := (List.nodup_append.1 hnd).1
    have := List.inj_on_of_nodup_map hnd' hs' he (by simpa using hk)
    rw [← this] at hb; simp at hb
  · simp only [List.mem_singleton] at hm
    have := (List.nodup_append.1 hnd).2.2 (e.2.kw) (List.mem_map.2 ⟨e, he, rfl⟩) 54 (by simp)
    exact this hm

theorem length_lt_layout (v pos : Nat) (ss : List Sec) : ss.length < (layout v pos ss).length := by
  rw [layout_length]
  induction ss with
  | nil => simp
  | cons s ss ih => simp only [List.map_cons, List.sum_cons, List.length_cons]; omega

theorem encodeMeshb_eq (v : Nat) (m : MeshFile) :
    encodeMeshb v m = (le32 1 ++ le32 v) ++ layout v (le32 1 ++ le32 v).length (sections v m) := by
  simp [encodeMeshb, le32_length]

/-- header and jumps on any file `code, version, layout, junk` (shared by .meshb and .solb; the writers leave `junk`
    empty) -/
theorem layout_located {cfg : Cfg} {v : Nat} {ss : List Sec} {bs junk : Bytes} (hver : v = 2 ∨ v = 3 ∨ v = 4)
    (hss : ∀ s ∈ ss, Sec.exact v s ∧ s.kw < 156) (hnd : (ss.map Sec.kw ++ [54]).Nodup)
    (hbs : bs = le32 1 ++ le32 v ++ (layout v 8 ss ++ junk)) (hfit : posFits v (bs.length : Int)) :
    ∃ kp, header cfg bs = .ok (v, kp) ∧
      (∀ s ∈ ss, ∃ rest, jump v bs kp s.kw = .ok (some (tell bs rest, s.body ++ rest))) ∧
      (∀ k, k ∉ ss.map Sec.kw ++ [54] → jump v bs kp k = .ok none) := by
  subst hbs
  have hv : v < 2 ^ 31 := by rcases hver with rfl | rfl | rfl <;> norm_num
  have hd : (le32 1 ++ le32 v ++ (layout v 8 ss ++ junk)).drop 8 = layout v 8 ss ++ junk :=
    List.drop_left' (by rw [List.length_append, le32_length, le32_length])
  have hfuel : ss.length < (le32 1 ++ le32 v ++ (layout v 8 ss ++ junk)).length + 1 := by
    rw [List.length_append, List.length_append (as := layout v 8 ss)]
    have := length_lt_layout v 8 ss
    omega
  obtain ⟨kp, hscan, hnone, hall⟩ := jump_present (cfg := cfg) ss 8 _ [] (by omega) hfuel hss hd hfit hnd
  rw [Nat.cast_ofNat] at hscan
  refine ⟨kp, ?_, hall, ?_⟩
  · unfold header
    rw [List.append_assoc, rdI32_le32 (by norm_num)]
    dsimp only
    rw [if_neg (by simp), rdI32_le32 hv]
    dsimp only
    rw [if_neg (by rcases hver with rfl | rfl | rfl <;> simp), ← List.append_assoc, Int.toNat_natCast, hscan]
  · intro k hk
    unfold jump
    rw [hnone k hk]
    rfl

/-- `kp` locates the sections of `master v m` in the file `bs`: a jump to a written section of `master` lands on its body
    (with the offset of what follows as `next_position`), a section that is not written is not found -/
structure Located (v : Nat) (m : MeshFile) (bs : Bytes) (kp : KeyPos) : Prop where
  present : ∀ e ∈ master v m, e.1 = true → ∃ rest,
    jump v bs kp e.2.kw = .ok (some (tell bs rest, e.2.body ++ rest))
  absent : ∀ e ∈ master v m, e.1 = false → jump v bs kp e.2.kw = .ok none

theorem encodeMeshb_located {cfg : Cfg} {v : Nat} {m : MeshFile} (wf : WellFormed cfg v m) :
    ∃ kp, header cfg (encodeMeshb v m) = .ok (v, kp) ∧ Located v m (encodeMeshb v m) kp := by
  have hss : ∀ s ∈ sections v m, Sec.exact v s ∧ s.kw < 156 :=
    fun s hs => master_exact wf _ (sections_mem.1 hs)
  obtain ⟨kp, hh, hall, hnone⟩ := layout_located (cfg := cfg) (junk := []) wf.version hss (sections_kws_nodup wf)
    (by rw [List.append_nil]; rfl) wf.size_fits
  refine ⟨kp, hh, ?_, ?_⟩
  · intro e he hb
    obtain ⟨b, s⟩ := e
    simp only at hb; subst hb
    exact hall s (sections_mem.2 he)
  · intro e he hb
    exact hnone _ (absent_kw wf he hb)

section parts
variable {cfg : Cfg} {v : Nat} {m : MeshFile} {bs : Bytes} {kp : KeyPos}

/-- a counted section of `master` (flag `!l.isEmpty`, body = count of `l`, then `payload`) read through `kwSection`:
    absent and `l = []` gives the default, present gives what `body` reads from the payload -/
theorem kwSection_located {α β : Type} (loc : Located v m bs kp) {l : List β} {s : Sec} {payload : Bytes}
    {dflt a : α} {body : Int → P α} (he : (!l.isEmpty, s) ∈ master v m)
    (hs : s.body = encInt v l.length ++ payload) (hlt : l.length < 2 ^ 31) (h0 : l = [] → a = dflt)
    (hb : ∀ rest, body l.length (payload ++ rest) = .ok (a, rest)) :
    kwSection v bs kp s.kw dflt body = .ok a := by
  cases l with
  | nil => exact kwSection_eq_ok_iff.2 (.inl ⟨loc.absent _ he rfl, h0 rfl⟩)
  | cons x xs =>
    obtain ⟨rest, hj⟩ := loc.present _ he rfl
    rw [hs] at hj
    exact kwSection_eq_ok_iff.2
      (.inr ⟨_, _, _, rest, hj, by rw [List.append_assoc]; exact rdInt_encInt v (int32_of_lt hlt) _, hb rest⟩)

theorem cells_section (wf : WellFormed cfg v m) (loc : Located v m bs kp)
    (p : CellInfo × List (List Int)) (hp : p ∈ cellInfos.zip m.cells) :
    kwSection v bs kp p.1.kw []
      (fun n => rdCells cfg v p.1 (m.nodes.length : Int) n.toNat) = .ok p.2 :=
  kwSection_located loc (l := p.2) (mem_master.2 (.inr (.inr (.inl ⟨p, hp, rfl⟩)))) rfl
    (wf.cells_lt _ (List.of_mem_zip hp).2) id fun rest => by
      rw [Int.toNat_natCast]
      exact rdCells_flatMap v p.2 rest (cellInfos_facts _ (List.of_mem_zip hp).1) (wf.cell_ok p hp)

theorem geomsOf_mem {t : Nat} {gs : List GeomRec} {g : GeomRec} (h : g ∈ geomsOf t gs) :
    g ∈ gs ∧ g.type = t := by
  unfold geomsOf at h
  rw [List.mem_filter] at h
  exact ⟨h.1, by simpa using h.2⟩

theorem geom_section (wf : WellFormed cfg v m) (loc : Located v m bs kp)
    (t : Nat) (ht : t ≤ 2) (acc : List GeomRec)
    (hnd : ((acc ++ geomsOf t m.geoms).map geomKey).Nodup) :
    kwSection v bs kp (40 + t) acc
      (fun n => rdGeoms cfg v t (m.nodes.length : Int) n.toNat acc) = .ok (acc ++ geomsOf t m.geoms) :=
  kwSection_located loc (l := geomsOf t m.geoms) (mem_master.2 (.inr (.inr (.inr (.inl ⟨t, ht, rfl⟩))))) rfl
    (Nat.lt_of_le_of_lt (List.length_filter_le _ _) wf.geoms_lt) (fun h => by rw [h, List.append_nil])
    fun rest => by
      rw [Int.toNat_natCast]
      exact rdGeoms_flatMap v ht _ acc rest
        (fun g hg => ⟨(geomsOf_mem hg).2, wf.geom_ok g (geomsOf_mem hg).1⟩) hnd

theorem geoms_result (wf : WellFormed cfg v m) (loc : Located v m bs kp) :
    rdGeomTypes cfg v bs kp (m.nodes.length : Int) [0, 1, 2] [] = .ok m.geoms := by
  have hnd := wf.geoms_nodup
  rw [wf.geoms_sorted] at hnd
  have hnd01 : ((geomsOf 0 m.geoms ++ geomsOf 1 m.geoms).map geomKey).Nodup := by
    rw [← List.append_assoc, List.map_append] at hnd
    exact (List.nodup_append.1 hnd).1
  have hnd0 : (([] ++ geomsOf 0 m.geoms).map geomKey).Nodup := by
    rw [List.map_append] at hnd01
    simpa using (List.nodup_append.1 hnd01).1
  unfold rdGeomTypes
  rw [geom_section wf loc 0 (by omega) [] hnd0]
  dsimp only
  unfold rdGeomTypes
  rw [List.nil_append, geom_section wf loc 1 (by omega) _ hnd01]
  dsimp only
  unfold rdGeomTypes
  rw [geom_section wf loc 2 (by omega) _ (by rw [List.append_assoc]; exact hnd)]
  dsimp only
  unfold rdGeomTypes
  rw [List.append_assoc, ← wf.geoms_sorted]

theorem cad_result (wf : WellFormed cfg v m) (loc : Located v m bs kp) :
    rdCad cfg v bs kp = .ok m.cad := by
  have hmem : (!m.cad.isEmpty, secCad v m.cad) ∈ master v m := mem_master.2 (.inr (.inr (.inr (.inr rfl))))
  unfold rdCad
  by_cases hemp : m.cad.isEmpty = true
  · have := loc.absent _ hmem (by simp [hemp])
    simp only [secCad] at this
    rw [this]
    rw [List.isEmpty_iff] at hemp
    rw [hemp]
  · obtain ⟨rest, hj⟩ := loc.present _ hmem (by simp [hemp])
    simp only [secCad] at hj
    rw [hj]
    dsimp only
    rw [List.append_assoc, rdSize_encInt v wf.cad_lt]
    dsimp only
    rw [if_neg (by have := wf.cad_cap; omega), takeN_append]
    dsimp only
    rw [if_pos rfl]

end parts

/-- **C08 round trip**, for any reader configuration: the facts about the written file are the fields of a `Decoded` -/
theorem roundtrip_meshb_with {cfg : Cfg} {v : Nat} {m : MeshFile} (wf : WellFormed cfg v m) :
    decodeMeshbWith cfg (encodeMeshb v m) = .ok m := by
  obtain ⟨kp, hhead, loc⟩ := encodeMeshb_located wf
  have hv1 : v ≠ 1 := by rcases wf.version with rfl | rfl | rfl <;> omega
  obtain ⟨r3, hj3⟩ := loc.present (true, secDim v m) (mem_master.2 (.inl rfl)) rfl
  have hne : (!m.nodes.isEmpty) = true := by
    cases hn : m.nodes with
    | nil => exact absurd hn wf.nodes_pos
    | cons a l => rfl
  obtain ⟨r4, hj4⟩ := loc.present (!m.nodes.isEmpty, secVerts v m) (mem_master.2 (.inr (.inl rfl))) hne
  simp only [secVerts, List.append_assoc] at hj4
  have hdim : dim m < 2 ^ 31 := by unfold dim; split <;> norm_num
  exact decode_iff.2 ⟨v, kp, _, _, (m.nodes.length : Nat), _, r4,
    { header := hhead
      dim := ⟨_, _, (dim m : Nat), _, hj3, rdI32_le32 hdim r3, by unfold dim; split <;> norm_num,
        by unfold dim; cases m.twod <;> simp⟩
      jump := hj4
      count := rdInt_encInt v (int32_of_lt wf.nodes_lt) _
      verts := by rw [Int.toNat_natCast]; exact rdVerts_flatMap hv1 m.twod m.nodes r4 wf.twod_z
      tell := rfl
      cells := rdCellGroups_eq_ok_iff.2 ⟨by rw [wf.cells_len]; decide, cells_section wf loc⟩
      geoms := geoms_result wf loc
      cad := cad_result wf loc }⟩

end Refine.Lemmas.Codec
