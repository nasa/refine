import Refine.Lemmas.CommBuffer

/-!
  `ref_mpi_alltoallv`, both implementations, on ANY world of per-rank arguments whose receive counts are the senders'
  counts (`alltoallvMpi_eq`, `alltoallvNative_eq`): rank `r` deposits, in source order, the block every source cut out
  of its send buffer for it (`blockTo r (vargsOf n b)`) — the same conclusion, so the two agree.  A caller shows
  `SizesFit` (the `int` bounds) and `Consistent` (count tables agree, blocks have the announced lengths); the
  `a2aWorld_*` lemmas do it for a matrix of blocks (`blocks[s][r]` goes from rank `s` to rank `r`).  The native variant
  is reasoned about on its error-free request lists (`recvReqs`, `sendMsgs`), which in closed form are one request per
  part of positive size at `MPI_Alltoallv`'s own displacements (`recvReqs_eq`, `sendMsgs_eq`).  Core only.
-/
namespace Refine.Lemmas.Comm
open Refine.Model.Comm

variable {α : Type}

theorem sizeN_ok (n : Int) (hn : 0 ≤ n) (xs : List Int)
    (h : ∀ x ∈ xs, 0 ≤ x ∧ n * x ≤ INT_MAX) : sizeN n xs = some (xs.map (n * ·)) := by
  fun_induction sizeN n xs
  case case1 => rfl
  case case2 ih => rw [ih fun y hy => h y (List.mem_cons_of_mem _ hy)]; rfl
  case case3 x _ hg =>
    have hx := h x List.mem_cons_self
    have : INT_MIN ≤ n * x := by have : 0 ≤ n * x := Int.mul_nonneg hn hx.1; unfold INT_MIN; omega
    simp [intMultipliable, hx.1, hx.2, this] at hg

theorem dispGuard_ok (acc : Int) (xs : List Int) (hacc : 0 ≤ acc) (hx : ∀ x ∈ xs, 0 ≤ x)
    (hs : acc + xs.sum ≤ INT_MAX) : dispGuard acc xs = some (displsFrom acc xs) := by
  fun_induction dispGuard acc xs
  case case1 => rfl
  case case2 => rfl
  case case3 acc x y ys _ ih =>
    have hx0 := hx x List.mem_cons_self
    rw [ih (by omega) (fun z hz => hx z (List.mem_cons_of_mem _ hz)) (by simp only [List.sum_cons] at hs ⊢; omega)]
    rfl
  case case4 acc x y ys hadd =>
    have hx0 := hx x List.mem_cons_self
    have hsum : 0 ≤ (y :: ys).sum := sum_nonneg_int _ (fun z hz => hx z (List.mem_cons_of_mem _ hz))
    simp only [List.sum_cons] at hs hsum
    have h1 : acc + x ≤ INT_MAX := by omega
    have h2 : INT_MIN ≤ acc + x := by unfold INT_MIN; omega
    simp [intAddable, h1, h2] at hadd

def OutOfInt (v : Int) : Prop := v > INT_MAX ∨ v < INT_MIN

theorem intMultipliable_false_iff (a b : Int) : intMultipliable a b = false ↔ OutOfInt (a * b) := by
  unfold intMultipliable OutOfInt
  by_cases h1 : a * b ≤ INT_MAX <;> by_cases h2 : INT_MIN ≤ a * b <;> simp [h1, h2] <;> omega

theorem intAddable_false_iff (a b : Int) : intAddable a b = false ↔ OutOfInt (a + b) := by
  unfold intAddable OutOfInt
  by_cases h1 : a + b ≤ INT_MAX <;> by_cases h2 : INT_MIN ≤ a + b <;> simp [h1, h2] <;> omega

/-- the displacement loop returns `REF_FAILURE` exactly when one of the partial sums it forms
    (`disp[k+1] = acc + size[0] + … + size[k]`, `k + 1 < np`: the last size is never added) leaves the `int` range -/
theorem dispGuard_eq_none_iff (acc : Int) (xs : List Int) :
    dispGuard acc xs = none ↔ ∃ k, k + 1 < xs.length ∧ OutOfInt (acc + (xs.take (k + 1)).sum) := by
  fun_induction dispGuard acc xs
  case case1 => simp
  case case2 => simp
  case case3 acc x y ys ha ih =>
    have hnot : ¬ OutOfInt (acc + x) := fun h => by rw [← intAddable_false_iff, ha] at h; cases h
    simp only [Option.map_eq_none_iff, ih]
    constructor
    · rintro ⟨k, hk, ho⟩
      refine ⟨k + 1, by simpa using hk, ?_⟩
      simp only [List.take_succ_cons, List.sum_cons] at ho ⊢
      rw [← Int.add_assoc]; exact ho
    · rintro ⟨k, hk, ho⟩
      cases k with
      | zero =>
        simp only [Nat.zero_add, List.take_succ_cons, List.take_zero, List.sum_cons, List.sum_nil,
          Int.add_zero] at ho
        exact absurd ho hnot
      | succ k =>
        refine ⟨k, by simpa using hk, ?_⟩
        simp only [List.take_succ_cons, List.sum_cons] at ho ⊢
        rw [Int.add_assoc]; exact ho
  case case4 acc x y ys ha =>
    have := (intAddable_false_iff acc x).mp (Bool.eq_false_iff.mpr ha)
    exact iff_of_true rfl ⟨0, by simp, by simpa using this⟩

theorem scaled_le_of_sum (n : Int) (hn : 0 ≤ n) (xs : List Int) (h0 : ∀ x ∈ xs, 0 ≤ x)
    (hs : n * xs.sum ≤ INT_MAX) : ∀ x ∈ xs, 0 ≤ x ∧ n * x ≤ INT_MAX := by
  induction xs with
  | nil => intro x hx; simp at hx
  | cons y ys ih =>
    have hy := h0 y List.mem_cons_self
    have hys : 0 ≤ ys.sum := sum_nonneg_int _ (fun z hz => h0 z (List.mem_cons_of_mem _ hz))
    simp only [List.sum_cons, Int.mul_add] at hs
    have h1 : 0 ≤ n * y := Int.mul_nonneg hn hy
    have h2 : 0 ≤ n * ys.sum := Int.mul_nonneg hn hys
    intro x hx
    rcases List.mem_cons.mp hx with rfl | hx
    · exact ⟨hy, by omega⟩
    · exact ih (fun z hz => h0 z (List.mem_cons_of_mem _ hz)) (by omega) x hx

/-- the `MPI_Alltoallv` arguments `ref_mpi_alltoallv` computes from `a` when no guard fires -/
def vargsOf (n : Int) (a : A2A α) : VArgs α :=
  { send := a.send, scount := a.sendSize.map (n * ·), sdispl := displs (a.sendSize.map (n * ·)),
    recv := a.recv, rcount := a.recvSize.map (n * ·), rdispl := displs (a.recvSize.map (n * ·)) }

theorem map_mul_nonneg {n : Int} (hn : 0 ≤ n) {xs : List Int} (h : ∀ x ∈ xs, 0 ≤ x) : ∀ y ∈ xs.map (n * ·), 0 ≤ y := by
  intro y hy
  obtain ⟨x, hx, rfl⟩ := List.mem_map.mp hy
  exact Int.mul_nonneg hn (h x hx)

theorem a2avArgs_eq_some {n : Int} (hn : 0 ≤ n) (a : A2A α)
    (hs0 : ∀ x ∈ a.sendSize, 0 ≤ x) (hs : n * a.sendSize.sum ≤ INT_MAX)
    (hr0 : ∀ x ∈ a.recvSize, 0 ≤ x) (hr : n * a.recvSize.sum ≤ INT_MAX) :
    a2avArgs n a = some (vargsOf n a) := by
  unfold a2avArgs
  rw [sizeN_ok n hn _ (scaled_le_of_sum n hn _ hs0 hs), sizeN_ok n hn _ (scaled_le_of_sum n hn _ hr0 hr)]
  simp only []
  rw [dispGuard_ok 0 _ (Int.le_refl 0) (map_mul_nonneg hn hs0) (by rw [sum_map_mul]; omega),
    dispGuard_ok 0 _ (Int.le_refl 0) (map_mul_nonneg hn hr0) (by rw [sum_map_mul]; omega)]
  rfl

/-- a world in which every rank's guards pass -/
structure SizesFit (n : Int) (w : World (A2A α)) : Prop where
  send0 : ∀ a ∈ w, ∀ x ∈ a.sendSize, 0 ≤ x
  send : ∀ a ∈ w, n * a.sendSize.sum ≤ INT_MAX
  recv0 : ∀ a ∈ w, ∀ x ∈ a.recvSize, 0 ≤ x
  recv : ∀ a ∈ w, n * a.recvSize.sum ≤ INT_MAX

/-- the block `MPI_Alltoallv` takes from `src` for rank `r` -/
def blockTo (r : Nat) (src : VArgs α) : List α :=
  slice src.send (src.sdispl.getD r 0).toNat (src.scount.getD r 0).toNat

structure Consistent (n : Int) (w : World (A2A α)) : Prop where
  /-- what rank `r` expects from `b` is what `b` announces for `r` -/
  counts : ∀ r a, w[r]? = some a → a.recvSize = w.map fun b => b.sendSize.getD r 0
  /-- every send buffer is long enough for its counts, so that the block cut out for `r` has the announced length
      (stated through `MPI_Alltoallv`'s displacements; `sendMsgs_find_blockTo`: the native variant sends the same
      slices) -/
  blocks : ∀ r a, w[r]? = some a → lensI (w.map fun b => blockTo r (vargsOf n b)) = a.recvSize.map (n * ·)

theorem mpiRecvLoop_consec (r : Nat) (srcs : List (VArgs α)) (o : Nat) (buf : List α)
    (hcnt : srcs.map (fun src => src.scount.getD r 0) = lensI (srcs.map (blockTo r))) :
    mpiRecvLoop r srcs (lensI (srcs.map (blockTo r))) (displsFrom (o : Int) (lensI (srcs.map (blockTo r)))) buf
      = some (deposit buf (consec o (srcs.map (blockTo r)))) := by
  induction srcs generalizing o buf with
  | nil => rfl
  | cons src srcs ih =>
    obtain ⟨h1, h2⟩ := List.cons.inj hcnt
    simp only [List.map_cons, lensI, displsFrom, mpiRecvLoop, consec, deposit, List.foldl_cons, Int.toNat_natCast,
      ← Int.natCast_add]
    rw [if_pos (Int.le_of_eq h1)]
    exact ih _ _ h2

/-- **`ref_mpi_alltoallv` over `MPI_Alltoallv` on ANY world** whose guards pass and whose receive counts are the
    senders' counts: rank `r` deposits, in source order from displacement 0, the block every source cut out for it -/
theorem alltoallvMpi_eq (ty : RefType) (hty : ty.mpiOk = true) {n : Int} (hn : 0 ≤ n) (w : World (A2A α))
    (hfit : SizesFit n w) (hcon : Consistent n w) :
    alltoallvMpi ty n w = some (w.mapIdx fun r a =>
      (Status.ok, deposit a.recv (consec 0 (w.map fun b => blockTo r (vargsOf n b))))) := by
  unfold alltoallvMpi
  have hargs : w.map (a2avArgs n) = (w.map (vargsOf n)).map some := by
    rw [List.map_map]
    exact List.map_congr_left fun a ha =>
      a2avArgs_eq_some hn a (hfit.send0 a ha) (hfit.send a ha) (hfit.recv0 a ha) (hfit.recv a ha)
  have hall : ((w.map (vargsOf n)).map some).all Option.isSome = true := by simp [List.all_map]
  have hfm : ((w.map (vargsOf n)).map some).filterMap id = w.map (vargsOf n) := by
    rw [List.filterMap_map]; exact List.filterMap_some
  simp only [hty, Bool.not_true, Bool.false_eq_true, if_false, hargs, hall, if_true, hfm]
  unfold mpiAlltoallv
  have hloop : (w.map (vargsOf n)).mapIdx
        (fun r me => mpiRecvLoop r (w.map (vargsOf n)) me.rcount me.rdispl me.recv)
      = (w.mapIdx fun r a => deposit a.recv (consec 0 (w.map fun b => blockTo r (vargsOf n b)))).map some := by
    rw [ListFacts.mapIdx_map, ListFacts.map_mapIdx]
    refine List.mapIdx_eq_mapIdx_iff.mpr fun r hr => ?_
    have hr' := List.getElem?_eq_getElem hr
    show mpiRecvLoop r _ (w[r].recvSize.map (n * ·)) (displsFrom 0 (w[r].recvSize.map (n * ·))) w[r].recv = _
    have hb : lensI ((w.map (vargsOf n)).map (blockTo r)) = _ := (congrArg lensI List.map_map).trans (hcon.blocks r _ hr')
    rw [← hb]
    refine (mpiRecvLoop_consec r _ 0 _ ?_).trans (by rw [List.map_map]; rfl)
    rw [hb, List.map_map, hcon.counts r _ hr', List.map_map]
    refine List.map_congr_left fun b _ => ?_
    simp only [Function.comp, vargsOf, List.getD_eq_getElem?_getD, List.getElem?_map]
    cases b.sendSize[r]? <;> simp
  rw [hloop, allSome_map_some, Option.map_some, ListFacts.map_mapIdx]

/-- the rank loop of `p2pExchange` with the receive side left open (`ReproSched.p2pSched` is the same loop with an
    operational receive) -/
def p2pWith (recv : Nat → Posted α → Option (List α)) (w : World (Posted α)) : Option (World (Status × List α)) :=
  allSome (w.mapIdx fun r p =>
    if p.status ≠ Status.ok then
      (if p.rcvs.isEmpty && p.msgs.isEmpty then some (p.status, p.buf) else none)
    else if p.msgs.all (sendMatched w (r : Int)) then (recv r p).map fun b => (Status.ok, b)
    else none)

theorem p2pExchange_eq_p2pWith (w : World (Posted α)) :
    p2pExchange w = p2pWith (fun r p => recvPosted w (r : Int) p.rcvs p.buf) w := rfl

theorem p2pWith_congr (w : World (Posted α)) (f g : Nat → Posted α → Option (List α))
    (h : ∀ r p, w[r]? = some p → f r p = g r p) : p2pWith f w = p2pWith g w := by
  unfold p2pWith
  congr 1
  apply List.ext_getElem?
  intro r
  simp only [List.getElem?_mapIdx]
  cases hp : w[r]? with
  | none => rfl
  | some p => simp only [Option.map_some, h r p hp]

theorem p2pWith_ok (recv : Nat → Posted α → Option (List α)) (w : World (Posted α)) (res : List (List α))
    (hlen : res.length = w.length)
    (h : ∀ r p, w[r]? = some p →
      p.status = Status.ok ∧ p.msgs.all (sendMatched w (r : Int)) = true ∧ recv r p = res[r]?) :
    p2pWith recv w = some (res.map fun b => (Status.ok, b)) := by
  unfold p2pWith
  rw [← allSome_map_some]
  congr 1
  apply List.ext_getElem?
  intro r
  simp only [List.getElem?_mapIdx, List.getElem?_map]
  cases hp : w[r]? with
  | none =>
    have : res[r]? = none := by
      rw [List.getElem?_eq_none_iff] at hp ⊢
      omega
    rw [this]; rfl
  | some p =>
    obtain ⟨h1, h2, h3⟩ := h r p hp
    have hr : r < res.length := by
      have := (List.getElem?_eq_some_iff.mp hp).1
      omega
    rw [List.getElem?_eq_getElem hr] at h3 ⊢
    simp only [Option.map_some, h1, ne_eq, not_true_eq_false, if_false, h2, if_true, h3]

theorem findMsg_of (w : World (Posted α)) (me : Int) (s : Nat) (p : Posted α) (hp : w[s]? = some p)
    (t o c : Int) : findMsg w me ⟨(s : Int), t, o, c⟩ = p.msgs.find? fun m => m.dest == me && m.tag == t := by
  unfold findMsg
  simp only [show ¬ ((s : Int) < 0) by omega, if_false, Int.toNat_natCast, hp]

theorem sendMatched_of (w : World (Posted α)) (me : Int) (d : Nat) (p : Posted α) (hp : w[d]? = some p)
    (t : Int) (data : List α) :
    sendMatched w me ⟨(d : Int), t, data⟩ = p.rcvs.any fun rq => rq.source == me && rq.tag == t := by
  unfold sendMatched
  simp only [show ¬ ((d : Int) < 0) by omega, if_false, Int.toNat_natCast, hp]

/-- what a posted receive deposits: the data `findMsg` finds, at the receive's offset (`none`: no message, or one
    longer than the posted count) -/
def recvDeposit (W : World (Posted α)) (me : Int) (rq : Rcv) : Option (Nat × List α) :=
  (findMsg W me rq).bind fun m => if (m.data.length : Int) ≤ rq.cnt then some (rq.off.toNat, m.data) else none

theorem recvPosted_eq_deposit (W : World (Posted α)) (me : Int) (rqs : List Rcv) (buf : List α) :
    recvPosted W me rqs buf = (allSome (rqs.map (recvDeposit W me))).map (deposit buf) := by
  fun_induction recvPosted W me rqs buf
  case case1 => rfl
  case case2 h => simp only [List.map_cons, recvDeposit, h]; rfl
  case case3 h hfit ih =>
    simp only [List.map_cons, recvDeposit, h, Option.bind_some, if_pos hfit, ih, allSome, Option.map_map]; rfl
  case case4 h hfit => simp only [List.map_cons, recvDeposit, h, Option.bind_some, if_neg hfit]; rfl

/-- the loop both halves of `ref_mpi_alltoallv_native` run when no check stops it: one request `mk part off size` for
    every part of positive size, the offset advancing by `n * size` over every part -/
def posts {β : Type} (mk : Int → Int → Int → β) (n : Int) : Int → Int → List Int → List β
  | _, _, [] => []
  | part, off, sz :: rest =>
    if 0 < sz then mk part off sz :: posts mk n (part + 1) (off + n * sz) rest
    else posts mk n (part + 1) (off + n * sz) rest

/-- the receives `nativeRecvs` posts when no tag or type check stops the loop -/
def recvReqs (np rank n : Int) : Int → Int → List Int → List Rcv :=
  posts (fun p o sz => ⟨p, np * rank + p, o, n * sz⟩) n

/-- the sends `nativeSends` posts when no tag or type check stops the loop -/
def sendMsgs (np rank n : Int) (send : List α) : Int → Int → List Int → List (Msg α) :=
  posts (fun p o sz => ⟨p, np * p + rank, slice send o.toNat (n * sz).toNat⟩) n

def liveParts (sizes : List Int) : List Nat := (List.range sizes.length).filter fun k => 0 < sizes.getD k 0

theorem liveParts_cons (sz : Int) (rest : List Int) :
    liveParts (sz :: rest) = (if 0 < sz then [0] else []) ++ (liveParts rest).map (· + 1) := by
  simp only [liveParts, List.length_cons, List.range_succ_eq_map, List.filter_cons, List.getD_cons_zero,
    List.filter_map, Function.comp_def, List.getD_cons_succ]
  split <;> simp_all

theorem mem_liveParts {sizes : List Int} {k : Nat} : k ∈ liveParts sizes ↔ k < sizes.length ∧ 0 < sizes.getD k 0 := by
  simp [liveParts]

/-- the requests in closed form: one per live part, at the displacement `MPI_Alltoallv` would use -/
theorem posts_eq {β : Type} (mk : Int → Int → Int → β) (n : Int) (sizes : List Int) (part off : Int) :
    posts mk n part off sizes = (liveParts sizes).map fun k : Nat =>
      mk (part + k) ((displsFrom off (sizes.map (n * ·))).getD k 0) (sizes.getD k 0) := by
  induction sizes generalizing part off with
  | nil => rfl
  | cons sz rest ih =>
    unfold posts
    rw [ih, liveParts_cons]
    split <;> simp [displsFrom, Function.comp_def, Int.add_assoc, Int.add_comm 1]

theorem recvReqs_eq (np rank n : Int) (sizes : List Int) :
    recvReqs np rank n 0 0 sizes = (liveParts sizes).map fun k : Nat =>
      ⟨k, np * rank + k, (displs (sizes.map (n * ·))).getD k 0, n * sizes.getD k 0⟩ := by
  rw [recvReqs, posts_eq]
  simp only [Int.zero_add]; rfl

/-- the native variant sends the blocks `MPI_Alltoallv` would take, for the parts of positive size -/
theorem sendMsgs_eq (np rank n : Int) (a : A2A α) :
    sendMsgs np rank n a.send 0 0 a.sendSize = (liveParts a.sendSize).map fun k : Nat =>
      ⟨k, np * k + rank, blockTo k (vargsOf n a)⟩ := by
  rw [sendMsgs, posts_eq]
  refine List.map_congr_left fun k hk => ?_
  simp only [Int.zero_add, blockTo, vargsOf, displs, ListFacts.getD_map_of_lt (0 : Int) (mem_liveParts.mp hk).1]

theorem nativeRecvs_sublist (ty : RefType) (np maxTag rank n : Int) (sizes : List Int) (part off : Int) :
    (nativeRecvs ty np maxTag rank n part off sizes).2.Sublist (recvReqs np rank n part off sizes) := by
  -- the cases of `nativeRecvs`, and of `nativeSends` below: 1 no part left; 2 the tag fails the range check;
  -- 3 the type is not one of the `switch`; 4 a part of positive size is posted; 5 a part of size 0 is skipped
  fun_induction nativeRecvs ty np maxTag rank n part off sizes <;> unfold recvReqs posts
  case case1 => exact List.Sublist.refl _
  case case4 ih => rw [if_pos ‹_›]; exact ih.cons_cons _
  case case5 ih => rw [if_neg ‹_›]; exact ih
  all_goals exact List.nil_sublist _

theorem nativeSends_sublist (ty : RefType) (np maxTag rank n : Int) (send : List α) (sizes : List Int)
    (part off : Int) :
    (nativeSends ty np maxTag rank n send part off sizes).2.Sublist (sendMsgs np rank n send part off sizes) := by
  fun_induction nativeSends ty np maxTag rank n send part off sizes <;> unfold sendMsgs posts
  case case1 => exact List.Sublist.refl _
  case case4 ih => rw [if_pos ‹_›]; exact ih.cons_cons _
  case case5 ih => rw [if_neg ‹_›]; exact ih
  all_goals exact List.nil_sublist _

/-- all tags of the parts `part0 … part0 + len - 1` pass the `RAB` check -/
def TagsOk (maxTag : Int) (tagOf : Int → Int) (part0 : Int) (len : Nat) : Prop :=
  ∀ j : Nat, j < len → 0 ≤ tagOf (part0 + j) ∧ tagOf (part0 + j) ≤ maxTag

theorem TagsOk.tail {maxTag : Int} {tagOf : Int → Int} {part0 : Int} {len : Nat}
    (h : TagsOk maxTag tagOf part0 (len + 1)) : TagsOk maxTag tagOf (part0 + 1) len := by
  intro j hj
  have := h (j + 1) (by omega)
  have e : part0 + ((j + 1 : Nat) : Int) = part0 + 1 + (j : Int) := by omega
  rwa [e] at this

theorem TagsOk.head {maxTag : Int} {tagOf : Int → Int} {part0 : Int} {len : Nat}
    (h : TagsOk maxTag tagOf part0 (len + 1)) : 0 ≤ tagOf part0 ∧ tagOf part0 ≤ maxTag := by
  have := h 0 (by omega)
  simpa using this

theorem nativeRecvs_eq (ty : RefType) (hty : ty.nativeOk = true) (np maxTag rank n : Int)
    (sizes : List Int) (part off : Int)
    (htag : TagsOk maxTag (fun p => np * rank + p) part sizes.length) :
    nativeRecvs ty np maxTag rank n part off sizes = (Status.ok, recvReqs np rank n part off sizes) := by
  fun_induction nativeRecvs ty np maxTag rank n part off sizes <;> unfold recvReqs posts
  case case1 => rfl
  case case2 hbad => have := htag.head; simp +zetaDelta [this.1, this.2] at hbad
  case case3 hbad => simp [hty] at hbad
  case case4 ih => rw [if_pos ‹_›]; simp +zetaDelta only [ih htag.tail]; rfl
  case case5 ih => rw [if_neg ‹_›, ih htag.tail]; rfl

theorem nativeSends_eq (ty : RefType) (hty : ty.nativeOk = true) (np maxTag rank n : Int) (send : List α)
    (sizes : List Int) (part off : Int)
    (htag : TagsOk maxTag (fun p => np * p + rank) part sizes.length) :
    nativeSends ty np maxTag rank n send part off sizes = (Status.ok, sendMsgs np rank n send part off sizes) := by
  fun_induction nativeSends ty np maxTag rank n send part off sizes <;> unfold sendMsgs posts
  case case1 => rfl
  case case2 hbad => have := htag.head; simp +zetaDelta [this.1, this.2] at hbad
  case case3 hbad => simp [hty] at hbad
  case case4 ih => rw [if_pos ‹_›]; simp +zetaDelta only [ih htag.tail]; rfl
  case case5 ih => rw [if_neg ‹_›, ih htag.tail]; rfl

/-- the receives of the native variant deposit the blocks consecutively; a part of size 0 posts nothing and its
    (empty) block stores nothing -/
theorem recvPosted_recvReqs (W : World (Posted α)) (me np n : Int) (sizes : List Int) (blks : List (List α))
    (hsz : ∀ x ∈ sizes, 0 ≤ x) (hlen : lensI blks = sizes.map (n * ·)) (buf : List α)
    (hfind : ∀ k : Nat, k < sizes.length → 0 < sizes.getD k 0 → ∀ o c,
      ∃ m, findMsg W me ⟨k, np * me + k, o, c⟩ = some m ∧ m.data = blks.getD k []) :
    recvPosted W me (recvReqs np me n 0 0 sizes) buf = some (deposit buf (consec 0 blks)) := by
  have hl : blks.length = sizes.length := by simpa [lensI] using congrArg List.length hlen
  have hblk : ∀ k, k < sizes.length → ((blks.getD k []).length : Int) = n * sizes.getD k 0 := fun k hk => by
    have := congrArg (·.getD k 0) hlen
    rwa [lensI, ListFacts.getD_map_of_lt ([] : List α) (hl ▸ hk),
      ListFacts.getD_map_of_lt (0 : Int) hk] at this
  -- every posted receive finds its block
  have hdep : (recvReqs np me n 0 0 sizes).map (recvDeposit W me) = ((liveParts sizes).map fun k : Nat =>
      (((displsFrom ((0 : Nat) : Int) (lensI blks)).getD k 0).toNat, blks.getD k [])).map some := by
    rw [recvReqs_eq, List.map_map, List.map_map, hlen]
    refine List.map_congr_left fun k hk => ?_
    obtain ⟨hk, hpos⟩ := mem_liveParts.mp hk
    obtain ⟨m, hm, hmd⟩ := hfind k hk hpos ((displs (sizes.map (n * ·))).getD k 0) (n * sizes.getD k 0)
    simp only [Function.comp, recvDeposit, hm, Option.bind_some, hmd, hblk k hk, Int.le_refl, if_true]
    rfl
  -- the parts that post nothing have empty blocks
  rw [recvPosted_eq_deposit, hdep, allSome_map_some, Option.map_some, consec_eq, hl]
  refine congrArg some (deposit_map_filter _ _ _ (fun k hk hq => List.eq_nil_of_length_eq_zero ?_) buf)
  have hk := List.mem_range.mp hk
  have h1 := hblk k hk
  have h2 := hsz _ (ListFacts.getD_mem (d := 0) hk)
  have h0 : sizes.getD k 0 = 0 := by have := of_decide_eq_false hq; omega
  rw [h0, Int.mul_zero] at h1
  exact Int.natCast_eq_zero.mp h1

/-- what one rank posts in the native variant when no check fires -/
def postedOf (np rank n : Int) (a : A2A α) : Posted α :=
  ⟨Status.ok, recvReqs np rank n 0 0 a.recvSize, sendMsgs np rank n a.send 0 0 a.sendSize, a.recv⟩

/-- `p` is what a rank has posted when a check stopped it on the way to `q` -/
structure PostedPartOf (p q : Posted α) : Prop where
  buf : p.buf = q.buf
  rcvs : p.rcvs.Sublist q.rcvs
  msgs : p.msgs.Sublist q.msgs

theorem nativePost_partOf (ty : RefType) (np maxTag rank n : Int) (a : A2A α) :
    PostedPartOf (nativePost ty np maxTag rank n a) (postedOf np rank n a) := by
  fun_cases nativePost ty np maxTag rank n a
  case case4 => exact ⟨rfl, nativeRecvs_sublist .., nativeSends_sublist ..⟩
  case case3 => exact ⟨rfl, nativeRecvs_sublist .., List.nil_sublist _⟩
  all_goals exact ⟨rfl, List.nil_sublist _, List.nil_sublist _⟩

theorem tag_bounds (N a b maxTag : Int) (ha : 0 ≤ a) (ha' : a < N) (hb : 0 ≤ b) (hb' : b < N)
    (hmax : N * N ≤ maxTag) : 0 ≤ N * a + b ∧ N * a + b ≤ maxTag := by
  have h1 : N * a ≤ N * (N - 1) := Int.mul_le_mul_of_nonneg_left (by omega) (by omega)
  have h2 : N * (N - 1) = N * N - N := by rw [Int.mul_sub, Int.mul_one]
  have h3 : 0 ≤ N * a := Int.mul_nonneg (by omega) ha
  omega


theorem nativePost_eq (ty : RefType) (hty : ty.nativeOk = true) {np maxTag rank : Int} (n : Int) (a : A2A α)
    (hmax : np * np ≤ maxTag) (h0 : 0 ≤ rank) (h1 : rank < np)
    (hrl : (a.recvSize.length : Int) ≤ np) (hsl : (a.sendSize.length : Int) ≤ np) :
    nativePost ty np maxTag rank n a = postedOf np rank n a := by
  have hrs := nativeRecvs_eq ty hty np maxTag rank n a.recvSize 0 0 fun j hj => by
    rw [Int.zero_add]; exact tag_bounds _ rank j maxTag h0 h1 (by omega) (by omega) hmax
  have hss := nativeSends_eq ty hty np maxTag rank n a.send a.sendSize 0 0 fun j hj => by
    rw [Int.zero_add]; exact tag_bounds _ j rank maxTag (by omega) (by omega) h0 h1 hmax
  unfold nativePost postedOf
  simp only [mpiOk_of_ild hty, Bool.not_true, Bool.false_eq_true, if_false, show ¬ np * np > maxTag by omega, hrs, hss,
    ne_eq, not_true_eq_false]

theorem sendMsgs_find_blockTo (np rank : Int) (n : Int) (a : A2A α) (k : Nat) (hk : k < a.sendSize.length)
    (hpos : 0 < a.sendSize.getD k 0) :
    (sendMsgs np rank n a.send 0 0 a.sendSize).find? (fun m => m.dest == (k : Int) && m.tag == np * (k : Int) + rank)
      = some ⟨(k : Int), np * (k : Int) + rank, blockTo k (vargsOf n a)⟩ := by
  rw [sendMsgs_eq]
  refine find?_of_unique (List.mem_map_of_mem (mem_liveParts.mpr ⟨hk, hpos⟩)) (by simp) fun y hy hp => ?_
  obtain ⟨j, _, rfl⟩ := List.mem_map.mp hy
  simp only [Bool.and_eq_true, beq_iff_eq] at hp
  rw [Int.natCast_inj.mp hp.1]

/-- **`ref_mpi_alltoallv_native` on ANY such world**: the same deposits, whenever `np * np` fits the tag bound and no
    rank names more than `np` destinations.  No `int` guard is involved. -/
theorem alltoallvNative_eq (ty : RefType) (hty : ty.nativeOk = true) (maxTag n : Int) (w : World (A2A α))
    (hmax : (w.length : Int) * w.length ≤ maxTag)
    (hsl : ∀ a ∈ w, a.sendSize.length ≤ w.length)
    (hr0 : ∀ a ∈ w, ∀ x ∈ a.recvSize, 0 ≤ x) (hcon : Consistent n w) :
    alltoallvNative ty maxTag n w = some (w.mapIdx fun r a =>
      (Status.ok, deposit a.recv (consec 0 (w.map fun b => blockTo r (vargsOf n b))))) := by
  have hrl : ∀ r (a : A2A α), w[r]? = some a → a.recvSize.length = w.length := fun r a h => by
    rw [hcon.counts r a h, List.length_map]
  -- no check fires on any rank
  have hposted : (w.mapIdx fun r a => nativePost ty (w.length : Int) maxTag (r : Int) n a)
      = w.mapIdx fun r a => postedOf (w.length : Int) (r : Int) n a :=
    List.mapIdx_eq_mapIdx_iff.mpr fun r hr =>
      nativePost_eq ty hty n _ hmax (by omega) (by omega)
        (by rw [hrl r _ (List.getElem?_eq_getElem hr)]; exact Int.le_refl _)
        (by have := hsl _ (List.getElem_mem hr); omega)
  unfold alltoallvNative
  rw [hposted, p2pExchange_eq_p2pWith]
  have hW : ∀ s (hs : s < w.length), (w.mapIdx fun r a => postedOf (w.length : Int) (r : Int) n a)[s]?
      = some (postedOf (w.length : Int) (s : Int) n w[s]) := fun s hs => by simp [hs]
  have hcnt : ∀ r k (hr : r < w.length) (hk : k < w.length), w[k].recvSize.getD r 0 = w[r].sendSize.getD k 0 :=
    fun r k hr hk => by
      rw [hcon.counts k _ (List.getElem?_eq_getElem hk), ListFacts.getD_map_of_lt ⟨[], [], [], []⟩ hr,
        ListFacts.getD_eq_getElem hr]
  refine (p2pWith_ok _ _ (w.mapIdx fun r a => deposit a.recv (consec 0 (w.map fun b => blockTo r (vargsOf n b))))
    (by simp) ?_).trans (by rw [ListFacts.map_mapIdx])
  intro r p hp
  obtain ⟨hr, rfl⟩ := of_getElem?_mapIdx hp
  refine ⟨rfl, ?_, ?_⟩
  · -- the send to `k` meets the receive rank `k` posted for source `r`
    show (sendMsgs _ _ n w[r].send 0 0 w[r].sendSize).all _ = true
    rw [sendMsgs_eq, List.all_eq_true]
    intro m hm
    obtain ⟨k, hk, rfl⟩ := List.mem_map.mp hm
    obtain ⟨hk, hpos⟩ := mem_liveParts.mp hk
    have hk' : k < w.length := Nat.lt_of_lt_of_le hk (hsl _ (List.getElem_mem hr))
    rw [sendMatched_of _ _ k _ (hW k hk')]
    show (recvReqs _ _ n 0 0 w[k].recvSize).any _ = true
    rw [recvReqs_eq, List.any_eq_true]
    exact ⟨_, List.mem_map_of_mem (mem_liveParts.mpr
      ⟨by rw [hrl k _ (List.getElem?_eq_getElem hk')]; exact hr, by rw [hcnt r k hr hk']; exact hpos⟩), by simp⟩
  · -- the receive from `k` finds the block `MPI_Alltoallv` would take from `k`
    rw [List.getElem?_mapIdx, List.getElem?_eq_getElem hr, Option.map_some]
    refine recvPosted_recvReqs _ (r : Int) (w.length : Int) n w[r].recvSize _ (hr0 _ (List.getElem_mem hr))
      (hcon.blocks r _ (List.getElem?_eq_getElem hr)) w[r].recv fun k hk hpos o c => ?_
    have hk' : k < w.length := by rwa [hrl r _ (List.getElem?_eq_getElem hr)] at hk
    have hpos' : 0 < w[k].sendSize.getD r 0 := by rw [← hcnt k r hk' hr]; exact hpos
    rw [findMsg_of _ _ k _ (hW k hk')]
    refine ⟨_, sendMsgs_find_blockTo (w.length : Int) (k : Int) n w[k] r
      (ListFacts.lt_length_of_getD_ne (Int.ne_of_gt hpos')) hpos', ?_⟩
    rw [ListFacts.getD_map_of_lt ⟨[], [], [], []⟩ hk', ListFacts.getD_eq_getElem hk']

theorem alltoallv_false (ty : RefType) (maxTag n : Int) (w : World (A2A α)) :
    alltoallv false ty maxTag n w = alltoallvMpi ty n w := rfl

theorem alltoallv_true (ty : RefType) (maxTag n : Int) (w : World (A2A α)) :
    alltoallv true ty maxTag n w = alltoallvNative ty maxTag n w := rfl

def column {γ : Type} (r : Nat) (blocks : List (List (List γ))) : List (List γ) :=
  blocks.map fun b => b.getD r []

def countsI {γ : Type} (b : List (List γ)) : List Int := b.map fun blk => (blk.length : Int)

/-- one function under two names: `lensI` where the lists are the blocks of a flat buffer (`slice_flatten`,
    `consec_eq`, `Consistent.blocks`), `countsI` where they are the items of a block (`a2aWorld` and C17's statements) -/
theorem lensI_eq_countsI (L : List (List α)) : lensI L = countsI L := rfl

theorem countsI_sum_eq_length {γ : Type} (L : List (List γ)) : (countsI L).sum = (L.flatten.length : Int) := by
  induction L with
  | nil => rfl
  | cons l L ih =>
    simp only [countsI, List.map_cons, List.sum_cons, List.flatten_cons, List.length_append] at ih ⊢
    omega

theorem isum_countsI {γ : Type} (L : List (List γ)) : isum (countsI L) = (L.flatten.length : Int) := by
  rw [isum_eq_sum, countsI_sum_eq_length]

theorem lensI_sum (L : List (List α)) : (lensI L).sum = (L.flatten.length : Int) :=
  countsI_sum_eq_length L

/-- the world in which rank `s` sends the items `blocks[s][r]` (each item `n` scalars) to rank `r`:
    flat send buffers, per-destination item counts, receive counts as an exchange of the send counts gives them,
    `recv0 r` the receive buffer rank `r` passes in -/
def a2aWorld (blocks : List (List (List (List α)))) (recv0 : Nat → List α) : World (A2A α) :=
  blocks.mapIdx fun r b =>
    { send := (b.map List.flatten).flatten
      sendSize := countsI b
      recv := recv0 r
      recvSize := countsI (column r blocks) }

theorem countsI_nonneg {γ : Type} (b : List (List γ)) : ∀ x ∈ countsI b, 0 ≤ x := by
  intro x hx
  simp only [countsI, List.mem_map] at hx
  obtain ⟨_, _, rfl⟩ := hx
  omega

theorem countsI_getD {γ : Type} (b : List (List γ)) (r : Nat) :
    (countsI b).getD r 0 = ((b.getD r []).length : Int) :=
  ListFacts.getD_map (d := [])

theorem mpiAlltoall_counts {γ : Type} (bk : World (List (List γ))) (r : Nat)
    (h : r < (mpiAlltoall (bk.map countsI)).length) :
    (mpiAlltoall (bk.map countsI))[r] = countsI (column r bk) := by
  simp only [mpiAlltoall, List.getElem_map, List.getElem_range, List.map_map, column, countsI]
  apply List.map_congr_left
  intro b _
  simp only [Function.comp_apply, List.getD_eq_getElem?_getD, List.getElem?_map, countsI]
  cases b[r]? <;> rfl

theorem lensI_flatten_items (n : Nat) (b : List (List (List α))) (hitem : ∀ blk ∈ b, ∀ it ∈ blk, it.length = n) :
    lensI (b.map List.flatten) = (countsI b).map ((n : Int) * ·) := by
  simp only [countsI, lensI, List.map_map]
  apply List.map_congr_left
  intro blk hblk
  simp only [Function.comp, ListFacts.length_flatten_uniform (hitem blk hblk)]
  push_cast; rfl

theorem column_items (n : Nat) (blocks : List (List (List (List α)))) (r : Nat)
    (hitem : ∀ b ∈ blocks, ∀ blk ∈ b, ∀ it ∈ blk, it.length = n) :
    ∀ blk ∈ column r blocks, ∀ it ∈ blk, it.length = n := by
  intro blk hblk it hit
  simp only [column, List.mem_map] at hblk
  obtain ⟨b, hb, rfl⟩ := hblk
  rw [List.getD_eq_getElem?_getD] at hit
  cases hbr : b[r]? with
  | none => simp [hbr] at hit
  | some blk =>
    simp only [hbr, Option.getD_some] at hit
    exact hitem b hb blk (List.mem_of_getElem? hbr) it hit

theorem blockTo_a2aWorld (n : Nat) (blocks : List (List (List (List α)))) (recv0 : Nat → List α)
    (hitem : ∀ b ∈ blocks, ∀ blk ∈ b, ∀ it ∈ blk, it.length = n) (r : Nat) :
    (a2aWorld blocks recv0).map (fun b => blockTo r (vargsOf (n : Int) b)) = (column r blocks).map List.flatten := by
  rw [a2aWorld, ListFacts.map_mapIdx, column, List.map_map]
  refine mapIdx_eq_map fun s hs => ?_
  simp only [blockTo, vargsOf, Function.comp, ← lensI_flatten_items n _ (hitem _ (List.getElem_mem hs))]
  rw [slice_flatten]
  exact ListFacts.getD_map (f := List.flatten) (d := [])

theorem a2aWorld_getElem? (blocks : List (List (List (List α)))) (recv0 : Nat → List α) {r : Nat} {a : A2A α}
    (h : (a2aWorld blocks recv0)[r]? = some a) :
    ∃ hr : r < blocks.length, a = ⟨(blocks[r].map List.flatten).flatten, countsI blocks[r], recv0 r,
      countsI (column r blocks)⟩ :=
  of_getElem?_mapIdx h

theorem a2aWorld_consistent (n : Nat) (blocks : List (List (List (List α)))) (recv0 : Nat → List α)
    (hitem : ∀ b ∈ blocks, ∀ blk ∈ b, ∀ it ∈ blk, it.length = n) : Consistent (n : Int) (a2aWorld blocks recv0) where
  counts r a h := by
    obtain ⟨hr, rfl⟩ := a2aWorld_getElem? blocks recv0 h
    show countsI (column r blocks) = _
    rw [a2aWorld, ListFacts.map_mapIdx, column, countsI, List.map_map]
    exact (mapIdx_eq_map fun s _ => countsI_getD _ r).symm
  blocks r a h := by
    obtain ⟨hr, rfl⟩ := a2aWorld_getElem? blocks recv0 h
    rw [blockTo_a2aWorld n blocks recv0 hitem r, lensI_flatten_items n _ (column_items n blocks r hitem)]

theorem a2aWorld_sizesFit (n : Nat) (blocks : List (List (List (List α)))) (recv0 : Nat → List α)
    (hsend : ∀ b ∈ blocks, (n : Int) * (countsI b).sum ≤ INT_MAX)
    (hrcv : ∀ r, r < blocks.length → (n : Int) * (countsI (column r blocks)).sum ≤ INT_MAX) :
    SizesFit (n : Int) (a2aWorld blocks recv0) := by
  have key : ∀ a ∈ a2aWorld blocks recv0, ∃ r, ∃ hr : r < blocks.length,
      a.sendSize = countsI blocks[r] ∧ a.recvSize = countsI (column r blocks) := fun a ha => by
    obtain ⟨r, hr, rfl⟩ := List.mem_mapIdx.mp ha
    exact ⟨r, hr, rfl, rfl⟩
  refine ⟨fun a ha => ?_, fun a ha => ?_, fun a ha => ?_, fun a ha => ?_⟩ <;> obtain ⟨r, hr, h1, h2⟩ := key a ha
  · rw [h1]; exact countsI_nonneg _
  · rw [h1]; exact hsend _ (List.getElem_mem hr)
  · rw [h2]; exact countsI_nonneg _
  · rw [h2]; exact hrcv r hr

theorem a2aWorld_deposit (n : Nat) (blocks : List (List (List (List α)))) (recv0 : Nat → List α)
    (hitem : ∀ b ∈ blocks, ∀ blk ∈ b, ∀ it ∈ blk, it.length = n)
    (hrecv : ∀ r, r < blocks.length → ((recv0 r).length : Int) = (n : Int) * (countsI (column r blocks)).sum) :
    ((a2aWorld blocks recv0).mapIdx fun r a => (Status.ok,
        deposit a.recv (consec 0 ((a2aWorld blocks recv0).map fun b => blockTo r (vargsOf (n : Int) b)))))
      = (List.range blocks.length).map fun r => (Status.ok, ((column r blocks).flatten).flatten) := by
  simp only [blockTo_a2aWorld n blocks recv0 hitem]
  apply List.ext_getElem (by simp [a2aWorld])
  intro r h1 _
  have hr : r < blocks.length := by simpa [a2aWorld] using h1
  have hfull : (recv0 r).length = (((column r blocks).map List.flatten).flatten).length := by
    have := hrecv r hr
    rw [← sum_map_mul, ← lensI_flatten_items n _ (column_items n blocks r hitem), lensI_sum] at this
    omega
  simp only [a2aWorld, List.getElem_mapIdx, List.getElem_map, List.getElem_range]
  rw [deposit_consec_full _ _ hfull, List.flatten_flatten]

theorem alltoallvMpi_spec (ty : RefType) (hty : ty.mpiOk = true) (n : Nat)
    (blocks : List (List (List (List α)))) (recv0 : Nat → List α)
    (hitem : ∀ b ∈ blocks, ∀ blk ∈ b, ∀ it ∈ blk, it.length = n)
    (hrecv : ∀ r, r < blocks.length → ((recv0 r).length : Int) = (n : Int) * (countsI (column r blocks)).sum)
    (hsend : ∀ b ∈ blocks, (n : Int) * (countsI b).sum ≤ INT_MAX)
    (hrcv : ∀ r, r < blocks.length → (n : Int) * (countsI (column r blocks)).sum ≤ INT_MAX) :
    alltoallvMpi ty (n : Int) (a2aWorld blocks recv0)
      = some ((List.range blocks.length).map fun r => (Status.ok, ((column r blocks).flatten).flatten)) := by
  rw [alltoallvMpi_eq ty hty (Int.natCast_nonneg n) _ (a2aWorld_sizesFit n blocks recv0 hsend hrcv)
    (a2aWorld_consistent n blocks recv0 hitem), a2aWorld_deposit n blocks recv0 hitem hrecv]

theorem alltoallvNative_spec (ty : RefType) (hty : ty.nativeOk = true) (maxTag : Int) (n : Nat)
    (blocks : List (List (List (List α)))) (recv0 : Nat → List α)
    (hmax : (blocks.length : Int) * blocks.length ≤ maxTag)
    (hsq : ∀ b ∈ blocks, b.length = blocks.length)
    (hitem : ∀ b ∈ blocks, ∀ blk ∈ b, ∀ it ∈ blk, it.length = n)
    (hrecv : ∀ r, r < blocks.length → ((recv0 r).length : Int) = (n : Int) * (countsI (column r blocks)).sum) :
    alltoallvNative ty maxTag (n : Int) (a2aWorld blocks recv0)
      = some ((List.range blocks.length).map fun r => (Status.ok, ((column r blocks).flatten).flatten)) := by
  have hl : (a2aWorld blocks recv0).length = blocks.length := List.length_mapIdx
  rw [alltoallvNative_eq ty hty maxTag n _ (by rw [hl]; exact hmax)
    (fun a ha => by
      obtain ⟨r, hr, rfl⟩ := List.mem_mapIdx.mp ha
      simp [countsI, hl, hsq _ (List.getElem_mem hr)])
    (fun a ha => by
      obtain ⟨r, hr, rfl⟩ := List.mem_mapIdx.mp ha
      exact countsI_nonneg _)
    (a2aWorld_consistent n blocks recv0 hitem), a2aWorld_deposit n blocks recv0 hitem hrecv]

end Refine.Lemmas.Comm
