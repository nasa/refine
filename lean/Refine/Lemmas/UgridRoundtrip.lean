import Refine.Lemmas.UgridCells

/-! the serial UGRID reader applied to what a writer lays out (`encodeRaw`) returns the mesh -/
namespace Refine.Lemmas.Ugrid
open Refine.Gen Refine.Model.Endian Refine.Model.Ugrid
open Refine.Model.Meshb (Bytes Status Vertex P Cfg takeN encLE decLE toSigned ofSigned int32 wrap32 adjAdd adjAddAll)
open Refine.Lemmas.Codec (int32_iff)
open Refine.Lemmas.Formats (conn1_idx conn1_sub adjAddAll_conn1 setIds_restore map_take_self)

/-- the stored cell while the tag block has not been read: nodes, then `REF_EMPTY` -/
def stub (k : Kind) (c : List Int) : List Int := c.take k.nodePer ++ (if k.hasTag then [-1] else [])

theorem cellOfRow_connOf (cfg : Cfg) (hc : cfg.allocCap = 2 ^ 30) (k : Kind) {n : Nat} (hn : n < 2 ^ 27)
    {c : List Int} (h : cellOk k n c = true) :
    cellOfRow cfg k (n : Int) (connOf k c) = .ok (stub k c) := by
  have hin := nodesIn_of_cellOk h
  have hidx := conn1_idx (le_maxNodes hn) hin
  unfold cellOfRow
  rw [connOf_eq, if_neg, if_neg, adjAddAll_conn1 hc (le_maxNodes hn) hin, conn1_sub]
  · rfl
  all_goals
    rintro ⟨-, ha⟩
    obtain ⟨x, hx, hd⟩ := List.any_eq_true.1 ha
    have := hidx x hx
    have := of_decide_eq_true hd
    omega

theorem cellsOfRows_connOf (cfg : Cfg) (hc : cfg.allocCap = 2 ^ 30) (k : Kind) {n : Nat} (hn : n < 2 ^ 27)
    (cs : List (List Int)) (h : ∀ c ∈ cs, cellOk k n c = true) :
    cellsOfRows cfg k (n : Int) (cs.map (connOf k)) = .ok (cs.map (stub k)) := by
  induction cs with
  | nil => rfl
  | cons c cs ih =>
    simp only [List.map_cons, cellsOfRows]
    rw [cellOfRow_connOf cfg hc k hn (h c (by simp))]
    simp only
    rw [ih (fun d hd => h d (by simp [hd]))]

theorem rdInts_secConn (fl : Flavor) (k : Kind) {n : Nat} (hn : n < 2 ^ 27) (cs : List (List Int))
    (h : ∀ c ∈ cs, cellOk k n c = true) (r : Bytes) :
    rdInts fl (k.nodePer * cs.length) (secConn fl k cs ++ r) = .ok ((cs.map (connOf k)).flatten, r) := by
  rw [secConn_eq, ← flatten_connOf_length k cs h]
  exact rdInts_flatMap fl _ (fun x hx => (flatten_connOf_idx k hn cs h x hx).1) r

theorem rdInts_secTags (fl : Flavor) {k : Kind} (ht : k.hasTag = true) {n : Nat} (cs : List (List Int))
    (h : ∀ c ∈ cs, cellOk k n c = true) (r : Bytes) :
    rdInts fl cs.length (secTags fl k cs ++ r) = .ok (cs.map (tagOf k), r) := by
  have := rdInts_flatMap fl (cs.map (tagOf k)) (map_tagOf_int32 ht h) r
  rwa [List.length_map, ← secTags_eq] at this

/-- `ref_import_bin_ugrid_c2n` on a connectivity section returns the stored cells, for every chunk size ≥ 1 -/
theorem rdConn_secConn (cfg : Cfg) (hc : cfg.allocCap = 2 ^ 30) (fl : Flavor) (k : Kind) {n : Nat} (hn : n < 2 ^ 27)
    (maxChunk : Nat) (hm : 1 ≤ maxChunk) (fuel : Nat) (cs : List (List Int)) (hf : cs.length ≤ fuel)
    (h : ∀ c ∈ cs, cellOk k n c = true) (r : Bytes) :
    rdConn cfg fl k (n : Int) maxChunk fuel cs.length (secConn fl k cs ++ r) = .ok (cs.map (stub k), r) := by
  induction fuel generalizing cs with
  | zero =>
    have : cs = [] := List.eq_nil_of_length_eq_zero (by omega)
    subst this; simp [rdConn, secConn]
  | succ fuel ih =>
    by_cases h0 : cs.length = 0
    · have : cs = [] := List.eq_nil_of_length_eq_zero h0
      subst this; simp [rdConn, secConn]
    · simp only [rdConn, h0, if_false]
      set chunk := min maxChunk cs.length with hchunk
      have hlenA : (cs.take chunk).length = chunk := by simp; omega
      have hA : ∀ c ∈ cs.take chunk, cellOk k n c = true := fun c hc' => h c (List.mem_of_mem_take hc')
      have hB : ∀ c ∈ cs.drop chunk, cellOk k n c = true := fun c hc' => h c (List.mem_of_mem_drop hc')
      have hsec : secConn fl k cs ++ r = secConn fl k (cs.take chunk) ++ (secConn fl k (cs.drop chunk) ++ r) := by
        rw [← List.append_assoc, ← secConn_append, List.take_append_drop]
      have hrd := rdInts_secConn fl k hn _ hA (secConn fl k (cs.drop chunk) ++ r)
      have hrows := rows_map_flatten k.nodePer (connOf k) _ fun c hc' => connOf_length (hA c hc')
      rw [hlenA] at hrd hrows
      rw [hsec, hrd]
      simp only
      rw [hrows, cellsOfRows_connOf cfg hc k hn _ hA]
      simp only
      have := ih (cs.drop chunk) (by simp; omega) hB
      rw [List.length_drop] at this
      rw [this]
      simp only
      rw [← List.map_append, List.take_append_drop]

theorem setTags_stub (k : Kind) (ht : k.hasTag = true) {n : Nat} (cs : List (List Int))
    (h : ∀ c ∈ cs, cellOk k n c = true) :
    setTags k (cs.map (stub k)) (cs.map (tagOf k)) = cs := by
  rw [setTags_eq, show stub k = fun c => c.take k.nodePer ++ [-1] by funext c; simp [stub, ht]]
  exact setIds_restore k.nodePer cs fun c hc => length_of_tagged ht (h c hc)

theorem stub_noTag (k : Kind) (ht : k.hasTag = false) {n : Nat} (cs : List (List Int))
    (h : ∀ c ∈ cs, cellOk k n c = true) : cs.map (stub k) = cs := by
  rw [show stub k = (·.take k.nodePer) by funext c; simp [stub, ht]]
  exact map_take_self k.nodePer cs fun c hc => by simpa [Kind.sizePer, ht] using cellOk_length (h c hc)

theorem rdInts_secHeader (fl : Flavor) {m : UMesh} (hw : WellFormed m = true) (r : Bytes) :
    rdInts fl 7 (secHeader fl m ++ r) = .ok (hdrOf m, r) :=
  rdInts_flatMap fl (hdrOf m) (hdrOf_int32 hw) r

/-- `2 ^ 30`: the 1 GiB cap of the allocator the harness runs the C under.  Whatever follows the hex block is not looked
    at (`ref_import_bin_ugrid` has no `feof` / `ftell` behind it). -/
theorem decode_encodeRaw (cfg : Cfg) (hc : cfg.allocCap = 2 ^ 30) (maxChunk : Nat) (hm : 1 ≤ maxChunk) (fl : Flavor)
    (m : UMesh) (hw : WellFormed m = true) (junk : Bytes) :
    decodeUgridChunked cfg maxChunk fl (encodeRaw fl m ++ junk) = .ok m := by
  obtain ⟨hn, hk⟩ := (wf_iff m).1 hw
  unfold decodeUgridChunked encodeRaw sectionsRaw
  simp only [List.flatten_cons, List.flatten_nil, List.append_nil, List.append_assoc]
  -- the reader's ten reads in file order: each `rw` gives a read the section it stands on (its reader-on-writer lemma),
  -- the `simp only` after it steps to the next read; there is no other idea
  rw [rdInts_secHeader fl hw]
  simp only [hdrOf, List.map_cons, List.map_nil, List.getD_cons_zero, List.getD_cons_succ]
  have hneg1 : ¬ (3 * (m.nodes.length : Int) < -(2 ^ 31 : Int)) := by omega
  have hneg2 : ¬ ((m.nodes.length : Int) < 0) := by omega
  simp only [hneg1, hneg2, if_false, Int.toNat_natCast, cnt]
  unfold secNodes
  rw [rdVerts_flatMap]
  simp only
  rw [rdConn_secConn cfg hc fl .tri hn maxChunk hm _ m.tri (Nat.le_refl _) (hk .tri).2]
  simp only
  rw [rdConn_secConn cfg hc fl .qua hn maxChunk hm _ m.qua (Nat.le_refl _) (hk .qua).2]
  simp only
  rw [rdInts_secTags fl hasTag_tri m.tri (hk .tri).2]
  simp only
  rw [rdInts_secTags fl hasTag_qua m.qua (hk .qua).2]
  simp only
  rw [rdConn_secConn cfg hc fl .tet hn maxChunk hm _ m.tet (Nat.le_refl _) (hk .tet).2]
  simp only
  rw [rdConn_secConn cfg hc fl .pyr hn maxChunk hm _ m.pyr (Nat.le_refl _) (hk .pyr).2]
  simp only
  rw [rdConn_secConn cfg hc fl .pri hn maxChunk hm _ m.pri (Nat.le_refl _) (hk .pri).2]
  simp only
  rw [rdConn_secConn cfg hc fl .hex hn maxChunk hm _ m.hex (Nat.le_refl _) (hk .hex).2]
  simp only
  rw [setTags_stub .tri hasTag_tri m.tri (hk .tri).2, setTags_stub .qua hasTag_qua m.qua (hk .qua).2,
    stub_noTag .tet hasTag_tet m.tet (hk .tet).2, stub_noTag .pyr hasTag_pyr m.pyr (hk .pyr).2,
    stub_noTag .pri hasTag_pri m.pri (hk .pri).2, stub_noTag .hex hasTag_hex m.hex (hk .hex).2]

end Refine.Lemmas.Ugrid
