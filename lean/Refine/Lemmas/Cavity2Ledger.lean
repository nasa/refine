import Refine.Model.Cavity2
import Refine.Lemmas.Cavity2D
import Refine.Lemmas.CavityGrid
import Refine.Lemmas.CavityValid

/-!
  The boundary bookkeeping of a tet + tri cavity (`ref_cavity_insert_seg` with a non-empty `tet_list`).  `coneSum` is the
  cone of the live segs from the seg node — the faces of the boundary tris `ref_cavity_replace` will create — and
  `ledgerVal` the live faces minus that cone.  The functions are described by what they offer to the two row stores
  (`Puts`), without a cochain; read under `φ`, `ψ`, a successful `ref_cavity_insert_seg` leaves `ledgerVal` alone except
  for the tets `ref_cavity_remove_seg_add_tets` pulls in, which contribute their boundary minus the faces that coincide
  with the two tris on the cancelled seg.
-/
namespace Refine.Lemmas.Cavity2
open Refine.Model.Cavity Refine.Model.Cavity2 Refine.Lemmas.Cavity

variable {G : Type} [AddCommGroup G] {α : Type}

def coneSum (φ : Int → Int → Int → G) (n : Int) (l : List Seg) : G := (l.map fun s => φ s.n0 s.n1 n).sum

def ledgerVal (φ : Int → Int → Int → G) (c : Cav) : G :=
  rowsSum φ c.faces.rows - coneSum φ c.segNode c.validSegs

/-- the guard shared by `add_seg_face`, `remove_seg_face`, `remove_seg_add_tets` -/
def SegFaceActive (c : Cav) : Prop := c.tetList ≠ [] ∧ c.state = .unknown

/-- what the seg-face helpers offer to the face store for the seg `s`: its cone face from `n`, or nothing when `s` is
    attached to `n` — and then that face counts 0 -/
def IsCone (n : Int) (s : Seg) (l : List Face) : Prop :=
  l = [⟨s.n0, s.n1, n⟩] ∨ ((s.n0 == n || s.n1 == n) = true ∧ l = [])

theorem IsCone.sum {φ : Int → Int → Int → G} (hφ : Alt φ) (hd : Diag φ) {n : Int} {s : Seg} {l : List Face}
    (h : IsCone n s l) : faceSum φ l = φ s.n0 s.n1 n := by
  rcases h with rfl | ⟨hatt, rfl⟩
  · simp [faceSum, φF]
  · simp only [Bool.or_eq_true, beq_iff_eq] at hatt
    rcases hatt with e | e
    · rw [← e, diag1 hφ hd]; rfl
    · rw [← e, diag2 hφ hd]; rfl

theorem IsCone.mem {n : Int} {s : Seg} {l : List Face} (h : IsCone n s l) : ∀ x ∈ l, x = ⟨s.n0, s.n1, n⟩ := by
  rcases h with rfl | ⟨_, rfl⟩ <;> simp

theorem cones_sum {φ : Int → Int → Int → G} (hφ : Alt φ) (hd : Diag φ) {n : Int} {ss : List Seg} {ls : List (List Face)}
    (h : List.Forall₂ (IsCone n) ss ls) : faceSum φ ls.flatten = coneSum φ n ss := by
  induction h with
  | nil => rfl
  | cons h1 _ ih =>
    rw [List.flatten_cons, faceSum, List.map_append, List.sum_append, ← faceSum, ← faceSum, ih, h1.sum hφ hd]; rfl

theorem cones_mem {n : Int} {ss : List Seg} {ls : List (List Face)} (h : List.Forall₂ (IsCone n) ss ls) :
    ∀ x ∈ ls.flatten, ∃ s ∈ ss, x = ⟨s.n0, s.n1, n⟩ := by
  induction h with
  | nil => simp
  | cons h1 _ ih =>
    intro x hx
    rcases List.mem_append.mp (List.flatten_cons ▸ hx) with hx | hx
    · exact ⟨_, List.mem_cons_self, h1.mem x hx⟩
    · exact (ih x hx).imp fun s hs => ⟨List.mem_cons_of_mem _ hs.1, hs.2⟩

/-- the cone face is offered to a store that holds its reverse, so it cancels -/
theorem removeSegFace_puts {c c' : Cav} {s : Seg} (hact : SegFaceActive c) (h : removeSegFace c s = (.ok, c')) :
    FacePuts c.faces [⟨s.n0, s.n1, c.segNode⟩] c'.faces ∧ SameButFaces c c' := by
  revert h
  fun_cases removeSegFace c s <;> intro h
  case case1 he => exact absurd he (by simp [List.isEmpty_eq_false_iff.mpr hact.1])
  case case2 hs => exact absurd hact.2 hs
  case case5 i hfind =>          -- the reversed cone face is there
    obtain ⟨gf, hg, hr, _⟩ := findFace_spec _ _ _ _ hfind
    cases h
    exact ⟨.cancel i gf hg (hr rfl) (.nil _), rfl, rfl, rfl, rfl, rfl, rfl⟩
  all_goals cases h

theorem addSegFace_puts {c c' : Cav} {s : Seg} (hact : SegFaceActive c) (h : addSegFace c s = (.ok, c')) :
    ∃ cone, IsCone c.segNode s cone ∧ FacePuts c.faces cone c'.faces ∧ SameButFaces c c' := by
  revert h
  fun_cases addSegFace c s <;> intro h
  case case1 he => exact absurd he (by simp [List.isEmpty_eq_false_iff.mpr hact.1])
  case case2 hs => exact absurd hact.2 hs
  case case3 hatt => cases h; exact ⟨[], Or.inr ⟨hatt, rfl⟩, .nil _, rfl, rfl, rfl, rfl, rfl, rfl⟩
  case case4 => exact ⟨_, Or.inl rfl, insertFace_puts h, insertFace_same_of_eq h⟩

/-- the faces of a tet that `ref_cavity_remove_seg_add_tets` inserts: those that are not one of the two tris `skip` -/
def rmSegKeep (g : Grid α) (skip : List Nat) (f : Face) : Bool :=
  match (g.tris.having Tri.nodes f.n0).find? fun p =>
      p.2.nodes.all (fun v => f.has v) && [f.n0, f.n1, f.n2].all (fun v => p.2.nodes.contains v) with
  | some p => !(skip.contains p.1)
  | none => true

theorem rmSegTetFaces_eq (g : Grid α) (skip : List Nat) (c : Cav) (fs : List Face) :
    rmSegTetFaces g skip c fs = insertFaces c (fs.filter (rmSegKeep g skip)) := by
  induction fs generalizing c with
  | nil => rfl
  | cons f t ih =>
    unfold rmSegTetFaces
    simp only
    split
    · next p hp =>
      split
      · next hsk =>
        have hk : rmSegKeep g skip f = false := by
          unfold rmSegKeep; rw [hp]; simp only [hsk, Bool.not_true]
        rw [List.filter_cons, hk]; simp only [Bool.false_eq_true, if_false]; exact ih c
      · next hsk =>
        have hk : rmSegKeep g skip f = true := by
          unfold rmSegKeep; rw [hp]; simp only [hsk, Bool.not_false]
        rw [List.filter_cons, hk]; simp only [if_true, insertFaces]
        rcases insertFace c f with ⟨s1, c1⟩
        cases s1 <;> first | exact ih c1 | rfl
    · next hp =>
      have hk : rmSegKeep g skip f = true := by
        unfold rmSegKeep; rw [hp]
      rw [List.filter_cons, hk]; simp only [if_true, insertFaces]
      rcases insertFace c f with ⟨s1, c1⟩
      cases s1 <;> first | exact ih c1 | rfl

def keptFaces (g : Grid α) (skip : List Nat) (cell : Int) : List Face :=
  match g.tets.get? cell with
  | some t => (tetFaces t).filter (rmSegKeep g skip)
  | none => []

theorem faceSum_filter_split (φ : Int → Int → Int → G) (p : Face → Bool) (l : List Face) :
    faceSum φ l = faceSum φ (l.filter p) + faceSum φ (l.filter fun f => !(p f)) :=
  sum_filter_split l p (φF φ)

theorem keptOf_sum (φ : Int → Int → Int → G) (g : Grid α) (keep : Tet → Face → Bool) (cell : Int) :
    faceSum φ (keptOf g keep cell) = tetBd φ g cell - faceSum φ (keptOf g (fun t f => !(keep t f)) cell) := by
  unfold keptOf tetBd
  cases g.tets.get? cell with
  | none => simp [faceSum]
  | some t => simp only; rw [faceSum_filter_split φ (keep t) (tetFaces t)]; abel

theorem keptFaces_eq (g : Grid α) (skip : List Nat) : keptFaces g skip = keptOf g fun _ => rmSegKeep g skip := rfl

theorem rmSegTets_tetsListed (g : Grid α) (skip : List Nat) (cells : List (Nat × Tet))
    (hcells : ∀ p ∈ cells, g.tets.get? (p.1 : Int) = some p.2) (c c' : Cav)
    (h : rmSegTets g skip c cells = (.ok, c')) (hs : c'.state = .unknown) :
    ∃ new, TetsListed g (fun _ => rmSegKeep g skip) c c' new := by
  fun_induction rmSegTets g skip c cells with
  | case1 c => cases h; exact ⟨[], .refl _⟩
  | case2 c cell tet rest _ ih => exact ih (fun p hp => hcells p (List.mem_cons_of_mem _ hp)) h
  | case3 c cell tet rest _ c0 _ => cases h; simp at hs
  | case4 c cell tet rest hnot c0 _ c1 hins ih =>
    rw [rmSegTetFaces_eq] at hins
    obtain ⟨new, st2⟩ := ih (fun p hp => hcells p (List.mem_cons_of_mem _ hp)) h
    exact ⟨_, (TetsListed.push (hcells _ List.mem_cons_self) (fun hm => hnot (List.contains_iff_mem.mpr hm)) hins).trans st2⟩
  | case5 c cell tet rest _ c0 _ hne => exact (hne c' h).elim

/-- the two tris on the seg, as `ref_cell_list_with2` lists them -/
def segSkip (g : Grid α) (s : Seg) : List Nat := (g.tris.having2 Tri.nodes s.n0 s.n1).map (·.1)

theorem removeSegAddTets_tetsListed (g : Grid α) (c c' : Cav) (s : Seg) (hact : SegFaceActive c)
    (h : removeSegAddTets g c s = (.ok, c')) (hs : c'.state = .unknown) :
    ∃ new, TetsListed g (fun _ => rmSegKeep g (segSkip g s)) c c' new := by
  revert h
  fun_cases removeSegAddTets g c s <;> intro h
  case case1 he => exact absurd he (by simp [List.isEmpty_eq_false_iff.mpr hact.1])
  case case2 hs => exact absurd hact.2 hs
  case case5 =>
    exact rmSegTets_tetsListed g (segSkip g s) _ (fun p hp => having2_get g.tets Tet.nodes s.n0 s.n1 p hp) c c' h hs
  all_goals cases h

theorem segNode_eq {c c' : Cav} (h1 : c'.node = c.node) (h2 : c'.surfNode = c.surfNode) : c'.segNode = c.segNode := by
  simp only [Cav.segNode, h1, h2]

/-- outcome of a successful 3-D `ref_cavity_insert_seg` that leaves the state `unknown` -/
structure SegStep (φ : Int → Int → Int → G) (ψ : Int → Int → G) (g : Grid α) (c c' : Cav) (s : Seg) (new : List Int) :
    Prop where
  finv : SlotsInv c'.faces
  sinv : SlotsInv c'.segs
  node : c'.node = c.node
  surf : c'.surfNode = c.surfNode
  tris : c'.triList = c.triList
  tets : c'.tetList = c.tetList ++ new
  live : ∀ cell ∈ new, ∃ t, g.tets.get? cell = some t
  nodup : new.Nodup
  fresh : ∀ cell ∈ new, cell ∉ c.tetList
  ledger : ledgerVal φ c' = ledgerVal φ c + (new.map fun cell => faceSum φ (keptFaces g (segSkip g s) cell)).sum
  segs : segSum ψ c'.validSegs = segSum ψ c.validSegs + ψ s.n0 s.n1
  segMem : ∀ x ∈ c'.validSegs, x ∈ c.validSegs ∨ x = s
  faceMem : ∀ x ∈ c'.validFaces, x ∈ c.validFaces ∨ x = ⟨s.n0, s.n1, c.segNode⟩ ∨
    ∃ cell ∈ new, x ∈ keptFaces g (segSkip g s) cell

/-- the same without cochains: the seg was offered to the seg store, its cone face (`cone`) and the kept faces of the
    tets `new` pulled in to the face store -/
structure SegInserted (g : Grid α) (c c' : Cav) (s : Seg) (new : List Int) (cone : List Face) : Prop where
  node : c'.node = c.node
  surf : c'.surfNode = c.surfNode
  tris : c'.triList = c.triList
  tets : c'.tetList = c.tetList ++ new
  live : ∀ cell ∈ new, ∃ t, g.tets.get? cell = some t
  nodup : new.Nodup
  fresh : ∀ cell ∈ new, cell ∉ c.tetList
  isCone : IsCone c.segNode s cone
  segs : SegPuts c.segs [s] c'.segs
  faces : FacePuts c.faces (cone ++ new.flatMap (keptFaces g (segSkip g s))) c'.faces

theorem insertSeg_inserted (g : Grid α) (c c' : Cav) (s : Seg) (hact : SegFaceActive c)
    (h : insertSeg g c s = (.ok, c')) (hs : c'.state = .unknown) : ∃ new cone, SegInserted g c c' s new cone := by
  revert h
  fun_cases insertSeg g c s with
  | case1 => intro h; cases h; simp at hs
  | case2 i hfind old hold _ c0 c1 h1 =>
    intro h
    obtain ⟨fp, sf⟩ := removeSegFace_puts (c := c0) hact h1
    obtain ⟨new, pl⟩ := removeSegAddTets_tetsListed g c1 c' s
      ⟨by rw [sf.tetList]; exact hact.1, by rw [sf.state]; exact hact.2⟩ h hs
    obtain ⟨_, old', hg, hr, _⟩ := findSegAux_spec _ _ _ _ _ _ hfind
    rw [Nat.sub_zero, hold] at hg; cases hg
    exact ⟨new, _, {
      node := pl.same.node.trans sf.node, surf := pl.same.surfNode.trans sf.surfNode
      tris := pl.same.triList.trans sf.triList, tets := by rw [pl.tets, sf.tetList]
      live := pl.live, nodup := pl.nodup, fresh := fun cell hc => sf.tetList ▸ pl.fresh cell hc
      isCone := Or.inl rfl
      segs := (pl.same.segs.trans sf.segs) ▸ .cancel i old hold (hr rfl) (.nil _)
      faces := fp.append (keptFaces_eq g _ ▸ pl.puts) }⟩
  | case3 i _ old _ _ c0 hne => exact fun h => (hne c' h).elim
  | case4 => exact fun h => by cases h
  | case5 => exact fun h => by cases h
  | case6 _ c0 =>
    intro h
    obtain ⟨cone, hc, fp, sf⟩ := addSegFace_puts (c := c0) hact h
    exact ⟨[], cone, {
      node := sf.node, surf := sf.surfNode, tris := sf.triList, tets := sf.tetList.trans (List.append_nil _).symm
      live := by simp, nodup := by simp, fresh := by simp, isCone := hc
      segs := sf.segs ▸ .add 100 (by decide) (.nil _), faces := by simpa using fp }⟩

/-- the cone from `n` turns a face cochain into an edge cochain: the cone of a seg list is its seg sum -/
theorem cone_alt2 {φ : Int → Int → Int → G} (hφ : Alt φ) (hd : Diag φ) (n : Int) : Alt2 fun a b => φ a b n :=
  ⟨fun a b => hφ.swap a b n, fun a => hd a n⟩

/-- the chains of a seg step, read off the two stores: the cone of the seg enters the face sum and the cone sum alike, so
    the ledger moves by the kept faces only -/
theorem SegInserted.step {φ : Int → Int → Int → G} {ψ : Int → Int → G} (hφ : Alt φ) (hd : Diag φ) (hψ : Alt2 ψ)
    {g : Grid α} {c c' : Cav} {s : Seg} {new : List Int} {cone : List Face} (p : SegInserted g c c' s new cone)
    (hf : SlotsInv c.faces) (hsg : SlotsInv c.segs) : SegStep φ ψ g c c' s new := by
  refine ⟨p.faces.inv hf, p.segs.inv hsg, p.node, p.surf, p.tris, p.tets, p.live, p.nodup, p.fresh, ?_, ?_, ?_, ?_⟩
  · have hc : coneSum φ c.segNode c'.validSegs = coneSum φ c.segNode c.validSegs + φ s.n0 s.n1 c.segNode := by
      simpa [segSum, coneSum, Cav.validSegs] using p.segs.sum hsg (cone_alt2 hφ hd c.segNode)
    rw [ledgerVal, ledgerVal, segNode_eq p.node p.surf, hc, FacePuts.rowsSum p.faces hf hφ, faceSum, List.map_append,
      List.sum_append, ← faceSum, ← faceSum, p.isCone.sum hφ hd, faceSum, sum_map_flatMap]
    simp only [faceSum]; abel
  · simpa [segSum, Cav.validSegs] using p.segs.sum hsg hψ
  · exact fun x hx => (p.segs.mem hsg x hx).imp_right fun h => List.mem_singleton.mp h
  · intro x hx
    rcases p.faces.mem hf x hx with h | h
    · exact Or.inl h
    · rcases List.mem_append.mp h with h | h
      · exact Or.inr (Or.inl (p.isCone.mem x h))
      · exact Or.inr (Or.inr (List.mem_flatMap.mp h))

/-- **the 3-D `ref_cavity_insert_seg`.**  On an active cavity (tets listed, state unknown) a successful call either
    flags the cavity (face-id mismatch: `boundary_constrained`; a ghost tet pulled in: `partition_constrained`) or
    keeps `ledgerVal` up to the tets pulled in by `remove_seg_add_tets`, and changes the seg chain by `ψ(s)`. -/
theorem insertSeg3_spec {φ : Int → Int → Int → G} {ψ : Int → Int → G} (hφ : Alt φ) (hd : Diag φ) (hψ : Alt2 ψ)
    (g : Grid α) (c c' : Cav) (s : Seg) (hf : SlotsInv c.faces) (hsg : SlotsInv c.segs) (hact : SegFaceActive c)
    (h : insertSeg g c s = (.ok, c')) :
    c'.state ≠ .unknown ∨ ∃ new, SegStep φ ψ g c c' s new := by
  by_cases hs : c'.state = .unknown
  · obtain ⟨new, cone, p⟩ := insertSeg_inserted g c c' s hact h hs
    exact Or.inr ⟨new, p.step hφ hd hψ hf hsg⟩
  · exact Or.inl hs

/-! Cited by no proof; named (by pattern) by the C01 entry of `MANIFEST.json`. -/

theorem diag_aba {φ : Int → Int → Int → G} (hφ : Alt φ) (hd : Diag φ) (a b : Int) : φ a b a = 0 := diag1 hφ hd a b

theorem diag_abb {φ : Int → Int → Int → G} (hφ : Alt φ) (hd : Diag φ) (a b : Int) : φ a b b = 0 := diag2 hφ hd b a

theorem insertFaces_spec {φ : Int → Int → Int → G} (hφ : Alt φ) (fs : List Face) (c c' : Cav)
    (hinv : SlotsInv c.faces) (h : insertFaces c fs = (.ok, c')) :
    SlotsInv c'.faces ∧ SameButFaces c c' ∧
    rowsSum φ c'.faces.rows = rowsSum φ c.faces.rows + faceSum φ fs ∧
    (∀ x ∈ c'.validFaces, x ∈ c.validFaces ∨ x ∈ fs) :=
  have ⟨p, s⟩ := insertFaces_puts h
  ⟨p.inv hinv, s, FacePuts.rowsSum p hinv hφ, p.mem hinv⟩

def skippedFaces (g : Grid α) (skip : List Nat) (cell : Int) : List Face :=
  match g.tets.get? cell with
  | some t => (tetFaces t).filter fun f => !(rmSegKeep g skip f)
  | none => []

theorem kept_eq (φ : Int → Int → Int → G) (g : Grid α) (skip : List Nat) (cell : Int) :
    faceSum φ (keptFaces g skip cell) = tetBd φ g cell - faceSum φ (skippedFaces g skip cell) :=
  keptOf_sum φ g (fun _ => rmSegKeep g skip) cell

end Refine.Lemmas.Cavity2
