import Refine.Lemmas.MeshOps
import Refine.Props.C15

/-!
  Exact-arithmetic (ℝ) geometry of the local operations: an edge split divides the volume of every tet on the
  edge in the ratio `(1-w) : w`.
-/
namespace Refine.Model.MeshOps
open Refine Refine.Model.Geom Refine.ScalarReal

/-- `ref_node_tet_vol` of a tet row under the coordinate map `xyz` -/
noncomputable def rowVol (xyz : Int → V3 ℝ) (c : Cell) : ℝ :=
  tetVol (xyz (c.getD 0 (-1))) (xyz (c.getD 1 (-1))) (xyz (c.getD 2 (-1))) (xyz (c.getD 3 (-1)))

theorem subst4 (old new v0 v1 v2 v3 : Int) :
    subst 4 old new [v0, v1, v2, v3] =
      [if v0 = old then new else v0, if v1 = old then new else v1, if v2 = old then new else v2,
       if v3 = old then new else v3] := by
  simp [subst]

open Refine.GeomReal Refine.Props.C15

theorem interpolateEdgeXyz_symm (a b : V3 ℝ) (w : ℝ) :
    interpolateEdgeXyz a b w = interpolateEdgeXyz b a (1 - w) := by
  rw [interpolateEdge_eq, interpolateEdge_eq]
  ext <;> simp only [vadd, vsmul] <;> ring

/-- `tetVol` is affine in the position of `old`, and the term of `other` has a repeated vertex -/
theorem rowVol_subst_interp (xyz : Int → V3 ℝ) (old other new : Int) (w : ℝ) (v0 v1 v2 v3 : Int)
    (hnd : [v0, v1, v2, v3].Nodup) (h0 : old ∈ [v0, v1, v2, v3]) (h1 : other ∈ [v0, v1, v2, v3])
    (hne : old ≠ other) (hx : xyz new = interpolateEdgeXyz (xyz old) (xyz other) w) :
    rowVol xyz (subst 4 old new [v0, v1, v2, v3]) = (1 - w) * rowVol xyz [v0, v1, v2, v3] := by
  simp only [List.nodup_cons, List.mem_cons, List.not_mem_nil, or_false, not_or, List.nodup_nil, and_true,
    not_false_eq_true] at hnd h0 h1
  obtain ⟨⟨a1, a2, a3⟩, ⟨a4, a5⟩, a6⟩ := hnd
  simp only [subst4, rowVol, List.getD_cons_zero, List.getD_cons_succ]
  rcases h0 with rfl | rfl | rfl | rfl
  · simp only [if_true, if_neg (Ne.symm a1), if_neg (Ne.symm a2), if_neg (Ne.symm a3), hx, tetVol_interp0]
    rcases h1 with rfl | rfl | rfl | rfl <;> simp [tetVol_degenerate, tetVol_same02, tetVol_same03] at hne ⊢
  · simp only [if_true, if_neg a1, if_neg (Ne.symm a4), if_neg (Ne.symm a5), hx, tetVol_interp1]
    rcases h1 with rfl | rfl | rfl | rfl <;> simp [tetVol_degenerate, tetVol_same12, tetVol_same13] at hne ⊢
  · simp only [if_true, if_neg a2, if_neg a4, if_neg (Ne.symm a6), hx, tetVol_interp2]
    rcases h1 with rfl | rfl | rfl | rfl <;> simp [tetVol_same02, tetVol_same12, tetVol_same23] at hne ⊢
  · simp only [if_true, if_neg a3, if_neg a5, if_neg a6, hx, tetVol_interp3]
    rcases h1 with rfl | rfl | rfl | rfl <;> simp [tetVol_same03, tetVol_same13, tetVol_same23] at hne ⊢

/-- **split_vol**, per cell: a tet `[v0,v1,v2,v3]` without a repeated vertex that contains both end points of the
    split edge, `new` fresh and placed at `(1-w)*x(n0) + w*x(n1)`: the `node0 ↦ new` half has `(1-w)` times and
    the `node1 ↦ new` half `w` times the volume of the tet (so the halves add up to it and, for `0 < w < 1`,
    have its sign) -/
theorem split_vol_cell (xyz : Int → V3 ℝ) (n0 n1 new : Int) (w : ℝ) (v0 v1 v2 v3 : Int)
    (hnd : [v0, v1, v2, v3].Nodup) (h0 : n0 ∈ [v0, v1, v2, v3]) (h1 : n1 ∈ [v0, v1, v2, v3]) (hne : n0 ≠ n1)
    (hf : new ∉ [v0, v1, v2, v3]) (hx : xyz new = interpolateEdgeXyz (xyz n0) (xyz n1) w) :
    rowVol xyz (splitV0 4 n0 new [v0, v1, v2, v3]) = (1 - w) * rowVol xyz [v0, v1, v2, v3] ∧
    rowVol xyz (splitV1 4 n0 n1 new [v0, v1, v2, v3]) = w * rowVol xyz [v0, v1, v2, v3] := by
  refine ⟨rowVol_subst_interp xyz n0 n1 new w v0 v1 v2 v3 hnd h0 h1 hne hx, ?_⟩
  rw [splitV1_fresh 4 n0 n1 new _ (by simpa [nodesOf] using hf),
    rowVol_subst_interp xyz n1 n0 new (1 - w) v0 v1 v2 v3 hnd h1 h0 hne.symm
      (by rw [hx, interpolateEdgeXyz_symm]),
    sub_sub_cancel]

end Refine.Model.MeshOps
