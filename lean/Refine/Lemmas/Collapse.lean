import Refine.Model.Collapse
import Refine.Lemmas.GuardsRules
import Refine.Lemmas.CavityChain
import Refine.Lemmas.CavityReplace
import Mathlib.Tactic.Abel

/-!
  Lemmas for `Props/C13Collapse.lean`: the edge collapse `node1 ↦ node0` as a simplicial map.

  `sig n0 n1` is the vertex map; `(φ ∘ σ)` of an alternating, diagonal-free `φ` is again alternating and
  diagonal-free; a tet / tri with a repeated vertex has zero signed boundary / value; hence the signed boundary of the
  collapsed groups under `φ` is the signed boundary of the input groups under `φ ∘ σ`.
-/
namespace Refine.Lemmas.Collapse
open Refine Refine.Model Refine.Model.Guards Refine.Model.Cavity Refine.Lemmas.Cavity Refine.GuardsRules

variable {G : Type} [AddCommGroup G]

/-- the vertex map of the collapse on node numbers -/
def sig (n0 n1 : Nat) (v : Int) : Int := if v = (n1 : Int) then (n0 : Int) else v

/-- `φ ∘ σ` -/
def pull (φ : Int → Int → Int → G) (n0 n1 : Nat) : Int → Int → Int → G :=
  fun a b c => φ (sig n0 n1 a) (sig n0 n1 b) (sig n0 n1 c)

theorem pull_alt {φ : Int → Int → Int → G} (hφ : Alt φ) (n0 n1 : Nat) : Alt (pull φ n0 n1) :=
  hφ.comp (sig n0 n1)

theorem pull_diag {φ : Int → Int → Int → G} (hd : Diag φ) (n0 n1 : Nat) : Diag (pull φ n0 n1) :=
  fun _ _ => hd _ _

def tetOf (c : Cell) : Tet := ⟨(c.nd 0 : Int), (c.nd 1 : Int), (c.nd 2 : Int), (c.nd 3 : Int)⟩

def cellBd (φ : Int → Int → Int → G) (c : Cell) : G := faceSum φ (tetFaces (tetOf c))

def triVal (φ : Int → Int → Int → G) (c : Cell) : G := φ (c.nd 0 : Int) (c.nd 1 : Int) (c.nd 2 : Int)

/-- `Σ_tets ∂φ − Σ_tris φ` of a `Guards.Grid` (the `meshBd` of `Props/C01` on the list model of the guards) -/
def gridBd (φ : Int → Int → Int → G) (g : Grid) : G :=
  (g.tet.map (cellBd φ)).sum - (g.tri.map (triVal φ)).sum

theorem tetBd_deg {φ : Int → Int → Int → G} (hφ : Alt φ) (hd : Diag φ) (a b c d : Int)
    (h : a = b ∨ a = c ∨ a = d ∨ b = c ∨ b = d ∨ c = d) : faceSum φ (tetFaces ⟨a, b, c, d⟩) = 0 := by
  have z0 := hd
  have z1 := diag1 hφ hd
  have z2 := diag2 hφ hd
  rw [tetFaces_eq]
  simp only [faceSum, φF, List.map_cons, List.map_nil, List.sum_cons, List.sum_nil]
  rcases h with h | h | h | h | h | h <;> subst h
  · rw [z1, z0, hφ.swap12 a c d]; abel
  · rw [z0, z1, hφ.rot a b d, hφ.swap12 a b d]; abel
  · rw [z1, z0, hφ.swap a b c]; abel
  · rw [z1, z2, hφ.swap12 a b d]; abel
  · rw [z0, z2, hφ.swap12 a b c]; abel
  · rw [z2, z2, hφ.swap12 a b c]; abel

theorem cast_subst (n0 n1 n : Nat) : (((if n == n1 then n0 else n : Nat)) : Int) = sig n0 n1 (n : Int) := by
  unfold sig
  by_cases h : n = n1
  · subst h; simp
  · have : (n : Int) ≠ (n1 : Int) := fun e => h (Int.ofNat_inj.mp e)
    simp [h, this]

theorem subst_nd (n0 n1 : Nat) (c : Cell) (k : Nat) (hk : k < c.nodes.length) :
    (((Cell.subst n1 n0 c).nd k : Nat) : Int) = sig n0 n1 (c.nd k : Int) := by
  unfold Cell.subst Cell.nd
  simp only
  have h1 : (List.map (fun n => if (n == n1) = true then n0 else n) c.nodes).getD k 0 =
      (fun n => if (n == n1) = true then n0 else n) (c.nodes.getD k 0) := by
    simp [List.getD_eq_getElem?_getD, List.getElem?_map, List.getElem?_eq_getElem hk]
  rw [h1]
  exact cast_subst n0 n1 _

theorem cellBd_subst (φ : Int → Int → Int → G) (n0 n1 : Nat) (c : Cell) (h4 : c.nodes.length = 4) :
    cellBd φ (Cell.subst n1 n0 c) = cellBd (pull φ n0 n1) c := by
  unfold cellBd tetOf
  rw [subst_nd n0 n1 c 0 (by omega), subst_nd n0 n1 c 1 (by omega), subst_nd n0 n1 c 2 (by omega),
    subst_nd n0 n1 c 3 (by omega), tetFaces_eq, tetFaces_eq]
  simp only [faceSum, φF, pull, List.map_cons, List.map_nil]

omit [AddCommGroup G] in
theorem triVal_subst (φ : Int → Int → Int → G) (n0 n1 : Nat) (c : Cell) (h3 : c.nodes.length = 3) :
    triVal φ (Cell.subst n1 n0 c) = triVal (pull φ n0 n1) c := by
  unfold triVal
  rw [subst_nd n0 n1 c 0 (by omega), subst_nd n0 n1 c 1 (by omega), subst_nd n0 n1 c 2 (by omega)]
  rfl

theorem cellBd_dup {φ : Int → Int → Int → G} (hφ : Alt φ) (hd : Diag φ) (c : Cell) (h4 : c.nodes.length = 4)
    (h : ¬ c.nodes.Nodup) : cellBd φ c = 0 := by
  obtain ⟨ns, id⟩ := c
  match ns, h4 with
  | [a, b, c', d], _ =>
    refine tetBd_deg hφ hd _ _ _ _ ?_
    simpa only [Cell.nd, List.getD_cons_zero, List.getD_cons_succ, Nat.cast_inj, List.nodup_cons, List.mem_cons,
      List.not_mem_nil, List.nodup_nil, or_false, not_false_eq_true, and_true, not_and_or, not_not, or_assoc] using h

theorem triVal_dup {φ : Int → Int → Int → G} (hφ : Alt φ) (hd : Diag φ) (c : Cell) (h3 : c.nodes.length = 3)
    (h : ¬ c.nodes.Nodup) : triVal φ c = 0 := by
  obtain ⟨ns, id⟩ := c
  match ns, h3 with
  | [a, b, c'], _ =>
    simp only [List.nodup_cons, List.mem_cons, List.not_mem_nil, List.nodup_nil, or_false, not_false_eq_true,
      and_true, not_and_or, not_not, or_assoc] at h
    simp only [triVal, Cell.nd, List.getD_cons_zero, List.getD_cons_succ]
    rcases h with rfl | rfl | rfl
    · exact hd _ _
    · exact diag1 hφ hd _ _
    · exact diag2 hφ hd _ _

theorem subst_dup {n0 n1 : Nat} (hne : n0 ≠ n1) {c : Cell} (h0 : n0 ∈ c.nodes) (h1 : n1 ∈ c.nodes) :
    ¬ (Cell.subst n1 n0 c).nodes.Nodup :=
  fun hnd => hne (List.inj_on_of_nodup_map hnd h0 h1 (by simp))

theorem sum_collapseGroup (val : (Int → Int → Int → G) → Cell → G) (φ : Int → Int → Int → G) {n0 n1 : Nat}
    (hne : n0 ≠ n1) (cells : List Cell)
    (hsub : ∀ c ∈ cells, val φ (Cell.subst n1 n0 c) = val (pull φ n0 n1) c)
    (hdup : ∀ c ∈ cells, ¬ (Cell.subst n1 n0 c).nodes.Nodup → val φ (Cell.subst n1 n0 c) = 0) :
    ((collapseGroup cells n0 n1).map (val φ)).sum = (cells.map (val (pull φ n0 n1))).sum := by
  rw [collapseGroup, List.map_map]
  refine .trans (congrArg List.sum (List.map_congr_left fun c hc => hsub c (List.mem_filter.mp hc).1))
    (Cavity2.sum_filter_zero cells _ _ fun c hc hb => ?_).symm
  simp only [Bool.not_eq_false', Bool.and_eq_true, List.contains_iff_mem] at hb
  exact (hsub c hc).symm.trans (hdup c hc (subst_dup hne hb.1 hb.2))

theorem mem_uniq_insert (x y : Nat) (l : List Nat) : y ∈ insertU x l ↔ y = x ∨ y ∈ l := by
  induction l with
  | nil => simp [insertU]
  | cons z zs ih =>
    unfold insertU
    split
    · exact List.mem_cons
    · split
      · next h => subst h; exact ⟨Or.inr, fun h => h.elim (fun e => e ▸ List.mem_cons_self) id⟩
      · rw [List.mem_cons, ih, List.mem_cons, or_left_comm]

theorem mem_uniq (y : Nat) (l : List Nat) : y ∈ uniq l ↔ y ∈ l := by
  unfold uniq
  induction l with
  | nil => simp
  | cons x xs ih => simp only [List.foldr_cons, mem_uniq_insert, ih, List.mem_cons]

theorem cellWith_false {cells : List Cell} {ns : List Nat} (hne : ns ≠ []) (h : cellWith cells ns = false) :
    ∀ c ∈ cells, uniq c.nodes ≠ uniq ns := by
  intro c hc he
  unfold cellWith at h
  rw [List.any_eq_false] at h
  have hmem : ns.getD 0 0 ∈ c.nodes := by
    rw [← mem_uniq, he, mem_uniq]
    cases ns with
    | nil => exact absurd rfl hne
    | cons a as => simp
  have := h c (mem_having.mpr ⟨hc, hmem⟩)
  simp [he] at this

end Refine.Lemmas.Collapse
