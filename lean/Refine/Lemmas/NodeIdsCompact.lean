import Refine.Model.NodeIds
import Refine.Lemmas.ListFacts

/-!
  The renumbering pass of `ref_node_compact` / `ref_node_stable_compact` (and of `ref_cell_compact`, whose `numberRows` is
  the same pass on the key column): `numberSlots` numbers the selected slots consecutively in slot order, `selectSlots`
  lists them in the same order, so the two arrays `o2n`, `n2o` are inverse on the selected slots (`numberSlots_select`,
  `numberSlots_rank`).  Stated for any selector, base array, first number `k` and first index `j0`.
  No theorem says that `compact`, `stable_compact` succeed, and `ref_node_pack` has none.
-/
namespace Refine.Model.NodeIds

/-- the selected indices of `gp`, counted from `j0` -/
def selIndices (sel : Int → Int → Bool) (gp : List (Int × Int)) (j0 : Nat) : List Nat :=
  ((gp.zipIdx j0).filter fun x => sel x.1.1 x.1.2).map (·.2)

theorem selectSlots_eq (s : NodeIds) (sel : Int → Int → Bool) :
    s.selectSlots sel = selIndices sel (s.global.zip s.part) 0 := rfl

theorem selIndices_cons (sel : Int → Int → Bool) (g p : Int) (rest : List (Int × Int)) (j0 : Nat) :
    selIndices sel ((g, p) :: rest) j0 =
      if sel g p then j0 :: selIndices sel rest (j0 + 1) else selIndices sel rest (j0 + 1) := by
  unfold selIndices
  rw [List.zipIdx_cons, List.filter_cons]
  by_cases h : sel g p = true <;> simp [h]

theorem mem_selIndices (sel : Int → Int → Bool) (gp : List (Int × Int)) (j0 i : Nat) (hi : i < gp.length)
    (hs : sel (gp.getD i (0, 0)).1 (gp.getD i (0, 0)).2 = true) : j0 + i ∈ selIndices sel gp j0 := by
  unfold selIndices
  rw [ListFacts.getD_eq_getElem hi] at hs
  exact List.mem_map.mpr ⟨(gp[i], j0 + i), List.mem_filter.mpr
    ⟨List.mk_add_mem_zipIdx_iff_getElem?.mpr (List.getElem?_eq_getElem hi), hs⟩, rfl⟩

/-- the `r`-th selected slot `i` gets the number `k + r`: numbering and selection run through the selected slots in
    the same order -/
theorem numberSlots_select (sel : Int → Int → Bool) :
    ∀ (gp : List (Int × Int)) (base : List Int) (k j0 : Nat), gp.length ≤ base.length →
      ∀ r, r < (selIndices sel gp j0).length →
        ∃ i, i < gp.length ∧ sel (gp.getD i (0, 0)).1 (gp.getD i (0, 0)).2 = true ∧
          (selIndices sel gp j0).getD r 0 = j0 + i ∧
          (NodeIds.numberSlots sel gp base k).getD i 0 = ((k + r : Nat) : Int) := by
  intro gp base k j0 hlen r hr
  fun_induction NodeIds.numberSlots sel gp base k generalizing j0 r with
  | case1 => simp [selIndices] at hr
  | case2 g p rest b bs k hgp ih =>
    rw [selIndices_cons, if_pos hgp] at hr ⊢
    cases r with
    | zero => exact ⟨0, by simp, by simpa using hgp, by simp, by simp⟩
    | succ r' =>
      obtain ⟨i, hi, hs, h1, h2⟩ := ih (j0 + 1) (Nat.le_of_succ_le_succ hlen) r' (Nat.lt_of_succ_lt_succ hr)
      refine ⟨i + 1, Nat.succ_lt_succ hi, hs, ?_, ?_⟩
      · simp only [List.getD_cons_succ]; rw [h1]; omega
      · simp only [List.getD_cons_succ]; rw [h2]; congr 1; omega
  | case3 g p rest b bs k hgp ih =>
    rw [selIndices_cons, if_neg hgp] at hr ⊢
    obtain ⟨i, hi, hs, h1, h2⟩ := ih (j0 + 1) (Nat.le_of_succ_le_succ hlen) r hr
    refine ⟨i + 1, Nat.succ_lt_succ hi, hs, ?_, ?_⟩
    · rw [h1]; omega
    · simp only [List.getD_cons_succ]; exact h2
  | case4 => simp at hlen

/-- conversely every selected slot is the `r`-th selected one for some `r`: it is in the selected list, and the slot
    at that place of the list is determined -/
theorem numberSlots_rank (sel : Int → Int → Bool) (gp : List (Int × Int)) (base : List Int) (k j0 : Nat)
    (hlen : gp.length ≤ base.length) (i : Nat) (hi : i < gp.length)
    (hs : sel (gp.getD i (0, 0)).1 (gp.getD i (0, 0)).2 = true) :
    ∃ r, r < (selIndices sel gp j0).length ∧ (NodeIds.numberSlots sel gp base k).getD i 0 = ((k + r : Nat) : Int) ∧
      (selIndices sel gp j0).getD r 0 = j0 + i := by
  obtain ⟨r, hr, he⟩ := (ListFacts.mem_iff_getD (d := 0)).mp (mem_selIndices sel gp j0 i hi hs)
  obtain ⟨i', _, _, h1, h2⟩ := numberSlots_select sel gp base k j0 hlen r hr
  have : i' = i := by omega
  subst this
  exact ⟨r, hr, h2, he⟩

end Refine.Model.NodeIds
