import Refine.Lemmas.GeomReal
import Refine.Lemmas.GuardsRules

/-!
  Real-number view of the numeric guards of `Model/Guards.lean` (weight clamp, same-normal tolerance and loop), and
  `fanSum`, the vector area of a triangle fan, in which `Props/C02.lean` states the conservation of patch area.
-/
namespace Refine.GuardsReal
open Refine Refine.Model Refine.Model.Geom Refine.Model.Guards Refine.ScalarReal Refine.GeomReal

theorem c05_eq : (Scalar.ofDec 5 (-2) : ℝ) = 0.05 := by
  simp only [ofDec_eq]; norm_num
theorem c95_eq : (Scalar.ofDec 95 (-2) : ℝ) = 0.95 := by
  simp only [ofDec_eq]; norm_num

theorem clampWeight_eq (w : ℝ) : clampWeight w = min 0.95 (max 0.05 w) := by
  unfold clampWeight
  rw [cmin_eq, cmax_eq, c05_eq, c95_eq]

theorem clampWeight_mem (w : ℝ) : 0.05 ≤ clampWeight w ∧ clampWeight w ≤ 0.95 := by
  rw [clampWeight_eq]
  refine ⟨le_min (by norm_num) (le_max_left _ _), min_le_left _ _⟩

theorem sameNormalTol_eq : (sameNormalTol : ℝ) = 1 - 1 / 100000000 := by
  simp only [sameNormalTol, lit1_eq, sub_eq, ofDec_eq]; norm_num

theorem sameNormalTol_pos : (0 : ℝ) < (sameNormalTol : ℝ) := by
  rw [sameNormalTol_eq]; norm_num

theorem triNormal_expand (p a b : V3 ℝ) :
    triNormal p a b = vadd (cross a b) (cross p (V3.sub a b)) := by
  simp only [triNormal_def, cross_def, sub_def, vadd]
  apply V3.ext' <;> simp only [] <;> ring

/-- sum of the (un-normalised) triangle normals of the fan with apex `p` over a polyline of ring nodes -/
noncomputable def fanSum (p : V3 ℝ) : List (V3 ℝ) → V3 ℝ
  | a :: b :: rest => vadd (triNormal p a b) (fanSum p (b :: rest))
  | _ => ⟨0, 0, 0⟩

/-- `none` is the loop body's "continue", `d` what the loop returns when it falls through -/
theorem firstSome_all_none {β γ : Type} (f : β → Option γ) (d : γ) (l : List β)
    (hne : ∀ x, f x ≠ some d) (h : firstSome f d l = d) : ∀ x ∈ l, f x = none := by
  fun_induction firstSome f d l with
  | case1 => exact fun x hx => absurd hx List.not_mem_nil
  | case2 y ys r hy => exact absurd (h ▸ hy) (hne y)
  | case3 y ys hy ih =>
    intro x hx
    rcases List.mem_cons.mp hx with rfl | hx'
    · exact hy
    · exact ih h x hx'

theorem ofSt_ok_iff (st : St) : ofSt st = Status.ok ↔ st = St.ok := by
  cases st <;> simp [ofSt]

/-- the loop body of `ref_collapse_edge_same_normal` never returns "allowed, stop" -/
theorem sameNormalStep_ne (xyz : List (V3 ℝ)) (n0 n1 : Nat) (c : Cell) :
    sameNormalStep xyz n0 n1 c ≠ some (Status.ok, true) := by
  fun_cases sameNormalStep xyz n0 n1 c
  case case1 | case4 => nofun                       -- continue
  case case2 | case3 => simp                        -- refused
  case case5 _ _ _ hok _ | case6 _ hok _ =>         -- the status of a failed `normalize` is handed on: it is not `ok`
    simpa only [ne_eq, Option.some.injEq, Prod.mk.injEq, and_true, ofSt_ok_iff] using hok

theorem sameNormalStep_none {xyz : List (V3 ℝ)} {n0 n1 : Nat} {c : Cell}
    (h : sameNormalStep xyz n0 n1 c = none) :
    (n0 = c.nd 0 ∨ n0 = c.nd 1 ∨ n0 = c.nd 2) ∨
    ∃ u u', normalize (cellNormal xyz c.nodes) = (St.ok, u) ∧
      normalize (cellNormal xyz (subst n1 n0 c.nodes)) = (St.ok, u') ∧
      (sameNormalTol : ℝ) ≤ vdot u u' := by
  revert h
  fun_cases sameNormalStep xyz n0 n1 c
  case case1 hc =>
    -- the triangle is one of the removed ones
    exact fun _ => .inl (by simpa only [Bool.or_eq_true, beq_iff_eq, or_assoc] using hc)
  case case4 hc u hu u' hu' hlt =>
    -- both unit normals exist and the test did not fire
    exact fun _ => .inr ⟨u, u', hu, hu', by simpa [dot_eq] using hlt⟩
  case case2 | case3 | case5 | case6 => nofun       -- the body answers: refused, or a failed `normalize`

end Refine.GuardsReal
