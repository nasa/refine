import Refine.Lemmas.NodeIds

/-!
  `ref_node_rebuild_sorted_global` and `ref_node_add_many`.

  `rebuild` sorts the pairs the slot array holds (`mem_livePairs` is `Holds`), which re-establishes `NodeInv` from `WeakInv`.
  `add_many` filters the ids that are live, marks duplicates through a sorting permutation, adds the survivors with
  `add_core` and rebuilds: read through the index list it is handed, the marking pass is the list function `markRuns` on the
  values, and what `add_many` needs of its result is invariant under permutation.
-/
namespace Refine.Model.NodeIds
open NodeIds

theorem sortIdx_spec (keys : List Int) :
    (sortIdx keys).Perm (List.range keys.length) ∧
      ((sortIdx keys).map fun i => keys.getD i 0).Pairwise (· ≤ ·) := by
  fun_cases sortIdx keys
  case case1 hc =>
    simp only [sortsCheck, Bool.and_eq_true, beq_iff_eq] at hc
    refine ⟨?_, (isNondecr_iff _).1 hc.2⟩
    have := List.mergeSort_perm (heapSortIdx keys) (fun a b => decide (a ≤ b))
    rw [hc.1] at this
    exact this.symm
  case case2 =>
    refine ⟨List.mergeSort_perm _ _, ?_⟩
    unfold mergeIdx
    rw [List.pairwise_map]
    have := List.pairwise_mergeSort (le := fun i j => decide (keys.getD i 0 ≤ keys.getD j 0))
      (fun a b c hab hbc => by
        simp only [decide_eq_true_eq] at hab hbc ⊢; exact Int.le_trans hab hbc)
      (fun a b => by
        simp only [Bool.or_eq_true, decide_eq_true_eq]; exact Int.le_total _ _)
      (List.range keys.length)
    exact this.imp (fun h => by simpa using h)

theorem livePairs_keys_nodup {s : NodeIds} (hd : LiveDistinct s) : (s.livePairs.map Prod.fst).Nodup := by
  rw [List.nodup_iff_pairwise_ne, List.pairwise_map]
  refine (livePairs_slots s).imp_of_mem ?_
  intro a b ha hb hne heq
  exact hne (liveDistinct_iff.1 hd a.2 b.2 a.1 (mem_livePairs.1 ha) (by rw [heq]; exact mem_livePairs.1 hb))

theorem rebuild_NodeInv {s : NodeIds} (h : WeakInv s) : NodeInv s.rebuild := by
  obtain ⟨hperm, hsorted⟩ := sortIdx_spec (s.livePairs.map Prod.fst)
  have hperm' : s.rebuild.sorted.Perm s.livePairs := by
    have := hperm.map (fun i => s.livePairs.getD i (0, 0))
    rw [List.length_map, ListFacts.map_getD_range] at this
    exact this
  have hkeys : s.rebuild.keys = (sortIdx (s.livePairs.map Prod.fst)).map
      (fun i => (s.livePairs.map Prod.fst).getD i 0) := by
    simp only [keys, rebuild, List.map_map]
    apply List.map_congr_left
    intro i _
    simp [List.getD_eq_getElem?_getD, List.getElem?_map]
    cases s.livePairs[i]? <;> rfl
  refine .of_mem_iff (h.free.congr rfl rfl rfl) ?_ fun p => hperm'.mem_iff.trans mem_livePairs
  have hnd : s.rebuild.keys.Nodup := by
    have : s.rebuild.keys.Perm (s.livePairs.map Prod.fst) := hperm'.map _
    exact this.nodup_iff.2 (livePairs_keys_nodup h.distinct)
  rw [hkeys] at hnd ⊢
  exact (hsorted.and (List.nodup_iff_pairwise_ne.1 hnd)).imp (fun ⟨h1, h2⟩ => by omega)

/-- the duplicate-marking pass of `ref_node_add_many` said index by index.  No theorem uses it: read through its index
    list the pass is `markRuns` below (`markDups_map`), where `only`, `distinct`, `survive` are proved. -/
structure MarkInv (g0 g : List Int) (pj : Nat) (done todo : List Nat) : Prop where
  nodup : (done ++ todo).Nodup
  bound : ∀ k ∈ done ++ todo, k < g0.length
  len : g.length = g0.length
  pjmem : pj ∈ done
  todoSame : ∀ k ∈ todo, g.getD k 0 = g0.getD k 0
  pjSame : g.getD pj 0 = g0.getD pj 0
  only : ∀ k, g.getD k 0 = g0.getD k 0 ∨ g.getD k 0 = -1
  below : ∀ a ∈ done, a ≠ pj → g.getD a 0 = -1 ∨ g.getD a 0 < g.getD pj 0
  distinct : ∀ a ∈ done, ∀ b ∈ done, a ≠ b → g.getD a 0 ≠ -1 → g.getD a 0 ≠ g.getD b 0
  ahead : ∀ k ∈ todo, g0.getD pj 0 ≤ g0.getD k 0
  sorted : todo.Pairwise (fun a b => g0.getD a 0 ≤ g0.getD b 0)
  survive : ∀ a ∈ done, ∃ b ∈ done, g.getD b 0 = g0.getD a 0

/-- the duplicate-marking pass of `ref_node_add_many` on the VALUES in visiting order: a value equal to the last one kept
    becomes `REF_EMPTY` -/
def markRuns : Int → List Int → List Int
  | _, [] => []
  | prev, x :: r => if x ≠ prev then x :: markRuns x r else -1 :: markRuns prev r

theorem markDups_map (p : List Nat) (todo : List Nat) (g : List Int) (pj : Nat) (hnd : (pj :: todo).Nodup)
    (hlt : ∀ k ∈ todo, k < g.length) :
    (markDups p g pj todo).length = g.length ∧ (∀ k, k ∉ todo → (markDups p g pj todo).getD k 0 = g.getD k 0) ∧
      todo.map (fun k => (markDups p g pj todo).getD k 0) = markRuns (g.getD pj 0) (todo.map fun k => g.getD k 0) := by
  fun_induction markDups p g pj todo with
  | case1 => exact ⟨rfl, fun _ _ => rfl, rfl⟩
  | case2 g pj pi rest hne ih =>
    obtain ⟨-, hnd'⟩ := List.nodup_cons.1 hnd
    obtain ⟨h1, h2, h3⟩ := ih hnd' fun k hk => hlt k (List.mem_cons_of_mem _ hk)
    rw [List.map_cons, List.map_cons, markRuns, if_pos hne]
    exact ⟨h1, fun k hk => h2 k fun h => hk (List.mem_cons_of_mem _ h), by rw [h2 pi (List.nodup_cons.1 hnd').1, h3]⟩
  | case3 g pj pi rest hne ih =>
    obtain ⟨hpj, hnd'⟩ := List.nodup_cons.1 hnd
    obtain ⟨hpi, hnr⟩ := List.nodup_cons.1 hnd'
    have hpipj : pi ≠ pj := fun e => hpj (e ▸ List.mem_cons_self)
    have hset : ∀ k, k ≠ pi → (g.set pi (-1)).getD k 0 = g.getD k 0 := fun k hk =>
      ListFacts.getD_set_ne g _ _ (Ne.symm hk)
    obtain ⟨h1, h2, h3⟩ := ih (List.nodup_cons.2 ⟨fun h => hpj (List.mem_cons_of_mem _ h), hnr⟩)
      fun k hk => by rw [List.length_set]; exact hlt k (List.mem_cons_of_mem _ hk)
    rw [List.map_cons, List.map_cons, markRuns, if_neg hne]
    refine ⟨by rw [h1, List.length_set], fun k hk => ?_, ?_⟩
    · rw [h2 k fun h => hk (List.mem_cons_of_mem _ h), hset k fun e => hk (e ▸ List.mem_cons_self)]
    · rw [h2 pi hpi, ListFacts.getD_set_self g _ _ (hlt pi List.mem_cons_self), h3, hset pj (Ne.symm hpipj)]
      exact congrArg _ (congrArg _ (List.map_congr_left fun k hk => hset k fun e => hpi (e ▸ hk)))

/-- marking loses no value and adds only `-1`; with the last value kept in front, as `dedupMarked_spec` reads it -/
theorem markRuns_mem (l : List Int) (prev : Int) :
    (∀ x ∈ prev :: l, x ∈ prev :: markRuns prev l) ∧ ∀ x ∈ prev :: markRuns prev l, x = -1 ∨ x ∈ prev :: l := by
  fun_induction markRuns prev l with
  | case1 => exact ⟨fun _ h => h, fun _ h => .inr h⟩
  | case2 prev y r _ ih =>
    exact ⟨fun x hx => (List.mem_cons.1 hx).elim (fun e => e ▸ List.mem_cons_self) fun h => List.mem_cons_of_mem _ (ih.1 x h),
      fun x hx => (List.mem_cons.1 hx).elim (fun e => .inr (e ▸ List.mem_cons_self)) fun h =>
        (ih.2 x h).imp_right (List.mem_cons_of_mem _)⟩
  | case3 prev y r he ih =>
    cases Decidable.not_not.1 he
    refine ⟨fun x hx => ?_, fun x hx => ?_⟩
    · rcases List.mem_cons.1 (ih.1 x (by simpa using hx)) with e | h
      · exact e ▸ List.mem_cons_self
      · exact List.mem_cons_of_mem _ (List.mem_cons_of_mem _ h)
    · rcases List.mem_cons.1 hx with e | hx
      · exact .inr (e ▸ List.mem_cons_self)
      rcases List.mem_cons.1 hx with e | hx
      · exact .inl e
      · exact (ih.2 x (List.mem_cons_of_mem _ hx)).imp_right fun h => by simpa using h

/-- on non-decreasing values the survivors are strictly increasing from the last one kept, hence pairwise distinct -/
theorem markRuns_pairwise (l : List Int) (prev : Int) (hs : l.Pairwise (· ≤ ·)) (hp : ∀ x ∈ l, prev ≤ x) :
    (markRuns prev l).Pairwise (fun a b => a ≠ -1 → a ≠ b) ∧ ∀ x ∈ markRuns prev l, x ≠ -1 → prev < x := by
  fun_induction markRuns prev l with
  | case1 => exact ⟨List.Pairwise.nil, fun _ h => absurd h List.not_mem_nil⟩
  | case2 prev y r hne ih =>
    obtain ⟨hy, hr⟩ := List.pairwise_cons.1 hs
    have hpy := hp y List.mem_cons_self
    obtain ⟨h1, h2⟩ := ih hr hy
    refine ⟨List.pairwise_cons.2 ⟨fun z hz hy1 e => ?_, h1⟩, fun z hz hz1 => ?_⟩
    · have := h2 z hz (e ▸ hy1); omega
    · rcases List.mem_cons.1 hz with e | hz
      · omega
      · have := h2 z hz hz1; omega
  | case3 prev y r _ ih =>
    obtain ⟨h1, h2⟩ := ih (List.pairwise_cons.1 hs).2 fun x hx => hp x (List.mem_cons_of_mem _ hx)
    refine ⟨List.pairwise_cons.2 ⟨fun _ _ h => absurd rfl h, h1⟩, fun z hz hz1 => ?_⟩
    rcases List.mem_cons.1 hz with e | hz
    · exact absurd e hz1
    · exact h2 z hz hz1

def dedupMarked (g0 : List Int) : List Int :=
  match sortIdx g0 with
  | [] => g0
  | p0 :: rest => markDups (sortIdx g0) g0 p0 rest

theorem dedupMarked_spec (g0 : List Int) :
    (∀ x ∈ dedupMarked g0, x = -1 ∨ x ∈ g0) ∧
    (dedupMarked g0).Pairwise (fun a b => a ≠ -1 → a ≠ b) ∧
    (∀ x ∈ g0, x ∈ dedupMarked g0) := by
  obtain ⟨hperm, hsorted⟩ := sortIdx_spec g0
  unfold dedupMarked
  cases hp : sortIdx g0 with
  | nil =>
    rw [hp] at hperm
    have : g0 = [] := List.length_eq_zero_iff.1 (by simpa using hperm.length_eq.symm)
    subst this
    simp
  | cons p0 rest =>
    rw [hp] at hperm hsorted
    obtain ⟨hlen, hkeep, hmap⟩ := markDups_map (p0 :: rest) rest g0 p0 (hperm.nodup_iff.2 List.nodup_range)
      fun k hk => List.mem_range.1 (hperm.mem_iff.1 (List.mem_cons_of_mem _ hk))
    simp only
    generalize markDups (p0 :: rest) g0 p0 rest = g1 at hlen hkeep hmap
    -- both arrays read along the sorting permutation: `g0` gives the sorted values, `g1` their `markRuns`
    have h0 : (g0.getD p0 0 :: rest.map fun k => g0.getD k 0).Perm g0 := by
      have := hperm.map fun k => g0.getD k 0
      rwa [ListFacts.map_getD_range] at this
    have h1 : (g0.getD p0 0 :: markRuns (g0.getD p0 0) (rest.map fun k => g0.getD k 0)).Perm g1 := by
      have := hperm.map fun k => g1.getD k 0
      rwa [← hlen, ListFacts.map_getD_range, List.map_cons, hmap,
        hkeep p0 (List.nodup_cons.1 (hperm.nodup_iff.2 List.nodup_range)).1] at this
    obtain ⟨hs0, hs⟩ := List.pairwise_cons.1 hsorted
    obtain ⟨hpw, hlt⟩ := markRuns_pairwise _ (g0.getD p0 0) hs hs0
    refine ⟨fun x hx => ?_, ?_, fun x hx => h1.mem_iff.1 ?_⟩
    · exact ((markRuns_mem _ _).2 x (h1.mem_iff.2 hx)).imp_right h0.mem_iff.1
    · have hsymm : ∀ {a b : Int}, (a ≠ -1 → a ≠ b) → b ≠ -1 → b ≠ a := fun h hb e => h (e ▸ hb) e.symm
      refine (h1.pairwise_iff hsymm).1 (List.pairwise_cons.2 ⟨fun z hz h e => ?_, hpw⟩)
      have := hlt z hz (e ▸ h); omega
    · exact (markRuns_mem _ _).1 x (h0.mem_iff.2 hx)

/-- only `ref_node_add_many` needs it: each of its steps is a `Stores` (`addCore_addsTo`), which names its slot and so
    does not compose; this does (`trans` appends the lists of new ids) -/
structure AddsTo (s t : NodeIds) (new : List Int) : Prop where
  weak : WeakInv t
  live : ∀ x, t.liveSet x ↔ s.liveSet x ∨ x ∈ new
  frame : ∀ v, 0 ≤ s.global.getD v (-1) → t.global.getD v (-1) = s.global.getD v (-1)
  pool : SamePool s t

theorem AddsTo.refl {s : NodeIds} (h : WeakInv s) : AddsTo s s [] :=
  ⟨h, fun _ => by simp, fun _ _ => rfl, ⟨rfl, rfl, rfl⟩⟩

theorem AddsTo.trans {s t u : NodeIds} {P Q : List Int} (h1 : AddsTo s t P) (h2 : AddsTo t u Q) :
    AddsTo s u (P ++ Q) :=
  ⟨h2.weak, fun x => by rw [h2.live, h1.live, or_assoc, List.mem_append],
    fun v hv => by rw [h2.frame v (by rw [h1.frame v hv]; exact hv), h1.frame v hv],
    h1.pool.trans h2.pool⟩

theorem addCore_addsTo {s : NodeIds} (h : WeakInv s) {g : Int} (hg : 0 ≤ g) (hfresh : ¬ s.liveSet g) :
    (s.addCore g).1 = .ok ∧ AddsTo s (s.addCore g).2.2 [g] := by
  have hst := stores_of_fields (t := (s.addCore g).2.2) h.free hg (by rw [addCore_eq hg]) (by rw [addCore_eq hg])
    (by rw [addCore_eq hg])
  refine ⟨by rw [addCore_eq hg], ⟨hst.free, hst.distinct h.distinct hfresh⟩,
    fun y => by rw [hst.liveSet, List.mem_singleton], fun _ => hst.frame, ?_, ?_, ?_⟩ <;>
    simp [addCore_eq hg]

theorem addCoreAll_spec (gs : List Int) (s : NodeIds) (h : WeakInv s) (hge : ∀ x ∈ gs, -1 ≤ x)
    (hpw : gs.Pairwise (fun a b => a ≠ -1 → a ≠ b)) (hfresh : ∀ x ∈ gs, x ≠ -1 → ¬ s.liveSet x) :
    (addCoreAll s gs).1 = .ok ∧ AddsTo s (addCoreAll s gs).2 (gs.filter (· != -1)) := by
  fun_induction addCoreAll s gs with
  | case1 s => exact ⟨rfl, AddsTo.refl h⟩
  | case2 s rest ih => -- a marked entry (`REF_EMPTY`) is skipped
    exact ih h (fun x hx => hge x (List.mem_cons_of_mem _ hx)) (List.pairwise_cons.1 hpw).2
      fun x hx => hfresh x (List.mem_cons_of_mem _ hx)
  | case3 s g rest hg1 r hok ih => -- `add_core g`, then the rest
    obtain ⟨hp1, hp2⟩ := List.pairwise_cons.1 hpw
    have hg0 : 0 ≤ g := by have := hge g List.mem_cons_self; omega
    obtain ⟨-, hcore⟩ := addCore_addsTo h hg0 (hfresh g List.mem_cons_self hg1)
    obtain ⟨hok', hadd⟩ := ih hcore.weak (fun x hx => hge x (List.mem_cons_of_mem _ hx)) hp2 (by
      intro x hx hx1 hl
      rcases (hcore.live x).1 hl with hl | e
      · exact hfresh x (List.mem_cons_of_mem _ hx) hx1 hl
      · exact hp1 x hx hg1 (List.mem_singleton.1 e).symm)
    rw [List.filter_cons, if_pos (bne_iff_ne.2 hg1)]
    exact ⟨hok', hcore.trans hadd⟩
  | case4 s g rest hg1 r hnok => -- `add_core` fails: impossible
    have hg0 : 0 ≤ g := by have := hge g List.mem_cons_self; omega
    exact absurd (addCore_addsTo h hg0 (hfresh g List.mem_cons_self hg1)).1 hnok

theorem addMany_spec {s : NodeIds} (h : NodeInv s) {orig : List Int} (hge : ∀ x ∈ orig, -1 ≤ x) :
    (s.addMany orig).1 = .ok ∧ NodeInv (s.addMany orig).2 ∧
      AddsTo s (s.addMany orig).2 (orig.filter fun x => decide (0 ≤ x)) := by
  have hmem0 : ∀ x, x ∈ orig.filter (fun x => (searchGlob s.keys x).isNone) ↔ x ∈ orig ∧ ¬ s.liveSet x := by
    intro x
    rw [List.mem_filter, liveSet_iff_liveSlot h, Option.isNone_iff_eq_none, search_none_iff_liveSlot h]
    simp
  obtain ⟨hA, hB, hC⟩ := dedupMarked_spec (orig.filter (fun x => (searchGlob s.keys x).isNone))
  have hunf : s.addMany orig =
      (if (addCoreAll s (dedupMarked (orig.filter (fun x => (searchGlob s.keys x).isNone)))).1 = .ok then
        (.ok, (addCoreAll s (dedupMarked (orig.filter (fun x => (searchGlob s.keys x).isNone)))).2.rebuild)
      else addCoreAll s (dedupMarked (orig.filter (fun x => (searchGlob s.keys x).isNone)))) := rfl
  generalize dedupMarked (orig.filter (fun x => (searchGlob s.keys x).isNone)) = g1 at *
  obtain ⟨hok, ⟨hw, hlive, hframe, hu, hn, ho⟩⟩ := addCoreAll_spec g1 s h.weak
    (by
      intro x hx
      rcases hA x hx with e | hx0
      · omega
      · exact hge x ((hmem0 x).1 hx0).1)
    hB
    (by
      intro x hx hx1
      rcases hA x hx with e | hx0
      · exact absurd e hx1
      · exact ((hmem0 x).1 hx0).2)
  rw [hunf]
  simp only [hok, if_true]
  refine ⟨trivial, rebuild_NodeInv hw, (rebuild_NodeInv hw).weak, ?_, hframe, hu, hn, ho⟩
  intro x
  show (addCoreAll s g1).2.liveSet x ↔ _
  rw [hlive x]
  simp only [List.mem_filter, bne_iff_ne, ne_eq, decide_eq_true_eq]
  constructor
  · rintro (hl | ⟨h1, h2⟩)
    · exact Or.inl hl
    · rcases hA x h1 with e | hx0
      · exact absurd e h2
      · have := (hmem0 x).1 hx0
        have := hge x this.1
        exact Or.inr ⟨((hmem0 x).1 hx0).1, by omega⟩
  · rintro (hl | ⟨h1, h2⟩)
    · exact Or.inl hl
    · by_cases hl : s.liveSet x
      · exact Or.inl hl
      · exact Or.inr ⟨hC x ((hmem0 x).2 ⟨h1, hl⟩), by omega⟩

end Refine.Model.NodeIds
