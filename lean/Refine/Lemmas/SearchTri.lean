import Refine.Lemmas.SearchGeom

/-!
  `ref_search_distance3` over `ℝ`, for any `foot` that moves the query along the triangle normal (`FootAlongNormal`: the
  barycentric numerators do not see the normal component, so the un-normalised projection `tri3Foot` and the orthogonal one
  `tri3FootFixed` = `tri3FootRepo` give the same weights).  Interior branch: the point with the normalised weights is the
  orthogonal foot (`triFoot_eq_shift`), hence Pythagoras against every point of the plane.  Otherwise the C takes the minimum
  over the three edges: from any point of the triangle walk towards the foot until a weight vanishes (`exit3`); a degenerate
  triangle is slid onto an edge along a null direction.  `ref_search_distance3` repeats the text of `ref_node_bary3d`
  (`tri3FootFixed` is `Geom.bary3dPoint`, `tri3BaryAt` is `Geom.bary3dRaw`, by `rfl`): those facts come from `Lemmas/GeomReal.lean`.
-/
namespace Refine.Lemmas.Search
open Refine Refine.Model.Geom Refine.Model.Search Refine.ScalarReal
open Refine.GeomReal (vdot dot_eq)

def shiftN (x : V3 ℝ) (σ : ℝ) (M : V3 ℝ) : V3 ℝ := ⟨x.x - σ * M.x, x.y - σ * M.y, x.z - σ * M.z⟩

theorem xyzNormal_eq (p0 p1 p2 : V3 ℝ) : xyzNormal p0 p1 p2 = nrm p0 p1 p2 := by
  simp only [xyzNormal, cross, vsub, nrm, sub_eq, mul_eq]

/-- `bary[0..2]` of `ref_search_distance3` before the division by their sum, over `ℝ` -/
def baryR (p0 p1 p2 xp : V3 ℝ) : V3 ℝ :=
  ⟨vdot (nrm xp p1 p2) (nrm p0 p1 p2), vdot (nrm p0 xp p2) (nrm p0 p1 p2), vdot (nrm p0 p1 xp) (nrm p0 p1 p2)⟩

theorem tri3BaryAt_eq (p0 p1 p2 xp : V3 ℝ) : tri3BaryAt p0 p1 p2 xp = baryR p0 p1 p2 xp := by
  simp only [tri3BaryAt, baryR, xyzNormal_eq, dot_eq]

def FootAlongNormal (foot : V3 ℝ → V3 ℝ → V3 ℝ → V3 ℝ → V3 ℝ) : Prop :=
  ∀ p0 p1 p2 x, ∃ σ : ℝ, foot p0 p1 p2 x = shiftN x σ (nrm p0 p1 p2)

theorem tri3Foot_along : FootAlongNormal tri3Foot := by
  intro p0 p1 p2 x
  refine ⟨vdot ⟨x.x - p0.x, x.y - p0.y, x.z - p0.z⟩ (nrm p0 p1 p2), ?_⟩
  simp only [tri3Foot, xyzNormal_eq, dot_eq, vsub, sub_eq, add_eq, mul_eq, shiftN]
  generalize vdot _ _ = τ
  generalize nrm p0 p1 p2 = M
  apply GeomReal.V3.ext' <;> ring

theorem tri3FootFixed_eq_bary3dPoint {α : Type} [Scalar α] (p0 p1 p2 x : V3 α) :
    tri3FootFixed p0 p1 p2 x = bary3dPoint p0 p1 p2 x := rfl

theorem tri3BaryAt_eq_bary3dRaw {α : Type} [Scalar α] (p0 p1 p2 xp : V3 α) :
    tri3BaryAt p0 p1 p2 xp = ⟨(bary3dRaw p0 p1 p2 xp).b0, (bary3dRaw p0 p1 p2 xp).b1, (bary3dRaw p0 p1 p2 xp).b2⟩ := rfl

theorem nrm_eq_triNormal (p0 p1 p2 : V3 ℝ) : nrm p0 p1 p2 = triNormal p0 p1 p2 := by
  rw [GeomReal.triNormal_def]; rfl

theorem shiftN_eq (x : V3 ℝ) (σ : ℝ) (M : V3 ℝ) : shiftN x σ M = GeomReal.vadd x (GeomReal.vsmul (-σ) M) := by
  apply GeomReal.V3.ext' <;> simp only [shiftN, GeomReal.vadd, GeomReal.vsmul] <;> ring

theorem baryR_eq (p0 p1 p2 xp : V3 ℝ) :
    baryR p0 p1 p2 xp = ⟨(bary3dRaw p0 p1 p2 xp).b0, (bary3dRaw p0 p1 p2 xp).b1, (bary3dRaw p0 p1 p2 xp).b2⟩ := by
  rw [← tri3BaryAt_eq_bary3dRaw, tri3BaryAt_eq]

theorem tri3FootFixed_along : FootAlongNormal tri3FootFixed := by
  intro p0 p1 p2 x
  obtain ⟨s, hs⟩ := GeomReal.bary3dPoint_eq p0 p1 p2 x
  exact ⟨-s, by rw [tri3FootFixed_eq_bary3dPoint, hs, shiftN_eq, nrm_eq_triNormal, neg_neg]⟩

/-- the foot `dist2tri` is defined with -/
theorem tri3FootRepo_along : FootAlongNormal tri3FootRepo := tri3FootFixed_along

theorem baryR_shift (p0 p1 p2 x : V3 ℝ) (σ : ℝ) :
    baryR p0 p1 p2 (shiftN x σ (nrm p0 p1 p2)) = baryR p0 p1 p2 x := by
  rw [baryR_eq, baryR_eq, shiftN_eq, nrm_eq_triNormal, Refine.Props.C15.bary3dRaw_shift]

theorem baryR_sum (p0 p1 p2 xp : V3 ℝ) :
    (baryR p0 p1 p2 xp).x + (baryR p0 p1 p2 xp).y + (baryR p0 p1 p2 xp).z =
      vdot (nrm p0 p1 p2) (nrm p0 p1 p2) := by
  rw [baryR_eq, nrm_eq_triNormal]
  exact GeomReal.bary3dRaw_total p0 p1 p2 xp

/-! ## the Gram entries of the edge vectors `a = p1 - p0`, `b = p2 - p0`

  `segL p0 p1 = a·a`, `segL p0 p2 = b·b`, `segP p0 p1 p2 = a·b`, and for the query `segP p0 p1 x = (x-p0)·a`,
  `segP p0 p2 x = (x-p0)·b`.  Everything below about distances to points of the plane of the triangle is computed in
  these five numbers and the weights. -/

theorem sqd_comb3_comb3 (p0 p1 p2 : V3 ℝ) {u v w u' v' w' : ℝ} (hs : u + v + w = u' + v' + w') :
    sqd (comb3 p0 p1 p2 u v w) (comb3 p0 p1 p2 u' v' w') =
      (v - v') ^ 2 * segL p0 p1 + 2 * (v - v') * (w - w') * segP p0 p1 p2 + (w - w') ^ 2 * segL p0 p2 := by
  obtain rfl : u = u' + v' + w' - v - w := by linarith
  unfold sqd comb3 segP segL; ring

/-- the barycentric weights `bᵢ / |N|²` of the orthogonal foot of `x` in the plane of the triangle -/
noncomputable def footW (p0 p1 p2 x : V3 ℝ) : V3 ℝ :=
  ⟨(baryR p0 p1 p2 x).x / vdot (nrm p0 p1 p2) (nrm p0 p1 p2), (baryR p0 p1 p2 x).y / vdot (nrm p0 p1 p2) (nrm p0 p1 p2),
   (baryR p0 p1 p2 x).z / vdot (nrm p0 p1 p2) (nrm p0 p1 p2)⟩

/-- the orthogonal foot of `x` in the plane of the triangle -/
noncomputable def triFoot (p0 p1 p2 x : V3 ℝ) : V3 ℝ :=
  comb3 p0 p1 p2 (footW p0 p1 p2 x).x (footW p0 p1 p2 x).y (footW p0 p1 p2 x).z

/-- the interior-branch test of `ref_search_distance3`: the divisions `bᵢ / |N|²` pass the guard and the weights are `≥ 0` -/
def TriInterior (p0 p1 p2 x : V3 ℝ) : Prop :=
  let b := baryR p0 p1 p2 x
  let t := vdot (nrm p0 p1 p2) (nrm p0 p1 p2)
  (Scalar.divisible b.x t && Scalar.divisible b.y t && Scalar.divisible b.z t) = true ∧
  (Scalar.le (0 : ℝ) (b.x / t) && Scalar.le (0 : ℝ) (b.y / t) && Scalar.le (0 : ℝ) (b.z / t)) = true

/-- the interior branch: the model's point with the normalised weights is the orthogonal foot -/
theorem dist2triWith_interior (foot : V3 ℝ → V3 ℝ → V3 ℝ → V3 ℝ → V3 ℝ) (hf : FootAlongNormal foot)
    {p0 p1 p2 x : V3 ℝ} (h : TriInterior p0 p1 p2 x) :
    dist2triWith foot p0 p1 p2 x = edist x (triFoot p0 p1 p2 x) := by
  obtain ⟨σ, hσ⟩ := hf p0 p1 p2 x
  unfold dist2triWith
  simp only [hσ, tri3BaryAt_eq, baryR_shift, baryR_sum, add_eq, sub_eq, mul_eq, div_eq, sqrt_eq, zero_eq,
    Scalar.bge, dot]
  rw [if_pos h.1, if_pos h.2]
  simp only [edist, sqd, triFoot, footW, comb3]
  congr 1
  ring

/-- every other branch is the minimum over the three edges -/
theorem dist2triWith_edges (foot : V3 ℝ → V3 ℝ → V3 ℝ → V3 ℝ → V3 ℝ) (hf : FootAlongNormal foot)
    {p0 p1 p2 x : V3 ℝ} (h : ¬ TriInterior p0 p1 p2 x) : dist2triWith foot p0 p1 p2 x = tri3Edges p0 p1 p2 x := by
  obtain ⟨σ, hσ⟩ := hf p0 p1 p2 x
  unfold dist2triWith
  simp only [hσ, tri3BaryAt_eq, baryR_shift, baryR_sum, add_eq, sub_eq, mul_eq, div_eq, sqrt_eq, zero_eq,
    Scalar.bge, dot]
  split
  · exact if_neg fun h2 => h ⟨‹_›, h2⟩
  · rfl

theorem inTri_of_onSeg01 {p0 p1 p2 y : V3 ℝ} (h : OnSeg p0 p1 y) : InTri p0 p1 p2 y := by
  obtain ⟨t, h0, h1, rfl⟩ := h
  refine ⟨1 - t, t, 0, by linarith, h0, le_refl _, by ring, ?_⟩
  apply GeomReal.V3.ext' <;> simp only [lerp, comb3] <;> ring

theorem inTri_of_onSeg12 {p0 p1 p2 y : V3 ℝ} (h : OnSeg p1 p2 y) : InTri p0 p1 p2 y := by
  obtain ⟨t, h0, h1, rfl⟩ := h
  refine ⟨0, 1 - t, t, le_refl _, by linarith, h0, by ring, ?_⟩
  apply GeomReal.V3.ext' <;> simp only [lerp, comb3] <;> ring

theorem inTri_of_onSeg20 {p0 p1 p2 y : V3 ℝ} (h : OnSeg p2 p0 y) : InTri p0 p1 p2 y := by
  obtain ⟨t, h0, h1, rfl⟩ := h
  refine ⟨t, 0, 1 - t, h0, le_refl _, by linarith, by ring, ?_⟩
  apply GeomReal.V3.ext' <;> simp only [lerp, comb3] <;> ring

theorem onEdge_of_zero_weight (p0 p1 p2 : V3 ℝ) (u v w : ℝ) (hu : 0 ≤ u) (hv : 0 ≤ v) (hw : 0 ≤ w)
    (hs : u + v + w = 1) (hz : u = 0 ∨ v = 0 ∨ w = 0) :
    OnSeg p0 p1 (comb3 p0 p1 p2 u v w) ∨ OnSeg p1 p2 (comb3 p0 p1 p2 u v w) ∨
      OnSeg p2 p0 (comb3 p0 p1 p2 u v w) := by
  rcases hz with rfl | rfl | rfl
  · right; left
    refine ⟨w, hw, by linarith, ?_⟩
    have : v = 1 - w := by linarith
    subst this
    apply GeomReal.V3.ext' <;> simp only [lerp, comb3] <;> ring
  · right; right
    refine ⟨u, hu, by linarith, ?_⟩
    have : w = 1 - u := by linarith
    subst this
    apply GeomReal.V3.ext' <;> simp only [lerp, comb3] <;> ring
  · left
    refine ⟨v, hv, by linarith, ?_⟩
    have : u = 1 - v := by linarith
    subst this
    apply GeomReal.V3.ext' <;> simp only [lerp, comb3] <;> ring

theorem tri3Edges_eq (p0 p1 p2 x : V3 ℝ) :
    tri3Edges p0 p1 p2 x = min (min (dist2seg p0 p1 x) (dist2seg p1 p2 x)) (dist2seg p2 p0 x) := by
  unfold tri3Edges
  simp only [cmin_eq]

theorem tri3Edges_attained (p0 p1 p2 x : V3 ℝ) :
    ∃ y, (OnSeg p0 p1 y ∨ OnSeg p1 p2 y ∨ OnSeg p2 p0 y) ∧ tri3Edges p0 p1 p2 x = edist x y := by
  rw [tri3Edges_eq]
  obtain ⟨y0, hy0, e0⟩ := dist2seg_attained p0 p1 x
  obtain ⟨y1, hy1, e1⟩ := dist2seg_attained p1 p2 x
  obtain ⟨y2, hy2, e2⟩ := dist2seg_attained p2 p0 x
  rcases min_choice (min (dist2seg p0 p1 x) (dist2seg p1 p2 x)) (dist2seg p2 p0 x) with h | h
  · rcases min_choice (dist2seg p0 p1 x) (dist2seg p1 p2 x) with h' | h'
    · exact ⟨y0, Or.inl hy0, by rw [h, h', e0]⟩
    · exact ⟨y1, Or.inr (Or.inl hy1), by rw [h, h', e1]⟩
  · exact ⟨y2, Or.inr (Or.inr hy2), by rw [h, e2]⟩

theorem triInterior_facts {p0 p1 p2 x : V3 ℝ} (h : TriInterior p0 p1 p2 x) :
    vdot (nrm p0 p1 p2) (nrm p0 p1 p2) ≠ 0 ∧
    0 ≤ (footW p0 p1 p2 x).x ∧ 0 ≤ (footW p0 p1 p2 x).y ∧ 0 ≤ (footW p0 p1 p2 x).z := by
  obtain ⟨h1, h2⟩ := h
  simp only [Bool.and_eq_true, le_iff] at h1 h2
  exact ⟨divisible_ne_zero h1.1.1, h2.1.1, h2.1.2, h2.2⟩

theorem footW_sum {p0 p1 p2 x : V3 ℝ} (hT : vdot (nrm p0 p1 p2) (nrm p0 p1 p2) ≠ 0) :
    (footW p0 p1 p2 x).x + (footW p0 p1 p2 x).y + (footW p0 p1 p2 x).z = 1 := by
  simp only [footW]
  rw [← add_div, ← add_div, baryR_sum, div_self hT]

/-- Pythagoras: a right angle at `f` -/
theorem sqd_of_orth {x f y : V3 ℝ}
    (h : (x.x - f.x) * (f.x - y.x) + (x.y - f.y) * (f.y - y.y) + (x.z - f.z) * (f.z - y.z) = 0) :
    sqd x y = sqd x f + sqd f y := by
  unfold sqd; linear_combination 2 * h

/-- the point with the normalised weights is the query moved along the normal: the orthogonal foot (the first moments of
    the raw weights of `ref_node_bary3d`, `GeomReal.bary3dRaw_mom`) -/
theorem triFoot_eq_shift {p0 p1 p2 : V3 ℝ} (x : V3 ℝ) (hT : vdot (nrm p0 p1 p2) (nrm p0 p1 p2) ≠ 0) :
    triFoot p0 p1 p2 x = shiftN x (vdot (V3.sub x p0) (nrm p0 p1 p2) /
      vdot (nrm p0 p1 p2) (nrm p0 p1 p2)) (nrm p0 p1 p2) := by
  obtain ⟨mx, my, mz⟩ := GeomReal.bary3dRaw_mom p0 p1 p2 x
  simp only [← nrm_eq_triNormal] at mx my mz
  change _ = vdot _ _ * _ - vdot _ _ * _ at mx
  change _ = vdot _ _ * _ - vdot _ _ * _ at my
  change _ = vdot _ _ * _ - vdot _ _ * _ at mz
  simp only [triFoot, footW, comb3, shiftN, baryR_eq]
  generalize vdot (nrm p0 p1 p2) (nrm p0 p1 p2) = T at *
  apply GeomReal.V3.ext' <;> simp only <;> field_simp
  · linear_combination mx
  · linear_combination my
  · linear_combination mz

/-- the normal is orthogonal to the plane: to the difference of two combinations of equal total weight -/
theorem nrm_orth_plane (p0 p1 p2 : V3 ℝ) {u v w u' v' w' : ℝ} (hs : u + v + w = u' + v' + w') :
    (nrm p0 p1 p2).x * ((comb3 p0 p1 p2 u v w).x - (comb3 p0 p1 p2 u' v' w').x) +
    (nrm p0 p1 p2).y * ((comb3 p0 p1 p2 u v w).y - (comb3 p0 p1 p2 u' v' w').y) +
    (nrm p0 p1 p2).z * ((comb3 p0 p1 p2 u v w).z - (comb3 p0 p1 p2 u' v' w').z) = 0 := by
  obtain rfl : u = u' + v' + w' - v - w := by linarith
  simp only [nrm, comb3]; ring

theorem sqd_foot_pythagoras {p0 p1 p2 x : V3 ℝ} (hT : vdot (nrm p0 p1 p2) (nrm p0 p1 p2) ≠ 0)
    (u v w : ℝ) (hs : u + v + w = 1) :
    sqd x (comb3 p0 p1 p2 u v w) = sqd x (triFoot p0 p1 p2 x) + sqd (triFoot p0 p1 p2 x) (comb3 p0 p1 p2 u v w) := by
  apply sqd_of_orth
  -- `x - foot` is a multiple of the normal, and the foot is itself a combination of total weight one
  have ho := nrm_orth_plane p0 p1 p2 ((footW_sum (x := x) hT).trans hs.symm)
  have hf := triFoot_eq_shift x hT
  unfold triFoot at hf ⊢
  generalize comb3 p0 p1 p2 (footW p0 p1 p2 x).x (footW p0 p1 p2 x).y (footW p0 p1 p2 x).z = f at *
  subst hf
  simp only [shiftN] at ho ⊢
  generalize vdot _ (nrm p0 p1 p2) / _ = σ at *
  linear_combination σ * ho

/-- in the interior branch the value is the distance to the orthogonal foot, hence ≤ the distance to any
    point of the plane of the triangle -/
theorem dist2triWith_interior_le (foot : V3 ℝ → V3 ℝ → V3 ℝ → V3 ℝ → V3 ℝ) (hf : FootAlongNormal foot)
    {p0 p1 p2 x : V3 ℝ} (h : TriInterior p0 p1 p2 x) (u v w : ℝ) (hs : u + v + w = 1) :
    dist2triWith foot p0 p1 p2 x ≤ edist x (comb3 p0 p1 p2 u v w) := by
  rw [dist2triWith_interior foot hf h]
  apply edist_le_of_sqd_le
  rw [sqd_foot_pythagoras (triInterior_facts h).1 u v w hs]
  exact le_add_of_nonneg_right (sqd_nonneg _ _)

/-- the value of `ref_search_distance3` is the distance to a point of the triangle (every branch) -/
theorem dist2triWith_attained (foot : V3 ℝ → V3 ℝ → V3 ℝ → V3 ℝ → V3 ℝ) (hf : FootAlongNormal foot)
    (p0 p1 p2 x : V3 ℝ) : ∃ y, InTri p0 p1 p2 y ∧ dist2triWith foot p0 p1 p2 x = edist x y := by
  by_cases h : TriInterior p0 p1 p2 x
  · obtain ⟨hT, h0, h1, h2⟩ := triInterior_facts h
    exact ⟨_, ⟨_, _, _, h0, h1, h2, footW_sum hT, rfl⟩, dist2triWith_interior foot hf h⟩
  · rw [dist2triWith_edges foot hf h]
    obtain ⟨y, hy, e⟩ := tri3Edges_attained p0 p1 p2 x
    refine ⟨y, ?_, e⟩
    rcases hy with hy | hy | hy
    · exact inTri_of_onSeg01 hy
    · exact inTri_of_onSeg12 hy
    · exact inTri_of_onSeg20 hy

theorem dist2triWith_nonneg (foot : V3 ℝ → V3 ℝ → V3 ℝ → V3 ℝ → V3 ℝ) (hf : FootAlongNormal foot)
    (p0 p1 p2 x : V3 ℝ) : 0 ≤ dist2triWith foot p0 p1 p2 x := by
  obtain ⟨y, _, h⟩ := dist2triWith_attained foot hf p0 p1 p2 x
  rw [h]; exact edist_nonneg _ _

/-- from a point `w ≥ 0` move along `δ` (some `δᵢ < 0`) until the first weight vanishes; this happens before
    `w + δ` if that point is outside -/
theorem exit_simplex {ι : Type} [Fintype ι] (w δ : ι → ℝ) (hw : ∀ i, 0 ≤ w i) (hneg : ∃ i, δ i < 0) :
    ∃ s : ℝ, 0 ≤ s ∧ (∀ i, 0 ≤ w i + s * δ i) ∧ (∃ i, w i + s * δ i = 0) ∧
      ((∃ i, w i + δ i < 0) → s ≤ 1) := by
  classical
  obtain ⟨i0, hi0⟩ := hneg
  have hne : (Finset.univ.filter (fun i => δ i < 0)).Nonempty := ⟨i0, by simp [hi0]⟩
  obtain ⟨i, hi, hmin⟩ := Finset.exists_min_image _ (fun i => w i / (-δ i)) hne
  simp only [Finset.mem_filter, Finset.mem_univ, true_and] at hi hmin
  have hs0 : 0 ≤ w i / (-δ i) := div_nonneg (hw i) (by linarith)
  have hle : ∀ j, δ j < 0 → w i / (-δ i) * (-δ j) ≤ w j := fun j hj =>
    (le_div_iff₀ (neg_pos.mpr hj)).mp (hmin j hj)
  refine ⟨w i / (-δ i), hs0, fun j => ?_, ⟨i, ?_⟩, fun ⟨j, hj⟩ => ?_⟩
  · by_cases hj : δ j < 0
    · linarith [hle j hj]
    · linarith [hw j, mul_nonneg hs0 (not_lt.mp hj)]
  · have : w i / (-δ i) * δ i = -w i := by
      rw [div_mul_eq_mul_div, div_eq_iff (neg_ne_zero.mpr hi.ne)]; ring
    linarith
  · have hδ : δ j < 0 := by linarith [hw j]
    exact (mul_le_iff_le_one_left (neg_pos.mpr hδ)).mp ((hle j hδ).trans (by linarith))

theorem exit3 (w0 w1 w2 d0 d1 d2 : ℝ) (h0 : 0 ≤ w0) (h1 : 0 ≤ w1) (h2 : 0 ≤ w2)
    (hneg : d0 < 0 ∨ d1 < 0 ∨ d2 < 0) :
    ∃ s : ℝ, 0 ≤ s ∧ 0 ≤ w0 + s * d0 ∧ 0 ≤ w1 + s * d1 ∧ 0 ≤ w2 + s * d2 ∧
      (w0 + s * d0 = 0 ∨ w1 + s * d1 = 0 ∨ w2 + s * d2 = 0) ∧
      (w0 + d0 < 0 ∨ w1 + d1 < 0 ∨ w2 + d2 < 0 → s ≤ 1) := by
  obtain ⟨s, hs, hall, ⟨i, hi⟩, hlim⟩ := exit_simplex ![w0, w1, w2] ![d0, d1, d2]
    (fun i => by fin_cases i <;> assumption)
    (hneg.elim (⟨0, ·⟩) (·.elim (⟨1, ·⟩) (⟨2, ·⟩)))
  refine ⟨s, hs, hall 0, hall 1, hall 2, ?_, fun h => hlim (h.elim (⟨0, ·⟩) (·.elim (⟨1, ·⟩) (⟨2, ·⟩)))⟩
  fin_cases i
  · exact .inl hi
  · exact .inr (.inl hi)
  · exact .inr (.inr hi)

/-- the `ref_math_divisible` guard passes for every quotient of modulus at most one -/
theorem divisible_of_abs_le {n d : ℝ} (hd : d ≠ 0) (h : |n| ≤ |d|) : Scalar.divisible n d = true := by
  rw [divisible_iff, abs_mul, abs_of_pos (by positivity : (0 : ℝ) < 1 * 10 ^ (20 : ℤ))]
  exact h.trans_lt (lt_mul_of_one_lt_left (abs_pos.mpr hd) (by norm_num))

/-- outside the interior branch of a non-degenerate triangle, the orthogonal foot has a negative weight:
    weights in `[0,1]` pass all six tests of the branch -/
theorem exists_neg_bary {p0 p1 p2 x : V3 ℝ} (hT : vdot (nrm p0 p1 p2) (nrm p0 p1 p2) ≠ 0)
    (hI : ¬ TriInterior p0 p1 p2 x) :
    (footW p0 p1 p2 x).x < 0 ∨ (footW p0 p1 p2 x).y < 0 ∨ (footW p0 p1 p2 x).z < 0 := by
  by_contra hc
  simp only [not_or, not_lt] at hc
  obtain ⟨c0, c1, c2⟩ := hc
  have hsum := footW_sum (x := x) hT
  simp only [footW] at c0 c1 c2 hsum
  have hdiv : ∀ b : ℝ, 0 ≤ b / vdot (nrm p0 p1 p2) (nrm p0 p1 p2) → b / vdot (nrm p0 p1 p2) (nrm p0 p1 p2) ≤ 1 →
      Scalar.divisible b (vdot (nrm p0 p1 p2) (nrm p0 p1 p2)) = true := fun b h0 h1 =>
    divisible_of_abs_le hT (by rwa [← div_le_one (abs_pos.mpr hT), ← abs_div, abs_of_nonneg h0])
  apply hI
  unfold TriInterior
  simp only [Bool.and_eq_true, le_iff]
  exact ⟨⟨⟨hdiv _ c0 (by linarith), hdiv _ c1 (by linarith)⟩, hdiv _ c2 (by linarith)⟩, ⟨c0, c1⟩, c2⟩

/-- non-degenerate triangle, foot outside: every point of the triangle is at least as far from `x` as
    some boundary point (the exit point of the segment towards the foot) -/
theorem edge_point_nondegenerate {p0 p1 p2 x : V3 ℝ} (hT : vdot (nrm p0 p1 p2) (nrm p0 p1 p2) ≠ 0)
    (hI : ¬ TriInterior p0 p1 p2 x) (u v w : ℝ) (hu : 0 ≤ u) (hv : 0 ≤ v) (hw : 0 ≤ w) (hs : u + v + w = 1) :
    ∃ z, (OnSeg p0 p1 z ∨ OnSeg p1 p2 z ∨ OnSeg p2 p0 z) ∧ sqd x z ≤ sqd x (comb3 p0 p1 p2 u v w) := by
  have hneg := exists_neg_bary hT hI
  have hsum := footW_sum (x := x) hT
  have pyth := sqd_foot_pythagoras (x := x) hT
  unfold triFoot at pyth
  generalize (footW p0 p1 p2 x).x = β0 at *
  generalize (footW p0 p1 p2 x).y = β1 at *
  generalize (footW p0 p1 p2 x).z = β2 at *
  obtain ⟨s, hs0, c0, c1, c2, hz, hs1⟩ := exit3 u v w (β0 - u) (β1 - v) (β2 - w) hu hv hw
    (by rcases hneg with h | h | h
        · exact .inl (by linarith)
        · exact .inr (.inl (by linarith))
        · exact .inr (.inr (by linarith)))
  have hs1 : s ≤ 1 := hs1 (by simpa only [add_sub_cancel] using hneg)
  have hcs : (u + s * (β0 - u)) + (v + s * (β1 - v)) + (w + s * (β2 - w)) = 1 := by
    linear_combination (1 - s) * hs + s * hsum
  refine ⟨comb3 p0 p1 p2 (u + s * (β0 - u)) (v + s * (β1 - v)) (w + s * (β2 - w)),
    onEdge_of_zero_weight p0 p1 p2 _ _ _ c0 c1 c2 hcs hz, ?_⟩
  -- both distances split at the foot; the exit point is `(1 - s)` times as far from the foot
  have hq := sqd_nonneg (comb3 p0 p1 p2 β0 β1 β2) (comb3 p0 p1 p2 u v w)
  rw [pyth _ _ _ hcs, pyth u v w hs, add_le_add_iff_left]
  rw [sqd_comb3_comb3 p0 p1 p2 (hsum.trans hs.symm)] at hq ⊢
  rw [sqd_comb3_comb3 p0 p1 p2 (hsum.trans hcs.symm)]
  refine le_of_eq_of_le ?_ (mul_le_of_le_one_left hq (pow_le_one₀ (sub_nonneg.mpr hs1) (by linarith) : (1 - s) ^ 2 ≤ 1))
  ring

/-- if some non-zero weight change `d` of total zero does not move the point (`|d1 a + d2 b|² = 0`), every point of
    the triangle can be slid along `d` onto an edge -/
theorem onEdge_of_null_direction {p0 p1 p2 : V3 ℝ} {d0 d1 d2 : ℝ} (hd : d0 + d1 + d2 = 0)
    (hq : d1 ^ 2 * segL p0 p1 + 2 * d1 * d2 * segP p0 p1 p2 + d2 ^ 2 * segL p0 p2 = 0)
    (hneg : d0 < 0 ∨ d1 < 0 ∨ d2 < 0)
    (u v w : ℝ) (hu : 0 ≤ u) (hv : 0 ≤ v) (hw : 0 ≤ w) (hs : u + v + w = 1) :
    OnSeg p0 p1 (comb3 p0 p1 p2 u v w) ∨ OnSeg p1 p2 (comb3 p0 p1 p2 u v w) ∨
      OnSeg p2 p0 (comb3 p0 p1 p2 u v w) := by
  obtain ⟨s, _, c0, c1, c2, hz, _⟩ := exit3 u v w d0 d1 d2 hu hv hw hneg
  have hcs : (u + s * d0) + (v + s * d1) + (w + s * d2) = 1 := by linear_combination hs + s * hd
  have hy : comb3 p0 p1 p2 (u + s * d0) (v + s * d1) (w + s * d2) = comb3 p0 p1 p2 u v w := by
    apply eq_of_sqd_eq_zero
    rw [sqd_comb3_comb3 p0 p1 p2 (hcs.trans hs.symm)]
    linear_combination s ^ 2 * hq
  rw [← hy]
  exact onEdge_of_zero_weight p0 p1 p2 _ _ _ c0 c1 c2 hcs hz

/-- degenerate triangle (`N = 0`): every point of the triangle lies on one of its edges -/
theorem edge_point_degenerate {p0 p1 p2 : V3 ℝ} (hT : vdot (nrm p0 p1 p2) (nrm p0 p1 p2) = 0)
    (u v w : ℝ) (hu : 0 ≤ u) (hv : 0 ≤ v) (hw : 0 ≤ w) (hs : u + v + w = 1) :
    OnSeg p0 p1 (comb3 p0 p1 p2 u v w) ∨ OnSeg p1 p2 (comb3 p0 p1 p2 u v w) ∨
      OnSeg p2 p0 (comb3 p0 p1 p2 u v w) := by
  rw [nrm_sq] at hT
  rcases (segL_nonneg p0 p1).eq_or_lt with hA | hA
  · -- `a = 0`: weight can be moved from `p1` to `p0`
    exact onEdge_of_null_direction (d0 := 1) (d1 := -1) (d2 := 0) (by ring) (by rw [← hA]; ring)
      (.inr (.inl (by norm_num))) u v w hu hv hw hs
  · -- `|(a·a) b - (a·b) a|² = (a·a) ((a·a)(b·b) - (a·b)²) = 0`
    refine onEdge_of_null_direction (d0 := segP p0 p1 p2 - segL p0 p1) (d1 := -segP p0 p1 p2)
      (d2 := segL p0 p1) (by ring) (by linear_combination segL p0 p1 * hT) ?_ u v w hu hv hw hs
    by_cases hC : 0 < segP p0 p1 p2
    · exact .inr (.inl (by linarith))
    · exact .inl (by linarith)

theorem exists_edge_point_le {p0 p1 p2 x : V3 ℝ} (hI : ¬ TriInterior p0 p1 p2 x) (y : V3 ℝ)
    (hy : InTri p0 p1 p2 y) :
    ∃ z, (OnSeg p0 p1 z ∨ OnSeg p1 p2 z ∨ OnSeg p2 p0 z) ∧ edist x z ≤ edist x y := by
  obtain ⟨u, v, w, hu, hv, hw, hs, rfl⟩ := hy
  by_cases hT : vdot (nrm p0 p1 p2) (nrm p0 p1 p2) = 0
  · exact ⟨_, edge_point_degenerate hT u v w hu hv hw hs, le_refl _⟩
  · obtain ⟨z, hz, hle⟩ := edge_point_nondegenerate hT hI u v w hu hv hw hs
    exact ⟨z, hz, edist_le_of_sqd_le hle⟩

/-- relative slack of `ref_search_distance3`: the worst of its three edge calls -/
noncomputable def triSlack (p0 p1 p2 x : V3 ℝ) : ℝ :=
  min (min (segSlack p0 p1 x) (segSlack p1 p2 x)) (segSlack p2 p0 x)

theorem triSlack_le_one (p0 p1 p2 x : V3 ℝ) : triSlack p0 p1 p2 x ≤ 1 :=
  le_trans (min_le_right _ _) (segSlack_le_one _ _ _)

theorem triSlack_ge (p0 p1 p2 x : V3 ℝ) : 1 - eps20 ≤ triSlack p0 p1 p2 x :=
  le_min (le_min (segSlack_ge _ _ _) (segSlack_ge _ _ _)) (segSlack_ge _ _ _)

theorem triSlack_pos (p0 p1 p2 x : V3 ℝ) : 0 < triSlack p0 p1 p2 x :=
  lt_of_lt_of_le (by linarith [eps20_lt_one]) (triSlack_ge p0 p1 p2 x)

theorem triSlack_eq_one {p0 p1 p2 x : V3 ℝ} (h01 : SegGuard p0 p1 x ∨ p0 = p1)
    (h12 : SegGuard p1 p2 x ∨ p1 = p2) (h20 : SegGuard p2 p0 x ∨ p2 = p0) : triSlack p0 p1 p2 x = 1 := by
  unfold triSlack
  rw [segSlack_eq_one h01, segSlack_eq_one h12, segSlack_eq_one h20]
  simp

/-- full minimality of `ref_search_distance3` over the closed triangle, up to the slack of the
    `ref_math_divisible` guards in its edge calls -/
theorem dist2triWith_min (foot : V3 ℝ → V3 ℝ → V3 ℝ → V3 ℝ → V3 ℝ) (hf : FootAlongNormal foot)
    (p0 p1 p2 x y : V3 ℝ) (hy : InTri p0 p1 p2 y) :
    triSlack p0 p1 p2 x * dist2triWith foot p0 p1 p2 x ≤ edist x y := by
  by_cases hI : TriInterior p0 p1 p2 x
  · obtain ⟨u, v, w, _, _, _, hs, rfl⟩ := hy
    have hv := dist2triWith_nonneg foot hf p0 p1 p2 x
    have h1 := dist2triWith_interior_le foot hf hI u v w hs
    have h2 := triSlack_le_one p0 p1 p2 x
    nlinarith [triSlack_pos p0 p1 p2 x]
  · obtain ⟨z, hz, hle⟩ := exists_edge_point_le hI y hy
    refine le_trans ?_ hle
    rw [dist2triWith_edges foot hf hI, tri3Edges_eq]
    have n0 := dist2seg_nonneg p0 p1 x
    have n1 := dist2seg_nonneg p1 p2 x
    have n2 := dist2seg_nonneg p2 p0 x
    have hm : 0 ≤ min (min (dist2seg p0 p1 x) (dist2seg p1 p2 x)) (dist2seg p2 p0 x) :=
      le_min (le_min n0 n1) n2
    rcases hz with hz | hz | hz
    · refine le_trans ?_ (segSlack_mul_le p0 p1 x z hz)
      exact mul_le_mul (le_trans (min_le_left _ _) (min_le_left _ _))
        (le_trans (min_le_left _ _) (min_le_left _ _)) hm (segSlack_pos _ _ _).le
    · refine le_trans ?_ (segSlack_mul_le p1 p2 x z hz)
      exact mul_le_mul (le_trans (min_le_left _ _) (min_le_right _ _))
        (le_trans (min_le_left _ _) (min_le_right _ _)) hm (segSlack_pos _ _ _).le
    · refine le_trans ?_ (segSlack_mul_le p2 p0 x z hz)
      exact mul_le_mul (min_le_right _ _) (min_le_right _ _) hm (segSlack_pos _ _ _).le

end Refine.Lemmas.Search
