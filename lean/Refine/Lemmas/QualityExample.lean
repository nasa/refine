import Refine.Lemmas.QualityDeriv
import Refine.Lemmas.MatrixQL

/-!
  A concrete tet with four different vertex metrics (and four different stored log-metrics whose mean is 0, so that
  the averaged metric is the identity) used by the non-vacuity examples of `Props/C15Quality.lean`.
-/
namespace Refine.QualityExample
open Refine Refine.Model.Geom Refine.Model.Quality Refine.ScalarReal Refine.GeomReal Refine.QualityReal
open Refine.QualityDeriv

/-- four different vertex metrics (as stored: metric and log-metric), unit right tet -/
noncomputable def ex0 : QNode ℝ := ⟨⟨0, 0, 0⟩, ⟨1, 0, 0, 4, 0, 9⟩, ⟨1, 0, 0, 2, 0, 3⟩⟩
noncomputable def ex1 : QNode ℝ := ⟨⟨1, 0, 0⟩, ⟨2, 0, 0, 1, 0, 5⟩, ⟨-1, 0, 0, -2, 0, -3⟩⟩
noncomputable def ex2 : QNode ℝ := ⟨⟨0, 1, 0⟩, ⟨3, 0, 0, 3, 0, 1⟩, ⟨2, 0, 0, -1, 0, 0⟩⟩
noncomputable def ex3 : QNode ℝ := ⟨⟨0, 0, 1⟩, ⟨5, 0, 0, 2, 0, 2⟩, ⟨-2, 0, 0, 1, 0, 0⟩⟩

theorem ex_avg : toMx (avg4 ex0.l ex1.l ex2.l ex3.l) = (⟨0, 0, 0, 0, 0, 0⟩ : Model.Matrix.M6 ℝ) := by
  simp only [toMx, avg4, ex0, ex1, ex2, ex3, add_eq, div_eq, lit4_eq]
  norm_num

theorem ex_exp : Model.Matrix.expM (toMx (avg4 ex0.l ex1.l ex2.l ex3.l)) = .ok ⟨1, 0, 0, 1, 0, 1⟩ := by
  rw [ex_avg]
  unfold Model.Matrix.expM
  rw [Model.Matrix.diagM_diag]
  simp [Model.Matrix.formM, Model.Matrix.mapEig]

theorem ex_jac : ∃ j, Model.Matrix.jacobM (⟨1, 0, 0, 1, 0, 1⟩ : Model.Matrix.M6 ℝ) = .ok j := by
  unfold Model.Matrix.jacobM
  rw [Model.Matrix.diagM_diag]
  exact ⟨_, rfl⟩

theorem ex_vol : tetVol ex0.x ex1.x ex2.x ex3.x = 1 / 6 := by
  simp only [tetVol_def, tetDet_def, ex0, ex1, ex2, ex3]; norm_num

theorem ex_det : Model.Matrix.detM (⟨1, 0, 0, 1, 0, 1⟩ : Model.Matrix.M6 ℝ) = 1 := by
  rw [Model.Matrix.detM_diag 1 1 1 one_ne_zero one_ne_zero]; norm_num

theorem ex_l2 : tetJacL2 (ofMx (⟨1, 0, 0, 1, 0, 1⟩ : Model.Matrix.M6 ℝ)) ex0.x ex1.x ex2.x ex3.x = 9 := by
  simp only [tetJacL2, vtMv_def, sub_def, ofMx, ex0, ex1, ex2, ex3, add_eq]; norm_num

end Refine.QualityExample
