import Refine.Model.InterpLocate
import Refine.Lemmas.ListFacts
import Mathlib.Data.List.Forall2

/-!
  One rank of `Refine.Model.InterpLocate`: what the walk of an agent leaves untouched and what an `ENCLOSING` agent carries
  (`walkLoopP_spec`), the agent container with the clause its operations keep (`AgentsOK`), and the slot invariant
  `Good P P3`.

  `Good` is parametric: `P` is what the slots stored by stage 1 (geometry seeds) and stage 2 (walks) satisfy,
  `P3` what stage 3 (tree) stores satisfy.  `Props/C11Locate.lean` instantiates it with "every weight `≥ inside`"
  (`locate_accepts_only_inside`) and with "every slot written, the 4th of a 2-D donor is `0`"
  (`locate_all_slots_written`).  That every step of the staging keeps it is proved for the form `GoodX`
  (`Lemmas/InterpLocateInv.lean`), of which it is an instance.
-/

namespace Refine.Lemmas.InterpLocate
open Refine Refine.Model.Geom Refine.Model.Interp Refine.Model.InterpLocate Refine.Model.Comm
open Refine.Gen

theorem bind_eq_ok {ε β γ : Type} {x : Except ε β} {f : β → Except ε γ} {c : γ} :
    (x >>= f) = .ok c ↔ ∃ b, x = .ok b ∧ f b = .ok c := by
  cases x with
  | error e => simp [bind, Except.bind]
  | ok b => simp [bind, Except.bind]

theorem bind_ok {ε β γ : Type} (b : β) (f : β → Except ε γ) : ((Except.ok b : Except ε β) >>= f) = f b := rfl

theorem map_eq_ok {ε β γ : Type} {x : Except ε β} {f : β → γ} {c : γ} :
    (x.map f) = .ok c ↔ ∃ b, x = .ok b ∧ f b = c := by
  cases x with
  | error e => simp [Except.map]
  | ok b => simp [Except.map]

theorem collect_eq_ok {β : Type} : ∀ {l : List (Except ISt β)} {l' : List β}, collect l = .ok l' ↔ l = l'.map Except.ok
  | [], l' => by cases l' <;> simp [collect]
  | .error e :: rest, l' => by cases l' <;> simp [collect]
  | .ok b :: rest, l' => by
    cases l' with
    | nil => simp [collect, map_eq_ok]
    | cons c t => simp [collect, map_eq_ok, collect_eq_ok (l := rest)]; tauto

/-- `collect` succeeds exactly when every entry does; the results are in the same positions -/
theorem collect_ok {β : Type} : ∀ (l : List (Except ISt β)) (l' : List β), collect l = .ok l' →
    List.Forall₂ (fun e b => e = Except.ok b) l l' := fun l l' h => by
  rw [collect_eq_ok.mp h, List.forall₂_map_left_iff]
  exact List.forall₂_same.mpr fun _ _ => rfl

theorem collect_getElem? {β : Type} {l : List (Except ISt β)} {l' : List β} (h : collect l = .ok l') {r : Nat} {b : β}
    (hb : l'[r]? = some b) : l[r]? = some (Except.ok b) := by
  rw [collect_eq_ok.mp h, List.getElem?_map, hb]; rfl

theorem foldlM_inv {β σ : Type} (I : σ → Prop) (f : σ → β → Except ISt σ) (hf : ∀ s b s', I s → f s b = .ok s' → I s') :
    ∀ (l : List β) (s s' : σ), I s → l.foldlM f s = .ok s' → I s'
  | [], s, s', hs, h => by
    simp only [List.foldlM, pure, Except.pure, Except.ok.injEq] at h
    subst h; exact hs
  | b :: rest, s, s', hs, h => by
    simp only [List.foldlM] at h
    obtain ⟨s1, h1, h2⟩ := bind_eq_ok.mp h
    exact foldlM_inv I f hf rest s1 s' (hf s b s1 hs h1) h2

section Plain
variable {α : Type}

@[simp] theorem copyN_four (d s : Slots α) : Slots.copyN 4 d s = s := by
  cases s; simp [Slots.copyN]

@[simp] theorem ofList_toList (s : Slots α) : Slots.ofList s.toList = s := by
  cases s; simp [Slots.ofList, Slots.toList]

@[simp] theorem toList_length (s : Slots α) : s.toList.length = 4 := by simp [Slots.toList]

theorem mem_insertSorted {id : Nat} {ag : AgentP α} {l : List (Nat × AgentP α)} {p : Nat × AgentP α}
    (h : p ∈ Agents.insertSorted id ag l) : p ∈ l ∨ p = (id, ag) := by
  induction l with
  | nil =>
    simp only [Agents.insertSorted, List.mem_singleton] at h
    exact Or.inr h
  | cons q rest ih =>
    simp only [Agents.insertSorted] at h
    split at h
    · rcases List.mem_cons.mp h with h | h
      · exact Or.inr h
      · exact Or.inl h
    · rcases List.mem_cons.mp h with h | h
      · exact Or.inl (h ▸ List.mem_cons_self)
      · rcases ih h with h | h
        · exact Or.inl (List.mem_cons_of_mem _ h)
        · exact Or.inr h

theorem alloc_act (a : Agents α) : a.alloc.2.act = a.act := by
  unfold Agents.alloc
  split
  · rfl
  · split <;> rfl

/-- a clause `QA` holds of every agent in the container; the operations of `ref_agents.c` keep it -/
def AgentsOK (QA : AgentP α → Prop) (ag : Agents α) : Prop := ∀ p ∈ ag.act, QA p.2

namespace AgentsOK
variable {ag : Agents α} {QA : AgentP α → Prop}

theorem get? (h : AgentsOK QA ag) {id : Nat} {a : AgentP α} (hg : ag.get? id = some a) : QA a := by
  simp only [Agents.get?, Option.map_eq_some_iff] at hg
  obtain ⟨p, hp, rfl⟩ := hg
  exact h p (List.mem_of_find?_eq_some hp)

theorem set (h : AgentsOK QA ag) (id : Nat) {a : AgentP α} (ha : QA a) : AgentsOK QA (ag.set id a) := by
  intro p hp
  simp only [Agents.set, List.mem_map] at hp
  obtain ⟨q, hq, rfl⟩ := hp
  split
  · exact ha
  · exact h q hq

theorem push (h : AgentsOK QA ag) {a : AgentP α} (ha : QA a) : AgentsOK QA (ag.push a).2 := by
  intro p hp
  rcases mem_insertSorted hp with hp | rfl
  · exact h p (alloc_act ag ▸ hp)
  · exact ha

theorem remove (h : AgentsOK QA ag) (id : Nat) : AgentsOK QA (ag.remove id) := by
  intro p hp
  unfold Agents.remove at hp
  split at hp
  · exact h p (List.mem_filter.mp hp).1
  · exact h p hp

theorem deleteNode (h : AgentsOK QA ag) (node : Int) : AgentsOK QA (ag.deleteNode node) :=
  List.foldlRecOn _ _ h fun _ hb id _ => hb.remove id

end AgentsOK

/-- the shape of the five `each_active_ref_agent` loops of `ref_interp_process_agents`: the body runs for every active agent
    that meets the loop's condition `c`, so an invariant of the bodies is one of the loop -/
theorem eachAgent_inv {σ : Type} (I : σ → Prop) (ag : σ → Agents α) (c : AgentP α → Bool)
    (body : σ → Nat → AgentP α → Except ISt σ)
    (hbody : ∀ s id a s', I s → (ag s).get? id = some a → c a = true → body s id a = .ok s' → I s')
    (ids : List Nat) (s s' : σ) (hs : I s)
    (h : ids.foldlM (fun s id => match (ag s).get? id with
      | some a => if c a then body s id a else .ok s
      | none => .ok s) s = .ok s') : I s' := by
  refine foldlM_inv I _ ?_ _ s s' hs h
  intro s id s' hs hstep
  split at hstep
  · split at hstep
    · exact hbody _ _ _ _ hs ‹_› ‹_› hstep
    · cases hstep; exact hs
  · cases hstep; exact hs

end Plain

section Generic
variable {α : Type} [Scalar α]

theorem storeBary_twod (s : Slots α) (b : B4 α) :
    storeBary true s b = ⟨some b.b0, some b.b1, some b.b2, some lit0⟩ := by
  simp [storeBary, Slots.write3, Slots.zero3]

theorem storeBary_3d (s : Slots α) (b : B4 α) :
    storeBary false s b = ⟨some b.b0, some b.b1, some b.b2, some b.b3⟩ := by
  simp [storeBary, Slots.write4]

/-- the seed acceptance test on four written slots, with the operator and the tolerance member of the C text resolved -/
theorem geomAccept_some (w0 w1 w2 w3 : α) :
    geomAccept (⟨some w0, some w1, some w2, some w3⟩ : Slots α) =
      ((insideTol <. w0) && (insideTol <. w1) && (insideTol <. w2) && (insideTol <. w3)) := rfl

/-- per node: what the stored slots satisfy, by the stage that stored them -/
def NodeOK (P P3 : Slots α → Prop) (st : RankSt α) (i : Nat) : Prop :=
  ((st.stage.getD i 0 = 1 ∨ st.stage.getD i 0 = 2) → P (st.baryOf i)) ∧ (st.stage.getD i 0 = 3 → P3 (st.baryOf i))

/-- per agent: an `ENCLOSING` agent carries slots with `P` -/
def AgOK (P : Slots α → Prop) (ag : Agents α) : Prop := ∀ p ∈ ag.act, p.2.mode = AMode.enclosing → P p.2.bary

structure Good (P P3 : Slots α → Prop) (st : RankSt α) : Prop where
  wf : st.bary.length = st.stage.length
  nodes : ∀ i, NodeOK P P3 st i
  agents : AgOK P st.ag

/-! ## the copy loops have the bound 4 in the C text (regenerated: `Gen/InterpConsts.lean`) -/

theorem geomCopy_eq : InterpConsts.geomCopy = 4 := rfl
theorem walkCopy_eq : InterpConsts.walkCopy = 4 := rfl
theorem processCopy_eq : InterpConsts.processCopy = 4 := rfl
theorem treeCopy_eq : InterpConsts.treeCopy = 4 := rfl

theorem walkIterP_done {r : Nat} {dr : DonorR α} {a a' : AgentP α} {rnd : Nat} (h : walkIterP r dr a rnd = .done a') :
    ∃ n b, dr.d.cellAt a.seed = some n ∧ b = (Refine.Model.Interp.baryOf dr.d n a.xyz).2 ∧ walkInside b = true ∧
      a' = { a with mode := AMode.enclosing,
                    bary := Slots.copyN InterpConsts.walkCopy a.bary (storeBary dr.d.twod Slots.unwritten b) } := by
  revert h
  -- of the branches of the loop body only the two `inside` ones (status ok, or div-zero) return `done`
  fun_cases walkIterP r dr a rnd <;> intro h <;> cases h
  all_goals exact ⟨_, _, ‹_›, by simp [*], ‹_›, rfl⟩

omit [Scalar α] in
theorem updateSeedP_fields (r : Nat) (dr : DonorR α) (a : AgentP α) (face : List Nat) (rnd : Nat) :
    let a' := (updateSeedP r dr a face rnd).2.1
    a'.home = a.home ∧ a'.node = a.node ∧ a'.xyz = a.xyz ∧
      ((a'.mode = a.mode ∧ a'.part = a.part) ∨ a'.mode = AMode.hopPart ∨ (a'.mode = AMode.atBoundary ∧ a'.part = a.part)) := by
  fun_cases updateSeedP r dr a face rnd <;> simp +zetaDelta

theorem walkIterP_next_fields {r : Nat} {dr : DonorR α} {a a' : AgentP α} {rnd rnd' : Nat}
    (h : walkIterP r dr a rnd = .next a' rnd') :
    a'.home = a.home ∧ a'.node = a.node ∧ a'.xyz = a.xyz ∧
      ((a'.mode = a.mode ∧ a'.part = a.part) ∨ a'.mode = AMode.hopPart ∨ (a'.mode = AMode.atBoundary ∧ a'.part = a.part)) := by
  revert h
  fun_cases walkIterP r dr a rnd <;> intro h <;> cases h
  -- every `next` comes out of `updateSeedP` on the face with the most negative weight
  all_goals
    rename_i face _ hu
    simpa only [hu] using updateSeedP_fields r dr a face rnd

/-- `ref_interp_walk_agent`; the last clause is the soundness of the parallel walk, on which both instances of
    `LocateClauses.walk` rest -/
theorem walkLoopP_spec (r : Nat) (dr : DonorR α) (fuel : Nat) (a a' : AgentP α) (rnd rnd' : Nat) (st : ISt)
    (h : walkLoopP r dr fuel a rnd = (st, a', rnd')) (hm : a.mode ≠ AMode.enclosing) (hs : a.mode ≠ AMode.suggestion) :
      a'.home = a.home ∧ a'.node = a.node ∧ a'.xyz = a.xyz ∧ a'.mode ≠ AMode.suggestion ∧
      (a'.mode = AMode.enclosing → a.mode = AMode.walking ∧ a'.part = a.part ∧
        ∃ n b, dr.d.cellAt a'.seed = some n ∧ b = (Refine.Model.Interp.baryOf dr.d n a'.xyz).2 ∧ walkInside b = true ∧
          a'.bary = storeBary dr.d.twod Slots.unwritten b) := by
  fun_induction walkLoopP r dr fuel a rnd with
  -- step limit reached: `TERMINATED`
  | case1 a rnd => cases h; exact ⟨rfl, rfl, rfl, by simp, by intro he; simp at he⟩
  -- not walking, or the step fails: the agent comes back as it is
  | case2 fuel a rnd hw | case3 fuel a rnd hw e hi => cases h; exact ⟨rfl, rfl, rfl, hs, fun he => absurd he hm⟩
  -- the step finds the target inside the cell: `ENCLOSING`
  | case4 fuel a rnd hw a1 hi =>
    cases h
    obtain ⟨n, b, h1, h2, h3, rfl⟩ := walkIterP_done hi
    exact ⟨rfl, rfl, rfl, by simp, fun _ => ⟨by simpa using hw, rfl, n, b, h1, h2, h3, by rw [walkCopy_eq, copyN_four]⟩⟩
  -- the step moves on and the loop continues
  | case5 fuel a rnd hw a1 rnd1 hi ih =>
    have hwk : a.mode = AMode.walking := by simpa using hw
    obtain ⟨f1, f2, f3, f4⟩ := walkIterP_next_fields hi
    -- the agent goes on walking, hops, or is at the boundary
    have hne : a1.mode ≠ AMode.enclosing ∧ a1.mode ≠ AMode.suggestion := by
      rcases f4 with ⟨h1, _⟩ | h1 | ⟨h1, _⟩ <;> simp [h1, hwk]
    obtain ⟨g1, g2, g3, g4, g5⟩ := ih h hne.1 hne.2
    refine ⟨g1.trans f1, g2.trans f2, g3.trans f3, g4, fun he => ?_⟩
    obtain ⟨hw1, hp, rest⟩ := g5 he
    -- only an agent that went on walking can come back `ENCLOSING`, and a step keeps its part
    rcases f4 with ⟨_, h2⟩ | h1 | ⟨h1, _⟩
    · exact ⟨hwk, hp.trans h2, rest⟩
    · exact absurd hw1 (by simp [h1])
    · exact absurd hw1 (by simp [h1])

end Generic

end Refine.Lemmas.InterpLocate
