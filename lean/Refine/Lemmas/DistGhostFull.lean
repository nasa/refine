import Refine.Model.Dist
import Refine.Lemmas.CommExchange
import Refine.Lemmas.ListFacts
import Refine.Lemmas.DistGhost
import Refine.Lemmas.CommA2A
import Mathlib.Tactic.Linarith
import Mathlib.Algebra.Order.BigOperators.Group.List
import Mathlib.Data.List.Nodup
import Mathlib.Data.List.Basic
import Mathlib.Data.List.Perm.Subperm

/-!
  The whole of `ref_node_ghost_int / _glob / _dbl` (`Refine.Model.Dist.ghost`): the `alltoall` of the bucket sizes,
  the `alltoallv` of the requested globals, the owner-side lookup, the reply `alltoallv` and the store loop.

  The communication is a request–reply round trip, stated for any keys and any answer function (`request`, `reply`):
  every rank `s` buckets the keys it wants by the rank `p` it asks (`bk[s][p]`); the bucket sizes are exchanged, the
  flat buckets are sent, rank `p` answers every key it was sent with an item `ans p key` of `ldim` scalars, and the
  answers travel back with the two size tables swapped.  (The `a_next` pack loop that fills `a_global` in the C is not
  modelled here: `ghost` starts from the buckets, `ghostBuckets` being that loop's closed form.)
-/
namespace Refine.Lemmas.DistGhostFull
open Refine.Model.Dist Refine.Model.Comm Refine.Lemmas.Comm

variable {β : Type}

/-- the entries of rank `me` that are ghosts (`part ≠ me`) with `part = p`, in slot order -/
def ghostsTo (me p : Nat) (nodes : List (GNode β)) : List (GNode β) :=
  nodes.filter fun nd => nd.part != (me : Int) && nd.part == (p : Int)

/-- all ghost entries of rank `me` whose part is a rank, by owner and then slot order (the order of `a_global`) -/
def ghostsAll (np me : Nat) (nodes : List (GNode β)) : List (GNode β) :=
  ((List.range np).map fun p => ghostsTo me p nodes).flatten

/-- the values the owner holds for the entry `nd` (owner = rank `nd.part`) -/
def ownerVals (w : World (List (GNode β))) (nd : GNode β) : List β :=
  (lookupVals (w.getD nd.part.toNat []) nd.glob).getD []

/-- `a_total` of rank `r`: the number of its ghost entries -/
def nGhosts (r : Nat) (nodes : List (GNode β)) : Nat :=
  (nodes.filter fun nd => nd.part != (r : Int)).length

/-- `b_total` of rank `r`: the number of entries, over all ranks `s`, that are ghosts on `s` and name `r` -/
def nRequests (w : World (List (GNode β))) (r : Nat) : Nat :=
  (w.mapIdx fun s nodes => (ghostsTo s r nodes).length).sum

/-- one entry after the refresh -/
def refreshNode (w : World (List (GNode β))) (r : Nat) (nd : GNode β) : GNode β :=
  if nd.part = (r : Int) then nd else { nd with vals := ownerVals w nd }

/-- the world after the refresh -/
def refreshed (w : World (List (GNode β))) : World (List (GNode β)) :=
  w.mapIdx fun r nodes => nodes.map (refreshNode w r)

theorem refreshNode_glob (w : World (List (GNode β))) (r : Nat) (nd : GNode β) :
    (refreshNode w r nd).glob = nd.glob := by
  unfold refreshNode; split <;> rfl

theorem refreshNode_part (w : World (List (GNode β))) (r : Nat) (nd : GNode β) :
    (refreshNode w r nd).part = nd.part := by
  unfold refreshNode; split <;> rfl

theorem refreshNode_owned (w : World (List (GNode β))) (r : Nat) (nd : GNode β) (h : nd.part = (r : Int)) :
    refreshNode w r nd = nd := by
  simp [refreshNode, h]

theorem refreshed_length (w : World (List (GNode β))) : (refreshed w).length = w.length :=
  List.length_mapIdx

theorem refreshed_getElem (w : World (List (GNode β))) (r : Nat) (hr : r < (refreshed w).length) :
    (refreshed w)[r] = (w[r]'(refreshed_length w ▸ hr)).map (refreshNode w r) :=
  List.getElem_mapIdx ..

theorem refreshed_getD (w : World (List (GNode β))) (r : Nat) (hr : r < w.length) :
    (refreshed w).getD r [] = w[r].map (refreshNode w r) := by
  rw [ListFacts.getD_eq_getElem (by rw [refreshed_length]; exact hr), refreshed_getElem]

theorem ghostBuckets_eq (np me : Nat) (nodes : List (GNode β)) :
    ghostBuckets np me nodes = (List.range np).map fun p => (ghostsTo me p nodes).map (·.glob) := rfl

theorem mem_ghostsTo {me p : Nat} {nodes : List (GNode β)} {nd : GNode β} :
    nd ∈ ghostsTo me p nodes ↔ nd ∈ nodes ∧ nd.part ≠ (me : Int) ∧ nd.part = (p : Int) := by
  simp [ghostsTo]

theorem mem_ghostsAll {np me : Nat} {nodes : List (GNode β)} {nd : GNode β} :
    nd ∈ ghostsAll np me nodes ↔ nd ∈ nodes ∧ nd.part ≠ (me : Int) ∧ ∃ p, p < np ∧ nd.part = (p : Int) := by
  simp only [ghostsAll, List.mem_flatten, List.mem_map, List.mem_range]
  constructor
  · rintro ⟨l, ⟨p, hp, rfl⟩, h⟩
    obtain ⟨h1, h2, h3⟩ := mem_ghostsTo.mp h
    exact ⟨h1, h2, p, hp, h3⟩
  · rintro ⟨h1, h2, p, hp, h3⟩
    exact ⟨_, ⟨p, hp, rfl⟩, mem_ghostsTo.mpr ⟨h1, h2, h3⟩⟩

theorem glob_inj {nodes : List (GNode β)} (hnd : (nodes.map (·.glob)).Nodup) {a b : GNode β}
    (ha : a ∈ nodes) (hb : b ∈ nodes) (h : a.glob = b.glob) : a = b :=
  List.inj_on_of_nodup_map hnd ha hb h

theorem lookupVals_of_mem {nodes : List (GNode β)} (hnd : (nodes.map (·.glob)).Nodup) {od : GNode β}
    (hod : od ∈ nodes) : lookupVals nodes od.glob = some od.vals := by
  unfold lookupVals
  cases h : nodes.find? (fun nd => nd.glob == od.glob) with
  | none =>
    rw [List.find?_eq_none] at h
    have := h od hod
    simp at this
  | some x =>
    have hx : x ∈ nodes := List.mem_of_find?_eq_some h
    have hg : x.glob = od.glob := by simpa using List.find?_some h
    rw [glob_inj hnd hx hod hg]
    rfl

theorem ownerVals_of_mem {w : World (List (GNode β))} {nd od : GNode β}
    (hnd : ((w.getD nd.part.toNat []).map (·.glob)).Nodup) (hod : od ∈ w.getD nd.part.toNat [])
    (hg : od.glob = nd.glob) : ownerVals w nd = od.vals := by
  rw [ownerVals, ← hg, lookupVals_of_mem hnd hod]
  rfl

theorem mapM_option_eq_some {α γ : Type} (f : α → Option γ) (h : α → γ) (l : List α)
    (H : ∀ a ∈ l, f a = some (h a)) : l.mapM f = some (l.map h) := by
  induction l with
  | nil => simp
  | cons a l ih =>
    rw [List.mapM_cons, H a List.mem_cons_self, ih (fun b hb => H b (List.mem_cons_of_mem _ hb))]
    simp

theorem chunks_flatten (ldim : Nat) (items : List (List β)) (h : ∀ it ∈ items, it.length = ldim) :
    chunks ldim items.length items.flatten = items :=
  ListFacts.chunks_flatten_of (fun _ => rfl) (fun _ _ => rfl) items h

theorem ghostsAll_nodup (np me : Nat) (nodes : List (GNode β)) (hnd : (nodes.map (·.glob)).Nodup) :
    (ghostsAll np me nodes).Nodup :=
  (ListFacts.nodup_flatten_map_range _ np).2 ⟨fun _ _ => (List.Nodup.of_map _ hnd).filter _,
    fun p q _ _ nd h1 h2 => by
      have e := (mem_ghostsTo.mp h1).2.2.symm.trans (mem_ghostsTo.mp h2).2.2
      exact_mod_cast e⟩

theorem ghostsAll_glob_nodup (np me : Nat) (nodes : List (GNode β)) (hnd : (nodes.map (·.glob)).Nodup) :
    ((ghostsAll np me nodes).map (·.glob)).Nodup := by
  apply List.Nodup.map_on _ (ghostsAll_nodup np me nodes hnd)
  intro a ha b hb h
  exact glob_inj hnd (mem_ghostsAll.mp ha).1 (mem_ghostsAll.mp hb).1 h

/-- the buckets hold no more than the ghosts (`∑ a_size = a_total`) -/
theorem ghostsAll_length_le (np me : Nat) (nodes : List (GNode β)) (hnd : (nodes.map (·.glob)).Nodup) :
    (ghostsAll np me nodes).length ≤ nGhosts me nodes := by
  unfold nGhosts
  apply List.Subperm.length_le
  apply List.subperm_of_subset (ghostsAll_nodup np me nodes hnd)
  intro nd h
  have := mem_ghostsAll.mp h
  simp only [List.mem_filter, bne_iff_ne, ne_eq]
  exact ⟨this.1, this.2.1⟩

/-- the store loop of one rank fed with `(global, owner's values)` of its ghosts (owner order, then slot order):
    every ghost entry takes the owner's values, the owned entries stay -/
theorem store_rank (w : World (List (GNode β))) (np r : Nat) (nodes : List (GNode β))
    (hnd : (nodes.map (·.glob)).Nodup)
    (hpart : ∀ nd ∈ nodes, nd.part ≠ (r : Int) → ∃ p, p < np ∧ nd.part = (p : Int)) :
    ((ghostsAll np r nodes).map fun nd => (nd.glob, ownerVals w nd)).foldl
        (fun ns gi => storeVals ns gi.1 gi.2) nodes
      = nodes.map (refreshNode w r) := by
  unfold refreshNode
  rw [Refine.Lemmas.DistGhost.foldl_storeVals _ nodes hnd
    (by rw [List.map_map]; exact ghostsAll_glob_nodup np r nodes hnd)]
  apply List.map_congr_left
  intro nd hmem
  cases hf : ((ghostsAll np r nodes).map fun nd => (nd.glob, ownerVals w nd)).find?
      (fun gv => gv.1 == nd.glob) with
  | none =>
    simp only []
    rw [List.find?_eq_none] at hf
    by_cases hp : nd.part = (r : Int)
    · simp [hp]
    · exfalso
      have hin : nd ∈ ghostsAll np r nodes := mem_ghostsAll.mpr ⟨hmem, hp, hpart nd hmem hp⟩
      have := hf (nd.glob, ownerVals w nd) (List.mem_map.mpr ⟨nd, hin, rfl⟩)
      simp at this
  | some gv =>
    simp only []
    have hgv := List.mem_of_find?_eq_some hf
    have hk : gv.1 = nd.glob := by simpa using List.find?_some hf
    obtain ⟨nd', hin', rfl⟩ := List.mem_map.mp hgv
    have hm' := mem_ghostsAll.mp hin'
    have : nd' = nd := glob_inj hnd hm'.1 hmem hk
    subst this
    simp [hm'.2.1]

section roundTrip
variable {κ : Type}

theorem getD_map_nil {α γ : Type} (b : List (List α)) (f : α → γ) (r : Nat) :
    (b.map (List.map f)).getD r [] = (b.getD r []).map f :=
  ListFacts.getD_map (f := List.map f) (d := [])

theorem countsI_map_map {α γ : Type} (b : List (List α)) (f : α → γ) : countsI (b.map (List.map f)) = countsI b := by
  simp [countsI]

/-- the arguments of the `ref_mpi_alltoallv` that sends the buckets, receive sizes from the `alltoall` -/
def reqArgs (d : κ) (bk : World (List (List κ))) : World (A2A κ) :=
  (bk.zip ((bk.map countsI).zip (mpiAlltoall (bk.map countsI)))).map fun x =>
    ⟨x.1.flatten, x.2.1, List.replicate (isum x.2.2).toNat d, x.2.2⟩

/-- the arguments of the `ref_mpi_alltoallv` that returns `send`, items of `ldim` scalars, the size tables swapped -/
def replyArgs (d : β) (ldim : Nat) (bk : World (List (List κ))) (send : World (List β)) : World (A2A β) :=
  (send.zip ((bk.map countsI).zip (mpiAlltoall (bk.map countsI)))).map fun x =>
    ⟨x.1, x.2.2, List.replicate (ldim * (isum x.2.1).toNat) d, x.2.1⟩

/-- every rank receives the keys asked of it, by asking rank and then in that rank's bucket order -/
theorem request (ty : RefType) (hty : ty.mpiOk = true) (d : κ) (bk : World (List (List κ)))
    (hs : ∀ b ∈ bk, (b.flatten.length : Int) ≤ INT_MAX)
    (hq : ∀ r, r < bk.length → ((column r bk).flatten.length : Int) ≤ INT_MAX) :
    alltoallv false ty 0 1 (reqArgs d bk)
      = some ((List.range bk.length).map fun r => (Status.ok, (column r bk).flatten)) := by
  have hcol : ∀ r, column r (bk.map (List.map (List.map fun k => [k])))
      = (column r bk).map (List.map fun k => [k]) := by
    intro r
    simp only [column, List.map_map]
    exact List.map_congr_left fun b _ => getD_map_nil b _ r
  have hargs : reqArgs d bk = a2aWorld (bk.map (List.map (List.map fun k => [k])))
      fun r => List.replicate (isum (countsI (column r bk))).toNat d := by
    apply List.ext_getElem
    · simp [reqArgs, a2aWorld, mpiAlltoall]
    · intro r h1 h2
      simp only [reqArgs, a2aWorld, List.getElem_map, List.getElem_zip, List.getElem_mapIdx, mpiAlltoall_counts,
        hcol, List.map_map, Function.comp_def, ListFacts.flatten_map_singleton, List.map_id', countsI, List.length_map]
  have h := alltoallvMpi_spec ty hty 1 (bk.map (List.map (List.map fun k => [k])))
    (fun r => List.replicate (isum (countsI (column r bk))).toNat d)
    (by
      intro b hb blk hblk it hit
      obtain ⟨b0, _, rfl⟩ := List.mem_map.mp hb
      obtain ⟨l, _, rfl⟩ := List.mem_map.mp hblk
      obtain ⟨k, _, rfl⟩ := List.mem_map.mp hit
      rfl)
    (by
      intro r _
      have h0 : 0 ≤ (countsI (column r bk)).sum := sum_nonneg_int _ (countsI_nonneg _)
      rw [List.length_replicate, isum_eq_sum, Int.toNat_of_nonneg h0, hcol, countsI_map_map]
      omega)
    (by
      intro b hb
      obtain ⟨b0, hb0, rfl⟩ := List.mem_map.mp hb
      have := hs b0 hb0
      rw [← countsI_sum_eq_length] at this
      rw [countsI_map_map]
      omega)
    (by
      intro r hr
      have := hq r (by simpa using hr)
      rw [← countsI_sum_eq_length] at this
      rw [hcol, countsI_map_map]
      omega)
  rw [alltoallv_false, hargs, show ((1 : Int)) = ((1 : Nat) : Int) from rfl, h, List.length_map]
  congr 1
  apply List.map_congr_left
  intro r _
  have hid : ∀ l : List κ, (List.flatten ∘ List.map fun k => [k]) l = l := fun l =>
    List.flatMap_def.symm.trans (List.flatMap_singleton' l)
  rw [hcol, List.flatten_flatten, List.map_map, List.map_congr_left fun l _ => hid l, List.map_id']

/-- `replyBlocks[p][s]`: the items rank `p` returns to rank `s` -/
def replyBlocks (bk : World (List (List κ))) (ans : Nat → κ → List β) : List (List (List (List β))) :=
  bk.mapIdx fun p _ => (column p bk).map (List.map (ans p))

theorem replyBlocks_length (bk : World (List (List κ))) (ans : Nat → κ → List β) :
    (replyBlocks bk ans).length = bk.length := List.length_mapIdx

theorem column_replyBlocks (bk : World (List (List κ))) (hsq : ∀ b ∈ bk, b.length = bk.length)
    (ans : Nat → κ → List β) (s : Nat) (hs : s < bk.length) :
    column s (replyBlocks bk ans) = bk[s].mapIdx fun p l => l.map (ans p) := by
  apply List.ext_getElem
  · rw [column, List.length_map, replyBlocks_length, List.length_mapIdx, hsq _ (List.getElem_mem hs)]
  · intro p h1 h2
    have hp : p < bk.length := by rwa [column, List.length_map, replyBlocks_length] at h1
    have hp' : p < bk[s].length := by rw [hsq _ (List.getElem_mem hs)]; exact hp
    simp only [column, replyBlocks, List.getElem_map, List.getElem_mapIdx, getD_map_nil]
    rw [ListFacts.getD_eq_getElem (by simpa using hs), List.getElem_map, ListFacts.getD_eq_getElem hp']

/-- every rank receives, for every key of its buckets in order, the answer of the rank it asked -/
theorem reply (ty : RefType) (hty : ty.mpiOk = true) (d : β) (ldim : Nat) (bk : World (List (List κ)))
    (hsq : ∀ b ∈ bk, b.length = bk.length) (ans : Nat → κ → List β)
    (hans : ∀ p, p < bk.length → ∀ l ∈ column p bk, ∀ k ∈ l, (ans p k).length = ldim)
    (hs : ∀ r, r < bk.length → (ldim : Int) * ((column r bk).flatten.length : Int) ≤ INT_MAX)
    (hq : ∀ b ∈ bk, (ldim : Int) * (b.flatten.length : Int) ≤ INT_MAX) :
    alltoallv false ty 0 (ldim : Int)
        (replyArgs d ldim bk (bk.mapIdx fun r _ => (((column r bk).flatten).map (ans r)).flatten))
      = some ((List.range bk.length).map fun s =>
          (Status.ok, (((bk.getD s []).mapIdx fun p l => l.map (ans p)).flatten).flatten)) := by
  have hcnt : ∀ s (hs : s < bk.length), countsI (column s (replyBlocks bk ans)) = countsI bk[s] := by
    intro s hs
    rw [column_replyBlocks bk hsq ans s hs]
    apply List.ext_getElem <;> simp [countsI]
  have hargs : replyArgs d ldim bk (bk.mapIdx fun r _ => (((column r bk).flatten).map (ans r)).flatten)
      = a2aWorld (replyBlocks bk ans) fun s => List.replicate (ldim * (isum (countsI (bk.getD s []))).toNat) d := by
    apply List.ext_getElem
    · simp [replyArgs, a2aWorld, replyBlocks, mpiAlltoall]
    · intro r h1 h2
      have hr : r < bk.length := by rwa [a2aWorld, List.length_mapIdx, replyBlocks_length] at h2
      simp only [replyArgs, a2aWorld, List.getElem_map, List.getElem_zip, List.getElem_mapIdx, mpiAlltoall_counts,
        hcnt r hr, ListFacts.getD_eq_getElem hr]
      simp only [replyBlocks, List.getElem_mapIdx, List.map_map, List.map_flatten, List.flatten_flatten, countsI,
        Function.comp_def, List.length_map]
  have h := alltoallvMpi_spec ty hty ldim (replyBlocks bk ans)
    (fun s => List.replicate (ldim * (isum (countsI (bk.getD s []))).toNat) d)
    (by
      intro b hb blk hblk it hit
      simp only [replyBlocks, List.mem_mapIdx] at hb
      obtain ⟨p, hp, rfl⟩ := hb
      obtain ⟨l, hl, rfl⟩ := List.mem_map.mp hblk
      obtain ⟨k, hk, rfl⟩ := List.mem_map.mp hit
      exact hans p hp l hl k hk)
    (by
      intro r hr
      have hr' : r < bk.length := by rwa [replyBlocks_length] at hr
      have h0 : 0 ≤ (countsI bk[r]).sum := sum_nonneg_int _ (countsI_nonneg _)
      rw [List.length_replicate, isum_eq_sum, hcnt r hr', ListFacts.getD_eq_getElem hr']
      push_cast
      rw [Int.toNat_of_nonneg h0])
    (by
      intro b hb
      simp only [replyBlocks, List.mem_mapIdx] at hb
      obtain ⟨p, hp, rfl⟩ := hb
      have := hs p hp
      rw [← countsI_sum_eq_length] at this
      rw [countsI_map_map]
      exact this)
    (by
      intro r hr
      have hr' : r < bk.length := by rwa [replyBlocks_length] at hr
      have := hq _ (List.getElem_mem hr')
      rw [← countsI_sum_eq_length] at this
      rw [hcnt r hr']
      exact this)
  rw [alltoallv_false, hargs, h, replyBlocks_length]
  congr 1
  apply List.map_congr_left
  intro s hs
  have hs' := List.mem_range.mp hs
  rw [column_replyBlocks bk hsq ans s hs', ListFacts.getD_eq_getElem hs']

end roundTrip

/-- `a_global` of every rank, bucketed -/
def bucketsW (w : World (List (GNode β))) : World (List (List Int)) :=
  w.mapIdx fun r nodes => ghostBuckets w.length r nodes

theorem bucketsW_length (w : World (List (GNode β))) : (bucketsW w).length = w.length := by
  simp [bucketsW]

theorem bucketsW_square (w : World (List (GNode β))) : ∀ b ∈ bucketsW w, b.length = (bucketsW w).length := by
  intro b hb
  obtain ⟨r, _, rfl⟩ := List.mem_mapIdx.mp hb
  simp [bucketsW, ghostBuckets_eq]

theorem buckets_flatten (np r : Nat) (nodes : List (GNode β)) :
    (ghostBuckets np r nodes).flatten = (ghostsAll np r nodes).map (·.glob) := by
  rw [ghostBuckets_eq, ghostsAll, List.map_flatten, List.map_map]
  rfl

theorem column_bucketsW (w : World (List (GNode β))) (r : Nat) (hr : r < w.length) :
    column r (bucketsW w) = w.mapIdx fun s nodes => (ghostsTo s r nodes).map (·.glob) := by
  unfold column bucketsW
  rw [ListFacts.map_mapIdx]
  apply List.ext_getElem
  · simp
  · intro s h1 h2
    simp only [List.getElem_mapIdx]
    exact ListFacts.getD_map_range hr

theorem column_bucketsW_length (w : World (List (GNode β))) (r : Nat) (hr : r < w.length) :
    (column r (bucketsW w)).flatten.length = nRequests w r := by
  rw [column_bucketsW w r hr, nRequests, List.length_flatten, ListFacts.map_mapIdx]
  simp

/-- the hypothesis of `ghostRefresh_spec` on ghosts: the part of every ghost names a rank in range that stores the
    global with `ldim` values -/
def GhostsOwned (ldim : Nat) (w : World (List (GNode β))) : Prop :=
  ∀ r (hr : r < w.length), ∀ nd ∈ w[r], nd.part ≠ (r : Int) →
    0 ≤ nd.part ∧ nd.part.toNat < w.length ∧
    ∃ od ∈ w.getD nd.part.toNat [], od.glob = nd.glob ∧ od.vals.length = ldim

theorem lookup_ghost {ldim : Nat} {w : World (List (GNode β))}
    (hnd : ∀ nodes ∈ w, (nodes.map (·.glob)).Nodup) (hown : GhostsOwned ldim w)
    {s r : Nat} (hs : s < w.length) (hr : r < w.length) {nd : GNode β} (h : nd ∈ ghostsTo s r w[s]) :
    ∃ vals, lookupVals w[r] nd.glob = some vals ∧ vals.length = ldim := by
  obtain ⟨h1, h2, h3⟩ := mem_ghostsTo.mp h
  obtain ⟨_, _, od, hod, hg, hl⟩ := hown s hs nd h1 h2
  rw [h3, Int.toNat_natCast, ListFacts.getD_eq_getElem hr] at hod
  refine ⟨od.vals, ?_, hl⟩
  rw [← hg]
  exact lookupVals_of_mem (hnd _ (List.getElem_mem hr)) hod

def answer (w : World (List (GNode β))) (p : Nat) (g : Int) : List β := (lookupVals (w.getD p []) g).getD []

theorem ownerVals_eq_answer (w : World (List (GNode β))) (nd : GNode β) :
    ownerVals w nd = answer w nd.part.toNat nd.glob := rfl

theorem answer_length {ldim : Nat} {w : World (List (GNode β))}
    (hnd : ∀ nodes ∈ w, (nodes.map (·.glob)).Nodup) (hown : GhostsOwned ldim w) {r : Nat} (hr : r < w.length)
    {l : List Int} (hl : l ∈ column r (bucketsW w)) {g : Int} (hg : g ∈ l) :
    lookupVals w[r] g = some (answer w r g) ∧ (answer w r g).length = ldim := by
  rw [column_bucketsW w r hr] at hl
  obtain ⟨s, hs, rfl⟩ := List.mem_mapIdx.mp hl
  obtain ⟨nd, hmem, rfl⟩ := List.mem_map.mp hg
  obtain ⟨vals, hv, hlen⟩ := lookup_ghost hnd hown hs hr hmem
  rw [answer, ListFacts.getD_eq_getElem hr, hv]
  exact ⟨rfl, hlen⟩

/-- every global rank `r` is asked for is found by `ref_node_local` there: the lookups of `b_vector` all succeed and
    give the answers -/
theorem lookup_requests {ldim : Nat} (w : World (List (GNode β)))
    (hnd : ∀ nodes ∈ w, (nodes.map (·.glob)).Nodup) (hown : GhostsOwned ldim w) {r : Nat} (hr : r < w.length) :
    ((column r (bucketsW w)).flatten.mapM fun g => lookupVals w[r] g)
      = some ((column r (bucketsW w)).flatten.map (answer w r)) := by
  apply mapM_option_eq_some
  intro g hg
  obtain ⟨l, hl, hgl⟩ := List.mem_flatten.mp hg
  exact (answer_length hnd hown hr hl hgl).1

/-- the same for the whole world, in the form `ghost` computes `b_vector` from the result of the request exchange -/
theorem bVec_eq {ldim : Nat} (w : World (List (GNode β)))
    (hnd : ∀ nodes ∈ w, (nodes.map (·.glob)).Nodup) (hown : GhostsOwned ldim w) :
    ((w.zip (((List.range (bucketsW w).length).map fun r => (Status.ok, (column r (bucketsW w)).flatten)).map
          (·.2))).map fun x => (x.2.mapM fun g => lookupVals x.1 g).map List.flatten)
      = ((bucketsW w).mapIdx fun r _ => (((column r (bucketsW w)).flatten).map (answer w r)).flatten).map some := by
  apply List.ext_getElem
  · simp [bucketsW_length]
  · intro r h1 h2
    have hr : r < w.length := by simpa [bucketsW_length] using h2
    simp only [List.getElem_map, List.getElem_zip, List.getElem_range, List.getElem_mapIdx]
    rw [lookup_requests w hnd hown hr]
    rfl

/-- a send list wrapped in `some` (for the "every lookup succeeded" test) is read back by `getD` unchanged -/
theorem zip_map_some_getD {γ δ : Type} (sv : List (List β)) (Z : List γ) (F : List β → γ → δ) :
    ((sv.map some).zip Z).map (fun x => F (x.1.getD []) x.2) = (sv.zip Z).map fun x => F x.1 x.2 := by
  rw [List.zip_map_left, List.map_map]
  rfl

/-- the parallel path of `ghost`, named pieces -/
theorem ghost_unfold [Inhabited β] (ty : RefType) (ldim : Nat) (w : World (List (GNode β)))
    (h : ¬ w.length ≤ 1) :
    ghost ty ldim w =
      match alltoallv false RefType.long 0 1 (reqArgs 0 (bucketsW w)) with
      | none => none
      | some r1 =>
        let bVec : World (Option (List β)) := (w.zip (r1.map (·.2))).map fun x =>
          (x.2.mapM fun g => lookupVals x.1 g).map List.flatten
        if bVec.any Option.isNone then none else
        match alltoallv false ty 0 (ldim : Int)
            ((bVec.zip (((bucketsW w).map countsI).zip (mpiAlltoall ((bucketsW w).map countsI)))).map fun x =>
              ⟨x.1.getD [], x.2.2, List.replicate (ldim * (isum x.2.1).toNat) default, x.2.1⟩) with
        | none => none
        | some r2 =>
          some ((w.zip ((bucketsW w).zip r2)).map fun x =>
            ((x.2.1.flatten).zip (chunks ldim x.2.1.flatten.length x.2.2.2)).foldl
              (fun nodes gi => storeVals nodes gi.1 gi.2) x.1) := by
  unfold ghost
  simp only [h, if_false]
  rfl

theorem ownerVals_length {ldim : Nat} {w : World (List (GNode β))}
    (hnd : ∀ nodes ∈ w, (nodes.map (·.glob)).Nodup) (hown : GhostsOwned ldim w)
    {r : Nat} (hr : r < w.length) {nd : GNode β} (h : nd ∈ ghostsAll w.length r w[r]) :
    (ownerVals w nd).length = ldim := by
  obtain ⟨h1, h2, p, hp, h3⟩ := mem_ghostsAll.mp h
  obtain ⟨vals, hv, hl⟩ := lookup_ghost hnd hown hr hp (mem_ghostsTo.mpr ⟨h1, h2, h3⟩)
  simp only [ownerVals, h3, Int.toNat_natCast, ListFacts.getD_eq_getElem hp, hv, Option.getD_some, hl]

/-- what rank `r` receives in the reply: for every ghost (owner order, then slot order) the owner's values -/
theorem received (w : World (List (GNode β))) (r : Nat) (hr : r < w.length) :
    (((bucketsW w).getD r []).mapIdx fun p l => l.map (answer w p)).flatten
      = (ghostsAll w.length r w[r]).map (ownerVals w) := by
  rw [ListFacts.getD_eq_getElem (by rw [bucketsW_length]; exact hr), ghostsAll, List.map_flatten, List.map_map]
  congr 1
  apply List.ext_getElem
  · simp [bucketsW, ghostBuckets_eq]
  · intro p h1 h2
    simp only [bucketsW, ghostBuckets_eq, List.getElem_mapIdx, List.getElem_map, List.getElem_range, List.map_map,
      Function.comp_def]
    apply List.map_congr_left
    intro nd hmem
    have h3 := (mem_ghostsTo.mp hmem).2.2
    rw [ownerVals_eq_answer, h3, Int.toNat_natCast]

/-- the `int` range conditions of the two `ref_mpi_alltoallv` calls: `a_total` and `b_total` of every rank, times
    `max 1 ldim` (the first call sends one scalar per item, the second `ldim`) -/
def SizesOk (ldim : Nat) (w : World (List (GNode β))) : Prop :=
  ∀ r (hr : r < w.length),
    ((max 1 ldim : Nat) : Int) * (nGhosts r w[r] : Int) ≤ INT_MAX ∧
    ((max 1 ldim : Nat) : Int) * (nRequests w r : Int) ≤ INT_MAX

theorem scale_le {M k a b X : Int} (hk : 0 ≤ k) (hkM : k ≤ M) (ha : 0 ≤ a) (hab : a ≤ b) (h : M * b ≤ X) :
    k * a ≤ X :=
  le_trans (Int.mul_le_mul hkM hab ha (by omega)) h

theorem nGhosts_le (w : World (List (GNode β))) (r : Nat) (hr : r < w.length) :
    nGhosts r w[r] ≤ (w.map List.length).sum :=
  (List.length_filter_le _ _).trans (List.le_sum_of_mem (List.mem_map.mpr ⟨_, List.getElem_mem hr, rfl⟩))

theorem nRequests_le (w : World (List (GNode β))) (r : Nat) : nRequests w r ≤ (w.map List.length).sum :=
  Refine.ListFacts.sum_mapIdx_le w _ _ fun _ _ _ => List.length_filter_le _ _

/-- callers bound the whole world, not `a_total` and `b_total` rank by rank -/
theorem SizesOk.of_total {ldim : Nat} {w : World (List (GNode β))}
    (h : ((max 1 ldim : Nat) : Int) * (((w.map List.length).sum : Nat) : Int) ≤ INT_MAX) : SizesOk ldim w :=
  fun r hr =>
    ⟨scale_le (by omega) (le_refl _) (by omega) (by exact_mod_cast nGhosts_le w r hr) h,
     scale_le (by omega) (le_refl _) (by omega) (by exact_mod_cast nRequests_le w r) h⟩

/-- `GhostsOwned` in the form callers have it: the part of a ghost is a rank, as a natural number -/
theorem ghostsOwned_of_nat {ldim : Nat} {w : World (List (GNode β))}
    (h : ∀ r (hr : r < w.length), ∀ nd ∈ w[r], nd.part ≠ (r : Int) →
      ∃ p, ∃ hp : p < w.length, nd.part = (p : Int) ∧ ∃ od ∈ w[p], od.glob = nd.glob ∧ od.vals.length = ldim) :
    GhostsOwned ldim w := by
  intro r hr nd hnd hp
  obtain ⟨p, hpl, hpe, od, hod, hg, hl⟩ := h r hr nd hnd hp
  rw [hpe, Int.toNat_natCast, ListFacts.getD_eq_getElem hpl]
  exact ⟨Int.natCast_nonneg p, hpl, od, hod, hg, hl⟩

theorem refreshed_serial {ldim : Nat} (w : World (List (GNode β))) (hnp : w.length ≤ 1)
    (hown : GhostsOwned ldim w) : refreshed w = w := by
  refine List.ext_getElem (refreshed_length w) fun r h1 h2 => ?_
  rw [refreshed_getElem]
  conv_rhs => rw [← List.map_id w[r]]
  apply List.map_congr_left
  intro nd hmem
  by_cases hp : nd.part = (r : Int)
  · exact refreshNode_owned w r nd hp
  · exfalso
    obtain ⟨h0, hlt, _⟩ := hown r h2 nd hmem hp
    omega

theorem ghost_full [Inhabited β] (ty : RefType) (hty : ty.mpiOk = true) (ldim : Nat)
    (w : World (List (GNode β)))
    (hnd : ∀ nodes ∈ w, (nodes.map (·.glob)).Nodup) (hown : GhostsOwned ldim w) (hsz : SizesOk ldim w) :
    ghost ty ldim w = some (refreshed w) := by
  by_cases hnp : w.length ≤ 1
  · rw [refreshed_serial w hnp hown]
    unfold ghost
    simp only [hnp, if_true]
  · have hM1 : (1 : Int) ≤ ((max 1 ldim : Nat) : Int) := by
      have : 1 ≤ max 1 ldim := Nat.le_max_left _ _
      exact_mod_cast this
    have hMl : (ldim : Int) ≤ ((max 1 ldim : Nat) : Int) := by
      have : ldim ≤ max 1 ldim := Nat.le_max_right _ _
      exact_mod_cast this
    have hbl := bucketsW_length w
    -- every row of the bucket world is what one rank sends, every column what one rank is asked: `SizesOk` bounds both
    have hrow : ∀ {k : Int}, 0 ≤ k → k ≤ ((max 1 ldim : Nat) : Int) →
        ∀ b ∈ bucketsW w, k * (b.flatten.length : Int) ≤ INT_MAX := by
      intro k h0 hk b hb
      obtain ⟨r, hr, rfl⟩ := List.mem_mapIdx.mp hb
      rw [buckets_flatten, List.length_map]
      have hlen : ((ghostsAll w.length r w[r]).length : Int) ≤ (nGhosts r w[r] : Int) := by
        exact_mod_cast ghostsAll_length_le w.length r w[r] (hnd _ (List.getElem_mem hr))
      exact scale_le h0 hk (by omega) hlen (hsz r hr).1
    have hcol : ∀ {k : Int}, 0 ≤ k → k ≤ ((max 1 ldim : Nat) : Int) →
        ∀ r, r < (bucketsW w).length → k * ((column r (bucketsW w)).flatten.length : Int) ≤ INT_MAX := by
      intro k h0 hk r hr
      rw [hbl] at hr
      rw [column_bucketsW_length w r hr]
      exact scale_le h0 hk (by omega) (le_refl _) (hsz r hr).2
    rw [ghost_unfold ty ldim w hnp, request RefType.long rfl 0 (bucketsW w)
      (fun b hb => (Int.one_mul _).symm.trans_le (hrow (by omega) hM1 b hb))
      (fun r hr => (Int.one_mul _).symm.trans_le (hcol (by omega) hM1 r hr))]
    simp only []
    rw [bVec_eq w hnd hown]
    simp only [any_isNone_map_some, Bool.false_eq_true, if_false]
    rw [zip_map_some_getD _ _ fun (v : List β) (z : List Int × List Int) =>
      (⟨v, z.2, List.replicate (ldim * (isum z.1).toNat) default, z.1⟩ : A2A β)]
    have e2 := reply ty hty default ldim (bucketsW w) (bucketsW_square w) (answer w)
      (fun p hp l hl k hk => (answer_length hnd hown (hbl ▸ hp) hl hk).2)
      (hcol (by omega) hMl) (hrow (by omega) hMl)
    unfold replyArgs at e2
    rw [e2]
    simp only []
    congr 1
    apply List.ext_getElem
    · simp [hbl, refreshed_length]
    · intro r h1 h2
      have hr : r < w.length := by rwa [refreshed_length] at h2
      simp only [List.getElem_map, List.getElem_zip, List.getElem_range, refreshed_getElem, hbl, received w r hr]
      simp only [bucketsW, List.getElem_mapIdx, buckets_flatten]
      have hl : ((ghostsAll w.length r w[r]).map (·.glob)).length
          = ((ghostsAll w.length r w[r]).map (ownerVals w)).length := by rw [List.length_map, List.length_map]
      rw [hl, chunks_flatten ldim _ (by
        intro it hit
        obtain ⟨nd, hmem, rfl⟩ := List.mem_map.mp hit
        exact ownerVals_length hnd hown hr hmem), List.zip_map']
      refine store_rank w w.length r w[r] (hnd _ (List.getElem_mem hr)) fun nd hmem hp => ?_
      obtain ⟨h0, h1, _⟩ := hown r hr nd hmem hp
      exact ⟨nd.part.toNat, h1, (Int.toNat_of_nonneg h0).symm⟩

/-- **ghost refresh through a view**: hypotheses and result in terms of the caller's own entries.  An owned entry keeps
    its node; a ghost takes the values of the copy with the same global on the rank its part names. -/
theorem ghost_view [Inhabited β] {X : Type} (ty : RefType) (hty : ty.mpiOk = true) (ldim : Nat) (w : World (List X))
    (mk : Nat → X → GNode β)
    (hnd : ∀ r (hr : r < w.length), (w[r].map fun x => (mk r x).glob).Nodup)
    (hown : ∀ r (hr : r < w.length), ∀ x ∈ w[r], (mk r x).part ≠ (r : Int) →
      ∃ p, ∃ hp : p < w.length, (mk r x).part = (p : Int) ∧
        ∃ y ∈ w[p], (mk p y).glob = (mk r x).glob ∧ (mk p y).vals.length = ldim)
    (htot : ((max 1 ldim : Nat) : Int) * (((w.map List.length).sum : Nat) : Int) ≤ INT_MAX) :
    ∃ res, ghost ty ldim (w.mapIdx fun r xs => xs.map (mk r)) = some res ∧ res.length = w.length ∧
      ∀ r (hr : r < w.length), (res.getD r []).length = w[r].length ∧ ∀ i (hi : i < w[r].length),
        ((mk r w[r][i]).part = (r : Int) → (res.getD r [])[i]? = some (mk r w[r][i])) ∧
        ((mk r w[r][i]).part ≠ (r : Int) → ∀ p (hp : p < w.length), (mk r w[r][i]).part = (p : Int) →
          ∀ y ∈ w[p], (mk p y).glob = (mk r w[r][i]).glob →
            (res.getD r [])[i]? = some { mk r w[r][i] with vals := (mk p y).vals }) := by
  set W : World (List (GNode β)) := w.mapIdx fun r xs => xs.map (mk r) with hW
  have hlen : W.length = w.length := List.length_mapIdx
  have hget : ∀ r (hr : r < w.length), W[r]'(hlen ▸ hr) = w[r].map (mk r) := fun r hr => List.getElem_mapIdx ..
  have hndW : ∀ nodes ∈ W, (nodes.map (·.glob)).Nodup := by
    intro nodes hn
    obtain ⟨r, hr, rfl⟩ := List.getElem_of_mem hn
    rw [hget r (hlen ▸ hr), List.map_map]
    exact hnd r (hlen ▸ hr)
  have hownW : GhostsOwned ldim W := ghostsOwned_of_nat fun r hr nd hmem hp => by
    rw [hget r (hlen ▸ hr)] at hmem
    obtain ⟨x, hx, rfl⟩ := List.mem_map.mp hmem
    obtain ⟨p, hpl, hpe, y, hy, hg, hl⟩ := hown r (hlen ▸ hr) x hx hp
    exact ⟨p, hlen ▸ hpl, hpe, mk p y, by rw [hget p hpl]; exact List.mem_map_of_mem hy, hg, hl⟩
  have hszW : SizesOk ldim W := SizesOk.of_total (by
    rw [show W.map List.length = w.map List.length from
      List.ext_getElem (by simp [hlen]) fun i h1 _ => by
        simp only [List.getElem_map, hget i (by simpa [hlen] using h1), List.length_map]]
    exact htot)
  refine ⟨refreshed W, ghost_full ty hty ldim W hndW hownW hszW, by rw [refreshed_length, hlen], fun r hr => ?_⟩
  rw [refreshed_getD W r (hlen ▸ hr), hget r hr, List.map_map]
  refine ⟨List.length_map _, fun i hi => ?_⟩
  rw [List.getElem?_map, List.getElem?_eq_getElem hi, Option.map_some, Function.comp_apply]
  refine ⟨fun hp => by rw [refreshNode_owned W r _ hp], fun hp p hpl hpe y hy hg => ?_⟩
  rw [refreshNode, if_neg hp, ownerVals_of_mem (od := mk p y) ?_ ?_ hg]
  · rw [hpe, Int.toNat_natCast, ListFacts.getD_eq_getElem (hlen ▸ hpl)]
    exact hndW _ (List.getElem_mem _)
  · rw [hpe, Int.toNat_natCast, ListFacts.getD_eq_getElem (hlen ▸ hpl), hget p hpl]
    exact List.mem_map_of_mem hy

end Refine.Lemmas.DistGhostFull
