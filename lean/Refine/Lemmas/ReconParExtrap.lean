import Refine.Lemmas.ReconParGhost

/-!
  `ref_recon_extrapolate_zeroth` on a distributed mesh never touches a value that is not to be replaced: through the
  in-place sweeps over the owned vertices and the refresh of `replace` and `recon` after every pass, every stored copy
  of a vertex whose owner does not flag it keeps — owned copy — or receives — ghost copy — the owner's value at
  entry.  Hence the boundary replacement of `ref_recon_signed_hessian` leaves the interior Hessian alone, on every
  rank (`extrapolateZeroth_keeps`).
-/
namespace Refine.ReconParExtrap
open Refine Refine.Model.ReconPar Refine.ReconParGhost
open Refine.Model.Comm (World RefType)

variable {α : Type}

def Shape {β : Type} (n ldim : Nat) (a : List (List β)) : Prop := a.length = n ∧ ∀ x ∈ a, x.length = ldim

theorem Shape.modify_set {β : Type} {n ldim : Nat} {a : List (List β)} (h : Shape n ldim a) (node i : Nat) (v : β) :
    Shape n ldim (a.modify node fun row => row.set i v) := by
  refine ⟨by rw [List.length_modify]; exact h.1, ?_⟩
  intro x hx
  obtain ⟨k, hk, rfl⟩ := List.getElem_of_mem hx
  rw [List.getElem_modify]
  split
  · rw [List.length_set]; exact h.2 _ (List.getElem_mem _)
  · exact h.2 _ (List.getElem_mem _)

section pass
variable [Scalar α]

theorem extrapNode_other (edges : List (Nat × Nat)) (ldim node n : Nat) (st : List (List α) × List (List Bool))
    (h1 : Shape n ldim st.1) (h2 : Shape n ldim st.2) :
    Shape n ldim (extrapNode edges ldim node st).1 ∧ Shape n ldim (extrapNode edges ldim node st).2 ∧
    ∀ k, k ≠ node → (extrapNode edges ldim node st).1.getD k [] = st.1.getD k [] ∧
      (extrapNode edges ldim node st).2.getD k [] = st.2.getD k [] := by
  unfold extrapNode
  refine List.foldlRecOn (motive := fun st' : List (List α) × List (List Bool) =>
    Shape n ldim st'.1 ∧ Shape n ldim st'.2 ∧
      ∀ k, k ≠ node → st'.1.getD k [] = st.1.getD k [] ∧ st'.2.getD k [] = st.2.getD k []) _ _ ?_ ?_
  · exact ⟨h1, h2, fun _ _ => ⟨rfl, rfl⟩⟩
  · intro st' hP i _
    obtain ⟨a, b, c⟩ := hP
    dsimp only
    split
    · split
      · refine ⟨a.modify_set node i _, b.modify_set node i false, fun k hk => ?_⟩
        simp only [List.getD_eq_getElem?_getD, List.getElem?_modify_ne _ _ hk.symm]
        exact c k hk
      · exact ⟨a, b, c⟩
    · exact ⟨a, b, c⟩

theorem extrapNode_unflagged (edges : List (Nat × Nat)) (ldim node : Nat) (st : List (List α) × List (List Bool))
    (h : ∀ i, bAt st.2 node i = false) : extrapNode edges ldim node st = st := by
  unfold extrapNode
  generalize List.range ldim = is
  induction is with
  | nil => rfl
  | cons i rest ih =>
    simp only [List.foldl_cons, h i, Bool.false_eq_true, if_false]
    exact ih

theorem bAt_of_row {replace : List (List Bool)} {k ldim : Nat}
    (h : replace.getD k [] = List.replicate ldim false) (i : Nat) : bAt replace k i = false := by
  unfold bAt
  rw [h, List.getD_eq_getElem?_getD, List.getElem?_replicate]
  split <;> rfl

theorem extrapPass_keeps (me : Nat) (r : Rank) (ldim n : Nat) (st : List (List α) × List (List Bool))
    (h1 : Shape n ldim st.1) (h2 : Shape n ldim st.2) :
    Shape n ldim (extrapPass me r ldim st).1 ∧ Shape n ldim (extrapPass me r ldim st).2 ∧
    ∀ k, st.2.getD k [] = List.replicate ldim false →
      (extrapPass me r ldim st).1.getD k [] = st.1.getD k [] ∧
      (extrapPass me r ldim st).2.getD k [] = st.2.getD k [] := by
  unfold extrapPass
  refine List.foldlRecOn (motive := fun st' : List (List α) × List (List Bool) =>
    Shape n ldim st'.1 ∧ Shape n ldim st'.2 ∧
      ∀ k, st.2.getD k [] = List.replicate ldim false →
        st'.1.getD k [] = st.1.getD k [] ∧ st'.2.getD k [] = st.2.getD k []) _ _ ?_ ?_
  · exact ⟨h1, h2, fun _ _ => ⟨rfl, rfl⟩⟩
  · intro st' hP node _
    obtain ⟨a, b, c⟩ := hP
    split
    · obtain ⟨a1, a2, a3⟩ := extrapNode_other r.edges ldim node n st' a b
      refine ⟨a1, a2, fun k hk => ?_⟩
      obtain ⟨c1, c2⟩ := c k hk
      by_cases hkn : k = node
      · subst hkn
        rw [extrapNode_unflagged (α := α) r.edges ldim k st' (bAt_of_row (by rw [c2]; exact hk))]
        exact ⟨c1, c2⟩
      · obtain ⟨d1, d2⟩ := a3 k hkn
        exact ⟨d1.trans c1, d2.trans c2⟩
    · exact ⟨a, b, c⟩

end pass

def rowOf {β : Type} (f : World (List (List β))) (me i : Nat) : List β := (f.getD me []).getD i []

/-- `keep me i`: the owner of the vertex stored as `(me, i)` does not flag it (in `replace0`) -/
def Keep (w : World Rank) (replace0 : World (List (List Bool))) (ldim : Nat) (me i : Nat) : Prop :=
  ∀ (r : Rank) (p : Nat), w[me]? = some r → r.part[i]? = some p →
    (p = me → rowOf replace0 me i = List.replicate ldim false) ∧
    (p ≠ me → ∀ (ro : Rank) (j : Nat), w[p]? = some ro → ro.l2g[j]? = r.l2g[i]? → ro.part[j]? = some p →
      rowOf replace0 p j = List.replicate ldim false)

def OwnerRowIs {β : Type} (w : World Rank) (f : World (List (List β))) (me i : Nat) (row : List β) : Prop :=
  ∀ (r : Rank) (p : Nat), w[me]? = some r → r.part[i]? = some p →
    (p = me → rowOf f me i = row) ∧
    (p ≠ me → ∀ (ro : Rank) (j : Nat), w[p]? = some ro → ro.l2g[j]? = r.l2g[i]? → ro.part[j]? = some p →
      rowOf f p j = row)

theorem rowOf_eq {β : Type} {f : World (List (List β))} {me i : Nat} {o : List (List β)} {x : List β}
    (ho : f[me]? = some o) (hx : o[i]? = some x) : rowOf f me i = x := by
  simp [rowOf, List.getD_eq_getElem?_getD, ho, hx]

section loop
variable (w : World Rank) (ldim : Nat)
variable (recon0 : World (List (List α))) (replace0 : World (List (List Bool)))

/-- the owned entries of the unflagged vertices are as at entry -/
def OwnedGood (R : World (List (List α))) (P : World (List (List Bool))) : Prop :=
  RowsOK ldim w R ∧ RowsOK ldim w P ∧
  ∀ (me : Nat) (r : Rank) (i : Nat) (row : List α), w[me]? = some r → r.part[i]? = some me →
    Keep w replace0 ldim me i → OwnerRowIs w recon0 me i row →
    rowOf P me i = List.replicate ldim false ∧ rowOf R me i = row

/-- every stored copy of an unflagged vertex is unflagged and holds the owner's row at entry -/
def Good (R : World (List (List α))) (P : World (List (List Bool))) : Prop :=
  RowsOK ldim w R ∧ RowsOK ldim w P ∧
  ∀ (me : Nat) (r : Rank) (i p : Nat) (row : List α), w[me]? = some r → r.part[i]? = some p →
    Keep w replace0 ldim me i → OwnerRowIs w recon0 me i row →
    rowOf P me i = List.replicate ldim false ∧ rowOf R me i = row

end loop

variable {w : World Rank} {ldim : Nat} {recon0 : World (List (List α))} {replace0 : World (List (List Bool))}

theorem keep_iff_ownerRowIs {me i : Nat} :
    Keep w replace0 ldim me i ↔ OwnerRowIs w replace0 me i (List.replicate ldim false) := Iff.rfl

theorem OwnerRowIs.of_global {β : Type} {f : World (List (List β))} (F : Nat → List β)
    (hF : ∀ (k : Nat) (rk : Rank) (j : Nat), w[k]? = some rk → j < rk.l2g.length → rowOf f k j = F (rk.l2g.getD j 0))
    {me i : Nat} {r : Rank} (hr : w[me]? = some r) (hi : i < r.l2g.length) :
    OwnerRowIs w f me i (F (r.l2g.getD i 0)) := by
  intro r' p hr' _
  rw [hr] at hr'
  obtain rfl := Option.some.inj hr'
  refine ⟨fun _ => hF me r i hr hi, fun _ ro j hro hj _ => ?_⟩
  rw [hF p ro j hro (lt_of_getElem?_eq hi hj), List.getD_eq_getElem?_getD, hj, ← List.getD_eq_getElem?_getD]

theorem Good.at {R : World (List (List α))} {P : World (List (List Bool))} (h : Good w ldim recon0 replace0 R P)
    {me i p : Nat} {r : Rank} {row : List α} (hr : w[me]? = some r) (hp : r.part[i]? = some p)
    (hk : Keep w replace0 ldim me i) (ho : OwnerRowIs w recon0 me i row) :
    rowOf P me i = List.replicate ldim false ∧ rowOf R me i = row :=
  h.2.2 me r i p row hr hp hk ho

theorem OwnerRowIs.at_own {β : Type} {f : World (List (List β))} (hw : WorldOK w) {me i : Nat} {r : Rank} {row : List β}
    (hr : w[me]? = some r) (hi : i < r.l2g.length) (hk : OwnerRowIs w f me i row) :
    OwnerRowIs w f (own w me i).rank (own w me i).idx row := by
  obtain ⟨ro, hro, hp, hpj, hj⟩ := own_spec hw hr hi
  by_cases hpm : (own w me i).rank = me
  · rw [own_owned hw hr (hp.trans (congrArg some hpm))]
    exact hk
  · intro r' p' hr' hp'
    obtain rfl := Option.some.inj (hro.symm.trans hr')
    obtain rfl := Option.some.inj (hpj.symm.trans hp')
    exact ⟨fun _ => (hk r _ hr hp).2 hpm ro _ hro hj hpj, fun h => absurd rfl h⟩

variable [Scalar α]

theorem refresh_good (hw : WorldOK w) (hl : ldim ≤ 6) {R : World (List (List α))} {P : World (List (List Bool))}
    (h : OwnedGood w ldim recon0 replace0 R P) :
    ∃ R' P', ghostRows RefType.int ldim w P = some P' ∧ ghostRows RefType.dbl ldim w R = some R' ∧
      Good w ldim recon0 replace0 R' P' := by
  obtain ⟨hR, hP, hgood⟩ := h
  refine ⟨_, _, ghostRows_spec RefType.int rfl ldim hl w P hw hP, ghostRows_spec (β := α) RefType.dbl rfl ldim hl w R hw hR,
    hR.fromOwners hw, hP.fromOwners hw, ?_⟩
  intro me r i p row hr hp hk ho
  have hi := hw.lt_of_part hr hp
  obtain ⟨ro, hro, -, hpj, -⟩ := own_spec hw hr hi
  show wAt [] _ me i = _ ∧ wAt [] _ me i = _
  rw [wAt_fromOwners [] P hr hi, wAt_fromOwners [] R hr hi]
  exact hgood _ ro _ row hro hpj (OwnerRowIs.at_own hw hr hi hk) (ho.at_own hw hr hi)

theorem pass_good {R : World (List (List α))} {P : World (List (List Bool))} (h : Good w ldim recon0 replace0 R P) :
    OwnedGood w ldim recon0 replace0
      (((w.zip (R.zip P)).mapIdx fun me x => extrapPass me x.1 ldim x.2).map (·.1))
      (((w.zip (R.zip P)).mapIdx fun me x => extrapPass me x.1 ldim x.2).map (·.2)) := by
  obtain ⟨hR, hP, hgood⟩ := h
  set st := (w.zip (R.zip P)).mapIdx fun me x => extrapPass me x.1 ldim x.2 with hst
  have hget : ∀ (me : Nat) (r : Rank), w[me]? = some r → ∃ a b, R[me]? = some a ∧ P[me]? = some b ∧
      st[me]? = some (extrapPass me r ldim (a, b)) := by
    intro me r hr
    have hme : me < w.length := (List.getElem?_eq_some_iff.mp hr).1
    have h1 := List.getElem?_eq_getElem (hR.len ▸ hme)
    have h2 := List.getElem?_eq_getElem (hP.len ▸ hme)
    refine ⟨_, _, h1, h2, ?_⟩
    rw [hst, List.getElem?_mapIdx, (List.getElem?_zip_eq_some (z := (_, _))).mpr
      ⟨hr, (List.getElem?_zip_eq_some (z := (_, _))).mpr ⟨h1, h2⟩⟩]
    rfl
  have hlen : st.length = w.length := by
    simp [hst, hR.len, hP.len]
  have shape : ∀ (me : Nat) (r : Rank) (a : List (List α)) (b : List (List Bool)), w[me]? = some r →
      R[me]? = some a → P[me]? = some b → Shape r.l2g.length ldim a ∧ Shape r.l2g.length ldim b :=
    fun me r a b hr ha hb => ⟨hR.each me r a hr ha, hP.each me r b hr hb⟩
  refine ⟨⟨by simp [hlen], ?_⟩, ⟨by simp [hlen], ?_⟩, ?_⟩
  · intro me r rw hr hrw
    obtain ⟨a, b, ha, hb, hs⟩ := hget me r hr
    rw [List.getElem?_map, hs, Option.map_some, Option.some.injEq] at hrw
    subst hrw
    obtain ⟨sa, sb⟩ := shape me r a b hr ha hb
    exact (extrapPass_keeps me r ldim _ (a, b) sa sb).1
  · intro me r rw hr hrw
    obtain ⟨a, b, ha, hb, hs⟩ := hget me r hr
    rw [List.getElem?_map, hs, Option.map_some, Option.some.injEq] at hrw
    subst hrw
    obtain ⟨sa, sb⟩ := shape me r a b hr ha hb
    exact (extrapPass_keeps me r ldim _ (a, b) sa sb).2.1
  · intro me r i row hr hp hk ho
    obtain ⟨a, b, ha, hb, hs⟩ := hget me r hr
    obtain ⟨sa, sb⟩ := shape me r a b hr ha hb
    obtain ⟨g1, g2⟩ := hgood me r i me row hr hp hk ho
    have hb' : b.getD i [] = List.replicate ldim false := by
      rw [← g1]; simp [rowOf, List.getD_eq_getElem?_getD, hb]
    obtain ⟨k1, k2⟩ := (extrapPass_keeps me r ldim _ (a, b) sa sb).2.2 i hb'
    constructor
    · simp only [rowOf, List.getD_eq_getElem?_getD, List.getElem?_map, hs, Option.map_some, Option.getD_some]
      rw [← List.getD_eq_getElem?_getD, k2, hb']
    · simp only [rowOf, List.getD_eq_getElem?_getD, List.getElem?_map, hs, Option.map_some, Option.getD_some]
      rw [← List.getD_eq_getElem?_getD, k1, ← g2]
      simp [rowOf, List.getD_eq_getElem?_getD, ha]

theorem extrapLoop_good (hw : WorldOK w) (hl : ldim ≤ 6) :
    ∀ (fuel : Nat) (R : World (List (List α))) (P : World (List (List Bool))),
    Good w ldim recon0 replace0 R P →
    ∃ R' P', extrapLoop w ldim fuel R P = some (R', P') ∧ Good w ldim recon0 replace0 R' P' := by
  intro fuel
  induction fuel with
  | zero => intro R P h; exact ⟨R, P, rfl, h⟩
  | succ fuel ih =>
    intro R P h
    obtain ⟨R', P', hP', hR', hg⟩ := refresh_good hw hl (pass_good h)
    unfold extrapLoop
    simp only [hP', hR']
    split
    · exact ⟨R', P', rfl, hg⟩
    · exact ih R' P' hg

/-- **`ref_recon_extrapolate_zeroth` completes and never touches a vertex its owner does not flag**: every stored
    copy of such a vertex ends with the owner's row at entry -/
theorem extrapolateZeroth_keeps (hw : WorldOK w) (hl : ldim ≤ 6) (hR0 : RowsOK ldim w recon0)
    (hP0 : RowsOK ldim w replace0) :
    ∃ R' P', extrapolateZeroth w ldim recon0 replace0 = some (R', P') ∧ Good w ldim recon0 replace0 R' P' := by
  have h0 : OwnedGood w ldim recon0 replace0 recon0 replace0 := by
    refine ⟨hR0, hP0, ?_⟩
    intro me r i row hr hp hk ho
    exact ⟨(hk r me hr hp).1 rfl, (ho r me hr hp).1 rfl⟩
  obtain ⟨R1, P1, hP1, hR1, hg⟩ := refresh_good hw hl h0
  obtain ⟨R', P', hloop, hg'⟩ := extrapLoop_good hw hl 10 R1 P1 hg
  refine ⟨R', P', ?_, hg'⟩
  unfold extrapolateZeroth
  simp only [hP1, hR1, hloop]

/-- the replacement mask `ref_recon_signed_hessian` (L2 branch) hands to `ref_recon_extrapolate_zeroth`: one row of `ldim`
    flags per stored vertex -/
theorem replaceMask_shape (twod : Bool) (ldim : Nat) (r : Rank) :
    Shape r.l2g.length ldim (replaceMask twod ldim r) := by
  unfold replaceMask skipOrphan maskRank
  refine ⟨by simp [Rank.n], ?_⟩
  intro x hx
  obtain ⟨k, hk, rfl⟩ := List.getElem_of_mem hx
  simp only [List.getElem_mapIdx, List.length_mapIdx, List.getElem_map, List.length_replicate]

end Refine.ReconParExtrap
