import Refine.Model.CellStore
import Refine.Lemmas.ListFacts
import Refine.Lemmas.FreeChain

/-!
  The `CellStore` (`ref_cell.c`) is a list of rows; a row is a cell when its entry 0 is not `REF_EMPTY` (`liveRow`),
  otherwise it is on the free list threaded through entry 1 (`FreeRows`, the generic `Refine.FreeChain` read off the
  rows by `cellChain_iff`; `CellChain` itself has only `.append`, every chain step goes through the bridge).  The
  adjacency `node ↦ cells` is exact as a multiset: `CellInv.adj` counts.  Every operation overwrites ONE row per step
  (`SetsRow`), so there is one preservation theorem, `CellInv.set`, and `add`, `remove`, the replace step and the id
  write are instances of it; loops that rewrite one valid cell compose by `Rewrites`.
-/
namespace Refine.Model.CellStore
open Refine.Model.NodeIds (Status)

namespace Adj

theorem first_nonneg {a : Adj} {w : Int} (h : 0 ≤ w) : a.first w = a.lists.getD w.toNat [] := by
  simp [first, Int.not_lt.2 h]

theorem first_neg {a : Adj} {w : Int} (h : w < 0) : a.first w = [] := by simp [first, h]

theorem create_first (v : Int) : create.first v = [] := by
  unfold first create
  split
  · rfl
  · exact ListFacts.getD_append_replicate [] 10 v.toNat _

theorem add_spec (a : Adj) {node : Int} (hn : 0 ≤ node) (ref : Int) :
    (a.add node ref).1 = .ok ∧
      ∀ w, (a.add node ref).2.first w = if w = node then ref :: a.first w else a.first w := by
  unfold add
  rw [if_neg (Int.not_lt.2 hn)]
  refine ⟨rfl, ?_⟩
  intro w
  simp only
  -- the (possibly grown) list of lists: same entries, long enough
  generalize hL : (if node.toNat ≥ a.lists.length then
      a.lists ++ List.replicate (Nat.max (100 + (node.toNat - a.lists.length)) (a.lists.length / 2)) []
    else a.lists) = L
  have hget : ∀ k, L.getD k [] = a.lists.getD k [] := by
    intro k; rw [← hL]; split
    · exact ListFacts.getD_append_replicate _ _ _ _
    · rfl
  have hv : node.toNat < L.length := by
    rw [← hL]; split
    · have : 100 + (node.toNat - a.lists.length) ≤
          Nat.max (100 + (node.toNat - a.lists.length)) (a.lists.length / 2) := Nat.le_max_left _ _
      simp only [List.length_append, List.length_replicate]
      omega
    · omega
  by_cases hw : w < 0
  · rw [first_neg hw, if_neg (by omega), first_neg hw]
  · have hw' : 0 ≤ w := Int.not_lt.1 hw
    rw [first_nonneg hw', first_nonneg hw']
    simp only
    rw [ListFacts.getD_set, hget, hget]
    by_cases hwn : w = node
    · subst hwn; rw [if_pos ⟨rfl, hv⟩, if_pos rfl]
    · rw [if_neg (by omega), if_neg hwn]

theorem add_neg (a : Adj) {node : Int} (hn : node < 0) (ref : Int) : a.add node ref = (.invalid, a) := by
  simp [add, hn]

theorem remove_spec (a : Adj) {node ref : Int} (h : ref ∈ a.first node) :
    (a.remove node ref).1 = .ok ∧
      ∀ w, (a.remove node ref).2.first w = if w = node then (a.first node).erase ref else a.first w := by
  have hn : 0 ≤ node := by
    refine Int.not_lt.1 fun hneg => ?_
    rw [first_neg hneg] at h; simp at h
  have hne : (a.first node).isEmpty = false := by
    cases hl : a.first node with
    | nil => rw [hl] at h; simp at h
    | cons _ _ => rfl
  have hc : (a.first node).contains ref = true := by simpa using h
  have hlen : node.toNat < a.lists.length := by
    refine Nat.lt_of_not_le fun hle => ?_
    rw [first_nonneg hn, List.getD_eq_getElem?_getD, List.getElem?_eq_none hle] at h
    simp at h
  unfold remove
  simp only [hne, hc, Bool.false_eq_true, if_false, Bool.not_true]
  refine ⟨by trivial, ?_⟩
  intro w
  by_cases hw : w < 0
  · rw [first_neg hw, if_neg (by omega), first_neg hw]
  · have hw' : 0 ≤ w := Int.not_lt.1 hw
    rw [first_nonneg hw', first_nonneg hw']
    simp only
    rw [ListFacts.getD_set]
    have : (node.toNat = w.toNat ∧ node.toNat < a.lists.length) ↔ w = node := by omega
    simp only [this]

theorem remove_not_mem (a : Adj) {node ref : Int} (h : ref ∉ a.first node) :
    a.remove node ref = (.invalid, a) := by
  fun_cases remove a node ref
  · rfl
  · rfl
  next hc => exact absurd (by simpa using hc) h

end Adj

namespace CellStore

theorem count_ite_cons {x c : Int} {L : List Int} (p : Prop) [Decidable p] :
    (if p then c :: L else L).count x = L.count x + (if p ∧ x = c then 1 else 0) := by
  by_cases hp : p <;> by_cases hx : x = c
  · subst hx; simp [hp]
  · simp [hp, hx, List.count_cons_of_ne (Ne.symm hx)]
  · simp [hp]
  · simp [hp]

theorem count_ite_erase {x c : Int} {L : List Int} (p : Prop) [Decidable p] :
    (if p then L.erase c else L).count x = L.count x - (if p ∧ x = c then 1 else 0) := by
  by_cases hp : p <;> by_cases hx : x = c
  · subst hx; simp [hp]
  · simp [hp, hx, List.count_erase_of_ne hx]
  · simp [hp]
  · simp [hp]

theorem adjAddAll_spec (vs : List Int) (a : Adj) (cell : Int) (h : ∀ v ∈ vs, 0 ≤ v) :
    (adjAddAll a vs cell).1 = .ok ∧
      ∀ w x, ((adjAddAll a vs cell).2.first w).count x =
        (a.first w).count x + (if x = cell then vs.count w else 0) := by
  fun_induction adjAddAll a vs cell with
  | case1 => simp
  | case2 a v rest cell r hok ih =>
    obtain ⟨-, hf⟩ := Adj.add_spec a (h v (by simp)) cell
    obtain ⟨ihok, ih⟩ := ih fun u hu => h u (by simp [hu])
    refine ⟨ihok, fun w x => ?_⟩
    rw [ih w x, hf w]
    by_cases hwv : w = v
    · subst hwv
      by_cases hx : x = cell
      · subst hx; simp; omega
      · have : ¬ (cell = x) := fun e => hx e.symm
        simp [hx, this]
    · have : ¬ (v = w) := fun e => hwv e.symm
      by_cases hx : x = cell
      · simp [hwv, hx, this]
      · simp [hwv, hx]
  | case3 a v rest cell r hnok => exact absurd (Adj.add_spec a (h v (by simp)) cell).1 hnok

theorem adjRemoveAll_spec (vs : List Int) (a : Adj) (cell : Int) (h : ∀ w, vs.count w ≤ (a.first w).count cell) :
    (adjRemoveAll a vs cell).1 = .ok ∧
      ∀ w x, ((adjRemoveAll a vs cell).2.first w).count x =
        (a.first w).count x - (if x = cell then vs.count w else 0) := by
  fun_induction adjRemoveAll a vs cell with
  | case1 => simp
  | case2 a v rest cell r hok ih =>
    have hmem : cell ∈ a.first v := by
      have := h v
      simp only [List.count_cons_self] at this
      exact List.count_pos_iff.1 (by omega)
    obtain ⟨-, hf⟩ := Adj.remove_spec a hmem
    obtain ⟨ihok, ih⟩ := ih fun w => by
      have := h w
      show rest.count w ≤ ((a.remove v cell).2.first w).count cell
      rw [hf w]
      by_cases hwv : w = v
      · subst hwv
        simp only [List.count_cons_self, if_true, List.count_erase_self] at this ⊢
        omega
      · have hvw : ¬ (v = w) := fun e => hwv e.symm
        simp only [List.count_cons, hwv, if_false] at this ⊢
        simp [hvw] at this
        exact this
    refine ⟨ihok, fun w x => ?_⟩
    rw [ih w x, hf w]
    by_cases hwv : w = v
    · subst hwv
      by_cases hx : x = cell
      · subst hx
        have := h w
        simp only [List.count_cons_self] at this
        simp only [if_true, List.count_erase_self, List.count_cons_self]
        omega
      · simp [hx, List.count_erase_of_ne hx]
    · have hvw : ¬ (v = w) := fun e => hwv e.symm
      by_cases hx : x = cell
      · simp [hwv, hx, hvw]
      · simp [hwv, hx]
  | case3 a v rest cell r hnok =>
    have := h v
    simp only [List.count_cons_self] at this
    exact absurd (Adj.remove_spec a (List.count_pos_iff.1 (by omega))).1 hnok

/-- `CellChain rows b l`: following `row[1]` from head `b` visits exactly the rows `l`, all of them
    invalid (`row[0] = REF_EMPTY`), and ends at `REF_EMPTY` -/
inductive CellChain (rows : List (List Int)) : Int → List Nat → Prop
  | nil : CellChain rows (-1) []
  | cons {i : Nat} {l : List Nat} : i < rows.length → (rows.getD i []).getD 0 (-1) = -1 →
      CellChain rows ((rows.getD i []).getD 1 (-1)) l → CellChain rows (i : Int) (i :: l)

theorem freeRows_length (sp orig m : Nat) : (freeRows sp orig m).length = m - orig := by simp [freeRows]

theorem freeRows_getD {sp orig m k : Nat} (h : k < m - orig) :
    (freeRows sp orig m).getD k [] =
      freeRow sp (if orig + k + 1 = m then (-1 : Int) else ((orig + k + 1 : Nat) : Int)) := by
  exact ListFacts.getD_map_range h

theorem freeRow_length {sp : Nat} (h : 2 ≤ sp) (x : Int) : (freeRow sp x).length = sp := by
  simp [freeRow]; omega

theorem freeRow_getD0 (sp : Nat) (x : Int) : (freeRow sp x).getD 0 (-1) = -1 := by simp [freeRow]
theorem freeRow_getD1 (sp : Nat) (x : Int) : (freeRow sp x).getD 1 (-1) = x := by simp [freeRow]

theorem getD_append_freeRows {rows : List (List Int)} {sp m j : Nat} (h1 : rows.length ≤ j) (h2 : j < m) :
    (rows ++ freeRows sp rows.length m).getD j [] =
      freeRow sp (if j + 1 = m then (-1 : Int) else ((j + 1 : Nat) : Int)) := by
  rw [ListFacts.getD_append_right h1, freeRows_getD (by omega), show rows.length + (j - rows.length) + 1 = j + 1 by omega]

theorem getD_freeRows_append {rows : List (List Int)} {sp m i : Nat} (h1 : rows.length ≤ i) (h2 : i < m) :
    ((rows ++ freeRows sp rows.length m).getD i []).getD 0 (-1) = -1 := by
  rw [getD_append_freeRows h1 h2]
  exact freeRow_getD0 _ _

theorem cellChain_iff {rows : List (List Int)} {b : Int} {l : List Nat} :
    CellChain rows b l ↔
      FreeChain.Chain rows.length (fun i => (rows.getD i []).getD 1 (-1))
        (fun i => (rows.getD i []).getD 0 (-1) = -1) (fun i => (i : Int)) b l := by
  constructor
  · intro h
    induction h with
    | nil => exact .nil
    | cons hi hn _ ih => exact .cons hi hn ih
  · intro h
    induction h with
    | nil => exact .nil
    | cons hi hn _ ih => exact .cons hi hn ih

theorem CellChain.append {rows b l} (h : CellChain rows b l) (t : List (List Int)) :
    CellChain (rows ++ t) b l :=
  cellChain_iff.2 ((cellChain_iff.1 h).congr (by simp) fun i hi => by
    simp only [ListFacts.getD_append_left ((cellChain_iff.1 h).lt i hi).1]; exact ⟨trivial, id⟩)

/-- the free-list clause of `CellInv` -/
def FreeRows (rows : List (List Int)) (b : Int) : Prop :=
  ∃ l, CellChain rows b l ∧ l.Nodup ∧ ∀ i, i < rows.length → (i ∈ l ↔ (rows.getD i []).getD 0 (-1) = -1)

theorem freeRows_iff {rows : List (List Int)} {b : Int} :
    FreeRows rows b ↔
      FreeChain.Free rows.length (fun i => (rows.getD i []).getD 1 (-1))
        (fun i => (rows.getD i []).getD 0 (-1) = -1) (fun i => (i : Int)) b := by
  simp only [FreeRows, FreeChain.Free, cellChain_iff]

/-- row `r` is a valid cell -/
def liveRow (r : List Int) : Bool := r.getD 0 (-1) != -1

theorem liveRow_iff {r : List Int} : liveRow r = true ↔ r.getD 0 (-1) ≠ -1 := by
  unfold liveRow; simp only [bne_iff_ne, ne_eq]

theorem liveRow_false_iff {r : List Int} : liveRow r = false ↔ r.getD 0 (-1) = -1 := by
  unfold liveRow; simp only [bne_eq_false_iff_eq]

theorem FreeRows.pop {rows : List (List Int)} {b : Int} (h : FreeRows rows b) (hb : b ≠ -1) {x : List Int}
    (hx : liveRow x = true) :
    0 ≤ b ∧ b.toNat < rows.length ∧ liveRow (rows.getD b.toNat []) = false ∧
      FreeRows (rows.set b.toNat x) ((rows.getD b.toNat []).getD 1 (-1)) := by
  obtain ⟨i, rfl, hi, hf, hpop⟩ := (freeRows_iff.1 h).pop hb
  rw [Int.toNat_natCast]
  refine ⟨by omega, hi, liveRow_false_iff.2 hf, freeRows_iff.2 ?_⟩
  rw [List.length_set]
  exact hpop (.of_set rows [] i x (·.getD 1 (-1)) (·.getD 0 (-1) = -1))
    (by rw [ListFacts.getD_set_self rows x _ hi]; exact liveRow_iff.1 hx)

theorem FreeRows.push {rows : List (List Int)} {b : Int} (h : FreeRows rows b) {i : Nat} (hi : i < rows.length)
    (hlive : liveRow (rows.getD i []) = true) {x : List Int} (h0 : liveRow x = false)
    (h1 : x.getD 1 (-1) = b) : FreeRows (rows.set i x) (i : Int) := by
  refine freeRows_iff.2 ?_
  rw [List.length_set]
  exact (freeRows_iff.1 h).push hi (liveRow_iff.1 hlive) (.of_set rows [] i x (·.getD 1 (-1)) (·.getD 0 (-1) = -1))
    (by rw [ListFacts.getD_set_self rows x _ hi]; exact liveRow_false_iff.1 h0)
    (by rw [ListFacts.getD_set_self rows x _ hi]; exact h1)

theorem FreeRows.keep {rows : List (List Int)} {b : Int} (h : FreeRows rows b) {i : Nat} (hi : i < rows.length)
    (hlive : liveRow (rows.getD i []) = true) {x : List Int} (hx : liveRow x = true) :
    FreeRows (rows.set i x) b := by
  refine freeRows_iff.2 ?_
  rw [List.length_set]
  exact (freeRows_iff.1 h).keep hi (liveRow_iff.1 hlive) (.of_set rows [] i x (·.getD 1 (-1)) (·.getD 0 (-1) = -1))
    (by rw [ListFacts.getD_set_self rows x _ hi]; exact liveRow_iff.1 hx)

theorem FreeRows.grow {rows : List (List Int)} (h : FreeRows rows (-1)) (sp : Nat) {chunk : Nat}
    (hchunk : 0 < chunk) :
    FreeRows (rows ++ freeRows sp rows.length (rows.length + chunk)) (rows.length : Int) := by
  refine freeRows_iff.2 ?_
  rw [List.length_append, freeRows_length, Nat.add_sub_cancel_left]
  refine (freeRows_iff.1 h).grow (fun i => by omega) hchunk (fun j hj => by rw [ListFacts.getD_append_left hj]) ?_
  intro j hlj hj
  rw [getD_append_freeRows hlj hj]
  exact ⟨freeRow_getD0 _ _, freeRow_getD1 _ _⟩

theorem FreeRows.nil : FreeRows [] (-1) := freeRows_iff.2 FreeChain.Free.nil

/-- the nodes of cell `c`: the first `node_per` entries of its row -/
def cellNodes (s : CellStore) (c : Int) : List Int := (s.row c.toNat).take s.nodePer

structure CellInv (s : CellStore) : Prop where
  per : 1 ≤ s.nodePer ∧ s.nodePer ≤ s.sizePer ∧ 2 ≤ s.sizePer ∧ s.sizePer ≤ s.nodePer + 1
  rows : ∀ r ∈ s.c2n, r.length = s.sizePer
  chain : ∃ l, CellChain s.c2n s.blank l ∧ l.Nodup ∧ ∀ i, i < s.max → (i ∈ l ↔ s.c2nAt 0 i = -1)
  count : s.n = ((s.c2n.countP liveRow : Nat) : Int)
  nonneg : ∀ c, s.validCell c = true → ∀ v ∈ s.cellNodes c, 0 ≤ v
  /-- derived adjacency exact: the cells registered around `v` are exactly the valid cells containing `v`,
      with multiplicity -/
  adj : ∀ v c, (s.adj.first v).count c = if s.validCell c = true then (s.cellNodes c).count v else 0

theorem CellInv.freeRows {s : CellStore} (h : CellInv s) : FreeRows s.c2n s.blank := h.chain

theorem CellInv.np_pos {s : CellStore} (h : CellInv s) : 1 ≤ s.nodePer := h.per.1
theorem CellInv.np_le_sp {s : CellStore} (h : CellInv s) : s.nodePer ≤ s.sizePer := h.per.2.1
theorem CellInv.two_le_sp {s : CellStore} (h : CellInv s) : 2 ≤ s.sizePer := h.per.2.2.1
theorem CellInv.sp_le {s : CellStore} (h : CellInv s) : s.sizePer ≤ s.nodePer + 1 := h.per.2.2.2

theorem validCell_iff {s : CellStore} {c : Int} :
    s.validCell c = true ↔ 0 ≤ c ∧ c.toNat < s.max ∧ liveRow (s.row c.toNat) = true := by
  simp only [validCell, Bool.and_eq_true, decide_eq_true_eq, liveRow_iff]
  constructor
  · rintro ⟨⟨h1, h2⟩, h3⟩; exact ⟨h1, by omega, h3⟩
  · rintro ⟨h1, h2, h3⟩; exact ⟨⟨h1, by omega⟩, h3⟩

theorem c2nAt_of_ge {s : CellStore} {k c : Nat} (h : s.max ≤ c) : s.c2nAt k c = -1 := by
  simp only [CellStore.max] at h
  have : s.c2n.getD c [] = [] := by
    rw [List.getD_eq_getElem?_getD, List.getElem?_eq_none h]; rfl
  simp only [c2nAt, row, this]
  rfl

theorem row_length {s : CellStore} (h : CellInv s) {c : Nat} (hc : c < s.max) : (s.row c).length = s.sizePer := by
  simp only [row, ListFacts.getD_eq_getElem hc]
  exact h.rows _ (List.getElem_mem hc)

theorem CellInv.valid_row {s : CellStore} (h : CellInv s) {c : Int} (hv : s.validCell c = true) :
    0 ≤ c ∧ c.toNat < s.max ∧ liveRow (s.row c.toNat) = true ∧ (s.row c.toNat).length = s.sizePer :=
  have ⟨h0, hlt, hlive⟩ := validCell_iff.1 hv
  ⟨h0, hlt, hlive, row_length h hlt⟩

theorem CellInv.np_le_row {s : CellStore} (h : CellInv s) {c : Int} (hv : s.validCell c = true) :
    s.nodePer ≤ (s.row c.toNat).length := by
  rw [(h.valid_row hv).2.2.2]; exact h.np_le_sp

theorem liveRow_set {r : List Int} (h : liveRow r = true) {k : Nat} {x : Int} (hx : k = 0 → x ≠ -1) :
    liveRow (r.set k x) = true := by
  rw [liveRow_iff] at h ⊢
  rw [ListFacts.getD_set]
  split
  next e => exact hx e.1
  · exact h

theorem liveRow_of_nonneg {nodes : List Int} {np : Nat} (hnp : 1 ≤ np) (h : ∀ v ∈ nodes.take np, 0 ≤ v)
    (hl : np ≤ nodes.length) : liveRow nodes = true := by
  have := h _ (ListFacts.getD_mem (l := nodes.take np) (i := 0) (d := -1) (by rw [List.length_take]; omega))
  rw [ListFacts.getD_take nodes (-1) (by omega)] at this
  rw [liveRow_iff]; omega

theorem cellNodes_length {s : CellStore} (h : CellInv s) {c : Int} (hv : s.validCell c = true) :
    (s.cellNodes c).length = s.nodePer := by
  simp only [cellNodes, List.length_take]
  have := h.np_le_row hv
  omega

theorem cellNodes_getElem {s : CellStore} (h : CellInv s) {c : Int} (hv : s.validCell c = true) {k : Nat}
    (hk : k < s.nodePer) : ∃ hk' : k < (s.cellNodes c).length, (s.cellNodes c)[k] = s.c2nAt k c.toNat := by
  have hl := cellNodes_length h hv
  refine ⟨by omega, ?_⟩
  have hkr : k < (s.row c.toNat).length := by have := h.np_le_row hv; omega
  simp only [cellNodes, List.getElem_take, c2nAt]
  rw [List.getD_eq_getElem?_getD, List.getElem?_eq_getElem hkr]
  rfl

structure SetsRow (t u : CellStore) (cell : Int) (x : List Int) : Prop where
  nonneg : 0 ≤ cell
  lt : cell.toNat < t.max
  np : u.nodePer = t.nodePer
  sp : u.sizePer = t.sizePer
  c2n : u.c2n = t.c2n.set cell.toNat x

theorem SetsRow.row {t u : CellStore} {cell : Int} {x : List Int} (h : SetsRow t u cell x) (c : Nat) :
    u.row c = if c = cell.toNat then x else t.row c := by
  simp only [CellStore.row, h.c2n]
  split
  next e => subst e; exact ListFacts.getD_set_self _ _ _ h.lt
  next e => exact ListFacts.getD_set_ne _ _ _ (Ne.symm e)

theorem SetsRow.max {t u : CellStore} {cell : Int} {x : List Int} (h : SetsRow t u cell x) : u.max = t.max := by
  simp only [CellStore.max, h.c2n, List.length_set]

theorem SetsRow.valid {t u : CellStore} {cell : Int} {x : List Int} (h : SetsRow t u cell x) (c : Int) :
    u.validCell c = if c = cell then liveRow x else t.validCell c := by
  have h0 := h.nonneg
  rw [Bool.eq_iff_iff, validCell_iff]
  simp only [h.row, h.max]
  by_cases e : c = cell
  · subst e
    rw [if_pos rfl, if_pos rfl]
    exact ⟨fun hh => hh.2.2, fun hh => ⟨h0, h.lt, hh⟩⟩
  · rw [if_neg e, validCell_iff]
    by_cases hc0 : 0 ≤ c
    · rw [if_neg (show c.toNat ≠ cell.toNat by omega)]
    · exact ⟨fun hh => absurd hh.1 hc0, fun hh => absurd hh.1 hc0⟩

theorem SetsRow.nodes {t u : CellStore} {cell : Int} {x : List Int} (h : SetsRow t u cell x) {c : Int}
    (hc0 : 0 ≤ c) : u.cellNodes c = if c = cell then x.take t.nodePer else t.cellNodes c := by
  have h0 := h.nonneg
  simp only [cellNodes, h.row, h.np]
  by_cases e : c = cell
  · subst e; rw [if_pos rfl, if_pos rfl]
  · rw [if_neg e, if_neg (show c.toNat ≠ cell.toNat by omega)]

theorem SetsRow.frame {t u : CellStore} {cell : Int} {x : List Int} (h : SetsRow t u cell x) {c : Int}
    (hc : c ≠ cell) (hv : t.validCell c = true) : u.validCell c = true ∧ u.cellNodes c = t.cellNodes c :=
  ⟨by rw [h.valid, if_neg hc, hv], by rw [h.nodes (validCell_iff.1 hv).1, if_neg hc]⟩

structure SameShape (s r : CellStore) : Prop where
  np : r.nodePer = s.nodePer
  sp : r.sizePer = s.sizePer
  n : r.n = s.n
  valid : ∀ c, r.validCell c = s.validCell c

theorem SameShape.refl (s : CellStore) : SameShape s s := ⟨rfl, rfl, rfl, fun _ => rfl⟩

theorem SameShape.trans {a b c : CellStore} (h1 : SameShape a b) (h2 : SameShape b c) : SameShape a c :=
  ⟨h2.np.trans h1.np, h2.sp.trans h1.sp, h2.n.trans h1.n, fun c => (h2.valid c).trans (h1.valid c)⟩

theorem SetsRow.valid_of_live {t u : CellStore} {cell : Int} {x : List Int} (h : SetsRow t u cell x)
    (hv : t.validCell cell = true) (hx : liveRow x = true) (c : Int) : u.validCell c = t.validCell c := by
  rw [h.valid]
  by_cases e : c = cell
  · rw [if_pos e, e, hv, hx]
  · rw [if_neg e]

theorem SetsRow.sameShape {t u : CellStore} {cell : Int} {x : List Int} (h : SetsRow t u cell x)
    (hn : u.n = t.n) (hv : t.validCell cell = true) (hx : liveRow x = true) : SameShape t u :=
  ⟨h.np, h.sp, hn, h.valid_of_live hv hx⟩

structure Rewrites (s r : CellStore) (cell : Int) : Prop where
  inv : CellInv r
  shape : SameShape s r
  rows : ∀ c, c ≠ cell.toNat → r.row c = s.row c

theorem Rewrites.refl {s : CellStore} (h : CellInv s) (cell : Int) : Rewrites s s cell :=
  ⟨h, SameShape.refl s, fun _ _ => rfl⟩

theorem Rewrites.trans {a b c : CellStore} {cell : Int} (h1 : Rewrites a b cell) (h2 : Rewrites b c cell) :
    Rewrites a c cell :=
  ⟨h2.inv, h1.shape.trans h2.shape, fun i hi => (h2.rows i hi).trans (h1.rows i hi)⟩

theorem CellInv.set {t u : CellStore} (h : CellInv t) {cell : Int} {x : List Int} (hs : SetsRow t u cell x)
    (hx : x.length = t.sizePer) (hfree : FreeRows u.c2n u.blank)
    (hn : u.n + (if liveRow (t.row cell.toNat) then 1 else 0) = t.n + (if liveRow x then 1 else 0))
    (hnn : liveRow x = true → ∀ v ∈ x.take t.nodePer, 0 ≤ v)
    (hadj : ∀ w c, (u.adj.first w).count c =
      if c = cell then (if liveRow x then (x.take t.nodePer).count w else 0) else (t.adj.first w).count c) :
    CellInv u := by
  have hi' : cell.toNat < t.c2n.length := hs.lt
  refine ⟨by rw [hs.np, hs.sp]; exact h.per, ?_, hfree, ?_, ?_, ?_⟩
  · intro r hr
    rw [hs.c2n] at hr; rw [hs.sp]
    rcases List.mem_or_eq_of_mem_set hr with hr | hr
    · exact h.rows r hr
    · rw [hr]; exact hx
  · have hpos : liveRow t.c2n[cell.toNat] = true → 0 < t.c2n.countP liveRow :=
      fun hb => List.countP_pos_iff.2 ⟨_, List.getElem_mem hi', hb⟩
    have hcount := h.count
    rw [show t.row cell.toNat = t.c2n[cell.toNat] from ListFacts.getD_eq_getElem hi'] at hn
    rw [hs.c2n, List.countP_set hi']
    cases ho : liveRow t.c2n[cell.toNat] <;> cases hx' : liveRow x <;>
      simp only [ho, hx', Bool.false_eq_true, if_false, if_true, forall_const] at hn hpos ⊢ <;> omega
  · intro c hv v hvm
    rw [hs.nodes (validCell_iff.1 hv).1] at hvm
    rw [hs.valid] at hv
    by_cases hc : c = cell
    · rw [if_pos hc] at hv hvm; exact hnn hv v hvm
    · rw [if_neg hc] at hv hvm; exact h.nonneg c hv v hvm
  · intro v c
    rw [hadj v c, hs.valid, h.adj v c]
    split
    next hc =>
      subst hc
      split
      · rw [hs.nodes hs.nonneg, if_pos rfl]
      · rfl
    · split
      next hc hv => rw [hs.nodes (validCell_iff.1 hv).1, if_neg hc]
      · rfl

/-- the state after the growth branch of `ref_cell_add`, for a given chunk -/
def grown (s : CellStore) (chunk : Nat) : CellStore :=
  { s with c2n := s.c2n ++ freeRows s.sizePer s.max (s.max + chunk), blank := (s.max : Int) }

theorem freeRows_not_live (sp orig m : Nat) : ∀ r ∈ freeRows sp orig m, liveRow r = false := by
  intro r hr
  obtain ⟨k, _, rfl⟩ := List.mem_map.1 hr
  exact liveRow_false_iff.2 (freeRow_getD0 _ _)

theorem countP_freeRows (sp orig m : Nat) : (freeRows sp orig m).countP liveRow = 0 :=
  List.countP_eq_zero.2 fun r hr => by rw [freeRows_not_live sp orig m r hr]; exact Bool.false_ne_true

theorem grown_facts {s : CellStore} (h : CellInv s) (hb : s.blank = -1) {chunk : Nat} (hchunk : 0 < chunk) :
    CellInv (grown s chunk) ∧ (∀ c, (grown s chunk).validCell c = s.validCell c) ∧
      (∀ c, s.validCell c = true → (grown s chunk).cellNodes c = s.cellNodes c) := by
  have hvalid : ∀ c, (grown s chunk).validCell c = s.validCell c := by
    intro c
    rw [Bool.eq_iff_iff, validCell_iff, validCell_iff]
    simp only [grown, row, CellStore.max, List.length_append, freeRows_length]
    by_cases hlt : c.toNat < s.c2n.length
    · rw [ListFacts.getD_append_left hlt]
      exact ⟨fun ⟨h0, _, h2⟩ => ⟨h0, hlt, h2⟩, fun ⟨h0, _, h2⟩ => ⟨h0, by omega, h2⟩⟩
    · exact ⟨fun ⟨_, h1, h2⟩ =>
          absurd (getD_freeRows_append (Nat.le_of_not_lt hlt) (by omega)) (liveRow_iff.1 h2),
        fun ⟨_, h1, _⟩ => absurd h1 hlt⟩
  have hnodes : ∀ c, s.validCell c = true → (grown s chunk).cellNodes c = s.cellNodes c := by
    intro c hv
    simp only [cellNodes, row, grown, ListFacts.getD_append_left (validCell_iff.1 hv).2.1]
  refine ⟨⟨h.per, ?_, FreeRows.grow (hb ▸ h.freeRows) s.sizePer hchunk, ?_, ?_, ?_⟩, hvalid, hnodes⟩
  · intro r hr
    rcases List.mem_append.1 hr with hr | hr
    · exact h.rows r hr
    · obtain ⟨k, _, rfl⟩ := List.mem_map.1 hr
      exact freeRow_length h.two_le_sp _
  · show s.n = _
    rw [h.count]
    simp only [grown, List.countP_append, countP_freeRows, Nat.add_zero]
  · intro c hv v hvm
    rw [hvalid c] at hv
    rw [hnodes c hv] at hvm
    exact h.nonneg c hv v hvm
  · intro v c
    rw [hvalid c]
    refine (h.adj v c).trans ?_
    split
    next hv => rw [hnodes c hv]
    · rfl

/-- `t` is `s` after the growth branch of `ref_cell_add`: the same cells and a non-empty free list -/
structure GrowsTo (s t : CellStore) : Prop where
  inv : CellInv t
  blank : t.blank ≠ -1
  np : t.nodePer = s.nodePer
  sp : t.sizePer = s.sizePer
  valid : ∀ c, t.validCell c = s.validCell c
  nodes : ∀ c, s.validCell c = true → t.cellNodes c = s.cellNodes c

theorem grow_spec {s : CellStore} (h : CellInv s) :
    (s.blank = -1 ∧ MAX_LIMIT ≤ s.max ∧ s.grow = none) ∨
      ∃ t, s.grow = some t ∧ GrowsTo s t ∧ (s.blank ≠ -1 → t = s) := by
  fun_cases grow s
  · exact Or.inl ⟨‹_›, by omega, rfl⟩ -- free list empty, at the limit
  · exact Or.inl ⟨‹_›, by omega, rfl⟩ -- free list empty, beyond the limit
  next hb _ _ orig chunk => -- free list empty: grow by `chunk`
    have : 5000 ≤ Nat.max 5000 (s.max + s.max / 2) := Nat.le_max_left _ _
    obtain ⟨ht, hval, hnodes⟩ := grown_facts h hb (chunk := chunk) (by simp +zetaDelta only [Nat.lt_min]; omega)
    exact Or.inr ⟨_, rfl, ⟨ht, by show (s.max : Int) ≠ -1; omega, rfl, rfl, hval, hnodes⟩, fun hb' => absurd hb hb'⟩
  · exact Or.inr ⟨s, rfl, ⟨h, ‹_›, rfl, rfl, fun _ => rfl, fun _ _ => rfl⟩, fun _ => rfl⟩ -- free list not empty

theorem create_CellInv (t : Refine.Gen.CellTables.CellType) (h : 2 ≤ t.nodePer) : CellInv (create t) := by
  have hsp : 2 ≤ (create t).sizePer := by simp only [create]; omega
  have hnolive : ∀ c, (create t).validCell c = false := by
    intro c
    rw [Bool.eq_false_iff]
    intro hv
    obtain ⟨_, h1, h2⟩ := validCell_iff.1 hv
    rw [freeRows_not_live (create t).sizePer 0 100 _ (by
      rw [row, ListFacts.getD_eq_getElem h1]; exact List.getElem_mem h1)] at h2
    cases h2
  refine ⟨⟨by simp only [create]; omega, by simp only [create]; omega, hsp, by simp only [create]; split <;> omega⟩,
    ?_, FreeRows.grow FreeRows.nil _ (chunk := 100) (by omega), ?_, ?_, ?_⟩
  · intro r hr
    obtain ⟨k, _, rfl⟩ := List.mem_map.1 hr
    exact freeRow_length hsp _
  · simp only [create, countP_freeRows]
    rfl
  · intro c hv; rw [hnolive c] at hv; cases hv
  · intro v c
    rw [hnolive c, show (create t).adj = Adj.create from rfl, Adj.create_first]
    rfl

/-- the state after a successful `ref_cell_add` on a store `t` whose free list is not empty -/
def addResult (t : CellStore) (nodes : List Int) : CellStore :=
  { t with blank := t.c2nAt 1 t.blank.toNat, c2n := t.c2n.set t.blank.toNat nodes,
           adj := (adjAddAll t.adj (nodes.take t.nodePer) t.blank).2, n := t.n + 1 }

theorem add_eq {s t : CellStore} {nodes : List Int} (hg : s.grow = some t)
    (hnn : ∀ v ∈ nodes.take t.nodePer, 0 ≤ v) :
    s.add nodes = (.ok, t.blank, addResult t nodes) := by
  have hok := (adjAddAll_spec (nodes.take t.nodePer) t.adj t.blank hnn).1
  simp only [add, hg, hok, if_true, addResult]

theorem add_none {s : CellStore} {nodes : List Int} (hg : s.grow = none) :
    s.add nodes = (.failure, -1, s) := by
  simp only [add, hg]

/-- `ref_cell_add` of a good row either fails at the growth limit or stores the row in the head of the free list of the
    (grown) store `t`: the new cell is `t.blank`, which was not valid -/
theorem add_spec {s : CellStore} (h : CellInv s) {nodes : List Int} (hlen : nodes.length = s.sizePer)
    (hnn : ∀ v ∈ nodes.take s.nodePer, 0 ≤ v) :
    (s.blank = -1 ∧ MAX_LIMIT ≤ s.max ∧ s.add nodes = (.failure, -1, s)) ∨
      ∃ t, GrowsTo s t ∧ (s.blank ≠ -1 → t = s) ∧ s.add nodes = (.ok, t.blank, addResult t nodes) ∧
        CellInv (addResult t nodes) ∧ SetsRow t (addResult t nodes) t.blank nodes ∧ t.validCell t.blank = false := by
  rcases grow_spec h with ⟨hb, hm, hg⟩ | ⟨t, hg, gt, heq⟩
  · exact .inl ⟨hb, hm, add_none hg⟩
  have ht := gt.inv
  rw [← gt.sp] at hlen
  rw [← gt.np] at hnn
  have hlive : liveRow nodes = true := liveRow_of_nonneg ht.np_pos hnn (by have := ht.np_le_sp; omega)
  obtain ⟨h0, hi, hfr, hfree'⟩ := ht.freeRows.pop gt.blank hlive
  have hinvalid : t.validCell t.blank = false := by
    rw [Bool.eq_false_iff]; exact fun hv => Bool.false_ne_true (hfr.symm.trans (validCell_iff.1 hv).2.2)
  have hs : SetsRow t (addResult t nodes) t.blank nodes := ⟨h0, hi, rfl, rfl, rfl⟩
  refine .inr ⟨t, gt, heq, add_eq hg hnn, ?_, hs, hinvalid⟩
  refine ht.set hs hlen hfree' ?_ (fun _ => hnn) ?_
  · rw [show liveRow (t.row t.blank.toNat) = false from hfr, hlive]
    simp [addResult]
  · intro w c
    refine ((adjAddAll_spec _ t.adj t.blank hnn).2 w c).trans ?_
    rw [hlive]
    by_cases hc : c = t.blank
    · rw [if_pos hc, if_pos hc, hc, ht.adj w t.blank, hinvalid]; simp
    · rw [if_neg hc, if_neg hc, Nat.add_zero]

/-- the row `ref_cell_remove` leaves: not a cell, linking to `b` -/
theorem freed_row {r : List Int} {b : Int} (h : 2 ≤ r.length) :
    liveRow ((r.set 0 (-1)).set 1 b) = false ∧ ((r.set 0 (-1)).set 1 b).getD 1 (-1) = b := by
  match r, h with
  | a :: c :: rest, _ => simp [liveRow]

/-- the state after a successful `ref_cell_remove` -/
def removeResult (s : CellStore) (cell : Int) : CellStore :=
  { s with n := s.n - 1, adj := (adjRemoveAll s.adj (s.cellNodes cell) cell).2,
           c2n := s.c2n.set cell.toNat (((s.row cell.toNat).set 0 (-1)).set 1 s.blank), blank := cell }

theorem remove_eq {s : CellStore} (h : CellInv s) {cell : Int} (hv : s.validCell cell = true) :
    s.remove cell = (.ok, removeResult s cell) ∧
    ∀ w x, ((removeResult s cell).adj.first w).count x =
      (s.adj.first w).count x - (if x = cell then (s.cellNodes cell).count w else 0) := by
  have hpre : ∀ w, (s.cellNodes cell).count w ≤ (s.adj.first w).count cell := by
    intro w; rw [h.adj w cell, hv]; simp
  obtain ⟨hok, hcnt⟩ := adjRemoveAll_spec (s.cellNodes cell) s.adj cell hpre
  refine ⟨?_, hcnt⟩
  simp only [remove, hv, Bool.not_true, Bool.false_eq_true, if_false]
  simp only [cellNodes, row] at hok
  simp only [row, hok, ne_eq, not_true_eq_false, if_false]
  rfl

theorem remove_invalid {s : CellStore} {cell : Int} (hv : s.validCell cell = false) :
    s.remove cell = (.invalid, s) := by
  simp [remove, hv]

theorem remove_sets {s : CellStore} {cell : Int} (hv : s.validCell cell = true) :
    SetsRow s (removeResult s cell) cell (((s.row cell.toNat).set 0 (-1)).set 1 s.blank) :=
  ⟨(validCell_iff.1 hv).1, (validCell_iff.1 hv).2.1, rfl, rfl, rfl⟩

theorem remove_CellInv {s : CellStore} (h : CellInv s) {cell : Int} (hv : s.validCell cell = true) :
    (s.remove cell).1 = .ok ∧ CellInv (s.remove cell).2 := by
  obtain ⟨heq, hcnt⟩ := remove_eq h hv
  rw [heq]
  refine ⟨rfl, ?_⟩
  obtain ⟨h0, hlt, hlive, hrl⟩ := h.valid_row hv
  obtain ⟨hx, hg1⟩ := freed_row (r := s.row cell.toNat) (b := s.blank) (by have := h.two_le_sp; omega)
  have hfree' := h.freeRows.push hlt hlive hx hg1
  rw [Int.toNat_of_nonneg h0] at hfree'
  refine h.set (remove_sets hv) (by rw [List.length_set, List.length_set]; exact hrl) hfree' ?_
    (fun hl => by rw [hx] at hl; cases hl) ?_
  · rw [hx, hlive]
    simp [removeResult]
  · intro w c
    rw [hcnt w c, hx]
    by_cases hc : c = cell
    · rw [if_pos hc, if_pos hc, hc, h.adj w cell, hv]; simp
    · rw [if_neg hc, if_neg hc, Nat.sub_zero]

theorem mem_insertU {x y : Int} {l : List Int} : y ∈ insertU x l ↔ y = x ∨ y ∈ l := by
  fun_induction insertU x l with
  | case1 => simp
  | case2 z zs h => simp
  | case3 => simp
  | case4 z zs h1 h2 ih => rw [List.mem_cons, ih, List.mem_cons]; exact or_left_comm

theorem insertU_sorted {x : Int} {l : List Int} (h : l.Pairwise (· < ·)) : (insertU x l).Pairwise (· < ·) := by
  fun_induction insertU x l with
  | case1 => simp
  | case2 z zs hlt =>
    refine List.pairwise_cons.2 ⟨fun a ha => ?_, h⟩
    rcases List.mem_cons.1 ha with rfl | ha
    · exact hlt
    · have := (List.pairwise_cons.1 h).1 a ha; omega
  | case3 => exact h
  | case4 z zs hnlt hne ih =>
    obtain ⟨h1, h2⟩ := List.pairwise_cons.1 h
    refine List.pairwise_cons.2 ⟨fun a ha => ?_, ih h2⟩
    rcases mem_insertU.1 ha with rfl | ha
    · omega
    · exact h1 a ha

theorem mem_uniq {x : Int} : ∀ {l : List Int}, x ∈ uniq l ↔ x ∈ l
  | [] => by simp [uniq]
  | y :: ys => by
    have ih := mem_uniq (x := x) (l := ys)
    simp only [uniq, List.foldr_cons] at ih ⊢
    rw [mem_insertU, ih, List.mem_cons]

theorem uniq_sorted : ∀ (l : List Int), (uniq l).Pairwise (· < ·)
  | [] => by simp [uniq]
  | y :: ys => by
    have ih := uniq_sorted ys
    simp only [uniq, List.foldr_cons] at ih ⊢
    exact insertU_sorted ih

/-- `ref_sort_unique_int` is a canonical form of the *set* of entries -/
theorem uniq_eq_iff {a b : List Int} : uniq a = uniq b ↔ ∀ x, x ∈ a ↔ x ∈ b := by
  constructor
  · intro h x; rw [← mem_uniq (l := a), h, mem_uniq]
  · intro h
    apply ListFacts.pairwise_ext (fun _ _ h1 h2 => Int.lt_irrefl _ (Int.lt_trans h1 h2)) (uniq_sorted a) (uniq_sorted b)
    intro x; rw [mem_uniq, mem_uniq]; exact h x

theorem mem_first_iff {s : CellStore} (h : CellInv s) {v c : Int} :
    c ∈ s.adj.first v ↔ s.validCell c = true ∧ v ∈ s.cellNodes c := by
  rw [← List.count_pos_iff, h.adj v c]
  split
  next hv => rw [List.count_pos_iff]; simp [hv]
  next hv => simp [hv]

theorem withLoop_spec {s : CellStore} {target : List Int} (l : List Int) (hl : ∀ c ∈ l, s.validCell c = true) :
      (∃ c, withLoop s target l = (.ok, c) ∧ c ∈ l ∧ uniq (s.cellNodes c) = target) ∨
      (withLoop s target l = (.not_found, -1) ∧ ∀ c ∈ l, uniq (s.cellNodes c) ≠ target) := by
  fun_induction withLoop s target l with
  | case1 => exact Or.inr ⟨rfl, by simp⟩
  | case2 ref rest hv => exact absurd (hl ref (by simp)) (by simpa using hv)
  | case3 ref rest hv heq => exact Or.inl ⟨ref, rfl, by simp, heq⟩
  | case4 ref rest hv hne ih =>
    rcases ih (fun c hc => hl c (by simp [hc])) with ⟨c, h1, h2, h3⟩ | ⟨h1, h2⟩
    · exact Or.inl ⟨c, h1, by simp [h2], h3⟩
    · refine Or.inr ⟨h1, fun c hc => ?_⟩
      rcases List.mem_cons.1 hc with rfl | hc
      · exact hne
      · exact h2 c hc

/-- the state after one replace step, `ref_adj_remove; c2n[k] = new; ref_adj_add` -/
def replaced (s : CellStore) (cell : Int) (k : Nat) (new : Int) : CellStore :=
  { s with adj := ((s.adj.remove (s.c2nAt k cell.toNat) cell).2.add new cell).2,
           c2n := s.c2n.set cell.toNat ((s.row cell.toNat).set k new) }

/-- one replace step at position `k` of `cell`: both adjacency calls succeed and only that row changes.  `unlinks` is the
    termination measure of `replace_node`: the cell is unlinked once from the node that stood at position `k`. -/
structure ReplaceStep (s : CellStore) (cell : Int) (k : Nat) (new : Int) : Prop where
  removeOk : (s.adj.remove (s.c2nAt k cell.toNat) cell).1 = .ok
  addOk : ((s.adj.remove (s.c2nAt k cell.toNat) cell).2.add new cell).1 = .ok
  rewrites : Rewrites s (replaced s cell k new) cell
  row : (replaced s cell k new).row cell.toNat = (s.row cell.toNat).set k new
  unlinks : s.c2nAt k cell.toNat ≠ new → (replaced s cell k new).adj.first (s.c2nAt k cell.toNat) =
    (s.adj.first (s.c2nAt k cell.toNat)).erase cell

theorem replaced_spec {s : CellStore} (h : CellInv s) {cell : Int} (hv : s.validCell cell = true)
    {k : Nat} (hk : k < s.nodePer) {new : Int} (hnew : 0 ≤ new) : ReplaceStep s cell k new := by
  obtain ⟨hk', hget⟩ := cellNodes_getElem h hv hk
  have hmem : cell ∈ s.adj.first (s.c2nAt k cell.toNat) :=
    (mem_first_iff h).2 ⟨hv, by rw [← hget]; exact List.getElem_mem hk'⟩
  obtain ⟨hok1, hf1⟩ := Adj.remove_spec s.adj hmem
  obtain ⟨hok2, hf2⟩ := Adj.add_spec (s.adj.remove (s.c2nAt k cell.toNat) cell).2 hnew cell
  have hfirst : ∀ w, (replaced s cell k new).adj.first w =
      if w = new then cell :: (if w = s.c2nAt k cell.toNat then (s.adj.first w).erase cell else s.adj.first w)
      else (if w = s.c2nAt k cell.toNat then (s.adj.first w).erase cell else s.adj.first w) := by
    intro w
    refine (hf2 w).trans ?_
    rw [hf1 w]
    by_cases hwo : w = s.c2nAt k cell.toNat
    · subst hwo; simp
    · simp [hwo]
  obtain ⟨h0, hlt, hlive, hrl⟩ := h.valid_row hv
  have hx := liveRow_set hlive (k := k) (x := new) (fun _ => by omega)
  have hs : SetsRow s (replaced s cell k new) cell ((s.row cell.toNat).set k new) := ⟨h0, hlt, rfl, rfl, rfl⟩
  refine ⟨hok1, hok2, ⟨?_, hs.sameShape rfl hv hx, fun c hc => (hs.row c).trans (if_neg hc)⟩,
    (hs.row _).trans (if_pos rfl), fun hne => by rw [hfirst, if_neg hne, if_pos rfl]⟩
  refine h.set hs (by rw [List.length_set]; exact hrl) (h.freeRows.keep hlt hlive hx) ?_ ?_ ?_
  · simp [hx, hlive, replaced]
  · intro _ v hvm
    rw [List.take_set] at hvm
    rcases List.mem_or_eq_of_mem_set hvm with hvm | hvm
    · exact h.nonneg cell hv v hvm
    · omega
  · intro w c
    rw [hfirst w, count_ite_cons, count_ite_erase, hx, if_pos rfl, h.adj w c]
    by_cases hc : c = cell
    · subst hc
      have e1 : (s.c2nAt k c.toNat = w) ↔ (w = s.c2nAt k c.toNat) := eq_comm
      have e2 : (new = w) ↔ (w = new) := eq_comm
      rw [List.take_set, show (s.row c.toNat).take s.nodePer = s.cellNodes c from rfl, List.count_set hk', hget]
      simp only [hv, if_true, and_true, beq_iff_eq, e1, e2]
    · simp only [hc, and_false, if_false, Nat.sub_zero, Nat.add_zero]

theorem mapIdx_eq_self {r : List Int} {f : Nat → Int → Int} (h : ∀ j v, r[j]? = some v → f j v = v) :
    r.mapIdx f = r := by
  apply List.ext_getElem?
  intro j
  rw [List.getElem?_mapIdx]
  cases hr : r[j]? with
  | none => rfl
  | some v => exact congrArg some (h j v hr)

/-- substitute `old ↦ new` in the node entries `k ≤ j < node_per` of a row -/
def substFrom (np : Nat) (old new : Int) (k : Nat) (r : List Int) : List Int :=
  r.mapIdx fun j v => if k ≤ j ∧ j < np ∧ v = old then new else v

/-- substitute `old ↦ new` in the node entries of a row (the id entry is left alone) -/
def substRow (np : Nat) (old new : Int) (r : List Int) : List Int := substFrom np old new 0 r

theorem substFrom_set_hit {np : Nat} {old new : Int} {k : Nat} {r : List Int} (hk : k < r.length)
    (hnp : k < np) (hget : r.getD k (-1) = old) :
    substFrom np old new (k + 1) (r.set k new) = substFrom np old new k r := by
  apply List.ext_getElem?
  intro j
  simp only [substFrom, List.getElem?_mapIdx, List.getElem?_set]
  by_cases hkj : k = j
  · subst hkj
    have hr : r[k]? = some old := by
      rw [List.getElem?_eq_getElem hk]
      rw [List.getD_eq_getElem?_getD, List.getElem?_eq_getElem hk] at hget
      simpa using hget
    simp only [if_true, hk, hr, Option.map_some]
    have h1 : ¬ (k + 1 ≤ k) := by omega
    simp [h1, hnp]
  · simp only [hkj, if_false]
    cases hr : r[j]? with
    | none => rfl
    | some v =>
      simp only [Option.map_some]
      have : (k + 1 ≤ j) ↔ (k ≤ j) := by omega
      simp only [this]

theorem substFrom_skip {np : Nat} {old new : Int} {k : Nat} {r : List Int} (hget : r.getD k (-1) ≠ old) :
    substFrom np old new (k + 1) r = substFrom np old new k r := by
  apply List.ext_getElem?
  intro j
  simp only [substFrom, List.getElem?_mapIdx]
  cases hr : r[j]? with
  | none => rfl
  | some v =>
    refine congrArg some ?_
    by_cases hkj : k = j
    · subst hkj
      have hv : v ≠ old := by rw [List.getD_eq_getElem?_getD, hr] at hget; exact hget
      simp only [hv, and_false, if_false]
    · have : (k + 1 ≤ j) ↔ (k ≤ j) := by omega
      simp only [this]

theorem substFrom_top {np : Nat} {old new : Int} {k : Nat} {r : List Int} (h : np ≤ k) :
    substFrom np old new k r = r :=
  mapIdx_eq_self fun j v _ => if_neg (by omega)

/-- the last clause is the termination measure of the outer loop: every occurrence of `old` that is replaced unlinks
    one item of `old`'s adjacency list -/
theorem replaceInCell_spec {cell old new : Int} (hon : old ≠ new) (hnew : 0 ≤ new) (todo k : Nat) (s : CellStore)
    (h : CellInv s) (hv : s.validCell cell = true) (hk : k + todo = s.nodePer) :
      ∃ r, replaceInCell s cell old new todo k = (.ok, r) ∧ Rewrites s r cell ∧
        r.row cell.toNat = substFrom s.nodePer old new k (s.row cell.toNat) ∧
        (r.adj.first old).length + ((s.cellNodes cell).drop k).count old = (s.adj.first old).length := by
  fun_induction replaceInCell s cell old new todo k with
  | case1 s k => -- no position left
    refine ⟨s, rfl, .refl h cell, (substFrom_top (by omega)).symm, ?_⟩
    rw [List.drop_eq_nil_of_le (by rw [cellNodes_length h hv]; omega)]
    rfl
  | case2 s todo k c hold r hr => -- `old` at position `k`, `ref_adj_remove` fails: impossible
    subst hold
    exact absurd (replaced_spec h hv (by omega) hnew).removeOk hr
  | case3 s todo k c hold r hr s1 r2 hr2 => -- `ref_adj_add` fails: impossible
    subst hold
    exact absurd (replaced_spec h hv (by omega) hnew).addOk hr2
  | case4 s todo k c hold r hr s1 r2 hr2 ih => -- `old` at position `k` is replaced, the loop goes on from `replaced`
    obtain rfl : old = s.c2nAt k cell.toNat := hold
    rw [show ({ s1 with adj := r2.2 } : CellStore) = replaced s cell k new from rfl] at ih
    have hklt : k < s.nodePer := by omega
    obtain ⟨hk', hget⟩ := cellNodes_getElem h hv hklt
    have hkr : k < (s.row cell.toNat).length := by have := h.np_le_row hv; omega
    obtain ⟨-, -, hrw', hrow', hfirst'⟩ := replaced_spec h hv hklt hnew
    obtain ⟨r, hr, hrw, hrrow, hrlen⟩ :=
      ih hrw'.inv ((hrw'.shape.valid cell).trans hv) (by rw [hrw'.shape.np]; omega)
    refine ⟨r, hr, hrw'.trans hrw, ?_, ?_⟩
    · rw [hrrow, hrow', hrw'.shape.np]
      exact substFrom_set_hit hkr hklt rfl
    · have hnodes' : (replaced s cell k new).cellNodes cell = (s.cellNodes cell).set k new := by
        simp only [cellNodes, hrow']; exact List.take_set
      rw [hnodes', List.drop_set_of_lt (show k < k + 1 by omega)] at hrlen
      have hmem : cell ∈ s.adj.first (s.c2nAt k cell.toNat) :=
        (mem_first_iff h).2 ⟨hv, by rw [← hget]; exact List.getElem_mem hk'⟩
      rw [hfirst' hon, List.length_erase_of_mem hmem] at hrlen
      have hpos := List.length_pos_of_mem hmem
      rw [List.drop_eq_getElem_cons hk', hget, List.count_cons_self]
      omega
  | case5 s todo k c hold ih => -- position `k` holds another node
    obtain ⟨hk', hget⟩ := cellNodes_getElem h hv (show k < s.nodePer by omega)
    obtain ⟨r, hr, hrw, hrrow, hrlen⟩ := ih h hv (by omega)
    refine ⟨r, hr, hrw, ?_, ?_⟩
    · rw [hrrow]
      exact substFrom_skip (fun e => hold e.symm)
    · rw [List.drop_eq_getElem_cons hk', hget, List.count_cons_of_ne (fun e => hold e.symm)]
      exact hrlen

theorem substRow_idem {np : Nat} {old new : Int} (hon : old ≠ new) (r : List Int) :
    substRow np old new (substRow np old new r) = substRow np old new r := by
  apply List.ext_getElem?
  intro j
  simp only [substRow, substFrom, List.getElem?_mapIdx]
  cases hr : r[j]? with
  | none => rfl
  | some v =>
    simp only [Option.map_some, Nat.zero_le, true_and]
    by_cases h : j < np ∧ v = old
    · have : ¬ (new = old) := fun e => hon e.symm
      simp [h, this]
    · simp [h]

theorem substRow_of_not_mem {np : Nat} {old new : Int} {r : List Int} (h : old ∉ r.take np) :
    substRow np old new r = r :=
  mapIdx_eq_self fun j v hr => if_neg fun ⟨_, h1, h2⟩ => by
    obtain ⟨hj, hv⟩ := List.getElem?_eq_some_iff.1 hr
    exact h (List.mem_take_iff_getElem.2 ⟨j, by rw [Nat.lt_min]; exact ⟨h1, hj⟩, by rw [hv, h2]⟩)

theorem substRow_self {np : Nat} {old : Int} (r : List Int) : substRow np old old r = r :=
  mapIdx_eq_self fun j v _ => by
    by_cases h : 0 ≤ j ∧ j < np ∧ v = old
    · rw [if_pos h, h.2.2]
    · rw [if_neg h]

/-- the outer loop.  Invariant: a row of the current state and the same row of the start state agree up to the
    substitution still to be done (`substRow` of both is the same); rows of invalid cells are not touched. -/
theorem replaceNodeLoop_spec {old new : Int} (hon : old ≠ new) (hnew : 0 ≤ new) (fuel : Nat) (s : CellStore)
    (h : CellInv s) (hlen : (s.adj.first old).length ≤ fuel) :
      ∃ r, replaceNodeLoop old new fuel s = some (.ok, r) ∧ CellInv r ∧ SameShape s r ∧
        r.adj.first old = [] ∧
        ∀ c : Nat, substRow s.nodePer old new (r.row c) = substRow s.nodePer old new (s.row c) ∧
          (s.validCell (c : Int) = false → r.row c = s.row c) := by
  fun_induction replaceNodeLoop old new fuel s with
  | case1 s he => -- fuel 0, `old`'s list empty
    exact ⟨s, rfl, h, .refl s, List.isEmpty_iff.1 he, fun c => ⟨rfl, fun _ => rfl⟩⟩
  | case2 s he => -- fuel 0, list not empty: excluded by `hlen`
    exact absurd (List.isEmpty_iff.2 (List.length_eq_zero_iff.1 (by omega))) he
  | case3 fuel s hl => -- list empty: done
    exact ⟨s, rfl, h, .refl s, hl, fun c => ⟨rfl, fun _ => rfl⟩⟩
  | case4 fuel s cell rest hl r hr => -- the inner loop fails: impossible
    obtain ⟨hv, -⟩ := (mem_first_iff h).1 (show cell ∈ s.adj.first old by rw [hl]; simp)
    obtain ⟨r1, hr1, -⟩ := replaceInCell_spec hon hnew s.nodePer 0 s h hv (by omega)
    exact absurd (congrArg Prod.fst hr1) hr
  | case5 fuel s cell rest hl r hr ih => -- the first cell of the list is rewritten, the list gets shorter
    obtain ⟨hv, hin⟩ := (mem_first_iff h).1 (show cell ∈ s.adj.first old by rw [hl]; simp)
    obtain ⟨r1, hr1, ⟨hinv1, hshape1, hrows1⟩, hrow1, hlen1⟩ :=
      replaceInCell_spec hon hnew s.nodePer 0 s h hv (by omega)
    have hcnt : 0 < (s.cellNodes cell).count old := List.count_pos_iff.2 hin
    rw [List.drop_zero] at hlen1
    rw [show r = (.ok, r1) from hr1] at ih ⊢
    obtain ⟨r, hr, hrinv, hrshape, hrnil, hrrel⟩ := ih hinv1 (show (r1.adj.first old).length ≤ fuel by omega)
    refine ⟨r, hr, hrinv, hshape1.trans hrshape, hrnil, fun c => ?_⟩
    obtain ⟨hc1, hc2⟩ := hrrel c
    rw [hshape1.np] at hc1
    by_cases hcc : c = cell.toNat
    · subst hcc
      refine ⟨?_, fun hf => ?_⟩
      · rw [hc1, hrow1, ← substRow]
        exact substRow_idem hon _
      · rw [Int.toNat_of_nonneg (validCell_iff.1 hv).1, hv] at hf
        cases hf
    · rw [hrows1 c hcc] at hc1
      exact ⟨hc1, fun hf => by rw [hc2 (by rw [hshape1.valid]; exact hf), hrows1 c hcc]⟩

/-- `ref_cell_replace_node` terminates (the fuel of the model's loop, the length of `old`'s adjacency
    list, is never exhausted) and equals "substitute `old ↦ new` in the node entries of every valid cell" -/
theorem replaceNode_spec {s : CellStore} (h : CellInv s) (old : Int) {new : Int} (hnew : 0 ≤ new) :
    ∃ r, s.replaceNode old new = some (.ok, r) ∧ CellInv r ∧ SameShape s r ∧
      ∀ c : Nat, r.row c =
        if s.validCell (c : Int) = true then substRow s.nodePer old new (s.row c) else s.row c := by
  by_cases hon : old = new
  · subst hon
    refine ⟨s, by simp [replaceNode], h, SameShape.refl s, ?_⟩
    intro c; split
    · exact (substRow_self _).symm
    · rfl
  · obtain ⟨r, hr, hrinv, hrshape, hrnil, hrrel⟩ :=
      replaceNodeLoop_spec hon hnew (s.adj.first old).length s h (Nat.le_refl _)
    refine ⟨r, by simp only [replaceNode, hon, if_false]; exact hr, hrinv, hrshape, ?_⟩
    intro c
    obtain ⟨hc1, hc2⟩ := hrrel c
    split
    next hv =>
      have hvr : r.validCell (c : Int) = true := by rw [hrshape.valid]; exact hv
      have hnot : old ∉ r.cellNodes (c : Int) := by
        intro hm
        have := (mem_first_iff hrinv).2 ⟨hvr, hm⟩
        rw [hrnil] at this
        simp at this
      simp only [cellNodes, Int.toNat_natCast, hrshape.np] at hnot
      rw [← hc1, substRow_of_not_mem hnot]
    next hv =>
      exact hc2 (by simpa using hv)

/-- the loop invariant of `replace_whole`: with the first `k` entries already those of `m`, writing `m[k]`
    makes it `k + 1` -/
theorem take_succ_set {l m : List Int} {k : Nat} (h : l.take k = m.take k) (hl : k < l.length)
    (hm : k < m.length) : (l.set k (m.getD k (-1))).take (k + 1) = m.take (k + 1) := by
  rw [List.take_add_one, List.take_add_one, List.take_set_of_le (Nat.le_refl k), h, List.getElem?_set_self hl,
    List.getD_eq_getElem?_getD, List.getElem?_eq_getElem hm]
  rfl

theorem replaceWholeLoop_spec {cell : Int} {nodes : List Int} (todo k : Nat) (s : CellStore)
    (h : CellInv s) (hv : s.validCell cell = true) (hk : k + todo = s.nodePer)
    (hnn : ∀ j, j < s.nodePer → 0 ≤ nodes.getD j (-1)) (hlen : s.nodePer ≤ nodes.length)
    (htake : (s.row cell.toNat).take k = nodes.take k) :
      ∃ r, replaceWholeLoop s cell nodes todo k = (.ok, r) ∧ Rewrites s r cell ∧
        (r.row cell.toNat).take s.nodePer = nodes.take s.nodePer := by
  fun_induction replaceWholeLoop s cell nodes todo k with
  | case1 s k => exact ⟨s, rfl, .refl h cell, by rw [← hk]; exact htake⟩
  | case2 s todo k c r hr => -- `ref_adj_remove` fails: impossible
    exact absurd (replaced_spec h hv (by omega) (hnn k (by omega))).removeOk hr
  | case3 s todo k c r hr v s1 r2 hr2 => -- `ref_adj_add` fails: impossible
    exact absurd (replaced_spec h hv (by omega) (hnn k (by omega))).addOk hr2
  | case4 s todo k c r hr v s1 r2 hr2 ih => -- position `k` is written, the loop goes on from `replaced`
    have hklt : k < s.nodePer := by omega
    have hkr : k < (s.row cell.toNat).length := by have := h.np_le_row hv; omega
    obtain ⟨-, -, hrw', hrow', -⟩ := replaced_spec h hv hklt (hnn k hklt)
    obtain ⟨r, hr, hrw, hrrow⟩ :=
      ih hrw'.inv ((hrw'.shape.valid cell).trans hv) (show k + 1 + todo = s.nodePer by omega) hnn hlen
        (hrow'.symm ▸ take_succ_set htake hkr (by omega))
    exact ⟨r, hr, hrw'.trans hrw, hrrow⟩

/-- writing an entry at a position `≥ node_per` (the id) of a valid cell changes no cell -/
theorem setId_rewrites {t u : CellStore} (h : CellInv t) {cell : Int} (hv : t.validCell cell = true)
    {p : Nat} (hp : t.nodePer ≤ p) {x : Int} (hs : SetsRow t u cell ((t.row cell.toNat).set p x))
    (hbl : u.blank = t.blank) (hn : u.n = t.n) (hadj : u.adj = t.adj) :
    Rewrites t u cell := by
  obtain ⟨h0, hlt, hlive, hrl⟩ := h.valid_row hv
  have hx := liveRow_set hlive (k := p) (x := x) (fun e => by have := h.np_pos; omega)
  refine ⟨?_, hs.sameShape hn hv hx, fun c hc => (hs.row c).trans (if_neg hc)⟩
  refine h.set hs (by rw [List.length_set]; exact hrl)
    (by rw [hs.c2n, hbl]; exact h.freeRows.keep hlt hlive hx) ?_ ?_ ?_
  · simp [hx, hlive, hn]
  · intro _ v hvm
    rw [List.take_set_of_le hp] at hvm
    exact h.nonneg cell hv v hvm
  · intro w c
    rw [hadj, hx, if_pos rfl, List.take_set_of_le hp]
    by_cases hc : c = cell
    · rw [if_pos hc, hc, h.adj w cell, hv]; rfl
    · rw [if_neg hc]

theorem replaceWhole_spec {s : CellStore} (h : CellInv s) {cell : Int} (hv : s.validCell cell = true)
    {nodes : List Int} (hlen : nodes.length = s.sizePer) (hnn : ∀ v ∈ nodes.take s.nodePer, 0 ≤ v) :
    ∃ r, s.replaceWhole cell nodes = (.ok, r) ∧ Rewrites s r cell ∧ r.row cell.toNat = nodes := by
  have hle : s.nodePer ≤ nodes.length := by have := h.np_le_sp; omega
  have hnn' : ∀ j, j < s.nodePer → 0 ≤ nodes.getD j (-1) := fun j hj => hnn _ (by
    rw [← ListFacts.getD_take nodes (-1) hj]; exact ListFacts.getD_mem (by rw [List.length_take]; omega))
  obtain ⟨r, hr, hrw, hrrow⟩ := replaceWholeLoop_spec s.nodePer 0 s h hv (by omega) hnn' hle rfl
  have hrinv := hrw.inv
  have hrshape := hrw.shape
  have hvr : r.validCell cell = true := by rw [hrshape.valid]; exact hv
  obtain ⟨h0, hltr, -, hrl⟩ := hrinv.valid_row hvr
  rw [hrshape.sp] at hrl
  simp only [replaceWhole, hv, Bool.not_true, Bool.false_eq_true, if_false, hr, ne_eq, not_true_eq_false]
  by_cases hid : s.sizePer > s.nodePer
  · -- the id entry is written after the loop
    simp only [hid, if_true]
    have hsp1 : s.sizePer - 1 = s.nodePer := by have := h.sp_le; omega
    have hrw2 := setId_rewrites (t := r)
      (u := { r with c2n := r.c2n.set cell.toNat ((r.row cell.toNat).set (s.sizePer - 1)
        (nodes.getD (s.sizePer - 1) (-1))) }) hrinv hvr (p := s.sizePer - 1)
      (by rw [hrshape.np]; omega) ⟨h0, hltr, rfl, rfl, rfl⟩ rfl rfl rfl
    refine ⟨_, rfl, hrw.trans hrw2, ?_⟩
    · simp only [row, ListFacts.getD_set_self _ _ _ hltr]
      have := take_succ_set (l := r.row cell.toNat) hrrow (by omega) (by omega)
      rw [hsp1]
      rw [List.take_of_length_le (by rw [List.length_set]; omega), List.take_of_length_le (by omega)] at this
      exact this
  · simp only [hid, if_false]
    refine ⟨r, rfl, hrw, ?_⟩
    rw [List.take_of_length_le (by omega), List.take_of_length_le (by omega)] at hrrow
    exact hrrow

theorem count_map_const {α} (l : List α) (cell c : Int) :
    (l.map fun _ => cell).count c = if cell = c then l.length else 0 := by
  induction l with
  | nil => simp
  | cons a rest ih =>
    simp only [List.map_cons, List.count_cons, ih, List.length_cons]
    by_cases h : cell = c
    · simp [h]
    · simp [h]

theorem filter_range_count (r : List Int) (x : Int) :
    ∀ np, np ≤ r.length →
      ((List.range np).filter fun k => x == r.getD k (-1)).length = (r.take np).count x := by
  intro np
  induction np with
  | zero => intro _; simp
  | succ np ih =>
    intro hle
    have hlt : np < r.length := by omega
    rw [List.range_succ, List.filter_append, List.length_append, ih (by omega), List.take_add_one,
      List.count_append, List.getElem?_eq_getElem hlt]
    have hg : r.getD np (-1) = r[np] := by simp [List.getD_eq_getElem?_getD, hlt]
    simp only [List.filter_cons, List.filter_nil, hg, Option.toList_some, List.count_cons, List.count_nil,
      Nat.zero_add]
    by_cases h : x = r[np]
    · subst h; simp
    · have h' : ¬ (r[np] = x) := fun e => h e.symm
      simp [h, h']

theorem count_flatMap_having (l : List Int) (f : Int → List Int) (m : Int → Nat) (c : Int)
    (hf : ∀ cell, (f cell).count c = if cell = c then m cell else 0) :
    (l.flatMap f).count c = l.count c * m c := by
  induction l with
  | nil => simp
  | cons a rest ih =>
    rw [List.flatMap_cons, List.count_append, ih, hf a, List.count_cons]
    by_cases h : a = c
    · subst h; simp [Nat.add_mul]; omega
    · simp [h]

/-- `each_ref_cell_having_node2(node0,node1)` reports every valid cell once per pair
    (occurrence of `node0`, occurrence of `node1`): the multiset behind `degree_with2` and `list_with2` -/
theorem having2_count {s : CellStore} (h : CellInv s) (n0 n1 c : Int) :
    (s.having2 n0 n1).count c =
      if s.validCell c = true then (s.cellNodes c).count n0 * (s.cellNodes c).count n1 else 0 := by
  unfold having2
  rw [count_flatMap_having (s.adj.first n0) _
    (fun cell => ((List.range s.nodePer).filter fun k => n1 == s.c2nAt k cell.toNat).length) c
    (fun cell => count_map_const _ cell c), h.adj n0 c]
  split
  next hv =>
    have := filter_range_count (s.row c.toNat) n1 s.nodePer (h.np_le_row hv)
    simp only [c2nAt, cellNodes] at this ⊢
    rw [this]
  · simp

end CellStore

end Refine.Model.CellStore
