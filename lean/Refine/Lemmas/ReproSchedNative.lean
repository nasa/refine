import Refine.Lemmas.ReproSched
import Refine.Lemmas.ContainersSortDbl

/-!
  The hypotheses of `p2pSched_congr` for the worlds refine posts.  At most one message per (source, dest, tag)
  (`allMsgs_nodup`) because every rank's sends go to distinct (dest, tag): in `ref_mpi_alltoallv_native` there is one
  message per part of positive size (`sendMsgs_eq`).  Its receives address consecutive, hence pairwise disjoint, regions of
  the receive buffer (`recvReqs_ok`).  Both are shown for the request lists of the error-free loops (`recvReqs`,
  `sendMsgs`); what a rank has posted when a check stops it is a sublist of them (`nativePost_partOf`).
-/
namespace Refine.Model.ReproSched
open Refine.Model.Comm Refine.Lemmas.Comm

variable {α : Type}

theorem allMsgsFrom_eq (r0 : Nat) (w : World (Posted α)) :
    allMsgsFrom r0 w = (w.mapIdx fun i p => msgsOf (r0 + i) p).flatten := by
  fun_induction allMsgsFrom r0 w
  case case1 => rfl
  case case2 r p ps ih =>
    rw [ih, List.mapIdx_cons, List.flatten_cons]
    simp only [Nat.add_zero, Nat.add_comm _ 1, ← Nat.add_assoc]

theorem allMsgs_nodup (w : World (Posted α)) (h : ∀ p ∈ w, (p.msgs.map fun m => (m.dest, m.tag)).Nodup) :
    ((allMsgs w).map key3).Nodup := by
  rw [allMsgs, allMsgsFrom_eq, List.map_flatten, ListFacts.map_mapIdx, ListFacts.nodup_flatten_iff]
  constructor
  · intro l hl
    obtain ⟨i, hi, rfl⟩ := List.mem_mapIdx.1 hl
    unfold msgsOf
    have := (h _ (List.getElem_mem hi)).map (f := Prod.mk ((0 + i : Nat) : Int)) fun _ _ e => (Prod.mk.inj e).2
    rwa [List.map_map] at this ⊢
  · intro i j hi hj x hx hy
    simp only [List.getElem_mapIdx, msgsOf, List.map_map, List.mem_map, Function.comp, key3] at hx hy
    obtain ⟨a, _, rfl⟩ := hx
    obtain ⟨b, _, hb⟩ := hy
    have := (Prod.mk.inj hb).1
    omega

theorem fifoEq_of_perm_allMsgs {w : World (Posted α)} {a1 a2 : List (Env α)} (h1 : a1.Perm (allMsgs w))
    (h2 : a2.Perm (allMsgs w)) (h : ∀ p ∈ w, (p.msgs.map fun m => (m.dest, m.tag)).Nodup) : FifoEq a1 a2 :=
  fifoEq_of_perm_nodup (h1.trans h2.symm) ((h2.map key3).nodup_iff.2 (allMsgs_nodup w h))

theorem nodup_map_of_pairwise_ne {β γ ι : Type} (g : β → γ) (f : β → ι) (hg : ∀ a b, g a = g b → f a = f b)
    (l : List β) (h : l.Pairwise (fun a b => f a ≠ f b)) : (l.map g).Nodup := by
  unfold List.Nodup
  rw [List.pairwise_map]
  exact h.imp fun hab heq => hab (hg _ _ heq)

theorem nativePost_msgs_nodup (ty : RefType) (np maxTag rank n : Int) (a : A2A α) :
    ((nativePost ty np maxTag rank n a).msgs.map fun m => (m.dest, m.tag)).Nodup := by
  refine ((nativePost_partOf ty np maxTag rank n a).msgs.map _).nodup ?_
  show ((sendMsgs np rank n a.send 0 0 a.sendSize).map _).Nodup
  rw [sendMsgs_eq, List.map_map]
  exact (List.nodup_range.filter _).map_on fun i _ j _ h => Int.natCast_inj.mp (Prod.mk.inj h).1

theorem nativePost_rcvs_nodup (ty : RefType) (np maxTag rank n : Int) (a : A2A α) :
    ((nativePost ty np maxTag rank n a).rcvs.map fun rq => (rq.source, rq.tag)).Nodup := by
  refine ((nativePost_partOf ty np maxTag rank n a).rcvs.map _).nodup ?_
  show ((recvReqs np rank n 0 0 a.recvSize).map _).Nodup
  rw [recvReqs_eq, List.map_map]
  exact (List.nodup_range.filter _).map_on fun i _ j _ h => Int.natCast_inj.mp (Prod.mk.inj h).1

theorem recvReqs_ok (np rank n : Int) (hn : 0 ≤ n) : ∀ (sizes : List Int) (part off : Int), (∀ s ∈ sizes, 0 ≤ s) →
    (∀ rq ∈ recvReqs np rank n part off sizes,
      off ≤ rq.off ∧ 0 ≤ rq.cnt ∧ rq.off + rq.cnt ≤ off + n * sizes.sum) ∧
    (recvReqs np rank n part off sizes).Pairwise (fun a b => a.off + a.cnt ≤ b.off)
  | [], _, _, _ => by simp [recvReqs, posts]
  | sz :: rest, part, off, hs => by
    have hmul : 0 ≤ n * sz := Int.mul_nonneg hn (hs sz List.mem_cons_self)
    have hrest : ∀ s ∈ rest, 0 ≤ s := fun s h => hs s (List.mem_cons_of_mem _ h)
    have hsum : 0 ≤ n * rest.sum := Int.mul_nonneg hn (sum_nonneg_int rest hrest)
    have hexp : n * (sz :: rest).sum = n * sz + n * rest.sum := by rw [List.sum_cons, Int.mul_add]
    obtain ⟨ih1, ih2⟩ := recvReqs_ok np rank n hn rest (part + 1) (off + n * sz) hrest
    have ih1' : ∀ rq ∈ recvReqs np rank n (part + 1) (off + n * sz) rest,
        off + n * sz ≤ rq.off ∧ 0 ≤ rq.cnt ∧ rq.off + rq.cnt ≤ off + n * (sz :: rest).sum := fun rq h => by
      obtain ⟨a, b, c⟩ := ih1 rq h
      exact ⟨a, b, by omega⟩
    unfold recvReqs posts
    split
    · refine ⟨fun rq h => ?_, List.pairwise_cons.mpr ⟨fun rq h => (ih1' rq h).1, ih2⟩⟩
      rcases List.mem_cons.mp h with rfl | h
      · exact ⟨Int.le_refl _, hmul, by show off + n * sz ≤ _; omega⟩
      · obtain ⟨a, b, c⟩ := ih1' rq h
        exact ⟨by omega, b, c⟩
    · exact ⟨fun rq h => by obtain ⟨a, b, c⟩ := ih1' rq h; exact ⟨by omega, b, c⟩, ih2⟩

theorem nativePost_recvsOk (ty : RefType) (np maxTag rank n : Int) (hn : 0 ≤ n) (a : A2A α)
    (hs : ∀ s ∈ a.recvSize, 0 ≤ s) (hlen : n * a.recvSize.sum ≤ (a.recv.length : Int)) :
    RecvsOk (nativePost ty np maxTag rank n a).buf.length (nativePost ty np maxTag rank n a).rcvs := by
  have hpart := nativePost_partOf ty np maxTag rank n a
  have hbuf : (nativePost ty np maxTag rank n a).buf = a.recv := hpart.buf
  have hr := hpart.rcvs
  obtain ⟨h1, h2⟩ := recvReqs_ok np rank n hn a.recvSize 0 0 hs
  rw [hbuf]
  refine ⟨fun rq hrq => ?_, (h2.sublist hr).imp Or.inl⟩
  obtain ⟨x, y, z⟩ := h1 rq (hr.subset hrq)
  exact ⟨x, y, by omega⟩

theorem permOf_perm (seed n : Nat) : (permOf seed n).Perm (List.range n) :=
  Refine.Model.Sort.shuffle_perm n _

theorem filterMap_getElem?_range {β : Type} : ∀ (l : List β), (List.range l.length).filterMap (fun i => l[i]?) = l
  | [] => rfl
  | x :: xs => by
    rw [List.length_cons, List.range_succ_eq_map, List.filterMap_cons]
    simp only [List.getElem?_cons_zero, List.filterMap_map]
    congr 1
    have : ((fun i => (x :: xs)[i]?) ∘ Nat.succ) = fun i => xs[i]? := by funext i; simp
    rw [this]; exact filterMap_getElem?_range xs

theorem shuffled_perm {β : Type} (seed : Nat) (l : List β) : (shuffled seed l).Perm l := by
  unfold shuffled
  have := (permOf_perm seed l.length).filterMap (fun i => l[i]?)
  rw [filterMap_getElem?_range] at this
  exact this

end Refine.Model.ReproSched
