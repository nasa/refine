import Refine.Lemmas.CommBuffer
import Refine.Lemmas.CommOrder
import Refine.Lemmas.ListFacts
import Refine.Lemmas.FoldMin
import Mathlib.Data.Prod.Lex

/-!
  Reductions of `ref_mpi.c` (`ref_mpi_sum/allsum/min/max/allminwho`): the element-wise `MPI_Reduce`
  in rank order equals the column-wise fold; integer sums; `MPI_MIN`, `MPI_MAX` and `MPI_MINLOC` are `min` of a linear
  order (the order, its dual, the lexicographic order on (value, rank)), so their folds are `FoldMin.foldl_min_isLeast`.
-/
namespace Refine.Lemmas.Comm
open Refine.Model.Comm

variable {β : Type}

/-- `MPI_Reduce` on vectors, folded in rank order, is the fold of every column -/
theorem foldl_zipWith_col (op : β → β → β) (n : Nat) (d : β) (xs : List (List β)) (acc : List β)
    (hacc : acc.length = n) (hx : ∀ y ∈ xs, y.length = n) :
    xs.foldl (fun a y => List.zipWith op a (y.take n)) acc
      = (List.range n).map fun i => xs.foldl (fun a y => op a (y.getD i d)) (acc.getD i d) := by
  induction xs generalizing acc with
  | nil => exact hacc ▸ ListFacts.map_getD_range.symm
  | cons y ys ih =>
    have hy : y.length = n := hx y List.mem_cons_self
    have hlen : (List.zipWith op acc (y.take n)).length = n := by
      rw [List.length_zipWith, List.length_take]; omega
    rw [List.foldl_cons, ih _ hlen (fun z hz => hx z (List.mem_cons_of_mem _ hz))]
    apply List.map_congr_left
    intro i hi
    have hi' := List.mem_range.mp hi
    rw [List.foldl_cons]
    congr 1
    have h1 : i < acc.length := by omega
    have h2 : i < (y.take n).length := by rw [List.length_take]; omega
    have h3 : i < y.length := by omega
    simp [List.getD_eq_getElem?_getD, h1, h3, hi']

theorem mpiReduce_col (op : β → β → β) (n : Nat) (d : β) (x : List β) (xs : List (List β))
    (hx : ∀ y ∈ x :: xs, y.length = n) :
    mpiReduce op n (x :: xs)
      = (List.range n).map fun i => xs.foldl (fun a y => op a (y.getD i d)) (x.getD i d) := by
  have hx0 : x.length = n := hx x List.mem_cons_self
  simp only [mpiReduce]
  rw [foldl_zipWith_col op n d xs (x.take n) (by rw [List.length_take]; omega)
    (fun y hy => hx y (List.mem_cons_of_mem _ hy))]
  apply List.map_congr_left
  intro i hi
  rw [List.take_of_length_le (by omega)]

def vecSum (n : Nat) (w : World (List Int)) : List Int :=
  (List.range n).map fun i => (w.map fun v => v.getD i 0).sum

theorem foldl_add_col (xs : List (List Int)) (i : Nat) (a : Int) :
    xs.foldl (fun a y => a + y.getD i 0) a = a + (xs.map fun v => v.getD i 0).sum := by
  induction xs generalizing a with
  | nil => simp
  | cons y ys ih => rw [List.foldl_cons, ih]; simp only [List.map_cons, List.sum_cons]; omega

theorem length_vecSum (n : Nat) (w : World (List Int)) : (vecSum n w).length = n := by simp [vecSum]

/-- `ref_mpi_sum`, any number of ranks (one rank: the copy path, `mpiReduce` of one vector being that vector):
    rank 0's output receives the reduction, the others keep theirs -/
theorem sum_eq (add : β → β → β) (ty : RefType) (hty : ty.ild = true) (n : Nat) (x0 : List β × List β)
    (xs : List (List β × List β)) :
    sum add ty n (x0 :: xs)
      = (Status.ok, writeAt x0.2 0 (mpiReduce add n ((x0 :: xs).map (·.1)))) :: xs.map fun x => (Status.ok, x.2) := by
  cases xs with
  | nil => simp [sum, hty, mpiReduce]
  | cons x1 xs =>
    have hn : ¬ ((x0 :: x1 :: xs).length ≤ 1) := by simp
    unfold sum
    simp only [hn, if_false, mpiOk_of_ild hty, Bool.not_true, Bool.false_eq_true, List.mapIdx_cons, if_true,
      Nat.succ_ne_zero]
    congr 2
    exact mapIdx_eq_map fun _ _ => rfl

theorem mpiReduce_add (n : Nat) (v0 : List Int) (vs : List (List Int)) (hlen : ∀ v ∈ v0 :: vs, v.length = n) :
    mpiReduce (· + ·) n (v0 :: vs) = vecSum n (v0 :: vs) := by
  rw [mpiReduce_col (· + ·) n 0 v0 vs hlen]
  unfold vecSum
  apply List.map_congr_left
  intro i _
  rw [foldl_add_col]
  simp

theorem reduce1_head {ι : Type} (pick : ι → ι → ι) (ty : RefType) (hty : ty.id = true) (x : ι × ι) (xs : List (ι × ι)) :
    (reduce1 pick ty (x :: xs)).head? = some (Status.ok, (xs.map (·.1)).foldl pick x.1) := by
  have hmpi := mpiOk_of_ild (ild_of_id hty)
  rw [List.foldl_map]
  unfold reduce1
  cases xs with
  | nil => simp [hty]
  | cons y ys =>
    have hn : ¬ ((x :: y :: ys).length ≤ 1) := by simp
    simp only [hn, if_false, hmpi, Bool.not_true, Bool.false_eq_true, List.mapIdx_cons, List.head?_cons, if_true]

section Order
variable {γ : Type} [LinearOrder γ]

theorem pickMin_eq : pickMin (ltB (γ := γ)) = min := by
  funext a b
  unfold pickMin ltB
  by_cases h : b < a
  · simp only [h, decide_true, if_true]; exact (min_eq_right h.le).symm
  · simp only [h, decide_false, Bool.false_eq_true, if_false]; exact (min_eq_left (not_lt.mp h)).symm

theorem pickMax_eq : pickMax (ltB (γ := γ)) = max := by
  funext a b
  unfold pickMax ltB
  by_cases h : a < b
  · simp only [h, decide_true, if_true]; exact (max_eq_right h.le).symm
  · simp only [h, decide_false, Bool.false_eq_true, if_false]; exact (max_eq_left (not_lt.mp h)).symm

/-- the order "by value, ties by rank" of `MPI_MINLOC`, spelt out (`lexLe_iff`: it is Mathlib's `γ ×ₗ ℤ`) -/
def lexLe (a b : γ × Int) : Prop := a.1 < b.1 ∨ (a.1 = b.1 ∧ a.2 ≤ b.2)

theorem lexLe_iff (a b : γ × Int) : lexLe a b ↔ toLex a ≤ toLex b := Prod.Lex.toLex_le_toLex.symm

theorem minloc_eq_min (a b : γ × Int) : toLex (minloc ltB a b) = min (toLex a) (toLex b) := by
  unfold minloc ltB
  by_cases h1 : a.1 < b.1
  · simp only [h1, decide_true, if_true]
    exact (min_eq_left (Prod.Lex.toLex_le_toLex.mpr (Or.inl h1))).symm
  · by_cases h2 : b.1 < a.1
    · simp only [h1, h2, decide_false, decide_true, Bool.false_eq_true, if_false, if_true]
      exact (min_eq_right (Prod.Lex.toLex_le_toLex.mpr (Or.inl h2))).symm
    · -- equal values: the smaller rank
      have e : a.1 = b.1 := le_antisymm (not_lt.mp h2) (not_lt.mp h1)
      simp only [h1, h2, decide_false, Bool.false_eq_true, if_false]
      rcases le_total a.2 b.2 with h | h
      · rw [min_eq_left h, min_eq_left (Prod.Lex.toLex_le_toLex.mpr (Or.inr ⟨e, h⟩))]
      · rw [min_eq_right h, min_eq_right (Prod.Lex.toLex_le_toLex.mpr (Or.inr ⟨e.symm, h⟩))]
        exact congrArg toLex (Prod.ext e rfl)

theorem toLex_foldl_minloc {δ : Type} (f : δ → γ × Int) (xs : List δ) (a : γ × Int) :
    toLex (xs.foldl (fun acc y => minloc ltB acc (f y)) a) = (xs.map fun y => toLex (f y)).foldl min (toLex a) := by
  induction xs generalizing a with
  | nil => rfl
  | cons y ys ih => rw [List.foldl_cons, ih, minloc_eq_min]; rfl

/-- what the ranks hand to `MPI_Reduce(…, MPI_MINLOC)`: every value paired with the rank -/
def tagged (n : Nat) (W : List (List γ)) : List (List (γ × Int)) :=
  W.mapIdx fun r v => (v.take n).map fun x => (x, (r : Int))

omit [LinearOrder γ] in
theorem tagged_getElem (d : γ) (n : Nat) (W : List (List γ)) (hlen : ∀ v ∈ W, v.length = n) (r : Nat)
    (hr : r < (tagged n W).length) (i : Nat) (hi : i < n) :
    (tagged n W)[r].getD i (d, 0) = ((W.getD r []).getD i d, (r : Int)) := by
  have hr' : r < W.length := by simpa [tagged] using hr
  have hl : W[r].length = n := hlen _ (List.getElem_mem hr')
  simp only [tagged, List.getElem_mapIdx]
  rw [ListFacts.getD_eq_getElem hr', List.take_of_length_le (by omega),
    ListFacts.getD_map_of_lt d (by omega)]

omit [LinearOrder γ] in
theorem tagged_row (n : Nat) (W : List (List γ)) (hlen : ∀ v ∈ W, v.length = n) :
    ∀ y ∈ tagged n W, y.length = n := by
  intro y hy
  obtain ⟨r, hr, rfl⟩ := List.mem_mapIdx.mp hy
  rw [List.length_map, List.length_take, hlen _ (List.getElem_mem hr), Nat.min_self]

/-- per component, `MPI_MINLOC` returns the least of the ranks' (value, rank) pairs in the lexicographic order; `t` is
    the rank it came from -/
theorem minloc_col (d : γ) (n : Nat) (v0 : List γ) (vs : List (List γ)) (hlen : ∀ v ∈ v0 :: vs, v.length = n)
    (i : Nat) (hi : i < n) :
    ∃ t, t < (v0 :: vs).length ∧
      (mpiReduce (minloc ltB) n (tagged n (v0 :: vs))).getD i (d, 0) = (((v0 :: vs).getD t []).getD i d, (t : Int)) ∧
      ∀ r, r < (v0 :: vs).length →
        lexLe (((v0 :: vs).getD t []).getD i d, (t : Int)) (((v0 :: vs).getD r []).getD i d, (r : Int)) := by
  have hlenP : (tagged n (v0 :: vs)).length = (v0 :: vs).length := List.length_mapIdx
  obtain ⟨p0, ps, hP⟩ : ∃ p0 ps, tagged n (v0 :: vs) = p0 :: ps := ⟨_, _, List.mapIdx_cons⟩
  obtain ⟨hmem, hall⟩ := FoldMin.foldl_min_cons_isLeast (toLex (p0.getD i (d, (0 : Int))))
    (ps.map fun y => toLex (y.getD i (d, (0 : Int))))
  rw [← toLex_foldl_minloc, ← List.map_cons (f := fun y : List (γ × Int) => toLex (y.getD i (d, (0 : Int)))), ← hP] at hmem hall
  obtain ⟨y, hy, hm⟩ := List.mem_map.mp hmem
  obtain ⟨t, ht, rfl⟩ := List.mem_iff_getElem.mp hy
  rw [tagged_getElem d n _ hlen t ht i hi] at hm
  have hm' := toLex.injective hm
  refine ⟨t, hlenP ▸ ht, ?_, ?_⟩
  · rw [hP, mpiReduce_col (minloc ltB) n (d, (0 : Int)) p0 ps (hP ▸ tagged_row n _ hlen), ListFacts.getD_map_range hi, ← hm']
  · intro r hr
    have hr' : r < (tagged n (v0 :: vs)).length := hlenP ▸ hr
    rw [lexLe_iff, hm, ← tagged_getElem d n _ hlen r hr' i hi]
    exact hall (List.mem_map.mpr ⟨_, List.getElem_mem hr', rfl⟩)

end Order

end Refine.Lemmas.Comm
