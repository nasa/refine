import Mathlib.Order.MinMax
import Mathlib.Order.Bounds.Basic
import Refine.Lemmas.FoldSet

/-!
  `List.foldl min` over a linear order: the running minimum of the distance, ratio and coordinate loops
  (`d = MIN(d, …)` in `ref_search.c`, `ref_adapt.c`, `ref_migrate.c`) and of the `MPI_MIN` / `MPI_MAX` / `MPI_MINLOC`
  reductions is THE least element of the start value and the entries (`foldl_min_isLeast`).  That it is a lower
  bound and that it is attained are read off that one statement; that it only sees the set of the entries is
  `Lemmas/FoldSet` at `min` (`semiLat_min`).
-/
namespace Refine.FoldMin

variable {α : Type} [LinearOrder α]

theorem foldl_min_isLeast (l : List α) (a : α) : IsLeast {x | x = a ∨ x ∈ l} (l.foldl min a) := by
  induction l generalizing a with
  | nil => exact ⟨Or.inl rfl, fun x hx => hx.elim (fun h => h ▸ le_rfl) (fun h => nomatch h)⟩
  | cons y l ih =>
    obtain ⟨hm, hl⟩ := ih (min a y)
    refine ⟨?_, ?_⟩
    · rcases hm with h | h
      · rcases min_choice a y with e | e
        · exact Or.inl (h.trans e)
        · exact Or.inr (List.mem_cons.mpr (Or.inl (h.trans e)))
      · exact Or.inr (List.mem_cons_of_mem _ h)
    · rintro x (rfl | hx)
      · exact (hl (Or.inl rfl)).trans (min_le_left _ _)
      · rcases List.mem_cons.mp hx with rfl | hx
        · exact (hl (Or.inl rfl)).trans (min_le_right _ _)
        · exact hl (Or.inr hx)

theorem foldl_min_cons_isLeast (x : α) (l : List α) : IsLeast {y | y ∈ x :: l} (l.foldl min x) := by
  simpa only [List.mem_cons] using foldl_min_isLeast l x

theorem foldl_min_le_init (l : List α) (a : α) : l.foldl min a ≤ a := (foldl_min_isLeast l a).2 (Or.inl rfl)

theorem foldl_min_le_mem (l : List α) (a : α) {x : α} (h : x ∈ l) : l.foldl min a ≤ x :=
  (foldl_min_isLeast l a).2 (Or.inr h)

theorem foldl_min_mem (l : List α) (a : α) : l.foldl min a = a ∨ l.foldl min a ∈ l := (foldl_min_isLeast l a).1

theorem foldl_min_map_spec {γ : Type} (f : γ → α) (l : List γ) (a : α) :
    (l.map f).foldl min a ≤ a ∧ (∀ c ∈ l, (l.map f).foldl min a ≤ f c) ∧
    ((l.map f).foldl min a = a ∨ ∃ c ∈ l, (l.map f).foldl min a = f c) :=
  ⟨foldl_min_le_init _ a, fun _ hc => foldl_min_le_mem _ a (List.mem_map_of_mem hc),
    (foldl_min_mem _ a).imp_right fun h => (List.mem_map.mp h).imp fun _ hc => ⟨hc.1, hc.2.symm⟩⟩

theorem foldl_min_of_le (l : List α) (a : α) (h : ∀ v ∈ l, a ≤ v) : l.foldl min a = a :=
  le_antisymm (foldl_min_le_init l a) ((foldl_min_mem l a).elim (fun e => e.ge) (fun hm => h _ hm))

/-- two lists in a row: the two children of a pruned subtree in `ref_search.c` -/
theorem foldl_min_pruned {γ : Type} (g : γ → α) (l r : List γ) (a : α) (h : ∀ q ∈ l ++ r, a ≤ g q) :
    (r.map g).foldl min ((l.map g).foldl min a) = a := by
  rw [← List.foldl_append, ← List.map_append]
  exact foldl_min_of_le _ _ (List.forall_mem_map.mpr h)

theorem semiLat_min : Lemmas.PhysDist.SemiLat (min : α → α → α) :=
  ⟨fun _ _ _ _ => trivial, fun a b _ _ => min_comm a b, fun a b c _ _ _ => min_assoc a b c, fun a _ => min_self a⟩

theorem foldl_min_congr_set {l1 l2 : List α} (a : α) (h : ∀ x, x ∈ l1 ↔ x ∈ l2) : l1.foldl min a = l2.foldl min a :=
  Lemmas.PhysDist.foldl_eq_of_same_set semiLat_min l1 l2 a trivial (fun _ _ => trivial) (fun _ _ => trivial) h

theorem foldl_min_map_congr_set {γ : Type} (f : γ → α) {E1 E2 : List γ} (a : α) (h : ∀ e, e ∈ E1 ↔ e ∈ E2) :
    (E1.map f).foldl min a = (E2.map f).foldl min a :=
  foldl_min_congr_set a fun x => by simp only [List.mem_map, h]

end Refine.FoldMin
