import Refine.Lemmas.ListFacts

/-!
  The free list of a slot array.  A store keeps its unused slots on a singly linked list threaded through the
  array itself, headed by `blank` and ended by `REF_EMPTY = -1`.  In `ref_node`, `next i` and `free i` are read off
  `global[i]` (a negative entry is the link, `code i = index2next i = -2 - i`); in `ref_cell`, `free i` is
  `c2n[0,i] = REF_EMPTY`, `next i` is `c2n[1,i]` and `code i = i`.  The blank chain of `ref_adj` items has the same shape.
  On the list itself a step is `Chain.cons_inv` + `Agree.chain` (pop), `Chain.cons` + `Agree.chain` (push), `Chain.run`
  (growth); `Free.pop/push/keep/grow` add `Nodup` and "exactly the free slots" and hide the list.
-/
namespace Refine.FreeChain

variable {len len' : Nat} {next next' : Nat → Int} {free free' : Nat → Prop} {code : Nat → Int}

/-- following `next` from head `b` visits exactly the slots `l`, all of them free, and ends at `-1` -/
inductive Chain (len : Nat) (next : Nat → Int) (free : Nat → Prop) (code : Nat → Int) : Int → List Nat → Prop
  | nil : Chain len next free code (-1) []
  | cons {i : Nat} {l : List Nat} : i < len → free i → Chain len next free code (next i) l →
      Chain len next free code (code i) (i :: l)

theorem Chain.nil_iff (hcode : ∀ i, code i ≠ -1) {b : Int} {l : List Nat} (h : Chain len next free code b l) :
    b = -1 ↔ l = [] := by
  cases h with
  | nil => simp
  | cons _ _ _ => simp [hcode]

theorem Chain.cons_inv {b : Int} {l : List Nat} (h : Chain len next free code b l) (hb : b ≠ -1) :
    ∃ i l', b = code i ∧ l = i :: l' ∧ i < len ∧ free i ∧ Chain len next free code (next i) l' := by
  cases h with
  | nil => exact absurd rfl hb
  | @cons i l' hi hf hc => exact ⟨i, l', rfl, rfl, hi, hf, hc⟩

theorem Chain.lt {b : Int} {l : List Nat} (h : Chain len next free code b l) : ∀ i ∈ l, i < len ∧ free i := by
  induction h with
  | nil => simp
  | cons hi hf _ ih =>
    intro j hj
    rcases List.mem_cons.1 hj with rfl | hj
    · exact ⟨hi, hf⟩
    · exact ih j hj

/-- a chain only reads the slots it visits -/
theorem Chain.congr {b : Int} {l : List Nat} (h : Chain len next free code b l) (hlen : len ≤ len')
    (hl : ∀ i ∈ l, next' i = next i ∧ (free i → free' i)) : Chain len' next' free' code b l := by
  induction h with
  | nil => exact .nil
  | @cons i l hi hf _ ih =>
    obtain ⟨h1, h2⟩ := hl i List.mem_cons_self
    have := ih fun j hj => hl j (List.mem_cons_of_mem _ hj)
    rw [← h1] at this
    exact .cons (Nat.lt_of_lt_of_le hi hlen) (h2 hf) this

/-- `a` is where the run starts: it stays put while the induction moves `j` -/
theorem Chain.run {a m : Nat} (hm : m ≤ len)
    (hrun : ∀ j, a ≤ j → j < m → free j ∧ next j = if j + 1 = m then -1 else code (j + 1)) :
    ∀ (k j : Nat), j + k = m → a ≤ j → 0 < k → Chain len next free code (code j) (List.range' j k) := by
  intro k
  induction k with
  | zero => intro j _ _ h; omega
  | succ k ih =>
    intro j hjk haj _
    obtain ⟨hf, hn⟩ := hrun j haj (by omega)
    rw [List.range'_succ]
    refine .cons (by omega) hf ?_
    rw [hn]
    by_cases hk : k = 0
    · subst hk; rw [if_pos (by omega)]; exact .nil
    · rw [if_neg (by omega)]; exact ih (j + 1) (by omega) (by omega) (by omega)

/-- the free list is acyclic and holds exactly the free slots -/
def Free (len : Nat) (next : Nat → Int) (free : Nat → Prop) (code : Nat → Int) (b : Int) : Prop :=
  ∃ l, Chain len next free code b l ∧ l.Nodup ∧ ∀ i, i < len → (i ∈ l ↔ free i)

/-- `next'`, `free'` read the array after slot `i` was overwritten -/
def Agree (i : Nat) (next next' : Nat → Int) (free free' : Nat → Prop) : Prop :=
  ∀ j, j ≠ i → next' j = next j ∧ (free' j ↔ free j)

theorem Agree.of_set {α : Type} (A : List α) (d : α) (i : Nat) (x : α) (link : α → Int) (free : α → Prop) :
    Agree i (fun j => link (A.getD j d)) (fun j => link ((A.set i x).getD j d))
      (fun j => free (A.getD j d)) (fun j => free ((A.set i x).getD j d)) :=
  fun j hj => by
    show link ((A.set i x).getD j d) = link (A.getD j d) ∧ (free ((A.set i x).getD j d) ↔ free (A.getD j d))
    rw [ListFacts.getD_set_ne A x _ hj.symm]; exact ⟨rfl, Iff.rfl⟩

theorem Agree.chain {i : Nat} (ha : Agree i next next' free free') {b : Int} {l : List Nat}
    (h : Chain len next free code b l) (hi : i ∉ l) : Chain len next' free' code b l :=
  h.congr (Nat.le_refl _) fun j hj =>
    ⟨(ha j fun e => hi (e ▸ hj)).1, (ha j fun e => hi (e ▸ hj)).2.2⟩

/-- a used slot is written into the head of a non-empty free list: the rest of the list stays -/
theorem Free.pop {b : Int} (h : Free len next free code b) (hb : b ≠ -1) :
    ∃ i, b = code i ∧ i < len ∧ free i ∧
      ∀ {next' free'}, Agree i next next' free free' → ¬ free' i → Free len next' free' code (next i) := by
  obtain ⟨l, hc, hnd, hmem⟩ := h
  obtain ⟨i, l', rfl, rfl, hi, hf, hc'⟩ := hc.cons_inv hb
  obtain ⟨hil, hnd'⟩ := List.nodup_cons.1 hnd
  refine ⟨i, rfl, hi, hf, fun ha hx => ⟨l', ha.chain hc' hil, hnd', fun j hj => ?_⟩⟩
  by_cases hji : j = i
  · subst hji; exact ⟨fun h => absurd h hil, fun h => absurd h hx⟩
  · rw [(ha j hji).2, ← hmem j hj, List.mem_cons]
    exact ⟨Or.inr, fun h => h.resolve_left hji⟩

/-- a used slot `i` is overwritten by a free one linking to the old head: `i` is the new head -/
theorem Free.push {b : Int} (h : Free len next free code b) {i : Nat} (hi : i < len) (hu : ¬ free i)
    (ha : Agree i next next' free free') (hf : free' i) (hn : next' i = b) :
    Free len next' free' code (code i) := by
  obtain ⟨l, hc, hnd, hmem⟩ := h
  have hil : i ∉ l := fun hm => hu ((hmem i hi).1 hm)
  refine ⟨i :: l, .cons hi hf (hn ▸ ha.chain hc hil), List.nodup_cons.2 ⟨hil, hnd⟩, fun j hj => ?_⟩
  by_cases hji : j = i
  · subst hji; exact ⟨fun _ => hf, fun _ => List.mem_cons_self⟩
  · rw [(ha j hji).2, ← hmem j hj, List.mem_cons]
    exact ⟨fun h => h.resolve_left hji, Or.inr⟩

/-- a used slot is overwritten by a used one: the free list does not notice -/
theorem Free.keep {b : Int} (h : Free len next free code b) {i : Nat} (hi : i < len) (hu : ¬ free i)
    (ha : Agree i next next' free free') (hu' : ¬ free' i) : Free len next' free' code b := by
  obtain ⟨l, hc, hnd, hmem⟩ := h
  have hil : i ∉ l := fun hm => hu ((hmem i hi).1 hm)
  refine ⟨l, ha.chain hc hil, hnd, fun j hj => ?_⟩
  by_cases hji : j = i
  · subst hji; exact ⟨fun h => absurd h hil, fun h => absurd h hu'⟩
  · rw [(ha j hji).2]; exact hmem j hj

/-- growth of an array whose free list is empty: the new slots are the free list -/
theorem Free.grow (hcode : ∀ i, code i ≠ -1) (h : Free len next free code (-1)) {chunk : Nat} (hchunk : 0 < chunk)
    (hold : ∀ j, j < len → (free' j ↔ free j))
    (hrun : ∀ j, len ≤ j → j < len + chunk →
      free' j ∧ next' j = if j + 1 = len + chunk then -1 else code (j + 1)) :
    Free (len + chunk) next' free' code (code len) := by
  obtain ⟨l, hc, _, hmem⟩ := h
  have hl : l = [] := (hc.nil_iff hcode).1 rfl
  subst hl
  refine ⟨List.range' len chunk,
    Chain.run (Nat.le_refl _) hrun chunk len rfl (Nat.le_refl _) hchunk,
    List.nodup_range', fun i hi => ?_⟩
  rw [List.mem_range'_1]
  by_cases hlt : i < len
  · rw [hold i hlt]
    exact ⟨fun h => by omega, fun h => absurd ((hmem i hlt).2 h) List.not_mem_nil⟩
  · exact ⟨fun _ => (hrun i (Nat.le_of_not_lt hlt) hi).1, fun _ => by omega⟩

theorem Free.nil : Free 0 next free code (-1) :=
  ⟨[], .nil, List.nodup_nil, fun i hi => absurd hi (Nat.not_lt_zero i)⟩

end Refine.FreeChain
