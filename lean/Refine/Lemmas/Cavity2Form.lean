import Refine.Lemmas.Cavity2Enlarge

/-!
  `ref_cavity_form_edge_swap` and `_form_edge_split` (`_form_edge_collapse` is in `Cavity2Collapse`).  Segs that pull no
  tet in are offered to the seg store and their cone faces to the face store, which cancels in the ledger (`TriPhase`);
  that no tet was pulled in at the end of a form function means that none was at any seg (`TriLoopPost.trans`, by
  `CavExt.squeeze`).  So the cavity formed for an edge lists the cells around it and has the boundary of the listed tets
  minus their faces through the edge as its ledger (`EdgeFormed`); on a conforming grid that is the ledger equation:
  global conformity, tested with a cochain cut down to the faces through the edge (`localised_of_conforming`).
-/
namespace Refine.Lemmas.Cavity2
open Refine.Model.Cavity Refine.Model.Cavity2 Refine.Lemmas.Cavity Refine.Props.C01

variable {G : Type} [AddCommGroup G] {α : Type}

/-- a stretch of seg insertions on a cavity that lists tets, none of which pulled a tet in, with the boundary tris `new`
    listed on the way: the segs `ss` were offered to the seg store, their cone faces to the face store -/
structure TriPhase (c c' : Cav) (ss : List Seg) (new : List Int) : Prop where
  node : c'.node = c.node
  surf : c'.surfNode = c.surfNode
  tets : c'.tetList = c.tetList
  tris : c'.triList = c.triList ++ new
  segs : SegPuts c.segs ss c'.segs
  faces : ∃ cones, List.Forall₂ (IsCone c.segNode) ss cones ∧ FacePuts c.faces cones.flatten c'.faces

theorem TriPhase.refl (c : Cav) : TriPhase c c [] [] :=
  ⟨rfl, rfl, rfl, (List.append_nil _).symm, .nil _, [], .nil, .nil _⟩

theorem TriPhase.trans {a b c : Cav} {s1 s2 : List Seg} {n1 n2 : List Int} (h1 : TriPhase a b s1 n1)
    (h2 : TriPhase b c s2 n2) : TriPhase a c (s1 ++ s2) (n1 ++ n2) := by
  obtain ⟨k1, c1, f1⟩ := h1.faces
  obtain ⟨k2, c2, f2⟩ := h2.faces
  rw [segNode_eq h1.node h1.surf] at c2
  exact ⟨h2.node.trans h1.node, h2.surf.trans h1.surf, h2.tets.trans h1.tets,
    by rw [h2.tris, h1.tris, List.append_assoc], h1.segs.append h2.segs, k1 ++ k2, List.rel_append c1 c2,
    List.flatten_append ▸ f1.append f2⟩

theorem TriPhase.push (c : Cav) (cell : Int) : TriPhase c { c with triList := c.triList ++ [cell] } [] [cell] :=
  ⟨rfl, rfl, rfl, rfl, .nil _, [], .nil, .nil _⟩

theorem SegInserted.phase {g : Grid α} {c c' : Cav} {s : Seg} {cone : List Face} (p : SegInserted g c c' s [] cone) :
    TriPhase c c' [s] [] :=
  { node := p.node, surf := p.surf, tets := by simpa using p.tets, tris := by rw [p.tris, List.append_nil]
    segs := p.segs, faces := ⟨[cone], .cons p.isCone .nil, by simpa using p.faces⟩ }

theorem insertSegs_phase (g : Grid α) (ss : List Seg) (c c' : Cav) (htl : c.tetList ≠ [])
    (h : insertSegs g c ss = (.ok, c')) (hs : c'.state = .unknown) (hsame : c'.tetList = c.tetList) :
    TriPhase c c' ss [] := by
  fun_induction insertSegs g c ss with
  | case1 c => cases h; exact .refl _
  | case2 c s t c1 hins ih =>
    have e0 := (insertSeg_listed g c s).of_eq hins
    have e1 := (insertSegs_listed g t c1).of_eq h
    have hs1 : c1.state = .unknown := e1.state hs
    obtain ⟨new, cone, p⟩ := insertSeg_inserted g c c1 s ⟨htl, e0.state hs1⟩ hins hs1
    -- no tet was pulled in by this seg, nor by the rest
    have ht1 : c1.tetList = c.tetList := e0.ext.squeeze e1.ext hsame
    obtain rfl : new = [] := List.append_cancel_left ((p.tets.symm.trans ht1).trans (List.append_nil _).symm)
    exact p.phase.trans (ih (by rw [ht1]; exact htl) h (hsame.trans ht1.symm))
  | case3 c s t hne => exact (hne c' h).elim

theorem TriPhase.finv {c c' : Cav} {ss : List Seg} {new : List Int} (h : TriPhase c c' ss new)
    (hf : SlotsInv c.faces) : SlotsInv c'.faces := have ⟨_, _, fp⟩ := h.faces; fp.inv hf

theorem TriPhase.ledger {c c' : Cav} {ss : List Seg} {new : List Int} (h : TriPhase c c' ss new)
    {φ : Int → Int → Int → G} (hφ : Alt φ) (hd : Diag φ) (hf : SlotsInv c.faces) (hs : SlotsInv c.segs) :
    ledgerVal φ c' = ledgerVal φ c := by
  obtain ⟨cones, hc, fp⟩ := h.faces
  have e : coneSum φ c.segNode c'.validSegs = coneSum φ c.segNode c.validSegs + coneSum φ c.segNode ss :=
    h.segs.sum hs (cone_alt2 hφ hd c.segNode)
  rw [ledgerVal, ledgerVal, segNode_eq h.node h.surf, e, FacePuts.rowsSum fp hf hφ, cones_sum hφ hd hc]; abel

/-! Cited by no proof; `SegsStep` and the four statements after it are named (by pattern) by the C01 entry of
    `MANIFEST.json`. -/

/-- outcome of `insertSegs` when it ends ok, state unknown, and the tet list is what it was -/
structure SegsStep (φ : Int → Int → Int → G) (ψ : Int → Int → G) (c c' : Cav) (ss : List Seg) : Prop where
  finv : SlotsInv c'.faces
  sinv : SlotsInv c'.segs
  node : c'.node = c.node
  surf : c'.surfNode = c.surfNode
  tris : c'.triList = c.triList
  tets : c'.tetList = c.tetList
  ledger : ledgerVal φ c' = ledgerVal φ c
  segs : segSum ψ c'.validSegs = segSum ψ c.validSegs + segSum ψ ss
  segMem : ∀ x ∈ c'.validSegs, x ∈ c.validSegs ∨ x ∈ ss
  faceMem : ∀ x ∈ c'.validFaces, x ∈ c.validFaces ∨ ∃ s ∈ ss, x = ⟨s.n0, s.n1, c.segNode⟩

theorem insertSegs3_spec {φ : Int → Int → Int → G} {ψ : Int → Int → G} (hφ : Alt φ) (hd : Diag φ) (hψ : Alt2 ψ)
    (g : Grid α) (ss : List Seg) (c c' : Cav) (hf : SlotsInv c.faces) (hsg : SlotsInv c.segs)
    (htl : c.tetList ≠ []) (h : insertSegs g c ss = (.ok, c')) (hs : c'.state = .unknown)
    (hsame : c'.tetList = c.tetList) : SegsStep φ ψ c c' ss := by
  have p := insertSegs_phase g ss c c' htl h hs hsame
  obtain ⟨cones, hc, fp⟩ := p.faces
  exact ⟨fp.inv hf, p.segs.inv hsg, p.node, p.surf, by simpa using p.tris, hsame, p.ledger hφ hd hf hsg,
    p.segs.sum hsg hψ, p.segs.mem hsg, fun x hx => (fp.mem hf x hx).imp_right (cones_mem hc x)⟩

theorem insertSegs_prefix (g : Grid α) (ss : List Seg) (c : Cav) :
    ∃ l, (insertSegs g c ss).2.tetList = c.tetList ++ l := (insertSegs_listed g ss c).tetPrefix

theorem insertSeg_state_mono (g : Grid α) (c c' : Cav) (s : Seg) (st : Refine.Model.Cavity.St)
    (h : insertSeg g c s = (st, c')) (hs : c'.state = .unknown) : c.state = .unknown :=
  (h ▸ insertSeg_listed g c s).state hs

theorem insertSegs_state_mono (g : Grid α) (ss : List Seg) (c c' : Cav) (st : Refine.Model.Cavity.St)
    (h : insertSegs g c ss = (st, c')) (hs : c'.state = .unknown) : c.state = .unknown :=
  (h ▸ insertSegs_listed g ss c).state hs

/-- a loop that returned early (not ok, or a ghost cell) cannot be what a form function returned ok and unflagged -/
theorem early_absurd {s : Refine.Model.Cavity.St} {c c' : Cav} (h : (s, c) = (Refine.Model.Cavity.St.ok, c'))
    (hs : c'.state = .unknown) (he : s ≠ .ok ∨ c.state = .partition_constrained) : False := by
  simp only [Prod.mk.injEq] at h
  obtain ⟨rfl, rfl⟩ := h
  rcases he with e | e
  · exact e rfl
  · rw [e] at hs; cases hs

/-- the faces of a tet that contain both ends of the edge: what `form_edge_split` / `form_edge_swap` do NOT insert -/
def edgeFaces (n0 n1 : Int) (t : Tet) : List Face := (tetFaces t).filter fun f => f.has n0 && f.has n1

/-- the tet loop of `form_edge_split` / `form_edge_swap`, whatever it returns (`b`: it returned early): an early return
    is a failure or a ghost tet; otherwise every cell of the walk was listed and its faces off the edge inserted -/
theorem formSplitTets_post (g : Grid α) (n0 n1 : Int) (cells : List (Nat × Tet)) (c c' : Cav)
    (s : Refine.Model.Cavity.St) (b : Bool) (h : formSplitTets g n0 n1 c cells = (s, c', b)) :
    (b = true → s ≠ .ok ∨ c'.state = .partition_constrained) ∧
    (b = false → (∀ p ∈ cells, g.tets.get? (p.1 : Int) = some p.2) →
      TetsListed g (fun _ f => !(f.has n0 && f.has n1)) c c' (cells.map fun p => (p.1 : Int))) := by
  fun_induction formSplitTets g n0 n1 c cells with
  | case1 c => cases h; exact ⟨fun e => (by cases e), fun _ _ => .refl _⟩
  | case2 c cell tet rest _ => cases h; exact ⟨fun _ => Or.inl (by decide), fun e => by cases e⟩
  | case3 c cell tet rest _ c0 _ => cases h; exact ⟨fun _ => Or.inr rfl, fun e => by cases e⟩
  | case4 c cell tet rest hnot c0 _ c1 hins ih =>
    exact ⟨(ih h).1, fun hb hcells => (TetsListed.push (hcells _ List.mem_cons_self)
      (fun hm => hnot (List.contains_iff_mem.mpr hm)) hins).trans
        ((ih h).2 hb fun p hp => hcells p (List.mem_cons_of_mem _ hp))⟩
  | case5 c cell tet rest _ c0 _ s1 c1 hne _ => cases h; exact ⟨fun _ => Or.inl hne, fun e => by cases e⟩

theorem formSplitTets_early (g : Grid α) (n0 n1 : Int) (cells : List (Nat × Tet)) (c c' : Cav)
    (s : Refine.Model.Cavity.St) (h : formSplitTets g n0 n1 c cells = (s, c', true)) :
    s ≠ .ok ∨ c'.state = .partition_constrained := (formSplitTets_post g n0 n1 cells c c' s true h).1 rfl

theorem formSwapTris_spec (g : Grid α) (cells : List (Nat × Tri)) (c c' : Cav) (id id' : Int)
    (h : formSwapTris g c id cells = (c', id', false)) :
    c'.faces = c.faces ∧ c'.segs = c.segs ∧ c'.node = c.node ∧ c'.surfNode = c.surfNode ∧ c'.tetList = c.tetList ∧
    c'.state = c.state ∧ c'.triList = c.triList ++ cells.map (fun p => (p.1 : Int)) := by
  fun_induction formSwapTris g c id cells with
  | case1 c id => cases h; simp
  | case2 c id cell tri rest c0 _ => cases h
  | case3 c id cell tri rest c0 _ ih =>
    obtain ⟨a1, a2, a3, a4, a5, a6, a7⟩ := ih h
    exact ⟨a1, a2, a3, a4, a5, a6, by rw [a7]; simp [c0]⟩

theorem formSwapTris_early (g : Grid α) (cells : List (Nat × Tri)) (c c' : Cav) (id id' : Int)
    (h : formSwapTris g c id cells = (c', id', true)) : c'.state = .partition_constrained := by
  fun_induction formSwapTris g c id cells with
  | case1 c id => cases h
  | case2 c id cell tri rest c0 _ => cases h; rfl
  | case3 c id cell tri rest c0 _ ih => exact ih h

theorem verify_result {c c1 : Cav} {s : Refine.Model.Cavity.St}
    (hv : verifyFaceManifold c = (s, c1) ∨ verifySegManifold c = (s, c1)) :
    ∃ st, c1 = { c with state := st } ∧ (st = c.state ∨ st = .inconsistent) := by
  have key : ∀ {r : Refine.Model.Cavity.St × Cav},
      r = (.ok, c) ∨ r = (.ok, { c with state := .inconsistent }) ∨ r = (.failure, c) → r = (s, c1) →
      ∃ st, c1 = { c with state := st } ∧ (st = c.state ∨ st = .inconsistent) := by
    rintro _ (rfl | rfl | rfl) h <;> cases h
    · exact ⟨c.state, rfl, Or.inl rfl⟩        -- passed
    · exact ⟨.inconsistent, rfl, Or.inr rfl⟩  -- not manifold
    · exact ⟨c.state, rfl, Or.inl rfl⟩        -- the verification itself failed
  exact hv.elim (key (verifyFaceManifold_cases c)) (key (verifySegManifold_cases c))

theorem verify_unflagged {c c1 : Cav} {s : Refine.Model.Cavity.St}
    (hv : verifyFaceManifold c = (s, c1) ∨ verifySegManifold c = (s, c1)) (hs : c1.state ≠ .inconsistent) : c1 = c := by
  obtain ⟨st, rfl, rfl | rfl⟩ := verify_result hv
  · rfl
  · exact absurd rfl hs

theorem verifyBoth_spec (c c' : Cav) (s : Refine.Model.Cavity.St) (h : verifyBoth c = (s, c'))
    (hs : c'.state = .unknown) : c' = c := by
  have hs' : c'.state ≠ .inconsistent := by rw [hs]; decide
  unfold verifyBoth at h
  split at h
  · next c1 h1 =>
    obtain rfl := verify_unflagged (Or.inr h) hs'
    exact verify_unflagged (Or.inl h1) hs'
  · exact verify_unflagged (Or.inl h) hs'

/-- what a tri loop of a form function returned (`b`: it returned early): an early return is a failure or a ghost tri; a
    full run has the coarse frame, and if it leaves the state `unknown` and pulls no tet in it is a tri phase that lists `new` -/
structure TriLoopPost (c c' : Cav) (s : Refine.Model.Cavity.St) (b : Bool) (new : List Int) : Prop where
  early : b = true → s ≠ .ok ∨ c'.state = .partition_constrained
  ext : b = false → CavExt c c'
  phase : b = false → c.tetList ≠ [] → c'.state = .unknown → c'.tetList = c.tetList → ∃ ss, TriPhase c c' ss new

theorem TriLoopPost.done (c : Cav) : TriLoopPost c c .ok false [] :=
  ⟨fun e => (by cases e), fun _ => .refl c, fun _ _ _ _ => ⟨_, .refl c⟩⟩

/-- a loop that ran to its end, then another: that no tet was pulled in at the very end squeezes both.  (`hn`: what
    the second loop lists may depend on what the first one listed.) -/
theorem TriLoopPost.trans {a b c : Cav} {s1 s2 : Refine.Model.Cavity.St} {b2 : Bool} {n1 n2 n2' : List Int}
    (h1 : TriLoopPost a b s1 false n1) (h2 : TriLoopPost b c s2 b2 n2') (hn : b.triList = a.triList ++ n1 → n2' = n2) :
    TriLoopPost a c s2 b2 (n1 ++ n2) :=
  ⟨h2.early, fun hb => (h1.ext rfl).trans (h2.ext hb), fun hb htl hu hsame =>
    have ht1 : b.tetList = a.tetList := (h1.ext rfl).squeeze (h2.ext hb) hsame
    have ⟨_, p1⟩ := h1.phase rfl htl ((h2.ext hb).2 hu) ht1
    have ⟨_, p2⟩ := h2.phase hb (by rw [ht1]; exact htl) hu (hsame.trans ht1.symm)
    ⟨_, hn p1.tris ▸ p1.trans p2⟩⟩

/-- a list of segs as a loop that lists no tri -/
theorem insertSegs_post (g : Grid α) {c c' : Cav} {ss : List Seg} (h : insertSegs g c ss = (.ok, c')) :
    TriLoopPost c c' .ok false [] :=
  ⟨fun e => (by cases e), fun _ => CavExt.of_insertSegs h, fun _ htl hu hsame => ⟨_, insertSegs_phase g ss c c' htl h hu hsame⟩⟩

theorem TriLoopPost.early_ret {c c' : Cav} {s : Refine.Model.Cavity.St} (new : List Int)
    (h : s ≠ .ok ∨ c'.state = .partition_constrained) : TriLoopPost c c' s true new :=
  ⟨fun _ => h, fun e => (by cases e), fun e => (by cases e)⟩

theorem TriLoopPost.list {c c' : Cav} {cell : Int} {s : Refine.Model.Cavity.St} {b : Bool} {new : List Int}
    (rest : TriLoopPost { c with triList := c.triList ++ [cell] } c' s b new) : TriLoopPost c c' s b (cell :: new) :=
  ⟨rest.early, rest.ext, fun hb htl hu hsame =>
    have ⟨_, p⟩ := rest.phase hb htl hu hsame
    ⟨_, (TriPhase.push c cell).trans p⟩⟩

theorem TriLoopPost.round (g : Grid α) {c c1 c' : Cav} {cell : Int} {ss : List Seg} {s : Refine.Model.Cavity.St}
    {b : Bool} {new new' : List Int} (hins : insertSegs g { c with triList := c.triList ++ [cell] } ss = (.ok, c1))
    (rest : TriLoopPost c1 c' s b new') (hnew : c1.triList = c.triList ++ [cell] → new' = new) :
    TriLoopPost c c' s b (cell :: new) :=
  .list ((insertSegs_post g hins).trans rest fun e => hnew (e.trans (List.append_nil _)))

theorem formSplitTris_post (g : Grid α) (n0 n1 : Int) (cells : List (Nat × Tri)) (c c' : Cav)
    (s : Refine.Model.Cavity.St) (b : Bool) (h : formSplitTris g n0 n1 c cells = (s, c', b)) :
    TriLoopPost c c' s b (cells.map fun p => (p.1 : Int)) := by
  fun_induction formSplitTris g n0 n1 c cells with
  | case1 c => cases h; exact .done _
  | case2 c cell tri rest c0 _ => cases h; exact .early_ret _ (Or.inr rfl)
  | case3 c cell tri rest c0 _ c1 hins ih => exact .round g hins (ih h) fun _ => rfl
  | case4 c cell tri rest c0 _ s1 c1 hne hins => cases h; exact .early_ret _ (Or.inl hne)

theorem create_facts :
    SlotsInv Cav.create.faces ∧ SlotsInv Cav.create.segs ∧ Cav.create.tetList = [] ∧ Cav.create.triList = [] ∧
    Cav.create.state = .unknown ∧ Cav.create.validSegs = [] ∧ Cav.create.validFaces = [] :=
  ⟨SlotsInv.create 10, SlotsInv.create 10, rfl, rfl, rfl, by decide, by decide⟩

theorem rowsSum_create (φ : Int → Int → Int → G) : rowsSum φ Cav.create.faces.rows = 0 := by
  simp [Cav.create, Slots.create, rowsSum, rowVal]

theorem idx_sum {β : Type} (s : Cells β) (cells : List (Nat × β)) (hcells : ∀ p ∈ cells, s.get? (p.1 : Int) = some p.2)
    (H : Option β → G) : ((cells.map fun p => (p.1 : Int)).map fun cell => H (s.get? cell)).sum =
      (cells.map fun p => H (some p.2)).sum := by
  rw [List.map_map]
  exact congrArg _ (List.map_congr_left fun p hp => by simp only [Function.comp, hcells p hp])

theorem tetBd_idx_sum (φ : Int → Int → Int → G) (g : Grid α) (cells : List (Nat × Tet))
    (hcells : ∀ p ∈ cells, g.tets.get? (p.1 : Int) = some p.2) :
    ((cells.map fun p => (p.1 : Int)).map (tetBd φ g)).sum = (cells.map fun p => faceSum φ (tetFaces p.2)).sum :=
  idx_sum g.tets cells hcells fun o => match o with | some t => faceSum φ (tetFaces t) | none => 0

theorem triVal_idx_sum (φ : Int → Int → Int → G) (g : Grid α) (cells : List (Nat × Tri))
    (hcells : ∀ p ∈ cells, g.tris.get? (p.1 : Int) = some p.2) :
    ((cells.map fun p => (p.1 : Int)).map (triVal φ g)).sum = (cells.map fun p => φ p.2.n0 p.2.n1 p.2.n2).sum :=
  idx_sum g.tris cells hcells fun o => match o with | some t => φ t.n0 t.n1 t.n2 | none => 0

theorem sum_map_sub {β : Type} (l : List β) (f h : β → G) :
    (l.map fun p => f p - h p).sum = (l.map f).sum - (l.map h).sum := by
  induction l with
  | nil => simp
  | cons a t ih => simp only [List.map_cons, List.sum_cons, ih]; abel

theorem walk_live {β : Type} {s : Cells β} {cells : List (Nat × β)} (hcells : ∀ p ∈ cells, s.get? (p.1 : Int) = some p.2) :
    ∀ cell ∈ cells.map fun p => (p.1 : Int), ∃ x, s.get? cell = some x := by
  intro cell hc
  obtain ⟨p, hp, rfl⟩ := List.mem_map.mp hc
  exact ⟨p.2, hcells p hp⟩

theorem CavInv.of_walks {g : Grid α} {c : Cav} {ts : List (Nat × Tet)} {ss : List (Nat × Tri)} (finv : SlotsInv c.faces)
    (sinv : SlotsInv c.segs) (tets : c.tetList = ts.map fun p => (p.1 : Int)) (tris : c.triList = ss.map fun p => (p.1 : Int))
    (hts : ∀ p ∈ ts, g.tets.get? (p.1 : Int) = some p.2) (hss : ∀ p ∈ ss, g.tris.get? (p.1 : Int) = some p.2)
    (ndt : (ts.map fun p => (p.1 : Int)).Nodup) (nds : (ss.map fun p => (p.1 : Int)).Nodup) : CavInv g c :=
  ⟨finv, sinv, tets ▸ walk_live hts, tets ▸ ndt, tris ▸ walk_live hss, tris ▸ nds⟩

theorem rowsSum_walk {g : Grid α} {keep : Tet → Face → Bool} {s s' : Slots Face} {cells : List (Nat × Tet)}
    (p : FacePuts s ((cells.map fun p => (p.1 : Int)).flatMap (keptOf g keep)) s')
    (hcells : ∀ p ∈ cells, g.tets.get? (p.1 : Int) = some p.2) (hinv : SlotsInv s)
    {φ : Int → Int → Int → G} (hφ : Alt φ) :
    rowsSum φ s'.rows = rowsSum φ s.rows + (cells.map fun p => faceSum φ (tetFaces p.2) -
      faceSum φ ((tetFaces p.2).filter fun f => !(keep p.2 f))).sum := by
  rw [FacePuts.rowsSum p hinv hφ, faceSum, sum_map_flatMap, List.map_map]
  refine congrArg _ (congrArg _ (List.map_congr_left fun p hp => ?_))
  simp only [Function.comp, keptOf, hcells p hp]
  rw [← faceSum, faceSum_filter_split φ (keep p.2) (tetFaces p.2)]; abel

/-- local conformity around the edge `(n0,n1)`: the faces containing the edge, summed over the tets around it,
    leave exactly the boundary tris on the edge (interior faces cancel in pairs) -/
def EdgeMatched (φ : Int → Int → Int → G) (g : Grid α) (n0 n1 : Int) : Prop :=
  ((g.tets.having2 Tet.nodes n0 n1).map fun p => faceSum φ (edgeFaces n0 n1 p.2)).sum =
    ((g.tris.having2 Tri.nodes n0 n1).map fun p => φ p.2.n0 p.2.n1 p.2.n2).sum

/-- what a cavity formed for an edge looks like: the lists are the cells around the edge, and the ledger is the
    boundary of the listed tets minus their faces through the edge -/
structure EdgeFormed (φ : Int → Int → Int → G) (g : Grid α) (n0 n1 : Int) (c' : Cav) : Prop where
  finv : SlotsInv c'.faces
  sinv : SlotsInv c'.segs
  tets : c'.tetList = (g.tets.having2 Tet.nodes n0 n1).map fun p => (p.1 : Int)
  tetsNodup : c'.tetList.Nodup
  tris : c'.triList = (g.tris.having2 Tri.nodes n0 n1).map fun p => (p.1 : Int)
  ledger : ledgerVal φ c' = (c'.tetList.map (tetBd φ g)).sum -
    ((g.tets.having2 Tet.nodes n0 n1).map fun p => faceSum φ (edgeFaces n0 n1 p.2)).sum

theorem EdgeFormed.ledgerEq {φ : Int → Int → Int → G} {g : Grid α} {n0 n1 : Int} {c' : Cav}
    (h : EdgeFormed φ g n0 n1 c') (hm : EdgeMatched φ g n0 n1) : LedgerEq φ g c' := by
  unfold LedgerEq
  rw [h.ledger, hm, h.tris, triVal_idx_sum φ g _ (fun p hp => having2_get g.tris Tri.nodes n0 n1 p hp)]

theorem EdgeFormed.cavInv {φ : Int → Int → Int → G} {g : Grid α} {n0 n1 : Int} {c' : Cav}
    (h : EdgeFormed φ g n0 n1 c') (hnd : ((g.tris.having2 Tri.nodes n0 n1).map fun p => (p.1 : Int)).Nodup) :
    CavInv g c' :=
  .of_walks h.finv h.sinv h.tets h.tris (having2_get g.tets Tet.nodes n0 n1) (having2_get g.tris Tri.nodes n0 n1)
    (h.tets ▸ h.tetsNodup) hnd

theorem ledgerVal_noSegs (φ : Int → Int → Int → G) {c : Cav} (h : c.validSegs = []) :
    ledgerVal φ c = rowsSum φ c.faces.rows := by
  simp only [ledgerVal, h, coneSum, List.map_nil, List.sum_nil, sub_zero]

/-- the cavity after the tet loop of `form_edge_split` / `form_edge_swap` on a fresh cavity: the tets around the edge are
    listed, their faces off the edge were offered to the empty face store, the seg side is still empty -/
structure TetsFormed (g : Grid α) (n0 n1 : Int) (c : Cav) : Prop where
  sinv : SlotsInv c.segs
  noSegs : c.validSegs = []
  noTris : c.triList = []
  tets : c.tetList = (g.tets.having2 Tet.nodes n0 n1).map fun p => (p.1 : Int)
  nodup : c.tetList.Nodup
  faces : FacePuts Cav.create.faces (c.tetList.flatMap (keptOf g fun _ f => !(f.has n0 && f.has n1))) c.faces

theorem formSplitTets_fresh (g : Grid α) (n0 n1 : Int) (c0 c1 : Cav) (s1 : Refine.Model.Cavity.St)
    (he : formSplitTets g n0 n1 c0 (g.tets.having2 Tet.nodes n0 n1) = (s1, c1, false))
    (hf : c0.faces = Cav.create.faces) (hsg : c0.segs = Cav.create.segs)
    (ht : c0.tetList = []) (htr : c0.triList = []) :
    TetsFormed g n0 n1 c1 := by
  obtain ⟨_, cs, _, _, _, cvs, _⟩ := create_facts
  have l := (formSplitTets_post g n0 n1 _ c0 c1 s1 false he).2 rfl
    fun p hp => having2_get g.tets Tet.nodes n0 n1 p hp
  have ht1 : c1.tetList = (g.tets.having2 Tet.nodes n0 n1).map fun p => (p.1 : Int) := by rw [l.tets, ht]; rfl
  refine ⟨?_, ?_, l.same.triList.trans htr, ht1, ht1 ▸ l.nodup, ?_⟩
  · rw [l.same.segs, hsg]; exact cs
  · rw [Cav.validSegs, l.same.segs, hsg]; exact cvs
  · rw [ht1, ← hf]; exact l.puts

theorem TetsFormed.sum {g : Grid α} {n0 n1 : Int} {c : Cav} (h : TetsFormed g n0 n1 c) {φ : Int → Int → Int → G}
    (hφ : Alt φ) : rowsSum φ c.faces.rows = (c.tetList.map (tetBd φ g)).sum -
      ((g.tets.having2 Tet.nodes n0 n1).map fun p => faceSum φ (edgeFaces n0 n1 p.2)).sum := by
  have hw := having2_get g.tets Tet.nodes n0 n1
  rw [rowsSum_walk (s := Cav.create.faces) (h.tets ▸ h.faces) hw (SlotsInv.create 10) hφ, rowsSum_create, zero_add, sum_map_sub, h.tets,
    tetBd_idx_sum φ g _ hw]
  simp only [edgeFaces, Bool.not_not]

theorem formSwapTris_phase (g : Grid α) (cells : List (Nat × Tri)) (c c' : Cav) (id id' : Int)
    (h : formSwapTris g c id cells = (c', id', false)) : TriPhase c c' [] (cells.map fun p => (p.1 : Int)) :=
  have ⟨a1, a2, a3, a4, a5, _, a7⟩ := formSwapTris_spec g cells c c' id id' h
  ⟨a3, a4, a5, a7, a2 ▸ .nil _, [], .nil, a1 ▸ .nil _⟩

/-- how `form_edge_split` / `form_edge_swap` got to a cavity `c'` they return ok and unflagged, with no tet beyond the
    ones around the edge: the tet loop on the fresh cavity gives `c1` (the swap then sets its seg node), and a tri
    phase that lists the tris on the edge leads from `c1` to `c'` -/
def EdgeRun (g : Grid α) (n0 n1 : Int) (ss : List Seg) (c' : Cav) : Prop :=
  ∃ c1, TetsFormed g n0 n1 c1 ∧ TriPhase c1 c' ss ((g.tris.having2 Tri.nodes n0 n1).map fun p => (p.1 : Int))

theorem EdgeRun.tris {g : Grid α} {n0 n1 : Int} {ss : List Seg} {c' : Cav} (h : EdgeRun g n0 n1 ss c') :
    c'.triList = (g.tris.having2 Tri.nodes n0 n1).map fun p => (p.1 : Int) :=
  have ⟨_, h1, ph⟩ := h
  by rw [ph.tris, h1.noTris]; rfl

theorem EdgeRun.formed {g : Grid α} {n0 n1 : Int} {ss : List Seg} {c' : Cav} (h : EdgeRun g n0 n1 ss c')
    {φ : Int → Int → Int → G} (hφ : Alt φ) (hd : Diag φ) : EdgeFormed φ g n0 n1 c' := by
  obtain ⟨c1, h1, ph⟩ := h
  have hf1 : SlotsInv c1.faces := h1.faces.inv (SlotsInv.create 10)
  refine ⟨ph.finv hf1, ph.segs.inv h1.sinv, ph.tets.trans h1.tets, ph.tets ▸ h1.nodup, EdgeRun.tris ⟨c1, h1, ph⟩, ?_⟩
  rw [ph.ledger hφ hd hf1 h1.sinv, ledgerVal_noSegs φ h1.noSegs, h1.sum hφ, ph.tets]

theorem EdgeRun.segSum {g : Grid α} {n0 n1 : Int} {ss : List Seg} {c' : Cav} (h : EdgeRun g n0 n1 ss c')
    {ψ : Int → Int → G} (hψ : Alt2 ψ) : segSum ψ c'.validSegs = segSum ψ ss := by
  obtain ⟨c1, h1, ph⟩ := h
  rw [Cav.validSegs, ph.segs.sum h1.sinv hψ, ← Cav.validSegs, h1.noSegs]
  exact zero_add _

theorem formEdgeSwap_edgeRun (g : Grid α) (n0 n1 node : Int) (c' : Cav)
    (h : formEdgeSwap g Cav.create n0 n1 node = (.ok, c')) (hs : c'.state = .unknown)
    (hne : g.tets.having2 Tet.nodes n0 n1 ≠ [])
    (hextra : c'.tetList = (g.tets.having2 Tet.nodes n0 n1).map fun p => (p.1 : Int)) :
    ∃ ss, EdgeRun g n0 n1 ss c' ∧ ((g.tris.having2 Tri.nodes n0 n1 = [] ∧ ss = []) ∨
      ∃ n2 n3 id, swapNode23 g n0 n1 = (.ok, n2, n3) ∧
        ss = [⟨n0, n3, id⟩, ⟨n3, n1, id⟩, ⟨n1, n2, id⟩, ⟨n2, n0, id⟩]) := by
  have fin : ∀ {s1 c1}, formSplitTets g n0 n1 { Cav.create with node := node } (g.tets.having2 Tet.nodes n0 n1) =
      (s1, c1, false) → TetsFormed g n0 n1 c1 := fun he => formSplitTets_fresh g n0 n1 _ _ _ he rfl rfl rfl rfl
  revert h
  fun_cases formEdgeSwap g Cav.create n0 n1 node <;> intro h
  case case1 => cases h; simp at hs  -- a node is not owned
  case case2 he =>  -- the tet loop returned early
    exact (early_absurd h hs (formSplitTets_early g n0 n1 _ _ _ _ he)).elim
  case case3 s1 c1 he hnt =>  -- no tri on the edge
    obtain rfl := verifyBoth_spec c1 c' _ h hs
    have htri0 : g.tris.having2 Tri.nodes n0 n1 = [] := by simpa [triHasSide] using hnt
    exact ⟨[], ⟨c', fin he, htri0 ▸ .refl c'⟩, Or.inl ⟨htri0, rfl⟩⟩
  case case4 htr =>  -- a ghost tri
    cases h; rw [formSwapTris_early g _ _ _ _ _ htr] at hs; cases hs
  case case7 s1 c1 he _ n2 n3 h23 _ c3 id htr _ _ c4 hseg =>  -- everything ran
    obtain rfl := verifyBoth_spec c4 c' _ h hs
    have h1 := fin he
    have p1 := formSwapTris_phase g _ _ _ _ _ htr
    have st := insertSegs_phase g _ c3 c' (by rw [p1.tets, h1.tets]; simpa using hne) hseg hs
      (by rw [hextra, p1.tets, h1.tets])
    -- the seg node is set on `c1` before the tris are listed: none of the clauses of `TetsFormed` reads it
    exact ⟨_, ⟨{ c1 with surfNode := n2 }, ⟨h1.sinv, h1.noSegs, h1.noTris, h1.tets, h1.nodup, h1.faces⟩,
      by simpa using p1.trans st⟩, Or.inr ⟨n2, n3, id, h23, rfl⟩⟩
  case case8 hne => exact (hne c' h).elim  -- the four segs failed
  case case9 => cases h; exact absurd rfl ‹St.ok = St.ok → False›  -- `ref_swap_node23` failed
  all_goals cases h  -- 5, 6: not two tris, or no face id

/-- **`ref_cavity_form_edge_swap`.**  If it returns ok with the state unknown (so: all nodes owned, no ghost cell, no
    face-id mismatch, both verifications passed) and no tet beyond the ones around the edge was pulled in, then the
    cavity lists exactly the tets and tris around the edge and its ledger is `∂T − (faces of T through the edge)`. -/
theorem formEdgeSwap_formed {φ : Int → Int → Int → G} (hφ : Alt φ) (hd : Diag φ) (g : Grid α) (n0 n1 node : Int)
    (c' : Cav) (h : formEdgeSwap g Cav.create n0 n1 node = (.ok, c')) (hs : c'.state = .unknown)
    (hne : g.tets.having2 Tet.nodes n0 n1 ≠ [])
    (hextra : c'.tetList = (g.tets.having2 Tet.nodes n0 n1).map fun p => (p.1 : Int)) :
    EdgeFormed φ g n0 n1 c' :=
  have ⟨_, run, _⟩ := formEdgeSwap_edgeRun g n0 n1 node c' h hs hne hextra
  run.formed hφ hd

theorem formEdgeSplit_edgeRun (g : Grid α) (n0 n1 newNode : Int) (c' : Cav)
    (h : formEdgeSplit g Cav.create n0 n1 newNode = (.ok, c')) (hs : c'.state = .unknown)
    (hne : g.tets.having2 Tet.nodes n0 n1 ≠ [])
    (hextra : c'.tetList = (g.tets.having2 Tet.nodes n0 n1).map fun p => (p.1 : Int)) : ∃ ss, EdgeRun g n0 n1 ss c' := by
  -- after the tet loop, a tri phase from `c1` to `c'` that lists the tris on the edge is what is asked
  have fin : ∀ {s1 c1}, formSplitTets g n0 n1 _ (g.tets.having2 Tet.nodes n0 n1) = (s1, c1, false) →
      (c1.tetList = c'.tetList → c1.tetList ≠ [] →
        ∃ ss, TriPhase c1 c' ss ((g.tris.having2 Tri.nodes n0 n1).map fun p => (p.1 : Int))) →
      ∃ ss, EdgeRun g n0 n1 ss c' := fun {s1 c1} he ph =>
    have h1 := formSplitTets_fresh g n0 n1 { Cav.create with node := newNode, split0 := n0, split1 := n1 } c1 s1 he
      rfl rfl rfl rfl
    (ph (h1.tets.trans hextra.symm) (by rw [h1.tets]; simpa using hne)).imp fun _ ph => ⟨c1, h1, ph⟩
  revert h
  fun_cases formEdgeSplit g Cav.create n0 n1 newNode <;> intro h
  case case1 => cases h; simp at hs  -- a node is not owned
  case case2 he =>  -- the tet loop returned early
    exact (early_absurd h hs (formSplitTets_early g n0 n1 _ _ _ _ he)).elim
  case case3 s1 c1 he tl hnt =>  -- no tri on the edge
    obtain rfl := verifyBoth_spec c1 c' _ h hs
    refine fin he fun _ _ => ?_
    rw [show g.tris.having2 Tri.nodes n0 n1 = [] from by simpa using hnt]
    exact ⟨_, .refl _⟩
  case case4 he2 =>  -- the tri loop returned early
    exact (early_absurd h hs ((formSplitTris_post g n0 n1 _ _ _ _ _ he2).early rfl)).elim
  case case5 => cases h  -- neither one nor two tris
  case case6 _ _ _ s1 c1 he tl _ s2 c2 he2 _ _ extra c4 hseg =>
    obtain rfl := verifyBoth_spec c4 c' _ h hs
    refine fin he fun ht hc1ne => ?_
    -- one tri on the edge: the tri loop, then the explicit split segs
    have := ((formSplitTris_post g n0 n1 _ _ _ _ _ he2).trans (insertSegs_post g hseg) fun _ => rfl).phase rfl hc1ne hs
      ht.symm
    rwa [List.append_nil] at this
  case case7 hne' => exact (hne' c' h).elim  -- the explicit segs failed
  case case8 _ _ _ s1 c1 he tl _ s2 c2 he2 _ _ =>  -- two tris on the edge
    obtain rfl := verifyBoth_spec c2 c' _ h hs
    exact fin he fun ht hc1ne => (formSplitTris_post g n0 n1 _ _ _ _ _ he2).phase rfl hc1ne hs ht.symm

/-- **`ref_cavity_form_edge_split`.**  If it returns ok with the state unknown and no tet beyond the ones around the
    edge was pulled in, the cavity lists exactly the tets and tris around the edge and its ledger is
    `∂T − (faces of T through the edge)`. -/
theorem formEdgeSplit_formed {φ : Int → Int → Int → G} (hφ : Alt φ) (hd : Diag φ) (g : Grid α) (n0 n1 newNode : Int)
    (c' : Cav) (h : formEdgeSplit g Cav.create n0 n1 newNode = (.ok, c')) (hs : c'.state = .unknown)
    (hne : g.tets.having2 Tet.nodes n0 n1 ≠ [])
    (hextra : c'.tetList = (g.tets.having2 Tet.nodes n0 n1).map fun p => (p.1 : Int)) :
    EdgeFormed φ g n0 n1 c' :=
  have ⟨_, run⟩ := formEdgeSplit_edgeRun g n0 n1 newNode c' h hs hne hextra
  run.formed hφ hd

def restrict (p : Face → Bool) (φ : Int → Int → Int → G) (a b c : Int) : G := if p ⟨a, b, c⟩ then φ a b c else 0

structure FaceSym (p : Face → Bool) : Prop where
  rot : ∀ a b c, p ⟨b, c, a⟩ = p ⟨a, b, c⟩
  swap : ∀ a b c, p ⟨b, a, c⟩ = p ⟨a, b, c⟩

theorem has_rot (a b c v : Int) : (⟨b, c, a⟩ : Face).has v = (⟨a, b, c⟩ : Face).has v := by
  simp only [Face.has]; rw [Bool.or_comm, ← Bool.or_assoc]

theorem has_swap (a b c v : Int) : (⟨b, a, c⟩ : Face).has v = (⟨a, b, c⟩ : Face).has v := by
  simp only [Face.has]; rw [Bool.or_comm (v == b)]

theorem FaceSym.of_has (q : (Int → Bool) → Bool) : FaceSym fun f => q f.has :=
  ⟨fun a b c => congrArg q (funext (has_rot a b c)), fun a b c => congrArg q (funext (has_swap a b c))⟩

theorem restrict_alt {p : Face → Bool} (hp : FaceSym p) {φ : Int → Int → Int → G} (hφ : Alt φ) :
    Alt (restrict p φ) := by
  refine ⟨fun a b c => ?_, fun a b c => ?_⟩
  · unfold restrict; rw [hp.rot a b c, hφ.rot a b c]
  · unfold restrict; rw [hp.swap a b c, hφ.swap a b c]; split <;> simp

theorem faceSum_restrict (p : Face → Bool) (φ : Int → Int → Int → G) (l : List Face) :
    faceSum (restrict p φ) l = faceSum φ (l.filter p) := by
  unfold faceSum
  rw [sum_filter_zero l p (φF (restrict p φ)) (fun f _ h => by simp only [φF, restrict, h]; rfl)]
  congr 1
  exact List.map_congr_left fun f hf => by simp only [φF, restrict, (List.mem_filter.mp hf).2, if_true]

/-- **localisation**: on a grid whose signed boundary chain vanishes for every alternating `φ` and whose adjacency
    is consistent, the tet faces on which a symmetric predicate `p` holds are matched by the boundary tris on which it
    holds (test the hypothesis with `restrict p φ`) -/
theorem localised_of_conforming {φ : Int → Int → Int → G} (hφ : Alt φ) (g : Grid α) {p : Face → Bool}
    (hp : FaceSym p) (hot : OrderOK g.tets) (hos : OrderOK g.tris)
    (hconf : ∀ χ : Int → Int → Int → G, Alt χ → meshBd χ g = 0) :
    ((walk g.tets).map fun t => faceSum φ ((tetFaces t).filter p)).sum =
      ((walk g.tris).map fun t => restrict p φ t.n0 t.n1 t.n2).sum := by
  have h := hconf (restrict p φ) (restrict_alt hp hφ)
  unfold meshBd tetsBd at h
  simp only [faceSum_restrict] at h
  rw [← (hot.map fun t => faceSum φ ((tetFaces t).filter p)).sum_eq,
    ← (hos.map fun t => restrict p φ t.n0 t.n1 t.n2).sum_eq] at h
  exact sub_eq_zero.mp h

theorem tri_has (t : Tri) (v : Int) : (⟨t.n0, t.n1, t.n2⟩ : Face).has v = t.nodes.contains v := by
  simp only [Face.has, Tri.nodes, List.contains_cons, List.contains_nil, Bool.or_false, Bool.or_assoc]

theorem tetFaces_nodes (t : Tet) (f : Face) (hf : f ∈ tetFaces t) (v : Int) (hv : f.has v = true) :
    t.nodes.contains v = true := by
  rcases t with ⟨a, b, c, d⟩
  rw [tetFaces_eq] at hf
  simp only [List.mem_cons, List.not_mem_nil, or_false] at hf
  simp only [Face.has, Bool.or_eq_true, beq_iff_eq] at hv
  simp only [Tet.nodes, List.contains_cons, List.contains_nil, Bool.or_false, Bool.or_eq_true, beq_iff_eq]
  rcases hf with rfl | rfl | rfl | rfl <;> rcases hv with (h | h) | h <;> simp only [h, true_or, or_true]

theorem edgeFaces_nil (n0 n1 : Int) (t : Tet) (h : (t.nodes.contains n0 && t.nodes.contains n1) = false) :
    edgeFaces n0 n1 t = [] := by
  unfold edgeFaces
  rw [List.filter_eq_nil_iff]
  intro f hf hh
  simp only [Bool.and_eq_true] at hh
  rw [tetFaces_nodes t f hf n0 hh.1, tetFaces_nodes t f hf n1 hh.2] at h
  cases h

theorem sum_walk_having2 {β : Type} (s : Cells β) (nodes : β → List Int) (v w : Int) (F F' : β → G)
    (hz : ∀ x, ((nodes x).contains v && (nodes x).contains w) = false → F x = 0)
    (he : ∀ x, ((nodes x).contains v && (nodes x).contains w) = true → F x = F' x) :
    ((walk s).map F).sum = ((s.having2 nodes v w).map fun p => F' p.2).sum := by
  have e : ((s.having2 nodes v w).map fun p => F' p.2) = ((s.having2 nodes v w).map (·.2)).map F' := by
    rw [List.map_map]; rfl
  rw [sum_filter_zero _ (fun x => (nodes x).contains v && (nodes x).contains w) F (fun x _ h => hz x h), e, having2_eq]
  congr 1
  exact List.map_congr_left fun x hx => he x (List.mem_filter.mp hx).2

theorem edgeMatched_of_conforming {φ : Int → Int → Int → G} (hφ : Alt φ) (g : Grid α) (n0 n1 : Int)
    (hot : OrderOK g.tets) (hos : OrderOK g.tris)
    (hconf : ∀ χ : Int → Int → Int → G, Alt χ → meshBd χ g = 0) : EdgeMatched φ g n0 n1 := by
  have h := localised_of_conforming hφ g (FaceSym.of_has fun h => h n0 && h n1) hot hos hconf
  rw [sum_walk_having2 g.tets Tet.nodes n0 n1 (fun t => faceSum φ ((tetFaces t).filter fun f => f.has n0 && f.has n1))
      (fun t => faceSum φ (edgeFaces n0 n1 t))
      (fun t ht => by rw [show (tetFaces t).filter _ = edgeFaces n0 n1 t from rfl, edgeFaces_nil n0 n1 t ht]; rfl)
      (fun t _ => rfl),
    sum_walk_having2 g.tris Tri.nodes n0 n1 (fun t => restrict (fun f => f.has n0 && f.has n1) φ t.n0 t.n1 t.n2)
      (fun t => φ t.n0 t.n1 t.n2)
      (fun t ht => by simp only [restrict, tri_has, ht]; rfl)
      (fun t ht => by simp only [restrict, tri_has, ht, if_true])] at h
  exact h

/-- a decidable sufficient condition for `meshBd χ g = 0`, for the non-vacuity examples -/
def gridOrient (g : Grid α) : Bool :=
  cancels (g.tets.valid.flatMap tetFaces) (g.tris.valid.map fun t => (⟨t.n0, t.n1, t.n2⟩ : Face))

theorem meshBd_zero_of_orient {φ : Int → Int → Int → G} (hφ : Alt φ) (g : Grid α) (h : gridOrient g = true) :
    meshBd φ g = 0 :=
  cancels_cells hφ g.tets.valid g.tris.valid h

end Refine.Lemmas.Cavity2
