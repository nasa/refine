import Refine.Gen.PartMacros
import Mathlib.Tactic.Linarith
import Mathlib.Tactic.Ring

/-!
  Facts about the *generated* `ref_part.h` macros (`Refine.Gen.PartMacros`, `Int`, `Int.tdiv` = C division).
  `omega` cannot divide by a variable, so the two divisions are reduced by hand to
  `large = small + 1`, `N - 1 = np * small + r` (`0 ≤ r < np`), `nLarge = r + 1`; what remains is linear, apart from
  the two products named in `implicit_bracket`.
-/
namespace Refine.Lemmas.Part
open Refine.Gen.PartMacros

abbrev small (N np : Int) : Int := ref_part_small_part_size N np
abbrev large (N np : Int) : Int := ref_part_large_part_size N np
abbrev nLarge (N np : Int) : Int := ref_part_n_large_part N np
abbrev first (N np k : Int) : Int := ref_part_first N np k
abbrev implicit (N np g : Int) : Int := ref_part_implicit N np g

theorem small_eq (N np : Int) (hN : 1 ≤ N) : small N np = (N - 1) / np := by
  unfold small ref_part_small_part_size
  exact Int.tdiv_eq_ediv_of_nonneg (by omega)

theorem small_nonneg (N np : Int) (hN : 1 ≤ N) (hp : 1 ≤ np) : 0 ≤ small N np := by
  rw [small_eq N np hN]; exact Int.ediv_nonneg (by omega) (by omega)

theorem large_eq (N np : Int) (hN : 1 ≤ N) (hp : 1 ≤ np) : large N np = small N np + 1 := by
  rw [small_eq N np hN]
  unfold large ref_part_large_part_size
  rw [Int.tdiv_eq_ediv_of_nonneg (by omega)]
  have h : N + np - 1 = (N - 1) + 1 * np := by ring
  rw [h, Int.add_mul_ediv_right _ _ (by omega)]

theorem nLarge_eq (N np : Int) (hN : 1 ≤ N) : nLarge N np = (N - 1) % np + 1 := by
  unfold nLarge ref_part_n_large_part
  have h1 := small_eq N np hN
  unfold small at h1
  rw [h1]
  have h := Int.mul_ediv_add_emod (N - 1) np
  linarith

theorem nLarge_pos (N np : Int) (hN : 1 ≤ N) (hp : 1 ≤ np) : 1 ≤ nLarge N np := by
  rw [nLarge_eq N np hN]; have := Int.emod_nonneg (N - 1) (show np ≠ 0 by omega); omega

theorem nLarge_le (N np : Int) (hN : 1 ≤ N) (hp : 1 ≤ np) : nLarge N np ≤ np := by
  rw [nLarge_eq N np hN]; have := Int.emod_lt_of_pos (N - 1) (show 0 < np by omega); omega

theorem total_eq (N np : Int) : N = np * small N np + nLarge N np := by
  unfold nLarge ref_part_n_large_part small; ring

theorem first_eq (N np k : Int) (hN : 1 ≤ N) (hp : 1 ≤ np) :
    first N np k = k * small N np + min k (nLarge N np) := by
  have hl := large_eq N np hN hp
  unfold large at hl
  unfold first ref_part_first
  rw [hl]
  show (if k < nLarge N np then k * (small N np + 1)
        else (k - nLarge N np) * small N np + nLarge N np * (small N np + 1)) = _
  split
  · rw [min_eq_left (by omega)]; ring
  · rw [min_eq_right (by omega)]; ring

theorem tdiv_bracket (a b : Int) (ha : 0 ≤ a) (hb : 0 < b) :
    0 ≤ Int.tdiv a b ∧ Int.tdiv a b * b ≤ a ∧ a < (Int.tdiv a b + 1) * b := by
  rw [Int.tdiv_eq_ediv_of_nonneg ha]
  refine ⟨Int.ediv_nonneg ha (by omega), Int.ediv_mul_le a (by omega), ?_⟩
  exact Int.lt_ediv_add_one_mul_self a hb

/-- In the `else` arm of `ref_part_implicit` the divisor `small` is ≥ 1: the C never divides by zero
    there (and the Lean totalisation `x.tdiv 0 = 0` is never used). -/
theorem implicit_else_divisor_pos (N np g : Int) (hN : 1 ≤ N) (hp : 1 ≤ np) (hg : g < N)
    (hbr : ¬ Int.tdiv g (large N np) < nLarge N np) : 1 ≤ small N np := by
  have hs := small_nonneg N np hN hp
  have hl := large_eq N np hN hp
  have ht := total_eq N np
  have hL := nLarge_le N np hN hp
  by_contra hc
  have hs0 : small N np = 0 := by omega
  rw [hl, hs0] at hbr
  simp at hbr
  rw [hs0] at ht
  omega

theorem implicit_eq (N np g : Int) : implicit N np g =
    if Int.tdiv g (large N np) < nLarge N np then Int.tdiv g (large N np)
    else Int.tdiv (g - nLarge N np * large N np) (small N np) + nLarge N np := rfl

theorem implicit_bracket (N np g : Int) (hN : 1 ≤ N) (hp : 1 ≤ np) (hg0 : 0 ≤ g) (hg : g < N) :
    0 ≤ implicit N np g ∧ implicit N np g < np ∧
    first N np (implicit N np g) ≤ g ∧ g < first N np (implicit N np g + 1) := by
  have hs := small_nonneg N np hN hp
  have hl := large_eq N np hN hp
  have ht := total_eq N np
  have hL1 := nLarge_pos N np hN hp
  have hLp := nLarge_le N np hN hp
  obtain ⟨k0, k1, k2⟩ := tdiv_bracket g (large N np) hg0 (by omega)
  rw [first_eq N np _ hN hp, first_eq N np _ hN hp, implicit_eq]
  by_cases hbr : Int.tdiv g (large N np) < nLarge N np
  · -- a large block: `k = g / (small + 1) < nLarge`
    rw [if_pos hbr]
    rw [hl] at k0 k1 k2 hbr ⊢
    generalize Int.tdiv g (small N np + 1) = k at *
    rw [min_eq_left (by omega), min_eq_left (by omega)]
    exact ⟨k0, by omega, by linarith, by linarith⟩
  · -- a small block: `j = (g - nLarge * (small + 1)) / small`, and `j < np - nLarge` because `g < N`
    have hs1 := implicit_else_divisor_pos N np g hN hp hg hbr
    rw [if_neg hbr]
    rw [hl] at k0 k1 k2 hbr ⊢
    have hge : nLarge N np * (small N np + 1) ≤ g :=
      le_trans (Int.mul_le_mul_of_nonneg_right (by omega) (by omega)) k1
    obtain ⟨j0, j1, j2⟩ := tdiv_bracket (g - nLarge N np * (small N np + 1)) (small N np) (by omega) (by omega)
    generalize Int.tdiv (g - nLarge N np * (small N np + 1)) (small N np) = j at *
    generalize small N np = s at *
    generalize nLarge N np = L at *
    have hjp : j < np - L := lt_of_mul_lt_mul_right (a := s) (by linarith) (by omega)
    rw [min_eq_right (by omega), min_eq_right (by omega)]
    exact ⟨by omega, by omega, by linarith, by linarith⟩

theorem first_zero (N np : Int) (hN : 1 ≤ N) (hp : 1 ≤ np) : first N np 0 = 0 := by
  have h := first_eq N np 0 hN hp
  have hL := nLarge_pos N np hN hp
  rw [h, min_eq_left (by omega)]; ring

theorem first_np (N np : Int) (hN : 1 ≤ N) (hp : 1 ≤ np) : first N np np = N := by
  have h := first_eq N np np hN hp
  have hL := nLarge_le N np hN hp
  have ht := total_eq N np
  rw [h, min_eq_right hL]; linarith

theorem first_mono (N np j k : Int) (hN : 1 ≤ N) (hp : 1 ≤ np) (hjk : j ≤ k) :
    first N np j ≤ first N np k := by
  have hj := first_eq N np j hN hp
  have hk := first_eq N np k hN hp
  have hs := small_nonneg N np hN hp
  rw [hj, hk]
  exact add_le_add (mul_le_mul_of_nonneg_right hjk hs) (min_le_min_right _ hjk)

theorem block_size (N np k : Int) (hN : 1 ≤ N) (hp : 1 ≤ np) :
    first N np (k + 1) - first N np k = small N np + (if k < nLarge N np then 1 else 0) := by
  have hj := first_eq N np (k + 1) hN hp
  have hk := first_eq N np k hN hp
  rw [hj, hk]
  split
  · rw [min_eq_left (by omega), min_eq_left (by omega)]; ring
  · rw [min_eq_right (by omega), min_eq_right (by omega)]; ring

theorem implicit_iff (N np g r : Int) (hN : 1 ≤ N) (hp : 1 ≤ np) (hg0 : 0 ≤ g) (hg : g < N) :
    implicit N np g = r ↔ first N np r ≤ g ∧ g < first N np (r + 1) := by
  obtain ⟨_, _, i1, i2⟩ := implicit_bracket N np g hN hp hg0 hg
  refine ⟨fun h => h ▸ ⟨i1, i2⟩, fun ⟨h1, h2⟩ => ?_⟩
  rcases lt_trichotomy r (implicit N np g) with h | h | h
  · have : first N np (r + 1) ≤ first N np (implicit N np g) := first_mono N np _ _ hN hp (by omega)
    omega
  · exact h.symm
  · have : first N np (implicit N np g + 1) ≤ first N np r := first_mono N np _ _ hN hp (by omega)
    omega

end Refine.Lemmas.Part

/-! the same with the rank count and the ranks in `Nat`, as the models of the parallel readers have them -/
namespace Refine.Lemmas.PartMeshb
open Refine.Gen.PartMacros

/-- the block owner of vertex `g` -/
abbrev imp (N : Int) (np : Nat) (g : Int) : Int := ref_part_implicit N (np : Int) g

/-- the first global of part `p` -/
abbrev firstOf (N : Int) (np : Nat) (p : Nat) : Int := ref_part_first N (np : Int) (p : Int)

theorem imp_range {N : Int} {np : Nat} {g : Int} (hnp : 1 ≤ np) (h0 : 0 ≤ g) (h1 : g < N) :
    0 ≤ imp N np g ∧ imp N np g < (np : Int) := by
  obtain ⟨i0, i1, _, _⟩ := Part.implicit_bracket N (np : Int) g (by omega) (by omega) h0 h1
  exact ⟨i0, i1⟩

theorem firstOf_zero {N : Int} {np : Nat} (hN : 1 ≤ N) (hnp : 1 ≤ np) : firstOf N np 0 = 0 :=
  Part.first_zero N np hN (by omega)

theorem firstOf_np {N : Int} {np : Nat} (hN : 1 ≤ N) (hnp : 1 ≤ np) : firstOf N np np = N :=
  Part.first_np N np hN (by omega)

theorem first_succ_cast (N : Int) (np r : Nat) : firstOf N np (r + 1) = Part.first N (np : Int) ((r : Int) + 1) := by
  unfold firstOf; push_cast; rfl

theorem block_bounds {N : Int} {np : Nat} (hN : 1 ≤ N) (r : Nat) (hr : r < np) :
    0 ≤ firstOf N np r ∧ firstOf N np r ≤ firstOf N np (r + 1) ∧ firstOf N np (r + 1) ≤ N := by
  have hp : (1 : Int) ≤ np := by omega
  rw [first_succ_cast]
  exact ⟨(Part.first_zero N np hN hp).symm.trans_le (Part.first_mono N np 0 r hN hp (by omega)),
    Part.first_mono N np r (r + 1) hN hp (by omega),
    (Part.first_mono N np (r + 1) np hN hp (by omega)).trans_eq (Part.first_np N np hN hp)⟩

theorem imp_eq_iff {N : Int} {np : Nat} (hN : 1 ≤ N) (hnp : 1 ≤ np) (r : Nat) (g : Int) (h0 : 0 ≤ g) (h1 : g < N) :
    imp N np g = (r : Int) ↔ firstOf N np r ≤ g ∧ g < firstOf N np (r + 1) := by
  rw [first_succ_cast]
  exact Part.implicit_iff N (np : Int) g (r : Int) hN (by omega) h0 h1

end Refine.Lemmas.PartMeshb
