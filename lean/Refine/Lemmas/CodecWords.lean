import Refine.Model.Meshb

/-! the word level of the codec models: little-endian words and two's complement, what a cast to `REF_INT` keeps.
    Core-only imports, so that the field-file lemmas (SolChunk, C09Sol) can use it. -/
namespace Refine.Lemmas.Codec
open Refine.Model.Meshb

@[simp] theorem encLE_length (k n : Nat) : (encLE k n).length = k := by
  induction k generalizing n with
  | zero => rfl
  | succ k ih => simp [encLE, ih]

theorem decLE_encLE (k n : Nat) : decLE (encLE k n) = n % 256 ^ k := by
  induction k generalizing n with
  | zero => simp [encLE, decLE, Nat.mod_one]
  | succ k ih =>
    simp only [encLE, decLE, ih]
    have h1 : (UInt8.ofNat (n % 256)).toNat = n % 256 := by
      rw [UInt8.toNat_ofNat']; omega
    rw [h1, Nat.pow_succ, Nat.mul_comm (256 ^ k) 256, Nat.mod_mul]

theorem decLE_lt (bs : Bytes) : decLE bs < 256 ^ bs.length := by
  induction bs with
  | nil => simp [decLE]
  | cons b bs ih =>
    simp only [decLE, List.length_cons, Nat.pow_succ]
    have := b.toNat_lt
    omega

theorem decLE_encLE_of_lt {k n : Nat} (h : n < 256 ^ k) : decLE (encLE k n) = n := by
  rw [decLE_encLE, Nat.mod_eq_of_lt h]

theorem ofSigned_lt (bits : Nat) (x : Int) : ofSigned bits x < 2 ^ bits := by
  unfold ofSigned
  have hpos : (0 : Int) < ((2 ^ bits : Nat) : Int) := Int.natCast_pos.2 (Nat.two_pow_pos bits)
  have h1 := Int.emod_lt_of_pos x hpos
  have h0 := Int.emod_nonneg x (Int.ne_of_gt hpos)
  omega

theorem ofSigned_natCast {bits n : Nat} (h : n < 2 ^ bits) : ofSigned bits (n : Int) = n := by
  unfold ofSigned
  rw [Int.emod_eq_of_lt (by omega) (by exact_mod_cast h), Int.toNat_natCast]

theorem toSigned_ofSigned {bits : Nat} (hb : 0 < bits) {x : Int}
    (h : -((2 ^ (bits - 1) : Nat) : Int) ≤ x ∧ x < ((2 ^ (bits - 1) : Nat) : Int)) :
    toSigned bits (ofSigned bits x) = x := by
  obtain ⟨lo, hi⟩ := h
  obtain ⟨b, rfl⟩ : ∃ b, bits = b + 1 := ⟨bits - 1, by omega⟩
  unfold toSigned ofSigned
  rw [Nat.add_sub_cancel] at *
  rw [Nat.pow_succ]
  generalize 2 ^ b = P at *
  by_cases hx : 0 ≤ x
  · rw [Int.emod_eq_of_lt hx (by omega), if_pos (by omega)]; omega
  · rw [← Int.add_emod_right, Int.emod_eq_of_lt (by omega) (by omega), if_neg (by omega)]; omega

theorem int32_iff (x : Int) : int32 x ↔ -((2 ^ 31 : Nat) : Int) ≤ x ∧ x < ((2 ^ 31 : Nat) : Int) := by
  unfold int32; omega

theorem int32_of_lt {n : Nat} (h : n < 2 ^ 31) : int32 (n : Int) := by
  unfold int32; constructor <;> omega

theorem toSigned32_ofSigned32 {x : Int} (h : int32 x) : toSigned 32 (ofSigned 32 x) = x :=
  toSigned_ofSigned (by omega) ((int32_iff x).1 h)

theorem wrap32_of_int32 {x : Int} (h : int32 x) : wrap32 x = x := toSigned32_ofSigned32 h

theorem int32_toSigned32 {n : Nat} (h : n < 2 ^ 32) : int32 (toSigned 32 n) := by
  unfold int32 toSigned
  split <;> omega

theorem int32_wrap32 (x : Int) : int32 (wrap32 x) := int32_toSigned32 (ofSigned_lt 32 x)

theorem wrap32_idem (x : Int) : wrap32 (wrap32 x) = wrap32 x := wrap32_of_int32 (int32_wrap32 x)

/-- a 64-bit pattern read as `REF_LONG` and cast to `REF_INT` is its low 32 bits read as `REF_INT` -/
theorem wrap32_toSigned64 (n : Nat) : wrap32 (toSigned 64 n) = toSigned 32 (n % 2 ^ 32) := by
  unfold wrap32 ofSigned
  congr 1
  unfold toSigned
  split <;> omega

theorem ofSigned_mod {a b : Nat} (h : b ≤ a) (x : Int) : ofSigned a x % 2 ^ b = ofSigned b x := by
  unfold ofSigned
  have hd : ((2 ^ b : Nat) : Int) ∣ ((2 ^ a : Nat) : Int) := Int.natCast_dvd_natCast.2 (Nat.pow_dvd_pow 2 h)
  have ha := Int.emod_nonneg x (b := ((2 ^ a : Nat) : Int)) (Int.natCast_ne_zero.2 (Nat.ne_of_gt (Nat.two_pow_pos a)))
  have hb := Int.emod_nonneg x (b := ((2 ^ b : Nat) : Int)) (Int.natCast_ne_zero.2 (Nat.ne_of_gt (Nat.two_pow_pos b)))
  apply Int.ofNat.inj
  rw [Int.ofNat_eq_natCast, Int.ofNat_eq_natCast, Int.natCast_emod, Int.toNat_of_nonneg ha, Int.toNat_of_nonneg hb,
    Int.emod_emod_of_dvd x hd]

end Refine.Lemmas.Codec
