import Refine.Lemmas.Gradation

/-!
  A concrete field on which the hypotheses of the sweep theorems of `Props/C10Gradation.lean` hold and on which
  gradation is active: two vertices joined by one edge, `r = 1` (so the limit metric of a vertex is its
  neighbour's metric), tensors `A = diag(4, 9, 1)` and `B = diag(1, 36, 1/4)`.  One sweep leaves
  `diag(4, 36, 1)` — the intersection — at both vertices.
-/
namespace Refine.Model.Gradation
open Refine Refine.Scalar Refine.ScalarReal Refine.Model.Matrix Refine.Model.Metric
open Refine.Props.C16 (InnerExact sqrtM_diag491 sqrtM_diag innerExact_diag combine_diag)
open Refine.Model.Geom (V3)

noncomputable def exA : M6 ℝ := ⟨4, 0, 0, 9, 0, 1⟩
noncomputable def exB : M6 ℝ := ⟨1, 0, 0, 36, 0, 1 / 4⟩
noncomputable def exBoth : M6 ℝ := ⟨4, 0, 0, 36, 0, 1⟩
noncomputable def exXyz : List (V3 ℝ) := [⟨0, 0, 0⟩, ⟨1, 0, 0⟩]
noncomputable def exField : List (M6 ℝ) := [exA, exB]

theorem sqrt36 : Real.sqrt 36 = 6 := by
  rw [show (36 : ℝ) = 6 * 6 by norm_num]; exact Real.sqrt_mul_self (by norm_num)
theorem sqrt_quarter : Real.sqrt (1 / 4) = 1 / 2 := by
  rw [show (1 / 4 : ℝ) = 1 / 2 * (1 / 2) by norm_num]; exact Real.sqrt_mul_self (by norm_num)

theorem sqrtM_exB :
    sqrtM (⟨1, 0, 0, 36, 0, 1 / 4⟩ : M6 ℝ) = .ok (⟨1, 0, 0, 6, 0, 1 / 2⟩, ⟨1 / 1, 0, 0, 1 / 6, 0, 1 / (1 / 2)⟩) := by
  have h := sqrtM_diag (a := 1) (b := 36) (c := 1 / 4) (by norm_num) (by norm_num) (by norm_num)
  rw [Real.sqrt_one, sqrt36, sqrt_quarter] at h
  exact h (by rw [divisible_iff]; norm_num) (by rw [divisible_iff]; norm_num) (by rw [divisible_iff]; norm_num)

theorem sqrtM_exA :
    sqrtM (⟨4, 0, 0, 9, 0, 1⟩ : M6 ℝ) = .ok (⟨2, 0, 0, 3, 0, 1⟩, ⟨1 / 2, 0, 0, 1 / 3, 0, 1 / 1⟩) := by
  rw [sqrtM_diag491]; norm_num

/-- intersection of a diagonal tensor whose square root is known with any diagonal tensor, and the exactness of
    the two inner decompositions -/
theorem intersect_diag {a b c sa sb sc : ℝ}
    (hs : sqrtM (⟨a, 0, 0, b, 0, c⟩ : M6 ℝ) = .ok (⟨sa, 0, 0, sb, 0, sc⟩, ⟨1 / sa, 0, 0, 1 / sb, 0, 1 / sc⟩)) (x y z : ℝ) :
    intersect (⟨a, 0, 0, b, 0, c⟩ : M6 ℝ) ⟨x, 0, 0, y, 0, z⟩ =
      .ok ⟨sa * max 1 (1 / sa * x * (1 / sa)) * sa, 0, 0, sb * max 1 (1 / sb * y * (1 / sb)) * sb, 0,
           sc * max 1 (1 / sc * z * (1 / sc)) * sc⟩ ∧
    CallExact (⟨a, 0, 0, b, 0, c⟩ : M6 ℝ) ⟨x, 0, 0, y, 0, z⟩ := by
  refine ⟨?_, _, _, _, _, innerExact_diag hs x y z⟩
  rw [intersect_of hs, combine_diag (innerExact_diag hs x y z)]
  simp only [cmax_eq, one_eq]

theorem exA_exB : intersect exA exB = .ok exBoth := by
  unfold exA exB exBoth; rw [(intersect_diag sqrtM_exA _ _ _).1]; norm_num
theorem exA_exBoth : intersect exA exBoth = .ok exBoth := by
  unfold exA exBoth; rw [(intersect_diag sqrtM_exA _ _ _).1]; norm_num
theorem exB_exA : intersect exB exA = .ok exBoth := by
  unfold exA exB exBoth; rw [(intersect_diag sqrtM_exB _ _ _).1]; norm_num
theorem exB_exBoth : intersect exB exBoth = .ok exBoth := by
  unfold exB exBoth; rw [(intersect_diag sqrtM_exB _ _ _).1]; norm_num

/-- `r = 1`: `log r = 0`, the enlargement factor is `1^-2 = 1`, the limit metric is the neighbour's metric -/
theorem limitMS_log_one (m : M6 ℝ) (dir : Vec3 ℝ) : limitMS (Real.log 1) m dir = m := by
  unfold limitMS scaleM
  simp only [Real.log_one, mul_eq, add_eq, one_eq, pow_eq, mul_zero, add_zero, Real.one_rpow, mul_one]

theorem msUpdate_log_one {dir : Vec3 ℝ} {orig metric : List (M6 ℝ)} {a b : Nat} {lim m : M6 ℝ}
    (h1 : intersect (mAt orig a) (mAt orig b) = .ok lim) (h2 : intersect (mAt metric a) lim = .ok m) :
    msUpdate (Real.log 1) dir orig metric a b = some (metric.set a m) := by
  unfold msUpdate
  rw [limitMS_log_one, h1]
  dsimp only
  rw [h2]

theorem updExact_log_one {dir : Vec3 ℝ} {orig metric : List (M6 ℝ)} {a b : Nat} {lim : M6 ℝ}
    (h1 : intersect (mAt orig a) (mAt orig b) = .ok lim) (H : CallExact (mAt metric a) lim) :
    UpdExact (Real.log 1) dir orig metric a b := by
  intro limited hl
  rw [limitMS_log_one, h1] at hl
  cases hl
  exact H

theorem exUpd01 (dir : Vec3 ℝ) : msUpdate (Real.log 1) dir exField exField 0 1 = some [exBoth, exB] :=
  msUpdate_log_one (orig := exField) (metric := exField) (a := 0) (b := 1) exA_exB exA_exBoth

theorem exUpd10 (dir : Vec3 ℝ) : msUpdate (Real.log 1) dir exField [exBoth, exB] 1 0 = some [exBoth, exBoth] :=
  msUpdate_log_one (orig := exField) (metric := [exBoth, exB]) (a := 1) (b := 0) exB_exA exB_exBoth

theorem exSweep_value : msSweeps exXyz 1 [(0, 1)] 1 exField = [exBoth, exBoth] := by
  unfold msSweeps msSweeps msSweep
  rw [log_eq, List.foldl_cons, List.foldl_nil]
  unfold msEdge
  dsimp only
  rw [exUpd01]
  dsimp only
  rw [exUpd10]

theorem exSweepsExact : SweepsExact exXyz 1 [(0, 1)] 1 exField := by
  refine ⟨⟨⟨?_, ?_⟩, trivial⟩, trivial⟩
  · exact updExact_log_one (orig := exField) (metric := exField) (a := 0) (b := 1) exA_exB
      (intersect_diag sqrtM_exA _ _ _).2
  · intro metric1 hm
    rw [exUpd01] at hm
    cases hm
    exact updExact_log_one (orig := exField) (metric := [exBoth, exB]) (a := 1) (b := 0) exB_exA
      (intersect_diag sqrtM_exB _ _ _).2

end Refine.Model.Gradation
