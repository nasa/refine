import Refine.Lemmas.Cavity2Form

/-!
  `ref_cavity_form_edge_collapse`.  The cavity lists the ball of `n0`, then what is left of the ball of `n1`; its ledger
  is `∂T −` the faces the loops skip (those containing the kept node, and all faces of the tets that hold both ends).
  On a conforming grid these are matched by the boundary tris at the two ends: conformity localised to the faces that
  contain `n0` or `n1`.
-/
namespace Refine.Lemmas.Cavity2
open Refine.Model.Cavity Refine.Model.Cavity2 Refine.Lemmas.Cavity Refine.Props.C01

variable {G : Type} [AddCommGroup G] {α : Type}

/-- the faces of a tet that the tet loops of `form_edge_collapse` do NOT insert -/
def collapseSkip (n0 n1 keep : Int) (t : Tet) : List Face :=
  if t.nodes.contains n0 && t.nodes.contains n1 then tetFaces t else (tetFaces t).filter fun f => f.has keep

/-- what the tet loops of `form_edge_collapse` let through -/
def collapseKeep (n0 n1 keep : Int) (t : Tet) (f : Face) : Bool :=
  !(t.nodes.contains n0 && t.nodes.contains n1) && !(f.has keep)

theorem collapseSkip_eq (n0 n1 keep : Int) (t : Tet) :
    ((tetFaces t).filter fun f => !(collapseKeep n0 n1 keep t f)) = collapseSkip n0 n1 keep t := by
  unfold collapseSkip collapseKeep
  cases t.nodes.contains n0 && t.nodes.contains n1
  · simp only [Bool.not_false, Bool.true_and, Bool.not_not, Bool.false_eq_true, if_false]
  · simp only [Bool.not_true, Bool.false_and, Bool.not_false, List.filter_true, if_true]

def freshCells {β : Type} (l : List Int) (cells : List (Nat × β)) : List (Nat × β) :=
  cells.filter fun p => !(l.contains (p.1 : Int))

theorem freshCells_append_single {β : Type} (l : List Int) (cell : Nat) (cells : List (Nat × β))
    (h : ∀ p ∈ cells, p.1 ≠ cell) : freshCells (l ++ [(cell : Int)]) cells = freshCells l cells := by
  unfold freshCells
  apply List.filter_congr
  intro p hp
  have := h p hp
  simp only [List.contains_append, List.contains_cons, List.contains_nil, Bool.or_false]
  have e : ((p.1 : Int) == (cell : Int)) = false := by
    simp only [beq_eq_false_iff_ne, ne_eq, Int.natCast_inj]; exact this
  rw [e]; simp

theorem freshCells_mem {β : Type} (l : List Int) (cells : List (Nat × β)) (p : Nat × β)
    (h : p ∈ freshCells l cells) : p ∈ cells := (List.mem_filter.mp h).1

theorem freshCells_nil {β : Type} (cells : List (Nat × β)) : freshCells [] cells = cells := by
  simp [freshCells]

theorem freshCells_cons_of_mem {β : Type} {l : List Int} {p : Nat × β} (rest : List (Nat × β))
    (h : l.contains (p.1 : Int) = true) : freshCells l (p :: rest) = freshCells l rest := by
  simp only [freshCells, List.filter_cons, h, Bool.not_true, Bool.false_eq_true, if_false]

theorem freshCells_push {β : Type} {l : List Int} {cell : Nat} {x : β} {rest : List (Nat × β)}
    (hnd : (((cell, x) :: rest).map (·.1)).Nodup) (h : ¬ l.contains (cell : Int) = true) :
    freshCells l ((cell, x) :: rest) = (cell, x) :: freshCells (l ++ [(cell : Int)]) rest := by
  rw [freshCells_append_single l cell rest fun q hq e => (List.nodup_cons.mp hnd).1 (List.mem_map.mpr ⟨q, hq, e⟩)]
  simp only [freshCells, List.filter_cons, Bool.eq_false_iff.mpr h, Bool.not_false, if_true]

/-- what a tet loop of `form_edge_collapse` on `c`, `cells` returned (`b`: it returned early): an early return is a failure
    or a ghost tet; otherwise the cells of the walk that were not listed are, and a tet that holds both ends keeps no face -/
def CollapseTetsPost (g : Grid α) (n0 n1 keep : Int) (c' : Cav) (s : Refine.Model.Cavity.St) (b : Bool) (c : Cav)
    (cells : List (Nat × Tet)) : Prop :=
  (b = true → s ≠ .ok ∨ c'.state = .partition_constrained) ∧
  (b = false → (∀ p ∈ cells, g.tets.get? (p.1 : Int) = some p.2) → (cells.map (·.1)).Nodup →
    TetsListed g (collapseKeep n0 n1 keep) c c' ((freshCells c.tetList cells).map fun p => (p.1 : Int)))

theorem formCollapseTets_post (g : Grid α) (n0 n1 keep : Int) (cells : List (Nat × Tet)) (c c' : Cav)
    (s : Refine.Model.Cavity.St) (b : Bool) (h : formCollapseTets g n0 n1 keep c cells = (s, c', b)) :
    CollapseTetsPost g n0 n1 keep c' s b c cells := by
  -- a listed tet is a `push`, whether or not it holds both ends (then it keeps no face); `hk`: what it keeps
  have step : ∀ {c c1 : Cav} {cell : Nat} {tet : Tet} {rest : List (Nat × Tet)} {fs : List Face},
      ¬ c.tetList.contains (cell : Int) = true → (tetFaces tet).filter (collapseKeep n0 n1 keep tet) = fs →
      insertFaces { c with tetList := c.tetList ++ [(cell : Int)] } fs = (.ok, c1) →
      CollapseTetsPost g n0 n1 keep c' s b c1 rest → CollapseTetsPost g n0 n1 keep c' s b c ((cell, tet) :: rest) := by
    intro c c1 cell tet rest fs hcont hk hins ih
    refine ⟨ih.1, fun hb hcells hnd => ?_⟩
    have st := TetsListed.push (keep := collapseKeep n0 n1 keep) (hcells _ List.mem_cons_self)
      (fun hm => hcont (List.contains_iff_mem.mpr hm)) (hk ▸ hins)
    rw [freshCells_push hnd hcont, ← st.tets]
    exact st.trans (ih.2 hb (fun p hp => hcells p (List.mem_cons_of_mem _ hp)) (List.nodup_cons.mp hnd).2)
  fun_induction formCollapseTets g n0 n1 keep c cells with
  | case1 c => cases h; exact ⟨fun e => (by cases e), fun _ _ _ => .refl _⟩
  | case2 c cell tet rest hcont ih =>
    rw [CollapseTetsPost, freshCells_cons_of_mem rest hcont]
    exact ⟨(ih h).1, fun hb hcells hnd =>
      (ih h).2 hb (fun p hp => hcells p (List.mem_cons_of_mem _ hp)) (List.nodup_cons.mp hnd).2⟩
  | case3 c cell tet rest _ c0 _ => cases h; exact ⟨fun _ => Or.inr rfl, fun e => by cases e⟩
  | case4 c cell tet rest hcont c0 _ hboth ih =>
    exact step hcont (List.filter_eq_nil_iff.mpr fun f _ => by
      simp only [collapseKeep, hboth, Bool.not_true, Bool.false_and]; decide) rfl (ih h)
  | case5 c cell tet rest hcont c0 _ hboth c1 hins ih =>
    exact step hcont (List.filter_congr fun f _ => by
      simp only [collapseKeep, hboth, Bool.not_false, Bool.true_and]) hins (ih h)
  | case6 c cell tet rest _ c0 _ _ s1 c1 hne _ => cases h; exact ⟨fun _ => Or.inl hne, fun e => by cases e⟩

theorem TetsListed.collapse_sum {g : Grid α} {n0 n1 keep : Int} {c c' : Cav} {cells : List (Nat × Tet)}
    (l : TetsListed g (collapseKeep n0 n1 keep) c c' (cells.map fun p => (p.1 : Int)))
    (hcells : ∀ p ∈ cells, g.tets.get? (p.1 : Int) = some p.2) (hinv : SlotsInv c.faces)
    {φ : Int → Int → Int → G} (hφ : Alt φ) :
    rowsSum φ c'.faces.rows = rowsSum φ c.faces.rows +
      (cells.map fun p => faceSum φ (tetFaces p.2) - faceSum φ (collapseSkip n0 n1 keep p.2)).sum := by
  simp only [rowsSum_walk l.puts hcells hinv hφ, collapseSkip_eq]

/-- the sides of a tri that `form_edge_collapse` inserts: 01, 12, 20 without the kept node -/
def collapseSegs (keep : Int) (tri : Tri) : List Seg :=
  ([(tri.n0, tri.n1), (tri.n1, tri.n2), (tri.n2, tri.n0)].filter
    fun p => keep != p.1 && keep != p.2).map fun p => (⟨p.1, p.2, tri.id⟩ : Seg)

theorem formCollapseTris_post (g : Grid α) (n0 n1 keep : Int) (cells : List (Nat × Tri))
    (hnd : (cells.map (·.1)).Nodup) (c c' : Cav) (s : Refine.Model.Cavity.St) (b : Bool)
    (h : formCollapseTris g n0 n1 keep c cells = (s, c', b)) :
    TriLoopPost c c' s b ((freshCells c.triList cells).map fun p => (p.1 : Int)) := by
  fun_induction formCollapseTris g n0 n1 keep c cells with
  | case1 c => cases h; exact .done _
  | case2 c cell tri rest hcont ih =>
    rw [freshCells_cons_of_mem rest hcont]
    exact ih (List.nodup_cons.mp hnd).2 h
  | case3 c cell tri rest hcont c0 _ => cases h; exact .early_ret _ (Or.inr rfl)
  | case4 c cell tri rest hcont c0 _ _ ih =>
    rw [freshCells_push hnd hcont]
    exact (ih (List.nodup_cons.mp hnd).2 h).list
  | case5 c cell tri rest hcont c0 _ _ segs c1 hins ih =>
    rw [freshCells_push hnd hcont]
    exact .round g hins (ih (List.nodup_cons.mp hnd).2 h) fun e => by rw [e]
  | case6 c cell tri rest hcont c0 _ _ segs s1 c1 hne' hins => cases h; exact .early_ret _ (Or.inl hne')

/-- the cells the four loops list: ball of `n0`, then the cells of the ball of `n1` not yet listed -/
def ballA {β : Type} (s : Cells β) (nodes : β → List Int) (n0 : Int) : List (Nat × β) := s.having nodes n0
def ballB {β : Type} (s : Cells β) (nodes : β → List Int) (n0 n1 : Int) : List (Nat × β) :=
  freshCells ((ballA s nodes n0).map fun p => (p.1 : Int)) (s.having nodes n1)

def ballSkip (φ : Int → Int → Int → G) (g : Grid α) (n0 n1 : Int) : G :=
  ((ballA g.tets Tet.nodes n0).map fun p => faceSum φ (collapseSkip n0 n1 n0 p.2)).sum +
  ((ballB g.tets Tet.nodes n0 n1).map fun p => faceSum φ (collapseSkip n0 n1 n1 p.2)).sum

structure BallFormed (φ : Int → Int → Int → G) (g : Grid α) (n0 n1 : Int) (c' : Cav) : Prop where
  finv : SlotsInv c'.faces
  sinv : SlotsInv c'.segs
  node : c'.node = n0
  tets : c'.tetList = ((ballA g.tets Tet.nodes n0) ++ (ballB g.tets Tet.nodes n0 n1)).map fun p => (p.1 : Int)
  tris : c'.triList = ((ballA g.tris Tri.nodes n0) ++ (ballB g.tris Tri.nodes n0 n1)).map fun p => (p.1 : Int)
  ledger : ledgerVal φ c' = (c'.tetList.map (tetBd φ g)).sum - ballSkip φ g n0 n1

/-- local conformity around the two ends: the skipped faces leave exactly the boundary tris that contain an end -/
def BallMatched (φ : Int → Int → Int → G) (g : Grid α) (n0 n1 : Int) : Prop :=
  ballSkip φ g n0 n1 =
    (((ballA g.tris Tri.nodes n0) ++ (ballB g.tris Tri.nodes n0 n1)).map fun p => φ p.2.n0 p.2.n1 p.2.n2).sum

theorem ball_get {β : Type} (s : Cells β) (nodes : β → List Int) (n0 n1 : Int) (p : Nat × β)
    (hp : p ∈ ballA s nodes n0 ++ ballB s nodes n0 n1) : s.get? (p.1 : Int) = some p.2 :=
  (List.mem_append.mp hp).elim (having_get s nodes n0 p) fun h => having_get s nodes n1 p (freshCells_mem _ _ p h)

theorem BallFormed.ledgerEq {φ : Int → Int → Int → G} {g : Grid α} {n0 n1 : Int} {c' : Cav}
    (h : BallFormed φ g n0 n1 c') (hm : BallMatched φ g n0 n1) : LedgerEq φ g c' := by
  unfold LedgerEq
  rw [h.ledger, hm, h.tris]
  rw [triVal_idx_sum φ g _ (ball_get g.tris Tri.nodes n0 n1)]

/-- how `form_edge_collapse` got to a cavity `c'` it returns ok and unflagged, with no tet beyond the two balls: the tet
    loop over the ball of `n0` on the fresh cavity gives `cA`, the one over the rest of the ball of `n1` gives `cB`, and
    the two tri loops are a tri phase from `cB` to `c'` that lists the boundary tris of the two balls -/
structure BallRun (g : Grid α) (n0 n1 : Int) (c' : Cav) : Prop where
  run : ∃ cA cB ss, TetsListed g (collapseKeep n0 n1 n0) { Cav.create with node := n0, collapse0 := n0, collapse1 := n1 } cA
      ((ballA g.tets Tet.nodes n0).map fun p => (p.1 : Int)) ∧
    TetsListed g (collapseKeep n0 n1 n1) cA cB ((ballB g.tets Tet.nodes n0 n1).map fun p => (p.1 : Int)) ∧
    TriPhase cB c' ss (((ballA g.tris Tri.nodes n0) ++ (ballB g.tris Tri.nodes n0 n1)).map fun p => (p.1 : Int))
  tets : c'.tetList = ((ballA g.tets Tet.nodes n0) ++ (ballB g.tets Tet.nodes n0 n1)).map fun p => (p.1 : Int)

theorem formEdgeCollapse_run (g : Grid α) (n0 n1 : Int)
    (c' : Cav) (h : formEdgeCollapse g Cav.create n0 n1 = (.ok, c')) (hs : c'.state = .unknown)
    (hne : g.tets.having Tet.nodes n0 ≠ [])
    (hndt0 : ((g.tets.having Tet.nodes n0).map (·.1)).Nodup) (hndt1 : ((g.tets.having Tet.nodes n1).map (·.1)).Nodup)
    (hnds0 : ((g.tris.having Tri.nodes n0).map (·.1)).Nodup) (hnds1 : ((g.tris.having Tri.nodes n1).map (·.1)).Nodup)
    (hextra : c'.tetList =
      ((ballA g.tets Tet.nodes n0) ++ (ballB g.tets Tet.nodes n0 n1)).map fun p => (p.1 : Int)) :
    BallRun g n0 n1 c' := by
  obtain ⟨_, _, _, ctr, _, _, _⟩ := create_facts
  revert h
  fun_cases formEdgeCollapse g Cav.create n0 n1 <;> intro h
  case case1 => cases h; simp at hs  -- an end is not owned
  -- 2–5: one of the four loops (tets at `n0`, tets at `n1`, tris at `n0`, tris at `n1`) returned early
  case case2 he => exact (early_absurd h hs ((formCollapseTets_post g n0 n1 n0 _ _ _ _ _ he).1 rfl)).elim
  case case3 he => exact (early_absurd h hs ((formCollapseTets_post g n0 n1 n1 _ _ _ _ _ he).1 rfl)).elim
  case case4 he => exact (early_absurd h hs ((formCollapseTris_post g n0 n1 n0 _ hnds0 _ _ _ _ he).early rfl)).elim
  case case5 he => exact (early_absurd h hs ((formCollapseTris_post g n0 n1 n1 _ hnds1 _ _ _ _ he).early rfl)).elim
  case case6 _ _ c0 s1 cA heA s2 cB heB s3 cC heC s4 cD heD =>  -- all four ran: `cA`, `cB`, `cC`, `cD` in turn
    obtain rfl := verifyBoth_spec cD c' _ h hs
    have lA := (formCollapseTets_post g n0 n1 n0 _ _ cA s1 false heA).2 rfl (having_get g.tets Tet.nodes n0) hndt0
    have e0 : freshCells c0.tetList (g.tets.having Tet.nodes n0) = ballA g.tets Tet.nodes n0 := freshCells_nil _
    rw [e0] at lA
    have lB := (formCollapseTets_post g n0 n1 n1 _ cA cB s2 false heB).2 rfl (having_get g.tets Tet.nodes n1) hndt1
    rw [show cA.tetList = (ballA g.tets Tet.nodes n0).map fun p => (p.1 : Int) from lA.tets,
      show freshCells _ (g.tets.having Tet.nodes n1) = ballB g.tets Tet.nodes n0 n1 from rfl] at lB
    have hBt : cB.tetList =
        ((ballA g.tets Tet.nodes n0) ++ (ballB g.tets Tet.nodes n0 n1)).map fun p => (p.1 : Int) := by
      rw [lB.tets, List.map_append, show cA.tetList = _ from lA.tets]; rfl
    have hBne : cB.tetList ≠ [] := by
      rw [hBt]
      intro e
      exact hne (List.append_eq_nil_iff.mp (List.map_eq_nil_iff.mp e)).1
    have hBtr : cB.triList = [] := (lB.same.triList.trans lA.same.triList).trans ctr
    obtain ⟨ss, ph⟩ := ((formCollapseTris_post g n0 n1 n0 _ hnds0 _ _ _ _ heC).trans
      (formCollapseTris_post g n0 n1 n1 _ hnds1 _ _ _ _ heD) fun e => by rw [e]).phase rfl hBne hs (hextra.trans hBt.symm)
    simp only [hBtr, List.nil_append, freshCells_nil, ← List.map_append] at ph
    exact ⟨⟨cA, cB, ss, lA, lB, ph⟩, hextra⟩

theorem BallRun.lists {g : Grid α} {n0 n1 : Int} {c' : Cav} (h : BallRun g n0 n1 c') :
    SlotsInv c'.faces ∧ SlotsInv c'.segs ∧ c'.node = n0 ∧
    c'.triList = ((ballA g.tris Tri.nodes n0) ++ (ballB g.tris Tri.nodes n0 n1)).map fun p => (p.1 : Int) := by
  obtain ⟨cf, cs, _, ctr, _, _, _⟩ := create_facts
  obtain ⟨cA, cB, ss, lA, lB, ph⟩ := h.run
  refine ⟨ph.finv (lB.finv (lA.finv cf)), ph.segs.inv (by rw [lB.same.segs, lA.same.segs]; exact cs),
    by rw [ph.node, lB.same.node, lA.same.node], ?_⟩
  rw [ph.tris, lB.same.triList, lA.same.triList]; exact congrArg (· ++ _) ctr

theorem BallRun.formed {g : Grid α} {n0 n1 : Int} {c' : Cav} (h : BallRun g n0 n1 c') {φ : Int → Int → Int → G}
    (hφ : Alt φ) (hd : Diag φ) : BallFormed φ g n0 n1 c' := by
  obtain ⟨finv, sinv, node, tris⟩ := h.lists
  refine ⟨finv, sinv, node, h.tets, tris, ?_⟩
  obtain ⟨cf, cs, _, _, _, cvs, _⟩ := create_facts
  obtain ⟨cA, cB, ss, lA, lB, ph⟩ := h.run
  have fA := lA.finv cf
  rw [ph.ledger hφ hd (lB.finv fA) (by rw [lB.same.segs, lA.same.segs]; exact cs),
    ledgerVal_noSegs φ (by simp only [Cav.validSegs, lB.same.segs, lA.same.segs]; exact cvs),
    lB.collapse_sum (fun p hp => having_get g.tets Tet.nodes n1 p (freshCells_mem _ _ p hp)) fA hφ,
    lA.collapse_sum (having_get g.tets Tet.nodes n0) cf hφ, h.tets, sum_map_sub, sum_map_sub,
    tetBd_idx_sum φ g _ (ball_get g.tets Tet.nodes n0 n1), show rowsSum φ _ = 0 from rowsSum_create φ]
  simp only [List.map_append, List.sum_append, ballSkip, ballA, ballB]
  abel

/-- **`ref_cavity_form_edge_collapse`.**  If it returns ok with the state unknown and no tet beyond the two balls was
    pulled in, the cavity lists the ball of `n0` followed by the rest of the ball of `n1` (tets and tris) and its
    ledger is `∂T −` the skipped faces. -/
theorem formEdgeCollapse_formed {φ : Int → Int → Int → G} (hφ : Alt φ) (hd : Diag φ) (g : Grid α) (n0 n1 : Int)
    (c' : Cav) (h : formEdgeCollapse g Cav.create n0 n1 = (.ok, c')) (hs : c'.state = .unknown)
    (hne : g.tets.having Tet.nodes n0 ≠ [])
    (hndt0 : ((g.tets.having Tet.nodes n0).map (·.1)).Nodup) (hndt1 : ((g.tets.having Tet.nodes n1).map (·.1)).Nodup)
    (hnds0 : ((g.tris.having Tri.nodes n0).map (·.1)).Nodup) (hnds1 : ((g.tris.having Tri.nodes n1).map (·.1)).Nodup)
    (hextra : c'.tetList =
      ((ballA g.tets Tet.nodes n0) ++ (ballB g.tets Tet.nodes n0 n1)).map fun p => (p.1 : Int)) :
    BallFormed φ g n0 n1 c' :=
  (formEdgeCollapse_run g n0 n1 c' h hs hne hndt0 hndt1 hnds0 hnds1 hextra).formed hφ hd

theorem tetFaces_miss_one (t : Tet) (f : Face) (hf : f ∈ tetFaces t) :
    ∃ w, ∀ v, t.nodes.contains v = true → v ≠ w → f.has v = true := by
  rcases t with ⟨a, b, c, d⟩
  rw [tetFaces_eq] at hf
  simp only [List.mem_cons, List.not_mem_nil, or_false] at hf
  simp only [Tet.nodes, List.contains_cons, List.contains_nil, Bool.or_false, Bool.or_eq_true, beq_iff_eq, Face.has]
  rcases hf with rfl | rfl | rfl | rfl
  · exact ⟨a, fun v hv hne => by rcases hv with h | h | h | h <;> first | exact absurd h hne | simp [h]⟩
  · exact ⟨b, fun v hv hne => by rcases hv with h | h | h | h <;> first | exact absurd h hne | simp [h]⟩
  · exact ⟨c, fun v hv hne => by rcases hv with h | h | h | h <;> first | exact absurd h hne | simp [h]⟩
  · exact ⟨d, fun v hv hne => by rcases hv with h | h | h | h <;> first | exact absurd h hne | simp [h]⟩

theorem tetFaces_has_one (t : Tet) (n0 n1 : Int) (hne : n0 ≠ n1) (h0 : t.nodes.contains n0 = true)
    (h1 : t.nodes.contains n1 = true) : ∀ f ∈ tetFaces t, (f.has n0 || f.has n1) = true := by
  intro f hf
  obtain ⟨w, hw⟩ := tetFaces_miss_one t f hf
  by_cases e : n0 = w
  · rw [hw n1 h1 (fun e1 => hne (e.trans e1.symm)), Bool.or_true]
  · rw [hw n0 h0 e, Bool.true_or]

theorem face_has_of_not_contains (t : Tet) (v : Int) (h : t.nodes.contains v = false) :
    ∀ f ∈ tetFaces t, f.has v = false := by
  intro f hf
  by_contra hh
  have := tetFaces_nodes t f hf v (by simpa using hh)
  rw [h] at this; cases this

/-- the filter "has `n0` or `n1`" on the faces of a tet is what the collapse loops skip -/
theorem filterBall_A (t : Tet) (n0 n1 : Int) (hne : n0 ≠ n1) (h0 : t.nodes.contains n0 = true) :
    ((tetFaces t).filter fun f => f.has n0 || f.has n1) = collapseSkip n0 n1 n0 t := by
  unfold collapseSkip
  by_cases h1 : t.nodes.contains n1 = true
  · simp only [h0, h1, Bool.and_self, if_true]
    exact List.filter_eq_self.mpr (tetFaces_has_one t n0 n1 hne h0 h1)
  · simp only [h0, h1, Bool.and_false, Bool.false_eq_true, if_false]
    apply List.filter_congr
    intro f hf
    have := face_has_of_not_contains t n1 (by simpa using h1) f hf
    rw [this]; simp

theorem filterBall_B (t : Tet) (n0 n1 : Int) (h0 : t.nodes.contains n0 = false) :
    ((tetFaces t).filter fun f => f.has n0 || f.has n1) = collapseSkip n0 n1 n1 t := by
  unfold collapseSkip
  simp only [h0, Bool.false_and, Bool.false_eq_true, if_false]
  apply List.filter_congr
  intro f hf
  have := face_has_of_not_contains t n0 h0 f hf
  rw [this]; simp

theorem filterBall_none (t : Tet) (n0 n1 : Int) (h0 : t.nodes.contains n0 = false) (h1 : t.nodes.contains n1 = false) :
    ((tetFaces t).filter fun f => f.has n0 || f.has n1) = [] := by
  rw [List.filter_eq_nil_iff]
  intro f hf
  rw [face_has_of_not_contains t n0 h0 f hf, face_has_of_not_contains t n1 h1 f hf]; simp

theorem ballB_eq {β : Type} (s : Cells β) (nodes : β → List Int) (n0 n1 : Int) :
    ballB s nodes n0 n1 = (s.having nodes n1).filter fun p => !((nodes p.2).contains n0) := by
  unfold ballB ballA freshCells
  apply List.filter_congr
  rintro ⟨i, x⟩ hp
  obtain ⟨ho, hrow, _⟩ := (mem_having_iff s nodes n1 i x).mp hp
  congr 1
  rw [Bool.eq_iff_iff, List.contains_iff_mem, List.mem_map]
  constructor
  · rintro ⟨⟨j, y⟩, hq, hqe⟩
    obtain rfl : j = i := by exact_mod_cast hqe
    obtain ⟨_, hrow', hc⟩ := (mem_having_iff s nodes n0 j y).mp hq
    rw [hrow] at hrow'
    cases hrow'
    exact hc
  · exact fun hc => ⟨(i, x), (mem_having_iff s nodes n0 i x).mpr ⟨ho, hrow, hc⟩, rfl⟩

theorem ball_sum {β : Type} (s : Cells β) (nodes : β → List Int) (n0 n1 : Int) (F FA FB : β → G)
    (hz : ∀ x, (nodes x).contains n0 = false → (nodes x).contains n1 = false → F x = 0)
    (hA : ∀ x, (nodes x).contains n0 = true → F x = FA x)
    (hB : ∀ x, (nodes x).contains n0 = false → (nodes x).contains n1 = true → F x = FB x) :
    ((walk s).map F).sum =
      ((ballA s nodes n0).map fun p => FA p.2).sum + ((ballB s nodes n0 n1).map fun p => FB p.2).sum := by
  have eA : ((ballA s nodes n0).map fun p => FA p.2) = ((s.having nodes n0).map (·.2)).map FA := by
    rw [List.map_map]; rfl
  have eB : ((ballB s nodes n0 n1).map fun p => FB p.2) =
      (((s.having nodes n1).map (·.2)).filter fun x => !((nodes x).contains n0)).map FB := by
    rw [ballB_eq, List.filter_map, List.map_map]; rfl
  rw [sum_filter_split (walk s) (fun x => (nodes x).contains n0) F]
  congr 1
  · rw [eA, having_eq]
    exact congrArg _ (List.map_congr_left fun x hx => hA x (List.mem_filter.mp hx).2)
  · rw [eB, having_eq, List.filter_filter,
      sum_filter_zero ((walk s).filter fun x => !(nodes x).contains n0) (fun x => (nodes x).contains n1) F
        (fun x hx h1 => hz x (by simpa only [Bool.not_eq_true'] using (List.mem_filter.mp hx).2) h1),
      List.filter_filter, List.filter_congr fun x _ => Bool.and_comm ((nodes x).contains n1) _]
    refine congrArg _ (List.map_congr_left fun x hx => ?_)
    have := (List.mem_filter.mp hx).2
    simp only [Bool.and_eq_true, Bool.not_eq_true'] at this
    exact hB x this.1 this.2

theorem ballMatched_of_conforming {φ : Int → Int → Int → G} (hφ : Alt φ) (g : Grid α) (n0 n1 : Int) (hne : n0 ≠ n1)
    (hot : OrderOK g.tets) (hos : OrderOK g.tris)
    (hconf : ∀ χ : Int → Int → Int → G, Alt χ → meshBd χ g = 0) : BallMatched φ g n0 n1 := by
  have h := localised_of_conforming hφ g (FaceSym.of_has fun h => h n0 || h n1) hot hos hconf
  rw [ball_sum g.tets Tet.nodes n0 n1 (fun t => faceSum φ ((tetFaces t).filter fun f => f.has n0 || f.has n1))
      (fun t => faceSum φ (collapseSkip n0 n1 n0 t)) (fun t => faceSum φ (collapseSkip n0 n1 n1 t))
      (fun t h0 h1 => by rw [filterBall_none t n0 n1 h0 h1]; rfl)
      (fun t h0 => by rw [filterBall_A t n0 n1 hne h0])
      (fun t h0 _ => by rw [filterBall_B t n0 n1 h0]),
    ball_sum g.tris Tri.nodes n0 n1 (fun t => restrict (fun f => f.has n0 || f.has n1) φ t.n0 t.n1 t.n2)
      (fun t => φ t.n0 t.n1 t.n2) (fun t => φ t.n0 t.n1 t.n2)
      (fun t h0 h1 => by simp only [restrict, tri_has, h0, h1]; rfl)
      (fun t h0 => by simp only [restrict, tri_has, h0, Bool.true_or, if_true])
      (fun t _ h1 => by simp only [restrict, tri_has, h1, Bool.or_true, if_true])] at h
  unfold BallMatched ballSkip
  rw [List.map_append, List.sum_append]
  exact h

theorem ball_idx_nodup {β : Type} (s : Cells β) (nodes : β → List Int) (n0 n1 : Int)
    (h0 : ((s.having nodes n0).map (·.1)).Nodup) (h1 : ((s.having nodes n1).map (·.1)).Nodup) :
    (((ballA s nodes n0) ++ (ballB s nodes n0 n1)).map fun p => (p.1 : Int)).Nodup := by
  have inj : ∀ (l : List (Nat × β)), (l.map (·.1)).Nodup → (l.map fun p => (p.1 : Int)).Nodup := by
    intro l hl
    have : (l.map fun p => (p.1 : Int)) = (l.map (·.1)).map (fun (i : Nat) => (i : Int)) := by
      rw [List.map_map]; rfl
    rw [this]
    exact hl.map (fun a b hab => by exact_mod_cast hab)
  rw [List.map_append]
  refine List.nodup_append.mpr ⟨inj _ h0, ?_, ?_⟩
  · apply inj
    unfold ballB freshCells
    exact h1.sublist ((List.filter_sublist).map _)
  · intro x hx y hy hxy
    subst hxy
    obtain ⟨p, hp, rfl⟩ := List.mem_map.mp hy
    have := (List.mem_filter.mp hp).2
    simp only [Bool.not_eq_true', ballA] at this
    have hc : ((s.having nodes n0).map fun p => (p.1 : Int)).contains (p.1 : Int) = true :=
      List.contains_iff_mem.mpr hx
    rw [hc] at this; cases this

theorem BallFormed.cavInv {φ : Int → Int → Int → G} {g : Grid α} {n0 n1 : Int} {c' : Cav}
    (h : BallFormed φ g n0 n1 c')
    (hndt0 : ((g.tets.having Tet.nodes n0).map (·.1)).Nodup) (hndt1 : ((g.tets.having Tet.nodes n1).map (·.1)).Nodup)
    (hnds0 : ((g.tris.having Tri.nodes n0).map (·.1)).Nodup) (hnds1 : ((g.tris.having Tri.nodes n1).map (·.1)).Nodup) :
    CavInv g c' :=
  .of_walks h.finv h.sinv h.tets h.tris (ball_get g.tets Tet.nodes n0 n1) (ball_get g.tris Tri.nodes n0 n1)
    (ball_idx_nodup g.tets Tet.nodes n0 n1 hndt0 hndt1) (ball_idx_nodup g.tris Tri.nodes n0 n1 hnds0 hnds1)

theorem BallRun.cavInv {g : Grid α} {n0 n1 : Int} {c' : Cav} (h : BallRun g n0 n1 c')
    (hndt0 : ((g.tets.having Tet.nodes n0).map (·.1)).Nodup) (hndt1 : ((g.tets.having Tet.nodes n1).map (·.1)).Nodup)
    (hnds0 : ((g.tris.having Tri.nodes n0).map (·.1)).Nodup) (hnds1 : ((g.tris.having Tri.nodes n1).map (·.1)).Nodup) :
    CavInv g c' :=
  have ⟨finv, sinv, _, tris⟩ := h.lists
  .of_walks finv sinv h.tets tris (ball_get g.tets Tet.nodes n0 n1) (ball_get g.tris Tri.nodes n0 n1)
    (ball_idx_nodup g.tets Tet.nodes n0 n1 hndt0 hndt1) (ball_idx_nodup g.tris Tri.nodes n0 n1 hnds0 hnds1)

end Refine.Lemmas.Cavity2
