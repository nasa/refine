import Refine.Lemmas.InterpLocateComm

/-!
  The rank-local steps of `Refine.Model.InterpLocate` keep ONE invariant, `GoodX PN QA`, and only it has preservation
  lemmas (`goodX_*`, one per step).  It is a node part (`NodesOK`, on the four per-node arrays) and an agent part
  (`AgentsOK`, Lemmas/InterpLocate.lean); a step that leaves one of them alone keeps it as it is.  `Good P P3` (Lemmas/InterpLocate.lean) and `GoodG PN QA` are the two shapes in which
  `Props/C11Locate.lean` reads the result: `GoodX.toGood` for a clause on stage tag and slots alone, `GoodX.toGoodG` for
  one that also reads node index, stored cell and part ("the stored slots are the weights of the vertex' own position in
  the stored cell of rank `part`'s donor", `locate_stored_weights`).
  The node clause is `PN stage i cell part slots`.  `stage` is the model's record of who located node `i`: 0 nobody yet,
  1 a geometry-node seed (`ref_interp_geom_nodes`), 2 a walking agent, 3 the tree fall-back (`ref_interp_tree`).  `QA` is
  about a whole agent record (target point, home, node, part, seed, weights).
-/

namespace Refine.Lemmas.InterpLocate
open Refine Refine.Model.Geom Refine.Model.Interp Refine.Model.InterpLocate Refine.Model.Comm
open Refine.Gen

variable {α : Type}

structure NodesOK (PN : Nat → Nat → Int → Int → Slots α → Prop) (bary : List (Slots α)) (stage : List Nat)
    (cell part : List Int) : Prop where
  wfb : bary.length = stage.length
  wfc : cell.length = stage.length
  wfp : part.length = stage.length
  nodes : ∀ i, stage.getD i 0 ≠ 0 →
    PN (stage.getD i 0) i (cell.getD i refEmpty) (part.getD i refEmpty) (bary.getD i Slots.unwritten)

/-- the form `Good` (Lemmas/InterpLocate.lean) and `GoodG` share: the node clause may also read the stage tag, and says
    by itself whatever it needs about the stored cell -/
structure GoodX (PN : Nat → Nat → Int → Int → Slots α → Prop) (QA : AgentP α → Prop) (st : RankSt α) : Prop where
  nodes : NodesOK PN st.bary st.stage st.cell st.part
  agents : AgentsOK QA st.ag

/-- the rank-local invariant: every located node satisfies `PN`, every agent `QA` -/
structure GoodG (PN : Nat → Int → Int → Slots α → Prop) (QA : AgentP α → Prop) (st : RankSt α) : Prop where
  wfb : st.bary.length = st.stage.length
  wfc : st.cell.length = st.stage.length
  wfp : st.part.length = st.stage.length
  nodes : ∀ i, st.stage.getD i 0 ≠ 0 → PN i (st.cellOf i) (st.part.getD i refEmpty) (st.baryOf i)
  located : ∀ i, st.stage.getD i 0 ≠ 0 → st.cellOf i ≠ refEmpty
  agents : ∀ p ∈ st.ag.act, QA p.2

/-- the node clause of `GoodG PN QA` as a `GoodX` clause: a located node has a cell, and `PN` -/
abbrev locatedClause (PN : Nat → Int → Int → Slots α → Prop) : Nat → Nat → Int → Int → Slots α → Prop :=
  fun _ i c p s => c ≠ refEmpty ∧ PN i c p s

/-- the node clause of `Good P P3` as a `GoodX` clause: by stage tag, whatever the cell and part -/
abbrev nodeClause (P P3 : Slots α → Prop) : Nat → Nat → Int → Int → Slots α → Prop :=
  fun sg _ _ _ s => ((sg = 1 ∨ sg = 2) → P s) ∧ (sg = 3 → P3 s)

/-- the agent clause of `Good P P3`: only an `ENCLOSING` agent has to carry anything -/
abbrev agentClause (P : Slots α → Prop) : AgentP α → Prop := fun a => a.mode = AMode.enclosing → P a.bary

theorem GoodX.toGoodG {PN : Nat → Int → Int → Slots α → Prop} {QA : AgentP α → Prop} {st : RankSt α}
    (h : GoodX (locatedClause PN) QA st) : GoodG PN QA st :=
  ⟨h.nodes.wfb, h.nodes.wfc, h.nodes.wfp, fun i hi => (h.nodes.nodes i hi).2, fun i hi => (h.nodes.nodes i hi).1, h.agents⟩

theorem GoodX.toGood {P P3 : Slots α → Prop} {st : RankSt α}
    (h : GoodX (nodeClause P P3) (agentClause P) st) : Good P P3 st := by
  refine ⟨h.nodes.wfb, fun i => ?_, fun p hp => h.agents p hp⟩
  by_cases hi : st.stage.getD i 0 = 0
  · unfold NodeOK
    rw [hi]
    exact ⟨fun h12 => by omega, fun h3 => by omega⟩
  · exact h.nodes.nodes i hi

variable {PN : Nat → Nat → Int → Int → Slots α → Prop} {QA : AgentP α → Prop}


variable {bary : List (Slots α)} {stage : List Nat} {cell part : List Int}

theorem NodesOK.set (h : NodesOK PN bary stage cell part) (node sg : Nat) (c p : Int) (s : Slots α)
    (hP : PN sg node c p s) : NodesOK PN (bary.set node s) (stage.set node sg) (cell.set node c) (part.set node p) := by
  refine ⟨by simp [h.wfb], by simp [h.wfc], by simp [h.wfp], fun i hi => ?_⟩
  simp only [ListFacts.getD_set, h.wfc, h.wfp, h.wfb] at hi ⊢
  by_cases hc : node = i ∧ node < stage.length
  · simp only [if_pos hc]
    exact hc.1 ▸ hP
  · simp only [if_neg hc] at hi ⊢
    exact h.nodes i hi

/-- cell and part of a node whose cell is `REF_EMPTY` are overwritten; `hempty`: the clause of such a node does not depend
    on them -/
theorem NodesOK.setCellPart (hempty : ∀ sg i p s c' p', PN sg i refEmpty p s → PN sg i c' p' s)
    (h : NodesOK PN bary stage cell part) (i : Nat) (hce : cell.getD i refEmpty = refEmpty) (c p : Int) :
    NodesOK PN bary stage (cell.set i c) (part.set i p) := by
  refine ⟨h.wfb, by simp [h.wfc], by simp [h.wfp], fun j hj => ?_⟩
  have := h.nodes j hj
  by_cases hij : i = j
  · subst hij
    rw [hce] at this
    exact hempty _ _ _ _ _ _ this
  · rw [ListFacts.getD_set_ne _ _ _ hij, ListFacts.getD_set_ne _ _ _ hij]
    exact this

theorem goodX_store {st : RankSt α} (h : GoodX PN QA st) (node : Nat) (cell proc : Int) (n : Nat) (src : Slots α) (sg : Nat)
    (hP : PN sg node cell proc (Slots.copyN n (st.baryOf node) src)) :
    GoodX PN QA (st.store node cell proc n src sg) :=
  ⟨h.nodes.set node sg cell proc _ hP, h.agents⟩

variable [Scalar α]

/-- the walker hired for the owned neighbour `other` -/
def mkWalker (r : Nat) (rc : RecvR α) (other : Nat) (sp sc : Int) : AgentP α :=
  ⟨.walking, (r : Int), (other : Int), sp, sc, refEmpty, 0, rc.pt other, Slots.unwritten⟩

/-- the suggestion sent to the owner of the ghost neighbour `other` -/
def mkSuggestion (rc : RecvR α) (other : Nat) (sp sc : Int) : AgentP α :=
  ⟨.suggestion, rc.part.getD other (-1), refEmpty, sp, sc, rc.glob.getD other (-1), 0, rc.pt other, Slots.unwritten⟩

/-- every agent `ref_interp_push_onto_queue` hires on rank `r` satisfies `QA` -/
def Hires (r : Nat) (rc : RecvR α) (QA : AgentP α → Prop) : Prop :=
  ∀ other sp sc, QA (mkWalker r rc other sp sc) ∧ QA (mkSuggestion rc other sp sc)

theorem goodX_pushOne (r : Nat) (rc : RecvR α) (node : Nat) (st : RankSt α) (other : Nat) (h : GoodX PN QA st)
    (hq : Hires r rc QA) :
    GoodX PN QA (pushOne r rc node st other) := by
  unfold pushOne
  simp only
  split
  · split
    · exact ⟨h.nodes, h.agents.push (hq other _ _).1⟩
    · exact h
  · exact ⟨h.nodes, h.agents.push (hq other _ _).2⟩

theorem goodX_pushOntoQueue {r : Nat} {rc : RecvR α} {st st' : RankSt α} {node : Nat} (h : GoodX PN QA st)
    (hq : Hires r rc QA)
    (hp : pushOntoQueue r rc st node = .ok st') : GoodX PN QA st' := by
  unfold pushOntoQueue at hp
  split at hp
  · cases hp
  · simp only [Except.ok.injEq] at hp
    subst hp
    exact List.foldlRecOn _ _ h fun s hgs o _ => goodX_pushOne r rc node s o hgs hq

omit [Scalar α] in
/-- `if (agent_hired[node]) { ref_agents_delete(node); agent_hired[node] = REF_FALSE; }` -/
theorem goodX_unhire {st : RankSt α} (h : GoodX PN QA st) (node : Int) (i : Nat) :
    GoodX PN QA (if st.hired.getD i false = true
      then { st with ag := st.ag.deleteNode node, hired := st.hired.set i false } else st) := by
  split
  · exact ⟨h.nodes, h.agents.deleteNode node⟩
  · exact h

theorem goodX_geomRecv (r : Nat) (rc : RecvR α)
    (hq : Hires r rc QA)
    (items : List (Int × Int × Int × Slots α)) (st st' : RankSt α) (h : GoodX PN QA st)
    (hit : ∀ it ∈ items, geomAccept it.2.2.2 = true → PN 1 it.1.toNat it.2.1 it.2.2.1 it.2.2.2)
    (hr : geomRecv r rc st items = .ok st') : GoodX PN QA st' := by
  fun_induction geomRecv r rc st items with
  | case1 st => cases hr; exact h
  | case2 | case4 => cases hr
  -- an accepted seed for a node without a cell: un-hire, store with stage 1, queue the neighbours
  | case3 st node cell proc bary rest hacc i hce st1 st2 st3 st4 hq' ih =>
    refine ih (goodX_pushOntoQueue ?_ hq hq') (fun it hi => hit it (List.mem_cons_of_mem _ hi)) hr
    refine goodX_store (goodX_unhire (st := st1) ⟨h.nodes, h.agents⟩ node _) _ _ _ _ _ _ ?_
    rw [geomCopy_eq, copyN_four]
    exact hit _ List.mem_cons_self hacc
  -- a rejected seed only counts
  | case5 st node cell proc bary rest hacc ih =>
    exact ih ⟨h.nodes, h.agents⟩ (fun it hi => hit it (List.mem_cons_of_mem _ hi)) hr

omit [Scalar α] in
theorem goodX_treeRecv (hempty : ∀ sg i p s c' p', PN sg i refEmpty p s → PN sg i c' p' s)
    (items : List (Int × Int × Int × Slots α)) (st st' : RankSt α) (h : GoodX PN QA st)
    (hit : ∀ it ∈ items, it.2.1 ≠ refEmpty → PN 3 it.1.toNat it.2.1 it.2.2.1 it.2.2.2)
    (hr : treeRecv st items = .ok st') : GoodX PN QA st' := by
  fun_induction treeRecv st items with
  | case1 st => cases hr; exact h
  | case2 => cases hr
  -- the record carries a cell: un-hire, store with stage 3
  | case3 st node cell proc bary rest i hguard st1 hc ih =>
    refine ih ?_ (fun it hi => hit it (List.mem_cons_of_mem _ hi)) hr
    have hs := goodX_store (goodX_unhire h node i) i cell proc InterpConsts.treeCopy bary 3
      (by rw [treeCopy_eq, copyN_four]; exact hit _ List.mem_cons_self (by simpa using hc))
    exact ⟨hs.nodes, hs.agents⟩
  -- "no candidate": cell `REF_EMPTY` and the part are written, the node stays unlocated
  | case4 st node cell proc bary rest i hguard st1 hc ih =>
    have hu := goodX_unhire h node i
    refine ih ⟨hu.nodes.setCellPart hempty i ?_ cell proc, hu.agents⟩ (fun it hi => hit it (List.mem_cons_of_mem _ hi)) hr
    -- un-hiring leaves the cell alone, and the node passed the `cell == REF_EMPTY` guard
    refine Eq.trans ?_ (by simpa using hguard : st.cellOf i = refEmpty)
    show RankSt.cellOf (if _ then _ else _) i = _
    split <;> rfl

theorem goodX_walkAll {r : Nat} {dr : DonorR α} {st st' : RankSt α} (h : GoodX PN QA st)
    (hwalk : ∀ (a a' : AgentP α) (rnd rnd' : Nat) (e : ISt), QA a → walkAgentP r dr a rnd = (e, a', rnd') →
      a.mode = AMode.walking → a.part = (r : Int) → QA a')
    (hw : walkAll r dr st = .ok st') : GoodX PN QA st' := by
  refine eachAgent_inv (GoodX PN QA) (·.ag) _ _ ?_ _ st st' h hw
  intro s id a s' hs hget hcond hstep
  simp only [Bool.and_eq_true, beq_iff_eq] at hcond
  split at hstep
  · rename_i a' rnd' hwk
    cases hstep
    exact ⟨hs.nodes, hs.agents.set id (hwalk a a' s.rnd rnd' _ (hs.agents.get? hget) hwk hcond.1 hcond.2)⟩
  · cases hstep

omit [Scalar α] in
theorem goodX_hopArrive {r : Nat} {dr : DonorR α} {st st' : RankSt α} (h : GoodX PN QA st)
    (hhop : ∀ (a : AgentP α) (seed' : Int), QA a → a.mode = AMode.hopPart →
      QA { a with mode := AMode.walking, seed := seed' })
    (hw : hopArrive r dr st = .ok st') : GoodX PN QA st' := by
  refine eachAgent_inv (GoodX PN QA) (·.ag) _ _ ?_ _ st st' h hw
  intro s id a s' hs hget hcond hstep
  simp only [Bool.and_eq_true, beq_iff_eq] at hcond
  split at hstep
  · cases hstep
    exact ⟨hs.nodes, hs.agents.set id (hhop a _ (hs.agents.get? hget) hcond.1)⟩
  · cases hstep

omit [Scalar α] in
theorem goodX_suggestionArrive {r : Nat} {rc : RecvR α} {st st' : RankSt α} (h : GoodX PN QA st)
    (hsug : ∀ (a : AgentP α) (node : Nat), QA a → a.mode = AMode.suggestion → a.home = (r : Int) →
      localOf rc.glob a.glob = some node → QA { a with mode := AMode.walking, node := (node : Int), glob := refEmpty })
    (hw : suggestionArrive r rc st = .ok st') : GoodX PN QA st' := by
  refine eachAgent_inv (GoodX PN QA) (·.ag) _ _ ?_ _ st st' h hw
  intro s id a s' hs hget hcond hstep
  simp only [Bool.and_eq_true, beq_iff_eq] at hcond
  split at hstep
  · rename_i node hloc
    -- the node is located or hired already: the suggestion is dropped; otherwise it becomes the node's walker
    split at hstep <;> cases hstep
    · exact ⟨hs.nodes, hs.agents.remove id⟩
    · exact ⟨hs.nodes, hs.agents.set id (hsug a node (hs.agents.get? hget) hcond.1 hcond.2 hloc)⟩
  · cases hstep

omit [Scalar α] in
theorem goodX_giveUp {r : Nat} {rc : RecvR α} {st st' : RankSt α} (h : GoodX PN QA st)
    (hw : giveUp r rc st = .ok st') : GoodX PN QA st' := by
  refine eachAgent_inv (GoodX PN QA) (·.ag) _ _ ?_ _ st st' h hw
  intro s id a s' hs _ _ hstep
  split at hstep
  · cases hstep
  · cases hstep
    -- the `TERMINATED` branch only adds to the counters
    exact ⟨by split <;> exact hs.nodes, AgentsOK.remove (by split <;> exact hs.agents) id⟩

theorem goodX_enclose {r : Nat} {rc : RecvR α} {st st' : RankSt α} (h : GoodX PN QA st)
    (hq : Hires r rc QA)
    (henc : ∀ a : AgentP α, QA a → a.mode = AMode.enclosing → a.home = (r : Int) →
      PN 2 a.node.toNat a.seed a.part a.bary)
    (hwk : enclose r rc st = .ok st') : GoodX PN QA st' := by
  refine eachAgent_inv (GoodX PN QA) (·.ag) _ _ ?_ _ st st' h hwk
  intro s id a s' hgs hget hcond hstep
  simp only [Bool.and_eq_true, beq_iff_eq] at hcond
  split at hstep
  · cases hstep
  · refine goodX_pushOntoQueue ?_ hq hstep
    have hs2 := goodX_store (PN := PN) (QA := QA) hgs a.node.toNat a.seed a.part InterpConsts.processCopy a.bary 2
      (by rw [processCopy_eq, copyN_four]; exact henc a (hgs.agents.get? hget) hcond.1 hcond.2)
    exact ⟨hs2.nodes, hs2.agents.remove id⟩

end Refine.Lemmas.InterpLocate
