import Refine.Lemmas.CavityReplace
import Mathlib.Algebra.Module.Basic
import Mathlib.Algebra.BigOperators.GroupWithZero.Action

/-!
  From the combinatorial orientation check to chain-level conformity: `cancels tf bf` (the test of `valid3Orient`, on
  two bare face lists) `→ ∀ G φ alternating, Σ_{tets} ∂φ − Σ_{tris} φ(tri) = 0`.
-/
namespace Refine.Lemmas.Cavity
open Refine.Model.Cavity

variable {G : Type} [AddCommGroup G]

def φK (φ : Int → Int → Int → G) (k : Int × Int × Int) : G := φ k.1 k.2.1 k.2.2

/-- an alternating map on a triple is the parity of the sorting permutation times its value on the sorted triple -/
theorem sort3s_val {φ : Int → Int → Int → G} (hφ : Alt φ) (a b c : Int) :
    φ a b c = (sort3s a b c).2 • φK φ (sort3s a b c).1 := by
  unfold sort3s φK
  simp only
  split_ifs <;> simp only [one_smul, neg_smul, neg_neg]
  all_goals first
    | rfl
    | (rw [hφ.swap a b c, neg_neg])
    | (rw [hφ.swap12 a b c, neg_neg])
    | (rw [hφ.swap02 a b c, neg_neg])
    | exact (hφ.rot' a b c).symm
    | exact (hφ.rot a b c).symm

theorem group_sum {F K : Type} [DecidableEq K] (L : List F) (key : F → K) (w : F → ℤ) (Φ : K → G)
    (S : Finset K) (hS : ∀ f ∈ L, key f ∈ S) :
    (L.map fun f => w f • Φ (key f)).sum = ∑ k ∈ S, ((L.filter fun f => key f = k).map w).sum • Φ k := by
  induction L with
  | nil => simp
  | cons f t ih =>
    have ih := ih (fun x hx => hS x (List.mem_cons_of_mem _ hx))
    have hf := hS f List.mem_cons_self
    simp only [List.map_cons, List.sum_cons, ih]
    have : ∀ k, (((f :: t).filter fun x => key x = k).map w).sum =
        (if key f = k then w f else 0) + ((t.filter fun x => key x = k).map w).sum := by
      intro k
      by_cases h : key f = k
      · simp [h]
      · simp [h]
    simp only [this, add_smul, Finset.sum_add_distrib, ite_smul, zero_smul]
    rw [Finset.sum_ite_eq S (key f) (fun k => w f • Φ k), if_pos hf]

/-- the check of `valid3Orient` on two bare lists of oriented faces: every unordered face has signed multiplicity zero -/
def cancels (tf bf : List Face) : Bool :=
  (tf ++ bf).all fun f => signedCount tf bf (sort3s f.n0 f.n1 f.n2).1 == 0

theorem cancels_sound {φ : Int → Int → Int → G} (hφ : Alt φ) {tf bf : List Face} (h : cancels tf bf = true) :
    faceSum φ tf - faceSum φ bf = 0 := by
  classical
  let key : Face → Int × Int × Int := fun f => (sort3s f.n0 f.n1 f.n2).1
  let w : Face → ℤ := fun f => (sort3s f.n0 f.n1 f.n2).2
  let S : Finset (Int × Int × Int) := ((tf ++ bf).map key).toFinset
  have hmem : ∀ L : List Face, (∀ f ∈ L, f ∈ tf ++ bf) → ∀ f ∈ L, key f ∈ S := by
    intro L hL f hf
    exact List.mem_toFinset.mpr (List.mem_map_of_mem (hL f hf))
  have e : ∀ L : List Face, faceSum φ L = (L.map fun f => w f • φK φ (key f)).sum := by
    intro L
    unfold faceSum
    congr 1
    apply List.map_congr_left
    intro f _
    exact sort3s_val hφ f.n0 f.n1 f.n2
  -- each face is its sign times the value on its sorted key; grouped by key, the coefficient of a key is its signed
  -- multiplicity, which the check found to be 0
  rw [e, e,
    group_sum tf key w (φK φ) S (hmem _ (fun f hf => List.mem_append_left _ hf)),
    group_sum bf key w (φK φ) S (hmem _ (fun f hf => List.mem_append_right _ hf)),
    ← Finset.sum_sub_distrib]
  apply Finset.sum_eq_zero
  intro k hk
  rw [← sub_smul]
  obtain ⟨f, hf, rfl⟩ := List.mem_map.mp (List.mem_toFinset.mp hk)
  simp only [cancels, List.all_eq_true, beq_iff_eq] at h
  have := h f hf
  simp only [signedCount] at this
  show (((tf.filter fun x => key x = key f).map w).sum -
    ((bf.filter fun x => key x = key f).map w).sum) • φK φ (key f) = 0
  have hh : (((tf.filter fun x => key x = key f).map w).sum -
      ((bf.filter fun x => key x = key f).map w).sum) = 0 := by
    simpa [key, w] using this
  rw [hh, zero_smul]

theorem cancels_cells {φ : Int → Int → Int → G} (hφ : Alt φ) (tets : List Tet) (tris : List Tri)
    (h : cancels (tets.flatMap tetFaces) (tris.map fun t => ⟨t.n0, t.n1, t.n2⟩) = true) :
    (tets.map fun t => faceSum φ (tetFaces t)).sum - (tris.map fun t => φ t.n0 t.n1 t.n2).sum = 0 := by
  have := cancels_sound hφ h
  rwa [faceSum, sum_map_flatMap, faceSum, List.map_map] at this

end Refine.Lemmas.Cavity
