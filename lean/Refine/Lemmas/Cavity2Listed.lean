import Refine.Lemmas.Cavity2Ledger

/-!
  What the seg machinery of `ref_cavity.c` (`ref_cavity_insert_face`, `_insert_seg` and everything they call) does to a
  cavity apart from the chains, whatever it returns: `Listed g c c'`, closed under composition, so that the lemma of a
  caller is the composition of the lemmas of its callees along its branches.  `CavExt` is its coarse view (tet list
  extended, state not set back to `unknown`), which also holds across the unchecked tri pushes of the form loops.  The
  finer relations of the other `Cavity2*` files describe successful runs by what was offered to the row stores —
  `TetsListed` (`CavityChain`; a tet loop), `SegInserted` (one seg), `TriPhase` (segs that pull no tet in), `EdgeRun` /
  `BallRun` (a form function) — and `TetStep`, `SegStep`, `SegsStep`, `EdgeFormed`, `BallFormed` are read off them.
-/
namespace Refine.Lemmas.Cavity2
open Refine.Model.Cavity Refine.Model.Cavity2 Refine.Lemmas.Cavity

variable {α : Type}

def Fresh (P : Int → Prop) (l l' : List Int) : Prop :=
  ∃ new, l' = l ++ new ∧ new.Nodup ∧ (∀ x ∈ new, x ∉ l) ∧ ∀ x ∈ new, P x

theorem Fresh.refl (P : Int → Prop) (l : List Int) : Fresh P l l := ⟨[], by simp, by simp, by simp, by simp⟩

theorem Fresh.trans {P : Int → Prop} {a b c : List Int} (h1 : Fresh P a b) (h2 : Fresh P b c) : Fresh P a c := by
  obtain ⟨n1, t1, d1, f1, p1⟩ := h1
  obtain ⟨n2, t2, d2, f2, p2⟩ := h2
  obtain ⟨d, f⟩ := append_fresh d1 d2 f1 (t1 ▸ f2)
  exact ⟨n1 ++ n2, by rw [t2, t1, List.append_assoc], d, f, fun x hx => (List.mem_append.mp hx).elim (p1 x) (p2 x)⟩

theorem Fresh.single {P : Int → Prop} {l : List Int} {x : Int} (hx : x ∉ l) (hp : P x) : Fresh P l (l ++ [x]) :=
  ⟨[x], rfl, by simp, by simpa using hx, by simpa using hp⟩

theorem Fresh.all_nodup {P : Int → Prop} {l l' : List Int} (h : Fresh P l l') (hP : ∀ x ∈ l, P x) (hnd : l.Nodup) :
    (∀ x ∈ l', P x) ∧ l'.Nodup := by
  obtain ⟨new, rfl, d, f, p⟩ := h
  refine ⟨fun x hx => (List.mem_append.mp hx).elim (hP x) (p x), List.nodup_append.mpr ⟨hnd, d, ?_⟩⟩
  intro x hx y hy hxy
  subst hxy
  exact f x hy hx

structure Listed (g : Grid α) (c c' : Cav) : Prop where
  node : c'.node = c.node
  surf : c'.surfNode = c.surfNode
  finv : SlotsInv c.faces → SlotsInv c'.faces
  sinv : SlotsInv c.segs → SlotsInv c'.segs
  tets : Fresh (fun cell => ∃ t, g.tets.get? cell = some t) c.tetList c'.tetList
  tris : Fresh (fun cell => ∃ t, g.tris.get? cell = some t) c.triList c'.triList
  state : c'.state = .unknown → c.state = .unknown

namespace Listed
variable {g : Grid α}

theorem refl (c : Cav) : Listed g c c := ⟨rfl, rfl, id, id, .refl _ _, .refl _ _, id⟩

theorem trans {a b c : Cav} (h1 : Listed g a b) (h2 : Listed g b c) : Listed g a c :=
  ⟨h2.node.trans h1.node, h2.surf.trans h1.surf, h2.finv ∘ h1.finv, h2.sinv ∘ h1.sinv, h1.tets.trans h2.tets,
    h1.tris.trans h2.tris, h1.state ∘ h2.state⟩

theorem faces {c c' : Cav} (h : SameButFaces c c') (hf : SlotsInv c.faces → SlotsInv c'.faces) : Listed g c c' :=
  ⟨h.node, h.surfNode, hf, fun hs => h.segs ▸ hs, h.tetList ▸ .refl _ _, h.triList ▸ .refl _ _, fun e => h.state ▸ e⟩

theorem segs {c : Cav} {s' : Slots Seg} (hs : SlotsInv c.segs → SlotsInv s') : Listed g c { c with segs := s' } :=
  ⟨rfl, rfl, id, hs, .refl _ _, .refl _ _, id⟩

theorem flagged {c : Cav} {st : CState} (hst : st ≠ .unknown) : Listed g c { c with state := st } :=
  ⟨rfl, rfl, id, id, .refl _ _, .refl _ _, fun e => absurd e hst⟩

theorem pushTet {c : Cav} {cell : Int} {t : Tet} (hget : g.tets.get? cell = some t)
    (hnot : ¬ c.tetList.contains cell = true) : Listed g c { c with tetList := c.tetList ++ [cell] } :=
  ⟨rfl, rfl, id, id, .single (fun hm => hnot (List.contains_iff_mem.mpr hm)) ⟨t, hget⟩, .refl _ _, id⟩

theorem pushTri {c : Cav} {cell : Int} {t : Tri} (hget : g.tris.get? cell = some t) (hnot : cell ∉ c.triList) :
    Listed g c { c with triList := c.triList ++ [cell] } :=
  ⟨rfl, rfl, id, id, .refl _ _, .single hnot ⟨t, hget⟩, id⟩

theorem tetPrefix {c c' : Cav} (h : Listed g c c') : ∃ l, c'.tetList = c.tetList ++ l := h.tets.imp fun _ h => h.1

/-- the same about a call whose result has been named -/
theorem of_eq {c c1 : Cav} {r : Refine.Model.Cavity.St × Cav} {s : Refine.Model.Cavity.St} (h : Listed g c r.2)
    (e : r = (s, c1)) : Listed g c c1 := by subst e; exact h

end Listed

def CavExt (c c' : Cav) : Prop := (∃ l, c'.tetList = c.tetList ++ l) ∧ (c'.state = .unknown → c.state = .unknown)

theorem Listed.ext {g : Grid α} {c c' : Cav} (h : Listed g c c') : CavExt c c' := ⟨h.tetPrefix, h.state⟩

theorem CavExt.refl (c : Cav) : CavExt c c := ⟨⟨[], (List.append_nil _).symm⟩, id⟩

theorem CavExt.trans {a b c : Cav} (h1 : CavExt a b) (h2 : CavExt b c) : CavExt a c := by
  obtain ⟨⟨l1, e1⟩, s1⟩ := h1
  obtain ⟨⟨l2, e2⟩, s2⟩ := h2
  exact ⟨⟨l1 ++ l2, by rw [e2, e1, List.append_assoc]⟩, fun h => s1 (s2 h)⟩

theorem CavExt.squeeze {a b c : Cav} (h1 : CavExt a b) (h2 : CavExt b c) (h : c.tetList = a.tetList) :
    b.tetList = a.tetList := by
  obtain ⟨⟨l1, e1⟩, _⟩ := h1
  obtain ⟨⟨l2, e2⟩, _⟩ := h2
  rw [e2, e1, List.append_assoc] at h
  have := List.append_cancel_left (h.trans (List.append_nil _).symm)
  rw [e1, (List.append_eq_nil_iff.mp this).1, List.append_nil]

theorem insertFace_listed (g : Grid α) (c : Cav) (f : Face) : Listed g c (insertFace c f).2 :=
  .faces (insertFace_same c f) (insertFace_inv c f)

theorem insertFaces_listed (g : Grid α) (fs : List Face) (c : Cav) : Listed g c (insertFaces c fs).2 := by
  fun_induction insertFaces c fs with
  | case1 c => exact .refl c
  | case2 c f t c1 hins ih => exact ((insertFace_listed g c f).of_eq hins).trans ih
  | case3 c f t _ => exact insertFace_listed g c f

theorem rmSegTets_listed (g : Grid α) (skip : List Nat) (cells : List (Nat × Tet))
    (hcells : ∀ p ∈ cells, g.tets.get? (p.1 : Int) = some p.2) (c : Cav) :
    Listed g c (rmSegTets g skip c cells).2 := by
  fun_induction rmSegTets g skip c cells with
  | case1 c => exact .refl c
  | case2 c cell tet rest _ ih => exact ih fun p hp => hcells p (List.mem_cons_of_mem _ hp)
  | case3 c cell tet rest hnot c0 _ =>
    exact (Listed.pushTet (hcells _ List.mem_cons_self) hnot).trans
      (.flagged (by decide))
  | case4 c cell tet rest hnot c0 _ c1 hins ih =>
    rw [rmSegTetFaces_eq] at hins
    exact ((Listed.pushTet (hcells _ List.mem_cons_self) hnot).trans
      ((insertFaces_listed g _ c0).of_eq hins)).trans (ih fun p hp => hcells p (List.mem_cons_of_mem _ hp))
  | case5 c cell tet rest hnot c0 _ _ =>
    rw [rmSegTetFaces_eq]
    exact (Listed.pushTet (hcells _ List.mem_cons_self) hnot).trans
      (insertFaces_listed g _ c0)

theorem removeSegAddTets_listed (g : Grid α) (c : Cav) (s : Seg) : Listed g c (removeSegAddTets g c s).2 := by
  fun_cases removeSegAddTets g c s
  case case5 =>          -- two tris on the seg: the tet loop runs
    exact rmSegTets_listed g _ _ (fun p hp => having2_get g.tets Tet.nodes s.n0 s.n1 p hp) c
  all_goals exact .refl c

theorem removeSegFace_listed (g : Grid α) (c : Cav) (s : Seg) : Listed g c (removeSegFace c s).2 := by
  fun_cases removeSegFace c s
  case case5 i hfind =>          -- the reversed cone face is there
    obtain ⟨x, hx, _⟩ := findFace_spec _ _ _ _ hfind
    exact .faces ⟨rfl, rfl, rfl, rfl, rfl, rfl⟩ fun hinv => (Slots.remove_spec c.faces i x hinv hx).1
  all_goals exact .refl c

theorem addSegFace_listed (g : Grid α) (c : Cav) (s : Seg) : Listed g c (addSegFace c s).2 := by
  fun_cases addSegFace c s
  case case4 => exact insertFace_listed g c _
  all_goals exact .refl c

theorem insertSeg_listed (g : Grid α) (c : Cav) (s : Seg) : Listed g c (insertSeg g c s).2 := by
  fun_cases insertSeg g c s with
  | case1 => exact .flagged (by decide)
  | case2 i _ old hold _ c0 c1 h1 =>
    exact ((Listed.segs fun hinv => (Slots.remove_spec c.segs i old hinv hold).1).trans
      ((removeSegFace_listed g c0 s).of_eq h1)).trans (removeSegAddTets_listed g c1 s)
  | case3 i _ old hold _ c0 _ =>
    exact (Listed.segs fun hinv => (Slots.remove_spec c.segs i old hinv hold).1).trans (removeSegFace_listed g c0 s)
  | case4 => exact .refl c
  | case5 => exact .refl c
  | case6 _ c0 =>
    exact (Listed.segs fun hinv => (Slots.add_spec c.segs 100 (by decide) s hinv).1).trans (addSegFace_listed g c0 s)

theorem insertSegs_listed (g : Grid α) (ss : List Seg) (c : Cav) : Listed g c (insertSegs g c ss).2 := by
  fun_induction insertSegs g c ss with
  | case1 c => exact .refl c
  | case2 c s t c1 hins ih => exact ((insertSeg_listed g c s).of_eq hins).trans ih
  | case3 c s t _ => exact insertSeg_listed g c s

theorem CavExt.of_insertSegs {g : Grid α} {c0 c1 : Cav} {ss : List Seg} {s1 : Refine.Model.Cavity.St}
    (h : insertSegs g c0 ss = (s1, c1)) : CavExt c0 c1 := ((insertSegs_listed g ss c0).of_eq h).ext

theorem addTriSegs_listed (g : Grid α) (ss : List Seg) (c : Cav) : Listed g c (addTriSegs g c ss).2 := by
  fun_induction addTriSegs g c ss with
  | case1 c => exact .refl c
  | case2 c s t c1 hins _ => exact (insertSeg_listed g c s).of_eq hins
  | case3 c s t c1 hins _ ih => exact ((insertSeg_listed g c s).of_eq hins).trans ih
  | case4 c s t _ => exact insertSeg_listed g c s

theorem addTri_listed (g : Grid α) (c : Cav) (cell : Int) : Listed g c (addTri g c cell).2 := by
  fun_cases addTri g c cell with
  | case1 => exact .refl c
  | case2 => exact .refl c
  | case3 => exact .flagged (by decide)
  | case4 tri hget hnot _ =>
    exact (Listed.pushTri hget fun hm => hnot (List.contains_iff_mem.mpr hm)).trans (addTriSegs_listed g _ _)

end Refine.Lemmas.Cavity2
