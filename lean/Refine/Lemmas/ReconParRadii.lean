import Refine.Lemmas.ReconParCells
import Refine.Lemmas.MetricRadii

/-!
  The radius of `ref_recon_roundoff_limit` on a rank's local mesh against the global mesh: the edges of a well-formed
  cell join vertices of the cell (`kindE2n_lt`, `edgesOf_nodes`), renaming a cell renames its edges (`edgesOf_glob`) and
  keeps their lengths (`edgeLength_local`); so at a vertex all of whose cells are stored the local and the global mesh
  have the same SET of edge lengths (`distAt_glob`).  With `MetricRadii.radii_minOf` — the radius is a function of that
  set — this is `C10Par.roundoff_radius_partition_independent`.
-/
namespace Refine.ReconParRadii
open Refine Refine.Model.Geom Refine.Model.Recon Refine.Model.ReconPar Refine.ScalarReal Refine.GeomReal
open Refine.ReconParMesh Refine.ReconParCells Refine.MetricRadii
open Refine.Model.Metric (radii cellEdges edgeLength updRadius kindE2n isVol)

theorem kindE2n_lt (k : CellKind) : ∀ e ∈ kindE2n k, e.getD 0 0 < kindSize k ∧ e.getD 1 0 < kindSize k := by
  cases k <;> decide

theorem edgesOf_glob (l2g : List Nat) (c : Cell) (h : CellWF c) :
    edgesOf (globCell l2g c) = (edgesOf c).map fun e => (gOf l2g e.1, gOf l2g e.2) := by
  unfold edgesOf globCell
  rw [List.map_map]
  refine List.map_congr_left fun e he => ?_
  obtain ⟨h0, h1⟩ := kindE2n_lt c.kind e he
  rw [← h] at h0 h1
  simp only [Function.comp, Refine.ListFacts.getD_map_of_lt 0 h0, Refine.ListFacts.getD_map_of_lt 0 h1]

theorem edgesOf_nodes (c : Cell) (h : CellWF c) (e : Nat × Nat) (he : e ∈ edgesOf c) :
    e.1 ∈ c.nodes ∧ e.2 ∈ c.nodes := by
  obtain ⟨e0, he0, rfl⟩ := List.mem_map.mp he
  obtain ⟨h0, h1⟩ := kindE2n_lt c.kind e0 he0
  rw [← h] at h0 h1
  exact ⟨Refine.ListFacts.getD_mem h0, Refine.ListFacts.getD_mem h1⟩

theorem edgeLength_local (gxyz : List (V3 ℝ)) (l2g : List Nat) (a b : Nat) (ha : a < l2g.length)
    (hb : b < l2g.length) :
    edgeLength (l2g.map (xyzAt gxyz)) a b = edgeLength gxyz (gOf l2g a) (gOf l2g b) := by
  unfold edgeLength
  rw [xyzAt_map l2g (xyzAt gxyz) a ha, xyzAt_map l2g (xyzAt gxyz) b hb]

/-- the edge lengths at a vertex all of whose cells are stored (`h`: the stored cells at it, renamed, are the global
    cells at its global id) are those of the global mesh: renaming is a length-preserving correspondence between the edges -/
theorem distAt_glob (gxyz : List (V3 ℝ)) {l2g : List Nat} (hnd : l2g.Nodup) {cells gcells : List Cell}
    (hL : ∀ c ∈ cells, CellWF c) (hG : ∀ c ∈ gcells, CellWF c) (hnodes : ∀ c ∈ cells, ∀ v ∈ c.nodes, v < l2g.length)
    {i : Nat} (hi : i < l2g.length)
    (h : ((cells.map (globCell l2g)).filter (cellTouches (gOf l2g i))).Perm (gcells.filter (cellTouches (gOf l2g i))))
    (d : ℝ) :
    DistAt (l2g.map (xyzAt gxyz)) (cellEdges cells) i d ↔ DistAt gxyz (cellEdges gcells) (gOf l2g i) d := by
  have touch : ∀ (c : Cell) (v : Nat), cellTouches v c = true ↔ v ∈ c.nodes := fun c v => List.contains_iff_mem
  constructor
  · -- a local edge at `i`: its cell, renamed, is one of the global cells at the vertex and has the renamed edge
    rintro ⟨e, he, ht, rfl⟩
    obtain ⟨c, hc, hec⟩ := mem_cellEdges.mp he
    obtain ⟨n1, n2⟩ := edgesOf_nodes c (hL c hc) e hec
    have hci : i ∈ c.nodes := by rcases ht with rfl | rfl <;> assumption
    have hgm := ((mem_at_iff h _).mpr ⟨c, hc, rfl, (touch _ _).mpr (List.mem_map.mpr ⟨i, hci, rfl⟩)⟩).1
    refine ⟨(gOf l2g e.1, gOf l2g e.2), mem_cellEdges.mpr ⟨_, hgm, ?_⟩, ht.imp (congrArg (gOf l2g)) (congrArg (gOf l2g)),
      edgeLength_local gxyz l2g e.1 e.2 (hnodes c hc _ n1) (hnodes c hc _ n2)⟩
    rw [edgesOf_glob l2g c (hL c hc)]
    exact List.mem_map.mpr ⟨e, hec, rfl⟩
  · -- a global edge at the vertex: its cell is the image of a stored cell, the edge the image of one of its edges
    rintro ⟨E, hE, ht, rfl⟩
    obtain ⟨C, hC, hEC⟩ := mem_cellEdges.mp hE
    obtain ⟨N1, N2⟩ := edgesOf_nodes C (hG C hC) E hEC
    have hCg : gOf l2g i ∈ C.nodes := by rcases ht with e | e <;> rw [← e] <;> assumption
    obtain ⟨c, hc, rfl, -⟩ := (mem_at_iff h C).mp ⟨hC, (touch _ _).mpr hCg⟩
    rw [edgesOf_glob l2g c (hL c hc)] at hEC
    obtain ⟨e, hec, rfl⟩ := List.mem_map.mp hEC
    obtain ⟨n1, n2⟩ := edgesOf_nodes c (hL c hc) e hec
    have h1 := hnodes c hc _ n1
    have h2 := hnodes c hc _ n2
    exact ⟨e, mem_cellEdges.mpr ⟨c, hc, hec⟩, ht.imp (gOf_inj hnd _ _ h1 hi) (gOf_inj hnd _ _ h2 hi),
      (edgeLength_local gxyz l2g e.1 e.2 h1 h2).symm⟩

end Refine.ReconParRadii
