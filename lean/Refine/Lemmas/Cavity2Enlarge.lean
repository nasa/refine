import Refine.Lemmas.Cavity2Replace
import Refine.Lemmas.Cavity2Listed
import Refine.Lemmas.CavityReplace

/-!
  `ref_cavity_enlarge_face` / `ref_cavity_enlarge_visible`.  An enlarge call that changes the cavity lists a new live
  tet with all its faces (`TetsGrown`; under a cochain, `TetStep`), so the ledger equation survives and the loop cannot
  use up the model's budgets.  Each loop level has one post-condition (`VisScanPost`, `VisSweepPost`, `VisLoopPost`) saying what
  its result means for the cavity it started on — in particular, that a scan which ends without an enlarge call found
  every face off the node visible.
-/
namespace Refine.Lemmas.Cavity2
open Refine.Model.Cavity Refine.Model.Cavity2 Refine.Lemmas.Cavity Refine.Props.C01

variable {G : Type} [AddCommGroup G] {α : Type}

/-- everything but faces, state and tet list -/
def SameSegSide (c c' : Cav) : Prop :=
  c'.segs = c.segs ∧ c'.node = c.node ∧ c'.surfNode = c.surfNode ∧ c'.triList = c.triList

theorem _root_.Refine.Lemmas.Cavity.SameSegs.side {c c' : Cav} (h : SameSegs c c') : SameSegSide c c' :=
  ⟨h.segs, h.node, h.surfNode, h.triList⟩

theorem addTetFaces_state_cases (g : Grid α) (fs : List Face) (c : Cav) :
    (addTetFaces g c fs).2.state = c.state ∨ (addTetFaces g c fs).2.state = .partition_constrained := by
  fun_induction addTetFaces g c fs with
  | case1 c => exact Or.inl rfl
  | case2 c f t _ => exact Or.inr rfl
  | case3 c f t _ c1 hins _ => exact Or.inl (insertFace_same_of_eq hins).state
  | case4 c f t _ c1 hins _ ih => exact ih.imp (fun e => e.trans (insertFace_same_of_eq hins).state) id
  | case5 c f t _ _ => exact Or.inl (insertFace_same c f).state

theorem addTet_state_cases (g : Grid α) (c : Cav) (cell : Int) :
    (addTet g c cell).2.state = c.state ∨ (addTet g c cell).2.state = .partition_constrained := by
  fun_cases addTet g c cell with
  | case1 => exact Or.inl rfl
  | case2 => exact Or.inl rfl
  | case3 tet _ _ => exact addTetFaces_state_cases g (tetFaces tet) { c with tetList := c.tetList ++ [cell] }

structure CavInv (g : Grid α) (c : Cav) : Prop where
  finv : SlotsInv c.faces
  sinv : SlotsInv c.segs
  tetsLive : ∀ cell ∈ c.tetList, ∃ t, g.tets.get? cell = some t
  tetsNodup : c.tetList.Nodup
  trisLive : ∀ cell ∈ c.triList, ∃ t, g.tris.get? cell = some t
  trisNodup : c.triList.Nodup

theorem live_nonneg {β : Type} (s : Cells β) (cell : Int) (x : β) (h : s.get? cell = some x) :
    0 ≤ cell ∧ cell.toNat < s.slots.rows.length :=
  ⟨Int.not_lt.mp (Cells.get?_row h).1, getD_lt_of_some _ _ _ (Cells.get?_row h).2⟩

theorem nodup_live_length {β : Type} (s : Cells β) (l : List Int) (hnd : l.Nodup)
    (hl : ∀ cell ∈ l, ∃ x, s.get? cell = some x) : l.length ≤ s.slots.rows.length := by
  have h1 : (l.map Int.toNat).Nodup := by
    refine (List.nodup_map_iff_inj_on hnd).mpr ?_
    intro a ha b hb hab
    obtain ⟨x, hx⟩ := hl a ha
    obtain ⟨y, hy⟩ := hl b hb
    have := (live_nonneg s a x hx).1
    have := (live_nonneg s b y hy).1
    omega
  simpa using Refine.ListFacts.length_le_of_nodup_lt h1 fun n hn => by
    obtain ⟨a, ha, rfl⟩ := List.mem_map.mp hn
    obtain ⟨x, hx⟩ := hl a ha
    exact (live_nonneg s a x hx).2

theorem CavInv.tet_length_le {g : Grid α} {c : Cav} (h : CavInv g c) :
    c.tetList.length ≤ g.tets.slots.rows.length := nodup_live_length g.tets c.tetList h.tetsNodup h.tetsLive

theorem CavInv.tri_length_le {g : Grid α} {c : Cav} (h : CavInv g c) :
    c.triList.length ≤ g.tris.slots.rows.length := nodup_live_length g.tris c.triList h.trisNodup h.trisLive

theorem CavInv.of_fresh {g : Grid α} {c c' : Cav} (h : CavInv g c) (hf : SlotsInv c'.faces) (hs : SlotsInv c'.segs)
    (ht : Fresh (fun cell => ∃ t, g.tets.get? cell = some t) c.tetList c'.tetList)
    (htr : Fresh (fun cell => ∃ t, g.tris.get? cell = some t) c.triList c'.triList) : CavInv g c' :=
  ⟨hf, hs, (ht.all_nodup h.tetsLive h.tetsNodup).1, (ht.all_nodup h.tetsLive h.tetsNodup).2,
    (htr.all_nodup h.trisLive h.trisNodup).1, (htr.all_nodup h.trisLive h.trisNodup).2⟩

/-- one step of the relation the enlarge-visible loop iterates: the tet side grew by live, new cells, the seg side is
    untouched, and the face sum followed -/
structure TetStep (φ : Int → Int → Int → G) (g : Grid α) (c c' : Cav) : Prop where
  same : SameSegSide c c'
  finv : SlotsInv c'.faces
  grow : ∃ new, c'.tetList = c.tetList ++ new ∧ new.Nodup ∧ (∀ cell ∈ new, cell ∉ c.tetList) ∧
    (∀ cell ∈ new, ∃ t, g.tets.get? cell = some t) ∧
    rowsSum φ c'.faces.rows = rowsSum φ c.faces.rows + (new.map (tetBd φ g)).sum ∧
    (∀ x ∈ c'.validFaces, x ∈ c.validFaces ∨ x ∈ cellFaces g new) ∧
    (c' ≠ c → new ≠ [])

/-- `TetStep` without its cochain -/
def TetsGrown (g : Grid α) (c c' : Cav) : Prop :=
  ∃ new, TetsListed g (fun _ _ => true) c c' new ∧ (c' ≠ c → new ≠ [])

theorem TetsGrown.refl (g : Grid α) (c : Cav) : TetsGrown g c c := ⟨[], .refl c, fun h => absurd rfl h⟩

theorem TetsGrown.trans {g : Grid α} {a b c : Cav} (h1 : TetsGrown g a b) (h2 : TetsGrown g b c) : TetsGrown g a c := by
  obtain ⟨n1, l1, e1⟩ := h1
  obtain ⟨n2, l2, e2⟩ := h2
  refine ⟨n1 ++ n2, l1.trans l2, fun hne hnil => ?_⟩
  obtain ⟨rfl, rfl⟩ := List.append_eq_nil_iff.mp hnil
  by_cases hab : b = a
  · subst hab; exact e2 hne rfl
  · exact e1 hab rfl

theorem TetsGrown.step {g : Grid α} {c c' : Cav} (h : TetsGrown g c c') (hinv : SlotsInv c.faces)
    {φ : Int → Int → Int → G} (hφ : Alt φ) : TetStep φ g c c' := by
  obtain ⟨new, l, e⟩ := h
  refine ⟨l.same.side, l.finv hinv, new, l.tets, l.nodup, l.fresh, l.live,
    ?_, cellFaces_eq_kept g new ▸ l.puts.mem hinv, e⟩
  rw [rowsSum_eq_faceSum, rowsSum_eq_faceSum]
  exact l.sum_all hinv hφ

theorem TetsGrown.length_lt {g : Grid α} {c c' : Cav} (h : TetsGrown g c c') (hne : c' ≠ c) :
    c.tetList.length < c'.tetList.length := by
  obtain ⟨new, l, e⟩ := h
  rw [l.tets, List.length_append]
  have := List.length_pos_of_ne_nil (e hne)
  omega

theorem TetsGrown.cavInv {g : Grid α} {c c' : Cav} (h : TetsGrown g c c') (hi : CavInv g c) : CavInv g c' := by
  obtain ⟨new, l, _⟩ := h
  exact hi.of_fresh (l.finv hi.finv) (l.same.segs ▸ hi.sinv) ⟨new, l.tets, l.nodup, l.fresh, l.live⟩
    (l.same.triList ▸ .refl _ _)

/-- what `ref_cavity_add_tet` and `ref_cavity_enlarge_face` do, whatever they return -/
structure TetCall (g : Grid α) (c : Cav) (r : Refine.Model.Cavity.St × Cav) : Prop where
  state : r.2.state = c.state ∨ (r.2.state ≠ .unknown ∧ r.2.state ≠ .visible)
  grown : r.1 = .ok → r.2.state = .unknown → TetsGrown g c r.2

namespace TetCall
variable {g : Grid α}

theorem ret (g : Grid α) (c : Cav) (s : Refine.Model.Cavity.St) : TetCall g c (s, c) :=
  ⟨Or.inl rfl, fun _ _ => .refl g c⟩

theorem flagged (g : Grid α) (c : Cav) {st : CState} (h1 : st ≠ .unknown) (h2 : st ≠ .visible)
    (s : Refine.Model.Cavity.St) : TetCall g c (s, { c with state := st }) :=
  ⟨Or.inr ⟨h1, h2⟩, fun _ hs => absurd hs h1⟩

theorem unknown {c : Cav} {r : Refine.Model.Cavity.St × Cav} (h : TetCall g c r) (hs : r.2.state = .unknown) :
    c.state = .unknown := h.state.elim (fun e => e ▸ hs) fun e => absurd hs e.1

theorem trans {c c1 : Cav} {r : Refine.Model.Cavity.St × Cav} (h1 : TetCall g c (.ok, c1)) (h2 : TetCall g c1 r) :
    TetCall g c r :=
  ⟨h2.state.elim (fun e => e ▸ h1.state) Or.inr, fun hok hs => (h1.grown rfl (h2.unknown hs)).trans (h2.grown hok hs)⟩

end TetCall

theorem addTet_call (g : Grid α) (c : Cav) (cell : Int) : TetCall g c (addTet g c cell) :=
  ⟨(addTet_state_cases g c cell).imp_right fun e => by rw [e]; decide,
    fun hok hs => addTet_tetsListed g cell c _ (Prod.ext hok rfl) hs⟩

theorem condAdd_call (g : Grid α) (c : Cav) (b : Bool) (cell : Int) :
    TetCall g c (if b = true then addTet g c cell else (.ok, c)) := by
  split
  · exact addTet_call g c cell
  · exact .ret g c _

theorem enlargeFace_call (g : Grid α) (c : Cav) (i : Nat) : TetCall g c (enlargeFace g c i) := by
  fun_cases enlargeFace g c i
  case case5 c1 h1 _ => exact (h1 ▸ condAdd_call g c _ _).trans (addTet_call g c1 _)  -- both calls
  case case6 c1 h1 _ => exact h1 ▸ condAdd_call g c _ _  -- the first call only
  case case7 => exact condAdd_call g c _ _  -- the first call failed
  case case1 => exact .ret g c _
  case case8 => exact .ret g c _
  all_goals exact .flagged g c (by decide) (by decide) _  -- 2–4: a ghost node, or a side without a tet

theorem enlargeFace_grown (g : Grid α) (c c' : Cav) (i : Nat) (h : enlargeFace g c i = (.ok, c'))
    (hs : c'.state = .unknown) : c.state = .unknown ∧ TetsGrown g c c' :=
  have t := h ▸ enlargeFace_call g c i
  ⟨t.unknown hs, t.grown rfl hs⟩

theorem enlargeFace_not_visible (g : Grid α) (c : Cav) (i : Nat) (h : c.state ≠ .visible)
    {r : Refine.Model.Cavity.St × Cav} (hr : enlargeFace g c i = r) : r.2.state ≠ .visible :=
  (hr ▸ enlargeFace_call g c i).state.elim (fun e => e ▸ h) (·.2)


theorem TetStep.ledger {φ : Int → Int → Int → G} {g : Grid α} {c c' : Cav} (st : TetStep φ g c c')
    (hl : LedgerEq φ g c) : LedgerEq φ g c' := by
  obtain ⟨new, t1, _, _, _, s1, _, _⟩ := st.grow
  obtain ⟨e1, e2, e3, e4⟩ := st.same
  unfold LedgerEq ledgerVal at hl ⊢
  have hn : c'.segNode = c.segNode := segNode_eq e2 e3
  rw [hn, s1, t1, e4]
  simp only [Cav.validSegs, e1, List.map_append, List.sum_append]
  simp only [Cav.validSegs] at hl
  rw [show rowsSum φ c.faces.rows + (new.map (tetBd φ g)).sum - coneSum φ c.segNode c.segs.valid =
    (rowsSum φ c.faces.rows - coneSum φ c.segNode c.segs.valid) + (new.map (tetBd φ g)).sum by abel, hl]
  abel

theorem TetsGrown.faceNd {g : Grid α} {c c' : Cav} (h : TetsGrown g c c') (hinv : SlotsInv c.faces)
    (hg : ∀ cell t, g.tets.get? cell = some t → TetNondeg t) (hnd : ∀ f ∈ c.validFaces, Nondeg f) :
    ∀ f ∈ c'.validFaces, Nondeg f := by
  obtain ⟨new, l, _⟩ := h
  exact fun f hf => (l.puts.mem hinv f hf).elim (hnd f) (cellFaces_eq_kept g new ▸ cellFaces_nondeg hg new f)


section loops
variable [Refine.Scalar α]

/-- `st`: the stall flag the scan starts with -/
def VisScanPost (g : Grid α) (c : Cav) (rows : List (Option Face)) (st : Bool) : Scan → Prop
  | .none st' => (st = true → st' = true) ∧
      (st' = false → ∀ f, some f ∈ rows → f.has c.node = false → faceVisible g c f = some true)
  | .exit _ c' => c.state ≠ .visible → c'.state ≠ .visible
  | .hit j c' _ => enlargeFace g c j = (.ok, c') ∧ c'.state = .unknown ∧ c' ≠ c

/-- a row that is passed over: the rest of the scan, run with the flag `st2`, decides -/
theorem VisScanPost.skip {g : Grid α} {c : Cav} {r : Option Face} {t : List (Option Face)} {st st2 : Bool} {res : Scan}
    (h : VisScanPost g c t st2 res) (hst : st = true → st2 = true)
    (hr : st2 = true ∨ ∀ f, r = some f → f.has c.node = false → faceVisible g c f = some true) :
    VisScanPost g c (r :: t) st res := by
  cases res with
  | none st' =>
    refine ⟨fun e => h.1 (hst e), fun e f hf hh => ?_⟩
    rcases hr with hr | hr
    · exact absurd (h.1 hr) (by rw [e]; decide)
    · rcases List.mem_cons.mp hf with e1 | hf
      · exact hr f e1.symm hh
      · exact h.2 e f hf hh
  | exit s c' => exact h
  | hit j c' st' => exact h

theorem scanVis_post (g : Grid α) (c : Cav) (rows : List (Option Face)) (i : Nat) (st : Bool) {r : Scan}
    (h : scanVis g c rows i st = r) : VisScanPost g c rows st r := by
  subst h
  fun_induction scanVis g c rows i st with
  | case1 => exact ⟨id, fun _ f hf => by cases hf⟩
  | case2 t i st ih => exact ih.skip id (Or.inr fun f hf => by cases hf)
  | case3 f0 t i st hatt ih => exact ih.skip id (Or.inr fun f hf hh => by cases hf; rw [hatt] at hh; cases hh)
  | case4 => exact id
  | case5 f0 t i st _ hv ih => exact ih.skip id (Or.inr fun f hf _ => by cases hf; exact hv)
  | case6 f0 t i st _ _ c1 he hun => exact fun hc => enlargeFace_not_visible g c i hc he
  | case7 f0 t i st _ _ he hun ih => exact ih.skip (fun _ => rfl) (Or.inl rfl)
  | case8 f0 t i st _ _ c1 he hun hne => exact ⟨he, by simpa using hun, hne⟩
  | case9 f0 t i st _ _ s c1 _ he => exact fun hc => enlargeFace_not_visible g c i hc he

/-- a scan that reaches the end without any enlarge call: every live face that is not attached to the node is
    visible (`ref_node_tet_vol > min_volume`) -/
theorem scanVis_none_false (g : Grid α) (c : Cav) (rows : List (Option Face)) (i : Nat)
    (h : scanVis g c rows i false = .none false) :
    ∀ f, some f ∈ rows → f.has c.node = false → faceVisible g c f = some true := by
  exact (scanVis_post g c rows i false h).2 rfl

/-- `i`: the first slot; `k`: cavity-changing enlarge calls left -/
def VisSweepPost (g : Grid α) (c : Cav) (k i : Nat) (grew : Bool) : SweepRes → Prop
  | .done c' grew' => TetsGrown g c c' ∧ (c' ≠ c → c'.state = .unknown ∧ c.state = .unknown) ∧
      (grew = true → grew' = true) ∧
      (grew' = false → c' = c ∧ scanVis g c (c.faces.rows.drop i) i false = .none false)
  | .exit _ c' => c.state ≠ .visible → c'.state ≠ .visible
  | .fuel c' => TetsGrown g c c' ∧ c.tetList.length + k ≤ c'.tetList.length

theorem visSweep_post (g : Grid α) (k : Nat) (c : Cav) (i : Nat) (grew : Bool) {r : SweepRes}
    (h : visSweep g k c i grew = r) : VisSweepPost g c k i grew r := by
  subst h
  fun_induction visSweep g k c i grew with
  | case1 c => exact ⟨.refl g c, Nat.le_refl _⟩
  | case2 k c i grew st hsc =>
    refine ⟨.refl g c, fun hne => absurd rfl hne, fun e => by rw [e]; rfl, fun hg => ?_⟩
    simp only [Bool.or_eq_false_iff] at hg
    exact ⟨rfl, hg.2 ▸ hsc⟩
  | case3 k c i grew s c1 hsc =>
    exact scanVis_post g c (c.faces.rows.drop i) i false hsc
  | case4 k c i grew j c1 st1 hsc ih =>
    obtain ⟨he, h1, hne⟩ := scanVis_post g c (c.faces.rows.drop i) i false hsc
    obtain ⟨h0, hstep⟩ := enlargeFace_grown g c c1 j he h1
    have hlt := hstep.length_lt hne
    revert ih
    cases visSweep g k c1 (j + 1) true with
    | done c' grew' =>
      intro ⟨s2, hst2, hg, _⟩
      refine ⟨hstep.trans s2, fun _ => ?_, fun _ => hg rfl, fun e => absurd (hg rfl) (by rw [e]; decide)⟩
      by_cases e : c' = c1
      · subst e; exact ⟨h1, h0⟩
      · exact ⟨(hst2 e).1, h0⟩
    | exit s c' => exact fun post _ => post (by rw [h1]; decide)
    | fuel c' => exact fun post => ⟨hstep.trans post.1, by have := post.2; omega⟩

/-- the `while (keep_growing)` loop -/
def VisLoopPost (g : Grid α) (c : Cav) (adds n : Nat) : Res ⊕ Cav → Prop
  | .inr c' => TetsGrown g c c' ∧ (c' ≠ c → c'.state = .unknown ∧ c.state = .unknown) ∧
      scanVis g c' c'.faces.rows 0 false = .none false
  | .inl (.ret _ c') => c.state ≠ .visible → c'.state ≠ .visible
  | .inl (.fuel c') => TetsGrown g c c' ∧
      (c.tetList.length + n ≤ c'.tetList.length ∨ c.tetList.length + adds ≤ c'.tetList.length)
  | .inl (.hang _) => True

theorem visLoop_post (g : Grid α) (adds n : Nat) (c : Cav) {r : Res ⊕ Cav} (h : visLoop g adds n c = r) :
    VisLoopPost g c adds n r := by
  subst h
  fun_induction visLoop g adds n c with
  | case1 c => exact ⟨.refl g c, Or.inl (Nat.le_refl _)⟩
  | case2 n c c1 grew hsw hg =>
    have sw := visSweep_post g adds c 0 false hsw
    obtain ⟨e, hsc⟩ := sw.2.2.2 (by simpa using hg)
    subst e
    exact ⟨sw.1, sw.2.1, by simpa using hsc⟩
  | case3 => trivial
  | case4 n c c1 grew hsw _ hne ih =>
    have sw := visSweep_post g adds c 0 false hsw
    obtain ⟨hstep, hst, _, _⟩ := sw
    have hlt := hstep.length_lt hne
    revert ih
    cases visLoop g adds n c1 with
    | inr c' =>
      intro ⟨s2, hst2, hsc⟩
      refine ⟨hstep.trans s2, fun _ => ?_, hsc⟩
      by_cases e : c' = c1
      · subst e; exact hst hne
      · exact ⟨(hst2 e).1, (hst hne).2⟩
    | inl r =>
      cases r with
      | ret s c' => exact fun post _ => post (by rw [(hst hne).1]; decide)
      | hang c' => exact fun _ => trivial
      | fuel c' => exact fun post => ⟨hstep.trans post.1, by have := post.2; omega⟩
  | case5 n c s c1 hsw => exact visSweep_post g adds c 0 false hsw
  | case6 n c c1 hsw => have sw := visSweep_post g adds c 0 false hsw; exact ⟨sw.1, Or.inr sw.2⟩

theorem visLoop_no_fuel (g : Grid α) (adds n : Nat) (c : Cav)
    (hinv : CavInv g c) (hadds : g.tets.slots.rows.length < adds)
    (hn : g.tets.slots.rows.length < c.tetList.length + n) (c' : Cav) :
    visLoop g adds n c ≠ .inl (.fuel c') := by
  intro h
  obtain ⟨st, hl⟩ := visLoop_post g adds n c h
  have := (st.cavInv hinv).tet_length_le
  omega

end loops

/-! Cited by no proof; named (by pattern) by the C01 entry of `MANIFEST.json`. -/

theorem SameSegSide.refl (c : Cav) : SameSegSide c c := ⟨rfl, rfl, rfl, rfl⟩
theorem SameSegSide.trans {a b c : Cav} (h1 : SameSegSide a b) (h2 : SameSegSide b c) : SameSegSide a c :=
  ⟨h2.1.trans h1.1, h2.2.1.trans h1.2.1, h2.2.2.1.trans h1.2.2.1, h2.2.2.2.trans h1.2.2.2⟩

theorem insertFace_frame (c : Cav) (f : Face) :
    SameSegSide c (insertFace c f).2 ∧ (insertFace c f).2.tetList = c.tetList :=
  have h := insertFace_same c f
  ⟨h.sameSegs.side, h.tetList⟩

theorem CavInv.of_step {φ : Int → Int → Int → G} {g : Grid α} {c c' : Cav} (h : CavInv g c) (st : TetStep φ g c c') :
    CavInv g c' := by
  obtain ⟨new, t1, d1, f1, l1, _⟩ := st.grow
  obtain ⟨e1, _, _, e4⟩ := st.same
  exact h.of_fresh st.finv (e1 ▸ h.sinv) ⟨new, t1, d1, f1, l1⟩ (e4 ▸ .refl _ _)

theorem TetStep.faceNd {φ : Int → Int → Int → G} {g : Grid α} {c c' : Cav} (st : TetStep φ g c c')
    (hg : ∀ cell t, g.tets.get? cell = some t → TetNondeg t) (hnd : ∀ f ∈ c.validFaces, Nondeg f) :
    ∀ f ∈ c'.validFaces, Nondeg f := by
  obtain ⟨new, _, _, _, _, _, m1, _⟩ := st.grow
  exact fun f hf => (m1 f hf).elim (hnd f) (cellFaces_nondeg hg new f)

section
variable [Refine.Scalar α]

theorem visLoop_done {φ : Int → Int → Int → G} (hφ : Alt φ) (g : Grid α) (adds n : Nat) (c c' : Cav)
    (hinv : SlotsInv c.faces) (h : visLoop g adds n c = .inr c') :
    TetStep φ g c c' ∧ (c' ≠ c → c'.state = .unknown ∧ c.state = .unknown) ∧
    scanVis g c' c'.faces.rows 0 false = .none false := by
  have := visLoop_post g adds n c h
  exact ⟨this.1.step hinv hφ, this.2⟩

theorem visLoop_ret_state (g : Grid α) (adds n : Nat) (c : Cav) (hc : c.state ≠ .visible)
    (s : Refine.Model.Cavity.St) (c' : Cav) (h : visLoop g adds n c = .inl (.ret s c')) : c'.state ≠ .visible := by
  exact visLoop_post g adds n c h hc

end

end Refine.Lemmas.Cavity2
