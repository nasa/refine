import Refine.Lemmas.CommReduce
import Refine.Lemmas.ScalarReal
import Refine.Lemmas.FoldMin
import Mathlib.Tactic.Linarith
import Mathlib.Tactic.Ring
import Mathlib.Tactic.FieldSimp

/-!
  `ref_search_selection` in exact arithmetic (`α := ℝ`): the 40-step bisection keeps every k-th smallest
  element between `low_val` and `high_val`, and halves the bracket each step.
-/
namespace Refine.Lemmas.Comm
open Refine Refine.Model.Comm Refine.ScalarReal

noncomputable def countLt (v : ℝ) (xs : List ℝ) : Int := ((xs.filter fun x => decide (x < v)).length : Int)
noncomputable def countLeR (v : ℝ) (xs : List ℝ) : Int := ((xs.filter fun x => decide (x ≤ v)).length : Int)

/-- `v` is a value a sorted copy of `xs` may hold at (0-based) `position` -/
def IsKth (xs : List ℝ) (position : Int) (v : ℝ) : Prop := countLt v xs ≤ position ∧ position < countLeR v xs

theorem half_eq : (Scalar.ofDec 5 (-1) : ℝ) = 1 / 2 := by
  rw [ofDec_eq]
  norm_num

theorem filter_length_mono {β : Type} (p q : β → Bool) (l : List β) (h : ∀ x, p x = true → q x = true) :
    (l.filter p).length ≤ (l.filter q).length := by
  rw [← List.countP_eq_length_filter, ← List.countP_eq_length_filter]
  exact List.countP_mono_left fun x _ => h x

theorem countLe_eq (mid : ℝ) (xs : List ℝ) : countLe mid xs = countLeR mid xs := by
  unfold countLe countLeR
  congr 2

theorem worldCountLe_eq (mid : ℝ) (w : World (List ℝ)) : worldCountLe mid w = countLeR mid w.flatten := by
  unfold worldCountLe
  rw [isum_eq_sum]
  induction w with
  | nil => simp [countLeR]
  | cons xs w ih =>
    simp only [List.map_cons, List.sum_cons, ih, countLe_eq, countLeR, List.flatten_cons, List.filter_append,
      List.length_append]
    push_cast; rfl

theorem bisectStep_inv (w : World (List ℝ)) (position : Int) (v : ℝ) (hK : IsKth w.flatten position v)
    (s : ℝ × ℝ × ℝ) (h1 : s.1 ≤ v) (h2 : v ≤ s.2.1) :
    let s' := bisectStep w position s
    s'.1 ≤ v ∧ v ≤ s'.2.1 ∧ (s'.2.2 = s'.1 ∨ s'.2.2 = s'.2.1) ∧ s'.2.1 - s'.1 = (s.2.1 - s.1) / 2 := by
  obtain ⟨low, high, mid0⟩ := s
  simp only at h1 h2
  unfold bisectStep
  simp only [mul_eq, add_eq, half_eq, worldCountLe_eq]
  by_cases hc : countLeR (1 / 2 * (low + high)) w.flatten - 1 < position
  · simp only [hc, if_true]
    refine ⟨?_, h2, Or.inl trivial, by ring⟩
    -- fewer than `position+1` elements are `≤ mid`, so `v` is above `mid`
    by_contra hlt
    have hvm : v ≤ 1 / 2 * (low + high) := le_of_lt (not_le.mp hlt)
    have hmono : countLeR v w.flatten ≤ countLeR (1 / 2 * (low + high)) w.flatten := by
      unfold countLeR
      have := filter_length_mono (fun x => decide (x ≤ v)) (fun x => decide (x ≤ 1 / 2 * (low + high))) w.flatten
        (by intro x hx; simp only [decide_eq_true_eq] at hx ⊢; exact le_trans hx hvm)
      omega
    have := hK.2
    omega
  · simp only [hc, if_false]
    refine ⟨h1, ?_, Or.inr trivial, by ring⟩
    by_contra hlt
    have hmv : 1 / 2 * (low + high) < v := not_le.mp hlt
    have hmono : countLeR (1 / 2 * (low + high)) w.flatten ≤ countLt v w.flatten := by
      unfold countLeR countLt
      have := filter_length_mono (fun x => decide (x ≤ 1 / 2 * (low + high))) (fun x => decide (x < v)) w.flatten
        (by intro x hx; simp only [decide_eq_true_eq] at hx ⊢; exact lt_of_le_of_lt hx hmv)
      omega
    have := hK.1
    omega

/-- after `k + 1` bisection steps the bracket still contains every k-th element, the mid-point is one of its ends and
    its width is the initial one over `2 ^ (k + 1)`.  (`k + 1`, not `k`: the mid-point the loop starts with is the
    middle of the bracket, not an end; no hypothesis on it is needed.) -/
theorem bisect_inv (w : World (List ℝ)) (position : Int) (v : ℝ) (hK : IsKth w.flatten position v) (k : Nat)
    (s : ℝ × ℝ × ℝ) (h1 : s.1 ≤ v) (h2 : v ≤ s.2.1) :
    let s' := bisect w position (k + 1) s
    s'.1 ≤ v ∧ v ≤ s'.2.1 ∧ (s'.2.2 = s'.1 ∨ s'.2.2 = s'.2.1) ∧ s'.2.1 - s'.1 = (s.2.1 - s.1) / 2 ^ (k + 1) := by
  induction k generalizing s with
  | zero => simpa [bisect] using bisectStep_inv w position v hK s h1 h2
  | succ k ih =>
    obtain ⟨a1, a2, _, a4⟩ := bisectStep_inv w position v hK s h1 h2
    obtain ⟨b1, b2, b3, b4⟩ := ih (bisectStep w position s) a1 a2
    refine ⟨b1, b2, b3, b4.trans ?_⟩
    rw [a4, pow_succ (2 : ℝ) (k + 1)]
    field_simp

theorem scalarLt_eq_ltB : (Scalar.lt (α := ℝ)) = ltB := by
  funext a b
  rw [Bool.eq_iff_iff, lt_iff]
  exact decide_eq_true_iff.symm

/-- `REF_DBL_MAX` -/
noncomputable def BIG : ℝ := Scalar.ofDec 1 200

section MinFold
variable {α : Type} [LinearOrder α]

theorem foldl_min_split (xs : List α) (a b : α) (hab : a ≤ b) : xs.foldl min a = min a (xs.foldl min b) := by
  induction xs generalizing a b with
  | nil => exact (min_eq_left hab).symm
  | cons x xs ih =>
    simp only [List.foldl_cons]
    rw [ih (min a x) (min b x) (min_le_min_right x hab)]
    have h1 : xs.foldl min (min b x) ≤ x := le_trans (FoldMin.foldl_min_le_init xs _) (min_le_right _ _)
    rw [min_assoc, min_eq_right h1]

theorem foldl_min_locals (e : α) (rest : List (List α)) (a : α) (ha : a ≤ e) :
    (rest.map (·.foldl min e)).foldl min a = rest.flatten.foldl min a := by
  induction rest generalizing a with
  | nil => rfl
  | cons y ys ih =>
    simp only [List.map_cons, List.foldl_cons, List.flatten_cons, List.foldl_append]
    rw [← foldl_min_split y a e ha]
    exact ih _ (le_trans (FoldMin.foldl_min_le_init y a) ha)

end MinFold

theorem localMin_real : localMin = (·.foldl min BIG) := by
  funext xs
  unfold localMin BIG
  congr 1
  funext a b
  exact cmin_eq a b

theorem localMax_real : localMax = (·.foldl max (-BIG)) := by
  funext xs
  unfold localMax BIG
  congr 1
  funext a b
  exact cmax_eq a b

theorem pickMin_fun : (pickMin (Scalar.lt (α := ℝ))) = min := scalarLt_eq_ltB ▸ pickMin_eq

theorem pickMax_fun : (pickMax (Scalar.lt (α := ℝ))) = max := scalarLt_eq_ltB ▸ pickMax_eq

/-- `ref_mpi_min + bcast` of the local minima = the fold over all entries of the communicator -/
theorem worldMin_flatten (w : World (List ℝ)) : worldMin w = w.flatten.foldl min BIG := by
  match w with
  | [] => rfl
  | x :: rest =>
    unfold worldMin
    simp only [List.map_cons]
    rw [pickMin_fun, localMin_real, List.flatten_cons, List.foldl_append]
    exact foldl_min_locals BIG rest _ (FoldMin.foldl_min_le_init x BIG)

/-- the same for `ref_mpi_max`: `max` is `min` of the reversed order -/
theorem worldMax_flatten (w : World (List ℝ)) : worldMax w = w.flatten.foldl max (-BIG) := by
  match w with
  | [] => rfl
  | x :: rest =>
    unfold worldMax
    simp only [List.map_cons]
    rw [pickMax_fun, localMax_real, List.flatten_cons, List.foldl_append]
    exact foldl_min_locals (α := ℝᵒᵈ) (-BIG) rest _ (FoldMin.foldl_min_le_init (α := ℝᵒᵈ) x (-BIG))

theorem worldMin_le (w : World (List ℝ)) (v : ℝ) (hv : v ∈ w.flatten) : worldMin w ≤ v := by
  rw [worldMin_flatten]
  exact FoldMin.foldl_min_le_mem _ _ hv

theorem le_worldMax (w : World (List ℝ)) (v : ℝ) (hv : v ∈ w.flatten) : v ≤ worldMax w := by
  rw [worldMax_flatten]
  exact FoldMin.foldl_min_le_mem (α := ℝᵒᵈ) _ _ hv

end Refine.Lemmas.Comm
