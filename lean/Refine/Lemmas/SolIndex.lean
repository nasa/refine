import Refine.Model.Sol

/-!
  Entry `g` of a field file belongs to vertex `g`: after one pass over the rows (`scatterRows`, which the chunk loop
  equals by `Refine.Lemmas.Sol.readLoop_eq`) the local node that `ref_node_local` returns for global `g` holds row `g`.
  All three lemmas are for `dup := false` (3-D files); the second store of a 2-D file at `nnode + g` has no index lemma.
-/
namespace Refine.Lemmas.Sol
open Refine.Model.Sol

theorem length_setRow (nnode : Int) (gl : List Nat) (g : Int) (row : Row) (arr : List Row) :
    (setRow false nnode gl g row arr).length = arr.length := by
  unfold setRow
  cases refNodeLocal gl g <;> simp

theorem setRow_getElem? (nnode : Int) (gl : List Nat) (g : Int) (l : Nat)
    (hloc : refNodeLocal gl g = some l) (hinj : ∀ g', refNodeLocal gl g' = some l → g' = g)
    (b : Int) (row : Row) (arr : List Row) (hl : l < arr.length) :
    (setRow false nnode gl b row arr)[l]? = if b = g then some row else arr[l]? := by
  unfold setRow
  by_cases hb : b = g
  · subst hb; simp [hloc, hl]
  · rw [if_neg hb]
    cases hq : refNodeLocal gl b with
    | none => simp
    | some l' =>
      have : l' ≠ l := fun h => hb (hinj b (h ▸ hq))
      simp [List.getElem?_set_ne this]

theorem scatterRows_getElem? (nnode : Int) (gl : List Nat) (g : Int) (l : Nat)
    (hloc : refNodeLocal gl g = some l) (hinj : ∀ g', refNodeLocal gl g' = some l → g' = g) :
    ∀ (rows : List Row) (base : Int) (arr : List Row), l < arr.length →
      (scatterRows false nnode gl base rows arr)[l]? =
        if base ≤ g ∧ g < base + rows.length then rows[(g - base).toNat]? else arr[l]? := by
  intro rows
  induction rows with
  | nil =>
    intro base arr _
    rw [scatterRows, if_neg (by rw [List.length_nil]; omega)]
  | cons row rest ih =>
    intro base arr hl
    rw [scatterRows, ih (base + 1) _ (by rw [length_setRow]; exact hl),
      setRow_getElem? nnode gl g l hloc hinj base row arr hl, List.length_cons]
    by_cases hb : base = g
    · subst hb
      rw [if_neg (by omega), if_pos rfl, if_pos (by omega), Int.sub_self]
      rfl
    · rw [if_neg hb]
      by_cases hin : base + 1 ≤ g ∧ g < base + 1 + (rest.length : Int)
      · rw [if_pos hin, if_pos (by omega), show (g - base).toNat = (g - (base + 1)).toNat + 1 by omega,
          List.getElem?_cons_succ]
      · rw [if_neg hin, if_neg (by omega)]

end Refine.Lemmas.Sol
