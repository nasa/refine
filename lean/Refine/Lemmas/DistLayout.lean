import Refine.Lemmas.DistClauses
import Refine.Lemmas.Dist

/-!
  The distribution of a global mesh under a partition.  A mesh is a set of vertices `Vg`, a set of cells `S` over them
  and a payload `Y` per vertex; a partition `P` names the owner of every vertex.  `Layout P Y S Vg w` says that the world
  `w` is the distribution of that mesh: rank `q` stores exactly the cells with a vertex of part `q`, and exactly the
  vertices it owns or its cells need, each as the one copy `⟨g, P g, Y g⟩`.  Such a world satisfies the executable
  invariant `distInv`; the readers and the migration only have to show that what they return is a `Layout`.

  Conversely every world stores a mesh — its vertices `Vw w`, its cells `AllC w`, the payloads `payW w` — under a partition
  `partW w`, all read off the stored copies; a world satisfying `distInv` is the layout of that mesh (`layout_of_distInv`),
  and `distInv` says no more than that and the id count (`distInv_iff_layout`).  Whoever starts from `distInv` reads
  `Layout.cells`, `Layout.nodes` instead of following copies from rank to rank.

  Namespaces: `Stores`, `Layout` and every theorem of this file are in `Refine.Lemmas.DistLayout`.  The mesh a world stores
  is declared here into the namespaces under which the statements of `Props/C06Shufflin*.lean` name it:
  `allNodes`, `partW`, `payW`, `Vw` (with `mem_allNodes`, `vw_iff`, `vw_of_mem`, `Agree`, `canon`) into
  `Refine.Lemmas.ShufflinSpec`, `AllC` into `Refine.Lemmas.ShufflinWorld` — so a user opens those two besides `DistLayout`.
-/
namespace Refine.Lemmas.DistLayout
open Refine.Model.Dist Refine.Lemmas.DistClauses
open Refine.Model.Comm (World)

/-- who stores what, cells as sets: a cell list may repeat a cell -/
structure Stores (P : Int → Int) (Y : Int → List Nat) (S : DCell → Prop) (Vg : Int → Prop) (w : World RankState) :
    Prop where
  range : ∀ g, Vg g → 0 ≤ g ∧ 0 ≤ P g ∧ P g < (w.length : Int)
  cellVerts : ∀ c, S c → ∀ v ∈ c.nodes, Vg v
  nodupG : ∀ {q : Nat} {s : RankState}, w[q]? = some s → (s.nodes.map (·.glob)).Nodup
  cells : ∀ {q : Nat} {s : RankState}, w[q]? = some s → ∀ c, c ∈ s.cells ↔ S c ∧ ∃ v ∈ c.nodes, P v = (q : Int)
  nodes : ∀ {q : Nat} {s : RankState}, w[q]? = some s → ∀ nd, nd ∈ s.nodes ↔
    Vg nd.glob ∧ nd.part = P nd.glob ∧ nd.payload = Y nd.glob ∧ (nd.part = (q : Int) ∨ ∃ c ∈ s.cells, nd.glob ∈ c.nodes)

structure Layout (P : Int → Int) (Y : Int → List Nat) (S : DCell → Prop) (Vg : Int → Prop) (w : World RankState) :
    Prop extends Stores P Y S Vg w where
  nodupC : ∀ {q : Nat} {s : RankState}, w[q]? = some s → s.cells.Nodup

/-- `ref_cell_part` of a cell under the partition `P` -/
def ownerP (P : Int → Int) (c : DCell) : Int := cellOwner (c.nodes.map fun g => (g, P g))

/-- the counting clause asks, of a synchronised world, that the vertices are `0 … N-1` and `n_global = N` everywhere -/
def IdsOk (Vg : Int → Prop) (w : World RankState) : Prop :=
  synced w = true → ∃ N : Nat, (∀ g : Int, Vg g ↔ 0 ≤ g ∧ g < (N : Int)) ∧ ∀ s ∈ w, s.newN = (N : Int)

/-- the `nodes` clause of `Stores` for one rank, from the four facts a producer's rank invariant gives -/
theorem nodes_iff_of_rank {P : Int → Int} {Y : Int → List Nat} {Vg : Int → Prop} {q : Nat} {s : RankState}
    (hent : ∀ nd ∈ s.nodes, Vg nd.glob ∧ nd.part = P nd.glob ∧ nd.payload = Y nd.glob)
    (hneed : ∀ nd ∈ s.nodes, nd.part = (q : Int) ∨ ∃ c ∈ s.cells, nd.glob ∈ c.nodes)
    (hown : ∀ g, Vg g → P g = (q : Int) → g ∈ s.nodes.map (·.glob))
    (hcell : ∀ c ∈ s.cells, ∀ v ∈ c.nodes, v ∈ s.nodes.map (·.glob)) (nd : DNode) :
    nd ∈ s.nodes ↔ Vg nd.glob ∧ nd.part = P nd.glob ∧ nd.payload = Y nd.glob ∧
      (nd.part = (q : Int) ∨ ∃ c ∈ s.cells, nd.glob ∈ c.nodes) := by
  refine ⟨fun h => ⟨(hent nd h).1, (hent nd h).2.1, (hent nd h).2.2, hneed nd h⟩, fun ⟨hv, hp, hy, hk⟩ => ?_⟩
  obtain ⟨x, hx, hxg⟩ := List.mem_map.mp
    (hk.elim (fun h => hown nd.glob hv (hp ▸ h)) fun ⟨c, hc, hvc⟩ => hcell c hc nd.glob hvc)
  obtain ⟨-, h1, h2⟩ := hent x hx
  cases x; cases nd
  simp only at hxg hp hy h1 h2
  subst hxg
  rwa [h1, h2, ← hp, ← hy] at hx

namespace Stores
variable {P : Int → Int} {Y : Int → List Nat} {S : DCell → Prop} {Vg : Int → Prop} {w : World RankState}

theorem owner (L : Stores P Y S Vg w) {g : Int} (hg : Vg g) :
    0 ≤ P g ∧ ∃ o, w[(P g).toNat]? = some o ∧ (⟨g, P g, Y g⟩ : DNode) ∈ o.nodes := by
  obtain ⟨_, h1, h2⟩ := L.range g hg
  have hlt : (P g).toNat < w.length := (Int.toNat_lt h1).mpr h2
  refine ⟨h1, w[(P g).toNat], List.getElem?_eq_getElem hlt, ?_⟩
  rw [L.nodes (List.getElem?_eq_getElem hlt)]
  exact ⟨hg, rfl, rfl, Or.inl (Int.toNat_of_nonneg h1).symm⟩

theorem cell_vert (L : Stores P Y S Vg w) {q : Nat} {s : RankState} (h : w[q]? = some s)
    {c : DCell} (hc : c ∈ s.cells) {g : Int} (hg : g ∈ c.nodes) : Vg g ∧ (⟨g, P g, Y g⟩ : DNode) ∈ s.nodes := by
  have hv := L.cellVerts c ((L.cells h c).mp hc).1 g hg
  exact ⟨hv, (L.nodes h _).mpr ⟨hv, rfl, rfl, Or.inr ⟨c, hc, hg⟩⟩⟩

/-- the `(global, part)` list of a stored cell read from the storing rank's table: the same on every rank -/
theorem cellVerts_eq (L : Stores P Y S Vg w) {q : Nat} {s : RankState} (h : w[q]? = some s)
    {c : DCell} (hc : c ∈ s.cells) : s.cellVerts c = c.nodes.map fun g => (g, P g) := by
  unfold RankState.cellVerts
  refine List.map_congr_left fun g hg => ?_
  rw [partOf_of_mem (L.nodupG h) (L.cell_vert h hc hg).2]
  rfl

theorem ownerOf_eq (L : Stores P Y S Vg w) {q : Nat} {s : RankState} (h : w[q]? = some s)
    {c : DCell} (hc : c ∈ s.cells) : s.ownerOf c = ownerP P c := by
  unfold RankState.ownerOf ownerP
  rw [L.cellVerts_eq h hc]

/-- the owner of a cell of the mesh is the part of one of its vertices, and the rank of that part stores the cell -/
theorem owner_stores (L : Stores P Y S Vg w) {c : DCell} (hA : S c) (hne : c.nodes ≠ []) :
    ∃ os, w[(ownerP P c).toNat]? = some os ∧ 0 ≤ ownerP P c ∧ c ∈ os.cells := by
  obtain ⟨gp, hgp, hov, _⟩ := Refine.Lemmas.Dist.cellOwner_min (c.nodes.map fun g => (g, P g)) (by simpa using hne)
  obtain ⟨v, hv, rfl⟩ := List.mem_map.mp hgp
  obtain ⟨h0, os, hos, _⟩ := L.owner (L.cellVerts c hA v hv)
  rw [ownerP, hov]
  exact ⟨os, hos, h0, (L.cells hos c).mpr ⟨hA, v, hv, (Int.toNat_of_nonneg h0).symm⟩⟩

/-! The theorems `Stores.clauseOwner` … `Stores.clauseCellOwner`, `Layout.clauseLocal`, `Layout.distInv` carry the name of
    the model's clause they prove, so that `L.clauseOwner : clauseOwner w = true`.  Once one is stated, its bare name inside
    the namespace means the theorem: the model's clause is then written `Refine.Model.Dist.clauseOwner`. -/

theorem clauseOwner (L : Stores P Y S Vg w) : clauseOwner w = true := by
  refine (clauseOwner_iff w).mpr fun s hs nd hnd => ?_
  obtain ⟨q, hq⟩ := List.getElem?_of_mem hs
  obtain ⟨hv, hp, _, _⟩ := (L.nodes hq nd).mp hnd
  obtain ⟨_, o, ho, hmem⟩ := L.owner hv
  rw [hp]
  exact ⟨o, ho, partOf_of_mem (L.nodupG ho) hmem⟩

theorem clauseCells (L : Stores P Y S Vg w) : clauseCells w = true := by
  refine (clauseCells_iff w).mpr fun q s hq c hc => ?_
  obtain ⟨hA, v, hv, hp⟩ := (L.cells hq c).mp hc
  rw [L.cellVerts_eq hq hc]
  refine ⟨fun g hg => (has_iff s g).mpr (List.mem_map_of_mem (L.cell_vert hq hc hg).2),
    ⟨(v, P v), List.mem_map_of_mem hv, hp⟩, fun gp hgp => ?_⟩
  obtain ⟨g, hg, rfl⟩ := List.mem_map.mp hgp
  obtain ⟨h0, o, ho, _⟩ := L.owner (L.cellVerts c hA g hg)
  exact ⟨o, ho, (L.cells ho c).mpr ⟨hA, g, hg, (Int.toNat_of_nonneg h0).symm⟩⟩

theorem clauseVerts (L : Stores P Y S Vg w) : clauseVerts w = true :=
  (clauseVerts_iff w).mpr fun _ _ hq nd hnd => ((L.nodes hq nd).mp hnd).2.2.2

theorem clauseGhost (L : Stores P Y S Vg w) : clauseGhost w = true := by
  refine (clauseGhost_iff w).mpr fun q s hq nd hnd => Or.inr ?_
  obtain ⟨hv, hp, hy, _⟩ := (L.nodes hq nd).mp hnd
  obtain ⟨_, o, ho, hmem⟩ := L.owner hv
  rw [hp, hy]
  exact ⟨o, ho, by rw [find_glob (L.nodupG ho) hmem]; rfl⟩

theorem clauseCellOwner (L : Stores P Y S Vg w) : clauseCellOwner w = true := by
  refine (clauseCellOwner_iff w).mpr fun s hs c hc => ?_
  obtain ⟨q, hq⟩ := List.getElem?_of_mem hs
  obtain ⟨hA, _, hv0, _⟩ := (L.cells hq c).mp hc
  obtain ⟨os, hos, h0, hmem⟩ := L.owner_stores hA (List.ne_nil_of_mem hv0)
  rw [L.ownerOf_eq hq hc]
  exact ⟨os, hos, h0, hmem, L.ownerOf_eq hos hmem⟩

theorem mem_owned (L : Stores P Y S Vg w) (g : Int) : g ∈ ownedGlobals w ↔ Vg g := by
  rw [mem_ownedGlobals]
  constructor
  · rintro ⟨q, s, hs, nd, hnd, _, rfl⟩
    exact ((L.nodes hs nd).mp hnd).1
  · intro hg
    obtain ⟨h0, o, ho, hmem⟩ := L.owner hg
    exact ⟨_, o, ho, _, hmem, (Int.toNat_of_nonneg h0).symm, rfl⟩

theorem owned_nodup (L : Stores P Y S Vg w) : (ownedGlobals w).Nodup := by
  refine (Refine.ListFacts.nodup_flatten_zipIdx w _).mpr ⟨fun q s hs => ?_, fun q r s t hs ht x hx hy => ?_⟩
  · exact (L.nodupG hs).sublist (List.filter_sublist.map _)
  · obtain ⟨nd, hnd, rfl⟩ := List.mem_map.mp hx
    obtain ⟨md, hmd, hmg⟩ := List.mem_map.mp hy
    obtain ⟨hnd, b1⟩ := List.mem_filter.mp hnd
    obtain ⟨hmd, b2⟩ := List.mem_filter.mp hmd
    have a1 := ((L.nodes hs nd).mp hnd).2.1
    have a2 := ((L.nodes ht md).mp hmd).2.1
    rw [beq_iff_eq] at b1 b2
    rw [hmg, ← a1, b1, b2] at a2
    exact Int.ofNat_inj.mp a2.symm

/-- when the vertices of the mesh are exactly `0 … N-1`, so are the owned globals of the layout, sorted -/
theorem owned_ids (L : Stores P Y S Vg w) {N : Nat} (hids : ∀ g : Int, Vg g ↔ 0 ≤ g ∧ g < (N : Int)) :
    (ownedGlobals w).length = N ∧ sortGlob (ownedGlobals w) = idsUpTo N := by
  have hperm : (ownedGlobals w).Perm (idsUpTo N) :=
    (List.perm_ext_iff_of_nodup L.owned_nodup (idsUpTo_nodup N)).mpr fun g => by
      rw [L.mem_owned, mem_idsUpTo, hids]
  refine ⟨by rw [hperm.length_eq, idsUpTo, List.length_map, List.length_range], ?_⟩
  exact List.Perm.eq_of_pairwise (le := fun (a b : Int) => a ≤ b) (fun a b _ _ h1 h2 => Int.le_antisymm h1 h2)
    (Refine.Lemmas.Dist.sortGlob_sorted _) (idsUpTo_sorted N) ((Refine.Lemmas.Dist.sortGlob_perm _).trans hperm)

end Stores

namespace Layout
variable {P : Int → Int} {Y : Int → List Nat} {S : DCell → Prop} {Vg : Int → Prop} {w : World RankState}

theorem clauseLocal (L : Layout P Y S Vg w) : clauseLocal w = true := by
  refine (clauseLocal_iff w).mpr fun s hs => ?_
  obtain ⟨q, hq⟩ := List.getElem?_of_mem hs
  refine ⟨L.nodupG hq, L.nodupC hq, fun nd hnd => ?_⟩
  obtain ⟨hv, hp, _, _⟩ := (L.nodes hq nd).mp hnd
  rw [hp]
  exact L.range nd.glob hv

theorem clauses (L : Layout P Y S Vg w) :
    Refine.Model.Dist.clauseLocal w = true ∧ Refine.Model.Dist.clauseOwner w = true ∧
    Refine.Model.Dist.clauseCells w = true ∧ Refine.Model.Dist.clauseVerts w = true ∧
    Refine.Model.Dist.clauseGhost w = true ∧ Refine.Model.Dist.clauseCellOwner w = true :=
  ⟨L.clauseLocal, L.clauseOwner, L.clauseCells, L.clauseVerts, L.clauseGhost, L.clauseCellOwner⟩

theorem ownedCells_nodup (L : Layout P Y S Vg w) : (ownedCellsAll w).Nodup := by
  refine (Refine.ListFacts.nodup_flatten_zipIdx w _).mpr ⟨fun q s hs => ?_, fun q r s t hs ht c hx hy => ?_⟩
  · exact (L.nodupC hs).sublist List.filter_sublist
  · obtain ⟨hx, b1⟩ := List.mem_filter.mp hx
    obtain ⟨hy, b2⟩ := List.mem_filter.mp hy
    rw [beq_iff_eq, L.ownerOf_eq hs hx] at b1
    rw [beq_iff_eq, L.ownerOf_eq ht hy, b1] at b2
    exact Int.ofNat_inj.mp b2

theorem cells_length (L : Layout P Y S Vg w) : (ownedCellsAll w).length = (allCells w).length := by
  have hnd : (allCells w).Nodup := Refine.ListFacts.nodup_eraseDups _
  refine ((List.perm_ext_iff_of_nodup L.ownedCells_nodup hnd).mpr fun c => ?_).length_eq
  rw [mem_ownedCellsAll, mem_allCells]
  constructor
  · rintro ⟨q, s, hs, hc, _⟩
    exact ⟨s, List.mem_of_getElem? hs, hc⟩
  · -- clause (v): every stored cell is owned on a rank that stores it
    rintro ⟨s, hs, hc⟩
    obtain ⟨os, hos, h0, hmem, he⟩ := (clauseCellOwner_iff w).mp L.clauseCellOwner s hs c hc
    exact ⟨_, os, hos, hmem, by rw [he, Int.toNat_of_nonneg h0]⟩

theorem counts_distinct (L : Layout P Y S Vg w) :
    (ownedGlobals w).Nodup ∧ (ownedCellsAll w).Nodup ∧ (ownedCellsAll w).length = (allCells w).length :=
  ⟨L.owned_nodup, L.ownedCells_nodup, L.cells_length⟩

theorem counts (L : Layout P Y S Vg w) (h : IdsOk Vg w) : clauseCounts w = true := by
  refine (clauseCounts_iff w).mpr ⟨L.owned_nodup, L.ownedCells_nodup, L.cells_length, fun hs => ?_⟩
  obtain ⟨N, hids, hN⟩ := h hs
  obtain ⟨hlen, hsort⟩ := L.owned_ids hids
  exact ⟨fun s hs => by rw [hN s hs, hlen], by rw [hsort, hlen]⟩

/-- the layout reads `P`, `Y` only on the vertices of the mesh -/
theorem congr {P' : Int → Int} {Y' : Int → List Nat} {S' : DCell → Prop} {Vg' : Int → Prop} (L : Layout P Y S Vg w)
    (hP : ∀ g, Vg g → P g = P' g) (hY : ∀ g, Vg g → Y g = Y' g) (hS : ∀ c, S c ↔ S' c) (hV : ∀ g, Vg g ↔ Vg' g) :
    Layout P' Y' S' Vg' w := by
  refine {
    range := fun g hg => ?_
    cellVerts := fun c hc v hv => (hV v).mp (L.cellVerts c ((hS c).mpr hc) v hv)
    nodupG := L.nodupG
    cells := fun hs c => ?_
    nodes := fun hs nd => ?_
    nodupC := L.nodupC }
  · rw [← hP g ((hV g).mpr hg)]
    exact L.range g ((hV g).mpr hg)
  · rw [L.cells hs c, hS c]
    refine and_congr_right fun hc => exists_congr fun v => and_congr_right fun hv => ?_
    rw [hP v (L.cellVerts c ((hS c).mpr hc) v hv)]
  · rw [L.nodes hs nd, hV nd.glob]
    refine and_congr_right fun hg => ?_
    rw [hP _ ((hV _).mpr hg), hY _ ((hV _).mpr hg)]

theorem distInv (L : Layout P Y S Vg w) (h : IdsOk Vg w) : distInv w = true :=
  (distInv_iff w).mpr ⟨L.clauseLocal, L.clauseOwner, L.clauseCells, L.clauseVerts, L.clauseGhost, L.clauseCellOwner,
    L.counts h⟩

end Layout

end Refine.Lemmas.DistLayout

/-! ## the mesh a world stores -/

namespace Refine.Lemmas.ShufflinSpec
open Refine.Model.Dist
open Refine.Model.Comm (World)

def allNodes (w : World RankState) : List DNode := w.flatMap (·.nodes)

/-- the part of global `g`: the part field of a stored copy -/
def partW (w : World RankState) (g : Int) : Int :=
  (((allNodes w).find? fun x => x.glob == g).map (·.part)).getD (-1)

/-- the payload of global `g`: the payload of a stored copy -/
def payW (w : World RankState) (g : Int) : List Nat :=
  (((allNodes w).find? fun x => x.glob == g).map (·.payload)).getD []

/-- `g` is a vertex of the mesh: some rank stores it -/
def Vw (w : World RankState) (g : Int) : Prop := g ∈ (allNodes w).map (·.glob)

theorem mem_allNodes (w : World RankState) (nd : DNode) : nd ∈ allNodes w ↔ ∃ s ∈ w, nd ∈ s.nodes := by
  unfold allNodes; rw [List.mem_flatMap]

theorem vw_iff (w : World RankState) (g : Int) : Vw w g ↔ ∃ s ∈ w, g ∈ s.nodes.map (·.glob) := by
  unfold Vw allNodes
  rw [List.map_flatMap, List.mem_flatMap]

theorem vw_of_mem {w : World RankState} {s : RankState} (hs : s ∈ w) {nd : DNode} (hnd : nd ∈ s.nodes) : Vw w nd.glob :=
  (vw_iff w nd.glob).mpr ⟨s, hs, List.mem_map_of_mem hnd⟩

def Agree (w : World RankState) : Prop :=
  ∀ s ∈ w, ∀ t ∈ w, ∀ x ∈ s.nodes, ∀ y ∈ t.nodes, x.glob = y.glob → x.part = y.part ∧ x.payload = y.payload

/-- when the copies of every global agree, each stored copy is `⟨g, partW w g, payW w g⟩` -/
theorem canon {w : World RankState} (ha : Agree w) {s : RankState} (hs : s ∈ w) {nd : DNode} (hnd : nd ∈ s.nodes) :
    nd.part = partW w nd.glob ∧ nd.payload = payW w nd.glob := by
  have hmem : nd ∈ allNodes w := (mem_allNodes w nd).mpr ⟨s, hs, hnd⟩
  cases hf : (allNodes w).find? (fun x => x.glob == nd.glob) with
  | none =>
    rw [List.find?_eq_none] at hf
    exact absurd (by simp) (hf nd hmem)
  | some y =>
    have hg : y.glob = nd.glob := by simpa using List.find?_some hf
    obtain ⟨t, ht, hyt⟩ := (mem_allNodes w y).mp (List.mem_of_find?_eq_some hf)
    unfold partW payW
    rw [hf]
    exact ha s hs t ht nd hnd y hyt hg.symm

end Refine.Lemmas.ShufflinSpec

namespace Refine.Lemmas.ShufflinWorld
open Refine.Model.Dist
open Refine.Model.Comm (World)

/-- `c` is a cell of the mesh: some rank stores it -/
def AllC (w : World RankState) (c : DCell) : Prop := ∃ (r : Nat) (s : RankState), w[r]? = some s ∧ c ∈ s.cells

end Refine.Lemmas.ShufflinWorld

/-! ## a world satisfying `distInv` is the layout of the mesh it stores -/

namespace Refine.Lemmas.DistLayout
open Refine.Model.Dist Refine.Lemmas.DistClauses Refine.Lemmas.ShufflinSpec Refine.Lemmas.ShufflinWorld
open Refine.Model.Comm (World)
variable {w : World RankState}

theorem layout_of_distInv (h : distInv w = true) : Layout (partW w) (payW w) (AllC w) (Vw w) w := by
  have F := invFacts_of_distInv w h
  have ha : Agree w := fun _ hs _ ht _ hx _ hy => copies_agree F hs ht hx hy
  obtain ⟨_, _, hC, hV, _, _, _⟩ := (distInv_iff w).mp h
  have hC := (clauseCells_iff w).mp hC
  have hV := (clauseVerts_iff w).mp hV
  -- what a rank reads in its table for a stored global is the part of the global
  have hread : ∀ {q : Nat} {s : RankState}, w[q]? = some s → ∀ {v : Int}, v ∈ s.nodes.map (·.glob) →
      s.partOf v = some (partW w v) := by
    intro q s hs v hv
    obtain ⟨x, hx, rfl⟩ := List.mem_map.mp hv
    rw [partOf_of_mem (F.nodupG s (List.mem_of_getElem? hs)) hx, (canon ha (List.mem_of_getElem? hs) hx).1]
  refine {
    range := fun g hg => ?_
    cellVerts := ?_
    nodupG := fun hs => F.nodupG _ (List.mem_of_getElem? hs)
    cells := fun {q s} hs c => ⟨fun hc => ⟨⟨q, s, hs, hc⟩, ?_⟩, ?_⟩
    nodes := fun {q s} hs => nodes_iff_of_rank
      (fun nd hnd => ⟨vw_of_mem (List.mem_of_getElem? hs) hnd, canon ha (List.mem_of_getElem? hs) hnd⟩) (hV q s hs)
      (fun g hv hp => ?_) (F.cellStored s (List.mem_of_getElem? hs))
    nodupC := fun hs => F.nodupC _ (List.mem_of_getElem? hs) }
  · obtain ⟨s, hs, hg⟩ := (vw_iff w g).mp hg
    obtain ⟨nd, hnd, rfl⟩ := List.mem_map.mp hg
    rw [← (canon ha hs hnd).1]
    exact F.nonneg s hs nd hnd
  · rintro c ⟨r, s, hs, hc⟩ v hv
    exact (vw_iff w v).mpr ⟨s, List.mem_of_getElem? hs, F.cellStored s (List.mem_of_getElem? hs) c hc v hv⟩
  · -- clause (ii): a stored cell has a vertex the rank reads as its own
    obtain ⟨gp, hgp, hp⟩ := (hC q s hs c hc).2.1
    obtain ⟨v, hv, rfl⟩ := List.mem_map.mp hgp
    refine ⟨v, hv, ?_⟩
    rw [← hp]
    show _ = (s.partOf v).getD (-1)
    rw [hread hs (F.cellStored s (List.mem_of_getElem? hs) c hc v hv), Option.getD_some]
  · -- clause (ii): the rank of every vertex of a stored cell stores the cell
    rintro ⟨⟨r, t, ht, hc⟩, v, hv, hp⟩
    obtain ⟨o, ho, hco⟩ := (hC r t ht c hc).2.2 (v, (t.partOf v).getD (-1)) (List.mem_map.mpr ⟨v, hv, rfl⟩)
    rw [hread ht (F.cellStored t (List.mem_of_getElem? ht) c hc v hv), Option.getD_some, hp, Int.toNat_natCast, hs] at ho
    cases ho
    exact hco
  · -- clause (i): some rank stores a copy; its part names `q`, which then stores the global
    obtain ⟨t, ht, hg⟩ := (vw_iff w g).mp hv
    obtain ⟨y, hy', rfl⟩ := List.mem_map.mp hg
    obtain ⟨o, ho, hpo⟩ := F.owner t ht y hy'
    rw [(canon ha ht hy').1, hp, Int.toNat_natCast, hs] at ho
    cases ho
    obtain ⟨x, hx, hxg, _⟩ := partOf_some hpo
    exact List.mem_map.mpr ⟨x, hx, hxg⟩

/-- the counting clause of a synchronised world: with `n` owned vertices the stored globals are exactly `0 … n-1`
    and every rank has `n_global = n` -/
theorem ids_of_distInv (h : distInv w = true) (hs : synced w = true) :
    (∀ g : Int, Vw w g ↔ 0 ≤ g ∧ g < ((ownedGlobals w).length : Int)) ∧
    ∀ s ∈ w, s.newN = ((ownedGlobals w).length : Int) := by
  obtain ⟨hnew, hsort⟩ := (invFacts_of_distInv w h).counts hs
  refine ⟨fun g => ?_, hnew⟩
  rw [← (layout_of_distInv h).mem_owned, ← (Refine.Lemmas.Dist.sortGlob_perm _).mem_iff, hsort]
  exact mem_idsUpTo _ g

/-- the invariant says: the world is the layout of the mesh read off it, under the partition read off it -/
theorem distInv_iff_layout :
    distInv w = true ↔ Layout (partW w) (payW w) (AllC w) (Vw w) w ∧ IdsOk (Vw w) w :=
  ⟨fun h => ⟨layout_of_distInv h, fun hs => ⟨_, ids_of_distInv h hs⟩⟩, fun ⟨L, hc⟩ => L.distInv hc⟩

end Refine.Lemmas.DistLayout
