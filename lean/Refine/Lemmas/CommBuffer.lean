import Refine.Model.Comm
import Refine.Lemmas.ListFacts

/-!
  Flat buffers as the C addresses them.  `writeAt` / `slice` on `pre ++ mid ++ post`; a displacement array
  (`displsFrom`) of block lengths addresses the blocks of a concatenation: `slice_flatten` reads block `r`, and a
  receive loop is a `deposit` of (offset, block) pairs — in order behind each other it writes the concatenation
  (`deposit_consec`), into disjoint regions it may be made in any order (`deposit_perm`).  `ref_mpi_bcast`, which only
  copies a prefix, is here too (`bcast_eq`, `bcast_full`).  Core only.
-/
namespace Refine.Lemmas.Comm
open Refine.Model.Comm

variable {α : Type}

theorem mpiOk_of_ild {ty : RefType} (h : ty.ild = true) : ty.mpiOk = true := by
  cases ty <;> simp_all [RefType.ild, RefType.mpiOk]

theorem ild_of_id {ty : RefType} (h : ty.id = true) : ty.ild = true := by
  cases ty <;> simp_all [RefType.ild, RefType.id]

theorem writeAt_mid (pre mid post blk : List α) (off : Nat) (hoff : off = pre.length)
    (h : mid.length = blk.length) :
    writeAt (pre ++ mid ++ post) off blk = pre ++ blk ++ post := by
  subst hoff
  unfold writeAt
  have h1 : List.take pre.length (pre ++ mid ++ post) = pre := by
    rw [List.append_assoc, List.take_left']; rfl
  have h2 : List.drop (pre.length + blk.length) (pre ++ mid ++ post) = post := by
    rw [← h]
    have : (pre ++ mid).length = pre.length + mid.length := List.length_append
    rw [← this, List.drop_left']; rfl
  rw [h1, h2]

theorem writeAt_full (buf blk : List α) (h : buf.length = blk.length) : writeAt buf 0 blk = blk := by
  have := writeAt_mid [] buf [] blk 0 rfl h
  simpa using this

theorem writeAt_nil (buf : List α) (off : Nat) : writeAt buf off [] = buf := by
  unfold writeAt
  simp

theorem writeAt_take_self (d : List α) (n : Nat) : writeAt d 0 (d.take n) = d := by
  simp only [writeAt, List.take_zero, List.nil_append, Nat.zero_add, List.length_take]
  rcases Nat.le_total n d.length with h | h
  · rw [Nat.min_eq_left h, List.take_append_drop]
  · rw [Nat.min_eq_right h, List.take_of_length_le h, List.drop_length, List.append_nil]

theorem slice_mid (pre mid post : List α) (off cnt : Nat) (hoff : off = pre.length) (hc : cnt = mid.length) :
    slice (pre ++ mid ++ post) off cnt = mid := by
  subst hoff; subst hc
  unfold slice
  rw [List.append_assoc, List.drop_left' rfl, List.take_left' rfl]

theorem length_writeAt (buf blk : List α) (off : Nat) (h : off + blk.length ≤ buf.length) :
    (writeAt buf off blk).length = buf.length := by
  unfold writeAt
  simp only [List.length_append, List.length_take, List.length_drop]
  omega

theorem writeAt_append (pre rest blk : List α) (off : Nat) (hoff : off = pre.length)
    (h : blk.length ≤ rest.length) :
    writeAt (pre ++ rest) off blk = pre ++ blk ++ rest.drop blk.length := by
  have := writeAt_mid pre (rest.take blk.length) (rest.drop blk.length) blk off hoff
    (by rw [List.length_take]; omega)
  rwa [List.append_assoc pre, List.take_append_drop] at this

theorem getElem?_writeAt (b d : List α) (o : Nat) (h : o + d.length ≤ b.length) (i : Nat) :
    (writeAt b o d)[i]? = if i < o then b[i]? else if i < o + d.length then d[i - o]? else b[i]? := by
  unfold writeAt
  have hlen : (b.take o).length = o := by simp; omega
  by_cases h1 : i < o
  · rw [if_pos h1, List.append_assoc, List.getElem?_append_left (by omega), List.getElem?_take, if_pos h1]
  · rw [if_neg h1, List.append_assoc, List.getElem?_append_right (by omega), hlen]
    by_cases h2 : i < o + d.length
    · rw [if_pos h2, List.getElem?_append_left (by omega)]
    · rw [if_neg h2, List.getElem?_append_right (by omega), List.getElem?_drop]
      congr 1
      omega

theorem writeAt_comm (b d1 d2 : List α) (o1 o2 : Nat) (h1 : o1 + d1.length ≤ b.length)
    (h2 : o2 + d2.length ≤ b.length) (hd : o1 + d1.length ≤ o2 ∨ o2 + d2.length ≤ o1) :
    writeAt (writeAt b o1 d1) o2 d2 = writeAt (writeAt b o2 d2) o1 d1 := by
  have l1 := length_writeAt b d1 o1 h1
  have l2 := length_writeAt b d2 o2 h2
  -- entry `i` of either side is read off by where `i` lies relative to the ends of the two regions
  apply List.ext_getElem?
  intro i
  rw [getElem?_writeAt (writeAt b o1 d1) d2 o2 (by omega) i, getElem?_writeAt (writeAt b o2 d2) d1 o1 (by omega) i,
    getElem?_writeAt b d1 o1 h1, getElem?_writeAt b d2 o2 h2]
  by_cases a1 : i < o1 <;> by_cases a2 : i < o1 + d1.length <;> by_cases a3 : i < o2 <;>
    by_cases a4 : i < o2 + d2.length <;> simp only [a1, a2, a3, a4, if_true, if_false] <;> omega

theorem length_displsFrom (acc : Int) (xs : List Int) : (displsFrom acc xs).length = xs.length := by
  induction xs generalizing acc with
  | nil => rfl
  | cons x xs ih => simp [displsFrom, ih]

theorem isum_eq_sum (xs : List Int) : isum xs = xs.sum := List.sum_eq_foldl.symm

theorem sum_nonneg_int (xs : List Int) (h : ∀ x ∈ xs, 0 ≤ x) : 0 ≤ xs.sum := by
  induction xs with
  | nil => simp
  | cons x xs ih =>
    have := h x List.mem_cons_self
    have := ih (fun y hy => h y (List.mem_cons_of_mem _ hy))
    simp only [List.sum_cons]; omega

theorem sum_map_mul (n : Int) (xs : List Int) : (xs.map (n * ·)).sum = n * xs.sum := by
  induction xs with
  | nil => simp
  | cons x xs ih => simp only [List.map_cons, List.sum_cons, ih, Int.mul_add]

theorem displsFrom_getD (acc : Int) (xs : List Int) (r : Nat) (hr : r < xs.length) :
    (displsFrom acc xs).getD r 0 = acc + (xs.take r).sum := by
  induction xs generalizing acc r with
  | nil => simp at hr
  | cons x xs ih =>
    cases r with
    | zero => simp [displsFrom]
    | succ r =>
      simp only [displsFrom, List.getD_cons_succ, List.take_succ_cons, List.sum_cons]
      rw [ih (acc + x) r (by simpa using hr)]
      omega

def lensI (L : List (List α)) : List Int := L.map fun l => (l.length : Int)

theorem slice_flatten_from (L : List (List α)) (pre : List α) (acc : Int) (hacc : acc = (pre.length : Int))
    (r : Nat) :
    slice (pre ++ L.flatten) ((displsFrom acc (lensI L)).getD r 0).toNat ((lensI L).getD r 0).toNat
      = L.getD r [] := by
  induction L generalizing pre acc r with
  | nil => simp [lensI, displsFrom, slice]
  | cons l L ih =>
    cases r with
    | zero =>
      simp only [lensI, List.map_cons, displsFrom, List.getD_cons_zero, List.flatten_cons]
      rw [← List.append_assoc]
      exact slice_mid pre l L.flatten _ _ (by omega) (by omega)
    | succ r =>
      simp only [lensI, List.map_cons, displsFrom, List.getD_cons_succ, List.flatten_cons]
      rw [← List.append_assoc]
      exact ih (pre ++ l) (acc + (l.length : Int)) (by simp [hacc]) r

theorem slice_flatten (L : List (List α)) (r : Nat) :
    slice L.flatten ((displs (lensI L)).getD r 0).toNat ((lensI L).getD r 0).toNat = L.getD r [] := by
  have := slice_flatten_from L [] 0 (by simp) r
  simpa [displs] using this

def deposit (buf : List α) (ds : List (Nat × List α)) : List α :=
  ds.foldl (fun b d => writeAt b d.1 d.2) buf

def consec (o : Nat) : List (List α) → List (Nat × List α)
  | [] => []
  | l :: L => (o, l) :: consec (o + l.length) L

theorem deposit_consec (L : List (List α)) (pre rest : List α) (h : L.flatten.length ≤ rest.length) :
    deposit (pre ++ rest) (consec pre.length L) = pre ++ L.flatten ++ rest.drop L.flatten.length := by
  induction L generalizing pre rest with
  | nil => simp [deposit, consec]
  | cons l L ih =>
    simp only [List.flatten_cons, List.length_append] at h
    have := ih (pre ++ l) (rest.drop l.length) (by rw [List.length_drop]; omega)
    rw [List.length_append] at this
    simp only [deposit, consec, List.foldl_cons] at this ⊢
    rw [writeAt_append pre rest l _ rfl (by omega), this]
    simp [List.append_assoc]

theorem deposit_consec_full (L : List (List α)) (buf : List α) (h : buf.length = L.flatten.length) :
    deposit buf (consec 0 L) = L.flatten := by
  have := deposit_consec L [] buf (by omega)
  rwa [← h, List.drop_length, List.append_nil] at this

theorem consec_eq (o : Nat) (L : List (List α)) :
    consec o L = (List.range L.length).map fun k =>
      (((displsFrom (o : Int) (lensI L)).getD k 0).toNat, L.getD k []) := by
  induction L generalizing o with
  | nil => rfl
  | cons l L ih =>
    simp only [consec, ih, lensI, List.map_cons, displsFrom, List.length_cons, List.range_succ_eq_map, List.map_map,
      List.getD_cons_zero, Int.toNat_natCast, Function.comp_def, List.getD_cons_succ, Int.natCast_add]

/-- entries with an empty block store nothing -/
theorem deposit_map_filter {ι : Type} (g : ι → Nat × List α) (q : ι → Bool) (l : List ι)
    (h : ∀ i ∈ l, q i = false → (g i).2 = []) (buf : List α) :
    deposit buf ((l.filter q).map g) = deposit buf (l.map g) := by
  induction l generalizing buf with
  | nil => rfl
  | cons i l ih =>
    have ih' := fun b => ih (fun j hj => h j (List.mem_cons_of_mem _ hj)) b
    cases hq : q i
    · simp only [List.filter_cons, hq, List.map_cons, deposit, List.foldl_cons, h i List.mem_cons_self hq,
        writeAt_nil, Bool.false_eq_true, if_false]
      exact ih' _
    · simp only [List.filter_cons, hq, if_true, List.map_cons, deposit, List.foldl_cons]
      exact ih' _

theorem deposit_perm {N : Nat} {ds1 ds2 : List (Nat × List α)} (hp : ds1.Perm ds2)
    (hin : ∀ d ∈ ds1, d.1 + d.2.length ≤ N)
    (hdis : ∀ d ∈ ds1, ∀ e ∈ ds1, d = e ∨ d.1 + d.2.length ≤ e.1 ∨ e.1 + e.2.length ≤ d.1) :
    ∀ buf : List α, buf.length = N → deposit buf ds1 = deposit buf ds2 := by
  induction hp with
  | nil => intro _ _; rfl
  | cons x _ ih =>
    intro buf hb
    exact ih (fun e he => hin e (List.mem_cons_of_mem _ he))
      (fun d hd e he => hdis d (List.mem_cons_of_mem _ hd) e (List.mem_cons_of_mem _ he)) _
      (by rw [length_writeAt _ _ _ (by have := hin x List.mem_cons_self; omega), hb])
  | swap x y l =>
    intro buf hb
    have hx := hin x (by simp)
    have hy := hin y (by simp)
    simp only [deposit, List.foldl_cons]
    rcases hdis y (by simp) x (by simp) with rfl | h
    · rfl
    · rw [writeAt_comm buf y.2 x.2 y.1 x.1 (by omega) (by omega) h]
  | trans h1 _ ih1 ih2 =>
    intro buf hb
    rw [ih1 hin hdis buf hb, ih2 (fun d hd => hin d (h1.mem_iff.mpr hd))
      (fun d hd e he => hdis d (h1.mem_iff.mpr hd) e (h1.mem_iff.mpr he)) buf hb]

theorem find?_of_unique {β : Type} {l : List β} {p : β → Bool} {x : β} (hx : x ∈ l) (hpx : p x = true)
    (hu : ∀ y ∈ l, p y = true → y = x) : l.find? p = some x := by
  cases h : l.find? p with
  | none => exact absurd hpx (by simpa using List.find?_eq_none.mp h x hx)
  | some y => rw [hu y (List.mem_of_find?_eq_some h) (List.find?_some h)]

theorem mapIdx_eq_map {β γ : Type} {l : List β} {f : Nat → β → γ} {g : β → γ}
    (h : ∀ i (hi : i < l.length), f i l[i] = g l[i]) : l.mapIdx f = l.map g := by
  apply List.ext_getElem (by simp)
  intro i h1 _
  simp [h i (by simpa using h1)]

theorem forall_mem_mapIdx {β γ : Type} {l : List β} {f : Nat → β → γ} {P : γ → Prop}
    (h : ∀ i (hi : i < l.length), P (f i l[i])) : ∀ p ∈ l.mapIdx f, P p := by
  intro p hp
  obtain ⟨i, hi, rfl⟩ := List.mem_mapIdx.mp hp
  exact h i hi

theorem of_getElem?_mapIdx {β γ : Type} {l : List β} {f : Nat → β → γ} {r : Nat} {p : γ}
    (h : (l.mapIdx f)[r]? = some p) : ∃ hr : r < l.length, p = f r l[r] := by
  rw [List.getElem?_mapIdx] at h
  obtain ⟨b, hb, rfl⟩ := Option.map_eq_some_iff.mp h
  obtain ⟨hr, rfl⟩ := List.getElem?_eq_some_iff.mp hb
  exact ⟨hr, rfl⟩

theorem allSome_map_some {β : Type} (l : List β) : allSome (l.map some) = some l := by
  induction l with
  | nil => rfl
  | cons x xs ih => simp [allSome, ih]

theorem bcast_eq (ty : RefType) (hmpi : ty.mpiOk = true) (n : Nat) (root : List α) (rest : World (List α)) :
    bcast ty n (root :: rest) = (root :: rest).map fun d => (Status.ok, writeAt d 0 (root.take n)) := by
  unfold bcast
  split
  · rename_i h1
    have : rest = [] := by cases rest with | nil => rfl | cons a b => simp at h1
    subst this
    simp [writeAt_take_self]
  · simp [hmpi, mpiBcast]

theorem bcast_full (ty : RefType) (hmpi : ty.mpiOk = true) (n : Nat) (root : List α) (rest : World (List α))
    (hlen : ∀ dd ∈ root :: rest, dd.length = n) :
    bcast ty n (root :: rest) = (root :: rest).map fun _ => (Status.ok, root) := by
  rw [bcast_eq ty hmpi]
  apply List.map_congr_left
  intro x hx
  have h0 : root.length = n := hlen root List.mem_cons_self
  rw [List.take_of_length_le (by omega), writeAt_full _ _ (by rw [hlen x hx, h0])]

end Refine.Lemmas.Comm
