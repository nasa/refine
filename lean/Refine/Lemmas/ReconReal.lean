import Refine.Lemmas.GeomReal
import Refine.Model.Recon

/-!
  Real-number lemmas about the L2-projection accumulation of `Model/Recon.lean`: invariants of every stored
  accumulator through `scatter` (`AllAcc`), and the final guarded division of an accumulator on the line
  "accumulated gradient = accumulated weight × g" (`AccLin`).
-/
namespace Refine.ReconReal
open Refine Refine.Model.Geom Refine.Model.Recon Refine.ScalarReal Refine.GeomReal

theorem divisible_mul_self {V c : ℝ} (hV : V ≠ 0) (hc : |c| < (10 : ℝ) ^ (20 : ℤ)) : Scalar.divisible (c * V) V = true := by
  rw [divisible_iff', abs_mul]
  exact mul_lt_mul_of_pos_right hc (abs_pos.mpr hV)

theorem mul_div_of_divisible {V c : ℝ} (h : Scalar.divisible (c * V) V = true) : c * V / V = c :=
  mul_div_cancel_right₀ _ (divisible_ne_zero h)

def AccLin (g : V3 ℝ) (x : NodeAcc ℝ) : Prop :=
  x.gx = x.w * g.x ∧ x.gy = x.w * g.y ∧ x.gz = x.w * g.z

def AllAcc (P : NodeAcc ℝ → Prop) (acc : List (NodeAcc ℝ)) : Prop :=
  ∀ (j : Nat) (x : NodeAcc ℝ), acc[j]? = some x → P x

theorem scatter_cons (acc : List (NodeAcc ℝ)) (i : Nat) (rest : List Nat) (w : ℝ) (g : V3 ℝ) :
    scatter acc (i :: rest) w g = scatter (acc.modify i (fun x => x.add w g)) rest w g := rfl

theorem accumulate_cons (acc : List (NodeAcc ℝ)) (c : Contrib ℝ) (rest : List (Contrib ℝ)) :
    accumulate acc (c :: rest) =
      accumulate (if c.st = St.ok then scatter acc c.nodes c.w c.g else acc) rest := rfl

theorem AllAcc.modify {P : NodeAcc ℝ → Prop} {acc : List (NodeAcc ℝ)} (h : AllAcc P acc) (i : Nat)
    (f : NodeAcc ℝ → NodeAcc ℝ) (hf : ∀ x, P x → P (f x)) : AllAcc P (acc.modify i f) := by
  intro j x hj
  rw [List.getElem?_modify] at hj
  cases hl : acc[j]? with
  | none => rw [hl] at hj; simp at hj
  | some y =>
    rw [hl] at hj
    simp only [Option.map_eq_map, Option.map_some, Option.some.injEq] at hj
    have hy := h j y hl
    split at hj
    · rw [← hj]; exact hf y hy
    · rw [← hj]; exact hy

theorem AllAcc.scatter {P : NodeAcc ℝ → Prop} (ns : List Nat) (w : ℝ) (g : V3 ℝ)
    (hf : ∀ x, P x → P (x.add w g)) : ∀ acc : List (NodeAcc ℝ), AllAcc P acc → AllAcc P (scatter acc ns w g) := by
  induction ns with
  | nil => intro acc h; exact h
  | cons i rest ih =>
    intro acc h
    rw [scatter_cons]
    exact ih _ (h.modify i _ hf)

theorem length_scatter (ns : List Nat) (w : ℝ) (g : V3 ℝ) :
    ∀ acc : List (NodeAcc ℝ), (scatter acc ns w g).length = acc.length := by
  induction ns with
  | nil => intro acc; rfl
  | cons i rest ih => intro acc; rw [scatter_cons, ih, List.length_modify]

theorem length_accumulate (cs : List (Contrib ℝ)) :
    ∀ acc : List (NodeAcc ℝ), (accumulate acc cs).length = acc.length := by
  induction cs with
  | nil => intro acc; rfl
  | cons c rest ih =>
    intro acc
    rw [accumulate_cons]
    rw [ih]
    split
    · rw [length_scatter]
    · rfl

theorem finishNode_lin {g : V3 ℝ} {x : NodeAcc ℝ} (h : AccLin g x) :
    finishNode x = (false, g) ∨ finishNode x = (true, ⟨0, 0, 0⟩) := by
  obtain ⟨hx, hy, hz⟩ := h
  unfold finishNode
  split
  · rename_i hg
    left
    simp only [Bool.and_eq_true] at hg
    have hw := divisible_ne_zero hg.2
    simp only [div_eq, hx, hy, hz, Prod.mk.injEq, true_and]
    rw [mul_div_cancel_left₀ _ hw, mul_div_cancel_left₀ _ hw, mul_div_cancel_left₀ _ hw]
  · right
    simp [V3.zero]

theorem finishNode_lin_ok {g : V3 ℝ} {x : NodeAcc ℝ} (h : AccLin g x) (hw : x.w ≠ 0)
    (hx : |g.x| < (10 : ℝ) ^ (20 : ℤ)) (hy : |g.y| < (10 : ℝ) ^ (20 : ℤ)) (hz : |g.z| < (10 : ℝ) ^ (20 : ℤ)) :
    finishNode x = (false, g) := by
  obtain ⟨ex, ey, ez⟩ := h
  have dx := divisible_mul_self hw hx
  have dy := divisible_mul_self hw hy
  have dz := divisible_mul_self hw hz
  unfold finishNode
  rw [ex, ey, ez, mul_comm x.w, mul_comm x.w, mul_comm x.w, dx, dy, dz]
  simp only [Bool.and_self, if_true, div_eq, mul_div_of_divisible dx, mul_div_of_divisible dy, mul_div_of_divisible dz]

theorem length_project (n : Nat) (cs : List (Contrib ℝ)) : (project n cs).2.length = n := by
  unfold project
  simp only [List.length_map, length_accumulate, List.length_replicate]

theorem l2grad_length (twod : Bool) (xyz : List (V3 ℝ)) (s : List ℝ) (cells : List Cell) :
    (l2grad twod xyz s cells).2.length = xyz.length := by
  unfold l2grad l2gradTris l2gradTets
  split <;> exact length_project _ _

theorem eq_replicate_of_getElem? {β : Type} (l : List β) (n : Nat) (b : β) (hl : l.length = n)
    (h : ∀ i, i < n → l[i]? = some b) : l = List.replicate n b :=
  List.eq_replicate_iff.mpr ⟨hl, fun x hx => by
    obtain ⟨i, hi⟩ := List.mem_iff_getElem?.mp hx
    exact Option.some.inj (hi.symm.trans (h i (hl ▸ (List.getElem?_eq_some_iff.mp hi).1)))⟩

def TetsWF (n : Nat) (ts : List Tet) : Prop := ∀ t ∈ ts, t.n0 < n ∧ t.n1 < n ∧ t.n2 < n ∧ t.n3 < n

def LinearOnTet (xyz : List (V3 ℝ)) (s : List ℝ) (α : ℝ) (g : V3 ℝ) (t : Tet) : Prop :=
  sAt s t.n0 = α + vdot g (xyzAt xyz t.n0) ∧ sAt s t.n1 = α + vdot g (xyzAt xyz t.n1) ∧
  sAt s t.n2 = α + vdot g (xyzAt xyz t.n2) ∧ sAt s t.n3 = α + vdot g (xyzAt xyz t.n3)

def LinearOnTri (xyz : List (V3 ℝ)) (s : List ℝ) (α : ℝ) (g : V3 ℝ) (t : Tri) : Prop :=
  sAt s t.n0 = α + vdot g (xyzAt xyz t.n0) ∧ sAt s t.n1 = α + vdot g (xyzAt xyz t.n1) ∧
  sAt s t.n2 = α + vdot g (xyzAt xyz t.n2)

def TrisWF (n : Nat) (ts : List Tri) : Prop := ∀ t ∈ ts, t.n0 < n ∧ t.n1 < n ∧ t.n2 < n

theorem hessianOf_zero (G : List ℝ → St × List (V3 ℝ)) (s : List ℝ) (g : V3 ℝ) (n : Nat)
    (h1 : (G s).2 = List.replicate n g)
    (h2 : ∀ c : ℝ, (G (List.replicate n c)).2 = List.replicate n ⟨0, 0, 0⟩) :
    hessianOf G s = List.replicate n ⟨0, 0, 0, 0, 0, 0⟩ := by
  unfold hessianOf
  simp only [h1, List.map_replicate, h2, List.length_replicate]
  apply eq_replicate_of_getElem? _ _ _ (by simp)
  intro i hi
  simp only [List.getElem?_map, List.getElem?_range hi, Option.map_some, List.getD_eq_getElem?_getD,
    List.getElem?_replicate, if_pos hi, Option.getD_some, add_eq, mul_eq, add_zero, mul_zero]

end Refine.ReconReal
