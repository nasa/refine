import Refine.Lemmas.ReconReal
import Mathlib.Algebra.BigOperators.Group.List.Basic
import Mathlib.Data.List.Perm.Basic
import Mathlib.Data.List.Count
import Mathlib.Tactic.Ring
import Mathlib.Tactic.Linarith

/-!
  The accumulation of `ref_recon_l2_projection_grad` in exact arithmetic, as sums: the accumulator of node `i` after
  `Recon.accumulate` holds `Σ_c mult(c,i)·w_c·g_c` and `Σ_c mult(c,i)·w_c` (`mult` = how often `i` occurs among the
  nodes of a contributing simplex).  Hence the projected gradient at a node depends only on the MULTISET of simplices
  touching it — not on the order in which the cells are visited, not on the local numbering, not on the simplices
  elsewhere: the arithmetic core of partition independence (`Refine/Props/C19Par.lean`), and what the serial exactness
  theorems of `Refine/Props/C19.lean` compute with (`project_getElem?`, `sums_lin`, `sums_w_pos`).
-/
namespace Refine.ReconParAcc
open Refine Refine.Model.Geom Refine.Model.Recon Refine.ScalarReal Refine.GeomReal Refine.ReconReal

noncomputable def mult (c : Contrib ℝ) (i : Nat) : ℝ := if c.st = St.ok then (c.nodes.count i : ℝ) else 0

noncomputable def S (cs : List (Contrib ℝ)) (i : Nat) (φ : ℝ → V3 ℝ → ℝ) : ℝ :=
  (cs.map fun c => mult c i * φ c.w c.g).sum

def addK (x : NodeAcc ℝ) (k : ℝ) (w : ℝ) (g : V3 ℝ) : NodeAcc ℝ :=
  ⟨x.gx + k * (w * g.x), x.gy + k * (w * g.y), x.gz + k * (w * g.z), x.w + k * w⟩

theorem NodeAcc.ext' {a b : NodeAcc ℝ} (h1 : a.gx = b.gx) (h2 : a.gy = b.gy) (h3 : a.gz = b.gz) (h4 : a.w = b.w) :
    a = b := by
  cases a; cases b; simp_all

theorem scatter_getElem? (ns : List Nat) (w : ℝ) (g : V3 ℝ) (i : Nat) :
    ∀ acc : List (NodeAcc ℝ), (scatter acc ns w g)[i]? = (acc[i]?).map fun x => addK x (ns.count i : ℝ) w g := by
  induction ns with
  | nil =>
    intro acc
    simp only [scatter, List.foldl_nil, List.count_nil, Nat.cast_zero]
    cases acc[i]? with
    | none => rfl
    | some x => simp [addK]
  | cons k rest ih =>
    intro acc
    rw [scatter_cons, ih, List.getElem?_modify]
    cases hx : acc[i]? with
    | none => simp
    | some x =>
      by_cases hk : k = i
      · subst hk
        simp only [if_true, Option.map_eq_map, Option.map_some, Option.some.injEq, List.count_cons_self,
          Nat.cast_add, Nat.cast_one]
        apply NodeAcc.ext' <;> simp only [addK, NodeAcc.add, add_eq, mul_eq] <;> ring
      · have hc : List.count i (k :: rest) = List.count i rest := by
          simp [hk]
        simp only [hk, if_false, Option.map_eq_map, Option.map_some, hc]

theorem S_cons (c : Contrib ℝ) (cs : List (Contrib ℝ)) (i : Nat) (φ : ℝ → V3 ℝ → ℝ) :
    S (c :: cs) i φ = mult c i * φ c.w c.g + S cs i φ := by
  simp [S]

noncomputable def accSum (cs : List (Contrib ℝ)) (i : Nat) (x : NodeAcc ℝ) : NodeAcc ℝ :=
  ⟨x.gx + S cs i (fun w g => w * g.x), x.gy + S cs i (fun w g => w * g.y), x.gz + S cs i (fun w g => w * g.z),
   x.w + S cs i (fun w _ => w)⟩

theorem accumulate_getElem? (cs : List (Contrib ℝ)) (i : Nat) :
    ∀ acc : List (NodeAcc ℝ), (accumulate acc cs)[i]? = (acc[i]?).map (accSum cs i) := by
  induction cs with
  | nil =>
    intro acc
    cases h : acc[i]? with
    | none => simp [accumulate, h]
    | some x => simp [accumulate, h, accSum, S]
  | cons c rest ih =>
    intro acc
    rw [accumulate_cons, ih]
    by_cases hc : c.st = St.ok
    · simp only [hc, if_true, scatter_getElem?]
      cases acc[i]? with
      | none => rfl
      | some x =>
        simp only [Option.map_some, Option.some.injEq]
        apply NodeAcc.ext' <;> simp only [accSum, addK, S_cons, mult, hc, if_true] <;> ring
    · simp only [hc, if_false]
      cases acc[i]? with
      | none => rfl
      | some x =>
        simp only [Option.map_some, Option.some.injEq]
        apply NodeAcc.ext' <;> simp only [accSum, S_cons, mult, hc, if_false] <;> ring

noncomputable def sums (cs : List (Contrib ℝ)) (i : Nat) : NodeAcc ℝ :=
  ⟨S cs i (fun w g => w * g.x), S cs i (fun w g => w * g.y), S cs i (fun w g => w * g.z), S cs i (fun w _ => w)⟩

theorem accumulate_replicate (n : Nat) (cs : List (Contrib ℝ)) :
    accumulate (List.replicate n NodeAcc.zero) cs = (List.range n).map (sums cs) := by
  apply List.ext_getElem?
  intro i
  rw [accumulate_getElem?, List.getElem?_replicate, List.getElem?_map]
  by_cases hi : i < n
  · rw [if_pos hi, List.getElem?_range hi, Option.map_some, Option.map_some]
    congr 1
    apply NodeAcc.ext' <;> simp [accSum, sums, NodeAcc.zero]
  · rw [if_neg hi, List.getElem?_eq_none (by simpa using hi)]
    rfl

theorem project_getElem? (n : Nat) (cs : List (Contrib ℝ)) (i : Nat) (hi : i < n) :
    (project n cs).2[i]? = some (finishNode (sums cs i)).2 := by
  unfold project
  simp only [accumulate_replicate, List.getElem?_map, List.getElem?_range hi, Option.map_some]

theorem project_flag (n : Nat) (cs : List (Contrib ℝ)) :
    (project n cs).1 = if (List.range n).any (fun i => (finishNode (sums cs i)).1) then St.divZero else St.ok := by
  unfold project
  simp only [accumulate_replicate, List.map_map, List.any_map]
  rfl

theorem mult_nonneg (c : Contrib ℝ) (i : Nat) : 0 ≤ mult c i := by
  unfold mult
  split
  · exact Nat.cast_nonneg _
  · exact le_refl _

theorem S_lin (cs : List (Contrib ℝ)) (i : Nat) (g : V3 ℝ) (hg : ∀ c ∈ cs, c.st = St.ok → c.g = g)
    (π : V3 ℝ → ℝ) : S cs i (fun w v => w * π v) = S cs i (fun w _ => w) * π g := by
  unfold S
  rw [← List.sum_map_mul_right]
  congr 1
  refine List.map_congr_left fun c hc => ?_
  by_cases hok : c.st = St.ok
  · rw [hg c hc hok]; ring
  · simp only [mult, hok, if_false, zero_mul]

theorem sums_lin (cs : List (Contrib ℝ)) (i : Nat) (g : V3 ℝ) (hg : ∀ c ∈ cs, c.st = St.ok → c.g = g) :
    AccLin g (sums cs i) :=
  ⟨S_lin cs i g hg (·.x), S_lin cs i g hg (·.y), S_lin cs i g hg (·.z)⟩

theorem sums_w_pos (cs : List (Contrib ℝ)) (i : Nat) (hw : ∀ c ∈ cs, c.st = St.ok → 0 < c.w)
    (ht : ∃ c ∈ cs, c.st = St.ok ∧ i ∈ c.nodes) : 0 < (sums cs i).w := by
  obtain ⟨c, hc, hok, hi⟩ := ht
  have hterm : ∀ c' ∈ cs, 0 ≤ mult c' i * c'.w := by
    intro c' hc'
    by_cases hok' : c'.st = St.ok
    · exact mul_nonneg (mult_nonneg c' i) (hw c' hc' hok').le
    · simp only [mult, hok', if_false, zero_mul, le_refl]
  have hpos : 0 < mult c i * c.w := by
    refine mul_pos ?_ (hw c hc hok)
    simp only [mult, hok, if_true]
    exact_mod_cast List.count_pos_iff.mpr hi
  refine lt_of_lt_of_le hpos ?_
  exact List.single_le_sum (by
    intro y hy
    obtain ⟨c', hc', rfl⟩ := List.mem_map.mp hy
    exact hterm c' hc') _ (List.mem_map.mpr ⟨c, hc, rfl⟩)

def touches (i : Nat) (c : Contrib ℝ) : Bool := c.nodes.contains i

theorem mult_of_not_touches {c : Contrib ℝ} {i : Nat} (h : touches i c = false) : mult c i = 0 := by
  unfold mult
  split
  · have : i ∉ c.nodes := by
      intro hm
      simp [touches, hm] at h
    rw [List.count_eq_zero_of_not_mem this]; simp
  · rfl

theorem S_filter (cs : List (Contrib ℝ)) (i : Nat) (φ : ℝ → V3 ℝ → ℝ) :
    S (cs.filter (touches i)) i φ = S cs i φ := by
  induction cs with
  | nil => rfl
  | cons c rest ih =>
    rw [List.filter_cons]
    cases h : touches i c with
    | true => simp only [if_true, S_cons, ih]
    | false =>
      simp only [Bool.false_eq_true, if_false, S_cons, ih, mult_of_not_touches h, zero_mul, zero_add]

theorem S_perm {cs cs' : List (Contrib ℝ)} (h : cs.Perm cs') (i : Nat) (φ : ℝ → V3 ℝ → ℝ) : S cs i φ = S cs' i φ := by
  unfold S
  exact (h.map _).sum_eq

theorem sums_congr {cs cs' : List (Contrib ℝ)} (i : Nat)
    (h : (cs.filter (touches i)).Perm (cs'.filter (touches i))) : sums cs i = sums cs' i := by
  have k : ∀ φ, S cs i φ = S cs' i φ := fun φ => by
    rw [← S_filter cs, ← S_filter cs', S_perm h]
  simp only [sums, k]

def rename (f : Nat → Nat) (c : Contrib ℝ) : Contrib ℝ := ⟨c.nodes.map f, c.st, c.w, c.g⟩

theorem mult_rename (f : Nat → Nat) (n : Nat) (hf : ∀ a b, a < n → b < n → f a = f b → a = b) (i : Nat) (hi : i < n)
    (c : Contrib ℝ) (hc : ∀ k ∈ c.nodes, k < n) : mult (rename f c) (f i) = mult c i := by
  have e : (c.nodes.map f).count (f i) = c.nodes.count i := by
    rw [List.count, List.countP_map]
    exact List.countP_congr fun k hk => by
      simp only [Function.comp, beq_iff_eq]
      exact ⟨hf k i (hc k hk) hi, congrArg f⟩
  simp only [mult, rename, e]

theorem S_rename (f : Nat → Nat) (n : Nat) (hf : ∀ a b, a < n → b < n → f a = f b → a = b) (i : Nat) (hi : i < n)
    (φ : ℝ → V3 ℝ → ℝ) (cs : List (Contrib ℝ)) (h : ∀ c ∈ cs, ∀ k ∈ c.nodes, k < n) :
    S (cs.map (rename f)) (f i) φ = S cs i φ := by
  unfold S
  rw [List.map_map]
  exact congrArg List.sum
    (List.map_congr_left fun c hc => congrArg (· * _) (mult_rename f n hf i hi c (h c hc)))

theorem sums_rename (f : Nat → Nat) (n : Nat) (hf : ∀ a b, a < n → b < n → f a = f b → a = b) (i : Nat) (hi : i < n)
    (cs : List (Contrib ℝ)) (h : ∀ c ∈ cs, ∀ k ∈ c.nodes, k < n) : sums (cs.map (rename f)) (f i) = sums cs i := by
  simp only [sums, S_rename f n hf i hi _ cs h]

theorem project_local_eq_global (nl nG : Nat) (f : Nat → Nat) (hf : ∀ a b, a < nl → b < nl → f a = f b → a = b)
    (csL csG : List (Contrib ℝ)) (hL : ∀ c ∈ csL, ∀ k ∈ c.nodes, k < nl) (i : Nat) (hi : i < nl) (hg : f i < nG)
    (hperm : ((csL.map (rename f)).filter (touches (f i))).Perm (csG.filter (touches (f i)))) :
    (project nl csL).2[i]? = (project nG csG).2[f i]? := by
  rw [project_getElem? nl csL i hi, project_getElem? nG csG (f i) hg, ← sums_rename f nl hf i hi csL hL,
    sums_congr (f i) hperm]

end Refine.ReconParAcc
