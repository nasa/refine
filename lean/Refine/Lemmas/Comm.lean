import Refine.Lemmas.CommBlind

/-!
  `ref_mpi_balance` and `ref_mpi_allconcat`.  The shares (`shareNat`, closed form of their prefix sums), `find_destination`
  (returns the rank whose share interval holds the global item number); balance = blind send (`CommBlind`) with those
  destinations, which are monotone in the global number, so every rank receives a contiguous run (`balance_eq`: the
  call; `balance_spec`: with what the runs `balanced` satisfy).
-/
namespace Refine.Lemmas.Comm
open Refine.Model.Comm

variable {α : Type}

def shareNat (total first last r : Nat) : Nat :=
  if first ≤ r ∧ r ≤ last then
    total / (last - first + 1) + (if r - first < total % (last - first + 1) then 1 else 0)
  else 0

theorem shareOf_eq (total first last r : Nat) (hfl : first ≤ last) :
    shareOf (total : Int) (first : Int) (last : Int) (r : Int) = (shareNat total first last r : Int) := by
  unfold shareOf shareNat
  have hact : (last : Int) - (first : Int) + 1 = ((last - first + 1 : Nat) : Int) := by omega
  rw [hact]
  by_cases hin : first ≤ r ∧ r ≤ last
  · have hin' : (first : Int) ≤ (r : Int) ∧ (r : Int) ≤ (last : Int) := by omega
    simp only [hin, hin', and_self, if_true]
    rw [Int.tdiv_eq_ediv_of_nonneg (by omega)]
    have hdiv : (total : Int) / ((last - first + 1 : Nat) : Int) = ((total / (last - first + 1) : Nat) : Int) := by
      norm_cast
    -- the C forms the remainder as `total - (total / active) * active`
    have hmod : (total : Int) - (total : Int) / ((last - first + 1 : Nat) : Int) * ((last - first + 1 : Nat) : Int)
        = ((total % (last - first + 1) : Nat) : Int) := by
      have := Int.ediv_mul_add_emod (total : Int) ((last - first + 1 : Nat) : Int)
      have h2 : (total : Int) % ((last - first + 1 : Nat) : Int) = ((total % (last - first + 1) : Nat) : Int) := by
        norm_cast
      omega
    rw [hmod, hdiv]
    have hmax : max (0 : Int) ((r : Int) - (first : Int)) = ((r - first : Nat) : Int) := by omega
    rw [hmax]
    by_cases hlt : r - first < total % (last - first + 1)
    · have : ((r - first : Nat) : Int) < ((total % (last - first + 1) : Nat) : Int) := by omega
      simp only [hlt, this, if_true]
      push_cast; rfl
    · have : ¬ ((r - first : Nat) : Int) < ((total % (last - first + 1) : Nat) : Int) := by omega
      simp only [hlt, this, if_false]
      push_cast; rfl
  · have hin' : ¬ ((first : Int) ≤ (r : Int) ∧ (r : Int) ≤ (last : Int)) := by omega
    simp only [hin, hin', if_false]
    have : ¬ (max (0 : Int) ((r : Int) - (first : Int)) < 0) := by omega
    simp [this]

theorem prefSum_shareNat (total first last k : Nat) :
    prefSum (shareNat total first last) k
      = (min k (last + 1) - first) * (total / (last - first + 1))
        + min (min k (last + 1) - first) (total % (last - first + 1)) := by
  induction k with
  | zero => simp [prefSum]
  | succ k ih =>
    rw [prefSum_succ, ih]
    unfold shareNat
    by_cases hin : first ≤ k ∧ k ≤ last
    · -- an active rank: the number of active ranks below grows by one
      rw [Nat.min_eq_left (show k ≤ last + 1 by omega), Nat.min_eq_left (show k + 1 ≤ last + 1 by omega),
        show k + 1 - first = (k - first) + 1 by omega, if_pos hin, Nat.succ_mul]
      generalize k - first = j
      generalize total / (last - first + 1) = q
      generalize total % (last - first + 1) = m
      split <;> omega
    · have e2 : min (k + 1) (last + 1) - first = min k (last + 1) - first := by omega
      rw [e2, if_neg hin, Nat.add_zero]

theorem prefSum_shareNat_total (total first last np : Nat) (hfl : first ≤ last) (hl : last < np) :
    prefSum (shareNat total first last) np = total := by
  rw [prefSum_shareNat total first last np]
  have e1 : min np (last + 1) - first = last - first + 1 := by omega
  rw [e1]
  have hlt : total % (last - first + 1) < last - first + 1 := Nat.mod_lt _ (by omega)
  rw [Nat.min_eq_right (by omega)]
  exact Nat.div_add_mod total (last - first + 1)

theorem shareNat_inactive (total first last r : Nat) (h : r < first ∨ last < r) : shareNat total first last r = 0 := by
  unfold shareNat
  have : ¬ (first ≤ r ∧ r ≤ last) := by omega
  simp [this]

theorem shareNat_active_diff (total first last r q : Nat) (hr : first ≤ r ∧ r ≤ last) (hq : first ≤ q ∧ q ≤ last) :
    shareNat total first last r ≤ shareNat total first last q + 1 := by
  unfold shareNat
  simp only [hr, hq, and_self, if_true]
  split <;> split <;> omega

theorem findDest_bounds (n : Int) (shares : List Int) (part gid : Int) (h0 : ∀ s ∈ shares, 0 ≤ s)
    (hg0 : 0 ≤ gid) (hg : gid < shares.sum) :
    part ≤ findDest n part shares gid ∧ findDest n part shares gid < part + shares.length := by
  fun_induction findDest n part shares gid
  case case1 => simp at hg; omega
  case case2 => simp only [List.length_cons]; omega
  case case3 part s ss gid hlt ih =>
    simp only [List.sum_cons] at hg
    have := ih (fun x hx => h0 x (List.mem_cons_of_mem _ hx)) (by omega) (by omega)
    simp only [List.length_cons]
    push_cast
    omega

theorem findDest_iff (n : Int) (shares : List Int) (part gid : Int) (r : Nat) (h0 : ∀ s ∈ shares, 0 ≤ s)
    (hg0 : 0 ≤ gid) (hg : gid < shares.sum) (hr : r < shares.length) :
    findDest n part shares gid = part + r
      ↔ (shares.take r).sum ≤ gid ∧ gid < (shares.take (r + 1)).sum := by
  fun_induction findDest n part shares gid generalizing r
  case case1 => simp at hr
  case case2 part s ss gid hlt =>
    cases r with
    | zero => simp [hlt, hg0]
    | succ r =>
      have hnn : 0 ≤ (ss.take r).sum :=
        sum_nonneg_int _ fun x hx => h0 x (List.mem_cons_of_mem _ (List.mem_of_mem_take hx))
      simp only [List.take_succ_cons, List.sum_cons]
      constructor
      · intro h; push_cast at h; omega
      · intro h; omega
  case case3 part s ss gid hlt ih =>
    have hss0 : ∀ x ∈ ss, 0 ≤ x := fun x hx => h0 x (List.mem_cons_of_mem _ hx)
    simp only [List.sum_cons] at hg
    have hb := findDest_bounds n ss (part + 1) (gid - s) hss0 (by omega) (by omega)
    cases r with
    | zero =>
      simp only [List.take_zero, List.sum_nil, List.take_succ_cons, List.sum_cons, Int.add_zero]
      constructor
      · intro h; push_cast at h; omega
      · intro h; omega
    | succ r =>
      have := ih r hss0 (by omega) (by omega) (by simpa using hr)
      simp only [List.take_succ_cons, List.sum_cons]
      rw [show part + ((r + 1 : Nat) : Int) = part + 1 + (r : Int) by omega, this]
      omega

/-- the shares as the `REF_INT` array the C gathers -/
def sharesI (cs : Nat → Nat) (np : Nat) : List Int := (List.range np).map fun r => (cs r : Int)

theorem sharesI_take_sum (cs : Nat → Nat) (np r : Nat) (hr : r ≤ np) :
    ((sharesI cs np).take r).sum = (prefSum cs r : Int) := by
  unfold sharesI
  rw [← List.map_take, List.take_range, Nat.min_eq_left hr, sum_range_cast]

theorem sharesI_nonneg (cs : Nat → Nat) (np : Nat) : ∀ s ∈ sharesI cs np, 0 ≤ s := by
  intro s hs
  simp only [sharesI, List.mem_map] at hs
  obtain ⟨_, _, rfl⟩ := hs
  omega

theorem sharesI_sum (cs : Nat → Nat) (np : Nat) : (sharesI cs np).sum = (prefSum cs np : Int) := by
  have := sharesI_take_sum cs np np (Nat.le_refl _)
  rwa [List.take_of_length_le (by simp [sharesI])] at this

theorem findDestination_sharesI (cs : Nat → Nat) (np : Nat) (gid : Int) :
    findDestination np (sharesI cs np) gid = findDest (np : Int) 0 (sharesI cs np) gid := by
  unfold findDestination
  rw [List.take_of_length_le (by simp [sharesI])]

theorem findDestination_iff (cs : Nat → Nat) (np : Nat) (k r : Nat) (hk : k < prefSum cs np) (hr : r < np) :
    findDestination np (sharesI cs np) (k : Int) = (r : Int)
      ↔ prefSum cs r ≤ k ∧ k < prefSum cs (r + 1) := by
  have := findDest_iff (np : Int) (sharesI cs np) 0 (k : Int) r (sharesI_nonneg cs np) (by omega)
    (by rw [sharesI_sum]; omega) (by simpa [sharesI] using hr)
  rw [Int.zero_add] at this
  rw [findDestination_sharesI, this, sharesI_take_sum cs np r (by omega), sharesI_take_sum cs np (r + 1) (by omega)]
  omega

theorem findDestination_range (cs : Nat → Nat) (np : Nat) (k : Nat) (hk : k < prefSum cs np) :
    0 ≤ findDestination np (sharesI cs np) (k : Int) ∧ findDestination np (sharesI cs np) (k : Int) < np := by
  have := findDest_bounds (np : Int) (sharesI cs np) 0 (k : Int) (sharesI_nonneg cs np) (by omega)
    (by rw [sharesI_sum]; omega)
  rw [findDestination_sharesI]
  simp only [sharesI, List.length_map, List.length_range] at this ⊢
  omega

theorem filter_interval {β : Type} (G : List β) (j0 a b : Nat) :
    ((G.zipIdx j0).filter (fun x => decide (a ≤ x.2 ∧ x.2 < b))).map (·.1)
      = (G.drop (a - j0)).take (b - max a j0) := by
  induction G generalizing j0 with
  | nil => simp
  | cons x xs ih =>
    rw [List.zipIdx_cons, List.filter_cons]
    by_cases hin : a ≤ j0 ∧ j0 < b
    · simp only [hin, and_self, decide_true, if_true, List.map_cons]
      rw [ih (j0 + 1), Nat.sub_eq_zero_of_le hin.1, Nat.sub_eq_zero_of_le (Nat.le_succ_of_le hin.1),
        Nat.max_eq_right hin.1, Nat.max_eq_right (Nat.le_succ_of_le hin.1),
        show b - j0 = (b - (j0 + 1)) + 1 by omega]
      simp
    · simp only [hin, decide_false, Bool.false_eq_true, if_false]
      rw [ih (j0 + 1)]
      by_cases hlt : j0 < a
      · have e1 : a - j0 = (a - (j0 + 1)) + 1 := by omega
        have e2 : max a (j0 + 1) = max a j0 := by omega
        rw [e1, e2, List.drop_succ_cons]
      · have e1 : b - max a j0 = 0 := by omega
        have e2 : b - max a (j0 + 1) = 0 := by omega
        rw [e1, e2]; simp

/-- numbering the items rank by rank, each rank starting at the number of items before it, is numbering the
    concatenation -/
theorem flatten_mapIdx_zipIdx {β γ : Type} (g : β × Nat → γ) (L : List (List β)) (j0 : Nat) :
    (L.mapIdx (fun r l => (l.zipIdx (j0 + ((L.take r).flatten).length)).map g)).flatten
      = ((L.flatten).zipIdx j0).map g := by
  induction L generalizing j0 with
  | nil => simp
  | cons l L ih =>
    rw [List.mapIdx_cons]
    have hcongr : (List.mapIdx (fun i l' => (l'.zipIdx (j0 + (((l :: L).take (i + 1)).flatten).length)).map g) L)
        = (List.mapIdx (fun i l' => (l'.zipIdx ((j0 + l.length) + ((L.take i).flatten).length)).map g) L) := by
      apply List.ext_getElem
      · simp
      · intro i h1 h2
        simp only [List.getElem_mapIdx, List.take_succ_cons, List.flatten_cons, List.length_append]
        rw [Nat.add_assoc]
    rw [hcongr, List.flatten_cons, ih (j0 + l.length)]
    simp [List.zipIdx_append]

/-- the arguments of `ref_mpi_balance`, and of `ref_mpi_allconcat`, in a world in which rank `r` holds the items `ws[r]` -/
def balanceIn (ws : World (List (List α))) : World (Nat × List α) :=
  ws.map fun its => (its.length, its.flatten)

/-- what rank `r` holds afterwards: the `r`-th run of the concatenation, runs as long as the shares -/
def balanced (first last : Nat) (ws : World (List (List α))) (r : Nat) : List (List α) :=
  slice ws.flatten (prefSum (shareNat ws.flatten.length first last) r) (shareNat ws.flatten.length first last r)

/-- destination (as a natural number) of the item with global number `k` -/
def fdN (first last : Nat) (ws : World (List (List α))) (k : Nat) : Nat :=
  (findDestination ws.length (sharesI (shareNat ws.flatten.length first last) ws.length) (k : Int)).toNat

theorem fdN_spec (first last : Nat) (ws : World (List (List α))) (hfl : first ≤ last) (hl : last < ws.length) (k : Nat)
    (hk : k < ws.flatten.length) :
    findDestination ws.length (sharesI (shareNat ws.flatten.length first last) ws.length) (k : Int)
      = (fdN first last ws k : Int) ∧ fdN first last ws k < ws.length := by
  have := findDestination_range (shareNat ws.flatten.length first last) ws.length k
    (by rw [prefSum_shareNat_total _ first last ws.length hfl hl]; exact hk)
  simp only [fdN]
  omega

/-- every item with its destination; an item is numbered by its place in the concatenation (`0 + …`: the shape
    `flatten_mapIdx_zipIdx` has at `j0 := 0`) -/
def balancePairs (first last : Nat) (ws : World (List (List α))) : World (List (Nat × List α)) :=
  ws.mapIdx fun r its =>
    (its.zipIdx (0 + ((ws.take r).flatten).length)).map fun x => (fdN first last ws x.2, x.1)

theorem take_flatten_le {β : Type} (L : List (List β)) (r : Nat) (hr : r < L.length) :
    ((L.take r).flatten).length + L[r].length ≤ L.flatten.length := by
  have h1 : L.take (r + 1) = L.take r ++ [L[r]] := List.take_succ_eq_append_getElem hr
  have h2 : L = L.take (r + 1) ++ L.drop (r + 1) := (List.take_append_drop _ _).symm
  have h3 : L.flatten.length = ((L.take (r + 1)).flatten).length + ((L.drop (r + 1)).flatten).length := by
    conv => lhs; rw [h2]
    rw [List.flatten_append, List.length_append]
  rw [h3, h1, List.flatten_append, List.length_append]
  simp only [List.flatten_cons, List.flatten_nil, List.append_nil]
  omega

theorem balanced_length (first last : Nat) (ws : World (List (List α))) (hfl : first ≤ last) (hl : last < ws.length)
    (r : Nat) (hr : r < ws.length) :
    (balanced first last ws r).length = shareNat ws.flatten.length first last r := by
  unfold balanced slice
  rw [List.length_take, List.length_drop]
  have h1 := prefSum_mono (shareNat ws.flatten.length first last) (r + 1) ws.length (by omega)
  rw [prefSum_succ, prefSum_shareNat_total _ first last ws.length hfl hl] at h1
  omega

theorem balancePairs_delivered (first last : Nat) (ws : World (List (List α))) (hfl : first ≤ last)
    (hl : last < ws.length) (r : Nat) (hr : r < ws.length) :
    delivered r (balancePairs first last ws) = balanced first last ws r := by
  unfold delivered balancePairs
  rw [bucket_flatMap, flatten_mapIdx_zipIdx (fun x => (fdN first last ws x.2, x.1)) ws 0]
  unfold bucket
  rw [List.filter_map, List.map_map]
  -- `find_destination` sends number `k` to `r` exactly when `k` lies in the `r`-th share interval …
  have hpred : (ws.flatten.zipIdx 0).filter ((fun x => x.1 == r) ∘ fun x => (fdN first last ws x.2, x.1))
      = (ws.flatten.zipIdx 0).filter (fun x => decide
          (prefSum (shareNat ws.flatten.length first last) r ≤ x.2
            ∧ x.2 < prefSum (shareNat ws.flatten.length first last) (r + 1))) := by
    refine List.filter_congr fun x hx => ?_
    have hk : x.2 < ws.flatten.length := by have := (List.mem_zipIdx hx).2.1; omega
    have hiff := findDestination_iff (shareNat ws.flatten.length first last) ws.length x.2 r
      (by rw [prefSum_shareNat_total _ first last ws.length hfl hl]; exact hk) hr
    rw [(fdN_spec first last ws hfl hl x.2 hk).1, Int.natCast_inj] at hiff
    exact Bool.eq_iff_iff.mpr (by simpa using hiff)
  rw [hpred]
  -- … and the items numbered in an interval are a run of the concatenation
  have := filter_interval ws.flatten 0 (prefSum (shareNat ws.flatten.length first last) r)
    (prefSum (shareNat ws.flatten.length first last) (r + 1))
  simp only [Function.comp_def]
  rw [this, prefSum_succ]
  unfold balanced slice
  congr 1 <;> omega

theorem balanceIn_counts (ws : World (List (List α))) :
    ((balanceIn ws).map fun x => (x.1 : Int)) = countsI ws := by
  simp [balanceIn, countsI, List.map_map, Function.comp_def]

theorem balance_shares (first last : Nat) (ws : World (List (List α))) (hfl : first ≤ last) :
    ((balanceIn ws).mapIdx fun r _ =>
        shareOf (isum ((balanceIn ws).map fun x => (x.1 : Int))) (first : Int) (last : Int) (r : Int))
      = sharesI (shareNat ws.flatten.length first last) ws.length := by
  rw [balanceIn_counts, isum_countsI]
  apply List.ext_getElem
  · simp [sharesI, balanceIn]
  · intro r h1 h2
    simp only [List.getElem_mapIdx, sharesI, List.getElem_map, List.getElem_range]
    exact shareOf_eq ws.flatten.length first last r hfl

/-- the left side is the `blind` world in the body of `balance`, as `unfold balance` leaves it -/
theorem balance_blind_world (first last : Nat) (ws : World (List (List α))) (hfl : first ≤ last)
    (hl : last < ws.length) :
    (balanceIn ws).mapIdx (fun r x =>
        (⟨destinations (balanceIn ws).length
            ((balanceIn ws).mapIdx fun r _ =>
              shareOf (isum ((balanceIn ws).map fun x => (x.1 : Int))) (first : Int) (last : Int) (r : Int))
            (isum (((balanceIn ws).map fun x => (x.1 : Int)).take r)) x.1, x.2⟩ : Blind α))
      = (balancePairs first last ws).map blindOf := by
  have hlen : (balanceIn ws).length = ws.length := by simp [balanceIn]
  rw [balance_shares first last ws hfl, balanceIn_counts, hlen]
  apply List.ext_getElem
  · simp [balanceIn, balancePairs]
  · intro r h1 h2
    have hr : r < ws.length := by simpa [balanceIn] using h1
    simp only [List.getElem_mapIdx, List.getElem_map, balanceIn, balancePairs, blindOf, List.map_map,
      Function.comp_def]
    have hoff : isum ((countsI ws).take r) = (((ws.take r).flatten).length : Int) := by
      rw [show (countsI ws).take r = countsI (ws.take r) by simp [countsI, List.map_take], isum_countsI]
    have hle := take_flatten_le ws r hr
    congr 1
    · -- destinations
      unfold destinations
      apply List.ext_getElem
      · simp
      · intro i hi1 hi2
        have hi : i < ws[r].length := by simpa using hi1
        simp only [List.getElem_map, List.getElem_range, List.getElem_zipIdx, hoff]
        rw [Nat.zero_add, ← Int.natCast_add, (fdN_spec first last ws hfl hl _ (by omega)).1]
    · -- the flat item buffer
      have : (ws[r].zipIdx (0 + ((ws.take r).flatten).length)).map (fun x => x.1) = ws[r] :=
        List.zipIdx_map_fst _ _
      rw [this]

theorem mem_balancePairs (first last : Nat) (ws : World (List (List α))) (pairs : List (Nat × List α))
    (hp : pairs ∈ balancePairs first last ws) :
    ∀ x ∈ pairs, (∃ k, k < ws.flatten.length ∧ x.1 = fdN first last ws k) ∧ ∃ its ∈ ws, x.2 ∈ its := by
  obtain ⟨r, hr, rfl⟩ := List.mem_iff_getElem.mp hp
  have hr' : r < ws.length := by simpa [balancePairs] using hr
  have hle := take_flatten_le ws r hr'
  simp only [balancePairs, List.getElem_mapIdx, List.mem_map]
  rintro _ ⟨⟨it, k⟩, hk, rfl⟩
  obtain ⟨_, hk2, hit⟩ := List.mem_zipIdx hk
  exact ⟨⟨k, by omega, rfl⟩, ws[r], List.getElem_mem hr', by rw [hit]; exact List.getElem_mem _⟩

theorem balance_eq [Inhabited α] (native : Bool) (ty : RefType) (hty : ty.ild = true) (maxTag : Int)
    (ldim : Nat) (first last : Nat) (ws : World (List (List α)))
    (hfl : first ≤ last) (hl : last < ws.length)
    (hi : ∀ its ∈ ws, ∀ it ∈ its, it.length = ldim)
    (hnat : native = true → (ws.length : Int) * ws.length ≤ maxTag)
    (hrange : native = false → (ldim : Int) * ws.flatten.length ≤ INT_MAX) :
    balance native ty maxTag ldim (first : Int) (last : Int) (balanceIn ws)
      = some ((List.range ws.length).map fun r =>
          (Status.ok, ((balanced first last ws r).length : Int), (balanced first last ws r).flatten)) := by
  unfold balance
  simp only []
  rw [balance_blind_world first last ws hfl hl]
  have hplen : (balancePairs first last ws).length = ws.length := by simp [balancePairs]
  have htot : native = false → (ldim : Int) * (balancePairs first last ws).flatten.length ≤ INT_MAX := by
    unfold balancePairs
    rwa [flatten_mapIdx_zipIdx (fun x => (fdN first last ws x.2, x.1)) ws 0, List.length_map, List.length_zipIdx]
  have hspec := blindsend_spec native ty hty maxTag ldim (balancePairs first last ws)
    (fun pairs hp x hx => by
      obtain ⟨⟨k, hk, hx1⟩, _⟩ := mem_balancePairs first last ws pairs hp x hx
      rw [hx1, hplen]
      exact (fdN_spec first last ws hfl hl k hk).2)
    (fun pairs hp x hx => by
      obtain ⟨_, its, hits, hx2⟩ := mem_balancePairs first last ws pairs hp x hx
      exact hi its hits _ hx2)
    (by rw [hplen]; exact hnat)
    (sendBound_of_total htot) (recvBound_of_total htot)
  have hblen : (balanceIn ws).length = ws.length := by simp [balanceIn]
  rw [hblen] at *
  rw [hspec, hplen]
  rw [balance_shares first last ws hfl]
  simp only [Option.map_some, sharesI]
  rw [List.zip_map']
  simp only [List.map_map, Function.comp_def]
  congr 1
  apply List.map_congr_left
  intro r hr
  have hr' := List.mem_range.mp hr
  rw [balancePairs_delivered first last ws hfl hl r hr', balanced_length first last ws hfl hl r hr']
  simp

/-- `ref_mpi_balance`: `balance_eq` and what the runs `balanced` satisfy -/
theorem balance_spec [Inhabited α] (native : Bool) (ty : RefType) (hty : ty.ild = true) (maxTag : Int)
    (ldim : Nat) (first last : Nat) (ws : World (List (List α)))
    (hfl : first ≤ last) (hl : last < ws.length)
    (hi : ∀ its ∈ ws, ∀ it ∈ its, it.length = ldim)
    (hnat : native = true → (ws.length : Int) * ws.length ≤ maxTag)
    (hrange : native = false → (ldim : Int) * ws.flatten.length ≤ INT_MAX) :
    balance native ty maxTag ldim (first : Int) (last : Int) (balanceIn ws)
        = some ((List.range ws.length).map fun r =>
            (Status.ok, ((balanced first last ws r).length : Int), (balanced first last ws r).flatten))
      ∧ ((List.range ws.length).map (balanced first last ws)).flatten = ws.flatten
      ∧ (∀ r, r < ws.length → (r < first ∨ last < r) → balanced first last ws r = [])
      ∧ (∀ r q, first ≤ r → r ≤ last → first ≤ q → q ≤ last →
          (balanced first last ws r).length ≤ (balanced first last ws q).length + 1)
      ∧ ((List.range ws.length).map fun r => (balanced first last ws r).length).sum = ws.flatten.length := by
  have hflat : ((List.range ws.length).map (balanced first last ws)).flatten = ws.flatten := by
    rw [← List.flatMap_def]
    unfold balanced
    rw [chunks_flatMap (shareNat ws.flatten.length first last) ws.flatten ws.length,
      prefSum_shareNat_total _ first last ws.length hfl hl, List.take_length]
  refine ⟨balance_eq native ty hty maxTag ldim first last ws hfl hl hi hnat hrange, hflat, ?_, ?_, ?_⟩
  · intro r _ hout
    unfold balanced slice
    rw [shareNat_inactive _ first last r hout, List.take_zero]
  · intro r q h1 h2 h3 h4
    rw [balanced_length first last ws hfl hl r (by omega), balanced_length first last ws hfl hl q (by omega)]
    exact shareNat_active_diff _ first last r q ⟨h1, h2⟩ ⟨h3, h4⟩
  · have := congrArg List.length hflat
    rw [List.length_flatten, List.map_map] at this
    exact this

theorem sourceOf_eq {β : Type} (p : Int) (ws : List (List β)) :
    sourceOf p (countsI ws) = (ws.mapIdx fun r its => List.replicate its.length (p + (r : Int))).flatten := by
  induction ws generalizing p with
  | nil => simp [countsI, sourceOf]
  | cons its ws ih =>
    simp only [countsI, List.map_cons, sourceOf, Int.toNat_natCast, List.mapIdx_cons, List.flatten_cons,
      Int.natCast_zero, Int.add_zero]
    have := ih (p + 1)
    simp only [countsI] at this
    rw [this]
    congr 2
    apply List.ext_getElem
    · simp
    · intro i _ _
      simp only [List.getElem_mapIdx]
      congr 1
      push_cast; omega

theorem allconcat_eq [Inhabited α] (ty : RefType) (hty : ty.id = true) (ldim : Nat) (ws : World (List (List α)))
    (hi : ∀ its ∈ ws, ∀ it ∈ its, it.length = ldim) :
    allconcat ty ldim (balanceIn ws)
      = some (ws.map fun _ =>
          (Status.ok, (ws.flatten.length : Int),
            (ws.mapIdx fun r its => List.replicate its.length (r : Int)).flatten, ws.flatten.flatten)) := by
  have hild := ild_of_id hty
  unfold allconcat
  simp only [balanceIn_counts, isum_countsI, hty, Bool.not_true, Bool.false_eq_true, if_false, Int.toNat_natCast]
  have hargs : (balanceIn ws).map (fun x =>
        (⟨x.2, (countsI ws).map (fun c => c * (ldim : Int)),
          List.replicate (ldim * ws.flatten.length) default⟩ : GatherV α))
      = gathervWorld (ws.map List.flatten) (fun _ => List.replicate (ldim * ws.flatten.length) default) := by
    have hl : (countsI ws).map (fun c => c * (ldim : Int)) = lensI (ws.map List.flatten) := by
      simp only [countsI, lensI, List.map_map, Function.comp_def]
      apply List.map_congr_left
      intro its hits
      rw [ListFacts.length_flatten_uniform (hi its hits)]
      push_cast; rw [Int.mul_comm]
    rw [hl]
    apply List.ext_getElem
    · simp [balanceIn, gathervWorld]
    · intro r _ _
      simp [balanceIn, gathervWorld]
  rw [hargs]
  have hflat : (ws.map List.flatten).flatten = ws.flatten.flatten := List.flatten_flatten.symm
  have hGitems : ∀ it ∈ ws.flatten, it.length = ldim := by
    intro it hit
    obtain ⟨its, hits, hmem⟩ := List.mem_flatten.mp hit
    exact hi its hits it hmem
  rw [allgatherv_eq ty hild _ _ (by
    intro r _
    rw [hflat, ListFacts.length_flatten_uniform hGitems]
    simp)]
  rw [hflat]
  have hsrc := sourceOf_eq 0 ws
  simp only [Int.zero_add] at hsrc
  simp [hsrc, List.map_map, Function.comp_def]

end Refine.Lemmas.Comm
