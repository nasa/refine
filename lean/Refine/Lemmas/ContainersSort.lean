import Refine.Lemmas.ContainersSearch
import Refine.Lemmas.ListFacts
import Mathlib.Data.List.Perm.Basic
import Mathlib.Data.List.Destutter

/-!
  `ref_sort.c` on `REF_INT`: `ref_sort_insertion_int` (a selection sort: `minLoop`, `selLoop`) and `ref_sort_unique_int` /
  `ref_sort_same` (`uniqueLoop`); `ref_sort_search_int` is in `ContainersSearch`.  Both loops are described on the list itself, for
  every input: the selection sort never looks in front of its window, so it is the recursion `minimum :: sort of the rest`; the unique
  loop computes `List.destutter (· ≠ ·)`, which on a sorted array is `List.dedup`.
-/
namespace Refine.Model.Sort
open List

theorem length_swapAt {α} (d : α) (s : List α) (i j : Nat) : (swapAt d s i j).length = s.length := by
  simp [swapAt]

theorem swapAt_perm {α} (d : α) (s : List α) (i j : Nat) (hi : i < s.length) (hj : j < s.length) :
    (swapAt d s i j).Perm s := by
  have := List.set_set_perm (as := s) hi hj
  simpa [swapAt, List.getD_eq_getElem?_getD, hi, hj] using this

theorem getD_swapAt {α} (d : α) (s : List α) (i j k : Nat) (hi : i < s.length) (hj : j < s.length) :
    (swapAt d s i j).getD k d = if k = j then s.getD i d else if k = i then s.getD j d else s.getD k d := by
  rw [swapAt, ListFacts.getD_set, ListFacts.getD_set, List.length_set]
  by_cases hkj : k = j
  · rw [if_pos ⟨hkj.symm, hj⟩, if_pos hkj]
  · rw [if_neg fun h => hkj h.1.symm, if_neg hkj]
    by_cases hki : k = i
    · rw [if_pos ⟨hki.symm, hi⟩, if_pos hki]
    · rw [if_neg fun h => hki h.1.symm, if_neg hki]

theorem minLoop_spec (s : List Int) (c j sm : Nat) :
    (minLoop s c j sm = sm ∨ (j ≤ minLoop s c j sm ∧ minLoop s c j sm < j + c)) ∧
      s.getD (minLoop s c j sm) 0 ≤ s.getD sm 0 ∧
      ∀ k, j ≤ k → k < j + c → s.getD (minLoop s c j sm) 0 ≤ s.getD k 0 := by
  induction c generalizing j sm with
  | zero => exact ⟨Or.inl rfl, Int.le_refl _, fun k h1 h2 => by omega⟩
  | succ c ih =>
    simp only [minLoop]
    by_cases hlt : s.getD j 0 < s.getD sm 0
    · simp only [hlt, if_true]
      obtain ⟨h1, h2, h3⟩ := ih (j + 1) j
      refine ⟨by omega, by omega, fun k hk1 hk2 => ?_⟩
      by_cases hkj : k = j
      · subst hkj; exact h2
      · exact h3 k (by omega) (by omega)
    · simp only [hlt, if_false]
      obtain ⟨h1, h2, h3⟩ := ih (j + 1) sm
      refine ⟨by omega, h2, fun k hk1 hk2 => ?_⟩
      by_cases hkj : k = j
      · subst hkj; omega
      · exact h3 k (by omega) (by omega)

/-- the inner loop does not look at a cell in front of its window -/
theorem minLoop_cons (y : Int) (l : List Int) (c j sm : Nat) :
    minLoop (y :: l) c (j + 1) (sm + 1) = minLoop l c j sm + 1 := by
  induction c generalizing j sm with
  | zero => rfl
  | succ c ih =>
    simp only [minLoop, List.getD_cons_succ]
    by_cases h : l.getD j 0 < l.getD sm 0
    · rw [if_pos h, if_pos h, ih]
    · rw [if_neg h, if_neg h, ih]

/-- nor does the outer loop -/
theorem selLoop_cons (y : Int) (l : List Int) (c i : Nat) :
    selLoop c (i + 1) (y :: l) = y :: selLoop c i l := by
  induction c generalizing i l with
  | zero => rfl
  | succ c ih =>
    simp only [selLoop]
    rw [minLoop_cons, ← ih]
    rfl

/-- the selection sort on the list: the minimum of the window is swapped to the front, where it stays (`selLoop_cons`), and the rest
    is sorted the same way; that the head is below the sorted rest follows from membership alone -/
theorem selLoop_perm_sorted (c : Nat) (s : List Int) (hc : c = s.length) :
    (selLoop c 0 s).Perm s ∧ (selLoop c 0 s).Pairwise (· ≤ ·) := by
  induction c generalizing s with
  | zero => exact ⟨Perm.refl _, by rw [List.eq_nil_of_length_eq_zero hc.symm]; exact Pairwise.nil⟩
  | succ c ih =>
    simp only [selLoop]
    obtain ⟨hm1, hm2, hm3⟩ := minLoop_spec s c 1 0
    generalize minLoop s c 1 0 = m at hm1 hm2 hm3 ⊢
    have hml : m < s.length := by omega
    have hp := swapAt_perm 0 s 0 m (by omega) hml
    have hmin : ∀ z ∈ s, s.getD m 0 ≤ z := by
      intro z hz
      obtain ⟨k, hk, rfl⟩ := (ListFacts.mem_iff_getD (d := 0)).1 hz
      rcases Nat.eq_zero_or_pos k with rfl | h0
      · exact hm2
      · exact hm3 k h0 (by omega)
    have h0 : (swapAt 0 s 0 m).getD 0 0 = s.getD m 0 := by
      rw [getD_swapAt _ _ _ _ _ (by omega) hml]
      by_cases h : 0 = m
      · rw [if_pos h, h]
      · rw [if_neg h, if_pos rfl]
    obtain ⟨y, r, hyr⟩ := List.exists_cons_of_length_pos (l := swapAt 0 s 0 m) (by rw [length_swapAt]; omega)
    rw [hyr] at hp h0 ⊢
    obtain rfl : y = s.getD m 0 := h0
    obtain ⟨h1, h2⟩ := ih r (by have := hp.length_eq; simp at this; omega)
    rw [selLoop_cons]
    refine ⟨(h1.cons _).trans hp, List.pairwise_cons.2 ⟨fun z hz => ?_, h2⟩⟩
    exact hmin z (hp.subset (List.mem_cons_of_mem _ (h1.subset hz)))

theorem sortInsertion_perm (a : List Int) : (sortInsertion a).Perm a := (selLoop_perm_sorted _ a rfl).1

theorem sortInsertion_sorted (a : List Int) : (sortInsertion a).Pairwise (· ≤ ·) := (selLoop_perm_sorted _ a rfl).2

/-- a cell in front of the last value kept is not looked at -/
theorem uniqueLoop_cons (y : Int) (u : List Int) (c i j : Nat) :
    uniqueLoop c (i + 1) (j + 1) (y :: u) = ((uniqueLoop c i j u).1 + 1, y :: (uniqueLoop c i j u).2) := by
  induction c generalizing i j u with
  | zero => rfl
  | succ c ih =>
    simp only [uniqueLoop, List.getD_cons_succ]
    by_cases h : u.getD j 0 ≠ u.getD i 0
    · simp only [if_pos h, Nat.add_right_cancel_iff, ne_eq, List.set_cons_succ]
      rw [← ih]; split_ifs <;> rfl
    · simp only [if_neg h, Nat.add_right_cancel_iff, ne_eq, List.set_cons_succ]
      rw [← ih]; split_ifs <;> rfl

/-- `ref_sort_unique_int`'s loop on ANY array, with `x` the last value kept, `junk` the cells between it and the read index and
    `rest` still unread: the kept prefix is `rest` with every run of equal neighbours collapsed to its first member -/
theorem uniqueLoop_eq (x : Int) (rest junk : List Int) :
    (uniqueLoop rest.length (junk.length + 1) 0 (x :: junk ++ rest)).2.take
        ((uniqueLoop rest.length (junk.length + 1) 0 (x :: junk ++ rest)).1 + 1) = rest.destutter' (· ≠ ·) x ∧
      (uniqueLoop rest.length (junk.length + 1) 0 (x :: junk ++ rest)).1 + 1 = (rest.destutter' (· ≠ ·) x).length := by
  induction rest generalizing x junk with
  | nil => exact ⟨rfl, rfl⟩
  | cons z r ih =>
    have hget : (x :: junk ++ z :: r).getD (junk.length + 1) 0 = z := by simp [List.getD_eq_getElem?_getD]
    have hget0 : (x :: junk ++ z :: r).getD 0 0 = x := rfl
    simp only [List.length_cons, uniqueLoop, hget, hget0]
    by_cases h : x ≠ z
    · -- `z` is kept: written behind `x`, over the first junk cell if there is one
      obtain ⟨junk', hj, hset⟩ : ∃ junk' : List Int, junk'.length = junk.length ∧
          (if 0 + 1 ≠ junk.length + 1 then (x :: junk ++ z :: r).set (0 + 1) z else x :: junk ++ z :: r) =
            x :: z :: junk' ++ r := by
        cases junk with
        | nil => exact ⟨[], rfl, rfl⟩
        | cons y j => exact ⟨j ++ [z], by simp, by simp⟩
      obtain ⟨h1, h2⟩ := ih z junk'
      rw [if_pos h, hset, ← hj, List.cons_append, uniqueLoop_cons, destutter'_cons_pos _ h]
      exact ⟨by rw [List.take_succ_cons, h1], by rw [List.length_cons, h2]⟩
    · -- `z = x` is skipped: it joins the junk
      obtain rfl := not_not.1 h
      have := ih x (junk ++ [x])
      rw [if_neg h, if_pos (Nat.succ_ne_zero _).symm, destutter'_cons_neg _ h, List.cons_append, List.set_cons_zero]
      rwa [List.length_append, List.length_singleton, List.cons_append, List.append_assoc, List.singleton_append] at this

theorem uniqueInt_of_ne_nil (a : List Int) (ha : a ≠ []) :
    uniqueInt a = ((uniqueLoop (a.length - 1) 1 0 (sortInsertion a)).1 + 1,
      (uniqueLoop (a.length - 1) 1 0 (sortInsertion a)).2) := by
  cases a with
  | nil => exact absurd rfl ha
  | cons _ _ => rfl

/-- `ref_sort_unique_int`, every `n`: `nunique` counts the meaningful prefix, which is the sorted input without its duplicates -/
theorem uniqueInt_eq (a : List Int) :
    (uniqueInt a).1 = (uniqueList a).length ∧ uniqueList a = (sortInsertion a).dedup := by
  by_cases ha : a = []
  · subst ha; exact ⟨rfl, rfl⟩
  obtain ⟨x, s, hs⟩ := List.exists_cons_of_length_pos (l := sortInsertion a)
    (by rw [(sortInsertion_perm a).length_eq]; exact List.length_pos_iff.2 ha)
  have hl : a.length - 1 = s.length := by rw [← (sortInsertion_perm a).length_eq, hs]; rfl
  have h : (uniqueLoop s.length 1 0 (x :: s)).2.take ((uniqueLoop s.length 1 0 (x :: s)).1 + 1) = _ ∧
      (uniqueLoop s.length 1 0 (x :: s)).1 + 1 = _ := uniqueLoop_eq x s []
  simp only [uniqueList, uniqueInt_of_ne_nil a ha, hl]
  rw [← (sortInsertion_sorted a).destutter_eq_dedup, hs]
  generalize uniqueLoop s.length 1 0 (x :: s) = r at h
  exact ⟨by rw [h.1]; exact h.2, h.1⟩

theorem uniqueInt_spec (a : List Int) :
    (uniqueInt a).1 = (uniqueList a).length ∧ (uniqueList a).Pairwise (· < ·) ∧
      ∀ x, x ∈ uniqueList a ↔ x ∈ a := by
  obtain ⟨h1, h2⟩ := uniqueInt_eq a
  refine ⟨h1, ?_, fun x => by rw [h2, List.mem_dedup, (sortInsertion_perm a).mem_iff]⟩
  rw [h2]
  exact (((sortInsertion_sorted a).sublist (List.dedup_sublist _)).and (List.nodup_dedup _)).imp
    fun h => Int.lt_iff_le_and_ne.2 h

theorem take_eq_map_getD {α : Type} (u : List α) (d : α) {n : Nat} (h : n = (u.take n).length) :
    u.take n = (List.range n).map fun i => u.getD i d := by
  conv_lhs => rw [← ListFacts.map_getD_range (l := u.take n) (d := d), ← h]
  exact List.map_congr_left fun i hi => ListFacts.getD_take u d (List.mem_range.1 hi)

theorem sortSame_iff (l0 l1 : List Int) :
    sortSame l0 l1 = true ↔ uniqueList l0 = uniqueList l1 := by
  obtain ⟨hn0, -, -⟩ := uniqueInt_spec l0
  obtain ⟨hn1, -, -⟩ := uniqueInt_spec l1
  simp only [sortSame, uniqueList] at *
  -- both prefixes read cell by cell, the comparison loop is equality of the two readings
  rw [take_eq_map_getD _ 0 hn0, take_eq_map_getD _ 0 hn1]
  by_cases hn : (uniqueInt l0).1 = (uniqueInt l1).1
  · rw [if_pos hn, ← hn, List.map_inj_left]
    simp only [List.all_eq_true, beq_iff_eq]
  · rw [if_neg hn]
    exact ⟨fun h => (nomatch h), fun h => absurd (by simpa using congrArg List.length h) hn⟩

end Refine.Model.Sort
