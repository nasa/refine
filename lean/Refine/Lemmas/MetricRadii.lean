import Refine.Lemmas.ScalarReal
import Refine.Model.Metric
import Mathlib.Tactic.Linarith

/-!
  `ref_recon_roundoff_limit`, serial: the radius it takes at a vertex (`Metric.radii`: shortest cell edge at the vertex,
  `-1.0` where there is none) in exact arithmetic.  Entry `i` of `radii` is the minimum of the lengths of the cell edges
  at `i` (`radii_minOf`), a function of the SET of those lengths (`MinOf`, `MinOf.unique`); `radii` has one entry per
  vertex and the per-vertex loop `roundoffLimit.go` stops at the shorter of its two lists (`radii_length`, `go_length`;
  together `roundoffLimit_length`).
  `MinOf` and the lemmas on it are declared in `Refine.ReconParRadii`; the rest in `Refine.MetricRadii`.
-/
namespace Refine.ReconParRadii
open Refine Refine.ScalarReal
open Refine.Model.Metric (updRadius)

/-- `r` is the minimum of the set `P` of non-negative numbers, `-1` when `P` is empty -/
def MinOf (P : ℝ → Prop) (r : ℝ) : Prop := (r = -1 ∧ ∀ d, ¬P d) ∨ (0 ≤ r ∧ P r ∧ ∀ d, P d → r ≤ d)

theorem MinOf.unique {P Q : ℝ → Prop} {r s : ℝ} (hr : MinOf P r) (hs : MinOf Q s) (h : ∀ d, P d ↔ Q d) : r = s := by
  rcases hr with ⟨rfl, hn⟩ | ⟨h0, hp, hm⟩
  · rcases hs with ⟨rfl, _⟩ | ⟨_, hq, _⟩
    · rfl
    · exact absurd ((h s).mpr hq) (hn s)
  · rcases hs with ⟨rfl, hn⟩ | ⟨_, hq, hm'⟩
    · exact absurd ((h r).mp hp) (hn r)
    · exact le_antisymm (hm s ((h s).mpr hq)) (hm' r ((h r).mp hp))

theorem updRadius_eq (d r : ℝ) : updRadius d r = min (if r < 0 then d else r) d := by
  unfold updRadius
  simp only [cmin_eq]
  congr 1
  by_cases h : r < 0
  · simp [h, Scalar.zero]
  · simp [h, Scalar.zero]

theorem MinOf.upd {P : ℝ → Prop} {r d : ℝ} (h : MinOf P r) (hd : 0 ≤ d) :
    MinOf (fun x => P x ∨ x = d) (updRadius d r) := by
  rw [updRadius_eq]
  rcases h with ⟨rfl, hn⟩ | ⟨h0, hp, hm⟩
  · right
    have e : min (if (-1 : ℝ) < 0 then d else -1) d = d := by
      rw [if_pos (by norm_num)]; exact min_self d
    rw [e]
    refine ⟨hd, Or.inr rfl, fun x hx => ?_⟩
    rcases hx with hx | rfl
    · exact absurd hx (hn x)
    · exact le_refl _
  · right
    rw [if_neg (not_lt.mpr h0)]
    refine ⟨le_min h0 hd, ?_, ?_⟩
    · rcases min_choice r d with e | e
      · rw [e]; exact Or.inl hp
      · rw [e]; exact Or.inr rfl
    · intro x hx
      rcases hx with hx | rfl
      · exact le_trans (min_le_left _ _) (hm x hx)
      · exact min_le_right _ _

theorem MinOf.congr {P Q : ℝ → Prop} {r : ℝ} (h : MinOf P r) (hpq : ∀ d, P d ↔ Q d) : MinOf Q r := by
  rcases h with ⟨e, hn⟩ | ⟨h0, hp, hm⟩
  · exact Or.inl ⟨e, fun d hd => hn d ((hpq d).mpr hd)⟩
  · exact Or.inr ⟨h0, (hpq r).mp hp, fun d hd => hm d ((hpq d).mpr hd)⟩

theorem MinOf.upd_if {P : ℝ → Prop} {r d : ℝ} (h : MinOf P r) (hd : 0 ≤ d) (c : Prop) [Decidable c] :
    MinOf (fun x => P x ∨ (c ∧ x = d)) (if c then updRadius d r else r) := by
  by_cases hc : c
  · rw [if_pos hc]
    exact (h.upd hd).congr fun x => by simp only [hc, true_and]
  · rw [if_neg hc]
    exact h.congr fun x => by simp only [hc, false_and, or_false]

end Refine.ReconParRadii

namespace Refine.MetricRadii
open Refine Refine.Model.Geom Refine.Model.Recon Refine.ScalarReal Refine.ReconParRadii
open Refine.Model.Metric (radii cellEdges edgeLength updRadius kindE2n isVol roundoffLimit)

theorem edgeLength_nonneg (xyz : List (V3 ℝ)) (a b : Nat) : 0 ≤ edgeLength xyz a b := by
  unfold edgeLength
  simp only [sqrt_eq]
  exact Real.sqrt_nonneg _

def DistAt (xyz : List (V3 ℝ)) (es : List (Nat × Nat)) (i : Nat) (d : ℝ) : Prop :=
  ∃ e ∈ es, (e.1 = i ∨ e.2 = i) ∧ d = edgeLength xyz e.1 e.2

/-- the edge loop of `radii`, for any edge list, seen at entry `i`: an entry that is the minimum of a set `P` of lengths
    ends as the minimum of `P` and the lengths of the edges at `i` -/
theorem fold_minOf (xyz : List (V3 ℝ)) (i : Nat) :
    ∀ (es : List (Nat × Nat)) (acc : List ℝ) (P : ℝ → Prop) (r : ℝ), acc[i]? = some r → MinOf P r →
      ∃ r', (es.foldl (fun rad e =>
        let dist := edgeLength xyz e.1 e.2
        (rad.modify e.1 (updRadius dist)).modify e.2 (updRadius dist)) acc)[i]? = some r' ∧
        MinOf (fun d => P d ∨ DistAt xyz es i d) r' := by
  intro es
  induction es with
  | nil => intro acc P r ha h; exact ⟨r, ha, h.congr fun d => by simp [DistAt]⟩
  | cons e rest ih =>
    intro acc P r ha h
    have hd := edgeLength_nonneg xyz e.1 e.2
    rw [List.foldl_cons]
    refine (ih _ _ _ ?_ ((h.upd_if hd (e.1 = i)).upd_if hd (e.2 = i))).imp fun r' hr' =>
      ⟨hr'.1, hr'.2.congr fun d => ?_⟩
    · rw [List.getElem?_modify, List.getElem?_modify, ha]; rfl
    · simp only [DistAt, List.mem_cons, or_and_right, exists_or, exists_eq_left, or_assoc]

theorem radii_minOf (xyz : List (V3 ℝ)) (cells : List Cell) (i : Nat) (hi : i < xyz.length) :
    ∃ r, (radii xyz cells)[i]? = some r ∧ MinOf (DistAt xyz (cellEdges cells) i) r := by
  obtain ⟨r, hr, hm⟩ := fold_minOf xyz i (cellEdges cells) (List.replicate xyz.length (Scalar.ofInt (-1) : ℝ))
    (fun _ => False) _ (by rw [List.getElem?_replicate, if_pos hi]) (Or.inl ⟨by simp, fun _ => id⟩)
  exact ⟨r, hr, hm.congr fun d => by simp⟩

def edgesOf (c : Cell) : List (Nat × Nat) :=
  (kindE2n c.kind).map (fun e => (c.nodes.getD (e.getD 0 0) 0, c.nodes.getD (e.getD 1 0) 0))

theorem mem_cellEdges {cells : List Cell} {e : Nat × Nat} : e ∈ cellEdges cells ↔ ∃ c ∈ cells, e ∈ edgesOf c := by
  unfold cellEdges
  simp only [List.mem_append, List.mem_flatMap, List.mem_filter]
  constructor
  · rintro (⟨c, ⟨hc, _⟩, he⟩ | ⟨c, ⟨hc, _⟩, he⟩) <;> exact ⟨c, hc, he⟩
  · rintro ⟨c, hc, he⟩
    by_cases hv : isVol c.kind = true
    · exact Or.inl ⟨c, ⟨hc, hv⟩, he⟩
    · exact Or.inr ⟨c, ⟨hc, by simpa using hv⟩, he⟩

theorem radii_length (xyz : List (V3 ℝ)) (cells : List Refine.Model.Recon.Cell) :
    (radii xyz cells).length = xyz.length := by
  unfold radii
  refine List.foldlRecOn (motive := fun rad : List ℝ => rad.length = xyz.length) _ _ (by simp) fun rad h e _ => ?_
  simp only [List.length_modify, h]

theorem go_length (rs : List ℝ) (ms out : List (Refine.Model.Matrix.M6 ℝ)) (h : roundoffLimit.go rs ms = .ok out) :
    out.length = min rs.length ms.length := by
  fun_induction roundoffLimit.go rs ms generalizing out with
  | case1 => cases h
  | case2 => cases h
  | case3 r rs m ms x hx xs hxs ih =>
    cases h
    simp only [List.length_cons, ih xs hxs]
    omega
  | case4 t x hn =>
    -- one of the two lists is exhausted
    cases h
    match t, x, hn with
    | [], _, _ => simp
    | _ :: _, [], _ => simp
    | _ :: _, _ :: _, hn => exact (hn _ _ _ _ rfl rfl).elim

theorem roundoffLimit_length (xyz : List (V3 ℝ)) (cells : List Cell) (metric out : List (Refine.Model.Matrix.M6 ℝ))
    (h : roundoffLimit xyz cells metric = .ok out) : out.length = min xyz.length metric.length := by
  rw [go_length _ _ _ h, radii_length]

end Refine.MetricRadii
