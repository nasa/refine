import Refine.Model.Metric
import Refine.Lemmas.ScalarReal
import Refine.Lemmas.MatrixReal
import Refine.Lemmas.MatrixFun
import Mathlib.Tactic.Ring

/-!
  Real-number side of the log-Euclidean combination `Σ wᵢ log Mᵢ` (C05): linear algebra on the six
  components, quadratic forms, and Loewner bounds of a matrix formed from an orthonormal frame.
-/
namespace Refine.Model.Metric
open Refine Refine.Scalar Refine.ScalarReal Refine.Model.Matrix
open Refine.Model.Geom (V3 B4)

theorem logCombine4_eq (w : B4 ℝ) (l0 l1 l2 l3 : M6 ℝ) :
    logCombine 4 w l0 l1 l2 l3 =
      ⟨w.b0 * l0.m11 + w.b1 * l1.m11 + w.b2 * l2.m11 + w.b3 * l3.m11,
       w.b0 * l0.m12 + w.b1 * l1.m12 + w.b2 * l2.m12 + w.b3 * l3.m12,
       w.b0 * l0.m13 + w.b1 * l1.m13 + w.b2 * l2.m13 + w.b3 * l3.m13,
       w.b0 * l0.m22 + w.b1 * l1.m22 + w.b2 * l2.m22 + w.b3 * l3.m22,
       w.b0 * l0.m23 + w.b1 * l1.m23 + w.b2 * l2.m23 + w.b3 * l3.m23,
       w.b0 * l0.m33 + w.b1 * l1.m33 + w.b2 * l2.m33 + w.b3 * l3.m33⟩ := by
  unfold logCombine
  simp only [zero_eq, add_eq, mul_eq, zero_add]
  rfl

/-- three donors (2-D background): the fourth slot is not read -/
theorem logCombine3_eq (w : B4 ℝ) (l0 l1 l2 l3 : M6 ℝ) :
    logCombine 3 w l0 l1 l2 l3 =
      ⟨w.b0 * l0.m11 + w.b1 * l1.m11 + w.b2 * l2.m11,
       w.b0 * l0.m12 + w.b1 * l1.m12 + w.b2 * l2.m12,
       w.b0 * l0.m13 + w.b1 * l1.m13 + w.b2 * l2.m13,
       w.b0 * l0.m22 + w.b1 * l1.m22 + w.b2 * l2.m22,
       w.b0 * l0.m23 + w.b1 * l1.m23 + w.b2 * l2.m23,
       w.b0 * l0.m33 + w.b1 * l1.m33 + w.b2 * l2.m33⟩ := by
  unfold logCombine
  simp only [zero_eq, add_eq, mul_eq, zero_add]
  rfl

theorem interpolateNode_of_clip {bary w : B4 ℝ} (hc : Geom.clipBary4 bary = (Geom.St.ok, w)) (n : Nat)
    (l0 l1 l2 l3 : M6 ℝ) : interpolateNode n bary l0 l1 l2 l3 = nodeMetricSetLog (logCombine n w l0 l1 l2 l3) := by
  unfold interpolateNode; rw [hc]

/-- a field of symmetric matrices that is affine in position, component by component -/
def affM (L0 Lx Ly Lz : M6 ℝ) (p : V3 ℝ) : M6 ℝ :=
  ⟨L0.m11 + Lx.m11 * p.x + Ly.m11 * p.y + Lz.m11 * p.z,
   L0.m12 + Lx.m12 * p.x + Ly.m12 * p.y + Lz.m12 * p.z,
   L0.m13 + Lx.m13 * p.x + Ly.m13 * p.y + Lz.m13 * p.z,
   L0.m22 + Lx.m22 * p.x + Ly.m22 * p.y + Lz.m22 * p.z,
   L0.m23 + Lx.m23 * p.x + Ly.m23 * p.y + Lz.m23 * p.z,
   L0.m33 + Lx.m33 * p.x + Ly.m33 * p.y + Lz.m33 * p.z⟩

/-- `|x|²` -/
def normSq (x : Vec3 ℝ) : ℝ := x.x * x.x + x.y * x.y + x.z * x.z

/-- Loewner bounds `lo·I ≼ m ≼ hi·I`, i.e. the spectrum of `m` lies in `[lo, hi]` (Rayleigh quotient form) -/
def Between (lo hi : ℝ) (m : M6 ℝ) : Prop := ∀ x : Vec3 ℝ, lo * normSq x ≤ vtMv m x ∧ vtMv m x ≤ hi * normSq x

theorem vtMv_logCombine4 (w : B4 ℝ) (l0 l1 l2 l3 : M6 ℝ) (v : Vec3 ℝ) :
    vtMv (logCombine 4 w l0 l1 l2 l3) v =
      w.b0 * vtMv l0 v + w.b1 * vtMv l1 v + w.b2 * vtMv l2 v + w.b3 * vtMv l3 v := by
  rw [logCombine4_eq]
  simp only [vtMv, mul_eq, add_eq]; ring

theorem logCombine3_eq_4 (w : B4 ℝ) (l0 l1 l2 X Y : M6 ℝ) :
    logCombine 3 w l0 l1 l2 X = logCombine 4 ⟨w.b0, w.b1, w.b2, 0⟩ l0 l1 l2 Y := by
  rw [logCombine3_eq, logCombine4_eq]
  simp only [zero_mul, add_zero]

theorem between_of_eig {d : Eig12 ℝ} (ho : Orthonormal d) {lo hi : ℝ}
    (h0 : lo ≤ d.l0 ∧ d.l0 ≤ hi) (h1 : lo ≤ d.l1 ∧ d.l1 ≤ hi) (h2 : lo ≤ d.l2 ∧ d.l2 ≤ hi) :
    Between lo hi (formM d) :=
  formM_bounds ho h0 h1 h2

end Refine.Model.Metric
