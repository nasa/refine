import Refine.Lemmas.SearchGeom

/-!
  The loops of `ref_search_insert` that stop at the first error (`RSS`) — the tree loop of `ref_phys_wall_distance` and
  `ref_interp_create_search` — are one function, `insertEach`: the tree it leaves has the ball invariant and holds exactly the
  inserted entries (`insertEach_spec`).  In the wall loop every element lies in its inflated sphere, so branch and bound over
  that tree is the running minimum over the inserted elements, whatever the insertion order (`wallNearest_eq_fold`).
-/
namespace Refine.Lemmas.Search
open Refine Refine.Model.Geom Refine.Model.Search Refine.ScalarReal

/-- `Search.insert` either leaves the tree alone (error status) or homes one new entry -/
theorem insert_root (s : Search ℝ) (item : Int) (pos : V3 ℝ) (rad : ℝ) :
    ((s.insert item pos rad).1 = .ok ∧
        (s.insert item pos rad).2.root = s.root.home ⟨s.empty, item, pos, rad⟩) ∨
    ((s.insert item pos rad).1 ≠ .ok ∧ (s.insert item pos rad).2 = s) := by
  fun_cases Search.insert s item pos rad <;> simp

theorem insert_BallInv' (s : Search ℝ) (item : Int) (pos : V3 ℝ) (rad : ℝ) (h : BallInv s.root) :
    BallInv (s.insert item pos rad).2.root := by
  rcases insert_root s item pos rad with ⟨_, h2⟩ | ⟨_, h2⟩
  · rw [h2]; exact home_BallInv _ _ h
  · rw [h2]; exact h

/-- any sequence of `ref_search_insert` calls on a tree (statuses ignored, as a caller that continues would) -/
noncomputable def insertAll (s : Search ℝ) (ins : List (Int × V3 ℝ × ℝ)) : Search ℝ :=
  ins.foldl (fun s e => (s.insert e.1 e.2.1 e.2.2).2) s

theorem insertAll_BallInv (s : Search ℝ) (ins : List (Int × V3 ℝ × ℝ)) (h : BallInv s.root) :
    BallInv (insertAll s ins).root :=
  List.foldlRecOn (motive := fun s => BallInv s.root) ins _ h fun s hs e _ => insert_BallInv' s _ _ _ hs

theorem create_BallInv (n : Int) (s0 : Search ℝ) (h0 : Search.create n = .ok s0) : BallInv s0.root := by
  unfold Search.create at h0
  split at h0
  · cases h0
  · cases h0; simp [BallInv]

/-- `ref_search_insert(s, item, pos, rad)` with `(item, pos, rad) = f b` for every `b` of a list, until a status is
    not ok: the shape of the tree loops of `ref_phys_wall_distance` and `ref_interp_create_search` -/
noncomputable def insertEach {β : Type} (f : β → Int × V3 ℝ × ℝ) (s : Search ℝ) : List β → Status × Search ℝ
  | [] => (.ok, s)
  | b :: rest =>
    if (s.insert (f b).1 (f b).2.1 (f b).2.2).1 = .ok then insertEach f (s.insert (f b).1 (f b).2.1 (f b).2.2).2 rest
    else s.insert (f b).1 (f b).2.1 (f b).2.2

/-- the entry `e` was inserted with the arguments `t` -/
def EntryOf (t : Int × V3 ℝ × ℝ) (e : Entry ℝ) : Prop := e.item = t.1 ∧ e.pos = t.2.1 ∧ e.rad = t.2.2

theorem insertEach_spec {β : Type} (f : β → Int × V3 ℝ × ℝ) (l : List β) (s : Search ℝ) (h : BallInv s.root) :
    BallInv (insertEach f s l).2.root ∧
    (∀ e ∈ (insertEach f s l).2.root.pre, e ∈ s.root.pre ∨ ∃ b ∈ l, EntryOf (f b) e) ∧
    (∀ e ∈ s.root.pre, e ∈ (insertEach f s l).2.root.pre) ∧
    ((insertEach f s l).1 = .ok → ∀ b ∈ l, ∃ e ∈ (insertEach f s l).2.root.pre, EntryOf (f b) e) := by
  induction l generalizing s with
  | nil => exact ⟨h, fun e he => .inl he, fun e he => he, fun _ b hb => absurd hb List.not_mem_nil⟩
  | cons b rest ih =>
    simp only [insertEach]
    rcases insert_root s (f b).1 (f b).2.1 (f b).2.2 with ⟨h1, h2⟩ | ⟨h1, h2⟩
    · -- inserted: the new tree holds the old entries and the new one
      rw [if_pos h1]
      obtain ⟨i1, i2, i3, i4⟩ := ih _ (h2 ▸ home_BallInv _ _ h)
      simp only [h2, mem_pre_home] at i2 i3
      refine ⟨i1, fun e he => ?_, fun e he => i3 e (.inr he), fun hok c hc => ?_⟩
      · rcases i2 e he with (rfl | he') | ⟨c, hc, hsp⟩
        · exact .inr ⟨b, List.mem_cons_self, rfl, rfl, rfl⟩
        · exact .inl he'
        · exact .inr ⟨c, List.mem_cons_of_mem _ hc, hsp⟩
      · rcases List.mem_cons.mp hc with rfl | hc
        · exact ⟨_, i3 _ (.inl rfl), rfl, rfl, rfl⟩
        · exact i4 hok c hc
    · -- rejected: the loop stops with that status and the tree as it was
      rw [if_neg h1, h2]
      exact ⟨h, fun e he => .inl he, fun e he => he, fun hok => absurd hok h1⟩

theorem insertEach_create {β : Type} (f : β → Int × V3 ℝ × ℝ) (l : List β) (n : Nat) :
    BallInv (insertEach f ⟨n, 0, .nil⟩ l).2.root ∧
    (∀ e ∈ (insertEach f ⟨n, 0, .nil⟩ l).2.root.pre, ∃ b ∈ l, EntryOf (f b) e) ∧
    ((insertEach f ⟨n, 0, .nil⟩ l).1 = .ok → ∀ b ∈ l, ∃ e ∈ (insertEach f ⟨n, 0, .nil⟩ l).2.root.pre, EntryOf (f b) e) := by
  obtain ⟨i1, i2, _, i4⟩ := insertEach_spec f l ⟨n, 0, .nil⟩ trivial
  exact ⟨i1, fun e he => (i2 e he).resolve_left List.not_mem_nil, i4⟩

/-- the entry `e` carries the inflated bounding sphere of element `cell` -/
def SphereOf (verts : Int → List (V3 ℝ)) (cell : Int) (e : Entry ℝ) : Prop :=
  EntryOf (cell, (boundingSphere (verts cell)).1, (inflate : ℝ) * (boundingSphere (verts cell)).2) e

theorem wallGo_eq (verts : Int → List (V3 ℝ)) (perm : List Int) (s : Search ℝ) :
    wallBuild.go verts s perm =
      insertEach (fun c => (c, (boundingSphere (verts c)).1, (inflate : ℝ) * (boundingSphere (verts c)).2)) s perm := by
  fun_induction wallBuild.go verts s perm with
  | case1 s => rfl
  | case2 s cell rest c r hb s' hi ih =>                  -- inserted
    rw [mul_eq] at hi
    simp [insertEach, hb, hi, ih]
  | case3 s cell rest c r hb st s' hne hi =>              -- `ref_search_insert` fails: the loop stops
    rw [mul_eq] at hi
    simp only [insertEach, hb, hi, if_neg (fun h => hne h : ¬ st = Status.ok)]

/-- what `wallBuild` returns: a tree with the invariant whose entries are exactly the inflated bounding
    spheres of the cells of `perm` (all of them when the status is ok) -/
theorem wallBuild_spec (ncell : Int) (verts : Int → List (V3 ℝ)) (perm : List Int) (st : Status)
    (s : Search ℝ) (hw : wallBuild ncell verts perm = (st, some s)) :
    BallInv s.root ∧ (∀ e ∈ s.root.pre, ∃ cell ∈ perm, SphereOf verts cell e) ∧
    (st = .ok → ∀ cell ∈ perm, ∃ e ∈ s.root.pre, SphereOf verts cell e) := by
  unfold wallBuild Search.create at hw
  by_cases hn : ncell < 0
  · simp [hn] at hw
  · simp only [hn, if_false, wallGo_eq, Prod.mk.injEq, Option.some.injEq] at hw
    obtain ⟨rfl, rfl⟩ := hw
    exact insertEach_create _ perm _

theorem sphereOf_contains {verts : Int → List (V3 ℝ)} {cell : Int} {e : Entry ℝ}
    (h : SphereOf verts cell e) (p : V3 ℝ) (hp : p ∈ verts cell) : edist e.pos p ≤ e.rad := by
  obtain ⟨_, hpos, hrad⟩ := h
  rw [hpos, hrad]
  exact boundingSphere_scaled_contains inflate_ge_one _ p hp

theorem sphere_lower_of_attained {c x y : V3 ℝ} {r v : ℝ} (hy : edist c y ≤ r) (hv : v = edist x y) :
    edist c x - r ≤ v := by
  have := edist_triangle c y x
  rw [hv, edist_comm x y]
  linarith

/-- the tree search of `ref_phys_wall_distance` for any kind of element: `hed` is all that is asked of the kernel `ed` -/
theorem wallNearest_eq_fold (ncell : Int) (verts : Int → List (V3 ℝ)) (perm : List Int) (s : Search ℝ)
    (hw : wallBuild ncell verts perm = (.ok, some s)) (ed : Int → ℝ) (x : V3 ℝ) (d0 : ℝ)
    (hed : ∀ c ∈ perm, ∃ y, InEveryBall (verts c) y ∧ ed c = edist x y) :
    s.root.nearestWith ed x d0 = (perm.map ed).foldl min d0 := by
  obtain ⟨hb, hall, hok⟩ := wallBuild_spec ncell verts perm .ok s hw
  rw [nearestWith_eq ed x s.root d0 hb fun e he => ?_]
  · -- the entries of the tree carry exactly the items of `perm`
    refine FoldMin.foldl_min_congr_set d0 fun v => ?_
    simp only [List.mem_map]
    constructor
    · rintro ⟨e, he, rfl⟩
      obtain ⟨c, hc, hsp⟩ := hall e he
      exact ⟨c, hc, by rw [hsp.1]⟩
    · rintro ⟨c, hc, rfl⟩
      obtain ⟨e, he, hsp⟩ := hok rfl c hc
      exact ⟨e, he, by rw [hsp.1]⟩
  · obtain ⟨c, hc, hsp⟩ := hall e he
    obtain ⟨y, hy, hv⟩ := hed c hc
    rw [hsp.1]
    exact sphere_lower_of_attained (hy _ _ fun p hp => sphereOf_contains hsp p hp) hv

end Refine.Lemmas.Search
