import Refine.Lemmas.MatrixReal
import Mathlib.Tactic.FieldSimp

/-!
  `ref_matrix_inv_gen` (n = 3, Gauss–Jordan with partial pivoting and `ref_math_divisible` guards) over ℝ.  The pair
  `(a, inv)` starts as `(orig, 1)`; every row operation keeps `inv · orig = a` (`Linked`), and step `j` makes column `j`
  of `a` the unit vector `e_j` without spoiling the earlier columns (`invStep0_col` … `invStep2_col`; the guards are what
  makes the pivots non-zero).  So a successful run ends with `a = 1`, that is `inv · orig = 1`.
-/
namespace Refine.Model.Matrix
open Refine Refine.ScalarReal
open _root_.Matrix

section accessors
variable {α : Type}
@[simp] theorem M33.row_zero (a : M33 α) : a.row 0 = a.r0 := rfl
@[simp] theorem M33.row_one (a : M33 α) : a.row 1 = a.r1 := rfl
@[simp] theorem M33.row_two (a : M33 α) : a.row 2 = a.r2 := rfl
@[simp] theorem M33.setRow_zero (a : M33 α) (r : Vec3 α) : a.setRow 0 r = { a with r0 := r } := rfl
@[simp] theorem M33.setRow_one (a : M33 α) (r : Vec3 α) : a.setRow 1 r = { a with r1 := r } := rfl
@[simp] theorem M33.setRow_two (a : M33 α) (r : Vec3 α) : a.setRow 2 r = { a with r2 := r } := rfl
@[simp] theorem Vec3.get_zero (r : Vec3 α) : r.get 0 = r.x := rfl
@[simp] theorem Vec3.get_one (r : Vec3 α) : r.get 1 = r.y := rfl
@[simp] theorem Vec3.get_two (r : Vec3 α) : r.get 2 = r.z := rfl
end accessors

@[ext] theorem Vec3.ext' {α : Type} {u v : Vec3 α} (h1 : u.x = v.x) (h2 : u.y = v.y) (h3 : u.z = v.z) : u = v := by
  cases u; cases v; simp_all

def rowMul (r : Vec3 ℝ) (o : M33 ℝ) : Vec3 ℝ :=
  ⟨r.x * o.r0.x + r.y * o.r1.x + r.z * o.r2.x,
   r.x * o.r0.y + r.y * o.r1.y + r.z * o.r2.y,
   r.x * o.r0.z + r.y * o.r1.z + r.z * o.r2.z⟩

/-- `inv · o = a`, row by row -/
structure Linked (o a inv : M33 ℝ) : Prop where
  l0 : rowMul inv.r0 o = a.r0
  l1 : rowMul inv.r1 o = a.r1
  l2 : rowMul inv.r2 o = a.r2

theorem rowMul_divBy (r : Vec3 ℝ) (o : M33 ℝ) (p : ℝ) : rowMul (r.divBy p) o = (rowMul r o).divBy p := by
  ext <;> simp only [rowMul, Vec3.divBy, div_eq] <;> ring

theorem rowMul_axmy (r r' : Vec3 ℝ) (o : M33 ℝ) (s : ℝ) :
    rowMul (r.axmy s r') o = (rowMul r o).axmy s (rowMul r' o) := by
  ext <;> simp only [rowMul, Vec3.axmy, mul_eq, sub_eq] <;> ring

theorem linked_identity (o : M33 ℝ) : Linked o o M33.identity := by
  constructor <;> ext <;> simp only [rowMul, M33.identity, one_eq, zero_eq] <;> ring

theorem Linked.row {o a inv : M33 ℝ} (h : Linked o a inv) (i : Nat) : rowMul (inv.row i) o = a.row i := by
  rcases i with _ | _ | i
  · exact h.l0
  · exact h.l1
  · exact h.l2

theorem Linked.setRow {o a inv : M33 ℝ} (h : Linked o a inv) (i : Nat) (u v : Vec3 ℝ)
    (huv : rowMul v o = u) : Linked o (a.setRow i u) (inv.setRow i v) := by
  rcases i with _ | _ | i
  · exact ⟨huv, h.l1, h.l2⟩
  · exact ⟨h.l0, huv, h.l2⟩
  · exact ⟨h.l0, h.l1, huv⟩

theorem linked_elimRow {o : M33 ℝ} {j i : Nat} {p q : M33 ℝ × M33 ℝ} (hL : Linked o p.1 p.2)
    (h : elimRow j i p = .ok q) : Linked o q.1 q.2 := by
  revert h
  fun_cases elimRow j i p <;> intro h <;> cases h
  apply hL.setRow
  rw [rowMul_axmy, hL.row, hL.row]

theorem linked_elimOthers {o : M33 ℝ} {j : Nat} {p q : M33 ℝ × M33 ℝ} (hL : Linked o p.1 p.2)
    (h : elimOthers j p = .ok q) : Linked o q.1 q.2 := by
  unfold elimOthers at h
  split at h
  all_goals
    split at h
    · exact absurd h (by simp)
    · rename_i q' hq'
      exact linked_elimRow (linked_elimRow hL hq') h

theorem linked_scaleRow {o : M33 ℝ} {j : Nat} {p q : M33 ℝ × M33 ℝ} (hL : Linked o p.1 p.2)
    (h : scaleRow j p = .ok q) : Linked o q.1 q.2 := by
  revert h
  fun_cases scaleRow j p <;> intro h <;> cases h
  apply hL.setRow
  rw [rowMul_divBy, hL.row]

theorem linked_swapStep {o : M33 ℝ} {j : Nat} {p : M33 ℝ × M33 ℝ} (hL : Linked o p.1 p.2) :
    Linked o (swapStep j p).1 (swapStep j p).2 := by
  fun_cases swapStep j p
  · unfold M33.swapRows
    apply Linked.setRow
    · apply hL.setRow; exact hL.row _
    · exact hL.row _
  · exact hL

theorem linked_invStep {o : M33 ℝ} {j : Nat} {p q : M33 ℝ × M33 ℝ} (hL : Linked o p.1 p.2)
    (h : invStep j p = .ok q) : Linked o q.1 q.2 := by
  revert h
  fun_cases invStep j p <;> intro h
  · cases h
  · exact linked_elimOthers (linked_scaleRow (linked_swapStep hL) ‹_›) h

/-- column `c` of `a` is `(v0, v1, v2)`; `Col a 1 0 1 0` reads "column 1 is the unit vector `e₁`" -/
def Col (a : M33 ℝ) (c : Nat) (v0 v1 v2 : ℝ) : Prop := a.r0.get c = v0 ∧ a.r1.get c = v1 ∧ a.r2.get c = v2

theorem elimRow_fst {j i : Nat} {p q : M33 ℝ × M33 ℝ} (h : elimRow j i p = .ok q) :
    q.1 = p.1.setRow i ((p.1.row i).axmy ((p.1.row i).get j / (p.1.row j).get j) (p.1.row j)) := by
  revert h
  fun_cases elimRow j i p <;> intro h <;> cases h
  rfl

theorem scaleRow_fst {j : Nat} {p q : M33 ℝ × M33 ℝ} (h : scaleRow j p = .ok q) :
    q.1 = p.1.setRow j ((p.1.row j).divBy ((p.1.row j).get j)) ∧ (p.1.row j).get j ≠ 0 := by
  revert h
  fun_cases scaleRow j p <;> intro h <;> cases h
  rename_i hg
  refine ⟨rfl, ?_⟩
  rw [Bool.not_eq_true', Bool.not_eq_false, Bool.and_eq_true_iff] at hg
  unfold Vec3.allDivisible at hg
  rw [Bool.and_eq_true_iff, Bool.and_eq_true_iff] at hg
  exact divisible_ne_zero hg.1.1.1


/-- step j = 0: column 0 becomes e0 -/
theorem invStep0_col {p q : M33 ℝ × M33 ℝ} (h : invStep 0 p = .ok q) : Col q.1 0 1 0 0 := by
  revert h
  fun_cases invStep 0 p <;> intro h
  · cases h
  rename_i q1 hq1
  obtain ⟨e1, hp⟩ := scaleRow_fst hq1
  rw [elimOthers] at h
  split at h
  · exact absurd h (by simp)
  rename_i q2 hq2
  have e2 := elimRow_fst hq2
  have e3 := elimRow_fst h
  generalize (swapStep 0 p).1 = a1 at e1 hp
  rw [e3, e2, e1]
  simp only [M33.row_zero, M33.row_one, M33.row_two, M33.setRow_zero, M33.setRow_one, M33.setRow_two,
    Vec3.get_zero] at hp ⊢
  refine ⟨?_, ?_, ?_⟩
  · simp only [Vec3.get_zero, Vec3.divBy, div_eq]; exact div_self hp
  · simp only [Vec3.get_zero, Vec3.divBy, Vec3.axmy, div_eq, mul_eq, sub_eq]; field_simp; ring
  · simp only [Vec3.get_zero, Vec3.divBy, Vec3.axmy, div_eq, mul_eq, sub_eq]; field_simp; ring

theorem pivotRow_one (a : M33 ℝ) : pivotRow 1 a = 1 ∨ pivotRow 1 a = 2 := by
  unfold pivotRow
  simp only [Nat.reduceAdd, Nat.reduceLeDiff, false_and, if_false]
  split_ifs <;> simp

theorem pivotRow_two (a : M33 ℝ) : pivotRow 2 a = 2 := by
  unfold pivotRow
  simp

theorem swapStep1_col0 {p : M33 ℝ × M33 ℝ} (h : Col p.1 0 1 0 0) : Col (swapStep 1 p).1 0 1 0 0 := by
  unfold swapStep
  dsimp only
  split_ifs with hb
  · rcases pivotRow_one p.1 with e | e
    · rw [e] at hb; exact absurd hb (by decide)
    · rw [e]
      obtain ⟨h0, h1, h2⟩ := h
      unfold M33.swapRows
      simp only [M33.row_one, M33.row_two, M33.setRow_one, M33.setRow_two]
      exact ⟨h0, h2, h1⟩
  · exact h

theorem swapStep2 (p : M33 ℝ × M33 ℝ) : swapStep 2 p = p := by
  unfold swapStep
  simp [pivotRow_two]

/-- step j = 1 keeps column 0 = e0 and makes column 1 = e1 -/
theorem invStep1_col {p q : M33 ℝ × M33 ℝ} (h : invStep 1 p = .ok q) (hc : Col p.1 0 1 0 0) :
    Col q.1 0 1 0 0 ∧ Col q.1 1 0 1 0 := by
  revert h
  fun_cases invStep 1 p <;> intro h
  · cases h
  rename_i q1 hq1
  obtain ⟨e1, hp⟩ := scaleRow_fst hq1
  rw [elimOthers] at h
  split at h
  · exact absurd h (by simp)
  rename_i q2 hq2
  have e2 := elimRow_fst hq2
  have e3 := elimRow_fst h
  have hc1 := swapStep1_col0 hc
  generalize (swapStep 1 p).1 = a1 at e1 hp hc1
  obtain ⟨c0, c1, c2⟩ := hc1
  rw [e3, e2, e1]
  simp only [M33.row_zero, M33.row_one, M33.row_two, M33.setRow_zero, M33.setRow_one, M33.setRow_two,
    Vec3.get_zero, Vec3.get_one] at hp c0 c1 c2 ⊢
  refine ⟨⟨?_, ?_, ?_⟩, ⟨?_, ?_, ?_⟩⟩ <;>
    simp only [Vec3.get_zero, Vec3.get_one, Vec3.divBy, Vec3.axmy, div_eq, mul_eq, sub_eq, c0, c1, c2] <;>
    field_simp <;> ring

/-- step j = 2 keeps columns 0, 1 and makes column 2 = e2 -/
theorem invStep2_col {p q : M33 ℝ × M33 ℝ} (h : invStep 2 p = .ok q) (hc0 : Col p.1 0 1 0 0)
    (hc1 : Col p.1 1 0 1 0) : Col q.1 0 1 0 0 ∧ Col q.1 1 0 1 0 ∧ Col q.1 2 0 0 1 := by
  revert h
  fun_cases invStep 2 p <;> intro h
  · cases h
  rename_i q1 hq1
  rw [swapStep2] at hq1
  obtain ⟨e1, hp⟩ := scaleRow_fst hq1
  simp only [elimOthers] at h
  split at h
  · exact absurd h (by simp)
  rename_i q2 hq2
  have e2 := elimRow_fst hq2
  have e3 := elimRow_fst h
  generalize p.1 = a1 at e1 hp hc0 hc1
  obtain ⟨c0, c1, c2⟩ := hc0
  obtain ⟨d0, d1, d2⟩ := hc1
  rw [e3, e2, e1]
  simp only [M33.row_zero, M33.row_one, M33.row_two, M33.setRow_zero, M33.setRow_one, M33.setRow_two,
    Vec3.get_zero, Vec3.get_one, Vec3.get_two] at hp c0 c1 c2 d0 d1 d2 ⊢
  refine ⟨⟨?_, ?_, ?_⟩, ⟨?_, ?_, ?_⟩, ⟨?_, ?_, ?_⟩⟩ <;>
    simp only [Vec3.get_zero, Vec3.get_one, Vec3.get_two, Vec3.divBy, Vec3.axmy, div_eq, mul_eq, sub_eq,
      c0, c1, c2, d0, d1, d2] <;>
    field_simp <;> ring

/-- `ref_matrix_inv_gen` (n = 3): whenever it succeeds the result is a left inverse (hence the inverse) -/
theorem invGen3_spec (a b : M33 ℝ) (h : invGen3 a = .ok b) : b.toMat * a.toMat = 1 := by
  revert h
  fun_cases invGen3 a <;> intro h <;> cases h
  rename_i p1 h1 p2 h2 p3 h3
  have L0 : Linked a (a, (M33.identity : M33 ℝ)).1 (a, (M33.identity : M33 ℝ)).2 := linked_identity a
  have L3 := linked_invStep (linked_invStep (linked_invStep L0 h1) h2) h3
  have c0 := invStep0_col h1
  obtain ⟨c0', c1'⟩ := invStep1_col h2 c0
  obtain ⟨⟨x0, x1, x2⟩, ⟨y0, y1, y2⟩, ⟨z0, z1, z2⟩⟩ := invStep2_col h3 c0' c1'
  obtain ⟨l0, l1, l2⟩ := L3
  simp only [Vec3.get_zero, Vec3.get_one, Vec3.get_two] at x0 x1 x2 y0 y1 y2 z0 z1 z2
  have e0 := congrArg Vec3.x l0; have e1 := congrArg Vec3.y l0; have e2 := congrArg Vec3.z l0
  have f0 := congrArg Vec3.x l1; have f1 := congrArg Vec3.y l1; have f2 := congrArg Vec3.z l1
  have g0 := congrArg Vec3.x l2; have g1 := congrArg Vec3.y l2; have g2 := congrArg Vec3.z l2
  simp only [rowMul, x0, x1, x2, y0, y1, y2, z0, z1, z2] at e0 e1 e2 f0 f1 f2 g0 g1 g2
  rw [one_fin_three]
  simp only [M33.toMat, mul_fin_three, e0, e1, e2, f0, f1, f2, g0, g1, g2]

end Refine.Model.Matrix
