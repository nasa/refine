import Refine.Model.ReconPar
import Refine.Lemmas.DistGhostFull
import Refine.Lemmas.ListFacts
import Mathlib.Data.List.Nodup

/-!
  The ghost refresh of a per-vertex array on a `World Rank` (`Refine.Model.ReconPar.ghostRows`), from
  `Refine.Lemmas.DistGhostFull.ghost_full`: under `WorldOK` (what the exchange needs of the distribution) the
  exchange completes and its result is the input re-indexed by the owner map `own` (an owned entry keeps its row,
  a ghost entry receives the row its owner holds for the same global vertex): `ghostRows_spec`.  What callers use of
  that closed form: `fromOwners_of_owned`, `fromOwners_forall`, `wAt_fromOwners`.  (`Model.ReconPar` and `Model.Dist` are
  both open below; `ghostBuckets`, which each of them defines, has to be written in full.)
-/
namespace Refine.ReconParGhost
open Refine Refine.Model.ReconPar Refine.Model.Dist Refine.Model.Comm Refine.Lemmas.DistGhostFull

/-- what the exchange needs of a distribution.  A hypothesis of its own, on `ReconPar.Rank` (`Nat` ids): `owner` is the
    counterpart of clause (i) of C06's `distInv` (which is stated on `Dist.RankState`, `Int` ids with `-1`), `small` is a
    size bound `distInv` does not contain; no theorem here derives `WorldOK` from `distInv` -/
structure WorldOK (w : World Rank) : Prop where
  /-- a rank lists a global once (`ref_node_local` is a function) -/
  nodup : ∀ r ∈ w, r.l2g.Nodup
  partLen : ∀ r ∈ w, r.part.length = r.l2g.length
  /-- the part of a ghost is a rank that stores the vertex, as an OWNED vertex -/
  owner : ∀ (me : Nat) (r : Rank), w[me]? = some r → ∀ (i p : Nat), r.part[i]? = some p → p ≠ me →
      ∃ (ro : Rank) (j : Nat), w[p]? = some ro ∧ ro.l2g[j]? = r.l2g[i]? ∧ ro.part[j]? = some p
  /-- the exchange buffers fit an `int` (the guards of `ref_mpi_alltoallv`), for up to 6 values per vertex -/
  small : 6 * (((w.map fun r => r.l2g.length).sum : Nat) : Int) ≤ 2147483647

structure RowsOK {β : Type} (ldim : Nat) (w : World Rank) (rows : World (List (List β))) : Prop where
  len : rows.length = w.length
  each : ∀ (me : Nat) (r : Rank) (rw : List (List β)), w[me]? = some r → rows[me]? = some rw →
      rw.length = r.l2g.length ∧ ∀ x ∈ rw, x.length = ldim

/-- a statement about every stored entry `(rank, local index, part)`, from its form over the lists (which `decide`
    settles on a concrete world) -/
theorem forall_stored {P : Nat → Rank → Nat → Nat → Prop} {w : World Rank}
    (h : ∀ x ∈ w.zipIdx, ∀ y ∈ x.1.part.zipIdx, P x.2 x.1 y.2 y.1) :
    ∀ (me : Nat) (r : Rank), w[me]? = some r → ∀ (i p : Nat), r.part[i]? = some p → P me r i p :=
  fun me r hr i p hp =>
    h (r, me) (List.mem_zipIdx_iff_getElem?.mpr hr) (p, i) (List.mem_zipIdx_iff_getElem?.mpr hp)

/-- clause (i) in a form `decide` settles on a concrete world -/
theorem owner_of_stored {w : World Rank}
    (h : ∀ x ∈ w.zipIdx, ∀ y ∈ x.1.part.zipIdx, y.1 ≠ x.2 →
      ∃ ro ∈ w[y.1]?, ∃ j < ro.l2g.length, ro.l2g[j]? = x.1.l2g[y.2]? ∧ ro.part[j]? = some y.1) :
    ∀ (me : Nat) (r : Rank), w[me]? = some r → ∀ (i p : Nat), r.part[i]? = some p → p ≠ me →
      ∃ (ro : Rank) (j : Nat), w[p]? = some ro ∧ ro.l2g[j]? = r.l2g[i]? ∧ ro.part[j]? = some p := by
  intro me r hr i p hp hne
  obtain ⟨ro, hro, j, -, h1, h2⟩ := forall_stored (P := fun me r i p => p ≠ me →
    ∃ ro ∈ w[p]?, ∃ j < ro.l2g.length, ro.l2g[j]? = r.l2g[i]? ∧ ro.part[j]? = some p) h me r hr i p hp hne
  exact ⟨ro, j, hro, h1, h2⟩

theorem lt_of_getElem?_eq {α : Type} {l l' : List α} {i j : Nat} (hi : i < l.length) (h : l'[j]? = l[i]?) :
    j < l'.length := by
  by_contra hcon
  rw [List.getElem?_eq_none (by omega), List.getElem?_eq_getElem hi] at h
  exact absurd h (by simp)

theorem WorldOK.lt_of_part {w : World Rank} (hw : WorldOK w) {me i p : Nat} {r : Rank} (hr : w[me]? = some r)
    (hp : r.part[i]? = some p) : i < r.l2g.length :=
  hw.partLen r (List.mem_of_getElem? hr) ▸ (List.getElem?_eq_some_iff.mp hp).1

def wAt {γ : Type} (d : γ) (f : World (List γ)) (me i : Nat) : γ := (f.getD me []).getD i d

theorem wAt_eq_getElem {γ : Type} (d : γ) {f : World (List γ)} {p j : Nat} (hp : p < f.length) (hj : j < f[p].length) :
    wAt d f p j = f[p][j] := by
  simp only [wAt, List.getD_eq_getElem?_getD, List.getElem?_eq_getElem hp, Option.getD_some, List.getElem?_eq_getElem hj]

def tab {γ : Type} (w : World Rank) (φ : Nat → Rank → Nat → γ) : World (List γ) :=
  w.mapIdx fun me r => (List.range r.l2g.length).map (φ me r)

structure Shaped {γ : Type} (w : World Rank) (f : World (List γ)) : Prop where
  len : f.length = w.length
  each : ∀ (me : Nat) (r : Rank) (h : List γ), w[me]? = some r → f[me]? = some h → h.length = r.l2g.length

theorem RowsOK.shaped {β : Type} {ldim : Nat} {w : World Rank} {rows : World (List (List β))} (h : RowsOK ldim w rows) :
    Shaped w rows :=
  ⟨h.len, fun me r x hr hx => (h.each me r x hr hx).1⟩

theorem RowsOK.map {β γ : Type} {ldim : Nat} {w : World Rank} (f : γ → List β) (hf : ∀ x, (f x).length = ldim)
    {H : World (List γ)} (hH : Shaped w H) : RowsOK ldim w (H.map (·.map f)) := by
  refine ⟨by rw [List.length_map, hH.len], ?_⟩
  intro me r rw hr hrw
  rw [List.getElem?_map] at hrw
  obtain ⟨h, hh, rfl⟩ := Option.map_eq_some_iff.mp hrw
  refine ⟨by rw [List.length_map, hH.each me r h hr hh], ?_⟩
  intro x hx
  obtain ⟨v, _, rfl⟩ := List.mem_map.mp hx
  exact hf v

theorem Shaped.map {γ : Type} {w : World Rank} (φ : Rank → List γ) (h : ∀ r ∈ w, (φ r).length = r.l2g.length) :
    Shaped w (w.map φ) := by
  refine ⟨List.length_map _, fun me r x hr hx => ?_⟩
  rw [List.getElem?_map, hr, Option.map_some, Option.some.injEq] at hx
  rw [← hx]
  exact h r (List.mem_of_getElem? hr)

theorem Shaped.tab {γ : Type} (w : World Rank) (φ : Nat → Rank → Nat → γ) : Shaped w (tab w φ) := by
  refine ⟨List.length_mapIdx, fun me r h hr hh => ?_⟩
  rw [ReconParGhost.tab, List.getElem?_mapIdx, hr, Option.map_some, Option.some.injEq] at hh
  rw [← hh, List.length_map, List.length_range]

theorem wAt_map {γ : Type} (d : γ) {w : World Rank} (φ : Rank → List γ) {me : Nat} {r : Rank} (hr : w[me]? = some r)
    (i : Nat) : wAt d (w.map φ) me i = (φ r).getD i d := by
  simp only [wAt, List.getD_eq_getElem?_getD (l := w.map φ), List.getElem?_map, hr, Option.map_some, Option.getD_some]

theorem wAt_tab {γ : Type} (d : γ) {w : World Rank} (φ : Nat → Rank → Nat → γ) {me i : Nat} {r : Rank}
    (hr : w[me]? = some r) (hi : i < r.l2g.length) : wAt d (tab w φ) me i = φ me r i := by
  simp only [wAt, tab, List.getD_eq_getElem?_getD, List.getElem?_mapIdx, hr, Option.map_some, Option.getD_some,
    List.getElem?_map, List.getElem?_range hi]

/-- reading through a map of the values: no range condition, the default is mapped too -/
theorem wAt_map_map {γ δ : Type} (g : γ → δ) (d : γ) (f : World (List γ)) (me i : Nat) :
    wAt (g d) (f.map (·.map g)) me i = g (wAt d f me i) := by
  simp only [wAt, List.getD_eq_getElem?_getD, List.getElem?_map]
  cases f[me]? with
  | none => rfl
  | some h => cases hi : h[i]? <;> simp [hi]

theorem tab_congr {γ : Type} {w : World Rank} {φ ψ : Nat → Rank → Nat → γ}
    (h : ∀ (me : Nat) (r : Rank) (i : Nat), w[me]? = some r → i < r.l2g.length → φ me r i = ψ me r i) :
    tab w φ = tab w ψ :=
  List.mapIdx_eq_mapIdx_iff.mpr fun me hme =>
    List.map_congr_left fun i hi => h me _ i (List.getElem?_eq_getElem hme) (List.mem_range.mp hi)

theorem tab_map {γ δ : Type} (w : World Rank) (φ : Nat → Rank → Nat → γ) (g : γ → δ) :
    (tab w φ).map (·.map g) = tab w fun me r i => g (φ me r i) := by
  apply List.ext_getElem?
  intro me
  simp only [tab, List.getElem?_map, List.getElem?_mapIdx]
  cases w[me]? <;> simp

theorem tab_global {γ : Type} (w : World Rank) (F : Nat → γ) :
    tab w (fun _ r i => F (r.l2g.getD i 0)) = w.map fun r => r.l2g.map F := by
  apply List.ext_getElem?
  intro me
  rw [tab, List.getElem?_mapIdx, List.getElem?_map]
  cases w[me]? with
  | none => rfl
  | some r =>
    refine congrArg some (List.ext_getElem (by simp) fun i h1 _ => ?_)
    have hi : i < r.l2g.length := by simpa using h1
    simp [List.getD_eq_getElem?_getD, List.getElem?_eq_getElem hi]

structure Slot where
  rank : Nat
  idx : Nat

/-- the owned copy of the vertex stored as `(me, i)` (an owned entry is its own owner, `own_owned`) -/
def own (w : World Rank) (me i : Nat) : Slot :=
  match w[me]? with
  | none => ⟨me, i⟩
  | some r =>
    let p := r.part.getD i 0
    ⟨p, match w[p]? with
        | none => i
        | some ro => ro.l2g.idxOf (r.l2g.getD i 0)⟩

/-- the entry `own w me i` points at exists, is owned, and is the same global vertex.  This is the one place where
    owned and ghost entries are told apart. -/
theorem own_spec {w : World Rank} (hw : WorldOK w) {me i : Nat} {r : Rank} (hr : w[me]? = some r)
    (hi : i < r.l2g.length) :
    ∃ ro, w[(own w me i).rank]? = some ro ∧ r.part[i]? = some (own w me i).rank ∧
      ro.part[(own w me i).idx]? = some (own w me i).rank ∧ ro.l2g[(own w me i).idx]? = r.l2g[i]? := by
  have hrm := List.mem_of_getElem? hr
  have hp : r.part[i]? = some (r.part.getD i 0) := by
    rw [List.getD_eq_getElem?_getD, List.getElem?_eq_getElem (by rw [hw.partLen r hrm]; exact hi)]
    rfl
  obtain ⟨ro, j, hro, hj, hpj⟩ : ∃ ro j, w[r.part.getD i 0]? = some ro ∧ ro.l2g[j]? = r.l2g[i]? ∧
      ro.part[j]? = some (r.part.getD i 0) := by
    by_cases hpm : r.part.getD i 0 = me
    · exact ⟨r, i, hpm ▸ hr, rfl, hp⟩
    · exact hw.owner me r hr i _ hp hpm
  have hjl := lt_of_getElem?_eq hi hj
  have hidx : ro.l2g.idxOf (r.l2g.getD i 0) = j := by
    rw [List.getD_eq_getElem?_getD, ← hj, List.getElem?_eq_getElem hjl, Option.getD_some]
    exact (hw.nodup ro (List.mem_of_getElem? hro)).idxOf_getElem j hjl
  have e : own w me i = ⟨r.part.getD i 0, j⟩ := by simp only [own, hr, hro, hidx]
  rw [e]
  exact ⟨ro, hro, hp, hpj, hj⟩

theorem own_owned {w : World Rank} (hw : WorldOK w) {me i : Nat} {r : Rank} (hr : w[me]? = some r)
    (hp : r.part[i]? = some me) : own w me i = ⟨me, i⟩ := by
  have hrm := List.mem_of_getElem? hr
  have hi := hw.lt_of_part hr hp
  have hpd : r.part.getD i 0 = me := by rw [List.getD_eq_getElem?_getD, hp]; rfl
  have hg : r.l2g.getD i 0 = r.l2g[i] := by
    rw [List.getD_eq_getElem?_getD, List.getElem?_eq_getElem hi]; rfl
  simp only [own, hr, hpd, hg, (hw.nodup r hrm).idxOf_getElem i hi]

theorem own_lt {γ : Type} {w : World Rank} (hw : WorldOK w) {f : World (List γ)} (hf : Shaped w f) {me i : Nat}
    {r : Rank} (hr : w[me]? = some r) (hi : i < r.l2g.length) :
    ∃ hp : (own w me i).rank < f.length, (own w me i).idx < f[(own w me i).rank].length := by
  obtain ⟨ro, hro, -, -, hj⟩ := own_spec hw hr hi
  have hp : (own w me i).rank < f.length := hf.len ▸ (List.getElem?_eq_some_iff.mp hro).1
  exact ⟨hp, by rw [hf.each _ ro _ hro (List.getElem?_eq_getElem hp)]; exact lt_of_getElem?_eq hi hj⟩

/-- what a refresh makes of an array: every stored copy takes the value of its owned copy -/
def fromOwners {γ : Type} (d : γ) (w : World Rank) (f : World (List γ)) : World (List γ) :=
  tab w fun me _ i => wAt d f (own w me i).rank (own w me i).idx

theorem Shaped.fromOwners {γ : Type} (d : γ) (w : World Rank) (f : World (List γ)) : Shaped w (fromOwners d w f) :=
  Shaped.tab w _

theorem wAt_fromOwners {γ : Type} (d : γ) {w : World Rank} (f : World (List γ)) {me i : Nat} {r : Rank}
    (hr : w[me]? = some r) (hi : i < r.l2g.length) :
    wAt d (fromOwners d w f) me i = wAt d f (own w me i).rank (own w me i).idx :=
  wAt_tab d _ hr hi

theorem wAt_fromOwners_owned {γ : Type} (d : γ) {w : World Rank} (hw : WorldOK w) (f : World (List γ)) {me i : Nat}
    {r : Rank} (hr : w[me]? = some r) (hp : r.part[i]? = some me) :
    wAt d (fromOwners d w f) me i = wAt d f me i := by
  rw [wAt_fromOwners d f hr (hw.lt_of_part hr hp), own_owned hw hr hp]

theorem fromOwners_forall {γ : Type} (d : γ) {w : World Rank} (hw : WorldOK w) {f : World (List γ)} (hf : Shaped w f)
    {P : γ → Prop} (hP : ∀ o ∈ f, ∀ m ∈ o, P m) : ∀ o ∈ fromOwners d w f, ∀ m ∈ o, P m := by
  intro o ho m hm
  obtain ⟨me, hme, rfl⟩ := List.getElem_of_mem ho
  simp only [fromOwners, tab, List.getElem_mapIdx, List.mem_map, List.mem_range] at hm
  obtain ⟨i, hi, rfl⟩ := hm
  obtain ⟨hp, hj⟩ := own_lt hw hf (List.getElem?_eq_getElem (by simpa [fromOwners, tab] using hme)) hi
  rw [wAt_eq_getElem d hp hj]
  exact hP _ (List.getElem_mem hp) _ (List.getElem_mem hj)

theorem fromOwners_of_owned {γ : Type} (d : γ) {w : World Rank} (hw : WorldOK w) (f : World (List γ)) (F : Nat → γ)
    (hF : ∀ (me : Nat) (r : Rank) (i : Nat), w[me]? = some r → r.part[i]? = some me →
      wAt d f me i = F (r.l2g.getD i 0)) :
    fromOwners d w f = w.map fun r => r.l2g.map F := by
  rw [← tab_global]
  refine tab_congr fun me r i hr hi => ?_
  obtain ⟨ro, hro, -, hpj, hj⟩ := own_spec hw hr hi
  rw [hF _ ro _ hro hpj, List.getD_eq_getElem?_getD, hj, ← List.getD_eq_getElem?_getD]

theorem RowsOK.fromOwners {β : Type} {ldim : Nat} {w : World Rank} (hw : WorldOK w) {rows : World (List (List β))}
    (h : RowsOK ldim w rows) : RowsOK ldim w (fromOwners [] w rows) := by
  have hs := Shaped.fromOwners [] w rows
  refine ⟨hs.len, fun me r rw hr hrw => ⟨hs.each me r rw hr hrw, ?_⟩⟩
  exact fromOwners_forall [] hw h.shaped
    (fun o ho m hm => by
      obtain ⟨k, hk, rfl⟩ := List.getElem_of_mem ho
      exact (h.each k _ _ (List.getElem?_eq_getElem (h.len ▸ hk)) (List.getElem?_eq_getElem hk)).2 m hm)
    rw (List.mem_of_getElem? hrw)

variable {β : Type}

theorem toGNodes_length (r : Rank) (rw : List (List β)) : (toGNodes r rw).length = r.l2g.length := by
  simp [toGNodes, Rank.n]

theorem toGNodes_getElem? (r : Rank) (rw : List (List β)) (i : Nat) (hi : i < r.l2g.length) :
    (toGNodes r rw)[i]? =
      some ⟨((r.l2g.getD i 0 : Nat) : Int), ((r.part.getD i 0 : Nat) : Int), rw.getD i []⟩ := by
  simp [toGNodes, Rank.n, hi]

theorem mem_toGNodes {r : Rank} {rw : List (List β)} {nd : GNode β} (h : nd ∈ toGNodes r rw) :
    ∃ i, i < r.l2g.length ∧
      nd = ⟨((r.l2g.getD i 0 : Nat) : Int), ((r.part.getD i 0 : Nat) : Int), rw.getD i []⟩ := by
  simp only [toGNodes, Rank.n, List.mem_map, List.mem_range] at h
  obtain ⟨i, hi, rfl⟩ := h
  exact ⟨i, hi, rfl⟩

theorem toGNodes_globs (r : Rank) (rw : List (List β)) :
    (toGNodes r rw).map (·.glob) = r.l2g.map fun (g : Nat) => (g : Int) := by
  apply List.ext_getElem?
  intro i
  simp only [toGNodes, Rank.n, List.map_map, List.getElem?_map]
  by_cases hi : i < r.l2g.length
  · simp [List.getElem?_range hi, List.getElem?_eq_getElem hi, List.getD_eq_getElem?_getD]
  · rw [List.getElem?_eq_none (by simpa using hi), List.getElem?_eq_none (by omega)]; rfl

theorem toGNodes_nodup (r : Rank) (rw : List (List β)) (h : r.l2g.Nodup) : ((toGNodes r rw).map (·.glob)).Nodup := by
  rw [toGNodes_globs]
  exact h.map (fun a b hab => by exact_mod_cast hab)

def gw (w : World Rank) (rows : World (List (List β))) : World (List (GNode β)) := List.zipWith toGNodes w rows

theorem gw_length {w : World Rank} {rows : World (List (List β))} (h : rows.length = w.length) :
    (gw w rows).length = w.length := by
  simp [gw, h]

theorem gw_getElem? {w : World Rank} {rows : World (List (List β))} {me : Nat} {r : Rank} {rw : List (List β)}
    (hr : w[me]? = some r) (hrw : rows[me]? = some rw) : (gw w rows)[me]? = some (toGNodes r rw) := by
  simp [gw, List.getElem?_zipWith, hr, hrw]

theorem gw_lengths {w : World Rank} {rows : World (List (List β))} (h : rows.length = w.length) :
    (gw w rows).map List.length = w.map fun r => r.l2g.length :=
  List.ext_getElem (by simp [gw, h]) fun i _ _ => by simp [gw, toGNodes_length]

theorem gw_ok {ldim : Nat} (hl : ldim ≤ 6) {w : World Rank} {rows : World (List (List β))} (hw : WorldOK w)
    (hrows : RowsOK ldim w rows) :
    (∀ nodes ∈ gw w rows, (nodes.map (·.glob)).Nodup) ∧ GhostsOwned ldim (gw w rows) ∧ SizesOk ldim (gw w rows) := by
  have hlen := gw_length hrows.len
  have hget : ∀ me (hme : me < (gw w rows).length),
      (gw w rows)[me] = toGNodes (w[me]'(hlen ▸ hme)) (rows[me]'(hrows.len ▸ hlen ▸ hme)) :=
    fun me hme => List.getElem_zipWith ..
  refine ⟨fun nodes hn => ?_, ghostsOwned_of_nat fun me hme nd hmem _ => ?_, SizesOk.of_total ?_⟩
  · obtain ⟨me, hme, rfl⟩ := List.getElem_of_mem hn
    rw [hget me hme]
    exact toGNodes_nodup _ _ (hw.nodup _ (List.getElem_mem _))
  · -- the owned copy of an entry is an entry of the owner's table, with a row of `ldim` values
    have hr := List.getElem?_eq_getElem (hlen ▸ hme)
    rw [hget me hme] at hmem
    obtain ⟨i, hi, rfl⟩ := mem_toGNodes hmem
    obtain ⟨ro, hro, hp, -, hj⟩ := own_spec hw hr hi
    obtain ⟨hpl, rfl⟩ := List.getElem?_eq_some_iff.mp hro
    have hpr : (own w me i).rank < rows.length := hrows.len ▸ hpl
    have hjl := lt_of_getElem?_eq hi hj
    obtain ⟨hl1, hl2⟩ := hrows.each _ _ _ hro (List.getElem?_eq_getElem hpr)
    have hod := List.mem_of_getElem? (toGNodes_getElem? w[(own w me i).rank] rows[(own w me i).rank] _ hjl)
    rw [← hget _ (hlen ▸ hpl)] at hod
    refine ⟨(own w me i).rank, hlen ▸ hpl, by simp only [List.getD_eq_getElem?_getD, hp, Option.getD_some], _, hod, ?_, ?_⟩
    · simp only [List.getD_eq_getElem?_getD, hj]
    · simp only [Refine.ListFacts.getD_eq_getElem (hl1 ▸ hjl)]
      exact hl2 _ (List.getElem_mem _)
  · rw [gw_lengths hrows.len]
    refine le_trans (Int.mul_le_mul_of_nonneg_right ?_ (Int.natCast_nonneg _)) hw.small
    have : max 1 ldim ≤ 6 := by omega
    exact_mod_cast this

/-- **ghost refresh of per-vertex rows**: the exchange completes and every stored copy gets the row of its owned copy.
    `DistGhostFull.ghost_full` gives the result of `Dist.ghost` on `gw w rows` as an explicit `mapIdx` (`refreshed`); it
    is read entry by entry.
    At `β = ℝ` callers name the instance (`@ghostRows_spec ℝ Scalar.instInhabited …`): `ghostV3` / `ghostM6` are
    elaborated with the `Inhabited` that `Scalar` provides, while instance search at `ℝ` finds `Real.instInhabited`,
    and the two are not reducibly equal. -/
theorem ghostRows_spec [Inhabited β] (ty : RefType) (hty : ty.mpiOk = true) (ldim : Nat) (hl : ldim ≤ 6)
    (w : World Rank) (rows : World (List (List β))) (hw : WorldOK w) (hrows : RowsOK ldim w rows) :
    ghostRows ty ldim w rows = some (fromOwners [] w rows) := by
  obtain ⟨hnd, hown, hsz⟩ := gw_ok hl hw hrows
  unfold ghostRows
  rw [show List.zipWith toGNodes w rows = gw w rows from rfl,
    ghost_full ty hty ldim (gw w rows) hnd hown hsz, Option.map_some, Option.some.injEq, refreshed]
  apply List.ext_getElem?
  intro me
  simp only [fromOwners, tab, List.getElem?_map, List.getElem?_mapIdx]
  by_cases hme : me < w.length
  · have hr := List.getElem?_eq_getElem hme
    have hrw := List.getElem?_eq_getElem (hrows.len ▸ hme)
    rw [gw_getElem? hr hrw, hr]
    simp only [Option.map_some, Option.some.injEq, List.map_map]
    apply List.ext_getElem?
    intro i
    by_cases hi : i < w[me].l2g.length
    · obtain ⟨ro, hro, hp, -, hj⟩ := own_spec hw hr hi
      obtain ⟨hpl, rfl⟩ := List.getElem?_eq_some_iff.mp hro
      have hpr : (own w me i).rank < rows.length := hrows.len ▸ hpl
      have hrp := List.getElem?_eq_getElem hpr
      have hpe : w[me].part.getD i 0 = (own w me i).rank := by rw [List.getD_eq_getElem?_getD, hp]; rfl
      rw [List.getElem?_map, toGNodes_getElem? _ _ i hi, List.getElem?_map, List.getElem?_range hi]
      simp only [Option.map_some, Option.some.injEq, Function.comp, refreshNode]
      by_cases hpm : (own w me i).rank = me
      · rw [if_pos (by simp only [hpe, hpm]), own_owned hw hr (hp.trans (congrArg some hpm))]
        simp only [wAt, List.getD_eq_getElem?_getD, hrw, Option.getD_some]
      · rw [if_neg (by simp only [hpe]; exact_mod_cast hpm)]
        -- the owner's table, as `ghost` looks it up: its ids are distinct and it has the owned copy of the vertex
        have hod : (gw w rows).getD ((own w me i).rank : Int).toNat [] =
            toGNodes w[(own w me i).rank] rows[(own w me i).rank] := by
          rw [Int.toNat_natCast, List.getD_eq_getElem?_getD, gw_getElem? hro hrp, Option.getD_some]
        have hnd := toGNodes_nodup w[(own w me i).rank] rows[(own w me i).rank] (hw.nodup _ (List.getElem_mem hpl))
        have hmem := List.mem_of_getElem?
          (toGNodes_getElem? w[(own w me i).rank] rows[(own w me i).rank] _ (lt_of_getElem?_eq hi hj))
        rw [ownerVals_of_mem (od := ⟨_, _, _⟩) (by simp only [hpe, hod]; exact hnd) (by simp only [hpe, hod]; exact hmem)
          (by simp only [List.getD_eq_getElem?_getD, hj])]
        simp only [wAt, List.getD_eq_getElem?_getD, hrp, Option.getD_some]
    · rw [List.getElem?_eq_none (by simp [toGNodes_length]; omega),
        List.getElem?_eq_none (by simp; omega)]
  · rw [List.getElem?_eq_none (by rw [gw_length hrows.len]; omega), List.getElem?_eq_none (by omega)]
    rfl

/-- the refresh of an array of values sent as rows of `ldim` scalars (`ghostV3`, `ghostM6`) -/
theorem ghostCoded_spec [Inhabited β] {γ : Type} (ty : RefType) (hty : ty.mpiOk = true) (ldim : Nat) (hl : ldim ≤ 6)
    (enc : γ → List β) (dec : List β → γ) (hdec : ∀ x, dec (enc x) = x) (hlen : ∀ x, (enc x).length = ldim)
    (d : γ) (w : World Rank) (hw : WorldOK w) (f : World (List γ)) (hf : Shaped w f) :
    (ghostRows ty ldim w (f.map (·.map enc))).map (·.map (·.map dec)) = some (fromOwners d w f) := by
  rw [ghostRows_spec ty hty ldim hl w _ hw (RowsOK.map enc hlen hf), Option.map_some,
    Option.some.injEq, fromOwners, tab_map]
  refine tab_congr fun me r i hr hi => ?_
  obtain ⟨hp, hj⟩ := own_lt hw hf hr hi
  rw [wAt_eq_getElem d hp hj, wAt_eq_getElem [] (by rw [List.length_map]; exact hp) (by simpa using hj)]
  simp only [List.getElem_map, hdec]

end Refine.ReconParGhost
