import Refine.Model.Sol
import Refine.Lemmas.Comm
import Refine.Lemmas.CodecWords

/-!
  The chunk loop of the node-field readers (`Refine.Model.Sol.readLoop`) stores exactly what one pass over the whole
  row list stores, for every chunk size ≥ 1 and every rank count.
-/
namespace Refine.Lemmas.Sol
open Refine.Model.Meshb Refine.Model.Sol
open Refine.Model.Comm (World RefType writeAt bcast mpiBcast)

/-- the two `(REF_INT)` casts in the readers' chunk change nothing for a count and a floor that an `int` holds -/
theorem chunkOfR_eq {floor nnode : Int} {np : Nat} (hf : floor < 2 ^ 31) (h0 : 0 ≤ nnode)
    (h2 : nnode < 2 ^ 31) : chunkOfR floor nnode np = min (max floor (Int.tdiv nnode np)) nnode := by
  have hd0 : 0 ≤ Int.tdiv nnode np := Int.tdiv_nonneg h0 (Int.natCast_nonneg _)
  have hd : Int.tdiv nnode np ≤ nnode := Int.tdiv_le_self (b := (np : Int)) h0
  unfold chunkOfR
  rw [Refine.Lemmas.Codec.wrap32_of_int32 (x := max floor _) (by unfold int32; omega),
    Refine.Lemmas.Codec.wrap32_of_int32 (by unfold int32; omega)]

/-- `rd` reads rows sequentially from a stream whose remaining rows are `view s` -/
def RowStream {σ : Type} (rd : Nat → σ → Except Status (List Row × σ)) (view : σ → List Row) : Prop :=
  ∀ k s, k ≤ (view s).length → ∃ s', rd k s = .ok ((view s).take k, s') ∧ view s' = (view s).drop k

theorem scatterRows_append (dup : Bool) (nnode : Int) (gl : List Nat) (a b : List Row) (g : Int) (arr : List Row) :
    scatterRows dup nnode gl g (a ++ b) arr =
      scatterRows dup nnode gl (g + a.length) b (scatterRows dup nnode gl g a arr) := by
  induction a generalizing g arr with
  | nil => simp [scatterRows]
  | cons x xs ih =>
    simp only [List.cons_append, scatterRows, List.length_cons]
    rw [ih]
    congr 1
    push_cast
    omega

/-- what `ref_mpi_bcast` leaves in every rank's buffer starts with the rows rank 0 read -/
theorem bcast_rows (chunk : Nat) (rows : List Row) (buf0 : List Row) (rest : List (List Row))
    (hle : rows.length ≤ chunk) :
    ∀ x ∈ bcast RefType.dbl chunk (writeAt buf0 0 rows :: rest), x.1 = Refine.Model.Comm.Status.ok ∧
      x.2.take rows.length = rows := by
  rw [Refine.Lemmas.Comm.bcast_eq RefType.dbl rfl]
  intro x hx
  obtain ⟨d, _, rfl⟩ := List.mem_map.1 hx
  refine ⟨rfl, ?_⟩
  simp [writeAt, List.take_append, List.take_of_length_le hle]

/-- every rank stores `rows` from global `read` on; the globals stay (`v`: globals and node array of every rank, the
    bounce buffer left out) -/
def storeAll (dup : Bool) (nnode read : Int) (rows : List Row) (v : List (List Nat × List Row)) :
    List (List Nat × List Row) :=
  v.map fun p => (p.1, scatterRows dup nnode p.1 read rows p.2)

theorem storeAll_append (dup : Bool) (nnode read : Int) (a b : List Row) (v : List (List Nat × List Row)) :
    storeAll dup nnode (read + a.length) b (storeAll dup nnode read a v) = storeAll dup nnode read (a ++ b) v := by
  simp only [storeAll, List.map_map, Function.comp_def, scatterRows_append]

theorem chunkStep_eq (dup : Bool) (nnode read : Int) (chunk : Nat) (rows : List Row) (w : World Rank)
    (hle : rows.length ≤ chunk) :
    ∃ w', chunkStep dup nnode read chunk rows w = .ok w' ∧
      w'.map (fun st => (st.globals, st.arr)) = storeAll dup nnode read rows (w.map fun st => (st.globals, st.arr)) := by
  cases w with
  | nil => exact ⟨[], rfl, rfl⟩
  | cons st0 rest =>
    have hb := bcast_rows chunk rows st0.buf (rest.map (·.buf)) hle
    have hlen : (bcast RefType.dbl chunk (writeAt st0.buf 0 rows :: rest.map (·.buf))).length = (st0 :: rest).length := by
      rw [Refine.Lemmas.Comm.bcast_eq RefType.dbl rfl]; simp
    simp only [chunkStep]
    generalize bcast RefType.dbl chunk (writeAt st0.buf 0 rows :: rest.map (·.buf)) = b at hb hlen
    rw [if_neg (by
      rw [List.any_eq_true]
      rintro ⟨x, hx, hne⟩
      simp [(hb x hx).1] at hne)]
    refine ⟨_, rfl, ?_⟩
    rw [storeAll, List.map_map, List.map_map]
    conv => rhs; rw [← List.map_fst_zip (l₁ := st0 :: rest) (l₂ := b) (Nat.le_of_eq hlen.symm), List.map_map]
    refine List.map_congr_left fun p hp => ?_
    simp only [Function.comp_def, (hb p.2 (List.of_mem_zip hp).2).2]

/-- **the chunk loop equals one pass**: for every chunk size ≥ 1 (and every rank count — `w` is arbitrary) the loop
    terminates with status ok and has stored on every rank rows `read, read+1, …, nnode-1` of the stream, each
    once, in order -/
theorem readLoop_eq {σ : Type} (rd : Nat → σ → Except Status (List Row × σ)) (view : σ → List Row)
    (hrd : RowStream rd view) (dup : Bool) (nnode chunk : Int) (hchunk : 1 ≤ chunk) :
    ∀ (fuel : Nat) (read : Int) (s : σ) (w : World Rank), 0 ≤ read → nnode - read < fuel →
      nnode - read ≤ (view s).length →
      ∃ w' s', readLoop dup nnode nnode chunk rd fuel read s w = .ok (w', s') ∧
        w'.map (fun st => (st.globals, st.arr)) =
          storeAll dup nnode read ((view s).take (nnode - read).toNat) (w.map fun st => (st.globals, st.arr)) := by
  have hstop : ∀ (read : Int) (s : σ) (w : World Rank), ¬ read < nnode →
      w.map (fun st => (st.globals, st.arr)) =
        storeAll dup nnode read ((view s).take (nnode - read).toNat) (w.map fun st => (st.globals, st.arr)) := by
    intro read s w hlt
    rw [show (nnode - read).toNat = 0 by omega, List.take_zero, storeAll]
    exact (List.map_id' _).symm
  intro fuel
  induction fuel with
  | zero =>
    intro read s w h0 hf _
    unfold readLoop
    rw [if_neg (by omega)]
    exact ⟨w, s, rfl, hstop read s w (by omega)⟩
  | succ fuel ih =>
    intro read s w h0 hf hlen
    unfold readLoop
    by_cases hlt : read < nnode
    · rw [if_pos hlt]
      dsimp only
      obtain ⟨k, hk, hk1, hkc, hkn⟩ : ∃ k : Nat, min chunk (nnode - read) = k ∧ 1 ≤ k ∧ (k : Int) ≤ chunk ∧
          (k : Int) ≤ nnode - read := ⟨(min chunk (nnode - read)).toNat, by omega, by omega, by omega, by omega⟩
      rw [hk, Int.toNat_natCast]
      obtain ⟨s1, hr, hv⟩ := hrd k s (by omega)
      rw [hr]
      dsimp only
      obtain ⟨w1, hc, hw1⟩ := chunkStep_eq dup nnode read chunk.toNat ((view s).take k) w
        (by rw [List.length_take]; omega)
      rw [hc]
      dsimp only
      obtain ⟨w2, s2, h2, hw2⟩ := ih (read + k) s1 w1 (by omega) (by omega) (by rw [hv, List.length_drop]; omega)
      refine ⟨w2, s2, h2, ?_⟩
      have hlk : ((List.take k (view s)).length : Int) = k := by rw [List.length_take]; omega
      rw [hw2, hw1, hv, ← hlk, storeAll_append, hlk,
        show (nnode - read).toNat = k + (nnode - (read + k)).toNat by omega, List.take_add]
    · rw [if_neg hlt]
      exact ⟨w, s, rfl, hstop read s w hlt⟩

end Refine.Lemmas.Sol
