import Refine.Lemmas.ReconParHess
import Refine.Props.C19
import Mathlib.Tactic.NormNum

/-!
  The counter-example behind `C19Par.l2hessian_single_exchange_differs`: two tets sharing a face,
  `A = (v0,v1,v2,v3)` the unit tet and `B = (v1,v2,v3,v4)` with `v4 = (1,1,1)`, the quadratic field
  `f = 1 + 2x + 3y + 4z + (xy + yz + zx)/3` (nodal values 1, 3, 4, 5, 11).  Serial L2 Hessian at `v0`: every entry
  `1/3`.  On the 2-rank world where rank 0 owns `v0` only (and stores tet `A`), the variant WITHOUT the intermediate
  refresh gives the zero Hessian at the owned vertex `v0`.
-/
namespace Refine.ReconParCounter
open Refine Refine.Model.Geom Refine.Model.Recon Refine.Model.ReconPar Refine.ScalarReal Refine.GeomReal
open Refine.ReconReal Refine.ReconParAcc Refine.ReconParGhost Refine.ReconParMesh Refine.ReconParHess
open Refine.Model.Comm (World RefType)

def cxyz : List (V3 ℝ) := [⟨0, 0, 0⟩, ⟨1, 0, 0⟩, ⟨0, 1, 0⟩, ⟨0, 0, 1⟩, ⟨1, 1, 1⟩]
def cfld : List ℝ := [1, 3, 4, 5, 11]
def tA : Tet := ⟨0, 1, 2, 3⟩
def tB : Tet := ⟨1, 2, 3, 4⟩

theorem volB : tetVol (⟨1, 0, 0⟩ : V3 ℝ) ⟨0, 1, 0⟩ ⟨0, 0, 1⟩ ⟨1, 1, 1⟩ = 1 / 3 := by
  simp only [tetVol, add_eq, sub_eq, mul_eq, div_eq, neg_eq, ofInt_eq]; norm_num

theorem big : (1 : ℝ) < (10 : ℝ) ^ (20 : ℤ) := by norm_num

theorem sAt_cfld : sAt cfld 0 = 1 ∧ sAt cfld 1 = 3 ∧ sAt cfld 2 = 4 ∧ sAt cfld 3 = 5 ∧ sAt cfld 4 = 11 := by
  simp [sAt, cfld]

theorem contribA (s : List ℝ)
    (h1 : |sAt s 1 - sAt s 0| < (10 : ℝ) ^ (20 : ℤ)) (h2 : |sAt s 2 - sAt s 0| < (10 : ℝ) ^ (20 : ℤ))
    (h3 : |sAt s 3 - sAt s 0| < (10 : ℝ) ^ (20 : ℤ)) :
    tetContrib cxyz s tA =
      ⟨[0, 1, 2, 3], St.ok, 1 / 6, ⟨sAt s 1 - sAt s 0, sAt s 2 - sAt s 0, sAt s 3 - sAt s 0⟩⟩ := by
  have hv : tetVol (xyzAt cxyz tA.n0) (xyzAt cxyz tA.n1) (xyzAt cxyz tA.n2) (xyzAt cxyz tA.n3) = 1 / 6 :=
    Refine.Props.C19.tetVol_unit
  rw [Refine.Props.C19.tetContrib_linear_ok (α := sAt s 0)
    (g := ⟨sAt s 1 - sAt s 0, sAt s 2 - sAt s 0, sAt s 3 - sAt s 0⟩)
    (by simp [LinearOnTet, tA, xyzAt, cxyz, vdot]) (by rw [hv]; norm_num) h1 h2 h3, hv]
  rfl

theorem contribB : tetContrib cxyz cfld tB = ⟨[1, 2, 3, 4], St.ok, 1 / 3, ⟨5 / 2, 7 / 2, 9 / 2⟩⟩ := by
  have hv : tetVol (xyzAt cxyz tB.n0) (xyzAt cxyz tB.n1) (xyzAt cxyz tB.n2) (xyzAt cxyz tB.n3) = 1 / 3 := volB
  rw [Refine.Props.C19.tetContrib_linear_ok (α := 1 / 2) (g := ⟨5 / 2, 7 / 2, 9 / 2⟩)
    (by simp [LinearOnTet, tB, xyzAt, cxyz, vdot, sAt, cfld]; norm_num)
    (by rw [hv]; norm_num) (by norm_num) (by norm_num) (by norm_num), hv]
  rfl

theorem grad_at_v0 (s : List ℝ)
    (h1 : |sAt s 1 - sAt s 0| < (10 : ℝ) ^ (20 : ℤ)) (h2 : |sAt s 2 - sAt s 0| < (10 : ℝ) ^ (20 : ℤ))
    (h3 : |sAt s 3 - sAt s 0| < (10 : ℝ) ^ (20 : ℤ)) :
    (l2gradTets cxyz s [tA, tB]).2[0]? = some ⟨sAt s 1 - sAt s 0, sAt s 2 - sAt s 0, sAt s 3 - sAt s 0⟩ := by
  unfold l2gradTets
  rw [project_getElem? _ _ 0 (by simp [cxyz])]
  have hB : mult (tetContrib cxyz s tB) 0 = 0 := by
    apply mult_of_not_touches
    simp [touches, tetContrib, tB]
  have hA : mult (tetContrib cxyz s tA) 0 = 1 := by
    rw [contribA s h1 h2 h3]; simp [mult]
  have hs : sums [tetContrib cxyz s tA, tetContrib cxyz s tB] 0 =
      ⟨1 / 6 * (sAt s 1 - sAt s 0), 1 / 6 * (sAt s 2 - sAt s 0), 1 / 6 * (sAt s 3 - sAt s 0), 1 / 6⟩ := by
    simp only [sums, S, List.map_cons, List.map_nil, List.sum_cons, List.sum_nil, hA, hB, zero_mul, add_zero, one_mul]
    rw [contribA s h1 h2 h3]
  simp only [List.map_cons, List.map_nil, hs]
  congr 1
  have := finishNode_lin_ok (g := ⟨sAt s 1 - sAt s 0, sAt s 2 - sAt s 0, sAt s 3 - sAt s 0⟩)
    (x := ⟨1 / 6 * (sAt s 1 - sAt s 0), 1 / 6 * (sAt s 2 - sAt s 0), 1 / 6 * (sAt s 3 - sAt s 0), 1 / 6⟩)
    ⟨rfl, rfl, rfl⟩ (by norm_num) h1 h2 h3
  rw [this]

theorem grad_at_shared (k : Nat) (hk : k = 1 ∨ k = 2 ∨ k = 3) :
    (l2gradTets cxyz cfld [tA, tB]).2[k]? = some ⟨7 / 3, 10 / 3, 13 / 3⟩ := by
  obtain ⟨s0, s1, s2, s3, -⟩ := sAt_cfld
  have cA := contribA cfld (by rw [s1, s0]; norm_num) (by rw [s2, s0]; norm_num) (by rw [s3, s0]; norm_num)
  rw [s0, s1, s2, s3] at cA
  unfold l2gradTets
  have hklt : k < cxyz.length := by rcases hk with rfl | rfl | rfl <;> simp [cxyz]
  rw [project_getElem? _ _ k hklt]
  have hA : mult (tetContrib cxyz cfld tA) k = 1 := by
    rw [cA]; rcases hk with rfl | rfl | rfl <;> simp [mult]
  have hB : mult (tetContrib cxyz cfld tB) k = 1 := by
    rw [contribB]; rcases hk with rfl | rfl | rfl <;> simp [mult]
  have hs : sums [tetContrib cxyz cfld tA, tetContrib cxyz cfld tB] k = ⟨7 / 6, 5 / 3, 13 / 6, 1 / 2⟩ := by
    simp only [sums, S, List.map_cons, List.map_nil, List.sum_cons, List.sum_nil, hA, hB, one_mul, add_zero]
    rw [cA, contribB]
    apply NodeAcc.ext' <;> norm_num
  simp only [List.map_cons, List.map_nil, hs]
  congr 1
  unfold finishNode
  have d1 : Scalar.divisible (7 / 6 : ℝ) (1 / 2) = true := by rw [divisible_iff']; norm_num [abs_of_pos]
  have d2 : Scalar.divisible (5 / 3 : ℝ) (1 / 2) = true := by rw [divisible_iff']; norm_num [abs_of_pos]
  have d3 : Scalar.divisible (13 / 6 : ℝ) (1 / 2) = true := by rw [divisible_iff']; norm_num [abs_of_pos]
  simp only [d1, d2, d3, Bool.and_self, if_true, div_eq]
  norm_num

theorem grad_at_0 : (l2gradTets cxyz cfld [tA, tB]).2[0]? = some ⟨2, 3, 4⟩ := by
  obtain ⟨s0, s1, s2, s3, -⟩ := sAt_cfld
  have := grad_at_v0 cfld (by rw [s1, s0]; norm_num) (by rw [s2, s0]; norm_num) (by rw [s3, s0]; norm_num)
  rw [s0, s1, s2, s3] at this
  rw [this]
  norm_num

theorem second_at_v0 (F : List ℝ) (a : ℝ) (h0 : sAt F 0 = a) (h1 : sAt F 1 = a + 1 / 3) (h2 : sAt F 2 = a + 1 / 3)
    (h3 : sAt F 3 = a + 1 / 3) : (l2gradTets cxyz F [tA, tB]).2[0]? = some ⟨1 / 3, 1 / 3, 1 / 3⟩ := by
  have e : ∀ b : ℝ, b = a + 1 / 3 → b - a = 1 / 3 := by intro b hb; rw [hb]; ring
  have := grad_at_v0 F (by rw [h1, h0, e _ rfl]; norm_num) (by rw [h2, h0, e _ rfl]; norm_num)
    (by rw [h3, h0, e _ rfl]; norm_num)
  rw [h0, h1, h2, h3, e _ rfl] at this
  exact this

def cCells : List Cell := [⟨CellKind.tet, [0, 1, 2, 3]⟩, ⟨CellKind.tet, [1, 2, 3, 4]⟩]

theorem allTets_cCells : allTets cCells = [tA, tB] := by decide

theorem serial_hessian_v0 : (l2hessian false cxyz cfld cCells)[0]? = some ⟨1 / 3, 1 / 3, 1 / 3, 1 / 3, 1 / 3, 1 / 3⟩ := by
  have hG : ∀ f, l2grad false cxyz f cCells = l2gradTets cxyz f [tA, tB] := by
    intro f; simp only [l2grad, Bool.false_eq_true, if_false, allTets_cCells]
  unfold l2hessian
  rw [hessianOf_assemble]
  simp only [hG]
  set G := (l2gradTets cxyz cfld [tA, tB]).2 with hGdef
  have hlen : G.length = 5 := by rw [hGdef]; unfold l2gradTets; rw [length_project]; rfl
  have g0 := grad_at_0
  have g1 := grad_at_shared 1 (Or.inl rfl)
  have g2 := grad_at_shared 2 (Or.inr (Or.inl rfl))
  have g3 := grad_at_shared 3 (Or.inr (Or.inr rfl))
  rw [← hGdef] at g0 g1 g2 g3
  have comp : ∀ (π : V3 ℝ → ℝ) (k : Nat) (v : V3 ℝ), G[k]? = some v → sAt (G.map π) k = π v := by
    intro π k v hv
    simp [sAt, List.getD_eq_getElem?_getD, List.getElem?_map, hv]
  have hx := second_at_v0 (G.map (·.x)) 2 (comp _ 0 _ g0) (by rw [comp _ 1 _ g1]; norm_num)
    (by rw [comp _ 2 _ g2]; norm_num) (by rw [comp _ 3 _ g3]; norm_num)
  have hy := second_at_v0 (G.map (·.y)) 3 (comp _ 0 _ g0) (by rw [comp _ 1 _ g1]; norm_num)
    (by rw [comp _ 2 _ g2]; norm_num) (by rw [comp _ 3 _ g3]; norm_num)
  have hz := second_at_v0 (G.map (·.z)) 4 (comp _ 0 _ g0) (by rw [comp _ 1 _ g1]; norm_num)
    (by rw [comp _ 2 _ g2]; norm_num) (by rw [comp _ 3 _ g3]; norm_num)
  unfold assemble
  rw [List.getElem?_map, hlen, List.getElem?_range (by norm_num), Option.map_some]
  simp only [List.getD_eq_getElem?_getD, hx, hy, hz, Option.getD_some, half_eq, add_eq, mul_eq]
  norm_num

/-- rank 0 owns `v0` only and stores tet `A` (three ghosts) -/
def exRank0 : Rank := ⟨[0, 1, 2, 3], [0, 1, 1, 1], [⟨CellKind.tet, [0, 1, 2, 3]⟩], []⟩
/-- rank 1 owns `v1..v4` and stores both tets in a shuffled local numbering, `v0` as a ghost -/
def exRank1 : Rank :=
  ⟨[1, 2, 3, 4, 0], [1, 1, 1, 1, 0], [⟨CellKind.tet, [0, 1, 2, 3]⟩, ⟨CellKind.tet, [4, 0, 1, 2]⟩], []⟩
def exRankEmpty : Rank := ⟨[], [], [], []⟩

def exWorld2 : World Rank := [exRank0, exRank1]
def exWorld3 : World Rank := [exRank0, exRank1, exRankEmpty]

theorem exWorlds_ok : DistOK false 5 cCells exWorld2 ∧ DistOK false 5 cCells exWorld3 := by
  constructor <;>
  · refine ⟨⟨by decide, by decide, owner_of_stored (by decide), by decide⟩, by decide, ?_, ?_⟩
    · unfold TetsWF TrisWF; decide
    · exact fun me r hr i hp => forall_stored (P := fun me r i p => p = me → CompleteAt false cCells r i)
        (by unfold CompleteAt; decide) me r hr i me hp rfl

theorem exWorld2_ok : DistOK false 5 cCells exWorld2 := exWorlds_ok.1

theorem exWorld3_ok : DistOK false 5 cCells exWorld3 := exWorlds_ok.2

/-- rank 0's local mesh is the single unit tet with the values 1, 3, 4, 5: a linear field there, so the projected
    gradient is the constant (2,3,4) at all four stored vertices and the twice-projected Hessian is ZERO -/
theorem local_hessian_rank0 :
    hessianOf (fun f => l2gradTets (exRank0.xyz cxyz) f [⟨0, 1, 2, 3⟩]) (exRank0.restrict 0 cfld) =
      List.replicate 4 ⟨0, 0, 0, 0, 0, 0⟩ := by
  have hx : exRank0.xyz cxyz = [⟨0, 0, 0⟩, ⟨1, 0, 0⟩, ⟨0, 1, 0⟩, ⟨0, 0, 1⟩] := rfl
  have hs : exRank0.restrict (0 : ℝ) cfld = [1, 3, 4, 5] := by
    simp [Rank.restrict, exRank0, cfld]
  rw [hx, hs]
  exact Refine.Props.C19.unitTet_linear.2

theorem l2gradLocal_rank0 (f : List ℝ) :
    l2gradLocal false cxyz exRank0 f = l2gradTets (exRank0.xyz cxyz) f [⟨0, 1, 2, 3⟩] := by
  have : allTets exRank0.cells = [⟨0, 1, 2, 3⟩] := by decide
  simp only [l2gradLocal, l2grad, Bool.false_eq_true, if_false, this]

theorem single_exchange_v0 :
    ∃ H', l2hessianSingleExchange false cxyz exWorld2 (exWorld2.map fun r => r.restrict 0 cfld) = some H' ∧
      (H'.getD 0 []).getD 0 z6 = z6 := by
  unfold l2hessianSingleExchange
  simp only
  set s : World (List ℝ) := exWorld2.map fun r => r.restrict 0 cfld with hs
  set G : World (List ℝ) → World (List (V3 ℝ)) :=
    fun f => (List.zipWith (l2gradLocal false cxyz) exWorld2 f).map (·.2) with hGdef
  set A := assembleW (G s) (G ((G s).map (·.map (·.x)))) (G ((G s).map (·.map (·.y)))) (G ((G s).map (·.map (·.z))))
    with hA
  have hG2 : ∀ f0 f1 : List ℝ, G [f0, f1] =
      [(l2gradLocal false cxyz exRank0 f0).2, (l2gradLocal false cxyz exRank1 f1).2] := by
    intro f0 f1; rfl
  have hs2 : s = [exRank0.restrict 0 cfld, exRank1.restrict 0 cfld] := rfl
  obtain ⟨a0, a1, hAeq, rfl, ha1⟩ : ∃ a0 a1, A = [a0, a1] ∧ a0 = List.replicate 4 ⟨0, 0, 0, 0, 0, 0⟩ ∧ a1.length = 5 := by
    rw [hA, hs2, hG2]
    simp only [List.map_cons, List.map_nil, hG2]
    unfold assembleW
    simp only [List.zip_cons_cons, List.zip_nil_right, List.zipWith_cons_cons, List.zipWith_nil_right]
    refine ⟨_, _, rfl, ?_, ?_⟩
    · have := local_hessian_rank0
      rw [hessianOf_assemble] at this
      simp only [l2gradLocal_rank0]
      exact this
    · rw [assemble_length, l2gradLocal_length]; rfl
  have hsh : Shaped exWorld2 A := by
    rw [hAeq]
    refine ⟨rfl, fun me r h hr hh => ?_⟩
    match me, hr, hh with
    | 0, hr, hh =>
      obtain rfl : exRank0 = r := by simpa [exWorld2] using hr
      obtain rfl := Option.some.inj hh
      rfl
    | 1, hr, hh =>
      obtain rfl : exRank1 = r := by simpa [exWorld2] using hr
      obtain rfl := Option.some.inj hh
      exact ha1
    | k + 2, hr, _ => simp [exWorld2] at hr
  rw [ghostM6_spec z6 exWorld2 exWorld2_ok.toWorldOK A hsh]
  refine ⟨_, rfl, ?_⟩
  -- `v0` is owned by rank 0: the refresh hands back what rank 0 computed
  show wAt z6 _ 0 0 = z6
  rw [wAt_fromOwners_owned z6 exWorld2_ok.toWorldOK A (r := exRank0) rfl rfl, hAeq]
  rfl

end Refine.ReconParCounter
