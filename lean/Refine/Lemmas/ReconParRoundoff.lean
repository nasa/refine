import Refine.Model.ReconPar
import Refine.Lemmas.ScalarReal

/-!
  Shapes for `ref_recon_roundoff_limit` on a distributed mesh (`Refine.Model.ReconPar.roundoffLimitPar`): what a
  successful `sequenceE` is (`sequenceE_ok`; rank by rank: `sequenceE_zipWith`), and the round trip between the two `M6`
  layouts.
-/
namespace Refine.ReconParRoundoff
open Refine Refine.Model.Geom Refine.Model.ReconPar Refine.ScalarReal
open Refine.Model.Comm (World RefType)

theorem sequenceE_ok {ε β : Type} (l : List (Except ε β)) (ms : List β) (h : sequenceE l = .ok ms) :
    l = ms.map Except.ok := by
  fun_induction sequenceE l generalizing ms with
  | case1 => cases h; rfl
  | case2 => cases h
  | case3 => cases h
  | case4 x rest xs hxs ih => cases h; rw [List.map_cons, ← ih xs hxs]

theorem sequenceE_zipWith {ρ μ ε β : Type} (f : ρ → μ → Except ε β) {w : List ρ} {rs : List μ} {ms : List β}
    (hlen : rs.length = w.length) (h : sequenceE (List.zipWith f w rs) = .ok ms) :
    ms.length = w.length ∧ ∀ (me : Nat) (r : ρ) (x : β), w[me]? = some r → ms[me]? = some x →
      ∃ m, rs[me]? = some m ∧ f r m = .ok x := by
  have hl := sequenceE_ok _ ms h
  refine ⟨by rw [← List.length_map (f := Except.ok), ← hl, List.length_zipWith, hlen, Nat.min_self], fun me r x hr hx => ?_⟩
  have hme : me < rs.length := hlen ▸ (List.getElem?_eq_some_iff.mp hr).1
  refine ⟨rs[me], List.getElem?_eq_getElem hme, ?_⟩
  have := congrArg (·[me]?) hl
  simp only [List.getElem?_zipWith, hr, List.getElem?_eq_getElem hme, List.getElem?_map, hx, Option.map_some,
    Option.some.injEq] at this
  exact this

theorem toMat_ofMat (m : Refine.Model.Matrix.M6 ℝ) : toMat (ofMat m) = m := rfl

end Refine.ReconParRoundoff
