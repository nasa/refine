import Refine.Lemmas.Cavity2Form

/-!
  The seg list `ref_cavity_form_edge_swap` builds on a boundary edge — `(n0,n3) (n3,n1) (n1,n2) (n2,n0)` with
  `n2`, `n3` from `ref_swap_node23` — is the signed boundary of the two boundary tris on the edge.
-/
namespace Refine.Lemmas.Cavity2
open Refine.Model.Cavity Refine.Model.Cavity2 Refine.Lemmas.Cavity Refine.Props.C01

variable {G : Type} [AddCommGroup G] {α : Type}

def TriGood (t : Tri) : Prop := t.n0 ≠ t.n1 ∧ t.n1 ≠ t.n2 ∧ t.n2 ≠ t.n0 ∧ 0 ≤ t.n0 ∧ 0 ≤ t.n1 ∧ 0 ≤ t.n2

/-- what one tri does to the `(node2, node3)` accumulator of `ref_swap_node23`, and its boundary: a tri that has the
    edge as `(n0,n1)` writes its apex to `node2`, one that has it as `(n1,n0)` writes it to `node3` -/
theorem node23Step_spec {ψ : Int → Int → G} (n0 n1 : Int) (hne : n0 ≠ n1) (t : Tri) (ht : TriGood t)
    (h0 : t.nodes.contains n0 = true) (h1 : t.nodes.contains n1 = true) (acc : Int × Int) :
    (∃ x, node23Step n0 n1 acc t = (x, acc.2) ∧ triBd ψ t = ψ n0 n1 + ψ n1 x + ψ x n0) ∨
    (∃ y, node23Step n0 n1 acc t = (acc.1, y) ∧ triBd ψ t = ψ n1 n0 + ψ n0 y + ψ y n1) := by
  obtain ⟨a, b, c, id⟩ := t
  obtain ⟨hab, hbc, hca, _⟩ := ht
  simp only at hab hbc hca
  simp only [Tri.nodes, List.contains_cons, List.contains_nil, Bool.or_false, Bool.or_eq_true, beq_iff_eq] at h0 h1
  rw [triBd_eq]
  simp only [node23Step, Bool.and_eq_true, beq_iff_eq]
  have hba := hab.symm; have hcb := hbc.symm; have hac := hca.symm
  rcases h0 with e0 | e0 | e0 <;> rcases h1 with e1 | e1 | e1 <;> subst e0 <;> subst e1
  · exact absurd rfl hne
  · exact Or.inl ⟨c, by simp [hab, hba, hbc, hac], by abel⟩
  · exact Or.inr ⟨b, by simp [hab, hcb, hca, hac], by abel⟩
  · exact Or.inr ⟨c, by simp [hab, hba, hbc, hac], by abel⟩
  · exact absurd rfl hne
  · exact Or.inl ⟨a, by simp [hba, hbc, hcb, hca], by abel⟩
  · exact Or.inl ⟨b, by simp [hab, hcb, hca, hac], by abel⟩
  · exact Or.inr ⟨a, by simp [hba, hbc, hcb, hca], by abel⟩
  · exact absurd rfl hne

/-- `ref_swap_node23` returned ok on two good tris around the edge: the four segs of the swap are their boundary -/
theorem node23_chain {ψ : Int → Int → G} (hψ : Alt2 ψ) (n0 n1 : Int) (hne : n0 ≠ n1) (t0 t1 : Tri)
    (hg0 : TriGood t0) (hg1 : TriGood t1)
    (h00 : t0.nodes.contains n0 = true) (h01 : t0.nodes.contains n1 = true)
    (h10 : t1.nodes.contains n0 = true) (h11 : t1.nodes.contains n1 = true) (n2 n3 : Int)
    (h : node23Step n0 n1 (node23Step n0 n1 (-1, -1) t0) t1 = (n2, n3)) (h2 : n2 ≠ -1) (h3 : n3 ≠ -1) :
    triBd ψ t0 + triBd ψ t1 = ψ n0 n3 + ψ n3 n1 + ψ n1 n2 + ψ n2 n0 := by
  rcases node23Step_spec (ψ := ψ) n0 n1 hne t0 hg0 h00 h01 (-1, -1) with ⟨x, e0, b0⟩ | ⟨y, e0, b0⟩ <;>
  rcases node23Step_spec (ψ := ψ) n0 n1 hne t1 hg1 h10 h11 (node23Step n0 n1 (-1, -1) t0) with
    ⟨x', e1, b1⟩ | ⟨y', e1, b1⟩
  · -- both forward: node3 stays -1
    rw [e1, e0] at h; simp only [Prod.mk.injEq] at h; exact absurd h.2.symm h3
  · rw [e1, e0] at h; simp only [Prod.mk.injEq] at h
    obtain ⟨rfl, rfl⟩ := h
    rw [b0, b1, hψ.swap n0 n1]; abel
  · rw [e1, e0] at h; simp only [Prod.mk.injEq] at h
    obtain ⟨rfl, rfl⟩ := h
    rw [b0, b1, hψ.swap n0 n1]; abel
  · rw [e1, e0] at h; simp only [Prod.mk.injEq] at h; exact absurd h.1.symm h2

theorem swapNode23_ok (g : Grid α) (n0 n1 n2 n3 : Int) (h : swapNode23 g n0 n1 = (.ok, n2, n3)) :
    ∃ p0 p1, g.tris.having2 Tri.nodes n0 n1 = [p0, p1] ∧
      node23Step n0 n1 (node23Step n0 n1 (-1, -1) p0.2) p1.2 = (n2, n3) ∧ n2 ≠ -1 ∧ n3 ≠ -1 := by
  revert h
  fun_cases swapNode23 g n0 n1 <;> intro h <;> first | exact (notok h (by decide)).elim | skip
  rename_i tl _ hlen r hn2 hn3
  simp only [Prod.mk.injEq, true_and] at h
  obtain ⟨p0, p1, hm⟩ := List.length_eq_two.mp (not_not.mp hlen)
  simp only [r, tl, hm, List.foldl_cons, List.foldl_nil] at h hn2 hn3
  exact ⟨p0, p1, hm, Prod.ext h.1 h.2, h.1 ▸ hn2, h.2 ▸ hn3⟩

/-- the seg list of a boundary edge swap is the signed boundary of the two listed boundary tris -/
theorem formEdgeSwap_segchain {ψ : Int → Int → G} (hψ : Alt2 ψ) (g : Grid α) (n0 n1 node : Int) (hne01 : n0 ≠ n1)
    (hgood : ∀ p ∈ g.tris.having2 Tri.nodes n0 n1, TriGood p.2)
    (c' : Cav) (h : formEdgeSwap g Cav.create n0 n1 node = (.ok, c')) (hs : c'.state = .unknown)
    (hne : g.tets.having2 Tet.nodes n0 n1 ≠ [])
    (hextra : c'.tetList = (g.tets.having2 Tet.nodes n0 n1).map fun p => (p.1 : Int)) :
    segSum ψ c'.validSegs = (c'.triList.map (triBdAt ψ g)).sum := by
  obtain ⟨ss, run, hss⟩ := formEdgeSwap_edgeRun g n0 n1 node c' h hs hne hextra
  rw [run.segSum hψ, run.tris]
  rcases hss with ⟨htri0, rfl⟩ | ⟨n2, n3, id, h23, rfl⟩
  · rw [htri0]; rfl
  · obtain ⟨p0, p1, hpl, hstep, hn2, hn3⟩ := swapNode23_ok g n0 n1 n2 n3 h23
    have hm : ∀ p ∈ [p0, p1], p ∈ g.tris.having2 Tri.nodes n0 n1 := fun p hp => hpl ▸ hp
    have hm0 := hm p0 (by simp)
    have hm1 := hm p1 (by simp)
    have hc : ∀ p ∈ g.tris.having2 Tri.nodes n0 n1, p.2.nodes.contains n0 = true ∧ p.2.nodes.contains n1 = true :=
      fun p hp => ⟨((mem_having_iff g.tris Tri.nodes n0 p.1 p.2).mp (List.mem_filter.mp hp).1).2.2,
        (List.mem_filter.mp hp).2⟩
    have := node23_chain hψ n0 n1 hne01 p0.2 p1.2 (hgood p0 hm0) (hgood p1 hm1) (hc p0 hm0).1 (hc p0 hm0).2
      (hc p1 hm1).1 (hc p1 hm1).2 n2 n3 hstep hn2 hn3
    rw [hpl]
    simp only [segSum, List.map_cons, List.map_nil, List.sum_cons, List.sum_nil, triBdAt,
      having2_get g.tris Tri.nodes n0 n1 p0 hm0, having2_get g.tris Tri.nodes n0 n1 p1 hm1, add_zero]
    rw [this]; abel

end Refine.Lemmas.Cavity2
