import Refine.Model.MeshOps
import Refine.Lemmas.ListFacts
import Mathlib.Data.List.Perm.Basic

/-!
  Lemmas about `Refine/Model/MeshOps.lean`: the literal remove/add loops of `ref_split_edge`,
  `ref_collapse_edge` are permutations of their specification (`flatMap` / `filter`+`map`), and `subst` on rows.
  This file stops at the loops: the groups with their limit test (`splitGroup_spec`, `collapseGroup_spec`),
  `splitSpec_length`, `NoRepeat` / `Fresh` and their preservation are stated in `Props/C13.lean`.  The guards of C02
  work on another cell representation (`Model/Guards.lean`, a record) with their own `subst_eq_self`, `mem_splitGroup`,
  `mem_collapseGroup` in `Lemmas/GuardsRules.lean`; no lemma relates the two.
-/
namespace Refine.Model.MeshOps
open List

/-- specification of one split cell -/
def splitSpecCell (np : Nat) (n0 n1 new : Int) (c : Cell) : List Cell :=
  if has2 np n0 n1 c then [splitV1 np n0 n1 new c, splitV0 np n0 new c] else [c]

/-- specification of one group: every cell on the edge becomes its two halves, all others stay -/
def splitSpec (np : Nat) (n0 n1 new : Int) (cs : List Cell) : List Cell :=
  cs.flatMap (splitSpecCell np n0 n1 new)

theorem erase_append_cons_perm (acc t : List Cell) (a : Cell) : (acc ++ a :: t).erase a ~ acc ++ t := by
  have h : acc ++ a :: t ~ a :: (acc ++ t) := perm_middle
  have := h.erase a
  simpa using this

/-- the shape of the `ref_cell_remove` / `ref_cell_add` loops of `ref_split_edge` and `ref_collapse_edge`: every
    listed cell is erased from the group and the cells `f c` are added -/
structure EraseAdd (f : Cell → List Cell) (loop : List Cell → List Cell → List Cell) : Prop where
  nil : ∀ cs, loop [] cs = cs
  cons : ∀ c rest cs, loop (c :: rest) cs = loop rest (f c ++ cs.erase c)

namespace EraseAdd
variable {f : Cell → List Cell} {loop : List Cell → List Cell → List Cell}

theorem perm_congr (h : EraseAdd f loop) : ∀ (todo : List Cell) {cs cs' : List Cell}, cs ~ cs' →
    loop todo cs ~ loop todo cs'
  | [], _, _, p => by rw [h.nil, h.nil]; exact p
  | c :: rest, _, _, p => by
    rw [h.cons, h.cons]
    exact perm_congr h rest ((p.erase c).append_left _)

theorem spec_aux (h : EraseAdd f loop) (p : Cell → Bool) : ∀ (t acc : List Cell),
    loop (t.filter p) (acc ++ t) ~ acc ++ t.flatMap fun c => if p c then f c else [c]
  | [], acc => by simp [h.nil]
  | a :: t, acc => by
    by_cases hp : p a = true
    · rw [List.filter_cons_of_pos hp, h.cons, List.flatMap_cons, if_pos hp]
      refine (h.perm_congr _ ((erase_append_cons_perm acc t a).append_left _)).trans ?_
      rw [← List.append_assoc]
      refine (spec_aux h p t _).trans ?_
      rw [← List.append_assoc]
      exact perm_append_comm.append_right _
    · rw [List.filter_cons_of_neg hp, List.flatMap_cons, if_neg hp,
        show acc ++ a :: t = (acc ++ [a]) ++ t by simp]
      refine (spec_aux h p t _).trans ?_
      simp

theorem spec (h : EraseAdd f loop) (p : Cell → Bool) (cs : List Cell) :
    loop (cs.filter p) cs ~ cs.flatMap fun c => if p c then f c else [c] := by
  simpa using h.spec_aux p cs []

end EraseAdd

theorem splitLoop_spec (np : Nat) (n0 n1 new : Int) (cs : List Cell) :
    splitLoop np n0 n1 new (cs.filter (has2 np n0 n1)) cs ~ splitSpec np n0 n1 new cs :=
  EraseAdd.spec (f := fun c => [splitV1 np n0 n1 new c, splitV0 np n0 new c]) ⟨fun _ => rfl, fun _ _ _ => rfl⟩ _ cs

theorem removeLoop_spec (p : Cell → Bool) (cs : List Cell) :
    removeLoop (cs.filter p) cs ~ cs.filter (fun c => !p c) := by
  refine (EraseAdd.spec (f := fun _ => []) ⟨fun _ => rfl, fun _ _ _ => rfl⟩ p cs).trans (Perm.of_eq ?_)
  induction cs with
  | nil => rfl
  | cons a t ih => by_cases hp : p a = true <;> simp [hp, ih]

/-- specification of one group of a collapse -/
def collapseSpec (np : Nat) (n0 n1 : Int) (cs : List Cell) : List Cell :=
  (cs.filter fun c => !has2 np n0 n1 c).map (subst np n1 n0)

theorem subst_self (np : Nat) (a : Int) (c : Cell) : subst np a a c = c := by
  unfold subst
  rw [ListFacts.map_eq_self fun v _ => by by_cases h : v = a <;> simp [h], List.take_append_drop]

theorem replaceNode_eq_map (np : Nat) (cs : List Cell) (old new : Int) :
    replaceNode np cs old new = cs.map (subst np old new) := by
  unfold replaceNode
  split
  next h =>
    subst h
    rw [List.map_congr_left (fun c _ => subst_self np old c)]
    simp
  · rfl

theorem take_drop_append {l c : List Int} {np : Nat} (hl : l.length = (c.take np).length) :
    (l ++ c.drop np).take np = l ∧ (l ++ c.drop np).drop np = c.drop np := by
  rw [List.length_take] at hl
  rcases Nat.le_total np c.length with h | h
  · exact ⟨by rw [List.take_append_of_le_length (by omega), List.take_of_length_le (by omega)],
      by rw [List.drop_append_of_le_length (by omega), List.drop_of_length_le (by omega), List.nil_append]⟩
  · rw [List.drop_of_length_le h, List.append_nil]
    exact ⟨List.take_of_length_le (by omega), List.drop_of_length_le (by omega)⟩

theorem nodesOf_subst (np : Nat) (old new : Int) (c : Cell) :
    nodesOf np (subst np old new c) = (nodesOf np c).map fun v => if v = old then new else v :=
  (take_drop_append (List.length_map _)).1

theorem drop_subst (np : Nat) (old new : Int) (c : Cell) : (subst np old new c).drop np = c.drop np :=
  (take_drop_append (List.length_map _)).2

theorem length_subst (np : Nat) (old new : Int) (c : Cell) : (subst np old new c).length = c.length := by
  rw [subst, List.length_append, List.length_map, ← List.length_append, List.take_append_drop]

/-- with a fresh `new` (not a vertex of the cell) the C's "undo" (`new ↦ node0`) restores the cell, so the
    node1 version is plainly `node1 ↦ new` -/
theorem splitV1_fresh (np : Nat) (n0 n1 new : Int) (c : Cell) (hf : new ∉ nodesOf np c) :
    splitV1 np n0 n1 new c = subst np n1 new c := by
  have hundo : subst np new n0 (subst np n0 new c) = c := by
    rw [subst, show (subst np n0 new c).take np = _ from nodesOf_subst np n0 new c, drop_subst, List.map_map,
      ListFacts.map_eq_self]
    · exact List.take_append_drop np c
    intro v hv
    have hv' : v ≠ new := fun e => hf (e ▸ hv)
    by_cases h0 : v = n0 <;> simp [h0, hv']
  rw [splitV1, hundo]

end Refine.Model.MeshOps
