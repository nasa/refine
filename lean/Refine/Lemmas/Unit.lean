import Refine.Model.Unit
import Refine.Lemmas.FoldMin
import Refine.Lemmas.ListFacts
import Refine.Props.C15

/-! Real-number view of `Model/Unit.lean`: the band tests as inequalities, the C's running minimum / maximum as
    `foldl min` / `foldl max`, and membership in the lists of edges the ratio guards measure. -/
namespace Refine.UnitReal
open Refine Refine.Model.Geom Refine.Model.Unit Refine.ScalarReal

theorem inBand_iff (a : Adapt ℝ) (r : ℝ) : inBand a r = true ↔ a.postMin ≤ r ∧ r ≤ a.postMax := by
  unfold inBand
  simp only [Bool.not_eq_true', Bool.or_eq_false_iff, lt_false_iff]

theorem bandOk_iff (a : Adapt ℝ) (mn mx : ℝ) : bandOk a mn mx = true ↔ a.postMin ≤ mn ∧ mx ≤ a.postMax := by
  unfold bandOk
  simp only [Bool.and_eq_true, le_iff]

theorem foldMin_eq (init : ℝ) (rs : List ℝ) : foldMin init rs = rs.foldl min init := by
  simp only [foldMin, cmin_eq]

theorem foldMax_eq (init : ℝ) (rs : List ℝ) : foldMax init rs = rs.foldl max init := by
  simp only [foldMax, cmax_eq]

theorem mem_le_foldl_max (init : ℝ) (rs : List ℝ) {r : ℝ} (h : r ∈ rs) : r ≤ rs.foldl max init :=
  FoldMin.foldl_min_le_mem (α := ℝᵒᵈ) rs init h

theorem foldl_max_mem_or (init : ℝ) (rs : List ℝ) : rs.foldl max init = init ∨ rs.foldl max init ∈ rs :=
  FoldMin.foldl_min_mem (α := ℝᵒᵈ) rs init

theorem minMax_bounds {rs : List ℝ} {mn mx : ℝ} (h : minMax rs = some (mn, mx)) {r : ℝ} (hr : r ∈ rs) :
    mn ≤ r ∧ r ≤ mx := by
  cases rs with
  | nil => cases hr
  | cons x rest =>
    simp only [minMax, Option.some.injEq, Prod.mk.injEq] at h
    obtain ⟨rfl, rfl⟩ := h
    rw [foldMin_eq, foldMax_eq]
    exact ⟨(FoldMin.foldl_min_cons_isLeast x rest).2 hr, (FoldMin.foldl_min_cons_isLeast (α := ℝᵒᵈ) x rest).2 hr⟩

theorem mem_subst {o n x : Nat} {c : Cell} : x ∈ subst o n c ↔ (x = n ∧ o ∈ c) ∨ (x ∈ c ∧ x ≠ o) :=
  ListFacts.mem_map_subst

theorem subst_of_not_mem {o n : Nat} {c : Cell} (h : o ∉ c) : subst o n c = c :=
  ListFacts.map_eq_self fun x hx => if_neg fun e : x = o => h (e ▸ hx)

theorem mem_edgesAt {v p q : Nat} {c : Cell} : (p, q) ∈ edgesAt v c ↔ p = v ∧ q ∈ c ∧ q ≠ v := by
  unfold edgesAt
  simp only [List.mem_map, List.mem_filter, Prod.mk.injEq, decide_eq_true_eq]
  constructor
  · rintro ⟨x, ⟨hx, hne⟩, rfl, rfl⟩; exact ⟨rfl, hx, hne⟩
  · rintro ⟨rfl, hq, hne⟩; exact ⟨q, ⟨hq, hne⟩, rfl, rfl⟩

theorem onEdge_iff {n0 n1 : Nat} {c : Cell} : onEdge n0 n1 c = true ↔ n0 ∈ c ∧ n1 ∈ c := by
  unfold onEdge
  simp only [Bool.and_eq_true, List.contains_iff_mem]

theorem mem_splitCells {cells : List Cell} {n0 n1 nw : Nat} {c' : Cell} :
    c' ∈ splitCells cells n0 n1 nw ↔ ∃ c ∈ cells,
      if n0 ∈ c ∧ n1 ∈ c then c' = subst n0 nw c ∨ c' = subst n1 nw c else c' = c := by
  unfold splitCells
  rw [List.mem_flatMap]
  refine exists_congr fun c => and_congr_right fun _ => ?_
  by_cases h : n0 ∈ c ∧ n1 ∈ c
  · rw [if_pos (onEdge_iff.mpr h), if_pos h]; simp
  · rw [if_neg (fun hh => h (onEdge_iff.mp hh)), if_neg h]; simp

theorem mem_collapseCells {cells : List Cell} {n0 n1 : Nat} {c' : Cell} :
    c' ∈ collapseCells cells n0 n1 ↔ ∃ c ∈ cells, ¬ (n0 ∈ c ∧ n1 ∈ c) ∧ c' = subst n1 n0 c := by
  unfold collapseCells
  simp only [List.mem_map, List.mem_filter, and_assoc]
  refine exists_congr fun c => and_congr_right fun _ => and_congr ?_ eq_comm
  rw [Bool.not_eq_true', ← Bool.not_eq_true, onEdge_iff]

theorem mem_splitTested {cells : List Cell} {n0 n1 nw : Nat} {e : Nat × Nat} :
    e ∈ splitTested cells n0 n1 nw ↔
      ∃ c ∈ cells, n0 ∈ c ∧ n1 ∈ c ∧ (e ∈ edgesAt nw (subst n0 nw c) ∨ e ∈ edgesAt nw (subst n1 nw c)) := by
  unfold splitTested
  simp only [List.mem_flatMap, List.mem_filter, onEdge_iff, List.mem_append, and_assoc]

theorem mem_aroundEdges {cells : List Cell} {n : Nat} {e : Nat × Nat} :
    e ∈ aroundEdges cells n ↔ ∃ c ∈ cells, n ∈ c ∧ e ∈ edgesAt n c := by
  unfold aroundEdges
  simp only [List.mem_flatMap, List.mem_filter, List.contains_iff_mem, and_assoc]

theorem mem_collapseOld {cells : List Cell} {n1 : Nat} {e : Nat × Nat} :
    e ∈ collapseOld cells n1 ↔ ∃ c ∈ cells, n1 ∈ c ∧ e ∈ edgesAt n1 c := mem_aroundEdges

theorem mem_collapseNew {cells : List Cell} {n0 n1 : Nat} {e : Nat × Nat} :
    e ∈ collapseNew cells n0 n1 ↔ ∃ c ∈ cells, n1 ∈ c ∧ n0 ∉ c ∧ e.1 = n0 ∧ e.2 ∈ c ∧ e.2 ≠ n1 := by
  unfold collapseNew
  simp only [List.mem_flatMap, List.mem_filter, Bool.and_eq_true, Bool.not_eq_true', ← Bool.not_eq_true,
    List.contains_iff_mem, List.mem_map, decide_eq_true_eq]
  constructor
  · rintro ⟨c, ⟨hc, h1, h0⟩, x, ⟨hx, hne⟩, rfl⟩
    exact ⟨c, hc, h1, h0, rfl, hx, hne⟩
  · rintro ⟨c, hc, h1, h0, he1, he2, hne⟩
    exact ⟨c, ⟨hc, h1, h0⟩, e.2, ⟨he2, hne⟩, by rw [← he1]⟩

theorem nodeRatio_local {vs vs' : Nat → Vert ℝ} {a b : Nat} (ha : vs a = vs' a) (hb : vs b = vs' b) :
    nodeRatio vs a b = nodeRatio vs' a b := by
  unfold nodeRatio
  rw [ha, hb]

theorem nodeRatio_symm (vs : Nat → Vert ℝ) (a b : Nat) : nodeRatio vs a b = nodeRatio vs b a := by
  unfold nodeRatio
  exact Refine.Props.C15.ratio_symm _ _ _ _

theorem setVert_ne {vs : Nat → Vert ℝ} {n i : Nat} {v : Vert ℝ} (h : i ≠ n) : setVert vs n v i = vs i := by
  unfold setVert
  rw [if_neg h]

end Refine.UnitReal
