import Refine.Model.Quality
import Refine.Lemmas.GeomReal
import Refine.Props.C15
import Mathlib.Analysis.SpecialFunctions.Pow.Deriv

/-!
  Real-number view of the quality kernels (`Model/Quality.lean`) and the calculus for the quality derivatives, in two
  namespaces: `Refine.QualityReal` (literal bridges, `dratio_value`, `triDarea_value`), then `Refine.QualityDeriv`.
  The ingredients of a quality (volume, `Σ eᵀMe`, the jac-triangle `n·n` and `Σ|e|²`)
  have exact expansions `f (x0 + δ) = f x0 + d·δ + q δ` in the position of node 0 with the coded gradient `d` as linear
  term (`C15.tetVol_affine0`; `tetJacL2_expand`, `triJacNN_expand`, `triJacL2_expand` in `Props/C15Quality.lean`, from
  the pieces here); `hasDerivAt_of_expand` turns such an expansion into the derivative along every line, and the
  quotient / power rules are stated in the shape `ref_node_tet_jac_dquality_dnode0` codes them.
-/
namespace Refine.QualityReal
open Refine Refine.Model.Geom Refine.Model.Quality Refine.ScalarReal Refine.GeomReal

@[simp] theorem lit3_eq : (lit3 : ℝ) = 3 := by simp [lit3]
@[simp] theorem lit4_eq : (lit4 : ℝ) = 4 := by simp [lit4]
@[simp] theorem litm1_eq : (litm1 : ℝ) = -1 := by simp [litm1]
@[simp] theorem twoThirds_eq : (twoThirds : ℝ) = 2 / 3 := by simp [twoThirds]
@[simp] theorem negThird_eq : (negThird : ℝ) = -1 / 3 := by simp [negThird]
@[simp] theorem oneThird_eq : (oneThird : ℝ) = 1 / 3 := by simp [oneThird]

/-- `Except.map Prod.fst` through the final `if divisible … then ok (q, d) else ok (-1, …)` of the dquality routines -/
theorem map_fst_ite {ε α β : Type} (c : Bool) (a a' : α) (b b' : β) :
    Except.map (ε := ε) Prod.fst (if c = true then Except.ok (a, b) else Except.ok (a', b')) =
      if c = true then Except.ok a else Except.ok a' := by
  cases c <;> rfl

theorem dratio_value (x0 x1 : V3 ℝ) (m0 m1 : M6 ℝ) :
    (dratioGeometric x0 x1 m0 m1).1 = ratioGeometric x0 x1 m0 m1 := by
  rw [ratioGeometric_eq]
  unfold dratioGeometric ratioCore
  have e0 : ∀ m : M6 ℝ, sqrtVtMv m (V3.sub x1 x0) = (sqrtVtMvDeriv m (V3.sub x1 x0)).1 := fun _ => rfl
  simp only [e0]
  generalize sqrtVtMvDeriv m0 (V3.sub x1 x0) = fd0
  generalize sqrtVtMvDeriv m1 (V3.sub x1 x0) = fd1
  obtain ⟨r0, d0⟩ := fd0
  obtain ⟨r1, d1⟩ := fd1
  -- the derivative routine selects (min, max) by one comparison `r0 < r1`, the plain one by `MIN` and `MAX`:
  -- the two differ in form only at `r0 = r1`
  have hmin : (if r0 < r1 then r0 else r1) = min r0 r1 := by
    rcases lt_or_ge r0 r1 with h | h
    · rw [if_pos h, min_eq_left h.le]
    · rw [if_neg (not_lt.mpr h), min_eq_right h]
  have hmax : (if r0 < r1 then r1 else r0) = max r0 r1 := by
    rcases lt_or_ge r0 r1 with h | h
    · rw [if_pos h, max_eq_right h.le]
    · rw [if_neg (not_lt.mpr h), max_eq_left h]
  simp only [apply_ite Prod.fst, lt_iff, Bool.or_eq_true, hmin, hmax, min_add_max, cabs_eq, lit0_eq, lit1_eq, half_eq,
    sub_eq, div_eq, mul_eq, add_eq, log_eq]

theorem triDarea_value (a b c : V3 ℝ) : (triDareaDnode0 a b c).1 = triArea a b c := by
  simp only [triDareaDnode0, triArea, triNormal, cross, dot, V3.sub]

end Refine.QualityReal

namespace Refine.QualityDeriv
open Refine Refine.Model.Geom Refine.Model.Quality Refine.ScalarReal Refine.GeomReal Refine.QualityReal

/-- the coded `d_l2` of `ref_node_tet_jac_dquality_dnode0` -/
noncomputable def tetJacDL2 (m : M6 ℝ) (x0 x1 x2 x3 : V3 ℝ) : V3 ℝ :=
  let de0 := (vtMvDeriv m (V3.sub x1 x0)).2
  let de1 := (vtMvDeriv m (V3.sub x2 x0)).2
  let de2 := (vtMvDeriv m (V3.sub x3 x0)).2
  ⟨(-. de0.x) -. de1.x -. de2.x, (-. de0.y) -. de1.y -. de2.y, (-. de0.z) -. de1.z -. de2.z⟩

/-- moving the base point of an edge by `δ`: exact second-order expansion of `eᵀMe` -/
theorem vtMv_sub_vadd (m : M6 ℝ) (a b δ : V3 ℝ) :
    vtMv m (V3.sub a (vadd b δ)) = vtMv m (V3.sub a b) - vdot (vtMvDeriv m (V3.sub a b)).2 δ + vtMv m δ := by
  simp only [vtMv_def, vtMvDeriv, sub_def, vadd, vdot, add_eq, mul_eq]; ring

/-- quotient / power rule for `t ↦ c (s·vol t)^(2/3) / l2 t`, in the shape the C codes it -/
theorem hasDerivAt_meanRatio (c s : ℝ) (vol l2 : ℝ → ℝ) (vol' l2' t : ℝ)
    (hv : HasDerivAt vol vol' t) (hl : HasDerivAt l2 l2' t) (hvim : s * vol t ≠ 0) (hl2 : l2 t ≠ 0) :
    HasDerivAt (fun t => c * (s * vol t) ^ ((2 : ℝ) / 3) / l2 t)
      (c * ((2 : ℝ) / 3 * (s * vol t) ^ ((-1 : ℝ) / 3) * s * vol' * l2 t - (s * vol t) ^ ((2 : ℝ) / 3) * l2')
        / (l2 t * l2 t)) t := by
  have h1 : HasDerivAt (fun t => s * vol t) (s * vol') t := hv.const_mul s
  have h2 := h1.rpow_const (p := (2 : ℝ) / 3) (Or.inl hvim)
  have h3 := (h2.const_mul c).div hl hl2
  have this : (2 : ℝ) / 3 - 1 = -1 / 3 := by norm_num
  rw [this] at h3
  refine HasDerivAt.congr_deriv (f' := _) h3 ?_
  field_simp

/-- the `ref_math_divisible` guard is open: passed at `t = 0` by a continuous numerator and denominator, it is passed
    nearby -/
theorem eventually_divisible {num den : ℝ → ℝ} (hn : ContinuousAt num 0) (hd : ContinuousAt den 0)
    (h : Scalar.divisible (num 0) (den 0) = true) :
    ∀ᶠ t in nhds (0 : ℝ), Scalar.divisible (num t) (den t) = true :=
  (hn.abs.eventually_lt (continuousAt_const.mul hd.abs) ((divisible_iff' _ _).mp h)).mono
    fun _ ht => (divisible_iff' _ _).mpr ht

/-- node 0 moved along a straight line -/
def line (a δ : V3 ℝ) (t : ℝ) : V3 ℝ := vadd a (vsmul t δ)

theorem line_zero (a δ : V3 ℝ) : line a δ 0 = a := by
  simp only [line, vadd, vsmul]; ext <;> simp

theorem vdot_smul (d δ : V3 ℝ) (t : ℝ) : vdot d (vsmul t δ) = t * vdot d δ := by
  simp only [vdot, vsmul]; ring

theorem vtMv_smul (m : M6 ℝ) (δ : V3 ℝ) (t : ℝ) : vtMv m (vsmul t δ) = t ^ 2 * vtMv m δ := by
  simp only [vtMv_def, vsmul]; ring

theorem hasDerivAt_of_expand (f q : V3 ℝ → ℝ) (a d δ : V3 ℝ) (hq : ∀ t, q (vsmul t δ) = t ^ 2 * q δ)
    (hf : ∀ ε, f (vadd a ε) = f a + vdot d ε + q ε) : HasDerivAt (fun t => f (line a δ t)) (vdot d δ) 0 := by
  have : (fun t => f (line a δ t)) = fun t => f a + t * vdot d δ + t ^ 2 * q δ := by
    funext t
    rw [line, hf, vdot_smul, hq]
  rw [this]
  have h1 := ((hasDerivAt_id (0 : ℝ)).mul_const (vdot d δ)).const_add (f a)
  have h2 := (hasDerivAt_pow 2 (0 : ℝ)).mul_const (q δ)
  exact HasDerivAt.congr_deriv (h1.add h2) (by norm_num)

theorem tetVol_line (a b c d δ : V3 ℝ) :
    HasDerivAt (fun t => tetVol (line a δ t) b c d) (vdot (tetDvolDnode0 a b c d).2 δ) 0 :=
  hasDerivAt_of_expand (fun p => tetVol p b c d) (fun _ => 0) a _ δ (fun _ => (mul_zero _).symm)
    fun ε => (Refine.Props.C15.tetVol_affine0 a b c d ε).trans (add_zero _).symm

/-- what `ref_node_tet_jac_quality` computes on its smooth branch, as a function of the vertex positions -/
noncomputable def tetJacSmooth (mx : Model.Matrix.M6 ℝ) (x0 x1 x2 x3 : V3 ℝ) : ℝ :=
  (c36 : ℝ) * (Real.sqrt (Model.Matrix.detM mx) * tetVol x0 x1 x2 x3) ^ ((2 : ℝ) / 3) /
    tetJacL2 (ofMx mx) x0 x1 x2 x3

/-- the part of `ref_node_tet_epic_quality` after volume, smallest determinant and `Σ l²` are known -/
noncomputable def epicTail (mv vol minDet denom : ℝ) : ℝ :=
  if vol <=. mv then vol -. mv else
  if Scalar.divisible (Scalar.pow (Scalar.sqrt minDet *. vol) twoThirds) denom then
    c36 *. Scalar.pow (Scalar.sqrt minDet *. vol) twoThirds /. denom else litm1

theorem tetEpicQuality_eq (mv : ℝ) (n0 n1 n2 n3 : QNode ℝ) :
    tetEpicQuality mv n0 n1 n2 n3 =
      epicTail mv (tetVol n0.x n1.x n2.x n3.x)
        (min (min (min (detOf n0.m) (detOf n1.m)) (detOf n2.m)) (detOf n3.m))
        (ratioGeometric n0.x n1.x n0.m n1.m ^ 2 + ratioGeometric n0.x n2.x n0.m n2.m ^ 2 +
         ratioGeometric n0.x n3.x n0.m n3.m ^ 2 + ratioGeometric n1.x n2.x n1.m n2.m ^ 2 +
         ratioGeometric n1.x n3.x n1.m n3.m ^ 2 + ratioGeometric n2.x n3.x n2.m n3.m ^ 2) := by
  unfold tetEpicQuality epicTail
  simp only [cmin_eq, mul_eq, add_eq, pow_two]

/-- node 0 with its position moved along a line (metric and log-metric stay with the vertex) -/
def Refine.Model.Quality.QNode.moved (n : QNode ℝ) (δ : V3 ℝ) (t : ℝ) : QNode ℝ := ⟨line n.x δ t, n.m, n.l⟩

/-- the value of a quality result (`0` for an error status) -/
def qval : Except Err ℝ → ℝ
  | .ok q => q
  | .error _ => 0

theorem avg4_cycle012 (a b c d : M6 ℝ) : avg4 b c a d = avg4 a b c d := by
  simp only [avg4, add_eq, div_eq, M6.mk.injEq]
  refine ⟨?_, ?_, ?_, ?_, ?_, ?_⟩ <;> ring

theorem avg4_cycle123 (a b c d : M6 ℝ) : avg4 a c d b = avg4 a b c d := by
  simp only [avg4, add_eq, div_eq, M6.mk.injEq]
  refine ⟨?_, ?_, ?_, ?_, ?_, ?_⟩ <;> ring

theorem avg3_cycle (a b c : M6 ℝ) : avg3 b c a = avg3 a b c := by
  simp only [avg3, add_eq, div_eq, M6.mk.injEq]
  refine ⟨?_, ?_, ?_, ?_, ?_, ?_⟩ <;> ring

theorem tetJacL2_cycle012 (m : M6 ℝ) (x0 x1 x2 x3 : V3 ℝ) : tetJacL2 m x1 x2 x0 x3 = tetJacL2 m x0 x1 x2 x3 := by
  simp only [tetJacL2, add_eq, vtMv_sub_comm m x0 x1, vtMv_sub_comm m x0 x2]; ring

theorem tetJacL2_cycle123 (m : M6 ℝ) (x0 x1 x2 x3 : V3 ℝ) : tetJacL2 m x0 x2 x3 x1 = tetJacL2 m x0 x1 x2 x3 := by
  simp only [tetJacL2, add_eq, vtMv_sub_comm m x1 x2, vtMv_sub_comm m x1 x3]; ring

/-- `n·n` of `ref_node_tri_jac_(d)quality`: squared norm of the normal of the triangle mapped by `jac` -/
noncomputable def triJacNN (J : J9 ℝ) (x0 x1 x2 : V3 ℝ) : ℝ :=
  let xyz0 := vectMult J x0
  let xyz1 := vectMult J x1
  let xyz2 := vectMult J x2
  let e0 := V3.sub xyz2 xyz1
  let e2 := V3.sub xyz1 xyz0
  let n := cross e2 e0
  dot n n

/-- `l2` of `ref_node_tri_jac_(d)quality`: sum of the squared edge lengths of the mapped triangle -/
noncomputable def triJacL2 (J : J9 ℝ) (x0 x1 x2 : V3 ℝ) : ℝ :=
  let xyz0 := vectMult J x0
  let xyz1 := vectMult J x1
  let xyz2 := vectMult J x2
  let e0 := V3.sub xyz2 xyz1
  let e1 := V3.sub xyz0 xyz2
  let e2 := V3.sub xyz1 xyz0
  dot e0 e0 +. dot e1 e1 +. dot e2 e2

/-- the tail of `ref_node_tri_jac_quality` -/
noncomputable def triJacTail (nn l2 : ℝ) : Except Err ℝ :=
  if Scalar.divisible (half *. Scalar.sqrt nn) l2 then .ok (cTriJac *. ((half *. Scalar.sqrt nn) /. l2)) else .ok litm1

theorem triJacQuality_eq (n0 n1 n2 : QNode ℝ) :
    triJacQuality n0 n1 n2 =
      match Model.Matrix.expM (toMx (avg3 n0.l n1.l n2.l)) with
      | .error e => .error e
      | .ok mx =>
        match Model.Matrix.jacobM mx with
        | .error e => .error e
        | .ok jm => triJacTail (triJacNN (J9.ofM33 jm) n0.x n1.x n2.x) (triJacL2 (J9.ofM33 jm) n0.x n1.x n2.x) := by
  unfold triJacQuality
  dsimp only []
  cases Model.Matrix.expM (toMx (avg3 n0.l n1.l n2.l)) with
  | error e => rfl
  | ok mx =>
    dsimp only []
    cases Model.Matrix.jacobM mx with
    | error e => rfl
    | ok jm => rfl

/-! The tri-jac pieces depend on the vertices only through the mapped points `J xᵢ`, and `vectMult` is linear:
    their identities are proved about the mapped points, not about the entries of `J`. -/

theorem vectMult_vadd (J : J9 ℝ) (a b : V3 ℝ) : vectMult J (vadd a b) = vadd (vectMult J a) (vectMult J b) := by
  simp only [vectMult, vadd, add_eq, mul_eq]; ext <;> ring

theorem vectMult_vsmul (J : J9 ℝ) (t : ℝ) (a : V3 ℝ) : vectMult J (vsmul t a) = vsmul t (vectMult J a) := by
  simp only [vectMult, vsmul, add_eq, mul_eq]; ext <;> ring

/-- the normal `e2 × e0` of the C is the triangle normal of the mapped points -/
theorem cross_edges_eq_triNormal (y0 y1 y2 : V3 ℝ) : cross (V3.sub y1 y0) (V3.sub y2 y1) = triNormal y0 y1 y2 := by
  simp only [triNormal_def, cross_def, sub_def]; ext <;> ring

theorem triJacNN_cycle (J : J9 ℝ) (x0 x1 x2 : V3 ℝ) : triJacNN J x1 x2 x0 = triJacNN J x0 x1 x2 := by
  simp only [triJacNN, cross_edges_eq_triNormal, Refine.Props.C15.triNormal_cycle]

theorem triJacL2_cycle (J : J9 ℝ) (x0 x1 x2 : V3 ℝ) : triJacL2 J x1 x2 x0 = triJacL2 J x0 x1 x2 := by
  simp only [triJacL2, add_eq]; ring

/-- the bracket `2 n·dn[.][j]` of the coded `da[j]` -/
noncomputable def triJacDNN (J : J9 ℝ) (x0 x1 x2 : V3 ℝ) : V3 ℝ :=
  let xyz0 := vectMult J x0
  let xyz1 := vectMult J x1
  let xyz2 := vectMult J x2
  let e0 := V3.sub xyz2 xyz1
  let e2 := V3.sub xyz1 xyz0
  let n := cross e2 e0
  let dn (c0 c1 c2 : ℝ) : V3 ℝ :=
    ⟨(-. c1) *. e0.z -. (-. c2) *. e0.y, (-. c2) *. e0.x -. (-. c0) *. e0.z, (-. c0) *. e0.y -. (-. c1) *. e0.x⟩
  let b (d : V3 ℝ) : ℝ := lit2 *. n.x *. d.x +. lit2 *. n.y *. d.y +. lit2 *. n.z *. d.z
  ⟨b (dn J.j0 J.j3 J.j6), b (dn J.j1 J.j4 J.j7), b (dn J.j2 J.j5 J.j8)⟩

/-- the coded `dl2[j]` -/
noncomputable def triJacDL2 (J : J9 ℝ) (x0 x1 x2 : V3 ℝ) : V3 ℝ :=
  let xyz0 := vectMult J x0
  let xyz1 := vectMult J x1
  let xyz2 := vectMult J x2
  let e1 := V3.sub xyz0 xyz2
  let e2 := V3.sub xyz1 xyz0
  let dl2 (c0 c1 c2 : ℝ) : ℝ :=
    lit2 *. e1.x *. c0 +. lit2 *. e1.y *. c1 +. lit2 *. e1.z *. c2 +.
    lit2 *. e2.x *. (-. c0) +. lit2 *. e2.y *. (-. c1) +. lit2 *. e2.z *. (-. c2)
  ⟨dl2 J.j0 J.j3 J.j6, dl2 J.j1 J.j4 J.j7, dl2 J.j2 J.j5 J.j8⟩

/-- second-order term of `n·n`: squared norm of `(-J δ) × e0` -/
noncomputable def triJacNNq (J : J9 ℝ) (x1 x2 δ : V3 ℝ) : ℝ :=
  let e0 := V3.sub (vectMult J x2) (vectMult J x1)
  let w := vectMult J δ
  let ν := cross (⟨-w.x, -w.y, -w.z⟩ : V3 ℝ) e0
  dot ν ν

theorem cross_sub_vadd (y1 y0 w e : V3 ℝ) :
    cross (V3.sub y1 (vadd y0 w)) e = vadd (cross (V3.sub y1 y0) e) (cross ⟨-w.x, -w.y, -w.z⟩ e) := by
  simp only [cross_def, sub_def, vadd]; ext <;> ring

theorem dot_vadd_self (a b : V3 ℝ) : dot (vadd a b) (vadd a b) = dot a a + 2 * dot a b + dot b b := by
  simp only [dot_eq, vdot, vadd]; ring

/-- the coded bracket `Σⱼ 2 n·dn[.][j] δⱼ` is `2 n·((-J δ) × e0)`; bilinear, so `n` and `e0` stay opaque -/
theorem triJacDNN_dot (J : J9 ℝ) (x0 x1 x2 δ : V3 ℝ) :
    vdot (triJacDNN J x0 x1 x2) δ =
      2 * dot (cross (V3.sub (vectMult J x1) (vectMult J x0)) (V3.sub (vectMult J x2) (vectMult J x1)))
        (cross ⟨-(vectMult J δ).x, -(vectMult J δ).y, -(vectMult J δ).z⟩ (V3.sub (vectMult J x2) (vectMult J x1))) := by
  simp only [triJacDNN]
  generalize V3.sub (vectMult J x2) (vectMult J x1) = e
  generalize cross (V3.sub (vectMult J x1) (vectMult J x0)) e = n
  simp only [vectMult, cross, dot, vdot, add_eq, sub_eq, mul_eq, neg_eq, lit2_eq]
  ring

theorem triJacNNq_smul (J : J9 ℝ) (x1 x2 δ : V3 ℝ) (t : ℝ) :
    triJacNNq J x1 x2 (vsmul t δ) = t ^ 2 * triJacNNq J x1 x2 δ := by
  simp only [triJacNNq, vectMult_vsmul]
  generalize V3.sub (vectMult J x2) (vectMult J x1) = e
  generalize vectMult J δ = w
  simp only [cross_def, dot_eq, vdot, vsmul]; ring

/-- quotient / square-root rule for `t ↦ c (½ √(nn t)) / l2 t`, in the shape the C codes it -/
theorem hasDerivAt_triRatio (c : ℝ) (nn l2 : ℝ → ℝ) (nn' l2' t : ℝ)
    (hn : HasDerivAt nn nn' t) (hl : HasDerivAt l2 l2' t) (hnn : 0 < nn t) (hl2 : l2 t ≠ 0) :
    HasDerivAt (fun t => c * ((1 / 2 : ℝ) * Real.sqrt (nn t) / l2 t))
      (c * ((1 / 2 : ℝ) * (1 / 2) / Real.sqrt (nn t) * nn' * l2 t - (1 / 2 : ℝ) * Real.sqrt (nn t) * l2') / l2 t / l2 t) t := by
  have h1 := (hn.sqrt hnn.ne').const_mul (1 / 2 : ℝ)
  have h2 := (h1.div hl hl2).const_mul c
  refine HasDerivAt.congr_deriv h2 ?_
  have hs : Real.sqrt (nn t) ≠ 0 := (Real.sqrt_pos.mpr hnn).ne'
  field_simp

theorem hasDerivAt_sumsq (l1 l2 l3 : ℝ → ℝ) (a1 a2 a3 c4 c5 c6 t : ℝ)
    (H1 : HasDerivAt l1 a1 t) (H2 : HasDerivAt l2 a2 t) (H3 : HasDerivAt l3 a3 t) :
    HasDerivAt (fun t => l1 t ^ 2 + l2 t ^ 2 + l3 t ^ 2 + c4 + c5 + c6)
      (2 * l1 t * a1 + 2 * l2 t * a2 + 2 * l3 t * a3) t := by
  have h := ((H1.pow 2).add (H2.pow 2)).add (H3.pow 2)
  have h' : HasDerivAt (fun t => l1 t ^ 2 + l2 t ^ 2 + l3 t ^ 2) _ t := h
  have h'' := ((h'.add_const c4).add_const c5).add_const c6
  exact h''.congr_deriv (by simp)

/-- what `ref_node_tet_epic_quality` computes on its smooth branch: node 0 at `p`, everything else fixed -/
noncomputable def tetEpicSmooth (n0 n1 n2 n3 : QNode ℝ) (p : V3 ℝ) : ℝ :=
  let minDet := min (min (min (detOf n0.m) (detOf n1.m)) (detOf n2.m)) (detOf n3.m)
  (c36 : ℝ) * (Real.sqrt minDet * tetVol p n1.x n2.x n3.x) ^ ((2 : ℝ) / 3) /
    (ratioGeometric p n1.x n0.m n1.m ^ 2 + ratioGeometric p n2.x n0.m n2.m ^ 2 +
     ratioGeometric p n3.x n0.m n3.m ^ 2 + ratioGeometric n1.x n2.x n1.m n2.m ^ 2 +
     ratioGeometric n1.x n3.x n1.m n3.m ^ 2 + ratioGeometric n2.x n3.x n2.m n3.m ^ 2)

end Refine.QualityDeriv
