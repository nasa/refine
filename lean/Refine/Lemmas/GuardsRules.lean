import Refine.Model.Guards
import Refine.Lemmas.ListFacts
import Mathlib.Tactic.Linarith

/-!
  Combinatorial lemmas about the list view of the `ref_cell` queries and the face-id / mixed-element
  decision functions of `Refine/Model/Guards.lean`.  A cell here is a `Guards.Cell` (`nodes : List Nat`, `id : Int`);
  the same kernels on the row representation of `Model/MeshOps.lean` (`List Int`, the id as last entry) have their
  own lemmas in `Lemmas/MeshOps.lean`; no lemma relates the two.
-/
namespace Refine.GuardsRules
open Refine Refine.Model Refine.Model.Guards

theorem mem_having {cells : List Cell} {n : Nat} {c : Cell} :
    c ∈ having cells n ↔ c ∈ cells ∧ n ∈ c.nodes := by
  unfold having
  simp only [List.mem_flatMap, List.mem_reverse, List.mem_replicate, ne_eq, List.count_eq_zero]
  constructor
  · rintro ⟨a, ha, hn, rfl⟩
    exact ⟨ha, by simpa using hn⟩
  · rintro ⟨hc, hn⟩
    exact ⟨c, hc, by simpa using hn, rfl⟩

theorem mem_having2 {cells : List Cell} {n0 n1 : Nat} {c : Cell} :
    c ∈ having2 cells n0 n1 ↔ c ∈ cells ∧ n0 ∈ c.nodes ∧ n1 ∈ c.nodes := by
  unfold having2
  simp only [List.mem_flatMap, List.mem_replicate, ne_eq, List.count_eq_zero]
  constructor
  · rintro ⟨a, ha, hn, rfl⟩
    have := mem_having.mp ha
    exact ⟨this.1, this.2, by simpa using hn⟩
  · rintro ⟨hc, h0, h1⟩
    exact ⟨c, mem_having.mpr ⟨hc, h0⟩, by simpa using h1, rfl⟩

theorem nodeEmpty_iff {cells : List Cell} {n : Nat} :
    nodeEmpty cells n = true ↔ ∀ c ∈ cells, n ∉ c.nodes := by
  unfold nodeEmpty
  rw [List.isEmpty_iff]
  constructor
  · intro h c hc hn
    have : c ∈ having cells n := mem_having.mpr ⟨hc, hn⟩
    rw [h] at this
    exact absurd this (List.not_mem_nil)
  · intro h
    apply List.eq_nil_iff_forall_not_mem.mpr
    intro c hc
    have := mem_having.mp hc
    exact h c this.1 this.2

theorem nodeEmpty_false_iff {cells : List Cell} {n : Nat} :
    nodeEmpty cells n = false ↔ ∃ c ∈ cells, n ∈ c.nodes := by
  rw [← Bool.not_eq_true, nodeEmpty_iff]
  simp only [not_forall, not_not, exists_prop]

theorem listWith2_ok {cells : List Cell} {n0 n1 k : Nat} {l : List Cell}
    (h : listWith2 cells n0 n1 k = (.ok, l)) : having2 cells n0 n1 = l := by
  unfold listWith2 at h
  dsimp only at h
  split at h
  · exact Status.noConfusion (congrArg Prod.fst h)
  · exact congrArg Prod.snd h

theorem idListGo_spec (maxIds : Nat) (l : List Cell) (acc : List Int) (hnd : acc.Nodup) :
    (idListGo maxIds l acc).2.Nodup ∧
    (∀ x ∈ acc, x ∈ (idListGo maxIds l acc).2) ∧
    (∀ x ∈ (idListGo maxIds l acc).2, x ∈ acc ∨ ∃ c ∈ l, c.id = x) ∧
    ((∀ c ∈ l, c.id ∈ (idListGo maxIds l acc).2) ∨ maxIds ≤ (idListGo maxIds l acc).2.length) ∧
    (acc.length ≤ maxIds → (idListGo maxIds l acc).2.length ≤ maxIds) := by
  fun_induction idListGo maxIds l acc with
  | case1 acc => exact ⟨hnd, fun x hx => hx, fun x hx => Or.inl hx, Or.inl (by simp), fun h => h⟩
  | case2 c rest acc h1 ih =>
    -- the id is there already
    obtain ⟨a1, a2, a3, a4, a5⟩ := ih hnd
    refine ⟨a1, a2, fun x hx => (a3 x hx).imp_right fun ⟨c', hc', e⟩ => ⟨c', List.mem_cons_of_mem _ hc', e⟩, ?_, a5⟩
    refine a4.imp_left fun h c' hc' => ?_
    rcases List.mem_cons.mp hc' with rfl | hr
    · exact a2 _ (by simpa using h1)
    · exact h c' hr
  | case3 c rest acc h1 h2 =>
    -- the limit is reached: `REF_INCREASE_LIMIT`, `ids` as they are
    exact ⟨hnd, fun x hx => hx, fun x hx => Or.inl hx, Or.inr h2, fun h => h⟩
  | case4 c rest acc h1 h2 ih =>
    -- a new id is appended
    have hnot : c.id ∉ acc := by simpa using h1
    obtain ⟨a1, a2, a3, a4, a5⟩ := ih (List.nodup_append.mpr ⟨hnd, by simp, fun a ha b hb => by
      rw [List.mem_singleton] at hb; subst hb; exact fun e => hnot (e ▸ ha)⟩)
    refine ⟨a1, fun x hx => a2 x (List.mem_append_left _ hx), fun x hx => ?_, ?_,
      fun _ => a5 (by rw [List.length_append, List.length_singleton]; omega)⟩
    · rcases a3 x hx with h | ⟨c', hc', e⟩
      · rcases List.mem_append.mp h with h | h
        · exact Or.inl h
        · exact Or.inr ⟨c, List.mem_cons_self, (List.mem_singleton.mp h).symm⟩
      · exact Or.inr ⟨c', List.mem_cons_of_mem _ hc', e⟩
    · refine a4.imp_left fun h c' hc' => ?_
      rcases List.mem_cons.mp hc' with rfl | hr
      · exact a2 _ (List.mem_append_right _ (List.mem_singleton.mpr rfl))
      · exact h c' hr

theorem idListAround_spec (cells : List Cell) (n maxIds : Nat) :
    let r := (idListAround cells n maxIds).2
    r.Nodup ∧ (∀ x ∈ r, ∃ c ∈ cells, n ∈ c.nodes ∧ c.id = x) ∧
    ((∀ c ∈ cells, n ∈ c.nodes → c.id ∈ r) ∨ maxIds ≤ r.length) ∧ r.length ≤ maxIds := by
  intro r
  obtain ⟨a1, _, a3, a4, a5⟩ := idListGo_spec maxIds (having cells n) [] List.nodup_nil
  refine ⟨a1, ?_, ?_, a5 (Nat.zero_le _)⟩
  · intro x hx
    rcases a3 x hx with h | ⟨c, hc, e⟩
    · exact absurd h List.not_mem_nil
    · have := mem_having.mp hc
      exact ⟨c, this.1, this.2, e⟩
  · rcases a4 with h | h
    · exact Or.inl fun c hc hn => h c (mem_having.mpr ⟨hc, hn⟩)
    · exact Or.inr h

theorem idListAround_length_ge {cells : List Cell} {n maxIds : Nat} {cs : List Cell} (hnd : (cs.map (·.id)).Nodup)
    (h : ∀ c ∈ cs, c ∈ cells ∧ n ∈ c.nodes) (hk : cs.length ≤ maxIds) :
    cs.length ≤ (idListAround cells n maxIds).2.length := by
  obtain ⟨_, _, hall, _⟩ := idListAround_spec cells n maxIds
  rcases hall with hall | hlim
  · rw [← List.length_map (·.id) (as := cs)]
    refine hnd.length_le_of_subset fun x hx => ?_
    obtain ⟨c, hc, rfl⟩ := List.mem_map.mp hx
    exact hall c (h c hc).1 (h c hc).2
  · exact hk.trans hlim

theorem idListAround_length_le {cells : List Cell} {n maxIds : Nat} {ids : List Int}
    (h : ∀ c ∈ cells, n ∈ c.nodes → c.id ∈ ids) : (idListAround cells n maxIds).2.length ≤ ids.length := by
  obtain ⟨hnd, hsub, _, _⟩ := idListAround_spec cells n maxIds
  refine hnd.length_le_of_subset fun x hx => ?_
  obtain ⟨c, hc, hn, rfl⟩ := hsub x hx
  exact h c hc hn

theorem idListAround_two {cells : List Cell} {n : Nat} {c1 c2 : Cell} (h1 : c1 ∈ cells) (h2 : c2 ∈ cells)
    (m1 : n ∈ c1.nodes) (m2 : n ∈ c2.nodes) (d : c1.id ≠ c2.id) : 1 < (idListAround cells n 2).2.length := by
  exact idListAround_length_ge (cells := cells) (n := n) (maxIds := 2) (cs := [c1, c2])
    (by simp [d]) (by simp [h1, h2, m1, m2]) le_rfl

theorem nd_mem {c : Cell} {k : Nat} (hk : k < c.nodes.length) : c.nd k ∈ c.nodes :=
  ListFacts.getD_mem hk

/-- what `ref_cell_has_side` decides, for any cells (no arity hypothesis): it visits the cells at `n0` -/
theorem hasSide_eq_true_iff {e2n : List (Nat × Nat)} {cells : List Cell} {n0 n1 : Nat} :
    hasSide e2n cells n0 n1 = true ↔ ∃ c ∈ cells, n0 ∈ c.nodes ∧ ∃ p ∈ e2n,
      (n0 = c.nd p.1 ∧ n1 = c.nd p.2) ∨ (n0 = c.nd p.2 ∧ n1 = c.nd p.1) := by
  unfold hasSide
  simp only [List.any_eq_true, mem_having, Bool.or_eq_true, Bool.and_eq_true, beq_iff_eq, and_assoc]

theorem side_mem {e2n : List (Nat × Nat)} {c : Cell} {n0 n1 np : Nat} (hw : c.nodes.length = np)
    (hb : ∀ p ∈ e2n, p.1 < np ∧ p.2 < np)
    (h : ∃ p ∈ e2n, (n0 = c.nd p.1 ∧ n1 = c.nd p.2) ∨ (n0 = c.nd p.2 ∧ n1 = c.nd p.1)) :
    n0 ∈ c.nodes ∧ n1 ∈ c.nodes := by
  obtain ⟨p, hp, hs⟩ := h
  obtain ⟨b1, b2⟩ := hb p hp
  rw [← hw] at b1 b2
  rcases hs with ⟨e0, e1⟩ | ⟨e0, e1⟩
  · exact ⟨e0 ▸ nd_mem b1, e1 ▸ nd_mem b2⟩
  · exact ⟨e0 ▸ nd_mem b2, e1 ▸ nd_mem b1⟩

/-- `f`: a face row, or all positions of a simplex -/
theorem side_of_positions {e2n : List (Nat × Nat)} {f : List Nat}
    (hs : ∀ x ∈ f, ∀ y ∈ f, x ≠ y → (x, y) ∈ e2n ∨ (y, x) ∈ e2n) {c : Cell} {n0 n1 : Nat} (hne : n0 ≠ n1)
    (h0 : n0 ∈ f.map c.nd) (h1 : n1 ∈ f.map c.nd) :
    ∃ p ∈ e2n, (n0 = c.nd p.1 ∧ n1 = c.nd p.2) ∨ (n0 = c.nd p.2 ∧ n1 = c.nd p.1) := by
  obtain ⟨x, hx, hx0⟩ := List.mem_map.mp h0
  obtain ⟨y, hy, hy1⟩ := List.mem_map.mp h1
  have hxy : x ≠ y := fun e => hne (by rw [← hx0, ← hy1, e])
  rcases hs x hx y hy hxy with hp | hp
  · exact ⟨(x, y), hp, Or.inl ⟨hx0.symm, hy1.symm⟩⟩
  · exact ⟨(y, x), hp, Or.inr ⟨hx0.symm, hy1.symm⟩⟩

theorem nodes_eq_map_nd (c : Cell) : c.nodes = (List.range c.nodes.length).map c.nd := by
  refine List.ext_getElem (by simp) fun i h1 h2 => ?_
  simp [Cell.nd, List.getD_eq_getElem?_getD, List.getElem?_eq_getElem h1]

theorem e2nTri_bound : ∀ p ∈ e2nTri, p.1 < 3 ∧ p.2 < 3 := by decide

theorem hasSide_true_mem {e2n : List (Nat × Nat)} {cells : List Cell} {n0 n1 np : Nat}
    (hw : ∀ c ∈ cells, c.nodes.length = np) (hb : ∀ p ∈ e2n, p.1 < np ∧ p.2 < np)
    (h : hasSide e2n cells n0 n1 = true) : ∃ c ∈ cells, n0 ∈ c.nodes ∧ n1 ∈ c.nodes := by
  obtain ⟨c, hc, -, he⟩ := hasSide_eq_true_iff.mp h
  exact ⟨c, hc, side_mem (hw c hc) hb he⟩

theorem e2nTri_complete : ∀ x ∈ List.range 3, ∀ y ∈ List.range 3, x ≠ y → (x, y) ∈ e2nTri ∨ (y, x) ∈ e2nTri := by
  decide

theorem hasSide_tri_iff {cells : List Cell} {n0 n1 : Nat} (hw : ∀ c ∈ cells, c.nodes.length = 3)
    (hne : n0 ≠ n1) :
    hasSide e2nTri cells n0 n1 = true ↔ ∃ c ∈ cells, n0 ∈ c.nodes ∧ n1 ∈ c.nodes := by
  refine ⟨hasSide_true_mem hw e2nTri_bound, fun ⟨c, hc, h0, h1⟩ => hasSide_eq_true_iff.mpr ⟨c, hc, h0, ?_⟩⟩
  -- a triangle is its own face: any two of its vertices are a side
  rw [nodes_eq_map_nd c, hw c hc] at h0 h1
  exact side_of_positions e2nTri_complete hne h0 h1

theorem mem_subst {c : Cell} {old new n : Nat} :
    n ∈ (Cell.subst old new c).nodes ↔ (n = new ∧ old ∈ c.nodes) ∨ (n ∈ c.nodes ∧ n ≠ old) := by
  simp only [Cell.subst, beq_iff_eq]
  exact ListFacts.mem_map_subst

theorem subst_eq_self {c : Cell} {n1 n0 : Nat} (h : n1 ∉ c.nodes) : Cell.subst n1 n0 c = c := by
  unfold Cell.subst
  have : c.nodes.map (fun n => if (n == n1) = true then n0 else n) = c.nodes :=
    ListFacts.map_eq_self fun n hn => if_neg (by simpa using fun e : n = n1 => h (e ▸ hn))
  cases c
  simp_all

theorem collapseGroup_eq_self {cells : List Cell} {n0 n1 : Nat} (h : ∀ c ∈ cells, n1 ∉ c.nodes) :
    collapseGroup cells n0 n1 = cells := by
  unfold collapseGroup
  have hf : cells.filter (fun c => !(c.nodes.contains n0 && c.nodes.contains n1)) = cells := by
    apply List.filter_eq_self.mpr
    intro c hc
    have := h c hc
    simp [this]
  rw [hf]
  exact ListFacts.map_eq_self fun c hc => subst_eq_self (h c hc)

theorem splitGroup_eq_self {cells : List Cell} {n0 n1 new : Nat}
    (h : ∀ c ∈ cells, ¬ (n0 ∈ c.nodes ∧ n1 ∈ c.nodes)) : splitGroup cells n0 n1 new = cells :=
  (ListFacts.flatMap_congr fun c hc => if_neg (by simpa using h c hc)).trans (List.flatMap_singleton' cells)

theorem subst_id (n1 n0 : Nat) (c : Cell) : (Cell.subst n1 n0 c).id = c.id := rfl

/-- the substitution of the kernels' list view (`Cell.subst`, `collapseGroup`) is the one the numeric guards apply to a node
    tuple (`Guards.subst`, `sameNormalStep`) -/
theorem subst_nodes_eq (n1 n0 : Nat) (c : Cell) : (Cell.subst n1 n0 c).nodes = Guards.subst n1 n0 c.nodes := rfl

theorem mem_splitGroup {cells : List Cell} {n0 n1 new : Nat} {d : Cell} :
    d ∈ splitGroup cells n0 n1 new ↔ ∃ c ∈ cells,
      if n0 ∈ c.nodes ∧ n1 ∈ c.nodes then d = Cell.subst n0 new c ∨ d = Cell.subst n1 new c else d = c := by
  unfold splitGroup
  rw [List.mem_flatMap]
  refine exists_congr fun c => and_congr_right fun _ => ?_
  by_cases hb : n0 ∈ c.nodes ∧ n1 ∈ c.nodes
  · rw [if_pos hb, if_pos (by simp [hb.1, hb.2])]
    simp
  · rw [if_neg hb, if_neg (by simpa using hb)]
    simp

theorem mem_collapseGroup {cells : List Cell} {n0 n1 : Nat} {d : Cell} :
    d ∈ collapseGroup cells n0 n1 ↔
      ∃ c ∈ cells, ¬ (n0 ∈ c.nodes ∧ n1 ∈ c.nodes) ∧ d = Cell.subst n1 n0 c := by
  unfold collapseGroup
  simp only [List.mem_map, List.mem_filter]
  constructor
  · rintro ⟨c, ⟨hc, hk⟩, rfl⟩
    refine ⟨c, hc, ?_, rfl⟩
    intro ⟨h0, h1⟩
    simp [h0, h1] at hk
  · rintro ⟨c, hc, hk, rfl⟩
    refine ⟨c, ⟨hc, ?_⟩, rfl⟩
    by_cases h0 : n0 ∈ c.nodes
    · have : n1 ∉ c.nodes := fun h1 => hk ⟨h0, h1⟩
      simp [this]
    · simp [h0]

end Refine.GuardsRules
