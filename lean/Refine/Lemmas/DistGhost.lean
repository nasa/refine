import Refine.Model.Dist
import Mathlib.Data.List.Nodup

/-!
  The store step of `ref_node_ghost_*` (`vector[i + ldim*local] = a_vector[i + ldim*node]` through
  `ref_node_local`): with distinct globals the loop of `storeVals` is one `map`.
-/
namespace Refine.Lemmas.DistGhost
open Refine.Model.Dist

variable {β : Type}

theorem modify_eq_map_of_unique (nodes : List (GNode β)) (g : Int) (f : GNode β → GNode β)
    (hnd : (nodes.map (·.glob)).Nodup) (i : Nat) (hi : nodes.findIdx? (fun nd => nd.glob == g) = some i) :
    nodes.modify i f = nodes.map fun nd => if nd.glob == g then f nd else nd := by
  induction nodes generalizing i with
  | nil => simp at hi
  | cons x xs ih =>
    rw [List.map_cons, List.nodup_cons] at hnd
    rw [List.findIdx?_cons] at hi
    by_cases hx : x.glob == g
    · simp only [hx, if_true, Option.some.injEq] at hi
      subst hi
      simp only [List.modify_zero_cons, List.map_cons, hx, if_true]
      congr 1
      symm
      rw [List.map_congr_left (g := fun nd => nd), List.map_id']
      intro nd hmem
      have : nd.glob ≠ g := by
        intro h
        have hxg : x.glob = g := by simpa using hx
        exact hnd.1 (by rw [hxg, ← h]; exact List.mem_map_of_mem hmem)
      simp [this]
    · simp only [hx, Bool.false_eq_true, if_false, Option.map_eq_some_iff] at hi
      obtain ⟨j, hj, rfl⟩ := hi
      simp only [List.modify_succ_cons, List.map_cons, hx, Bool.false_eq_true, if_false]
      rw [ih hnd.2 j hj]

theorem storeVals_eq_map (nodes : List (GNode β)) (g : Int) (v : List β) (hnd : (nodes.map (·.glob)).Nodup) :
    storeVals nodes g v = nodes.map fun nd => if nd.glob == g then { nd with vals := v } else nd := by
  fun_cases storeVals nodes g v with
  | case1 i h => exact modify_eq_map_of_unique nodes g _ hnd i h
  | case2 h =>
    rw [List.findIdx?_eq_none_iff] at h
    symm
    rw [List.map_congr_left (g := fun nd => nd), List.map_id']
    intro nd hmem
    simp [h nd hmem]

theorem foldl_storeVals (ps : List (Int × List β)) : ∀ (nodes : List (GNode β)),
    (nodes.map (·.glob)).Nodup → (ps.map (·.1)).Nodup →
    ps.foldl (fun ns gi => storeVals ns gi.1 gi.2) nodes
      = nodes.map fun nd => match ps.find? (fun gv => gv.1 == nd.glob) with
          | some gv => { nd with vals := gv.2 }
          | none => nd := by
  induction ps with
  | nil => intro nodes _ _; simp
  | cons p ps ih =>
    intro nodes hnd hps
    rw [List.map_cons, List.nodup_cons] at hps
    rw [List.foldl_cons, storeVals_eq_map nodes p.1 p.2 hnd]
    have hglob : ((nodes.map fun nd => if nd.glob == p.1 then { nd with vals := p.2 } else nd).map (·.glob))
        = nodes.map (·.glob) := by
      rw [List.map_map]; apply List.map_congr_left; intro nd _; simp only [Function.comp]; split <;> rfl
    rw [ih _ (by rw [hglob]; exact hnd) hps.2, List.map_map]
    apply List.map_congr_left
    intro nd _
    simp only [Function.comp, List.find?_cons]
    by_cases hg : nd.glob == p.1
    · have hg' : (p.1 == nd.glob) = true := by
        have : nd.glob = p.1 := by simpa using hg
        simp [this]
      have hnone : ps.find? (fun gv => gv.1 == nd.glob) = none := by
        rw [List.find?_eq_none]
        intro gv hgv hc
        have h1 : gv.1 = nd.glob := by simpa using hc
        have h2 : nd.glob = p.1 := by simpa using hg
        exact hps.1 (by rw [← h2, ← h1]; exact List.mem_map_of_mem hgv)
      simp [hg, hg', hnone]
    · have hg' : (p.1 == nd.glob) = false := by
        simp only [beq_eq_false_iff_ne, ne_eq]; intro h; exact hg (by simp [h])
      simp [hg, hg']

end Refine.Lemmas.DistGhost
