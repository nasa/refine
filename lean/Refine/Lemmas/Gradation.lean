import Refine.Model.Gradation
import Refine.Props.C16
import Refine.Lemmas.MetricSpd
import Refine.Lemmas.ListFacts

/-!
  The Loewner order on vertex tensors and on fields, the effect of
  one `ref_matrix_intersect` write-back on a field, and the exactness predicates that walk the same call
  sequence as the executable sweeps (`Props/C16.InnerExact` for every write-back call actually made).  Everything here is
  declared in the model's namespace `Refine.Model.Gradation` (`LeM`, `FieldLe`, `FoldExact`, … are not in Model/Gradation.lean).
-/
namespace Refine.Model.Gradation
open Refine Refine.Scalar Refine.ScalarReal Refine.Model.Matrix Refine.Model.Metric
open Refine.Props.C16 (InnerExact intersect_ge_left intersect_spd)
open Refine.Model.Geom (V3)

/-- Loewner order: `xᵀ a x ≤ xᵀ b x` for every x -/
def LeM (a b : M6 ℝ) : Prop := ∀ x : Vec3 ℝ, vtMv a x ≤ vtMv b x

def FieldLe (f g : List (M6 ℝ)) : Prop := f.length = g.length ∧ ∀ i, LeM (mAt f i) (mAt g i)

theorem LeM.refl (a : M6 ℝ) : LeM a a := fun _ => le_rfl
theorem LeM.trans {a b c : M6 ℝ} (h1 : LeM a b) (h2 : LeM b c) : LeM a c := fun x => le_trans (h1 x) (h2 x)
theorem FieldLe.refl (f : List (M6 ℝ)) : FieldLe f f := ⟨rfl, fun _ => LeM.refl _⟩
theorem FieldLe.trans {f g h : List (M6 ℝ)} (h1 : FieldLe f g) (h2 : FieldLe g h) : FieldLe f h :=
  ⟨h1.1.trans h2.1, fun i => (h1.2 i).trans (h2.2 i)⟩

theorem LeM.spd {a b : M6 ℝ} (h : LeM a b) (ha : SPD a) : SPD b := fun x hx => lt_of_lt_of_le (ha x hx) (h x)

/-- positive definiteness is upward closed in the vertex-wise Loewner order -/
theorem FieldLe.spd {f g : List (M6 ℝ)} (h : FieldLe f g) (hf : ∀ m ∈ f, SPD m) : ∀ m ∈ g, SPD m := by
  intro m hm
  obtain ⟨i, hi, rfl⟩ := mem_mAt hm
  exact (h.2 i).spd (hf _ (mAt_mem (h.1 ▸ hi)))

theorem fieldLe_set {f : List (M6 ℝ)} {a : Nat} {m : M6 ℝ} (h : LeM (mAt f a) m) : FieldLe f (f.set a m) := by
  refine ⟨(List.length_set ..).symm, fun i => ?_⟩
  by_cases hia : a = i
  · subst hia
    by_cases hl : a < f.length
    · rw [mAt_set_self m hl]; exact h
    · rw [List.set_eq_of_length_le (not_lt.mp hl)]; exact LeM.refl _
  · rw [mAt_set_ne m hia]; exact LeM.refl _

/-- the eigen-decomposition hypotheses of `Props/C16` for one call `ref_matrix_intersect(m1, m2, ·)` -/
def CallExact (m1 m2 : M6 ℝ) : Prop := ∃ s is d1 d2, InnerExact m1 m2 s is d1 d2

/-- the write-back `intersect(metric[a], X, metric[a])` only enlarges the field -/
theorem fieldLe_set_intersect {f : List (M6 ℝ)} {a : Nat} {X m : M6 ℝ} (H : CallExact (mAt f a) X)
    (h : intersect (mAt f a) X = .ok m) : FieldLe f (f.set a m) := by
  obtain ⟨s, is, d1, d2, H⟩ := H
  exact fieldLe_set fun x => intersect_ge_left H h x

/-- exactness for the write-back call of one end (whatever the inner `limited` came out as) -/
def UpdExact (logR : ℝ) (dir : Vec3 ℝ) (orig metric : List (M6 ℝ)) (a b : Nat) : Prop :=
  ∀ limited, intersect (mAt orig a) (limitMS logR (mAt orig b) dir) = .ok limited → CallExact (mAt metric a) limited

/-- exactness for the (at most two) write-back calls of one edge -/
def EdgeExact (xyz : List (V3 ℝ)) (logR : ℝ) (orig metric : List (M6 ℝ)) (e : Nat × Nat) : Prop :=
  UpdExact logR (direction xyz e.1 e.2) orig metric e.1 e.2 ∧
  ∀ metric1, msUpdate logR (direction xyz e.1 e.2) orig metric e.1 e.2 = some metric1 →
    UpdExact logR (direction xyz e.1 e.2) orig metric1 e.2 e.1

/-- exactness along the edge loop: the predicate walks the same fold as `msSweep` -/
def FoldExact (xyz : List (V3 ℝ)) (logR : ℝ) (orig : List (M6 ℝ)) : List (M6 ℝ) → List (Nat × Nat) → Prop
  | _, [] => True
  | metric, e :: es => EdgeExact xyz logR orig metric e ∧ FoldExact xyz logR orig (msEdge xyz logR orig metric e) es

def SweepsExact (xyz : List (V3 ℝ)) (r : ℝ) (edges : List (Nat × Nat)) : Nat → List (M6 ℝ) → Prop
  | 0, _ => True
  | k + 1, metric => FoldExact xyz (Real.log r) metric metric edges ∧ SweepsExact xyz r edges k (msSweep xyz r edges metric)

theorem msUpdate_ge {logR : ℝ} {dir : Vec3 ℝ} {orig metric metric1 : List (M6 ℝ)} {a b : Nat}
    (H : UpdExact logR dir orig metric a b) (h : msUpdate logR dir orig metric a b = some metric1) :
    FieldLe metric metric1 := by
  revert h
  fun_cases msUpdate logR dir orig metric a b with
  | case1 => nofun
  | case2 => nofun
  | case3 limited h1 m h2 => rintro ⟨⟩; exact fieldLe_set_intersect (H limited h1) h2

theorem msEdge_ge {xyz : List (V3 ℝ)} {logR : ℝ} {orig metric : List (M6 ℝ)} {e : Nat × Nat}
    (H : EdgeExact xyz logR orig metric e) : FieldLe metric (msEdge xyz logR orig metric e) := by
  fun_cases msEdge xyz logR orig metric e with
  | case1 dir h1 => exact FieldLe.refl _
  | case2 dir metric1 h1 h2 => exact msUpdate_ge H.1 h1
  | case3 dir metric1 h1 metric2 h2 => exact (msUpdate_ge H.1 h1).trans (msUpdate_ge (H.2 metric1 h1) h2)

theorem msFold_ge {xyz : List (V3 ℝ)} {logR : ℝ} {orig : List (M6 ℝ)} (edges : List (Nat × Nat)) (metric : List (M6 ℝ))
    (H : FoldExact xyz logR orig metric edges) : FieldLe metric (edges.foldl (msEdge xyz logR orig) metric) := by
  induction edges generalizing metric with
  | nil => exact FieldLe.refl _
  | cons e es ih =>
    rw [List.foldl_cons]
    exact (msEdge_ge H.1).trans (ih _ H.2)

/-- exactness for the write-back call of one end of the mixed-space sweep (whatever `limitMixed` and the inner
    `limited` came out as) -/
def MixedUpdExact (logR t dist : ℝ) (dir : Vec3 ℝ) (orig metric : List (M6 ℝ)) (a b : Nat) : Prop :=
  ∀ lim limited, limitMixed logR t dist (mAt orig b) dir = .ok lim → intersect (mAt orig a) lim = .ok limited →
    CallExact (mAt metric a) limited

/-- the edge length `dist = sqrt(dx² + dy² + dz²)` that the body of `ref_metric_mixed_space_gradation` computes from
    `direction` before limiting the two ends (the `dist` of `mixedEdge`) -/
noncomputable def mixedDist (xyz : List (V3 ℝ)) (e : Nat × Nat) : ℝ :=
  Scalar.sqrt ((direction xyz e.1 e.2).x *. (direction xyz e.1 e.2).x +. (direction xyz e.1 e.2).y *. (direction xyz e.1 e.2).y +.
    (direction xyz e.1 e.2).z *. (direction xyz e.1 e.2).z)

/-- exactness for the (at most two) write-back calls of one edge of the mixed-space sweep -/
def MixedEdgeExact (xyz : List (V3 ℝ)) (logR t : ℝ) (orig metric : List (M6 ℝ)) (e : Nat × Nat) : Prop :=
  MixedUpdExact logR t (mixedDist xyz e) (direction xyz e.1 e.2) orig metric e.1 e.2 ∧
  ∀ metric1, mixedUpdate logR t (mixedDist xyz e) (direction xyz e.1 e.2) orig metric e.1 e.2 = .ok metric1 →
    MixedUpdExact logR t (mixedDist xyz e) (direction xyz e.1 e.2) orig metric1 e.2 e.1

/-- exactness along the edge loop of the mixed-space sweep: walks the same fold as `mixedFold`, only along a
    successful run -/
def MixedFoldExact (xyz : List (V3 ℝ)) (logR t : ℝ) (orig : List (M6 ℝ)) : List (M6 ℝ) → List (Nat × Nat) → Prop
  | _, [] => True
  | metric, e :: es => MixedEdgeExact xyz logR t orig metric e ∧
      ∀ metric1, mixedEdge xyz logR t orig metric e = .ok metric1 → MixedFoldExact xyz logR t orig metric1 es

theorem mixedUpdate_ge {logR t dist : ℝ} {dir : Vec3 ℝ} {orig metric metric1 : List (M6 ℝ)} {a b : Nat}
    (H : MixedUpdExact logR t dist dir orig metric a b)
    (h : mixedUpdate logR t dist dir orig metric a b = .ok metric1) : FieldLe metric metric1 := by
  revert h
  fun_cases mixedUpdate logR t dist dir orig metric a b with
  | case1 => nofun
  | case2 lim h0 e h1 => rintro ⟨⟩; exact FieldLe.refl _
  | case3 => nofun
  | case4 lim h0 limited h1 m h2 => rintro ⟨⟩; exact fieldLe_set_intersect (H lim limited h0 h1) h2

theorem mixedEdge_ok {xyz : List (V3 ℝ)} {logR t : ℝ} {orig metric metric2 : List (M6 ℝ)} {e : Nat × Nat}
    (h : mixedEdge xyz logR t orig metric e = .ok metric2) :
    ∃ metric1, mixedUpdate logR t (mixedDist xyz e) (direction xyz e.1 e.2) orig metric e.1 e.2 = .ok metric1 ∧
      mixedUpdate logR t (mixedDist xyz e) (direction xyz e.1 e.2) orig metric1 e.2 e.1 = .ok metric2 := by
  unfold mixedDist
  unfold mixedEdge at h
  dsimp only at h
  split at h
  · cases h
  · rename_i metric1 h1
    exact ⟨metric1, h1, h⟩

theorem mixedEdge_ge {xyz : List (V3 ℝ)} {logR t : ℝ} {orig metric metric2 : List (M6 ℝ)} {e : Nat × Nat}
    (H : MixedEdgeExact xyz logR t orig metric e) (h : mixedEdge xyz logR t orig metric e = .ok metric2) :
    FieldLe metric metric2 := by
  obtain ⟨metric1, h1, h2⟩ := mixedEdge_ok h
  exact (mixedUpdate_ge H.1 h1).trans (mixedUpdate_ge (H.2 metric1 h1) h2)

theorem mixedFold_ge {xyz : List (V3 ℝ)} {logR t : ℝ} {orig : List (M6 ℝ)} (edges : List (Nat × Nat))
    (metric out : List (M6 ℝ)) (H : MixedFoldExact xyz logR t orig metric edges)
    (h : mixedFold xyz logR t orig edges metric = .ok out) : FieldLe metric out := by
  fun_induction mixedFold xyz logR t orig edges metric with
  | case1 metric => cases h; exact FieldLe.refl _
  | case2 e es metric err h1 => cases h
  | case3 e es metric metric1 h1 ih => exact (mixedEdge_ge H.1 h1).trans (ih (H.2 metric1 h1) h)

theorem limitMS_eq (logR : ℝ) (m : M6 ℝ) (dir : Vec3 ℝ) :
    limitMS logR m dir = scaleM m ((1 + Real.sqrt (vtMv m dir) * logR) ^ ((-2 : ℤ) : ℝ)) := by
  unfold limitMS sqrtVtMv
  simp only [pow_eq, add_eq, mul_eq, one_eq, sqrt_eq, ofInt_eq]

theorem reEmbed_true_embedded (f : List (M6 ℝ)) : ∀ m ∈ reEmbed true f, IsEmbedded m :=
  List.forall_mem_map.mpr fun m _ => twodM_embedded m

theorem reEmbed_spd (twod : Bool) {f : List (M6 ℝ)} (h : ∀ m ∈ f, SPD m) : ∀ m ∈ reEmbed twod f, SPD m := by
  cases twod with
  | false => exact h
  | true => exact List.forall_mem_map.mpr fun m hm => twodM_spd (h m hm)

theorem localScale_eq (twod : Bool) (p : Int) (f : List (M6 ℝ)) :
    localScale twod p f = reEmbed twod ((reEmbed twod f).map (localScaleNode (localScaleExponent twod p))) := by
  cases twod <;> rfl

theorem twodM_of_embedded {m : M6 ℝ} (h : IsEmbedded m) : twodM m = m := by
  cases m with
  | mk a b c d e f =>
    obtain ⟨h13, h23, h33⟩ := h
    simp only at h13 h23 h33
    subst h13 h23 h33
    simp [twodM, ofInt_eq]

/-- re-imposing the embedding keeps dominance over an embedded field -/
theorem fieldLe_map_twodM {f g : List (M6 ℝ)} (he : ∀ m ∈ f, IsEmbedded m) (h : FieldLe f g) :
    FieldLe f (g.map twodM) := by
  refine ⟨by rw [List.length_map]; exact h.1, fun i => ?_⟩
  by_cases hi : i < g.length
  · rw [mAt_map twodM g i hi]
    intro x
    have hf : twodM (mAt f i) = mAt f i := twodM_of_embedded (he _ (mAt_mem (h.1 ▸ hi)))
    rw [← hf, vtMv_twodM, vtMv_twodM]
    have := h.2 i ⟨x.x, x.y, 0⟩
    linarith
  · have hi' : g.length ≤ i := not_lt.mp hi
    rw [mAt_of_le (show f.length ≤ i by rw [h.1]; exact hi'), mAt_of_le (show (g.map twodM).length ≤ i by rw [List.length_map]; exact hi')]
    exact LeM.refl _

end Refine.Model.Gradation
