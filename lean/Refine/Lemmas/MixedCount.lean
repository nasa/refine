import Refine.Lemmas.MixedInterface

/-!
  Counting lemmas for `Refine/Model/Mixed.lean`: the NUMBER of simplices on a triangular face of a pyramid / prism is
  unchanged by a guarded split (so "exactly one neighbour" is preserved, not only "at least one").
-/
namespace Refine.MixedLemmas
open Refine Refine.Model Refine.Model.Guards Refine.Model.Mixed Refine.GuardsRules

theorem covers_subst_iff {c : Cell} {k : List Nat} {old new : Nat} (hnew : new ∉ k) :
    covers (Cell.subst old new c) k = true ↔ covers c k = true ∧ old ∉ k := by
  refine ⟨fun h => ?_, fun ⟨h, ho⟩ => covers_subst h ho⟩
  have key : ∀ v ∈ k, v ∈ c.nodes ∧ v ≠ old := fun v hv =>
    (mem_subst.mp (covers_iff.mp h v hv)).resolve_left fun e => hnew (e.1 ▸ hv)
  exact ⟨covers_iff.mpr fun v hv => (key v hv).1, fun ho => (key old ho).2 rfl⟩

theorem not_covers_avoiding {c : Cell} {k : List Nat} {n0 n1 : Nat} (hl : c.nodes.length ≤ 4) (hne : n0 ≠ n1)
    (h0 : n0 ∈ c.nodes) (h1 : n1 ∈ c.nodes) (hk : k.Nodup ∧ k.length = 3) (a0 : n0 ∉ k) (a1 : n1 ∉ k) :
    covers c k = false := by
  rw [← Bool.not_eq_true, covers_iff]
  intro h
  have hnd : (n0 :: n1 :: k).Nodup :=
    List.nodup_cons.mpr ⟨fun hm => (List.mem_cons.mp hm).elim hne a0, List.nodup_cons.mpr ⟨a1, hk.1⟩⟩
  have := (hnd.subperm (List.cons_subset.mpr ⟨h0, List.cons_subset.mpr ⟨h1, h⟩⟩)).length_le
  simp only [List.length_cons, hk.2] at this
  omega

theorem countP_flatMap_eq {α : Type} (p : α → Bool) (f : α → List α) (l : List α)
    (h : ∀ c ∈ l, (f c).countP p = [c].countP p) : (l.flatMap f).countP p = l.countP p := by
  induction l with
  | nil => rfl
  | cons c rest ih =>
    rw [List.flatMap_cons, List.countP_append, h c List.mem_cons_self,
      ih fun c' hc' => h c' (List.mem_cons_of_mem _ hc'), ← List.countP_append, List.singleton_append]

theorem halves_count {c : Cell} {k : List Nat} {n0 n1 new : Nat} (hl : c.nodes.length ≤ 4) (hne : n0 ≠ n1)
    (h0 : n0 ∈ c.nodes) (h1 : n1 ∈ c.nodes) (hk : k.Nodup ∧ k.length = 3) (hnew : new ∉ k)
    (hnot : ¬ (n0 ∈ k ∧ n1 ∈ k)) :
    [Cell.subst n0 new c, Cell.subst n1 new c].countP (covers · k) = [c].countP (covers · k) := by
  simp only [List.countP_cons, List.countP_nil, covers_subst_iff hnew]
  by_cases hc : covers c k = true
  · -- `k` contains exactly one end: the half that lost it does not cover `k`, the other one does
    have hor : n0 ∈ k ∨ n1 ∈ k := by
      by_contra h
      rw [not_or] at h
      rw [not_covers_avoiding hl hne h0 h1 hk h.1 h.2] at hc
      cases hc
    rcases hor with a0 | a1
    · have a1 : n1 ∉ k := fun a1 => hnot ⟨a0, a1⟩
      simp [hc, a0, a1]
    · have a0 : n0 ∉ k := fun a0 => hnot ⟨a0, a1⟩
      simp [hc, a0, a1]
  · simp [hc]

theorem count_splitGroup {cells : List Cell} {k : List Nat} {n0 n1 new : Nat}
    (hl : ∀ c ∈ cells, c.nodes.length ≤ 4) (hne : n0 ≠ n1) (hk : k.Nodup ∧ k.length = 3) (hnew : new ∉ k)
    (hnot : ¬ (n0 ∈ k ∧ n1 ∈ k)) :
    ((splitGroup cells n0 n1 new).filter (covers · k)).length = (cells.filter (covers · k)).length := by
  rw [← List.countP_eq_length_filter, ← List.countP_eq_length_filter]
  refine countP_flatMap_eq _ _ _ fun c hc => ?_
  by_cases hb : n0 ∈ c.nodes ∧ n1 ∈ c.nodes
  · rw [if_pos (by simp [hb.1, hb.2])]
    exact halves_count (hl c hc) hne hb.1 hb.2 hk hnew hnot
  · rw [if_neg (by simpa using hb)]

def SimplexArity (g : Grid) : Prop := (∀ c ∈ g.tet, c.nodes.length = 4) ∧ (∀ c ∈ g.tri, c.nodes.length = 3)

theorem counts_splitCells {g : Grid} {k : List Nat} {n0 n1 new : Nat} (ha : SimplexArity g) (hne : n0 ≠ n1)
    (hk : k.Nodup ∧ k.length = 3) (hnew : new ∉ k) (hnot : ¬ (n0 ∈ k ∧ n1 ∈ k)) :
    ((splitCells g n0 n1 new).2.tet.filter (covers · k)).length = (g.tet.filter (covers · k)).length ∧
    ((splitCells g n0 n1 new).2.tri.filter (covers · k)).length = (g.tri.filter (covers · k)).length := by
  have h := (splitCells_rewrites g n0 n1 new).lift
    (fun cs cs' => (∀ c ∈ cs, c.nodes.length ≤ 4) → (cs'.filter (covers · k)).length = (cs.filter (covers · k)).length)
    (fun _ _ => rfl) fun _ hl => count_splitGroup hl hne hk hnew hnot
  exact ⟨h.1 fun c hc => (ha.1 c hc).le, h.2.1 fun c hc => by rw [ha.2 c hc]; omega⟩

theorem coverCount_splitCells {g : Grid} {k : List Nat} {n0 n1 new : Nat} (ha : SimplexArity g) (hne : n0 ≠ n1)
    (hk : k.Nodup ∧ k.length = 3) (hnew : new ∉ k) (hnot : ¬ (n0 ∈ k ∧ n1 ∈ k)) :
    coverCount (splitCells g n0 n1 new).2 k = coverCount g k := by
  obtain ⟨ht, hr⟩ := counts_splitCells ha hne hk hnew hnot
  unfold coverCount
  rw [ht, hr]

theorem faceConforming_congr {g' g : Grid} {k : List Nat} (hg : SameFrozenGroups g' g)
    (ht : (g'.tet.filter (covers · k)).length = (g.tet.filter (covers · k)).length)
    (hr : (g'.tri.filter (covers · k)).length = (g.tri.filter (covers · k)).length) :
    faceConforming g' k = faceConforming g k := by
  unfold faceConforming
  rw [mixedTriFaces_eq_of hg, ht, hr]

end Refine.MixedLemmas
