import Refine.Lemmas.ContainersSort

/-!
  Heap sort (`ref_sort_heap_int/_glob/_dbl`).  The theorems are about the two-phase function `sortHeap` (`heapify`, then `extract`);
  `sortHeapLoop_eq` ties the literal single `for (;;)` to it.  For ANY comparison the result is a permutation of `0..n-1`
  (`sortHeap_perm`: a sift-down only moves the hole); over a linear order the keys come out non-decreasing (`sortHeap_sorted`):
  `siftDown_heap`'s hypotheses are the loop invariant "a heap with a hole at `i`", `extract_succ` says that the C's early exit of the
  extraction phase is the general round.
-/

namespace Refine.Model.Sort
open List

section perm
variable {α : Type} [Inhabited α] (lt : α → α → Bool) (a : List α)

/-- moving the hole from `i` to `j'` is a transposition of the filled array -/
theorem hole_move_perm (idx : List Nat) (i j' indxt : Nat) (hi : i < idx.length) (hj : j' < idx.length)
    (hij : i ≠ j') : ((idx.set i (idx.getD j' 0)).set j' indxt).Perm (idx.set i indxt) := by
  have h := List.set_set_perm (as := idx.set i indxt) (i := i) (j := j') (by simpa using hi) (by simpa using hj)
  have e1 : (idx.set i indxt)[j']'(by simpa using hj) = idx.getD j' 0 := by
    rw [List.getElem_set_ne hij, ListFacts.getD_eq_getElem hj]
  have e2 : (idx.set i indxt)[i]'(by simpa using hi) = indxt := by simp
  rw [e1, e2, List.set_set] at h
  exact h

/-- the child selected by `if (j < ir) if (a[idx[j]] < a[idx[j+1]]) j++` -/
def childSel (idx : List Nat) (j ir : Nat) : Nat :=
  if j < ir && lt (keyAt a idx j) (keyAt a idx (j + 1)) then j + 1 else j

theorem childSel_range (idx : List Nat) (j ir : Nat) (h : j ≤ ir) :
    j ≤ childSel lt a idx j ir ∧ childSel lt a idx j ir ≤ j + 1 ∧ childSel lt a idx j ir ≤ ir := by
  unfold childSel
  split_ifs with h3
  · simp only [Bool.and_eq_true, decide_eq_true_eq] at h3; omega
  · omega

theorem siftDown_perm (indxt : Nat) (q : α) (ir fuel i j : Nat) (idx : List Nat)
    (hij : i < j) (hi : i < idx.length) (hir : ir < idx.length) :
    (siftDown lt a indxt q ir fuel i j idx).Perm (idx.set i indxt) := by
  -- `case2` is the branch that goes on (the larger child `j'` moves up into the hole); the other three fill the hole with `indxt`
  fun_induction siftDown lt a indxt q ir fuel i j idx with
  | case1 | case3 | case4 => exact Perm.refl _
  | case2 f i j idx h1 j' h2 ih =>
    obtain ⟨hc1, hc2, hc3⟩ : j ≤ j' ∧ j' ≤ j + 1 ∧ j' ≤ ir := childSel_range lt a idx j ir h1
    exact (ih (by omega) (by simp; omega) (by simpa using hir)).trans
      (hole_move_perm idx i j' indxt hi (by omega) (by omega))

theorem siftDown_length {indxt : Nat} {q : α} {ir fuel i j : Nat} {idx : List Nat}
    (hij : i < j) (hi : i < idx.length) (hir : ir < idx.length) :
    (siftDown lt a indxt q ir fuel i j idx).length = idx.length := by
  rw [(siftDown_perm lt a indxt q ir fuel i j idx hij hi hir).length_eq, List.length_set]

theorem siftDown_frame {indxt : Nat} {q : α} {ir fuel i j : Nat} {idx : List Nat} (hi : i ≤ ir)
    (k : Nat) (hk : ir < k) : (siftDown lt a indxt q ir fuel i j idx).getD k 0 = idx.getD k 0 := by
  fun_induction siftDown lt a indxt q ir fuel i j idx with
  | case1 | case3 | case4 => rw [ListFacts.getD_set, if_neg (by omega)]
  | case2 f i j idx h1 j' h2 ih =>
    rw [ih (childSel_range lt a idx j ir h1).2.2, ListFacts.getD_set, if_neg (by omega)]

/-- every entry at a position `≤ ir` after the sift was `indxt` or an entry at a position `≤ ir` before -/
theorem siftDown_closed (P : Nat → Prop) (indxt : Nat) (q : α) (ir fuel i j : Nat) (idx : List Nat)
    (hP : P indxt) (hall : ∀ k, k ≤ ir → P (idx.getD k 0)) (k : Nat) (hk : k ≤ ir) :
    P ((siftDown lt a indxt q ir fuel i j idx).getD k 0) := by
  fun_induction siftDown lt a indxt q ir fuel i j idx with
  | case1 | case3 | case4 =>
    rw [ListFacts.getD_set]
    split_ifs
    · exact hP
    · exact hall k hk
  | case2 f i j idx h1 j' h2 ih =>
    refine ih fun k' hk' => ?_
    rw [ListFacts.getD_set]
    split_ifs
    · exact hall j' (childSel_range lt a idx j ir h1).2.2
    · exact hall k' hk'

theorem heapify_perm (n l : Nat) (idx : List Nat) (hlen : idx.length = n) (hl : l ≤ n) :
    (heapify lt a n l idx).Perm idx := by
  induction l generalizing idx with
  | zero => exact Perm.refl _
  | succ i ih =>
    simp only [heapify]
    have hp := siftDown_perm lt a (idx.getD i 0) (a.getD (idx.getD i 0) default) (n - 1) n i (2 * i + 1) idx
      (by omega) (by omega) (by omega)
    rw [ListFacts.set_getD_self] at hp
    exact (ih _ (by rw [hp.length_eq, hlen]) (by omega)).trans hp

/-- one round of the extraction phase, the last one included: for `ir = 0` the sift-down on `[0, 0]` only fills the hole,
    which is what the C's early exit `if (--ir == 0) { sorted_index[0] = indxt; break; }` does -/
theorem extract_succ (n ir : Nat) (idx : List Nat) :
    extract lt a n (ir + 1) idx =
      extract lt a n ir (siftDown lt a (idx.getD (ir + 1) 0) (a.getD (idx.getD (ir + 1) 0) default) ir n 0 1
        (idx.set (ir + 1) (idx.getD 0 0))) := by
  cases ir with
  | zero => cases n <;> rfl
  | succ ir => rfl

theorem extract_perm (n ir : Nat) (idx : List Nat) (hir : ir < idx.length) :
    (extract lt a n ir idx).Perm idx := by
  induction ir generalizing idx with
  | zero => exact Perm.refl _
  | succ ir ih =>
    rw [extract_succ]
    have hp := siftDown_perm lt a (idx.getD (ir + 1) 0) (a.getD (idx.getD (ir + 1) 0) default) ir n 0 1
      (idx.set (ir + 1) (idx.getD 0 0)) (by omega) (by simp; omega) (by simp; omega)
    -- the root goes to `ir + 1` and the hole to the root: again a move of the hole
    have hsw := hole_move_perm idx (ir + 1) 0 (idx.getD (ir + 1) 0) hir (by omega) (by omega)
    rw [ListFacts.set_getD_self] at hsw
    exact (ih _ (by rw [hp.length_eq]; simp; omega)).trans (hp.trans hsw)

/-- `ref_sort_heap_*`: `sorted_index` is a permutation of `0..n-1`, for any comparison whatsoever
    (in particular for `REF_DBL` keys with NaNs) -/
theorem sortHeap_perm : (sortHeap lt a).Perm (List.range a.length) := by
  simp only [sortHeap]
  split_ifs with h
  · exact Perm.refl _
  · have h1 := heapify_perm lt a a.length (a.length >>> 1) (List.range a.length) (by simp)
      (by rw [Nat.shiftRight_eq_div_pow]; omega)
    exact (extract_perm lt a a.length (a.length - 1) _ (by rw [h1.length_eq]; simp; omega)).trans h1

theorem heapLoop_phase1 (n i g : Nat) (idx : List Nat) :
    heapLoop lt a n (i + g) (i + 1) (n - 1) idx = heapLoop lt a n g 1 (n - 1) (heapify lt a n i idx) := by
  induction i generalizing idx with
  | zero => rw [Nat.zero_add]; rfl
  | succ i ih =>
    rw [show i + 1 + g = (i + g) + 1 by omega, heapLoop, if_pos (by omega)]
    simp only [Nat.add_sub_cancel, heapify]
    rw [show i + 1 + i = 2 * i + 1 by omega, ih]

theorem heapLoop_phase2 (n ir f : Nat) (idx : List Nat) (h1 : 1 ≤ ir) (h : ir ≤ f) :
    heapLoop lt a n f 1 ir idx = extract lt a n ir idx := by
  induction ir generalizing f idx with
  | zero => omega
  | succ ir ih =>
    obtain ⟨f', rfl⟩ : ∃ f', f = f' + 1 := ⟨f - 1, by omega⟩
    rw [heapLoop, if_neg (by omega)]
    simp only [Nat.add_sub_cancel, extract, Nat.sub_self, Nat.add_zero]
    by_cases h0 : ir = 0
    · rw [if_pos h0, if_pos h0]
    · rw [if_neg h0, if_neg h0, ih f' _ (by omega) (by omega)]

theorem sortHeapLoop_eq : sortHeapLoop lt a = sortHeap lt a := by
  unfold sortHeapLoop sortHeap
  simp only
  split_ifs with h
  · rfl
  · rw [heapLoop_phase1 lt a a.length (a.length >>> 1) a.length,
      heapLoop_phase2 lt a a.length (a.length - 1) _ _ (by omega) (by omega)]

end perm

section sorted
variable {α : Type} [Inhabited α] [LinearOrder α] (a : List α)

/-- the comparison used by the `REF_INT`, `REF_GLOB` and (NaN-free) `REF_DBL` instances -/
def ltOf : α → α → Bool := fun x y => decide (x < y)

/-- max-heap property of the keys `K` for all parents `k ≥ lo` with children `≤ ir` -/
def HeapProp (K : Nat → α) (lo ir : Nat) : Prop :=
  ∀ k c, lo ≤ k → (c = 2 * k + 1 ∨ c = 2 * k + 2) → c ≤ ir → K c ≤ K k

omit [LinearOrder α] in
theorem keyAt_set (idx : List Nat) (i x k : Nat) (hi : i < idx.length) :
    keyAt a (idx.set i x) k = if k = i then a.getD x default else keyAt a idx k := by
  unfold keyAt
  rw [ListFacts.getD_set]
  by_cases h : k = i
  · rw [if_pos ⟨h.symm, hi⟩, if_pos h]
  · rw [if_neg fun e => h e.1.symm, if_neg h]

/-- the selected child dominates both children of the hole `i` (`j = 2i+1` its first child) -/
theorem childSel_max (idx : List Nat) (i j ir : Nat) (hj : j = 2 * i + 1) :
    ∀ c, (c = 2 * i + 1 ∨ c = 2 * i + 2) → c ≤ ir → keyAt a idx c ≤ keyAt a idx (childSel ltOf a idx j ir) := by
  intro c hc hcir
  unfold childSel ltOf
  split_ifs with h3
  · simp only [Bool.and_eq_true, decide_eq_true_eq] at h3
    rcases hc with rfl | rfl
    · rw [← hj]; exact le_of_lt h3.2
    · rw [show 2 * i + 2 = j + 1 by omega]
  · simp only [Bool.and_eq_true, decide_eq_true_eq, not_and, not_lt] at h3
    rcases hc with rfl | rfl
    · rw [← hj]
    · rw [show 2 * i + 2 = j + 1 by omega]; exact h3 (by omega)

/-- filling the hole `i` with `q` gives a heap when `q` dominates the children of `i` -/
theorem fill_heap (indxt : Nat) (q : α) (hq : q = a.getD indxt default) (lo ir i : Nat) (idx : List Nat)
    (hil : i < idx.length)
    (hA : ∀ k c, lo ≤ k → (c = 2 * k + 1 ∨ c = 2 * k + 2) → c ≤ ir → k ≠ i → c ≠ i →
      keyAt a idx c ≤ keyAt a idx k)
    (hparent : ∀ p, lo ≤ p → (i = 2 * p + 1 ∨ i = 2 * p + 2) → q ≤ keyAt a idx p)
    (hchildren : ∀ c, (c = 2 * i + 1 ∨ c = 2 * i + 2) → c ≤ ir → keyAt a idx c ≤ q) :
    HeapProp (keyAt a (idx.set i indxt)) lo ir := by
  intro k c hk hc hcir
  rw [keyAt_set a idx i indxt c hil, keyAt_set a idx i indxt k hil, ← hq]
  by_cases hki : k = i
  · have hci : ¬ c = i := by omega
    rw [if_pos hki, if_neg hci]
    exact hchildren c (by rw [← hki]; exact hc) hcir
  · rw [if_neg hki]
    by_cases hci : c = i
    · rw [if_pos hci]; exact hparent k hk (by rw [← hci]; exact hc)
    · rw [if_neg hci]; exact hA k c hk hc hcir hki hci

/-- the invariant of the sift-down loop, with the key `q` in hand and a hole at `i` (`j = 2i+1` its first child):
    the keys form a heap on the parents `≥ lo` with children `≤ ir` except at the hole (`hA`), and the parent of the hole
    dominates `q` and both children of the hole (`hB`), so whatever is moved up into the hole or `q` itself fits there.
    `hfuel`: the loop leaves `[0, ir]` before the fuel runs out.  Then the array after the loop is a heap on `[lo, ir]`. -/
theorem siftDown_heap (indxt : Nat) (q : α) (hq : q = a.getD indxt default) (lo ir fuel i j : Nat)
    (idx : List Nat) (hj : j = 2 * i + 1) (hlo : lo ≤ i) (hi : i ≤ ir) (hir : ir < idx.length)
    (hfuel : ir < j + fuel)
    (hA : ∀ k c, lo ≤ k → (c = 2 * k + 1 ∨ c = 2 * k + 2) → c ≤ ir → k ≠ i → c ≠ i →
      keyAt a idx c ≤ keyAt a idx k)
    (hB : ∀ p, lo ≤ p → (i = 2 * p + 1 ∨ i = 2 * p + 2) → q ≤ keyAt a idx p ∧
      ∀ c, (c = 2 * i + 1 ∨ c = 2 * i + 2) → c ≤ ir → keyAt a idx c ≤ keyAt a idx p) :
    HeapProp (keyAt a (siftDown ltOf a indxt q ir fuel i j idx)) lo ir := by
  fun_induction siftDown ltOf a indxt q ir fuel i j idx with
  | case1 j i idx =>                   -- no fuel: `q` fills the hole
    exact fill_heap a indxt q hq lo ir i idx (by omega) hA (fun p hp hc => (hB p hp hc).1) (fun c hc hcir => by omega)
  | case2 f i j idx h1 j' h2 ih =>     -- `q` below the larger child `j'`: the child moves up, the hole down
    obtain ⟨hc1, hc2, hc3⟩ : j ≤ j' ∧ j' ≤ j + 1 ∧ j' ≤ ir := childSel_range ltOf a idx j ir h1
    have hlt : q < keyAt a idx j' := by simpa [ltOf] using h2
    -- with the larger child copied into the hole the array is a heap as it stands: the copy fits the hole as `q` would
    have hH : HeapProp (keyAt a (idx.set i (idx.getD j' 0))) lo ir :=
      fill_heap a _ _ rfl lo ir i idx (by omega) hA (fun p hp hc => (hB p hp hc).2 j' (by omega) hc3)
        (childSel_max a idx i j ir hj)
    have hi' : keyAt a (idx.set i (idx.getD j' 0)) i = keyAt a idx j' := by
      rw [keyAt_set a idx i _ i (by omega), if_pos rfl]; rfl
    refine ih rfl (by omega) hc3 (by simpa using hir) (by omega) (fun k c hk hc hcir _ _ => hH k c hk hc hcir) ?_
    intro p hp hpc
    obtain rfl : p = i := by omega
    exact ⟨hi' ▸ le_of_lt hlt, fun c hc hcir =>
      le_trans (hH j' c (by omega) hc hcir) (hH p j' hlo (by omega) hc3)⟩
  | case3 f i j idx h1 j' h2 =>        -- `q` not below the larger child: `q` fills the hole
    have hmax : ∀ c, (c = 2 * i + 1 ∨ c = 2 * i + 2) → c ≤ ir → keyAt a idx c ≤ keyAt a idx j' := childSel_max a idx i j ir hj
    have hge : keyAt a idx j' ≤ q := not_lt.1 (by simpa [ltOf] using h2)
    exact fill_heap a indxt q hq lo ir i idx (by omega) hA (fun p hp hc => (hB p hp hc).1)
      (fun c hc hcir => le_trans (hmax c hc hcir) hge)
  | case4 f i j idx h1 =>              -- the hole has no child within `ir`: `q` fills it
    exact fill_heap a indxt q hq lo ir i idx (by omega) hA (fun p hp hc => (hB p hp hc).1) (fun c hc hcir => by omega)

theorem heapify_heap (n l : Nat) (idx : List Nat) (hlen : idx.length = n) (hl : l ≤ n / 2)
    (hH : HeapProp (keyAt a idx) l (n - 1)) :
    HeapProp (keyAt a (heapify ltOf a n l idx)) 0 (n - 1) := by
  cases n with
  | zero =>
    obtain rfl : l = 0 := by omega
    exact hH
  | succ m =>
    -- `ir = m` from here on
    rw [Nat.add_sub_cancel] at hH ⊢
    induction l generalizing idx with
    | zero => exact hH
    | succ i ih =>
      simp only [heapify, Nat.add_sub_cancel]
      apply ih
      · rw [siftDown_length ltOf a (by omega) (by omega) (by omega), hlen]
      · omega
      · apply siftDown_heap a _ _ rfl i m (m + 1) i (2 * i + 1) idx rfl (Nat.le_refl _) (by omega) (by omega) (by omega)
        · intro k c hk hc hcir hki hci
          exact hH k c (by omega) hc hcir
        · intro p hp hpc; omega

omit [Inhabited α] in
theorem root_max (K : Nat → α) (ir : Nat) (hH : HeapProp K 0 ir) (k : Nat) (hk : k ≤ ir) : K k ≤ K 0 := by
  induction k using Nat.strongRecOn with
  | _ k ih =>
    rcases Nat.eq_zero_or_pos k with h0 | h0
    · subst h0; exact le_refl _
    · obtain ⟨p, hp⟩ : ∃ p, k = 2 * p + 1 ∨ k = 2 * p + 2 := ⟨(k - 1) / 2, by omega⟩
      exact le_trans (hH p k (Nat.zero_le _) hp hk) (ih p (by omega) (by omega))

/-- the extraction phase: `[0, ir]` is a heap and every position above `ir` holds a key that dominates all keys before it
    (`hS`: the suffix is sorted and dominates the heap) -/
theorem extract_sorted (n ir : Nat) (idx : List Nat) (hlen : idx.length = n) (hir : ir < n)
    (hH : HeapProp (keyAt a idx) 0 ir)
    (hS : ∀ p q, p < q → ir < q → q < n → keyAt a idx p ≤ keyAt a idx q) :
    ∀ p q, p < q → q < n → keyAt a (extract ltOf a n ir idx) p ≤ keyAt a (extract ltOf a n ir idx) q := by
  induction ir generalizing idx with
  | zero => exact fun p q hpq hq => hS p q hpq (by omega) hq
  | succ ir ih =>
    rw [extract_succ]
    have hroot := root_max (keyAt a idx) (ir + 1) hH
    have hK1 : ∀ k, keyAt a (idx.set (ir + 1) (idx.getD 0 0)) k =
        if k = ir + 1 then keyAt a idx 0 else keyAt a idx k :=
      fun k => keyAt_set a idx (ir + 1) (idx.getD 0 0) k (by omega)
    have hlen1 : (idx.set (ir + 1) (idx.getD 0 0)).length = n := by rw [List.length_set, hlen]
    generalize idx.set (ir + 1) (idx.getD 0 0) = idx1 at hK1 hlen1 ⊢
    -- every key of the old heap `[0, ir+1]` is below what now stands at a position `q > ir`
    have hbound : ∀ k q, k ≤ ir + 1 → ir < q → q < n → keyAt a idx k ≤ keyAt a idx1 q := by
      intro k q hk hq hqn
      rw [hK1]
      by_cases hq' : q = ir + 1
      · rw [if_pos hq']; exact hroot k hk
      · rw [if_neg hq']
        rcases Nat.lt_or_ge k q with h | h
        · exact hS k q h (by omega) hqn
        · omega
    generalize hr : siftDown ltOf a (idx.getD (ir + 1) 0) (a.getD (idx.getD (ir + 1) 0) default) ir n 0 1 idx1 = r
    have hframe : ∀ k, ir < k → keyAt a r k = keyAt a idx1 k := by
      intro k hk
      unfold keyAt
      rw [← hr, siftDown_frame ltOf a (Nat.zero_le _) k hk]
    refine ih r ?_ (by omega) ?_ ?_
    · rw [← hr, siftDown_length ltOf a (by omega) (by omega) (by omega), hlen1]
    · rw [← hr]
      apply siftDown_heap a _ _ rfl 0 ir n 0 1 idx1 rfl (Nat.le_refl _) (Nat.zero_le _) (by omega) (by omega)
      · intro k c hk hc hcir hki hci
        rw [hK1, hK1, if_neg (by omega), if_neg (by omega)]
        exact hH k c hk hc (by omega)
      · intro p hp hpc; omega
    · intro p q hpq hq hqn
      rw [hframe q hq]
      rcases Nat.lt_or_ge ir p with hp | hp
      · rw [hframe p hp, hK1 p, hK1 q, if_neg (by omega : ¬ q = ir + 1)]
        by_cases hp' : p = ir + 1
        · rw [if_pos hp']; exact hS 0 q (by omega) (by omega) hqn
        · rw [if_neg hp']; exact hS p q hpq (by omega) hqn
      · rw [← hr]
        refine siftDown_closed ltOf a (fun v => a.getD v default ≤ keyAt a idx1 q) _ _ ir n 0 1 idx1
          (hbound (ir + 1) q (Nat.le_refl _) hq hqn) (fun k' hk' => ?_) p hp
        have : keyAt a idx1 k' = keyAt a idx k' := by rw [hK1, if_neg (by omega)]
        show keyAt a idx1 k' ≤ _
        rw [this]; exact hbound k' q (by omega) hq hqn

/-- `ref_sort_heap_*`: the keys are non-decreasing along `sorted_index` -/
theorem sortHeap_sorted : (applyIdx a (sortHeap ltOf a)).Pairwise (· ≤ ·) := by
  have key : ∀ p q, p < q → q < a.length →
      keyAt a (sortHeap ltOf a) p ≤ keyAt a (sortHeap ltOf a) q := by
    simp only [sortHeap]
    split_ifs with h
    · intro p q hpq hq; omega
    · have hp := heapify_perm ltOf a a.length (a.length >>> 1) (List.range a.length) (by simp)
        (by rw [Nat.shiftRight_eq_div_pow]; omega)
      apply extract_sorted a a.length (a.length - 1) _ (by rw [hp.length_eq]; simp) (by omega)
      · rw [Nat.shiftRight_eq_div_pow, Nat.pow_one]
        apply heapify_heap a a.length (a.length / 2) _ (by simp) (Nat.le_refl _)
        intro k c hk hc hcir; omega
      · intro p q hpq hq; omega
  have hlen : (sortHeap ltOf a).length = a.length := by
    rw [(sortHeap_perm ltOf a).length_eq, List.length_range]
  rw [ListFacts.pairwise_iff_getD (d := a.getD 0 default)]
  intro p q hpq hq
  rw [applyIdx, List.length_map, hlen] at hq
  have e := fun k => ListFacts.getD_map (l := sortHeap ltOf a) (f := fun k => a.getD k default) (d := 0) (i := k)
  rw [applyIdx, e, e]
  exact key p q hpq hq

end sorted

theorem applyIdx_perm {α : Type} [Inhabited α] (a : List α) (idx : List Nat)
    (h : idx.Perm (List.range a.length)) : (applyIdx a idx).Perm a := by
  have h1 : (applyIdx a idx).Perm ((List.range a.length).map fun k => a.getD k default) := h.map _
  have h2 : ((List.range a.length).map fun k => a.getD k default) = a := ListFacts.map_getD_range
  rwa [h2] at h1

end Refine.Model.Sort
