import Refine.Model.Containers
import Refine.Lemmas.ContainersSort
import Mathlib.Data.List.Basic

/-!
  `ref_list.c` and `ref_dict.c`.  `RList`: every public function is an equation on the abstract `List Int`; the copy loop of
  `ref_list_shift` and the two-index compaction loop of `ref_list_delete` are described on the lists they run over (`pre ++ x :: ys`,
  `junk ++ rest`).
  `RDict`: under `RDict.Inv` (strictly increasing keys, parallel arrays, `n ≤ max`) `store` / `remove` / `value` / `location` are the
  finite-map operations on `RDict.lookup`.  For both, every sequence of calls keeps the invariant and refines the abstract machine
  (`run_refines_from`, from any related pair of states).
-/

/-- growth by one 1000-chunk when full (`ref_list_push`, `ref_dict_store`) keeps `n + 1 ≤ max` and `max ≡ 10` -/
theorem Refine.Model.max_grow (mx n : Nat) (h : n ≤ mx) (hm : mx % 1000 = 10) :
    n + 1 ≤ (if mx = n then mx + 1000 else mx) ∧ n ≤ (if mx = n then mx + 1000 else mx) ∧
      (if mx = n then mx + 1000 else mx) % 1000 = 10 := by
  by_cases e : mx = n
  · rw [if_pos e]; omega
  · rw [if_neg e]; omega

namespace Refine.Model.RList
open List Refine.Model.Sort

theorem push_spec (l : RList) (x : Int) :
    l.push x = ({ max := if l.max = l.n then l.max + 1000 else l.max, value := l.value ++ [x] }, Status.ok) := rfl

theorem pop_nil (l : RList) (h : l.value = []) : l.pop = (l, Status.failure, EMPTY) := by
  simp [pop, n, h]

theorem pop_spec (l : RList) (xs : List Int) (x : Int) (h : l.value = xs ++ [x]) :
    l.pop = ({ l with value := xs }, Status.ok, x) := by
  simp [pop, n, h]

/-- the copy loop of `ref_list_shift` moves the `c` cells after position `pre.length` one place down; the last of them
    stays behind as a duplicate in its old cell, which is why `shift` shortens the list afterwards -/
theorem shiftLoop_eq (c : Nat) (pre : List Int) (x : Int) (ys : List Int) (hc : c ≤ ys.length) :
    (shiftLoop c pre.length (pre ++ x :: ys)).take (pre.length + c) = pre ++ ys.take c := by
  induction c generalizing pre x ys with
  | zero => simp [shiftLoop]
  | succ c ih =>
    obtain ⟨y, ys, rfl⟩ := List.exists_cons_of_length_pos (Nat.lt_of_lt_of_le (Nat.succ_pos c) hc)
    have h := ih (pre ++ [y]) y ys (Nat.le_of_succ_le_succ hc)
    rw [List.length_append, List.length_singleton, List.append_assoc] at h
    have hset : (pre ++ x :: y :: ys).set pre.length ((pre ++ x :: y :: ys).getD (pre.length + 1) 0) =
        pre ++ [y] ++ y :: ys := by
      simp [List.getD_eq_getElem?_getD]
    rw [shiftLoop, hset, List.append_assoc, show pre.length + (c + 1) = pre.length + 1 + c by omega, h,
      List.take_succ_cons, List.append_assoc]
    rfl

theorem shift_nil (l : RList) (h : l.value = []) : l.shift = (l, Status.failure, EMPTY) := by
  simp [shift, n, h]

theorem shift_spec (l : RList) (x : Int) (xs : List Int) (h : l.value = x :: xs) :
    l.shift = ({ l with value := xs }, Status.ok, x) := by
  have hn : l.n = xs.length + 1 := by simp [n, h]
  have := shiftLoop_eq xs.length [] x xs (Nat.le_refl _)
  simp only [List.length_nil, Nat.zero_add, List.nil_append, List.take_length] at this
  simp only [shift, hn, Nat.add_sub_cancel]
  rw [if_neg (Nat.succ_ne_zero _), h, this]
  rfl

/-- a cell in front of both indices is not looked at -/
theorem deleteLoop_cons (item y : Int) (v : List Int) (c fr dst : Nat) :
    deleteLoop item c (fr + 1) (dst + 1) (y :: v) =
      ((deleteLoop item c fr dst v).1 + 1, y :: (deleteLoop item c fr dst v).2) := by
  induction c generalizing fr dst v with
  | zero => rfl
  | succ c ih =>
    simp only [deleteLoop, List.getD_cons_succ, List.set_cons_succ]
    by_cases h : item ≠ v.getD fr 0
    · rw [if_pos h, if_pos h, ih]
    · rw [if_neg h, if_neg h, ih]

/-- the compaction loop of `ref_list_delete` with the read index `junk.length` cells ahead of the write index 0: the array ends as the
    unread part without `item`, followed by leftovers `J`; its length is kept.  A kept cell is written over the first junk cell and from
    then on left alone (`deleteLoop_cons`). -/
theorem deleteLoop_eq (item : Int) (rest junk : List Int) :
    ∃ J : List Int, deleteLoop item rest.length junk.length 0 (junk ++ rest) =
        ((rest.filter (· ≠ item)).length, rest.filter (· ≠ item) ++ J) ∧
      J.length + (rest.filter (· ≠ item)).length = junk.length + rest.length := by
  induction rest generalizing junk with
  | nil => exact ⟨junk, by simp [deleteLoop], by simp⟩
  | cons x r ih =>
    have hget : (junk ++ x :: r).getD junk.length 0 = x := by simp [List.getD_eq_getElem?_getD]
    simp only [List.length_cons, deleteLoop, hget]
    by_cases h : item ≠ x
    · rw [if_pos h, List.filter_cons_of_pos (by simpa using fun e => h e.symm)]
      obtain ⟨junk', hj, hset⟩ : ∃ junk' : List Int, junk'.length = junk.length ∧
          (junk ++ x :: r).set 0 x = x :: (junk' ++ r) := by
        cases junk with
        | nil => exact ⟨[], rfl, rfl⟩
        | cons y j => exact ⟨j ++ [x], by simp, by simp⟩
      obtain ⟨J, h1, h2⟩ := ih junk'
      rw [hset, ← hj, deleteLoop_cons, h1]
      exact ⟨J, rfl, by simp only [List.length_cons]; omega⟩
    · rw [if_neg h, List.filter_cons_of_neg (by simpa using not_not.1 h |>.symm)]
      obtain ⟨J, h1, h2⟩ := ih (junk ++ [x])
      rw [List.length_append, List.length_singleton] at h1 h2
      rw [List.append_assoc, List.singleton_append] at h1
      exact ⟨J, h1, by omega⟩

/-- `ref_list_delete` removes every occurrence; `not_found` (and nothing changes) when there is none -/
theorem delete_eq (l : RList) (item : Int) :
    l.delete item = if item ∈ l.value then ({ l with value := l.value.filter (· ≠ item) }, Status.ok)
      else (l, Status.not_found) := by
  obtain ⟨J, h1, h2⟩ := deleteLoop_eq item l.value []
  simp only [delete, n, show deleteLoop item l.value.length 0 0 l.value = _ from h1]
  by_cases h : item ∈ l.value
  · have hlt : (l.value.filter (· ≠ item)).length < l.value.length :=
      List.length_filter_lt_length_iff_exists.2 ⟨item, h, by simp⟩
    rw [if_pos h, if_neg (by omega), List.take_left']
    rfl
  · have hf : l.value.filter (· ≠ item) = l.value :=
      List.filter_eq_self.2 fun x hx => by simpa using fun e : x = item => h (e ▸ hx)
    rw [hf] at h2 ⊢
    obtain rfl : J = [] := List.eq_nil_of_length_eq_zero (by simpa using h2)
    rw [if_neg h, if_pos rfl, List.append_nil]

theorem containsLoop_spec (item : Int) (c i : Nat) (v : List Int) (hn : i + c = v.length) :
    containsLoop item c i v = decide (item ∈ v.drop i) := by
  induction c generalizing i with
  | zero =>
    simp [containsLoop, List.drop_eq_nil_of_le (by omega : v.length ≤ i)]
  | succ c ih =>
    have hi : i < v.length := by omega
    have hd : v.drop i = v.getD i 0 :: v.drop (i + 1) := ListFacts.drop_eq_getD_cons hi
    simp only [containsLoop]
    rw [hd, ih (i + 1) (by omega)]
    generalize v.getD i 0 = y
    by_cases he : y = item
    · rw [if_pos he]; simp [he]
    · rw [if_neg he]
      have : ¬ item = y := fun e => he e.symm
      simp [List.mem_cons, this]

theorem contains_spec (l : RList) (item : Int) :
    l.contains item = (Status.ok, decide (item ∈ l.value)) := by
  simp only [contains]
  rw [containsLoop_spec item l.n 0 l.value (by simp [n]), List.drop_zero]

theorem erase_spec (l : RList) : l.erase = ({ l with value := [] }, Status.ok) := rfl

theorem deepCopy_eq (l : RList) : l.deepCopy = l := rfl

inductive Op where
  | push (x : Int) | pop | shift | delete (x : Int) | erase | contains (x : Int) | copy
  deriving Repr, DecidableEq

/-- concrete step: new state and what the C call reports (status, output value: `*last` / `*first` /
    `*contains` as 0|1 / 0 when the call has no output) -/
def step (l : RList) : Op → RList × Status × Int
  | .push x => ((l.push x).1, (l.push x).2, 0)
  | .pop => l.pop
  | .shift => l.shift
  | .delete x => ((l.delete x).1, (l.delete x).2, 0)
  | .erase => (l.erase.1, l.erase.2, 0)
  | .contains x => (l, (l.contains x).1, if (l.contains x).2 then 1 else 0)
  | .copy => (l.deepCopy, Status.ok, 0)

/-- abstract step on `List Int` -/
def specStep (xs : List Int) : Op → List Int × Status × Int
  | .push x => (xs ++ [x], Status.ok, 0)
  | .pop => if xs = [] then (xs, Status.failure, EMPTY) else (xs.dropLast, Status.ok, xs.getLastD 0)
  | .shift => match xs with
    | [] => ([], Status.failure, EMPTY)
    | x :: t => (t, Status.ok, x)
  | .delete x => if x ∈ xs then (xs.filter (· ≠ x), Status.ok, 0) else (xs, Status.not_found, 0)
  | .erase => ([], Status.ok, 0)
  | .contains x => (xs, Status.ok, if x ∈ xs then 1 else 0)
  | .copy => (xs, Status.ok, 0)

/-- run a sequence of operations, collecting what every call reports -/
def run : List Op → RList → RList × List (Status × Int)
  | [], l => (l, [])
  | op :: ops, l => ((run ops (step l op).1).1, (step l op).2 :: (run ops (step l op).1).2)

def specRun : List Op → List Int → List Int × List (Status × Int)
  | [], xs => (xs, [])
  | op :: ops, xs => ((specRun ops (specStep xs op).1).1, (specStep xs op).2 :: (specRun ops (specStep xs op).1).2)

/-- allocation invariant: `n <= max`, and `max` is 10 plus a multiple of the 1000-chunk -/
def Inv (l : RList) : Prop := l.n ≤ l.max ∧ l.max % 1000 = 10

theorem inv_create : Inv create := by simp [Inv, create, n]

theorem Inv.shrink {l : RList} (h : Inv l) (v : List Int) (hv : v.length ≤ l.value.length) :
    Inv { l with value := v } :=
  ⟨Nat.le_trans hv h.1, h.2⟩

theorem step_refines {l : RList} (h : Inv l) (op : Op) :
    Inv (step l op).1 ∧ (step l op).1.value = (specStep l.value op).1 ∧
      (step l op).2 = (specStep l.value op).2 := by
  have ⟨hle, hmod⟩ := h
  cases op with
  | push x =>
    obtain ⟨g1, -, g3⟩ := max_grow l.max l.n hle hmod
    refine ⟨⟨?_, g3⟩, rfl, rfl⟩
    simp only [step, push, n, List.length_append, List.length_singleton] at g1 ⊢
    exact g1
  | pop =>
    simp only [step, specStep]
    rcases List.eq_nil_or_concat' l.value with hv | ⟨xs, x, hv⟩
    · rw [pop_nil l hv, if_pos hv]; exact ⟨h, rfl, rfl⟩
    · rw [pop_spec l xs x hv, if_neg (by simp [hv]), hv]
      exact ⟨h.shrink xs (by simp [hv]), by simp, by simp⟩
  | shift =>
    simp only [step, specStep]
    rcases hv : l.value with _ | ⟨x, xs⟩
    · rw [shift_nil l hv]; exact ⟨h, hv, rfl⟩
    · rw [shift_spec l x xs hv]
      exact ⟨h.shrink xs (by simp [hv]), rfl, rfl⟩
  | delete x =>
    simp only [step, specStep]
    rw [delete_eq]
    by_cases hx : x ∈ l.value
    · rw [if_pos hx, if_pos hx]
      exact ⟨h.shrink _ (List.length_filter_le _ _), rfl, rfl⟩
    · rw [if_neg hx, if_neg hx]
      exact ⟨h, rfl, rfl⟩
  | erase => exact ⟨⟨Nat.zero_le _, hmod⟩, rfl, rfl⟩
  | contains x =>
    refine ⟨h, rfl, ?_⟩
    simp only [step, specStep, contains_spec]
    by_cases hx : x ∈ l.value <;> simp [hx]
  | copy => exact ⟨h, rfl, rfl⟩

theorem run_refines_from (ops : List Op) (l : RList) (h : Inv l) :
    Inv (run ops l).1 ∧ (run ops l).1.value = (specRun ops l.value).1 ∧
      (run ops l).2 = (specRun ops l.value).2 := by
  induction ops generalizing l with
  | nil => exact ⟨h, rfl, rfl⟩
  | cons op ops ih =>
    obtain ⟨h1, h2, h3⟩ := step_refines h op
    obtain ⟨i1, i2, i3⟩ := ih (step l op).1 h1
    simp only [run, specRun]
    rw [← h2, ← h3]
    exact ⟨i1, i2, by rw [i3]⟩

example : (run [.push 5, .push 7, .push 5, .contains 7, .delete 5, .shift, .pop, .push 3, .copy, .erase] create)
    = ({ max := 10, value := [] },
       [(.ok, 0), (.ok, 0), (.ok, 0), (.ok, 1), (.ok, 0), (.ok, 7), (.failure, -1), (.ok, 0), (.ok, 0), (.ok, 0)]) := by
  decide +kernel

example : (specRun [.push 5, .push 7, .push 5, .contains 7, .delete 5, .shift, .pop, .push 3] []).1 = [3] := by
  decide +kernel

example : (run [.push 1, .push 2, .push 3, .delete 9, .pop, .shift] create).1.value = [2] := by decide +kernel

end Refine.Model.RList

namespace Refine.Model.RDict
open List Refine.Model.Sort

/-- strictly increasing keys, parallel arrays of equal length, `n <= max`, `max` = 10 + chunks of 1000 -/
def Inv (d : RDict) : Prop :=
  d.key.Pairwise (· < ·) ∧ d.value.length = d.key.length ∧ d.n ≤ d.max ∧ d.max % 1000 = 10

theorem inv_create : Inv create := by simp [Inv, create, n]

theorem Inv.sorted {d : RDict} (h : Inv d) : d.key.Pairwise (· < ·) := h.1
theorem Inv.length_eq {d : RDict} (h : Inv d) : d.value.length = d.key.length := h.2.1
theorem Inv.n_le_max {d : RDict} (h : Inv d) : d.n ≤ d.max := h.2.2.1
theorem Inv.max_mod {d : RDict} (h : Inv d) : d.max % 1000 = 10 := h.2.2.2

/-- abstraction: the finite map represented by the two parallel arrays -/
def lookup (d : RDict) (k : Int) : Option Int := (d.key.zip d.value).lookup k

theorem lookup_zip_none (ks vs : List Int) (k : Int) (h : k ∉ ks) : (ks.zip vs).lookup k = none := by
  rw [List.lookup_eq_none_iff]
  rintro ⟨a, b⟩ hp
  simpa using fun e : k = a => h (e ▸ (List.of_mem_zip hp).1)

theorem mem_iff_lookup_zip (ks vs : List Int) (hl : vs.length = ks.length) (k : Int) :
    k ∈ ks ↔ ((ks.zip vs).lookup k).isSome := by
  rw [List.lookup_isSome_iff]
  conv_lhs => rw [← List.map_fst_zip (l₁ := ks) (l₂ := vs) (by omega), List.mem_map]
  exact ⟨fun ⟨p, hp, e⟩ => ⟨p, hp, beq_iff_eq.2 e.symm⟩, fun ⟨p, hp, e⟩ => ⟨p, hp, (beq_iff_eq.1 e).symm⟩⟩

theorem mem_key_iff_lookup {d : RDict} (h : Inv d) (k : Int) : k ∈ d.key ↔ (lookup d k).isSome :=
  mem_iff_lookup_zip d.key d.value h.length_eq k

theorem lookup_zip_append {ks1 ks2 vs1 vs2 : List Int} (hl : ks1.length = vs1.length) (k : Int) :
    ((ks1 ++ ks2).zip (vs1 ++ vs2)).lookup k =
      ((ks1.zip vs1).lookup k).or ((ks2.zip vs2).lookup k) := by
  rw [List.zip_append hl, List.lookup_append]

theorem lookup_zip_mid {ks1 ks2 vs1 vs2 : List Int} {a b : Int} (hl : ks1.length = vs1.length)
    (hn : a ∉ ks1) (k : Int) :
    ((ks1 ++ a :: ks2).zip (vs1 ++ b :: vs2)).lookup k =
      if k = a then some b else ((ks1.zip vs1).lookup k).or ((ks2.zip vs2).lookup k) := by
  rw [lookup_zip_append hl, List.zip_cons_cons, List.lookup_cons]
  by_cases h : k = a
  · rw [if_pos h, h, lookup_zip_none _ _ _ hn]; simp
  · rw [if_neg h, show (k == a) = false from by simpa using h]

theorem split_at (l : List Int) (i : Nat) (hi : i < l.length) :
    l = l.take i ++ l.getD i 0 :: l.drop (i + 1) := by
  rw [← ListFacts.drop_eq_getD_cons hi, List.take_append_drop]

variable {lo hi vs : List Int} {k : Int}

theorem not_mem_of_pairwise (hs : (lo ++ k :: hi).Pairwise (· < ·)) : k ∉ lo ∧ k ∉ hi := by
  obtain ⟨-, h2, h3⟩ := List.pairwise_append.1 hs
  exact ⟨fun hm => Int.lt_irrefl _ (h3 k hm k List.mem_cons_self),
    fun hm => Int.lt_irrefl _ ((List.pairwise_cons.1 h2).1 k hm)⟩

theorem exists_split_values (hl : vs.length = (lo ++ k :: hi).length) :
    ∃ vlo v0 vhi, vs = vlo ++ v0 :: vhi ∧ vlo.length = lo.length := by
  have hi' : lo.length < vs.length := by rw [hl]; simp
  exact ⟨_, _, _, split_at vs lo.length hi', List.length_take_of_le (Nat.le_of_lt hi')⟩

theorem lookup_zip_set (hl : vs.length = (lo ++ k :: hi).length) (hn : k ∉ lo)
    (v k' : Int) :
    ((lo ++ k :: hi).zip (vs.set lo.length v)).lookup k' =
      if k' = k then some v else ((lo ++ k :: hi).zip vs).lookup k' := by
  obtain ⟨vlo, v0, vhi, rfl, hlo⟩ := exists_split_values hl
  rw [← hlo, List.set_append_right _ _ (Nat.le_refl _), Nat.sub_self, List.set_cons_zero,
    lookup_zip_mid hlo.symm hn, lookup_zip_mid hlo.symm hn]
  split_ifs <;> rfl

theorem lookup_zip_getD (hl : vs.length = (lo ++ k :: hi).length) (hn : k ∉ lo) :
    ((lo ++ k :: hi).zip vs).lookup k = some (vs.getD lo.length 0) := by
  obtain ⟨vlo, v0, vhi, rfl, hlo⟩ := exists_split_values hl
  rw [lookup_zip_mid hlo.symm hn, if_pos rfl, ← hlo]
  simp [List.getD_eq_getElem?_getD]

theorem lookup_zip_eraseIdx (hl : vs.length = (lo ++ k :: hi).length) (hn : k ∉ lo)
    (hn' : k ∉ hi) (k' : Int) :
    ((lo ++ hi).zip (vs.eraseIdx lo.length)).lookup k' =
      if k' = k then none else ((lo ++ k :: hi).zip vs).lookup k' := by
  obtain ⟨vlo, v0, vhi, rfl, hlo⟩ := exists_split_values hl
  rw [← hlo, List.eraseIdx_append_of_length_le (Nat.le_refl _), Nat.sub_self, List.eraseIdx_cons_zero,
    lookup_zip_append hlo.symm, lookup_zip_mid hlo.symm hn]
  split_ifs with e
  · rw [e, lookup_zip_none _ _ _ hn, lookup_zip_none _ _ _ hn']; rfl
  · rfl

theorem lookup_zip_insertAt (hl : vs.length = (lo ++ hi).length) (hn : k ∉ lo)
    (v k' : Int) :
    ((lo ++ k :: hi).zip (insertAt vs lo.length v)).lookup k' =
      if k' = k then some v else ((lo ++ hi).zip vs).lookup k' := by
  have hlo : lo.length = (vs.take lo.length).length := by rw [List.length_take_of_le]; rw [hl]; simp
  rw [insertAt, lookup_zip_mid hlo hn]
  conv_rhs => rw [← List.take_append_drop lo.length vs, lookup_zip_append hlo]

theorem length_insertAt (xs : List Int) (p : Nat) (x : Int) : (insertAt xs p x).length = xs.length + 1 := by
  rw [insertAt, List.length_append, List.length_cons, ← Nat.add_assoc, ← List.length_append, List.take_append_drop]

/-- `ref_dict_store` is a map update -/
theorem store_spec {d : RDict} (h : Inv d) (k v : Int) :
    (d.store k v).2 = Status.ok ∧ Inv (d.store k v).1 ∧
      (∀ k', lookup (d.store k v).1 k' = if k' = k then some v else lookup d k') ∧
      (d.store k v).1.n = if k ∈ d.key then d.n else d.n + 1 := by
  have hs := h.sorted
  have hl := h.length_eq
  obtain ⟨g1, g2, g3⟩ := max_grow d.max d.n h.n_le_max h.max_mod
  rcases storeScan_split d.key hs k with ⟨lo, hi, hk, hscan⟩ | ⟨lo, hi, hk, hscan, hlo, hhi⟩
  · -- overwrite: `key = lo ++ k :: hi`
    have hst : d.store k v =
        ({ max := if d.max = d.n then d.max + 1000 else d.max, key := d.key, value := d.value.set lo.length v },
          Status.ok) := by
      simp only [store, n, hscan]
    rw [hst, if_pos (show k ∈ d.key by rw [hk]; simp)]
    refine ⟨rfl, ⟨hs, by simpa using hl, g2, g3⟩, fun k' => ?_, rfl⟩
    simp only [lookup]
    rw [hk] at hs hl ⊢
    exact lookup_zip_set hl (not_mem_of_pairwise hs).1 v k'
  · -- insert: `key = lo ++ hi` with `lo < k < hi`
    have hst : d.store k v =
        ({ max := if d.max = d.n then d.max + 1000 else d.max, key := insertAt d.key lo.length k,
           value := insertAt d.value lo.length v }, Status.ok) := by
      simp only [store, n, hscan]
    have hnot : k ∉ d.key := fun hm => by
      rw [hk] at hm
      rcases List.mem_append.1 hm with h | h
      · exact Int.lt_irrefl _ (hlo k h)
      · exact Int.lt_irrefl _ (hhi k h)
    have hkey : insertAt d.key lo.length k = lo ++ k :: hi := by
      rw [insertAt, hk, List.take_left', List.drop_left'] <;> rfl
    rw [hst, if_neg hnot]
    refine ⟨rfl, ⟨?_, ?_, ?_, g3⟩, fun k' => ?_, ?_⟩
    · rw [hkey]; exact pairwise_insert (hk ▸ hs) hlo hhi
    · rw [length_insertAt, length_insertAt, hl]
    · rw [n, length_insertAt]; exact g1
    · simp only [lookup]
      rw [hkey, hk]
      exact lookup_zip_insertAt (hk ▸ hl) (fun hm => Int.lt_irrefl _ (hlo k hm)) v k'
    · rw [n, length_insertAt]; rfl

theorem linLoc_spec (key : Int) (c i : Nat) (ks : List Int) (hn : i + c = ks.length) :
    (∃ p : Nat, linLoc key c i ks = (Status.ok, (p : Int)) ∧ p < ks.length ∧ ks.getD p 0 = key) ∨
    (linLoc key c i ks = (Status.not_found, EMPTY) ∧ key ∉ ks.drop i) := by
  induction c generalizing i with
  | zero => exact Or.inr ⟨rfl, by rw [List.drop_eq_nil_of_le (by omega)]; exact List.not_mem_nil⟩
  | succ c ih =>
    simp only [linLoc]
    by_cases he : key = ks.getD i 0
    · rw [if_pos he]; exact Or.inl ⟨i, rfl, by omega, he.symm⟩
    · rw [if_neg he, ListFacts.drop_eq_getD_cons (by omega : i < ks.length), List.mem_cons, not_or]
      exact (ih (i + 1) (by omega)).imp_right fun ⟨h1, h2⟩ => ⟨h1, he, h2⟩

/-- both branches of `ref_dict_location` (linear for `n <= 10`, binary search above) find the key
    exactly when it is present -/
theorem location_searchOK {d : RDict} (h : Inv d) (k : Int) : SearchOK d.key k (d.location k) := by
  simp only [location]
  by_cases hn : 10 < d.n
  · rw [if_pos hn]
    exact searchInt_spec d.key (h.sorted.imp (fun hab => by omega)) k
  · rw [if_neg hn]
    exact linLoc_spec k d.n 0 d.key (by simp [n])

theorem location_spec {d : RDict} (h : Inv d) (k : Int) :
    (k ∈ d.key → ∃ p : Nat, d.location k = (Status.ok, (p : Int)) ∧ p < d.n ∧ d.key.getD p 0 = k) ∧
    (k ∉ d.key → d.location k = (Status.not_found, EMPTY)) :=
  (location_searchOK h k).of_mem

theorem remove_absent {d : RDict} (h : Inv d) (k : Int) (hk : k ∉ d.key) :
    d.remove k = (d, Status.not_found) := by
  simp only [remove, (location_spec h k).2 hk]

theorem Inv.split_of_mem {d : RDict} (h : Inv d) {k : Int} (hk : k ∈ d.key) :
    ∃ lo hi, d.key = lo ++ k :: hi ∧ d.location k = (Status.ok, (lo.length : Int)) ∧ k ∉ lo ∧ k ∉ hi := by
  obtain ⟨p, h1, h2, h3⟩ := (location_spec h k).1 hk
  have hkey : d.key = d.key.take p ++ k :: d.key.drop (p + 1) := by rw [← h3]; exact split_at d.key p h2
  have hp : (d.key.take p).length = p := List.length_take_of_le (Nat.le_of_lt h2)
  exact ⟨_, _, hkey, by rw [hp]; exact h1, not_mem_of_pairwise (hkey ▸ h.sorted)⟩

theorem remove_present {d : RDict} (h : Inv d) (k : Int) (hk : k ∈ d.key) :
    (d.remove k).2 = Status.ok ∧ Inv (d.remove k).1 ∧
      (∀ k', lookup (d.remove k).1 k' = if k' = k then none else lookup d k') ∧
      (d.remove k).1.n + 1 = d.n := by
  obtain ⟨lo, hi, hkey, hloc, n1, n2⟩ := h.split_of_mem hk
  have hl := h.length_eq
  have hr : d.remove k = ({ d with key := d.key.eraseIdx lo.length, value := d.value.eraseIdx lo.length }, Status.ok) := by
    simp only [remove, hloc, Int.toNat_natCast]
  have hlt : lo.length < d.key.length := by rw [hkey]; simp
  have ek : (d.key.eraseIdx lo.length).length + 1 = d.key.length := List.length_eraseIdx_add_one hlt
  have ev : (d.value.eraseIdx lo.length).length + 1 = d.value.length := List.length_eraseIdx_add_one (hl ▸ hlt)
  rw [hr]
  refine ⟨rfl, ⟨h.sorted.sublist (List.eraseIdx_sublist _ _), Nat.add_right_cancel (ev.trans (hl.trans ek.symm)), ?_,
    h.max_mod⟩, fun k' => ?_, ek⟩
  · have := h.n_le_max; simp only [n] at this ⊢; omega
  · simp only [lookup]
    rw [hkey] at hl ⊢
    rw [List.eraseIdx_append_of_length_le (Nat.le_refl _), Nat.sub_self, List.eraseIdx_cons_zero]
    exact lookup_zip_eraseIdx hl n1 n2 k'

theorem valueOf_spec {d : RDict} (h : Inv d) (k : Int) :
    d.valueOf k = match lookup d k with
      | some v => (Status.ok, some v)
      | none => (Status.not_found, none) := by
  by_cases hk : k ∈ d.key
  · obtain ⟨lo, hi, hkey, hloc, n1, -⟩ := h.split_of_mem hk
    have hlk : lookup d k = some (d.value.getD lo.length 0) := by
      have hl := h.length_eq
      simp only [lookup]
      rw [hkey] at hl ⊢
      exact lookup_zip_getD hl n1
    rw [hlk]
    simp only [valueOf, hloc, Int.toNat_natCast]
  · have hlk : lookup d k = none := lookup_zip_none _ _ _ hk
    rw [hlk]
    simp only [valueOf, (location_spec h k).2 hk]

theorem safeKey_in_range (d : RDict) (i : Nat) (hi : i < d.n) : d.safeKey (i : Int) = d.key.getD i 0 := by
  simp only [safeKey, Int.toNat_natCast]
  rw [if_pos ⟨by omega, by omega⟩]

theorem safeKey_out_of_range (d : RDict) (i : Int) (hi : i < 0 ∨ (d.n : Int) ≤ i) : d.safeKey i = EMPTY := by
  simp only [safeKey]
  rw [if_neg (by omega)]

theorem safeKeyValue_in_range (d : RDict) (i : Nat) (hi : i < d.n) :
    d.safeKeyValue (i : Int) = d.value.getD i 0 := by
  simp only [safeKeyValue, Int.toNat_natCast]
  rw [if_pos ⟨by omega, by omega⟩]

theorem safeKeyValue_out_of_range (d : RDict) (i : Int) (hi : i < 0 ∨ (d.n : Int) ≤ i) :
    d.safeKeyValue i = EMPTY := by
  simp only [safeKeyValue]
  rw [if_neg (by omega)]

theorem deepCopy_eq (d : RDict) : d.deepCopy = d := rfl

inductive Op where
  | store (k v : Int) | remove (k : Int) | copy
  deriving Repr, DecidableEq

/-- concrete step: new state and the status the C call returns -/
def step (d : RDict) : Op → RDict × Status
  | .store k v => d.store k v
  | .remove k => d.remove k
  | .copy => (d.deepCopy, Status.ok)

/-- abstract step on finite maps `Int → Option Int` -/
def specStep (m : Int → Option Int) : Op → (Int → Option Int) × Status
  | .store k v => (fun k' => if k' = k then some v else m k', Status.ok)
  | .remove k => (fun k' => if k' = k then none else m k',
      if (m k).isSome then Status.ok else Status.not_found)
  | .copy => (m, Status.ok)

def run : List Op → RDict → RDict
  | [], d => d
  | op :: ops, d => run ops (step d op).1

def runStatus : List Op → RDict → List Status
  | [], _ => []
  | op :: ops, d => (step d op).2 :: runStatus ops (step d op).1

def specRun : List Op → (Int → Option Int) → (Int → Option Int)
  | [], m => m
  | op :: ops, m => specRun ops (specStep m op).1

def specRunStatus : List Op → (Int → Option Int) → List Status
  | [], _ => []
  | op :: ops, m => (specStep m op).2 :: specRunStatus ops (specStep m op).1

theorem step_refines {d : RDict} {m : Int → Option Int} (h : Inv d) (hm : ∀ k, lookup d k = m k) (op : Op) :
    Inv (step d op).1 ∧ (∀ k, lookup (step d op).1 k = (specStep m op).1 k) ∧
      (step d op).2 = (specStep m op).2 := by
  cases op with
  | store k v =>
    obtain ⟨h1, h2, h3, -⟩ := store_spec h k v
    refine ⟨h2, fun k' => ?_, h1⟩
    simp only [step, specStep]
    rw [h3 k', hm k']
  | remove k =>
    simp only [step, specStep]
    by_cases hk : k ∈ d.key
    · obtain ⟨h1, h2, h3, -⟩ := remove_present h k hk
      have : (m k).isSome := by rw [← hm k]; exact (mem_key_iff_lookup h k).1 hk
      refine ⟨h2, fun k' => ?_, ?_⟩
      · rw [h3 k', hm k']
      · rw [h1, if_pos this]
    · rw [remove_absent h k hk]
      have hnone : m k = none := by
        rw [← hm k]; exact lookup_zip_none _ _ _ hk
      refine ⟨h, fun k' => ?_, ?_⟩
      · by_cases e : k' = k
        · simp only [if_pos e]; rw [e, hm k, hnone]
        · simp only [if_neg e]; exact hm k'
      · rw [hnone]; rfl
  | copy => exact ⟨h, hm, rfl⟩

theorem run_refines_from (ops : List Op) (d : RDict) (h : Inv d) (m : Int → Option Int)
    (hm : ∀ k, lookup d k = m k) :
    Inv (run ops d) ∧ (∀ k, lookup (run ops d) k = specRun ops m k) ∧
      runStatus ops d = specRunStatus ops m := by
  induction ops generalizing d m with
  | nil => exact ⟨h, hm, rfl⟩
  | cons op ops ih =>
    obtain ⟨h1, h2, h3⟩ := step_refines h hm op
    obtain ⟨i1, i2, i3⟩ := ih (step d op).1 h1 (specStep m op).1 h2
    simp only [run, specRun, runStatus, specRunStatus]
    rw [h3]
    exact ⟨i1, i2, by rw [i3]⟩

theorem specStep_remove_status (m : Int → Option Int) (k : Int) :
    (specStep m (.remove k)).2 = Status.not_found ↔ m k = none := by
  simp only [specStep]
  cases m k <;> simp

example : run [.store 5 50, .store 2 20, .store 9 90, .store 5 55, .remove 2, .remove 7, .copy] create
    = { max := 10, key := [5, 9], value := [55, 90] } := by decide +kernel

example : runStatus [.store 5 50, .store 2 20, .store 9 90, .store 5 55, .remove 2, .remove 7, .copy] create
    = [.ok, .ok, .ok, .ok, .ok, .not_found, .ok] := by decide +kernel

example : lookup (run [.store 5 50, .store 2 20, .store 5 55, .remove 2] create) 5 = some 55 := by decide +kernel

example : (create.store 3 30).1.valueOf 3 = (Status.ok, some 30) := by decide +kernel

example : (create.store 3 30).1.location 4 = (Status.not_found, EMPTY) := by decide +kernel

/-- the binary-search branch (`n > 10`) -/
example : (run ((List.range 12).map fun i => Op.store (2 * i) i) create).location 14 = (Status.ok, 7) := by
  decide +kernel

end Refine.Model.RDict
