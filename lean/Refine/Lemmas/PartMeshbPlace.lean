import Refine.Lemmas.PartMeshbRoute
import Mathlib.Data.List.Nodup

/-! all ranks of the parallel meshb reader while the cells are placed: the world after every chunk, after
    `ref_migrate_shufflin_cell`, after every group — in closed form -/
namespace Refine.Lemmas.PartMeshb
open Refine.Model.Meshb Refine.Model.PartMeshb
open Refine.Model.Comm (World)
open Refine.Gen.PartMacros

/-- the cell has a vertex owned by rank `r` -/
def touches (N : Int) (np : Nat) (ci : CellInfo) (r : Nat) (c : Cell) : Bool :=
  (c.take ci.nodePer).any fun g => imp N np g == (r : Int)

/-- what rank `r` receives in `ref_migrate_shufflin_cell`: from every other rank `s`, in rank order, the cells routed
    to `s` that touch `r` -/
def recvCells (N : Int) (np : Nat) (ci : CellInfo) (r : Nat) (cs : List Cell) : List Cell :=
  (List.range np).flatMap fun s => if s = r then [] else (directCells N np s cs).filter (touches N np ci r)

/-- the cells of the group on rank `r` when `ref_part_meshb_cell` returns, in local order -/
def finalCells (N : Int) (np : Nat) (ci : CellInfo) (r : Nat) (cs : List Cell) : List Cell :=
  directCells N np r cs ++ recvCells N np ci r cs

/-- no two cells of the group have the same vertex set (on their stored forms) -/
def Distinct (ci : CellInfo) (cs : List Cell) : Prop :=
  (∀ a ∈ cs.map (norm ci), ∀ b ∈ cs.map (norm ci), sameSet ci.nodePer a b = true → a = b) ∧
  (cs.map (norm ci)).Nodup

theorem CellOK.norm {ci : CellInfo} {N : Int} {c : Cell} (h : CellOK ci N c) : CellOK ci N (norm ci c) := by
  refine ⟨by rw [norm_length]; exact h.1, ?_⟩
  rw [norm_take ci c h.len]; exact h.2

theorem destOf_norm {ci : CellInfo} {N : Int} {np : Nat} {c : Cell} (hci : 2 ≤ ci.nodePer) (h : CellOK ci N c) :
    destOf N np (norm ci c) = destOf N np c := by
  unfold destOf; rw [norm_getD0 ci c (by omega) h.len]

theorem touches_norm {ci : CellInfo} {N : Int} {np : Nat} {c : Cell} (r : Nat) (h : CellOK ci N c) :
    touches N np ci r (norm ci c) = touches N np ci r c := by
  unfold touches; rw [norm_take ci c h.len]

theorem any_congr_mem {α : Type} {l : List α} {p q : α → Bool} (h : ∀ x ∈ l, p x = q x) : l.any p = l.any q := by
  induction l with
  | nil => rfl
  | cons a l ih =>
    simp only [List.any_cons]
    rw [h a List.mem_cons_self, ih (fun x hx => h x (List.mem_cons_of_mem _ hx))]

theorem mapRanksFrom_rel (f : Nat → PRank → Except Status PRank) (R : Nat → PRank → PRank → Prop) :
    ∀ (l : List PRank) (r0 : Nat),
      (∀ i, i < l.length → ∃ st', f (r0 + i) (l.getD i default) = .ok st' ∧ R (r0 + i) (l.getD i default) st') →
      ∃ l', mapRanksFrom f r0 l = .ok l' ∧ l'.length = l.length ∧
        ∀ i, i < l.length → R (r0 + i) (l.getD i default) (l'.getD i default) := by
  intro l
  induction l with
  | nil => intro r0 _; exact ⟨[], rfl, rfl, by simp⟩
  | cons st rest ih =>
    intro r0 h
    obtain ⟨st', h1, hR⟩ := h 0 (Nat.succ_pos _)
    have h1' : f r0 st = .ok st' := h1
    obtain ⟨rest', h2, hl, hRs⟩ := ih (r0 + 1) fun i hi => by
      have := h (i + 1) (Nat.succ_lt_succ hi)
      rwa [show r0 + (i + 1) = r0 + 1 + i by omega] at this
    refine ⟨st' :: rest', by simp only [mapRanksFrom, h1', h2], by simp only [List.length_cons, hl], fun i hi => ?_⟩
    cases i with
    | zero => exact hR
    | succ i =>
      have := hRs i (Nat.lt_of_succ_lt_succ hi)
      rwa [show r0 + 1 + i = r0 + (i + 1) by omega] at this

theorem mapRanks_rel (f : Nat → PRank → Except Status PRank) (R : Nat → PRank → PRank → Prop) (w : World PRank)
    (h : ∀ r, r < w.length → ∃ st', f r (w.getD r default) = .ok st' ∧ R r (w.getD r default) st') :
    ∃ w', mapRanks f w = .ok w' ∧ w'.length = w.length ∧
      ∀ r, r < w.length → R r (w.getD r default) (w'.getD r default) := by
  obtain ⟨w', h1, h2, h3⟩ := mapRanksFrom_rel f R w 0 fun i hi => by rw [Nat.zero_add]; exact h i hi
  exact ⟨w', h1, h2, fun r hr => by have := h3 r hr; rwa [Nat.zero_add] at this⟩

theorem zipIdx_eq_map_range {α : Type} [Inhabited α] (l : List α) :
    l.zipIdx = (List.range l.length).map fun i => (l.getD i default, i) :=
  List.ext_getElem (by simp) fun k h1 _ => by simp [List.getElem?_eq_getElem (List.length_zipIdx ▸ h1)]

theorem zipIdx_flatMap {α β : Type} [Inhabited α] (F : α × Nat → List β) (l : List α) :
    l.zipIdx.flatMap F = (List.range l.length).flatMap fun i => F (l.getD i default, i) := by
  rw [zipIdx_eq_map_range, List.flatMap_map]

theorem zipIdx_map_id {α : Type} [Inhabited α] (F : α × Nat → α) (l : List α)
    (h : ∀ i, i < l.length → F (l.getD i default, i) = l.getD i default) : l.zipIdx.map F = l := by
  rw [zipIdx_eq_map_range, List.map_map]
  exact (List.map_congr_left fun i hi => h i (List.mem_range.1 hi)).trans ListFacts.map_getD_range

theorem recvCells_np1 (N : Int) (ci : CellInfo) (cs : List Cell) : recvCells N 1 ci 0 cs = [] := by
  simp [recvCells]

theorem mem_recvCells {N : Int} {np : Nat} {ci : CellInfo} {r : Nat} {cs : List Cell} {c : Cell} :
    c ∈ recvCells N np ci r cs ↔
      ∃ s, s < np ∧ s ≠ r ∧ c ∈ cs ∧ destOf N np c = (s : Int) ∧ touches N np ci r c = true := by
  simp only [recvCells, List.mem_flatMap, List.mem_range]
  constructor
  · rintro ⟨s, hs, h⟩
    by_cases hsr : s = r
    · simp [hsr] at h
    · rw [if_neg hsr, List.mem_filter, mem_directCells] at h
      exact ⟨s, hs, hsr, h.1.1, h.1.2, h.2⟩
  · rintro ⟨s, hs, hsr, h1, h2, h3⟩
    refine ⟨s, hs, ?_⟩
    rw [if_neg hsr, List.mem_filter, mem_directCells]
    exact ⟨⟨h1, h2⟩, h3⟩

theorem finalCells_subset {N : Int} {np : Nat} {ci : CellInfo} {r : Nat} {cs : List Cell} :
    ∀ c ∈ finalCells N np ci r cs, c ∈ cs := by
  intro c hc
  rcases List.mem_append.1 hc with h | h
  · exact (mem_directCells.1 h).1
  · obtain ⟨_, _, _, h1, _⟩ := mem_recvCells.1 h; exact h1

theorem finalCells_nodup {N : Int} {np : Nat} {ci : CellInfo} {r : Nat} {cs : List Cell} (hnd : cs.Nodup) :
    (finalCells N np ci r cs).Nodup := by
  unfold finalCells
  rw [List.nodup_append]
  refine ⟨hnd.filter _, ?_, ?_⟩
  · unfold recvCells
    rw [List.nodup_flatMap]
    constructor
    · intro s _
      split
      · exact List.nodup_nil
      · exact (hnd.filter _).filter _
    · have : (List.range np).Pairwise (· ≠ ·) := List.nodup_range
      apply this.imp
      intro s s' hne c h1 h2
      dsimp only at h1 h2
      by_cases hs : s = r
      · simp [hs] at h1
      · by_cases hs' : s' = r
        · simp [hs'] at h2
        · rw [if_neg hs, List.mem_filter, mem_directCells] at h1
          rw [if_neg hs', List.mem_filter, mem_directCells] at h2
          have := h1.1.2.symm.trans h2.1.2
          exact hne (by exact_mod_cast this)
  · intro a ha b hb hab
    subst hab
    obtain ⟨s, _, hsr, _, hd, _⟩ := mem_recvCells.1 hb
    have := (mem_directCells.1 ha).2
    rw [hd] at this
    exact hsr (by exact_mod_cast this)

theorem Distinct.nodup {ci : CellInfo} {cs : List Cell} (h : Distinct ci cs) : cs.Nodup := .of_map _ h.2

theorem Distinct.subset {ci : CellInfo} {cs l : List Cell} (h : Distinct ci cs) (hsub : l ⊆ cs) (hnd : l.Nodup) :
    Distinct ci l :=
  ⟨fun a ha b hb => h.1 a (List.map_subset _ hsub ha) b (List.map_subset _ hsub hb),
    hnd.map_on fun _ ha _ hb => List.inj_on_of_nodup_map h.2 (hsub ha) (hsub hb)⟩

/-- when what is to be stored is the stored form of a `Distinct` list, `ref_cell_with` never finds anything: plain append -/
theorem Distinct.addCells_eq {ci : CellInfo} {l : List Cell} (h : Distinct ci l) (new : List Cell) :
    ∀ stored : List Cell, stored ++ new.map (norm ci) = l.map (norm ci) →
      addCells ci stored new = stored ++ new.map (norm ci) := by
  induction new with
  | nil => intro stored _; simp [addCells]
  | cons c cs ih =>
    intro stored hl
    have hnot : stored.any (sameSet ci.nodePer (norm ci c)) = false := by
      rw [Bool.eq_false_iff]
      intro hany
      obtain ⟨d, hd, hsame⟩ := List.any_eq_true.1 hany
      have hnd := h.2
      rw [← hl, List.map_cons, List.nodup_append] at hnd
      have := h.1 _ (hl ▸ by simp) _ (hl ▸ List.mem_append_left _ hd) hsame
      exact hnd.2.2 _ hd _ List.mem_cons_self this.symm
    rw [addCells_cons, hnot, if_neg Bool.false_ne_true, ih (stored ++ [norm ci c]) (by simpa using hl)]
    simp

theorem finalCells_distinct {N : Int} {np : Nat} {ci : CellInfo} {r : Nat} {cs : List Cell} (hd : Distinct ci cs) :
    Distinct ci (finalCells N np ci r cs) :=
  hd.subset finalCells_subset (finalCells_nodup hd.nodup)

theorem map_norm_norm {ci : CellInfo} {N : Int} (l : List Cell) (h : ∀ c ∈ l, CellOK ci N c) :
    (l.map (norm ci)).map (norm ci) = l.map (norm ci) := by
  rw [List.map_map]
  apply List.map_congr_left
  intro c hc
  exact norm_idem ci c (h c hc).len

theorem touches_of_dest {ci : CellInfo} {N : Int} {np : Nat} {c : Cell} (hci : 2 ≤ ci.nodePer) (hnp : 1 ≤ np)
    (h : CellOK ci N c) (r : Nat) (hd : destOf N np c = (r : Int)) : touches N np ci r c = true := by
  obtain ⟨hm, _, _⟩ := dest_range (np := np) hci hnp h
  unfold touches
  rw [List.any_eq_true]
  exact ⟨c.getD 0 0, hm, by simpa [imp, destOf] using hd⟩

theorem mem_finalCells {ci : CellInfo} {N : Int} {np : Nat} {cs : List Cell} (hci : 2 ≤ ci.nodePer) (hnp : 1 ≤ np)
    (hok : ∀ c ∈ cs, CellOK ci N c) (r : Nat) (c : Cell) :
    c ∈ finalCells N np ci r cs ↔ c ∈ cs ∧ touches N np ci r c = true := by
  unfold finalCells
  rw [List.mem_append, mem_directCells, mem_recvCells]
  constructor
  · rintro (⟨h1, h2⟩ | ⟨s, _, _, h1, _, h3⟩)
    · exact ⟨h1, touches_of_dest hci hnp (hok c h1) r h2⟩
    · exact ⟨h1, h3⟩
  · rintro ⟨h1, h2⟩
    obtain ⟨_, d0, d1⟩ := dest_range (np := np) hci hnp (hok c h1)
    by_cases hs : destOf N np c = (r : Int)
    · exact Or.inl ⟨h1, hs⟩
    · refine Or.inr ⟨(destOf N np c).toNat, by omega, ?_, h1, by omega, h2⟩
      intro e; apply hs; omega

section Rank
variable {N : Int} {np : Nat} {V : Int → Vertex} {s : Nat} {st : PRank} {k : Nat} {ci : CellInfo} {c : Cell}

theorem setGroup_self (st : PRank) (k : Nat) (hk : k < st.cells.length) : st.setGroup k (st.group k) = st := by
  unfold PRank.setGroup PRank.group
  cases st with
  | mk a b cells d e =>
    simp only at hk ⊢
    congr
    rw [List.getD_eq_getElem?_getD, List.getElem?_eq_getElem hk]
    simp

theorem RankInv.partOf_vert (h : RankInv N np V s st) (hci : cellInfos[k]? = some ci) (hc : c ∈ st.group k) {g : Int}
    (hg : g ∈ c.take ci.nodePer) : st.partOf g = imp N np g :=
  h.partOf_eq g (h.verts k ci hci c hc g hg)

/-- `ref_sort_unique_int` of the parts of a stored cell contains `q` iff the cell has a vertex of block `q` -/
theorem RankInv.any_partOf (h : RankInv N np V s st) (hci : cellInfos[k]? = some ci) (hc : c ∈ st.group k) (q : Nat) :
    ((c.take ci.nodePer).any fun g => st.partOf g == (q : Int)) = touches N np ci q c :=
  any_congr_mem fun g hg => by rw [h.partOf_vert hci hc hg]

theorem shufflinSend_eq (h : RankInv N np V s st) (hci : cellInfos[k]? = some ci) (r : Nat) :
    shufflinSend ci k s st r =
      ((st.group k).filter fun c => decide (r ≠ s) && touches N np ci r c).map fun c => (c, implicitParts N np ci c) := by
  unfold shufflinSend
  rw [List.filter_congr (q := fun c => decide (r ≠ s) && touches N np ci r c) fun c hc => by
    rw [cellSendsTo, h.any_partOf hci hc]]
  apply List.map_congr_left
  intro c hc
  have hc' := List.mem_of_mem_filter hc
  exact congrArg (Prod.mk c) (List.map_congr_left fun g hg => h.partOf_vert hci hc' hg)

end Rank

/-- the part of the closed form that every pass of the reader keeps.
    `O r`: the vertex entries rank `r` owns (from `ref_part_node`); `G j r`: the cells of group `j` on rank `r` -/
structure CoreIs (N : Int) (np : Nat) (V : Int → Vertex) (O : Nat → List PNode) (G : Nat → Nat → List Cell)
    (w : World PRank) : Prop where
  len : w.length = np
  inv : ∀ r, r < np → RankInv N np V r (w.getD r default)
  grp : ∀ r, r < np → ∀ j, (w.getD r default).group j = G j r
  own : ∀ r, r < np → (w.getD r default).nodes.filter (fun n => n.part == (r : Int)) = O r
  glob : ∀ r, r < np → (w.getD r default).nGlobal = N

/-- `G` with group `k` replaced -/
def setG (G : Nat → Nat → List Cell) (k : Nat) (f : Nat → List Cell) : Nat → Nat → List Cell :=
  fun j r => if j = k then f r else G j r

theorem setG_setG (G : Nat → Nat → List Cell) (k : Nat) (f f' : Nat → List Cell) :
    setG (setG G k f) k f' = setG G k f' := by
  funext j r; unfold setG; split <;> rfl

section Core
variable {N : Int} {np : Nat} {V : Int → Vertex} {O : Nat → List PNode} {G : Nat → Nat → List Cell} {w : World PRank}

theorem CoreIs.step {w' : World PRank} (hW : CoreIs N np V O G w) {k : Nat} {f : Nat → List Cell} (hlen : w'.length = w.length)
    (hR : ∀ r, r < np → RankStep N np V r k (f r) (w.getD r default) (w'.getD r default)) :
    CoreIs N np V O (setG G k f) w' := by
  refine ⟨by rw [hlen, hW.len], fun r hr => (hR r hr).inv, fun r hr j => ?_, fun r hr => ?_, fun r hr => ?_⟩
  · unfold setG
    split
    · subst j; exact (hR r hr).grp
    · rw [(hR r hr).other j ‹_›, hW.grp r hr j]
  · rw [(hR r hr).own]; exact hW.own r hr
  · rw [(hR r hr).nGlobal]; exact hW.glob r hr

/-- the closed form reads `G` on the ranks `r < np` only -/
theorem CoreIs.setG_self (hW : CoreIs N np V O G w) {k : Nat} {f : Nat → List Cell} (h : ∀ r, r < np → G k r = f r) :
    CoreIs N np V O (setG G k f) w := by
  refine ⟨hW.len, hW.inv, fun r hr j => ?_, hW.own, hW.glob⟩
  rw [hW.grp r hr j, setG]
  split
  · subst j; exact h r hr
  · rfl

theorem CoreIs.of_mem (hW : CoreIs N np V O G w) {st : PRank} (h : st ∈ w) : ∃ r, r < np ∧ st = w.getD r default := by
  obtain ⟨r, hr, rfl⟩ := List.getElem_of_mem h
  exact ⟨r, hW.len ▸ hr, (Refine.ListFacts.getD_eq_getElem hr).symm⟩

/-- every rank holds, as group `k`, the cells of `cs` routed to it by the reading loop -/
abbrev Routed (N : Int) (np : Nat) (ci : CellInfo) (k : Nat) (cs : List Cell) (G : Nat → Nat → List Cell) : Prop :=
  ∀ r, r < np → G k r = (directCells N np r cs).map (norm ci)

/-- **`ref_cell_add_many_global` on every rank**: rank `r` is handed the routable cells `L r` with the implicit parts, and
    what it then holds of group `k` is the stored form of a `Distinct` list `l r`: every call succeeds and appends -/
theorem CoreIs.addMany (hW : CoreIs N np V O G w) {k : Nat} {ci : CellInfo} (hk : cellInfos[k]? = some ci)
    (L : Nat → List Cell) (hok : ∀ r, r < np → ∀ c ∈ L r, CellOK ci N c) (l : Nat → List Cell)
    (hd : ∀ r, r < np → Distinct ci (l r)) (hl : ∀ r, r < np → G k r ++ (L r).map (norm ci) = (l r).map (norm ci))
    (f : Nat → PRank → Except Status PRank)
    (hf : ∀ r, r < np → f r (w.getD r default) =
      addManyGlobal r ci k ((L r).map fun c => (c, implicitParts N np ci c)) (w.getD r default)) :
    ∃ w', mapRanks f w = .ok w' ∧ CoreIs N np V O (setG G k fun r => (l r).map (norm ci)) w' := by
  obtain ⟨w', hw', hlen, hR⟩ := mapRanks_rel f (fun r st st' => RankStep N np V r k ((l r).map (norm ci)) st st') w
    fun r hr => by
      rw [hW.len] at hr
      rw [hf r hr, ← hl r hr, ← hW.grp r hr k]
      exact addManyGlobal_ok (hW.inv r hr) k ci hk (L r) (hok r hr)
        (by rw [hW.grp r hr k]; exact (hd r hr).addCells_eq _ _ (hl r hr))
  exact ⟨w', hw', hW.step hlen fun r hr => hR r (hW.len ▸ hr)⟩

theorem placeChunk_ok (hW : CoreIs N np V O G w) (hnp : 1 ≤ np) (k : Nat) (ci : CellInfo)
    (hk : cellInfos[k]? = some ci) (pre ch : List Cell) (hdist : Distinct ci (pre ++ ch))
    (hok : ∀ c ∈ ch, CellOK ci N c)
    (hG : Routed N np ci k pre G) :
    ∃ w', placeChunk N np ci k w ch = .ok w' ∧
      CoreIs N np V O (setG G k fun r => (directCells N np r (pre ++ ch)).map (norm ci)) w' := by
  have hci2 : 2 ≤ ci.nodePer := cellInfos_nodePer_pos ci (List.mem_of_getElem? hk)
  unfold placeChunk
  rw [routeChunk_ok hci2 hnp hok]
  refine hW.addMany hk (fun r => directCells N np r ch) (fun r _ c hc => hok c (List.mem_of_mem_filter hc))
    (fun r => directCells N np r (pre ++ ch)) (fun r _ => hdist.subset (List.filter_subset_self _) (hdist.nodup.filter _))
    (fun r hr => by rw [hG r hr, directCells_append, List.map_append]) _ fun r hr => ?_
  · -- the guard `if (0 < elements_to_send[part])` only saves a call that changes nothing
    simp only [Refine.ListFacts.getD_map_range hr]
    split
    · rename_i hemp
      rw [List.isEmpty_iff.1 hemp]
      exact (addManyGlobal_nil r ci k _ ((hW.inv r hr).ncells.symm ▸ cellInfos_lt hk)).symm
    · rfl

/-- all chunks of a group, for every way the file was cut into chunks -/
theorem placeChunks_ok (hnp : 1 ≤ np) (k : Nat)
    (ci : CellInfo) (hk : cellInfos[k]? = some ci) :
    ∀ (chs : List (List Cell)) (pre : List Cell) (G : Nat → Nat → List Cell) (w : World PRank),
      CoreIs N np V O G w → Distinct ci (pre ++ chs.flatten) → (∀ ch ∈ chs, ∀ c ∈ ch, CellOK ci N c) →
      Routed N np ci k pre G →
      ∃ w', placeChunks N np ci k chs w = .ok w' ∧
        CoreIs N np V O (setG G k fun r => (directCells N np r (pre ++ chs.flatten)).map (norm ci)) w' := by
  intro chs
  induction chs with
  | nil =>
    intro pre G w hW _ _ hG
    exact ⟨w, rfl, hW.setG_self fun r hr => by simpa using hG r hr⟩
  | cons ch chs ih =>
    intro pre G w hW hdist hok hG
    rw [List.flatten_cons, ← List.append_assoc] at hdist
    obtain ⟨w1, h1, hW1⟩ := placeChunk_ok hW hnp k ci hk pre ch
      (hdist.subset (List.subset_append_left _ _) hdist.nodup.of_append_left) (hok ch List.mem_cons_self) hG
    obtain ⟨w2, h2, hW2⟩ := ih (pre ++ ch) _ w1 hW1 hdist
      (fun ch' h' => hok ch' (List.mem_cons_of_mem _ h')) (by intro r _; simp [setG])
    refine ⟨w2, by simp [placeChunks, h1, h2], ?_⟩
    rw [setG_setG] at hW2
    simpa [List.append_assoc] using hW2

/-- the guard of `ref_migrate_shufflin_cell`: every stored vertex of a stored cell has a rank as part -/
theorem CoreIs.parts_are_ranks (hW : CoreIs N np V O G w) {k : Nat} {ci : CellInfo}
    (hk : cellInfos[k]? = some ci) :
    (w.any fun st => (st.group k).any fun c => (c.take ci.nodePer).any fun g =>
      decide (st.partOf g < 0 ∨ (np : Int) ≤ st.partOf g)) = false := by
  rw [Bool.eq_false_iff]
  intro hany
  simp only [List.any_eq_true] at hany
  obtain ⟨st, hst, c, hc, g, hg, hbad⟩ := hany
  obtain ⟨r, hr, rfl⟩ := hW.of_mem hst
  have hinv := hW.inv r hr
  obtain ⟨n, hn, hng⟩ := (has_iff _ g).1 (hinv.verts k ci hk c hc g hg)
  obtain ⟨h0, h1, _⟩ := hinv.parts n hn
  rw [hng] at h0 h1
  obtain ⟨i0, i1⟩ := imp_range (N := N) (np := np) (by omega) h0 h1
  have := of_decide_eq_true hbad
  rw [hinv.partOf_vert hk hc hg] at this
  omega

/-- what rank `r` is sent in `ref_migrate_shufflin_cell` when every rank holds the cells routed to it -/
theorem CoreIs.shufflin_received (hW : CoreIs N np V O G w) {k : Nat} {ci : CellInfo} (hk : cellInfos[k]? = some ci)
    {cs : List Cell} (hok : ∀ c ∈ cs, CellOK ci N c) (hG : Routed N np ci k cs G) (r : Nat) :
    (w.zipIdx.flatMap fun ss => shufflinSend ci k ss.2 ss.1 r) =
      ((recvCells N np ci r cs).map (norm ci)).map fun c => (c, implicitParts N np ci c) := by
  rw [zipIdx_flatMap, hW.len]
  unfold recvCells
  rw [List.map_flatMap, List.map_flatMap]
  apply List.flatMap_congr
  intro s hs
  have hs' : s < np := List.mem_range.1 hs
  simp only
  rw [shufflinSend_eq (hW.inv s hs') hk, hW.grp s hs' k, hG s hs']
  by_cases hsr : s = r
  · subst hsr
    simp
  · rw [if_neg hsr, List.filter_map]
    congr 2
    apply List.filter_congr
    intro c hc
    have hne : decide (r ≠ s) = true := by simpa using fun e : r = s => hsr e.symm
    simp only [Function.comp, hne, Bool.true_and]
    exact touches_norm r (hok c (mem_directCells.1 hc).1)

/-- `if (!need_to_keep) ref_cell_remove` removes nothing from the completed group: every cell a rank holds touches it -/
theorem CoreIs.shufflin_keeps {cs : List Cell} {k : Nat} {ci : CellInfo}
    (hW : CoreIs N np V O (setG G k fun r => (finalCells N np ci r cs).map (norm ci)) w)
    (hk : cellInfos[k]? = some ci) (hok : ∀ c ∈ cs, CellOK ci N c) :
    w.zipIdx.map (fun sr => sr.1.setGroup k ((sr.1.group k).filter fun c =>
      (c.take ci.nodePer).any fun g => sr.1.partOf g == (sr.2 : Int))) = w := by
  have hci2 : 2 ≤ ci.nodePer := cellInfos_nodePer_pos ci (List.mem_of_getElem? hk)
  apply zipIdx_map_id
  intro r hr
  have hr' : r < np := hW.len ▸ hr
  have hinv := hW.inv r hr'
  simp only
  rw [List.filter_eq_self.2 fun c hc => ?_]
  · exact setGroup_self _ k (hinv.ncells.symm ▸ cellInfos_lt hk)
  · rw [hinv.any_partOf hk hc]
    rw [hW.grp r hr' k, setG, if_pos rfl] at hc
    obtain ⟨c0, hc0, rfl⟩ := List.mem_map.1 hc
    rw [touches_norm r (hok c0 (finalCells_subset c0 hc0))]
    exact ((mem_finalCells hci2 (by omega) hok r c0).1 hc0).2

/-- **the completion step**: from the world in which every rank holds the cells routed to it, to the world in which
    rank `r` holds — behind those — the cells routed elsewhere that touch one of its vertices, in source-rank order -/
theorem shufflinCell_ok (hW : CoreIs N np V O G w) (k : Nat) (ci : CellInfo)
    (hk : cellInfos[k]? = some ci) (cs : List Cell) (hdist : Distinct ci cs) (hok : ∀ c ∈ cs, CellOK ci N c)
    (hG : Routed N np ci k cs G) :
    ∃ w', shufflinCell np ci k w = .ok w' ∧
      CoreIs N np V O (setG G k fun r => (finalCells N np ci r cs).map (norm ci)) w' := by
  unfold shufflinCell
  by_cases h1 : np ≤ 1
  · -- one rank: nothing is sent, and nothing is to be received
    rw [if_pos h1]
    refine ⟨w, rfl, hW.setG_self fun r hr => ?_⟩
    obtain ⟨rfl, rfl⟩ : np = 1 ∧ r = 0 := by omega
    rw [hG 0 hr, finalCells, recvCells_np1, List.append_nil]
  · rw [if_neg h1, if_neg (by rw [hW.parts_are_ranks hk]; simp)]
    have hrok : ∀ r, ∀ c ∈ recvCells N np ci r cs, CellOK ci N c := fun r c hc => by
      obtain ⟨_, _, _, h, _⟩ := mem_recvCells.1 hc
      exact hok c h
    -- every rank adds what it receives behind what it holds
    obtain ⟨w1, hw1, hW1⟩ := hW.addMany hk (fun r => (recvCells N np ci r cs).map (norm ci))
      (fun r _ c hc => by obtain ⟨c0, hc0, rfl⟩ := List.mem_map.1 hc; exact (hrok r c0 hc0).norm)
      (fun r => finalCells N np ci r cs) (fun r _ => finalCells_distinct hdist)
      (fun r hr => by rw [map_norm_norm _ (hrok r), hG r hr, finalCells, List.map_append])
      (fun r st => addManyGlobal r ci k (w.zipIdx.flatMap fun ss => shufflinSend ci k ss.2 ss.1 r) st)
      (fun r _ => by rw [hW.shufflin_received hk hok hG r])
    dsimp only
    rw [hw1]
    dsimp only
    rw [hW1.shufflin_keeps hk hok]
    exact ⟨w1, rfl, hW1⟩

end Core

end Refine.Lemmas.PartMeshb
