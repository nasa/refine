import Refine.Lemmas.SearchWall
import Refine.Lemmas.GeomReal
import Refine.Model.Interp

/-!
  The serial donor search of `ref_interp.c` over `ℝ`.  The search sphere of a cell (all its `node_per` vertices, radius times
  `donor_scale ≥ 1`) contains the closed cell because balls are convex; `ref_interp_enclosing_*_in_list` keeps a running best
  whose one step is `best_update` (the first candidate wins ties, `REF_DIV_ZERO` candidates are skipped); a walk that comes
  back `ENCLOSING` holds the weights of its seed cell, each `≥ inside`.
-/
namespace Refine.Lemmas.Interp
open Refine Refine.Model.Geom Refine.Model.Search Refine.Model.Interp Refine.ScalarReal Refine.Lemmas.Search
open Refine.GeomReal

def comb4 (a b c d : V3 ℝ) (u v w t : ℝ) : V3 ℝ :=
  ⟨u * a.x + v * b.x + w * c.x + t * d.x, u * a.y + v * b.y + w * c.y + t * d.y,
   u * a.z + v * b.z + w * c.z + t * d.z⟩

def InTet (a b c d y : V3 ℝ) : Prop :=
  ∃ u v w t : ℝ, 0 ≤ u ∧ 0 ≤ v ∧ 0 ≤ w ∧ 0 ≤ t ∧ u + v + w + t = 1 ∧ y = comb4 a b c d u v w t

theorem inTet_in_ball {p0 p1 p2 p3 y : V3 ℝ} (hy : InTet p0 p1 p2 p3 y) : InEveryBall [p0, p1, p2, p3] y := by
  intro c r h
  obtain ⟨u, v, w, t, hu, hv, hw, ht, hs, rfl⟩ := hy
  refine comb_in_ball c r ![u, v, w, t] ![p0, p1, p2, p3] (fun i => by fin_cases i <;> assumption)
    (by simpa [Fin.sum_univ_four] using hs) (fun i => by fin_cases i <;> exact h _ (by simp)) _ ?_
  ext i; fin_cases i <;> simp [toE, comb4, Fin.sum_univ_four]

/-- `x` lies in the closed donor cell (triangle for a 2-D donor, tetrahedron otherwise) -/
def Encloses (d : Donor ℝ) (n : CellN) (x : V3 ℝ) : Prop :=
  if d.twod then InTri (d.pt n.n0) (d.pt n.n1) (d.pt n.n2) x
  else InTet (d.pt n.n0) (d.pt n.n1) (d.pt n.n2) (d.pt n.n3) x

/-- a ball that contains every vertex handed to `ref_node_bounding_sphere` contains the closed cell -/
theorem encloses_in_ball {d : Donor ℝ} {n : CellN} {x : V3 ℝ} (hx : Encloses d n x) : InEveryBall (d.cellPts n) x := by
  intro c r hv
  unfold Encloses at hx
  unfold Donor.cellPts at hv
  by_cases ht : d.twod = true
  · simp only [ht, if_true] at hx hv
    exact inTri_in_ball hx c r hv
  · simp only [ht] at hx hv
    exact inTet_in_ball hx c r hv

/-- the entry `e` carries the scaled bounding sphere of donor cell `(cell, n)` -/
def CellSphere (d : Donor ℝ) (scale : ℝ) (cell : Int) (n : CellN) (e : Entry ℝ) : Prop :=
  EntryOf (cell, (boundingSphere (d.cellPts n)).1, scale * (boundingSphere (d.cellPts n)).2) e

theorem createSearchGo_eq (d : Donor ℝ) (scale : ℝ) (cells : List (Int × CellN)) (s : Search ℝ) :
    createSearchGo d scale s cells =
      insertEach (fun p => (p.1, (boundingSphere (d.cellPts p.2)).1, scale * (boundingSphere (d.cellPts p.2)).2))
        s cells := by
  induction cells generalizing s with
  | nil => rfl
  | cons p rest ih =>
    obtain ⟨cell, n⟩ := p
    simp only [createSearchGo, cellSphere, insertEach, mul_eq]
    rcases s.insert cell (boundingSphere (d.cellPts n)).1 (scale * (boundingSphere (d.cellPts n)).2) with ⟨st, s'⟩
    cases st <;> simp [ih]

/-- what `ref_interp_create_search` returns: a tree with the children-ball invariant whose entries are exactly the
    scaled bounding spheres of the valid donor cells (all of them when the status is ok) -/
theorem createSearch_spec (d : Donor ℝ) (scale : ℝ) (st : Refine.Model.Search.Status) (s : Search ℝ)
    (hw : createSearch d scale = (st, some s)) :
    BallInv s.root ∧ (∀ e ∈ s.root.pre, ∃ p ∈ d.cells, CellSphere d scale p.1 p.2 e) ∧
    (st = .ok → ∀ p ∈ d.cells, ∃ e ∈ s.root.pre, CellSphere d scale p.1 p.2 e) := by
  unfold createSearch Search.create at hw
  have hn : ¬ (Int.ofNat d.cells.length < 0) := by simp
  simp only [hn, if_false, createSearchGo_eq, Prod.mk.injEq, Option.some.injEq] at hw
  obtain ⟨rfl, rfl⟩ := hw
  exact insertEach_create _ d.cells _

/-- the stored sphere contains the closed cell when `donor_scale ≥ 1` -/
theorem cellSphere_contains {d : Donor ℝ} {scale : ℝ} {cell : Int} {n : CellN} {e : Entry ℝ}
    (h : CellSphere d scale cell n e) (hs : 1 ≤ scale) (x : V3 ℝ) (hx : Encloses d n x) :
    edist e.pos x ≤ e.rad := by
  obtain ⟨_, hpos, hrad⟩ := h
  rw [hpos, hrad]
  exact encloses_in_ball hx _ _ (boundingSphere_scaled_contains hs _)

theorem cellAt_mem {α : Type} {d : Donor α} {c : Int} {n : CellN} (h : d.cellAt c = some n) : (c, n) ∈ d.cells := by
  simp only [Donor.cellAt, Option.map_eq_some_iff] at h
  obtain ⟨⟨a, b⟩, hp, rfl⟩ := h
  have he := List.find?_some hp
  simp only [beq_iff_eq] at he
  exact he ▸ List.mem_of_find?_eq_some hp

theorem cellAt_ne_none_of_mem {α : Type} {d : Donor α} {p : Int × CellN} (h : p ∈ d.cells) : d.cellAt p.1 ≠ none := by
  unfold Donor.cellAt
  intro hn
  simp only [Option.map_eq_none_iff] at hn
  have := List.find?_eq_none.mp hn p h
  simp at this

theorem baryOf_twod {d : Donor ℝ} (h : d.twod = true) (n : CellN) (x : V3 ℝ) :
    baryOf d n x = ((bary3 (d.pt n.n0) (d.pt n.n1) (d.pt n.n2) x).1,
      ⟨(bary3 (d.pt n.n0) (d.pt n.n1) (d.pt n.n2) x).2.b0, (bary3 (d.pt n.n0) (d.pt n.n1) (d.pt n.n2) x).2.b1,
       (bary3 (d.pt n.n0) (d.pt n.n1) (d.pt n.n2) x).2.b2, 0⟩) := by
  unfold baryOf
  simp [h]

/-- 2-D donor, success: the weights are `ref_node_bary3`'s with the explicit `bary[3] = 0.0` -/
theorem baryOf_twod_ok {d : Donor ℝ} (h : d.twod = true) {n : CellN} {x : V3 ℝ} {w : B4 ℝ}
    (hb : baryOf d n x = (St.ok, w)) :
    ∃ w3, bary3 (d.pt n.n0) (d.pt n.n1) (d.pt n.n2) x = (St.ok, w3) ∧ w = ⟨w3.b0, w3.b1, w3.b2, 0⟩ := by
  rw [baryOf_twod h] at hb
  exact ⟨_, Prod.ext (Prod.mk.inj hb).1 rfl, (Prod.mk.inj hb).2.symm⟩

/-- ... and conversely -/
theorem baryOf_twod_of {d : Donor ℝ} (h : d.twod = true) {n : CellN} {x : V3 ℝ} {st : St} {w3 : B3 ℝ}
    (hb : bary3 (d.pt n.n0) (d.pt n.n1) (d.pt n.n2) x = (st, w3)) : baryOf d n x = (st, ⟨w3.b0, w3.b1, w3.b2, 0⟩) := by
  rw [baryOf_twod h, hb]

theorem baryOf_3d {d : Donor ℝ} (h : d.twod = false) (n : CellN) (x : V3 ℝ) :
    baryOf d n x = bary4 (d.pt n.n0) (d.pt n.n1) (d.pt n.n2) (d.pt n.n3) x := by
  unfold baryOf
  simp [h]

theorem baryOf_status (d : Donor ℝ) (n : CellN) (x : V3 ℝ) :
    (baryOf d n x).1 = St.ok ∨ (baryOf d n x).1 = St.divZero := by
  rcases Bool.eq_false_or_eq_true d.twod with ht | ht
  · rw [baryOf_twod ht]
    exact Refine.Props.C15.bary3_status _ _ _ _
  · rw [baryOf_3d ht]
    exact Refine.Props.C15.bary4_status _ _ _ _ _

theorem le_minBary_iff (twod : Bool) (b : B4 ℝ) (t : ℝ) :
    t ≤ minBary twod b ↔ t ≤ b.b0 ∧ t ≤ b.b1 ∧ t ≤ b.b2 ∧ (twod = false → t ≤ b.b3) := by
  cases twod <;>
    simp only [minBary, cmin_eq, le_min_iff, and_assoc, if_true, Bool.false_eq_true, if_false, Bool.true_eq_false,
      false_imp_iff, and_true, true_imp_iff]

theorem inListFold_error_ne_ok {α : Type} [Scalar α] (d : Donor α) (x : V3 α) (l : List Int) (best : Int × α) (e : ISt)
    (h : inListFold d x l best = .error e) : e ≠ ISt.ok := by
  fun_induction inListFold d x l best with
  | case1 => cases h                                       -- list exhausted
  | case2 => cases h; simp                                 -- `c` is not a cell: `REF_INVALID`
  | case3 c rest best n hca b hb m ih => exact ih h        -- weights computed
  | case4 c rest best n hca b hb ih => exact ih h          -- `REF_DIV_ZERO`: candidate skipped
  | case5 c rest best n hca st b h1 h2 hb => cases h; cases st <;> simp_all [ISt.ofGeom]  -- any other status

/-- `ref_interp_enclosing_*_in_list` / `ref_interp_exhaustive_*_around_node`, success: the selection loop ended on a real
    cell, and the returned weights are that cell's weights at the query, recomputed with `REF_SUCCESS` -/
theorem enclosingInList_ok {α : Type} [Scalar α] {d : Donor α} {l : List Int} {x : V3 α} {c : Int} {b : B4 α}
    (h : enclosingInList d l x = (.ok, c, b)) :
    (∃ m, inListFold d x l bestInit = .ok (c, m)) ∧ c ≠ refEmpty ∧
      ∃ n, d.cellAt c = some n ∧ Refine.Model.Interp.baryOf d n x = (St.ok, b) := by
  revert h
  fun_cases enclosingInList d l x <;> intro h
  -- the loop fails
  case case1 st hf => exact absurd (Prod.mk.inj h).1 (inListFold_error_ne_ok d x l _ st hf)
  -- the loop ends on a cell whose weights are recomputed with `REF_SUCCESS`
  case case4 best hf hb n hca b' hbo =>
    cases h
    exact ⟨⟨best.2, hf⟩, by simpa using hb, n, hca, hbo⟩
  -- the recomputation fails
  case case5 best hf hb n hca st b' hst hbo => cases st <;> simp_all [ISt.ofGeom]
  -- no candidate was taken, or the best is not a cell
  all_goals cases h

/-- candidate `c` is a valid cell whose weights at `x` were computed (`REF_SUCCESS`) with min weight `m` -/
def OkMin (d : Donor ℝ) (x : V3 ℝ) (c : Int) (m : ℝ) : Prop :=
  ∃ n b, d.cellAt c = some n ∧ baryOf d n x = (St.ok, b) ∧ minBary d.twod b = m

theorem okMin_unique {d : Donor ℝ} {x : V3 ℝ} {c : Int} {m m' : ℝ} (h : OkMin d x c m) (h' : OkMin d x c m') :
    m = m' := by
  obtain ⟨n, b, h1, h2, h3⟩ := h
  obtain ⟨n', b', h1', h2', h3'⟩ := h'
  rw [h1] at h1'
  cases h1'
  rw [h2] at h2'
  cases h2'
  rw [← h3, ← h3']

/-- `if (REF_EMPTY == best_candidate || min_bary > best_bary)`: one update of the running best -/
theorem best_update (best : Int × ℝ) {c : Int} (m : ℝ) (hc : c ≠ refEmpty) {u : Int × ℝ}
    (hu : u = if best.1 == refEmpty || best.2 <. m then (c, m) else best) :
    (u = best ∨ u = (c, m)) ∧ u.1 ≠ refEmpty ∧ m ≤ u.2 ∧ (best.1 ≠ refEmpty → best.2 ≤ u.2) := by
  by_cases htake : (best.1 == refEmpty || best.2 <. m) = true
  · rw [if_pos htake] at hu
    simp only [Bool.or_eq_true, beq_iff_eq, lt_iff] at htake
    subst hu
    exact ⟨.inr rfl, hc, le_refl _, fun hb => (htake.resolve_left hb).le⟩
  · rw [if_neg htake] at hu
    simp only [Bool.or_eq_true, beq_iff_eq, lt_iff, not_or, not_lt] at htake
    subst hu
    exact ⟨.inl rfl, htake.1, htake.2, fun _ => le_refl _⟩

/-- the running best of the selection loop -/
theorem inListFold_spec (d : Donor ℝ) (x : V3 ℝ) (l : List Int) (best r : Int × ℝ)
    (h : inListFold d x l best = .ok r) (hne : ∀ c ∈ l, c ≠ refEmpty) :
    (r = best ∨ (r.1 ∈ l ∧ OkMin d x r.1 r.2)) ∧
    (best.1 ≠ refEmpty → best.2 ≤ r.2 ∧ r.1 ≠ refEmpty) ∧
    (∀ c ∈ l, ∀ m, OkMin d x c m → r.1 ≠ refEmpty ∧ m ≤ r.2) := by
  fun_induction inListFold d x l best with
  | case1 best =>
    cases h
    exact ⟨Or.inl rfl, fun hb => ⟨le_refl _, hb⟩, fun c hc => by simp at hc⟩
  | case2 => cases h
  -- weights computed: `c` competes with the running best
  | case3 c rest best n hca b hb m ih =>
    have hok : OkMin d x c (minBary d.twod b) := ⟨n, b, hca, hb, rfl⟩
    obtain ⟨u1, u2, u3, u4⟩ := best_update best (minBary d.twod b) (hne c List.mem_cons_self) rfl
    obtain ⟨a1, a2, a3⟩ := ih h fun c hc => hne c (List.mem_cons_of_mem _ hc)
    obtain ⟨a2l, a2r⟩ := a2 u2
    refine ⟨?_, fun hb1 => ⟨(u4 hb1).trans a2l, a2r⟩, fun c' hc' m hm => ?_⟩
    · rcases a1 with e | ⟨m1, m2⟩
      · rcases u1 with e' | e'
        · exact .inl (e.trans e')
        · exact .inr (by rw [e, e']; exact ⟨List.mem_cons_self, hok⟩)
      · exact .inr ⟨List.mem_cons_of_mem _ m1, m2⟩
    · rcases List.mem_cons.mp hc' with rfl | hc'
      · rw [okMin_unique hm hok]
        exact ⟨a2r, u3.trans a2l⟩
      · exact a3 c' hc' m hm
  -- `REF_DIV_ZERO`: `c` is skipped, and it is no `OkMin` candidate
  | case4 c rest best n hca b hb ih =>
    obtain ⟨a1, a2, a3⟩ := ih h fun c hc => hne c (List.mem_cons_of_mem _ hc)
    refine ⟨a1.imp_right fun ⟨m1, m2⟩ => ⟨List.mem_cons_of_mem _ m1, m2⟩, a2, fun c' hc' m hm => ?_⟩
    rcases List.mem_cons.mp hc' with rfl | hc'
    · obtain ⟨n', b', h1, h2, _⟩ := hm
      rw [hca] at h1
      cases h1
      rw [hb] at h2
      cases h2
    · exact a3 c' hc' m hm
  | case5 => cases h

theorem inListFold_noerr (d : Donor ℝ) (x : V3 ℝ) (l : List Int) (best : Int × ℝ)
    (hv : ∀ c ∈ l, d.cellAt c ≠ none) : ∃ r, inListFold d x l best = .ok r := by
  fun_induction inListFold d x l best with
  | case1 best => exact ⟨best, rfl⟩
  | case2 c rest best hca => exact absurd hca (hv c List.mem_cons_self)
  | case3 c rest best n hca b hb m ih => exact ih fun c hc => hv c (List.mem_cons_of_mem _ hc)
  | case4 c rest best n hca b hb ih => exact ih fun c hc => hv c (List.mem_cons_of_mem _ hc)
  -- `ref_node_bary*` returns nothing but `REF_SUCCESS` and `REF_DIV_ZERO`
  | case5 c rest best n hca st b h1 h2 hb =>
    have hs := baryOf_status d n x
    rw [hb] at hs
    exact (hs.elim h1 h2).elim

theorem updateSeed_mode (d : Donor ℝ) (a : Agent ℝ) (face : List Nat) :
    (updateSeed d a face).2.mode = a.mode ∨ (updateSeed d a face).2.mode = .atBoundary := by
  fun_cases updateSeed d a face <;> simp

theorem walkIter_done {d : Donor ℝ} {inside : ℝ} {x : V3 ℝ} {a a' : Agent ℝ}
    (h : walkIter d inside x a = .done a') :
    a'.mode = .enclosing ∧ a'.seed = a.seed ∧
      ∃ n, d.cellAt a.seed = some n ∧ a'.bary = (baryOf d n x).2 ∧ baryInside inside a'.bary = true := by
  revert h
  -- of the branches of the loop body only the two `inside` ones (status ok, or div-zero) return `done`
  fun_cases walkIter d inside x a <;> intro h <;> cases h
  -- in both the stored weights are `(baryOf d n x).2`
  all_goals exact ⟨rfl, rfl, _, ‹_›, by simp [*], ‹_›⟩

theorem walkIter_next {d : Donor ℝ} {inside : ℝ} {x : V3 ℝ} {a a' : Agent ℝ}
    (h : walkIter d inside x a = .next a') : a'.mode = a.mode ∨ a'.mode = .atBoundary := by
  revert h
  fun_cases walkIter d inside x a <;> intro h <;> cases h
  -- every `next` comes out of `updateSeed` on the face with the most negative weight
  all_goals
    rename_i face _ hu
    have hm := updateSeed_mode d a face
    rwa [hu] at hm

theorem walkLoop_sound (d : Donor ℝ) (inside : ℝ) (x : V3 ℝ) (fuel : Nat) (a a' : Agent ℝ) (st : ISt)
    (h : walkLoop d inside x fuel a = (st, a')) (hm : a.mode ≠ .enclosing) (he : a'.mode = .enclosing) :
    st = .ok ∧ ∃ n, d.cellAt a'.seed = some n ∧ a'.bary = (baryOf d n x).2 ∧ baryInside inside a'.bary = true := by
  fun_induction walkLoop d inside x fuel a with
  | case1 a => cases h; simp at he                                                -- step limit: `TERMINATED`
  | case2 fuel a hw | case3 fuel a hw st hi => cases h; exact absurd he hm        -- not walking, or the step fails
  -- the step finds the target inside the cell
  | case4 fuel a hw a1 hi =>
    cases h
    obtain ⟨_, hseed, n, h1, h2, h3⟩ := walkIter_done hi
    exact ⟨rfl, n, hseed ▸ h1, h2, h3⟩
  -- the step moves on
  | case5 fuel a hw a1 hi ih =>
    refine ih h ?_
    have hwk : a.mode = .walking := by simpa using hw
    rcases walkIter_next hi with h1 | h1 <;> simp [h1, hwk]
end Refine.Lemmas.Interp
