import Refine.Lemmas.ReconParMesh
import Mathlib.Data.List.Perm.Basic

/-!
  Clause (ii) of the distributed invariant at the CELL level implies its sub-simplex form: if the stored cells incident
  to a vertex, renamed to global ids, are as a multiset the cells of the global mesh incident to it, then the same holds
  for the tets (3-D: the C's decomposition of pyramids, prisms and hexes) and triangles (2-D: quads split) the L2
  projection visits (`gather_complete`, for any decomposition that commutes with renaming and only uses the cell's own
  vertices: `subTets_glob`, `subTets_touch`).  The C visits the cells kind by kind; as a multiset that order does not
  matter (`allTets_perm`, `allTris_perm`).  `complete_of_cells_stored` (in Props/C19Par.lean) puts the two together as
  `ReconParMesh.CompleteAt`.
-/
namespace Refine.ReconParCells
open Refine Refine.Model.Recon Refine.Model.ReconPar Refine.ReconParMesh

def kindSize : CellKind → Nat
  | .tri => 3 | .qua => 4 | .tet => 4 | .pyr => 5 | .pri => 6 | .hex => 8

def CellWF (c : Cell) : Prop := c.nodes.length = kindSize c.kind

def globCell (l2g : List Nat) (c : Cell) : Cell := ⟨c.kind, c.nodes.map (gOf l2g)⟩
def cellTouches (g : Nat) (c : Cell) : Bool := c.nodes.contains g

theorem subTets_glob (l2g : List Nat) (c : Cell) (h : CellWF c) :
    subTets (globCell l2g c) = (subTets c).map (globTet l2g) := by
  obtain ⟨kind, nodes⟩ := c
  have m : ∀ k, k < nodes.length → (nodes.map (gOf l2g)).getD k 0 = gOf l2g (nodes.getD k 0) :=
    fun k => Refine.ListFacts.getD_map_of_lt 0
  cases kind <;> simp only [CellWF, kindSize] at h <;>
    simp only [subTets, priTets, globCell, globTet, List.map_cons, List.map_nil, List.map_append,
      List.getD_cons_zero, List.getD_cons_succ, m, h, Nat.reduceLT]

theorem subTris_glob (l2g : List Nat) (c : Cell) (h : CellWF c) :
    subTris (globCell l2g c) = (subTris c).map (globTri l2g) := by
  obtain ⟨kind, nodes⟩ := c
  have m : ∀ k, k < nodes.length → (nodes.map (gOf l2g)).getD k 0 = gOf l2g (nodes.getD k 0) :=
    fun k => Refine.ListFacts.getD_map_of_lt 0
  cases kind <;> simp only [CellWF, kindSize] at h <;>
    simp only [subTris, globCell, globTri, List.map_cons, List.map_nil, m, h, Nat.reduceLT]

theorem tet_idx_touch {l : List Nat} {g i j k m : Nat} (hi : i < l.length) (hj : j < l.length)
    (hk : k < l.length) (hm : m < l.length)
    (hg : tetTouches g ⟨l.getD i 0, l.getD j 0, l.getD k 0, l.getD m 0⟩ = true) : l.contains g = true := by
  simp only [tetTouches, List.contains_iff_mem, List.mem_cons, List.not_mem_nil, or_false] at hg ⊢
  rcases hg with rfl | rfl | rfl | rfl <;> exact Refine.ListFacts.getD_mem ‹_›

theorem tri_idx_touch {l : List Nat} {g i j k : Nat} (hi : i < l.length) (hj : j < l.length)
    (hk : k < l.length) (hg : triTouches g ⟨l.getD i 0, l.getD j 0, l.getD k 0⟩ = true) :
    l.contains g = true := by
  simp only [triTouches, List.contains_iff_mem, List.mem_cons, List.not_mem_nil, or_false] at hg ⊢
  rcases hg with rfl | rfl | rfl <;> exact Refine.ListFacts.getD_mem ‹_›

theorem subTets_touch (g : Nat) (c : Cell) (h : CellWF c) (t : Tet) (ht : t ∈ subTets c)
    (hg : tetTouches g t = true) : cellTouches g c = true := by
  obtain ⟨kind, nodes⟩ := c
  cases kind <;> simp only [CellWF, kindSize] at h <;>
    simp only [subTets, priTets, List.getD_cons_zero, List.getD_cons_succ, List.mem_cons, List.not_mem_nil,
      or_false, List.mem_append] at ht
  -- tet, pyramid (2 sub-tets), prism (3), hex (6): every sub-tet lists four positions below the size of the kind
  · subst ht
    exact tet_idx_touch (l := nodes) (by omega) (by omega) (by omega) (by omega) hg
  · rcases ht with rfl | rfl <;>
      exact tet_idx_touch (l := nodes) (by omega) (by omega) (by omega) (by omega) hg
  · rcases ht with rfl | rfl | rfl <;>
      exact tet_idx_touch (l := nodes) (by omega) (by omega) (by omega) (by omega) hg
  · rcases ht with (rfl | rfl | rfl) | (rfl | rfl | rfl) <;>
      exact tet_idx_touch (l := nodes) (by omega) (by omega) (by omega) (by omega) hg

theorem subTris_touch (g : Nat) (c : Cell) (h : CellWF c) (t : Tri) (ht : t ∈ subTris c)
    (hg : triTouches g t = true) : cellTouches g c = true := by
  obtain ⟨kind, nodes⟩ := c
  cases kind <;> simp only [CellWF, kindSize] at h <;>
    simp only [subTris, List.mem_cons, List.not_mem_nil, or_false] at ht
  -- triangle, quad (2 triangles); the volume kinds have no sub-triangle
  · subst ht
    exact tri_idx_touch (l := nodes) (by omega) (by omega) (by omega) hg
  · rcases ht with rfl | rfl <;> exact tri_idx_touch (l := nodes) (by omega) (by omega) (by omega) hg

section generic
variable {τ : Type} (sub : Cell → List τ) (gl : τ → τ) (tch : τ → Bool)

theorem flatMap_map_glob (l2g : List Nat) (hsub : ∀ c, CellWF c → sub (globCell l2g c) = (sub c).map gl)
    (L : List Cell) (h : ∀ c ∈ L, CellWF c) : (L.map (globCell l2g)).flatMap sub = (L.flatMap sub).map gl := by
  rw [List.flatMap_map, List.map_flatMap]
  exact List.flatMap_congr fun c hc => hsub c (h c hc)

/-- only the cells that touch `g` have sub-simplices that do -/
theorem flatMap_filter_touch (g : Nat)
    (htouch : ∀ c, CellWF c → ∀ t ∈ sub c, tch t = true → cellTouches g c = true)
    (L : List Cell) (h : ∀ c ∈ L, CellWF c) :
    (L.flatMap sub).filter tch = ((L.filter (cellTouches g)).flatMap sub).filter tch := by
  rw [List.filter_flatMap, List.filter_flatMap]
  induction L with
  | nil => rfl
  | cons c rest ih =>
    rw [List.flatMap_cons, ih fun c' hc' => h c' (List.mem_cons_of_mem _ hc'), List.filter_cons]
    split
    · rfl
    · rename_i hg
      rw [List.filter_eq_nil_iff.mpr fun t ht htt => hg (htouch c (h c List.mem_cons_self) t ht htt), List.nil_append]

theorem gather_complete (l2g : List Nat) (g : Nat)
    (hsub : ∀ c, CellWF c → sub (globCell l2g c) = (sub c).map gl)
    (htouch : ∀ c, CellWF c → ∀ t ∈ sub c, tch t = true → cellTouches g c = true)
    (lcells gcells : List Cell) (hL : ∀ c ∈ lcells, CellWF c) (hG : ∀ c ∈ gcells, CellWF c)
    (h : ((lcells.map (globCell l2g)).filter (cellTouches g)).Perm (gcells.filter (cellTouches g))) :
    (((lcells.flatMap sub).map gl).filter tch).Perm ((gcells.flatMap sub).filter tch) := by
  have hglobWF : ∀ c ∈ lcells.map (globCell l2g), CellWF c := by
    intro c hc
    obtain ⟨c0, hc0, rfl⟩ := List.mem_map.mp hc
    simpa only [CellWF, globCell, List.length_map] using hL c0 hc0
  rw [← flatMap_map_glob sub gl l2g hsub _ hL, flatMap_filter_touch sub tch g htouch _ hglobWF,
    flatMap_filter_touch sub tch g htouch _ hG]
  exact (h.flatMap_right _).filter _

/-- as a multiset, what the kinds `ks` collect is what all cells give, when the kinds left out give nothing -/
theorem flatMap_ofKind_perm :
    ∀ (ks : List CellKind) (cells : List Cell), ks.Nodup → (∀ c ∈ cells, c.kind ∉ ks → sub c = []) →
      ((ks.flatMap fun k => ofKind k cells).flatMap sub).Perm (cells.flatMap sub)
  | [], cells, _, h => by
    rw [List.flatMap_nil, List.flatMap_nil, List.flatMap_eq_nil_iff.mpr fun c hc => h c hc (by simp)]
  | k :: ks, cells, hks, h => by
    obtain ⟨hk, hks'⟩ := List.nodup_cons.mp hks
    -- the cells of the other kinds; the later groups do not see the difference
    set rest := cells.filter fun c => !decide (c.kind = k) with hrest
    have e : (ks.flatMap fun k' => ofKind k' cells) = ks.flatMap fun k' => ofKind k' rest :=
      List.flatMap_congr fun k' hk' => by
        rw [hrest, ofKind, ofKind, List.filter_filter]
        refine List.filter_congr fun c _ => ?_
        by_cases hc : c.kind = k' <;> simp [hc]
        rintro rfl; exact hk hk'
    rw [List.flatMap_cons, List.flatMap_append, e]
    refine ((flatMap_ofKind_perm ks rest hks' fun c hc hn =>
      h c (List.mem_filter.mp hc).1 ?_).append_left _).trans ?_
    · simpa [hn] using (List.mem_filter.mp hc).2
    · rw [← List.flatMap_append]
      exact (List.filter_append_perm _ cells).flatMap_right sub

end generic

theorem allTets_perm (cells : List Cell) : (allTets cells).Perm (cells.flatMap subTets) := by
  have := flatMap_ofKind_perm subTets [CellKind.tet, CellKind.pyr, CellKind.pri, CellKind.hex] cells (by decide)
    fun c _ hc => by obtain ⟨kind, nodes⟩ := c; cases kind <;> first | rfl | exact (hc (by simp)).elim
  simp only [List.flatMap_cons, List.flatMap_nil, List.append_nil, ← List.append_assoc] at this
  exact this

theorem allTris_perm (cells : List Cell) : (allTris cells).Perm (cells.flatMap subTris) := by
  have := flatMap_ofKind_perm subTris [CellKind.tri, CellKind.qua] cells (by decide)
    fun c _ hc => by obtain ⟨kind, nodes⟩ := c; cases kind <;> first | rfl | exact (hc (by simp)).elim
  simp only [List.flatMap_cons, List.flatMap_nil, List.append_nil] at this
  exact this

end Refine.ReconParCells
