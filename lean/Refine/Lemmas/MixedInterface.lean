import Refine.Lemmas.MixedFrame
import Mathlib.Data.List.Perm.Subperm

/-!
  Interface lemmas for `Refine/Model/Mixed.lean`: the triangular faces of pyramids / prisms keep a simplex on
  them under the guarded split / swap / collapse.
-/
namespace Refine.MixedLemmas
open Refine Refine.Model Refine.Model.Guards Refine.Model.Mixed Refine.GuardsRules

theorem covers_iff {c : Cell} {k : List Nat} : covers c k = true ↔ ∀ n ∈ k, n ∈ c.nodes := by
  unfold covers
  simp [List.all_eq_true]

theorem matched_iff {g : Grid} {k : List Nat} :
    matched g k = true ↔ (∃ c ∈ g.tet, covers c k = true) ∨ (∃ c ∈ g.tri, covers c k = true) := by
  unfold matched
  simp [List.any_eq_true]

theorem covers_subst {c : Cell} {k : List Nat} {old new : Nat} (h : covers c k = true) (hk : old ∉ k) :
    covers (Cell.subst old new c) k = true :=
  covers_iff.mpr fun n hn => mem_subst.mpr (.inr ⟨covers_iff.mp h n hn, fun e => hk (e ▸ hn)⟩)

/-- a cell on the triangle `k` survives the split of an edge that is not a side of `k` (as itself, or as the half
    that keeps all three vertices) -/
theorem cover_splitGroup {cells : List Cell} {n0 n1 new : Nat} {k : List Nat} (hk : ¬ (n0 ∈ k ∧ n1 ∈ k))
    (h : ∃ c ∈ cells, covers c k = true) : ∃ c ∈ splitGroup cells n0 n1 new, covers c k = true := by
  obtain ⟨c, hc, hcov⟩ := h
  by_cases hb : n0 ∈ c.nodes ∧ n1 ∈ c.nodes
  · by_cases h1 : n1 ∈ k
    · exact ⟨_, mem_splitGroup.mpr ⟨c, hc, by rw [if_pos hb]; exact Or.inl rfl⟩,
        covers_subst hcov fun h0 => hk ⟨h0, h1⟩⟩
    · exact ⟨_, mem_splitGroup.mpr ⟨c, hc, by rw [if_pos hb]; exact Or.inr rfl⟩, covers_subst hcov h1⟩
  · exact ⟨c, mem_splitGroup.mpr ⟨c, hc, by rw [if_neg hb]⟩, hcov⟩

theorem mixedTriFaces_eq_of {g' g : Grid} (hg : SameFrozenGroups g' g) : mixedTriFaces g' = mixedTriFaces g := by
  unfold mixedTriFaces
  rw [hg.pyr, hg.pri, hg.hex]

theorem mem_mixedTriFaces {g : Grid} {k : List Nat} :
    k ∈ mixedTriFaces g ↔ (∃ c ∈ g.pyr, ∃ f ∈ triF2nPyr, k = faceOf c f) ∨ (∃ c ∈ g.pri, ∃ f ∈ triF2nPri, k = faceOf c f) := by
  unfold mixedTriFaces
  simp only [List.mem_append, List.mem_flatMap, List.mem_map, triF2nHex_eq, List.map_nil, List.not_mem_nil,
    and_false, exists_false, or_false, eq_comm]

theorem onFrozen_of_mem_face {g : Grid} (hw : Arity g) {k : List Nat} (hk : k ∈ mixedTriFaces g) {n : Nat}
    (hn : n ∈ k) : OnFrozen g n := by
  rcases mem_mixedTriFaces.mp hk with ⟨c, hc, f, hf, rfl⟩ | ⟨c, hc, f, hf, rfl⟩
  · obtain ⟨x, hx, rfl⟩ := List.mem_map.mp hn
    exact ⟨c, Or.inr (Or.inl hc), nd_mem (by rw [hw.pyr c hc]; exact pyrTable.face_bound f hf x hx)⟩
  · obtain ⟨x, hx, rfl⟩ := List.mem_map.mp hn
    exact ⟨c, Or.inr (Or.inr (Or.inl hc)), nd_mem (by rw [hw.pri c hc]; exact priTable.face_bound f hf x hx)⟩

/-- both ends on a triangular face of a pyramid / prism ⇒ the edge is an edge of that cell ⇒ the split / swap guard
    refuses -/
theorem splitEdgeMixed_not_on_face {g : Grid} (hw : Arity g) {n0 n1 : Nat} (hne : n0 ≠ n1)
    (hguard : Guards.splitEdgeMixed g n0 n1 = true) : ∀ k ∈ mixedTriFaces g, ¬ (n0 ∈ k ∧ n1 ∈ k) := by
  intro k hk ⟨h0, h1⟩
  apply (splitEdgeMixed_true_iff hw n0 n1).mp hguard
  rcases mem_mixedTriFaces.mp hk with ⟨c, hc, f, hf, rfl⟩ | ⟨c, hc, f, hf, rfl⟩
  · exact Or.inl ⟨c, hc, side_of_positions (pyrTable.face_sides f hf) hne h0 h1⟩
  · exact Or.inr (Or.inl ⟨c, hc, side_of_positions (priTable.face_sides f hf) hne h0 h1⟩)

/-- a cell on the triangle `k` survives, in each of the three simplex groups, whatever status `ref_split_edge` returns -/
theorem cover_splitCells {g : Grid} {k : List Nat} (n0 n1 new : Nat) (hk : ¬ (n0 ∈ k ∧ n1 ∈ k)) :
    ((∃ c ∈ g.tet, covers c k = true) → ∃ c ∈ (splitCells g n0 n1 new).2.tet, covers c k = true) ∧
    ((∃ c ∈ g.tri, covers c k = true) → ∃ c ∈ (splitCells g n0 n1 new).2.tri, covers c k = true) ∧
    ((∃ c ∈ g.edg, covers c k = true) → ∃ c ∈ (splitCells g n0 n1 new).2.edg, covers c k = true) :=
  (splitCells_rewrites g n0 n1 new).keeps (fun cs => ∃ c ∈ cs, covers c k = true) fun _ => cover_splitGroup hk

theorem splitCells_matched {g : Grid} {n0 n1 new : Nat} {k : List Nat} (hk : ¬ (n0 ∈ k ∧ n1 ∈ k))
    (h : matched g k = true) : matched (splitCells g n0 n1 new).2 k = true := by
  rw [matched_iff] at h ⊢
  exact h.imp (cover_splitCells n0 n1 new hk).1 (cover_splitCells n0 n1 new hk).2.1

theorem interfaceMatched_iff {g : Grid} : interfaceMatched g = true ↔ ∀ k ∈ mixedTriFaces g, matched g k = true := by
  unfold interfaceMatched
  rw [List.all_eq_true]

def TriArity (g : Grid) : Prop := ∀ c ∈ g.tri, c.nodes.length = 3

/-- every triangular face of a pyramid / prism of the grid consists of three distinct vertices -/
def FacesProper (g : Grid) : Prop := ∀ k ∈ mixedTriFaces g, k.Nodup ∧ k.length = 3

theorem swapCells_matched {g : Grid} {n0 n1 : Nat} {k : List Nat} (hw3 : TriArity g)
    (hkp : k.Nodup ∧ k.length = 3) (hk : ¬ (n0 ∈ k ∧ n1 ∈ k)) (h : matched g k = true) :
    matched (swapCells g n0 n1).2 k = true := by
  fun_cases swapCells g n0 n1
  case case1 n2 n3 _ c0 c1 hl =>
    rw [matched_iff] at h ⊢
    refine h.imp_right fun ⟨r, hr, hcov⟩ => ?_
    -- a triangle on the edge contains both ends; if it covered `k` its three vertices would be those of `k` (pigeonhole)
    have hne : ∀ c, c ∈ [c0, c1] → r ≠ c := by
      intro c hc e
      obtain ⟨hct, h0, h1⟩ := mem_having2.mp (listWith2_ok hl ▸ hc)
      have hsub := (hkp.1.subperm (covers_iff.mp (e ▸ hcov))).perm_of_length_le (by rw [hw3 c hct, hkp.2])
      exact hk ⟨hsub.mem_iff.mpr h0, hsub.mem_iff.mpr h1⟩
    refine ⟨r, List.mem_append_left _ ?_, hcov⟩
    rw [List.mem_erase_of_ne (hne c1 (by simp)), List.mem_erase_of_ne (hne c0 (by simp))]
    exact hr
  all_goals exact h

/-- every simplex that the collapse removes from the triangle `k` has, across its face opposite `n0`, a neighbour
    (tet or boundary tri) that does not contain `n0` -/
def CollapseNeighbour (g : Grid) (n0 n1 : Nat) (k : List Nat) : Prop :=
  ∀ x, (x ∈ g.tet ∨ x ∈ g.tri) → n0 ∈ x.nodes → n1 ∈ x.nodes → covers x k = true →
    ∃ y, (y ∈ g.tet ∨ y ∈ g.tri) ∧ n0 ∉ y.nodes ∧ ∀ v ∈ x.nodes.erase n0, v ∈ y.nodes

theorem collapse_matched {g : Grid} {n0 n1 : Nat} {k : List Nat} (hne : n0 ≠ n1) (hk1 : n1 ∉ k)
    (hnb : CollapseNeighbour g n0 n1 k) (h : matched g k = true)
    (hok : (Collapse.collapseEdge g n0 n1).1 = .ok) : matched (Collapse.collapseEdge g n0 n1).2 k = true := by
  -- on the success path all three groups are collapsed
  have hres := (collapseCells_rewrites g n0 n1).ok hok
  rw [matched_iff, hres.1, hres.2.1]
  rw [matched_iff] at h
  -- a tet or tri that does not contain both ends has its image in the collapsed group it came from
  have image : ∀ {y : Cell}, (y ∈ g.tet ∨ y ∈ g.tri) → ¬ (n0 ∈ y.nodes ∧ n1 ∈ y.nodes) →
      covers (Cell.subst n1 n0 y) k = true →
      (∃ d ∈ collapseGroup g.tet n0 n1, covers d k = true) ∨ (∃ d ∈ collapseGroup g.tri n0 n1, covers d k = true) :=
    fun hy hyb hcy => hy.elim (fun hy => Or.inl ⟨_, mem_collapseGroup.mpr ⟨_, hy, hyb, rfl⟩, hcy⟩)
      fun hy => Or.inr ⟨_, mem_collapseGroup.mpr ⟨_, hy, hyb, rfl⟩, hcy⟩
  obtain ⟨c, hc, hcov⟩ : ∃ c, (c ∈ g.tet ∨ c ∈ g.tri) ∧ covers c k = true := by
    rcases h with ⟨c, hc, hcov⟩ | ⟨c, hc, hcov⟩
    · exact ⟨c, Or.inl hc, hcov⟩
    · exact ⟨c, Or.inr hc, hcov⟩
  by_cases hb : n0 ∈ c.nodes ∧ n1 ∈ c.nodes
  · -- the cell is removed: its neighbour across the face opposite `n0` takes over
    obtain ⟨y, hy, hy0, hsub⟩ := hnb c hc hb.1 hb.2 hcov
    refine image hy (fun hb' => hy0 hb'.1) ?_
    rw [covers_iff] at hcov ⊢
    intro v hv
    by_cases hv0 : v = n0
    · rw [hv0]
      exact mem_subst.mpr (.inl ⟨rfl, hsub n1 ((List.mem_erase_of_ne (Ne.symm hne)).mpr hb.2)⟩)
    · have hvy : v ∈ y.nodes := hsub v ((List.mem_erase_of_ne hv0).mpr (hcov v hv))
      exact mem_subst.mpr (.inr ⟨hvy, fun e => hk1 (e ▸ hv)⟩)
  · -- the cell survives and keeps covering `k`
    exact image hc hb (covers_subst hcov hk1)

theorem faceOf_proper {c : Cell} (hn : c.nodes.Nodup) {f : List Nat} (hf : f.Nodup ∧ f.length = 3)
    (hb : ∀ x ∈ f, x < c.nodes.length) : (faceOf c f).Nodup ∧ (faceOf c f).length = 3 := by
  unfold faceOf
  refine ⟨List.pairwise_map.mpr (hf.1.imp_of_mem fun {x y} hx hy hxy e => hxy ?_), by rw [List.length_map, hf.2]⟩
  have hx' := hb x hx
  have hy' := hb y hy
  unfold Cell.nd at e
  rw [← List.getElem_eq_getD (h := hx') 0, ← List.getElem_eq_getD (h := hy') 0] at e
  exact (List.getElem_inj hn).mp e

theorem facesProper_of {g : Grid} (hw : Arity g) (hp : ∀ c ∈ g.pyr, c.nodes.Nodup) (hr : ∀ c ∈ g.pri, c.nodes.Nodup) :
    FacesProper g := by
  intro k hk
  rcases mem_mixedTriFaces.mp hk with ⟨c, hc, f, hf, rfl⟩ | ⟨c, hc, f, hf, rfl⟩
  · exact faceOf_proper (hp c hc) (pyrTable.face_rows f hf) fun x hx => hw.pyr c hc ▸ pyrTable.face_bound f hf x hx
  · exact faceOf_proper (hr c hc) (priTable.face_rows f hf) fun x hx => hw.pri c hc ▸ priTable.face_bound f hf x hx

theorem arity_of_same {g' g : Grid} (hg : SameFrozenGroups g' g) (hw : Arity g) : Arity g' :=
  ⟨hg.qua ▸ hw.qua, hg.pyr ▸ hw.pyr, hg.pri ▸ hw.pri, hg.hex ▸ hw.hex⟩

theorem facesProper_of_same {g' g : Grid} (hg : SameFrozenGroups g' g) (hp : FacesProper g) : FacesProper g' := by
  intro k hk
  rw [mixedTriFaces_eq_of hg] at hk
  exact hp k hk

theorem subst_length (old new : Nat) (c : Cell) : (Cell.subst old new c).nodes.length = c.nodes.length := by
  exact List.length_map _

theorem triArity_splitGroup {cells : List Cell} {n0 n1 new : Nat} (h : ∀ c ∈ cells, c.nodes.length = 3) :
    ∀ c ∈ splitGroup cells n0 n1 new, c.nodes.length = 3 := by
  intro d hd
  obtain ⟨c, hc, hd⟩ := mem_splitGroup.mp hd
  split_ifs at hd
  · rcases hd with rfl | rfl
    · rw [subst_length]; exact h c hc
    · rw [subst_length]; exact h c hc
  · rw [hd]; exact h c hc

theorem triArity_splitCells {g : Grid} (n0 n1 new : Nat) (h : TriArity g) : TriArity (splitCells g n0 n1 new).2 :=
  ((splitCells_rewrites g n0 n1 new).keeps (fun cs => ∀ c ∈ cs, c.nodes.length = 3) fun _ => triArity_splitGroup).2.1 h

theorem triArity_swapCells {g : Grid} (n0 n1 : Nat) (h : TriArity g) : TriArity (swapCells g n0 n1).2 := by
  fun_cases swapCells g n0 n1
  case case1 n2 n3 _ c0 c1 _ =>
    -- the two triangles on the edge go, two new ones come
    intro c hc
    rcases List.mem_append.mp hc with hc | hc
    · exact h c (List.mem_of_mem_erase (List.mem_of_mem_erase hc))
    · simp only [List.mem_cons, List.not_mem_nil, or_false] at hc
      rcases hc with rfl | rfl <;> rfl
  all_goals exact h

theorem mem_quaSides {g : Grid} {k : List Nat} :
    k ∈ quaSides g ↔ ∃ c ∈ g.qua, ∃ p ∈ e2nQua, k = [c.nd p.1, c.nd p.2] := by
  unfold quaSides
  simp only [List.mem_flatMap, List.mem_map, eq_comm]

theorem splitEdgeMixed_not_on_quaSide {g : Grid} (hw : Arity g) {n0 n1 : Nat} (hne : n0 ≠ n1)
    (hguard : Guards.splitEdgeMixed g n0 n1 = true) : ∀ k ∈ quaSides g, ¬ (n0 ∈ k ∧ n1 ∈ k) := by
  intro k hk ⟨h0, h1⟩
  have hnot := (splitEdgeMixed_true_iff hw n0 n1).mp hguard
  obtain ⟨c, hc, p, hp, rfl⟩ := mem_quaSides.mp hk
  simp only [List.mem_cons, List.not_mem_nil, or_false] at h0 h1
  apply hnot
  refine Or.inr (Or.inr (Or.inr ⟨c, hc, p, hp, ?_⟩))
  rcases h0 with h0 | h0 <;> rcases h1 with h1 | h1
  · exact absurd (h0.trans h1.symm) hne
  · exact Or.inl ⟨h0, h1⟩
  · exact Or.inr ⟨h0, h1⟩
  · exact absurd (h0.trans h1.symm) hne

theorem matched2_iff {g : Grid} {k : List Nat} :
    matched2 g k = true ↔ (∃ c ∈ g.tri, covers c k = true) ∨ (∃ c ∈ g.edg, covers c k = true) := by
  unfold matched2
  simp [List.any_eq_true]

theorem splitCells_matched2 {g : Grid} {n0 n1 new : Nat} {k : List Nat} (hk : ¬ (n0 ∈ k ∧ n1 ∈ k))
    (h : matched2 g k = true) : matched2 (splitCells g n0 n1 new).2 k = true := by
  rw [matched2_iff] at h ⊢
  exact h.imp (cover_splitCells n0 n1 new hk).2.1 (cover_splitCells n0 n1 new hk).2.2

theorem quaSides_eq_of {g' g : Grid} (hg : SameFrozenGroups g' g) : quaSides g' = quaSides g := by
  unfold quaSides
  rw [hg.qua]

end Refine.MixedLemmas
