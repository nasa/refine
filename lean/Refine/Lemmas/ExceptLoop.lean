/-!
  Counted loops whose body may fail (`for (i = 0; i < n; i++) RSS(body(..))`): one invariant rule.  The invariant may
  depend on the number of trips left, so a hypothesis that walks the loop (one clause per trip, as `GacLoopOk`,
  `BufLoopOk`, `MixedSweepsExact` do) is carried along as part of it.
-/
namespace Refine.Lemmas

structure IsLoop {σ ε : Type} (loop : Nat → σ → Except ε σ) (body : σ → Except ε σ) : Prop where
  zero : ∀ s, loop 0 s = .ok s
  succ : ∀ n s, loop (n + 1) s = (body s).bind (loop n)

namespace IsLoop
variable {σ ε : Type} {loop : Nat → σ → Except ε σ} {body : σ → Except ε σ}

theorem succ_ok (hl : IsLoop loop body) (n : Nat) (s out : σ) :
    loop (n + 1) s = .ok out ↔ ∃ s1, body s = .ok s1 ∧ loop n s1 = .ok out := by
  rw [hl.succ]
  cases body s with
  | error e => exact ⟨nofun, fun ⟨_, h1, _⟩ => nomatch h1⟩
  | ok s1 => exact ⟨fun h2 => ⟨s1, rfl, h2⟩, fun ⟨_, h1, h2⟩ => by cases h1; exact h2⟩

theorem rule (hl : IsLoop loop body) (Inv : Nat → σ → Prop)
    (hstep : ∀ n s s1, Inv (n + 1) s → body s = .ok s1 → Inv n s1) :
    ∀ n s out, Inv n s → loop n s = .ok out → Inv 0 out := by
  intro n
  induction n with
  | zero => intro s out hi h; rw [hl.zero] at h; cases h; exact hi
  | succ n ih =>
    intro s out hi h
    obtain ⟨s1, h1, h2⟩ := (hl.succ_ok n s out).mp h
    exact ih s1 out (hstep n s s1 hi h1) h2

theorem succ_last (hl : IsLoop loop body) :
    ∀ n s out, loop (n + 1) s = .ok out → ∃ prev, loop n s = .ok prev ∧ body prev = .ok out := by
  intro n
  induction n with
  | zero =>
    intro s out h
    obtain ⟨s1, h1, h2⟩ := (hl.succ_ok 0 s out).mp h
    rw [hl.zero] at h2
    cases h2
    exact ⟨s, hl.zero s, h1⟩
  | succ n ih =>
    intro s out h
    obtain ⟨s1, h1, h2⟩ := (hl.succ_ok (n + 1) s out).mp h
    obtain ⟨prev, hp, hb⟩ := ih s1 out h2
    exact ⟨prev, (hl.succ_ok n s prev).mpr ⟨s1, h1, hp⟩, hb⟩

end IsLoop
end Refine.Lemmas
