import Refine.Lemmas.GatherMeshb

/-!
  Every geometry association record of the global mesh is written exactly once by `ref_gather_geom`'s owner filter
  (`ref_mpi_rank == ref_node_part(node)`), for every rank count and partition: `Par.perm_owned_all` with the part of a
  record's vertex as owner (for cells the owner is `Par.cellOwner`).
-/
namespace Refine.Lemmas.GatherMeshb
open Refine.Model.Meshb Refine.Model.Par Refine.Model.GatherMeshb Refine.Lemmas.Par

/-- rank `r`'s state agrees with the global list `GG` of association records and the partition `part`: it holds (in any
    order) the records of exactly the vertices it stores, knows the true part of every vertex it stores, and stores the
    vertices it owns -/
structure GeomConsistent (part : Nat → Nat) (GG : List LGeom) (r : Nat) (rk : Rank) : Prop where
  geoms : rk.geoms.Perm (GG.filter fun g => (localOf (nodeView rk) g.node).isSome)
  parts : ∀ nd ∈ rk.nodes, nd.part = part nd.global
  owned : ∀ g ∈ GG, part g.node = r → (localOf (nodeView rk) g.node).isSome = true

instance (part : Nat → Nat) (GG : List LGeom) (r : Nat) (rk : Rank) : Decidable (GeomConsistent part GG r rk) :=
  decidable_of_iff
    (rk.geoms.Perm (GG.filter fun g => (localOf (nodeView rk) g.node).isSome) ∧
      (∀ nd ∈ rk.nodes, nd.part = part nd.global) ∧
      (∀ g ∈ GG, part g.node = r → (localOf (nodeView rk) g.node).isSome = true))
    ⟨fun h => ⟨h.1, h.2.1, h.2.2⟩, fun h => ⟨h.geoms, h.parts, h.owned⟩⟩

/-- `Par.Consistent` (Lemmas/ParCell) is decidable; the examples of Props/C07GatherMeshb and Props/C08Gather evaluate it -/
instance {α : Type} (part : Nat → Nat) (G : List GCell) (r : Nat) (v : RankView α) :
    Decidable (Consistent part G r v) :=
  decidable_of_iff
    (v.cells.Perm (G.filter (storedOn part r)) ∧
      (∀ c ∈ v.cells, ∀ g ∈ c.nodes, (localOf v g).map (·.part) = some (part g)))
    ⟨fun h => ⟨h.1, fun c hc g hg => by
        have := h.2 c hc g hg
        cases hl : localOf v g with
        | none => simp [hl] at this
        | some nd => exact ⟨nd, rfl, by simpa [hl] using this⟩⟩,
     fun h => ⟨h.cells, fun c hc g hg => by
        obtain ⟨nd, h1, h2⟩ := h.parts c hc g hg
        simp [h1, h2]⟩⟩

theorem geomsOwnedOf_perm (part : Nat → Nat) (GG : List LGeom) (t r : Nat) (rk : Rank)
    (hc : GeomConsistent part GG r rk) :
    (geomsOwnedOf t r rk).Perm ((GG.filter fun g => g.type == t).filter fun g => some (part g.node) == some r) := by
  unfold geomsOwnedOf
  refine (hc.geoms.filter _).trans (.of_eq ?_)
  rw [List.filter_filter, List.filter_filter]
  refine List.filter_congr fun g hg => ?_
  have ho := hc.owned g hg
  unfold geomOwned
  cases hl : localOf (nodeView rk) g.node with
  | none => simp_all
  | some nd => simp [hc.parts nd (localOf_some hl).1, (localOf_some hl).2, Bool.and_comm]

theorem ownedGeomsFrom_all (part : Nat → Nat) (GG : List LGeom) (t : Nat) (ranks : List Rank)
    (hc : ∀ r rk, ranks[r]? = some rk → GeomConsistent part GG r rk)
    (hrange : ∀ g ∈ GG, part g.node < ranks.length) :
    (ownedGeomsFrom t 0 ranks).Perm (GG.filter fun g => g.type == t) :=
  perm_owned_all (fun g => some (part g.node)) _ (geomsOwnedOf t) (ownedGeomsFrom t) (fun _ => rfl) (fun _ _ _ => rfl) ranks
    (fun i rk hi => geomsOwnedOf_perm part GG t i rk (hc i rk hi))
    fun g hg => ⟨_, rfl, hrange g (List.mem_filter.1 hg).1⟩

end Refine.Lemmas.GatherMeshb
