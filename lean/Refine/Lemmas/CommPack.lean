import Refine.Lemmas.CommBuffer
import Refine.Lemmas.PrefSum

/-!
  The bucket pack of `ref_mpi_blindsend` (a counting sort by destination).  The packed buffer is `segData np f h`:
  segment `q` is `f q` (stored) followed by `h q` (hole); `PackInv` says where `a_next` points, with its three rules
  `PackInv.init`, `PackInv.step`, `pack_of_inv`.  Result: `pack_init` (bucket `q` holds the items addressed to `q`, in
  order), read back by `pack_slice`.  Who gets what is said for records of any type (`sentTo`, `arrive`); `bucket` is
  `sentTo` at lists of scalars.  Core only.
-/
namespace Refine.Lemmas.Comm
open Refine.Model.Comm

variable {α : Type}

theorem range_split (np p : Nat) (hp : p < np) :
    List.range np = List.range p ++ p :: List.range' (p + 1) (np - p - 1) := by
  have h1 : List.range np = List.range' 0 p ++ List.range' (0 + 1 * p) (np - p) := by
    rw [List.range'_append, List.range_eq_range']
    congr 1; omega
  have h2 : List.range' (0 + 1 * p) (np - p) = p :: List.range' (p + 1) (np - p - 1) := by
    have : np - p = (np - p - 1) + 1 := by omega
    rw [this, List.range'_succ]
    simp
  rw [h1, h2, List.range_eq_range']

def segData (np : Nat) (f h : Nat → List α) : List α := (List.range np).flatMap fun q => f q ++ h q

/-- Mathlib's `Function.update` (not in the imports of these core-only files) -/
def upd {β : Type} (f : Nat → β) (p : Nat) (v : β) : Nat → β := fun q => if q = p then v else f q

theorem segData_split (np p : Nat) (hp : p < np) (f h : Nat → List α) :
    segData np f h = (List.range p).flatMap (fun q => f q ++ h q) ++ (f p ++ h p)
      ++ (List.range' (p + 1) (np - p - 1)).flatMap (fun q => f q ++ h q) := by
  unfold segData
  rw [range_split np p hp, List.flatMap_append, List.flatMap_cons]
  simp only [List.append_assoc]

theorem flatMap_range_update {γ : Type} (np p : Nat) (hp : p < np) (g g' : Nat → List γ)
    (h : ∀ q, q ≠ p → g' q = g q) :
    (List.range np).flatMap g'
      = (List.range p).flatMap g ++ g' p ++ (List.range' (p + 1) (np - p - 1)).flatMap g := by
  rw [range_split np p hp, List.flatMap_append, List.flatMap_cons, ← List.append_assoc]
  congr 1
  · congr 1
    exact ListFacts.flatMap_congr fun q hq => h q (by have := List.mem_range.mp hq; omega)
  · exact ListFacts.flatMap_congr fun q hq => h q (by have := (List.mem_range'_1.mp hq).1; omega)

theorem segData_write (np p ldim : Nat) (hp : p < np) (f h : Nat → List α) (item : List α)
    (hit : item.length = ldim) (hh : ldim ≤ (h p).length) (off : Nat)
    (hoff : off = ((List.range p).flatMap (fun q => f q ++ h q)).length + (f p).length) :
    writeAt (segData np f h) off item
      = segData np (upd f p (f p ++ item)) (upd h p ((h p).drop ldim)) := by
  -- the item lands at the start of the hole of segment `p`
  have e : ∀ A B : List α, writeAt (A ++ (f p ++ h p) ++ B) (A.length + (f p).length) item
      = A ++ (f p ++ item ++ (h p).drop ldim) ++ B := by
    intro A B
    rw [List.append_assoc, List.append_assoc, ← List.append_assoc A,
      writeAt_append (A ++ f p) (h p ++ B) item _ (by rw [List.length_append])
        (by rw [List.length_append]; omega),
      hit, List.drop_append_of_le_length hh]
    simp only [List.append_assoc]
  unfold segData
  rw [flatMap_range_update np p hp (fun q => f q ++ h q) (fun q => f q ++ h q) (fun _ _ => rfl),
    flatMap_range_update np p hp (fun q => f q ++ h q)
      (fun q => upd f p (f p ++ item) q ++ upd h p ((h p).drop ldim) q) (fun q hq => by simp [upd, hq]),
    hoff, e]
  simp only [upd, if_true]

theorem prefLen_congr {β : Type} (k : Nat) (g g' : Nat → List β) (h : ∀ q, q < k → (g q).length = (g' q).length) :
    ((List.range k).flatMap g).length = ((List.range k).flatMap g').length := by
  rw [List.length_flatMap, List.length_flatMap]
  congr 1
  apply List.map_congr_left
  intro q hq
  exact h q (List.mem_range.mp hq)

theorem incrAt_getD (a : List Int) (p q : Nat) (hp : p < a.length) :
    (incrAt a p).getD q 0 = if q = p then a.getD p 0 + 1 else a.getD q 0 := by
  unfold incrAt
  rw [List.getD_eq_getElem?_getD, List.getElem?_set]
  by_cases h : p = q
  · subst h; simp [hp]
  · have : ¬ q = p := fun e => h e.symm
    simp [h, this, List.getD_eq_getElem?_getD]

theorem length_incrAt (a : List Int) (p : Nat) : (incrAt a p).length = a.length := by
  simp [incrAt]

/-- the records of one sender addressed to `r`, in the sender's order -/
def sentTo {γ : Type} (r : Nat) (l : List (Nat × γ)) : List γ := (l.filter fun x => x.1 == r).map (·.2)

/-- everything addressed to `r`: by source rank, then in the source's order -/
def arrive {γ : Type} (r : Nat) (w : World (List (Nat × γ))) : List γ := w.flatMap (sentTo r)

section SentTo
variable {γ δ : Type}

theorem sentTo_cons (r : Nat) (x : Nat × γ) (l : List (Nat × γ)) :
    sentTo r (x :: l) = if x.1 = r then x.2 :: sentTo r l else sentTo r l := by
  by_cases h : x.1 = r <;> simp [sentTo, h]

theorem sentTo_append (r : Nat) (l1 l2 : List (Nat × γ)) : sentTo r (l1 ++ l2) = sentTo r l1 ++ sentTo r l2 := by
  simp [sentTo]

theorem sentTo_map (f : γ → δ) (r : Nat) (l : List (Nat × γ)) :
    sentTo r (l.map fun x => (x.1, f x.2)) = (sentTo r l).map f := by
  simp only [sentTo, List.filter_map, List.map_map]
  rfl

theorem mem_sentTo {r : Nat} {l : List (Nat × γ)} {x : γ} : x ∈ sentTo r l ↔ (r, x) ∈ l := by
  simp only [sentTo, List.mem_map, List.mem_filter, beq_iff_eq]
  exact ⟨by rintro ⟨p, ⟨hp, rfl⟩, rfl⟩; exact hp, fun h => ⟨(r, x), ⟨h, rfl⟩, rfl⟩⟩

theorem sentTo_of_all {r : Nat} {l : List (Nat × γ)} (h : ∀ x ∈ l, x.1 = r) : sentTo r l = l.map (·.2) := by
  rw [sentTo, List.filter_eq_self.mpr fun x hx => by simp [h x hx]]

theorem arrive_eq_sentTo_flatten (r : Nat) (w : World (List (Nat × γ))) : arrive r w = sentTo r w.flatten := by
  induction w with
  | nil => rfl
  | cons l w ih => rw [arrive, List.flatMap_cons, List.flatten_cons, sentTo_append, ← ih]; rfl

theorem arrive_length_le (r : Nat) (w : World (List (Nat × γ))) : (arrive r w).length ≤ w.flatten.length := by
  rw [arrive_eq_sentTo_flatten, sentTo, List.length_map]
  exact List.length_filter_le _ _

/-- every record goes to exactly one rank -/
theorem sentTo_perm (np : Nat) (l : List (Nat × γ)) (hd : ∀ x ∈ l, x.1 < np) :
    ((List.range np).flatMap fun q => sentTo q l).Perm (l.map (·.2)) := by
  have h := (ListFacts.flatMap_filter_range_perm_of_lt (owner := fun x : Nat × γ => x.1) hd).map (·.2)
  rwa [List.map_flatMap] at h

theorem sentTo_total (np : Nat) (l : List (Nat × γ)) (hd : ∀ x ∈ l, x.1 < np) :
    prefSum (fun q => (sentTo q l).length) np = l.length := by
  have h := (sentTo_perm np l hd).length_eq
  rwa [List.length_flatMap, List.length_map] at h

end SentTo

def bucket (q : Nat) (pairs : List (Nat × List α)) : List (List α) :=
  (pairs.filter fun x => x.1 == q).map (·.2)

theorem bucket_nil (q : Nat) : bucket q ([] : List (Nat × List α)) = [] := rfl

theorem bucket_cons_self (p : Nat) (item : List α) (rest : List (Nat × List α)) :
    bucket p ((p, item) :: rest) = item :: bucket p rest :=
  (sentTo_cons p (p, item) rest).trans (if_pos rfl)

theorem bucket_cons_ne (p q : Nat) (hne : q ≠ p) (item : List α) (rest : List (Nat × List α)) :
    bucket q ((p, item) :: rest) = bucket q rest :=
  (sentTo_cons q (p, item) rest).trans (if_neg hne.symm)

theorem bucket_of_all {q : Nat} {pairs : List (Nat × List α)} (h : ∀ x ∈ pairs, x.1 = q) :
    bucket q pairs = pairs.map (·.2) :=
  sentTo_of_all h

/-- the state of the bucket pack loop with the items `todo` still to store: segment `q` of `a_data` is `f q ++ h q`,
    `f q` the items already stored for destination `q`, `h q` the hole left for those in `todo`; `a_next[q]` (in items)
    points at the start of that hole -/
structure PackInv (ldim np : Nat) (f h : Nat → List α) (aNext : List Int) (todo : List (Nat × List α)) : Prop where
  len : aNext.length = np
  nonneg : ∀ p, p < np → 0 ≤ aNext.getD p 0
  next : ∀ p, p < np →
    ldim * (aNext.getD p 0).toNat = ((List.range p).flatMap (fun q => f q ++ h q)).length + (f p).length
  hole : ∀ p, p < np → (h p).length = ldim * (bucket p todo).length

theorem PackInv.le_hole {ldim np : Nat} {f h : Nat → List α} {aNext : List Int} {p : Nat} {x : List α}
    {rest : List (Nat × List α)} (inv : PackInv ldim np f h aNext ((p, x) :: rest)) (hp : p < np) :
    ldim ≤ (h p).length := by
  have := inv.hole p hp
  rw [bucket_cons_self, List.length_cons, Nat.mul_succ] at this
  omega

/-- one step of the loop: a block of `ldim` elements moves from the front of the hole of segment `p` to the end of
    its stored part and `a_next[p]` is incremented (only the destination of the head of `todo` matters, not its
    payload) -/
theorem PackInv.step {ldim np : Nat} {f h : Nat → List α} {aNext : List Int} {p : Nat} {x : List α}
    {rest : List (Nat × List α)} (blk : List α) (inv : PackInv ldim np f h aNext ((p, x) :: rest)) (hp : p < np)
    (hblk : blk.length = ldim) :
    PackInv ldim np (upd f p (f p ++ blk)) (upd h p ((h p).drop ldim)) (incrAt aNext p) rest := by
  have hh := inv.le_hole hp
  have hseg : ∀ q, (upd f p (f p ++ blk) q ++ upd h p ((h p).drop ldim) q).length = (f q ++ h q).length := by
    intro q
    by_cases hq : q = p
    · subst hq
      simp only [upd, if_true, List.length_append, List.length_drop]
      omega
    · simp [upd, hq]
  refine ⟨by rw [length_incrAt]; exact inv.len, ?_, ?_, ?_⟩
  · intro q hq
    rw [incrAt_getD aNext p q (by rw [inv.len]; exact hp)]
    have h1 := inv.nonneg p hp
    have h2 := inv.nonneg q hq
    split <;> omega
  · intro q hq
    rw [incrAt_getD aNext p q (by rw [inv.len]; exact hp)]
    rw [prefLen_congr q _ (fun q => f q ++ h q) (fun q' _ => hseg q')]
    by_cases hqp : q = p
    · subst hqp
      have h0 := inv.nonneg q hq
      have hn := inv.next q hq
      have e : (aNext.getD q 0 + 1).toNat = (aNext.getD q 0).toNat + 1 := by omega
      simp only [if_true, upd, e, Nat.mul_succ, List.length_append]
      omega
    · have hn := inv.next q hq
      simp only [hqp, if_false, upd]
      exact hn
  · intro q hq
    by_cases hqp : q = p
    · subst hqp
      have := inv.hole q hq
      rw [bucket_cons_self, List.length_cons, Nat.mul_succ] at this
      simp only [upd, if_true, List.length_drop]
      omega
    · have := inv.hole q hq
      rw [bucket_cons_ne p q hqp] at this
      simp only [upd, hqp, if_false]
      exact this

theorem pack_of_inv (ldim np : Nat) (pairs : List (Nat × List α)) (hd : ∀ x ∈ pairs, x.1 < np)
    (hi : ∀ x ∈ pairs, x.2.length = ldim) (f h : Nat → List α) (aNext : List Int)
    (inv : PackInv ldim np f h aNext pairs) :
    pack ldim (pairs.map fun x => (x.1 : Int)) (pairs.map (·.2)).flatten (segData np f h) aNext
      = (List.range np).flatMap fun q => f q ++ (bucket q pairs).flatten := by
  induction pairs generalizing f h aNext with
  | nil =>
    simp only [List.map_nil, pack, segData]
    apply ListFacts.flatMap_congr
    intro q hq
    have := inv.hole q (List.mem_range.mp hq)
    rw [bucket_nil, List.length_nil, Nat.mul_zero] at this
    simp [List.eq_nil_of_length_eq_zero this, bucket_nil]
  | cons x rest ih =>
    obtain ⟨p, item⟩ := x
    have hp : p < np := hd (p, item) List.mem_cons_self
    have hit : item.length = ldim := hi (p, item) List.mem_cons_self
    have hd' : ∀ x ∈ rest, x.1 < np := fun x hx => hd x (List.mem_cons_of_mem _ hx)
    have hi' : ∀ x ∈ rest, x.2.length = ldim := fun x hx => hi x (List.mem_cons_of_mem _ hx)
    simp only [List.map_cons, List.flatten_cons, pack, Int.toNat_natCast]
    rw [List.take_left' hit, List.drop_left' hit,
      segData_write np p ldim hp f h item hit (inv.le_hole hp) _ (inv.next p hp),
      ih hd' hi' _ _ _ (inv.step item hp hit)]
    apply ListFacts.flatMap_congr
    intro q hq
    by_cases hqp : q = p
    · subst hqp
      simp [upd, bucket_cons_self]
    · simp [upd, hqp, bucket_cons_ne p q hqp]

theorem chunks_flatMap (cs : Nat → Nat) (init : List α) (k : Nat) :
    (List.range k).flatMap (fun q => slice init (prefSum cs q) (cs q)) = init.take (prefSum cs k) := by
  induction k with
  | zero => simp [prefSum]
  | succ k ih =>
    rw [List.range_succ, List.flatMap_append, List.flatMap_singleton, ih, prefSum_succ, List.take_add]
    rfl

theorem foldl_incrAt_length (procs : List Int) (a : List Int) :
    (procs.foldl (fun a p => incrAt a p.toNat) a).length = a.length := by
  induction procs generalizing a with
  | nil => rfl
  | cons p ps ih => simp only [List.foldl_cons, ih, length_incrAt]

theorem foldl_incrAt_getD (pairs : List (Nat × List α)) (a : List Int) (hd : ∀ x ∈ pairs, x.1 < a.length)
    (q : Nat) :
    ((pairs.map fun x => (x.1 : Int)).foldl (fun a p => incrAt a p.toNat) a).getD q 0
      = a.getD q 0 + ((bucket q pairs).length : Int) := by
  induction pairs generalizing a with
  | nil => simp [bucket_nil]
  | cons x rest ih =>
    obtain ⟨p, item⟩ := x
    have hp : p < a.length := hd (p, item) List.mem_cons_self
    simp only [List.map_cons, List.foldl_cons, Int.toNat_natCast]
    rw [ih (incrAt a p) (fun x hx => by rw [length_incrAt]; exact hd x (List.mem_cons_of_mem _ hx)),
      incrAt_getD a p q hp]
    by_cases hq : q = p
    · subst hq
      simp only [if_true, bucket_cons_self, List.length_cons]
      push_cast; omega
    · simp only [hq, if_false, bucket_cons_ne p q hq]

theorem countDest_eq (np : Nat) (pairs : List (Nat × List α)) (hd : ∀ x ∈ pairs, x.1 < np) :
    countDest np (pairs.map fun x => (x.1 : Int))
      = (List.range np).map fun q => ((bucket q pairs).length : Int) := by
  apply List.ext_getElem
  · simp [countDest, foldl_incrAt_length]
  · intro q h1 h2
    have hq : q < np := by simpa using h2
    have := foldl_incrAt_getD pairs (List.replicate np 0) (by simpa using hd) q
    simp only [countDest] at h1 ⊢
    rw [List.getD_eq_getElem?_getD, List.getElem?_eq_getElem h1] at this
    simp only [Option.getD_some] at this
    rw [this]
    simp [List.getD_eq_getElem?_getD, hq]

/-- `a_next[p]` as `ref_mpi_blindsend` initialises it: the number of items addressed to ranks below `p` -/
theorem aNext_getD (np : Nat) (pairs : List (Nat × List α)) (hd : ∀ x ∈ pairs, x.1 < np) (p : Nat) (hp : p < np) :
    (displs (countDest np (pairs.map fun x => (x.1 : Int)))).getD p 0
      = (prefSum (fun q => (bucket q pairs).length) p : Int) := by
  rw [countDest_eq np pairs hd]
  unfold displs
  rw [displsFrom_getD 0 _ p (by simpa using hp), ← List.map_take, List.take_range, Nat.min_eq_left (by omega),
    sum_range_cast (fun q => (bucket q pairs).length) p]
  omega

theorem PackInv.init (ldim np : Nat) (pairs : List (Nat × List α)) (hd : ∀ x ∈ pairs, x.1 < np)
    (h : Nat → List α) (hh : ∀ p, p < np → (h p).length = ldim * (bucket p pairs).length) :
    PackInv ldim np (fun _ => []) h (displs (countDest np (pairs.map fun x => (x.1 : Int)))) pairs := by
  refine ⟨?_, ?_, ?_, hh⟩
  · simp [displs, length_displsFrom, countDest, foldl_incrAt_length]
  · intro p hp; rw [aNext_getD np pairs hd p hp]; omega
  · intro p hp
    rw [aNext_getD np pairs hd p hp, Int.toNat_natCast, ← prefSum_mul, List.length_nil, Nat.add_zero,
      List.length_flatMap]
    unfold prefSum
    congr 1
    apply List.map_congr_left
    intro q hq
    rw [List.nil_append, hh q (by have := List.mem_range.mp hq; omega)]

/-- the bucket pack of `ref_mpi_blindsend`, from the `a_next` prefix sums and ANY initial contents of `a_data`:
    bucket `q` holds the items addressed to `q` in their original order; every slot is overwritten -/
theorem pack_init (ldim np : Nat) (pairs : List (Nat × List α)) (hd : ∀ x ∈ pairs, x.1 < np)
    (hi : ∀ x ∈ pairs, x.2.length = ldim) (init : List α)
    (hinit : init.length = ldim * prefSum (fun q => (bucket q pairs).length) np) :
    pack ldim (pairs.map fun x => (x.1 : Int)) (pairs.map (·.2)).flatten init
        (displs (countDest np (pairs.map fun x => (x.1 : Int))))
      = (List.range np).flatMap fun q => (bucket q pairs).flatten := by
  -- the initial contents are cut into the holes of the segments
  let cs : Nat → Nat := fun q => ldim * (bucket q pairs).length
  let h : Nat → List α := fun q => slice init (prefSum cs q) (cs q)
  have hlen : init.length = prefSum cs np := by rw [hinit, prefSum_mul]
  have hseg : segData np (fun _ => []) h = init := by
    simp only [segData, List.nil_append]
    rw [chunks_flatMap cs init np, ← hlen, List.take_length]
  have := pack_of_inv ldim np pairs hd hi (fun _ => []) h _ (PackInv.init ldim np pairs hd h (by
    intro p hp
    show (slice init (prefSum cs p) (cs p)).length = cs p
    unfold slice
    rw [List.length_take, List.length_drop]
    have h1 := prefSum_step_le cs (show p < np from hp)
    omega))
  rw [hseg] at this
  simpa using this

theorem bucket_total (np : Nat) (pairs : List (Nat × List α)) (hd : ∀ x ∈ pairs, x.1 < np) :
    prefSum (fun q => (bucket q pairs).length) np = pairs.length :=
  sentTo_total np pairs hd

theorem mem_bucket (q : Nat) (pairs : List (Nat × List α)) (it : List α) (h : it ∈ bucket q pairs) :
    ∃ x ∈ pairs, x.2 = it :=
  ⟨_, mem_sentTo.1 h, rfl⟩

/-- the packed buffer read back: the items addressed to `p` lie at `[ldim * a_next[p], + ldim * a_size[p])`
    (`a_next`, `a_size` as they are before the pack loop) -/
theorem pack_slice (ldim np : Nat) (pairs : List (Nat × List α)) (hd : ∀ x ∈ pairs, x.1 < np)
    (hi : ∀ x ∈ pairs, x.2.length = ldim) (init : List α) (hinit : init.length = ldim * pairs.length)
    (p : Nat) (hp : p < np) :
    slice (pack ldim (pairs.map fun x => (x.1 : Int)) (pairs.map (·.2)).flatten init
        (displs (countDest np (pairs.map fun x => (x.1 : Int)))))
      (ldim * ((displs (countDest np (pairs.map fun x => (x.1 : Int)))).getD p 0).toNat)
      (ldim * ((countDest np (pairs.map fun x => (x.1 : Int))).getD p 0).toNat) = (bucket p pairs).flatten := by
  let c : Nat → Nat := fun q => (bucket q pairs).length
  let L : List (List α) := (List.range np).map fun q => (bucket q pairs).flatten
  have hL : lensI L = (List.range np).map fun q => ((ldim * c q : Nat) : Int) := by
    simp only [L, lensI, List.map_map]
    refine List.map_congr_left fun q _ => ?_
    simp only [Function.comp]
    rw [ListFacts.length_flatten_uniform (n := ldim) fun it hit => by
      obtain ⟨x, hx, rfl⟩ := mem_bucket q _ it hit
      exact hi x hx]
  have hoff : (displs (lensI L)).getD p 0 = ((ldim * prefSum c p : Nat) : Int) := by
    unfold displs
    rw [displsFrom_getD 0 _ p (by simpa [L, lensI] using hp), hL, ← List.map_take, List.take_range,
      Nat.min_eq_left (by omega), sum_range_cast (fun q => ldim * c q) p, prefSum_mul, Int.zero_add]
  have hcnt : (lensI L).getD p 0 = ((ldim * c p : Nat) : Int) := by
    rw [hL, ListFacts.getD_map_range hp]
  -- the packed buffer is `L.flatten`; offset and count are brought into the form `displs (lensI L)`, `lensI L` at `p`
  -- (through `Nat` and back), which is where `slice_flatten` reads block `p`
  rw [pack_init ldim np pairs hd hi init (by rw [bucket_total np pairs hd, hinit]),
    show ((List.range np).flatMap fun q => (bucket q pairs).flatten) = L.flatten from List.flatMap_def ..,
    aNext_getD np pairs hd p hp, countDest_eq np pairs hd, ListFacts.getD_map_range hp, Int.toNat_natCast, Int.toNat_natCast,
    ← Int.toNat_natCast (ldim * prefSum c p), ← Int.toNat_natCast (ldim * (bucket p pairs).length), ← hoff, ← hcnt,
    slice_flatten L p, ListFacts.getD_map_range hp]

theorem bucket_flatMap (r : Nat) (w : List (List (Nat × List α))) : w.flatMap (bucket r) = bucket r w.flatten :=
  arrive_eq_sentTo_flatten r w

end Refine.Lemmas.Comm
