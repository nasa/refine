import Refine.Lemmas.UgridCells

/-! C20 for the UGRID readers: what a file accepted by the serial reader, and by the parallel reader, guarantees -/
namespace Refine.Lemmas.Ugrid
open Refine.Gen Refine.Model.Endian Refine.Model.Ugrid
open Refine.Model.Meshb (Bytes Status Vertex P Cfg takeN encLE decLE toSigned ofSigned int32 wrap32 adjAdd adjAddAll)
open Refine.Lemmas.Formats (take_map_append of_any_false setIds_take setIds_length)

/-- what the serial reader has tested of the node part of a stored cell: `ref_adj_add` refuses a negative node, and
    with the index check of 6682479 no node is `nnode` or more -/
def Checked (cfg : Cfg) (nnode : Int) (l : List Int) : Prop :=
  (∀ x ∈ l, 0 ≤ x) ∧ (cfg.checkIndex = true → ∀ x ∈ l, x < nnode)

theorem cellOfRow_checked {cfg : Cfg} {k : Kind} {nnode : Int} {raw c : List Int} (hl : raw.length = k.nodePer)
    (h : cellOfRow cfg k nnode raw = .ok c) : k.nodePer ≤ c.length ∧ Checked cfg nnode (c.take k.nodePer) := by
  unfold cellOfRow at h
  replace h := (Refine.Lemmas.of_ite_error_eq_ok h).2
  obtain ⟨hchk, h⟩ := Refine.Lemmas.of_ite_error_eq_ok h
  split at h
  · cases h
  rename_i ha
  cases h
  rw [take_map_append _ _ hl]
  exact ⟨by simp [hl], fun x hx => (Refine.Lemmas.Codec.adjAddAll_eq_ok_iff.1 ha x hx).1,
    fun hci => List.forall_mem_map.2 fun y hy => by
      have := of_any_false (fun hc => hchk ⟨hci, hc⟩) y hy; omega⟩

theorem cellsOfRows_checked {cfg : Cfg} {k : Kind} {nnode : Int} {rs cs : List (List Int)}
    (hr : ∀ r ∈ rs, r.length = k.nodePer) (h : cellsOfRows cfg k nnode rs = .ok cs) :
    cs.length = rs.length ∧ ∀ c ∈ cs, k.nodePer ≤ c.length ∧ Checked cfg nnode (c.take k.nodePer) := by
  revert h
  fun_induction cellsOfRows cfg k nnode rs generalizing cs <;> intro h <;> cases h
  · simp
  · rename_i h1 _ _ ih
    obtain ⟨hr1, hr2⟩ := List.forall_mem_cons.1 hr
    obtain ⟨hl, hm⟩ := ih hr2 ‹_›
    exact ⟨congrArg (· + 1) hl, List.forall_mem_cons.2 ⟨cellOfRow_checked hr1 h1, hm⟩⟩

theorem rdConn_ok {cfg : Cfg} {fl : Flavor} {k : Kind} {nnode : Int} {maxChunk : Nat} (hm : 1 ≤ maxChunk)
    {fuel rem : Nat} (hf : rem ≤ fuel) {s r : Bytes} {cs : List (List Int)}
    (h : rdConn cfg fl k nnode maxChunk fuel rem s = .ok (cs, r)) :
    cs.length = rem ∧ s.length = rem * (k.nodePer * fl.ibytes) + r.length ∧
      ∀ c ∈ cs, k.nodePer ≤ c.length ∧ Checked cfg nnode (c.take k.nodePer) := by
  revert h
  fun_induction rdConn cfg fl k nnode maxChunk fuel rem s generalizing cs r <;> intro h <;> cases h
  · simp; omega
  · simp
  · rename_i fuel rem s _ chunk raw s1 h1 cs1 h2 cs2 s2 h3 ih
    obtain ⟨hrl, hrs⟩ := rdInts_len h1
    obtain ⟨hcl, hcm⟩ := cellsOfRows_checked (rows_each _ _ _ hrl) h2
    obtain ⟨hl2, hs2, hm2⟩ := ih (by omega) h3
    rw [rows_length] at hcl
    refine ⟨by simp [hcl, hl2]; omega, ?_, fun c hc => (List.mem_append.1 hc).elim (hcm c) (hm2 c)⟩
    rw [hrs, hs2]
    have : rem = chunk + (rem - chunk) := by omega
    conv_rhs => rw [this]
    ring

/-- everything an accepted file gives, in one statement: sizes and node-index ranges.  The bytes: 7 header integers, 24
    (three doubles) per vertex, `node_per` integers per cell and one more (the tag, in the two tag blocks behind the
    quad connectivity) per triangle and quad -/
theorem decode_ok {cfg : Cfg} {maxChunk : Nat} (hm : 1 ≤ maxChunk) {fl : Flavor} {bs : Bytes} {m : UMesh}
    (h : decodeUgridChunked cfg maxChunk fl bs = .ok m) :
    (7 * fl.ibytes + m.nodes.length * 24 +
        (3 * m.tri.length + 4 * m.qua.length + m.tri.length + m.qua.length + 4 * m.tet.length + 5 * m.pyr.length +
          6 * m.pri.length + 8 * m.hex.length) * fl.ibytes ≤ bs.length) ∧
    (∀ k : Kind, ∀ c ∈ m.get k, ∀ x ∈ c.take k.nodePer, 0 ≤ x) ∧
    (cfg.checkIndex = true → ∀ k : Kind, ∀ c ∈ m.get k, ∀ x ∈ c.take k.nodePer, x < (m.nodes.length : Int)) := by
  revert h
  fun_cases decodeUgridChunked cfg maxChunk fl bs <;> intro h <;> cases h
  -- the success branch of the reader: its ten reads in file order, three names each (what was read, the bytes left, the
  -- accepted read), and the guard on `nnode` after the header
  next hdr s0 h0 _ _ hnn nodes s1 hv _ _ tri s2 h1 qua s3 h2 ttag s4 h3 qtag s5 h4 tet s6 h5 pyr s7 h6 pri s8 h7 hex s9 h8 =>
  obtain ⟨_, l0⟩ := rdInts_len h0
  obtain ⟨nl, lv⟩ := rdVerts_len hv
  obtain ⟨c1, l1, n1⟩ := rdConn_ok hm (Nat.le_refl _) h1
  obtain ⟨c2, l2, n2⟩ := rdConn_ok hm (Nat.le_refl _) h2
  obtain ⟨t3, l3⟩ := rdInts_len h3
  obtain ⟨t4, l4⟩ := rdInts_len h4
  obtain ⟨c5, l5, n5⟩ := rdConn_ok hm (Nat.le_refl _) h5
  obtain ⟨c6, l6, n6⟩ := rdConn_ok hm (Nat.le_refl _) h6
  obtain ⟨c7, l7, n7⟩ := rdConn_ok hm (Nat.le_refl _) h7
  obtain ⟨c8, l8, n8⟩ := rdConn_ok hm (Nat.le_refl _) h8
  have hnodes : (nodes.length : Int) = hdr.getD 0 0 := by
    rw [nl]; exact Int.toNat_of_nonneg (by omega)
  simp only [nodePer_tri, nodePer_qua, nodePer_tet, nodePer_pyr, nodePer_pri, nodePer_hex] at l1 l2 l5 l6 l7 l8
  -- writing the tags keeps what was tested of the nodes (`setIds_take`)
  have hall : ∀ k : Kind, ∀ c ∈ UMesh.get ⟨nodes, setTags .tri tri ttag, setTags .qua qua qtag, tet, pyr, pri, hex⟩ k,
      Checked cfg (nodes.length : Int) (c.take k.nodePer) := by
    rw [hnodes]
    intro k c hc
    cases k <;> simp only [UMesh.get, setTags_eq] at hc
    · exact (setIds_take n1 c hc).2
    · exact (setIds_take n2 c hc).2
    · exact (n5 c hc).2
    · exact (n6 c hc).2
    · exact (n7 c hc).2
    · exact (n8 c hc).2
  refine ⟨?_, fun k c hc => (hall k c hc).1, fun hci k c hc => (hall k c hc).2 hci⟩
  simp only [setTags_eq, setIds_length]
  refine Nat.le.intro (k := s9.length) ?_
  rw [l0, lv, l1, l2, l3, l4, l5, l6, l7, l8, c1, c2, c5, c6, c7, c8, nl]
  ring

theorem indicesInRange_iff (m : UMesh) :
    indicesInRange m = true ↔ ∀ k : Kind, ∀ c ∈ m.get k, ∀ x ∈ c.take k.nodePer, 0 ≤ x ∧ x < (m.nodes.length : Int) := by
  unfold indicesInRange
  simp only [List.all_eq_true, decide_eq_true_eq]
  exact ⟨fun h k => h k (mem_all k), fun h k _ => h k⟩

/-- the chunk size ref_part_bin_ugrid_cell works with for a section of `ncell` cells: the one given, or the C's own
    `MAX(1000000, (REF_INT)(ncell / nproc))` -/
def sectionChunk (co : Option Nat) (ncell : Int) (np : Nat) : Nat :=
  match co with
  | some c => c
  | none => (UgridOffsets.part_chunk wrap32 ncell np).toNat

theorem partSection_sectionChunk (cfg : Cfg) (fl : Flavor) (bs : Bytes) (np : Nat) (co : Option Nat) (hdr : List Int) (k : Kind) :
    partSection cfg fl bs np co hdr k =
      partSection cfg fl bs np (some (sectionChunk co (hdr.getD k.hdrIndex 0) np)) hdr k := by
  cases co <;> rfl

/-- `chunk = MAX(1000000, (REF_INT)(ncell / nproc))` for a count an `int` holds: the cast changes nothing -/
theorem part_chunk_eq {ncell : Int} (np : Nat) (h0 : 0 ≤ ncell) (h1 : ncell < 2 ^ 31) :
    UgridOffsets.part_chunk wrap32 ncell np = max 1000000 (ncell / np) := by
  unfold UgridOffsets.part_chunk
  have hq0 : 0 ≤ ncell / (np : Int) := Int.ediv_nonneg h0 (Int.natCast_nonneg _)
  have hq1 : ncell / (np : Int) ≤ ncell := Int.ediv_le_self _ h0
  rw [Int.tdiv_eq_ediv_of_nonneg h0,
    Refine.Lemmas.Codec.wrap32_of_int32 (by unfold Refine.Model.Meshb.int32; constructor <;> omega)]

/-- a count that passed the count test against a file below 2^33 bytes (integers of 4 bytes or more) is below 2^31, and
    `size_per * chunk` of ref_part_bin_ugrid_cell stays in `int` -/
theorem sizePer_mul_chunk_lt {len ib n : Int} (k : Kind) (hlen : len < 2 ^ 33) (hib : 4 ≤ ib) (h0 : 0 ≤ n)
    (hfit : n * (k.sizePer * ib) ≤ len) (np : Nat) :
    n < 2 ^ 31 ∧ (k.sizePer : Int) * UgridOffsets.part_chunk wrap32 n np < 2 ^ 31 := by
  have hs1 : (1 : Int) ≤ k.sizePer := by exact_mod_cast sizePer_pos k
  have hs9 : (k.sizePer : Int) ≤ 9 := by exact_mod_cast sizePer_le k
  have h4 : (k.sizePer : Int) * n * 4 ≤ len :=
    calc (k.sizePer : Int) * n * 4 ≤ k.sizePer * n * ib := Int.mul_le_mul_of_nonneg_left hib (Int.mul_nonneg (by omega) h0)
      _ = n * (k.sizePer * ib) := by ring
      _ ≤ len := hfit
  have hn : n ≤ k.sizePer * n := by have := Int.mul_le_mul_of_nonneg_right hs1 h0; rwa [Int.one_mul] at this
  have hq : n / (np : Int) ≤ n := Int.ediv_le_self _ h0
  rw [part_chunk_eq np h0 (by omega)]
  refine ⟨by omega, ?_⟩
  rcases le_total (n / (np : Int)) 1000000 with h | h
  · rw [max_eq_left h]; omega
  · have := Int.mul_le_mul_of_nonneg_left hq (by omega : (0 : Int) ≤ k.sizePer)
    rw [max_eq_right h]; omega

theorem dedup_subset (k : Kind) (cs acc : List (List Int)) : ∀ c ∈ dedupCells k cs acc, c ∈ cs ∨ c ∈ acc := by
  fun_induction dedupCells k cs acc <;> intro c hc
  · exact .inr (List.mem_reverse.1 hc)
  · rename_i ih; exact (ih c hc).imp_left (List.mem_cons_of_mem _)
  · rename_i ih
    rcases ih c hc with h | h
    · exact .inl (List.mem_cons_of_mem _ h)
    · exact (List.mem_cons.1 h).elim (fun e => .inl (e ▸ List.mem_cons_self)) .inr

theorem partCellLoop_checked {cfg : Cfg} (hci : cfg.checkIndex = true) {fl : Flavor} {bs : Bytes} {k : Kind} {nnode co fo : Int}
    {chunk fuel ncell r : Nat} {cs : List (List Int)}
    (h : partCellLoop cfg fl bs k nnode co fo chunk fuel ncell r = .ok cs) : cs.all (partIndexOk k nnode) = true := by
  revert h
  fun_induction partCellLoop cfg fl bs k nnode co fo chunk fuel ncell r generalizing cs <;> intro h <;> cases h
  · rfl
  · rfl
  · rename_i X _ hbad _ _ ih
    have hX : X.all (partIndexOk k nnode) = true := by
      cases hx : X.all (partIndexOk k nnode) with
      | true => rfl
      | false => exact absurd ⟨hci, hx⟩ hbad
    rw [List.all_append, hX, ih ‹_›]; rfl

theorem partSection_ok {cfg : Cfg} {fl : Flavor} {bs : Bytes} {np : Nat} {co : Option Nat} {hdr : List Int} {k : Kind}
    {cs : List (List Int)} (h : partSection cfg fl bs np co hdr k = .ok cs) :
    ∀ c ∈ cs, partIndexOk k (hdr.getD 0 0) c = true := by
  revert h
  fun_cases partSection cfg fl bs np co hdr k <;> intro h <;> cases h
  · simp
  · rename_i hg
    intro c hc
    exact (dedup_subset k _ [] c hc).elim (List.all_eq_true.1 hg.1 c) (by simp)

theorem partSections_ok {cfg : Cfg} {fl : Flavor} {bs : Bytes} {np : Nat} {co : Option Nat} {hdr : List Int}
    {ks : List Kind} {css : List (List (List Int))} (h : partSections cfg fl bs np co hdr ks = .ok css) :
    css.length = ks.length ∧ ∀ p ∈ ks.zip css, ∀ c ∈ p.2, partIndexOk p.1 (hdr.getD 0 0) c = true := by
  revert h
  fun_induction partSections cfg fl bs np co hdr ks generalizing css <;> intro h <;> cases h
  · simp
  · rename_i h1 _ _ ih
    obtain ⟨hl, hm⟩ := ih ‹_›
    exact ⟨congrArg (· + 1) hl, List.forall_mem_cons.2 ⟨fun c => partSection_ok h1 c, hm⟩⟩

/-- everything an accepted parallel read gives, in one statement: the header it read and the count test it passed
    (where the reader variant and the C have one), six cell lists, `nnode` vertices, every node entry a node -/
theorem partRead_ok {cfg : Cfg} {fl : Flavor} {np : Nat} {co : Option Nat} {bs : Bytes} {pm : PartMesh}
    (h : partReadWith cfg fl np co bs = .ok pm) :
    (∃ hdr rest, rdHeaderPart fl bs = .ok (hdr, rest) ∧ pm.nnode = hdr.getD 0 0 ∧
      (cfg.checkCount = true → UgridOffsets.has_count_check = true →
        UgridOffsets.counts_fit (bs.length : Int) (UgridOffsets.ibyte fl.fat) (hdr.getD 0 0) (hdr.getD 1 0)
          (hdr.getD 2 0) (hdr.getD 3 0) (hdr.getD 4 0) (hdr.getD 5 0) (hdr.getD 6 0))) ∧
    pm.cells.length = 6 ∧ pm.nodes.length = pm.nnode.toNat ∧
    ∀ p ∈ Kind.all.zip pm.cells, ∀ c ∈ p.2, ∀ x ∈ c.take p.1.nodePer, 0 ≤ x ∧ x < pm.nnode := by
  revert h
  fun_cases partReadWith cfg fl np co bs <;> intro h <;> cases h
  -- the success branch: header read, `nnode` guard, count test, vertices, the six sections
  next hdr rest h0 _ hcnt _ nodes s1 hv css hs =>
  obtain ⟨hl, hm⟩ := partSections_ok hs
  refine ⟨⟨hdr, rest, h0, rfl, fun a b => Decidable.byContradiction fun c => hcnt ⟨a, b, c⟩⟩, hl, (rdVerts_len hv).1,
    fun p hp c hc x hx => ?_⟩
  exact of_decide_eq_true (List.all_eq_true.1 (hm p hp c hc) x hx)

end Refine.Lemmas.Ugrid
