import Refine.Lemmas.CodecBytes
import Mathlib.Data.List.Nodup

/-! the keyword chain written by `layout`: header scan result, key lookup, `jump` (used by C08 and C09) -/
namespace Refine.Lemmas.Codec
open Refine.Model.Meshb

/-- the section's `next_position` formula is its true length -/
def Sec.exact (v : Nat) (s : Sec) : Prop := s.declLen = 4 + fpSize v + s.body.length

theorem Sec.bytes_length {v pos : Nat} {s : Sec} : (s.bytes v pos).length = 4 + fpSize v + s.body.length := by
  simp [Sec.bytes, le32_length, encPos_length]; ring

def layoutLen (v : Nat) (ss : List Sec) : Nat := (layout v 0 ss).length

theorem layout_length (v pos : Nat) (ss : List Sec) :
    (layout v pos ss).length = (ss.map fun s => 4 + fpSize v + s.body.length).sum + (4 + fpSize v) := by
  induction ss generalizing pos with
  | nil => simp [layout, le32_length, encPos_length]
  | cons s ss ih => simp [layout, ih, Sec.bytes_length]; ring

/-- all positions written into the file fit the position field -/
def posOK (v : Nat) (total : Nat) : Prop := posFits v (total : Int)

theorem posFits_mono {v : Nat} {a b : Nat} (h : posFits v (b : Int)) (hab : a ≤ b) : posFits v (a : Int) := by
  unfold posFits at h ⊢
  split
  next hv => rw [if_pos hv] at h; omega
  next hv => rw [if_neg hv] at h; omega

theorem drop_add_of_drop_eq {bs a r : Bytes} {pos : Nat} (h : bs.drop pos = a ++ r) : bs.drop (pos + a.length) = r := by
  rw [← List.drop_drop, h, List.drop_left]

theorem length_of_drop_eq {bs x : Bytes} {pos : Nat} (h : bs.drop pos = x) (hx : 0 < x.length) :
    pos + x.length = bs.length := by
  rw [← h, List.length_drop] at hx ⊢
  omega

theorem headerScan_hop (cfg : Cfg) (v : Nat) {bs rest : Bytes} {pos kw : Nat} {next : Int} (fuel : Nat) (kp : KeyPos)
    (hpos : 0 < pos) (hd : bs.drop pos = le32 kw ++ (encPos v next ++ rest)) (hkw : kw < 156)
    (hfit : posFits v next) (hprog : next = 0 ∨ next > (pos : Int)) :
    headerScan cfg v bs (fuel + 1) (pos : Int) kp = headerScan cfg v bs fuel next ((kw, pos) :: kp) := by
  have hle := length_of_drop_eq hd (by rw [List.length_append, le32_length]; omega)
  conv => lhs; unfold headerScan
  rw [if_pos ⟨by omega, by omega⟩, if_neg (by omega)]
  dsimp only
  rw [Int.toNat_natCast, hd, rdI32_le32 (by omega)]
  dsimp only
  rw [rdPos_encPos v hfit]
  dsimp only
  rw [if_neg (fun h => h.2 hprog), if_pos ⟨by omega, by
    rw [show Refine.Gen.CodecConsts.lastKeyword = 156 from rfl]; omega⟩, Int.toNat_natCast]

theorem KeyPos.get_cons (k p : Nat) (kp : KeyPos) (k' : Nat) :
    KeyPos.get ((k, p) :: kp) k' = if k = k' then some p else KeyPos.get kp k' := by
  unfold KeyPos.get
  rw [List.find?_cons]
  by_cases h : k = k'
  · rw [if_pos h, show ((k, p).1 == k') = true from beq_iff_eq.2 h]
  · rw [if_neg h, show ((k, p).1 == k') = false from beq_false_of_ne h]

/-- `ref_import_meshb_jump` to a keyword whose section stands at the recorded position -/
theorem jump_at {v : Nat} {bs rest : Bytes} {kp : KeyPos} {s : Sec} {p : Nat} (hg : KeyPos.get kp s.kw = some p)
    (hp : bs.drop p = s.bytes v p ++ rest) (hex : Sec.exact v s) (hkw : s.kw < 156)
    (hfit : posFits v (bs.length : Int)) :
    jump v bs kp s.kw = .ok (some (tell bs rest, s.body ++ rest)) := by
  have hex : s.declLen = 4 + fpSize v + s.body.length := hex
  have hlen := length_of_drop_eq hp (by rw [List.length_append, Sec.bytes_length]; omega)
  rw [List.length_append, Sec.bytes_length] at hlen
  unfold jump
  rw [hg]
  dsimp only
  rw [hp]
  simp only [Sec.bytes, List.append_assoc]
  rw [rdI32_le32 (by omega)]
  dsimp only
  rw [if_neg (by simp), rdPos_encPos v (posFits_mono hfit (by omega))]
  dsimp only
  congr 3
  unfold tell
  omega

/-- the scan of a file that holds a layout from `pos` on (and anything, `junk`, behind its `End`) records every section
    where a jump finds it, and leaves every other keyword as it was -/
theorem jump_present {cfg : Cfg} {v : Nat} {bs junk : Bytes} (ss : List Sec) :
    ∀ (pos fuel : Nat) (kp : KeyPos), 0 < pos → ss.length < fuel →
      (∀ s ∈ ss, Sec.exact v s ∧ s.kw < 156) → bs.drop pos = layout v pos ss ++ junk → posFits v (bs.length : Int) →
      (ss.map Sec.kw ++ [54]).Nodup →
      ∃ kp', headerScan cfg v bs fuel (pos : Int) kp = .ok kp' ∧
        (∀ k, k ∉ ss.map Sec.kw ++ [54] → KeyPos.get kp' k = KeyPos.get kp k) ∧
        (∀ s ∈ ss, ∃ rest, jump v bs kp' s.kw = .ok (some (tell bs rest, s.body ++ rest))) := by
  induction ss with
  | nil =>
    intro pos fuel kp hpos hf _ hd _ _
    obtain ⟨fuel, rfl⟩ : ∃ f, fuel = f + 1 := ⟨fuel - 1, by simp at hf; omega⟩
    have h0 : posFits v 0 := by unfold posFits; split <;> omega
    rw [headerScan_hop cfg v (rest := junk) fuel kp hpos (by rw [hd, layout, List.append_assoc]) (by omega : 54 < 156) h0
      (.inl rfl), headerScan_zero]
    exact ⟨_, rfl, fun k hk => by rw [KeyPos.get_cons, if_neg (by simpa [eq_comm] using hk)], by simp⟩
  | cons s ss ih =>
    intro pos fuel kp hpos hf hss hd hfit hnd
    obtain ⟨fuel, rfl⟩ : ∃ f, fuel = f + 1 := ⟨fuel - 1, by simp at hf; omega⟩
    obtain ⟨hex, hkw⟩ := hss s (List.mem_cons_self ..)
    have hb : (s.bytes v pos).length = s.declLen := by rw [Sec.bytes_length]; exact hex.symm
    rw [layout, List.append_assoc] at hd
    have hex' : s.declLen = 4 + fpSize v + s.body.length := hex
    have hin := length_of_drop_eq hd (by rw [List.length_append, hb]; omega)
    rw [List.length_append, hb] at hin
    rw [List.map_cons, List.cons_append, List.nodup_cons] at hnd
    obtain ⟨kp', hscan, hkeep, hjump⟩ := ih (pos + (s.bytes v pos).length) fuel ((s.kw, pos) :: kp) (by omega)
      (by simp at hf; omega) (fun s' hs' => hss s' (List.mem_cons_of_mem _ hs')) (drop_add_of_drop_eq hd) hfit hnd.2
    rw [hb] at hscan
    refine ⟨kp', ?_, fun k hk => ?_, fun s' hs' => ?_⟩
    · rw [headerScan_hop cfg v (rest := s.body ++ (layout v (pos + (s.bytes v pos).length) ss ++ junk)) fuel kp hpos
        (by rw [hd, Sec.bytes, List.append_assoc, List.append_assoc]) hkw (posFits_mono hfit (by omega))
        (.inr (by push_cast; omega)), hscan]
    · rw [List.map_cons, List.cons_append, List.mem_cons, not_or] at hk
      rw [hkeep k hk.2, KeyPos.get_cons, if_neg (Ne.symm hk.1)]
    · rcases List.mem_cons.1 hs' with rfl | hs'
      · exact ⟨_, jump_at (by rw [hkeep _ hnd.1, KeyPos.get_cons, if_pos rfl]) hd hex hkw hfit⟩
      · exact hjump s' hs'


end Refine.Lemmas.Codec
