import Refine.Model.SmoothInterp

/-!
  Specifications of `locateNode` and `metricInterpolateNode` against an abstract donor relation `D x cell bary`
  ("`bary` are the weights of position `x` in background cell `cell`"), and the loop rule of the improvers' back-off
  loop.
-/
namespace Refine.Lemmas.SmoothInterp
open Refine.Model.SmoothInterp

variable {P B M : Type}

/-- what the theorems assume about the search outcomes: a walk that ends enclosing and a sequential search that
    finds a candidate deliver a donor of the position asked for; the part of an enclosing agent is the part it
    started on (`REF_AGENT_HOP_PART` is never `REF_AGENT_ENCLOSING`) -/
structure Sound (bg : Bg P B M) (D : P → Int → B → Prop) : Prop where
  walk_donor : ∀ p c x c' p' b, bg.walk p c x = .enclosing c' p' b → D x c' b
  walk_part : ∀ p c x c' p' b, bg.walk p c x = .enclosing c' p' b → p' = p
  seq_donor : ∀ x c b, bg.seq x = .found c b → D x c b
  /-- `RUS(REF_EMPTY, best_candidate, "failed to find cell")` -/
  seq_nonempty : ∀ x c b, bg.seq x = .found c b → c ≠ EMPTY
  /-- `ref_cell_valid(ref_cell, REF_EMPTY)` is false -/
  valid_nonempty : bg.valid EMPTY = false

/-- serial run whose sequential fall-back is complete: a position that has a donor at all is found by the sphere
    tree (every bounding sphere contains its cell: `Props/C11Search`) -/
structure Total (bg : Bg P B M) (D : P → Int → B → Prop) : Prop where
  serial : bg.para = false
  seq_complete : ∀ x c b, D x c b → ∃ c' b', bg.seq x = .found c' b' ∧ c' ≠ EMPTY

/-- the vertex is located on this rank, the stored weights are weights of its CURRENT position in the stored donor
    cell, and the stored metric is the interpolation there -/
def Fresh (bg : Bg P B M) (D : P → Int → B → Prop) (s : NodeSt P B M) : Prop :=
  s.cell ≠ EMPTY ∧ s.part = bg.rank ∧ D s.xyz s.cell s.bary ∧ bg.interp s.cell s.bary = some s.met

/-- the weak form: IF the vertex is located on this rank THEN its record is fresh (an unlocated vertex,
    `cell = REF_EMPTY`, is marked for re-location and claims nothing) -/
def MetricAtPosition (bg : Bg P B M) (D : P → Int → B → Prop) (s : NodeSt P B M) : Prop :=
  s.cell ≠ EMPTY → s.part = bg.rank → D s.xyz s.cell s.bary ∧ bg.interp s.cell s.bary = some s.met

theorem Fresh.weak {bg : Bg P B M} {D : P → Int → B → Prop} {s : NodeSt P B M} (h : Fresh bg D s) :
    MetricAtPosition bg D s := fun _ _ => ⟨h.2.2.1, h.2.2.2⟩

theorem metricAtPosition_of_empty {bg : Bg P B M} {D : P → Int → B → Prop} {s : NodeSt P B M} (h : s.cell = EMPTY) :
    MetricAtPosition bg D s := fun hc => absurd h hc

/-- a vertex located on this rank -/
def Local (bg : Bg P B M) (s : NodeSt P B M) : Prop := s.cell ≠ EMPTY ∧ s.part = bg.rank

theorem foundStatus_ok {s : NodeSt P B M} : foundStatus s = .ok ↔ s.cell ≠ EMPTY := by
  unfold foundStatus; split <;> simp_all

theorem foundStatus_notFound {s : NodeSt P B M} : foundStatus s = .notFound ↔ s.cell = EMPTY := by
  unfold foundStatus; split <;> simp_all

theorem foundStatus_ne_failure {s : NodeSt P B M} : foundStatus s ≠ .failure := by
  unfold foundStatus; split <;> simp

/-- position and metric are never touched by the location -/
theorem locateNode_frame (bg : Bg P B M) (s : NodeSt P B M) :
    (locateNode bg s).2.xyz = s.xyz ∧ (locateNode bg s).2.met = s.met := by
  fun_cases locateNode bg s <;> exact ⟨rfl, rfl⟩

/-- no starting guess: skip, `REF_SUCCESS`, nothing changes -/
theorem locateNode_empty (bg : Bg P B M) (s : NodeSt P B M) (h : s.cell = EMPTY) : locateNode bg s = (.ok, s) := by
  unfold locateNode; simp [h]

/-- donor on another part: forget the location, `REF_SUCCESS` -/
theorem locateNode_offpart (bg : Bg P B M) (s : NodeSt P B M) (h : s.cell ≠ EMPTY) (hp : s.part ≠ bg.rank) :
    locateNode bg s = (.ok, { s with cell := EMPTY }) := by
  unfold locateNode
  have : bg.rank ≠ s.part := fun e => hp e.symm
  simp [h, this]

/-- the three outcomes of a location started from the local guess of `s`: `REF_SUCCESS` with a result satisfying `Ok`;
    `REF_NOT_FOUND` with the cell forgotten and nothing else changed, because the walk was lost and the sequential
    search was not tried or found nothing; or an abort -/
def LocalPost (bg : Bg P B M) (s : NodeSt P B M) (Ok : NodeSt P B M → Prop) (r : Status × NodeSt P B M) : Prop :=
  (r.1 = .ok ∧ Ok r.2) ∨
  (r.1 = .notFound ∧ r.2 = { s with cell := EMPTY } ∧ (bg.para = true ∨ bg.seq s.xyz = .none)) ∨
  r.1 = .failure

theorem locateNode_local {bg : Bg P B M} {D : P → Int → B → Prop} (hs : Sound bg D) (s : NodeSt P B M)
    (hl : Local bg s) :
    LocalPost bg s (fun s1 => Local bg s1 ∧ D s.xyz s1.cell s1.bary) (locateNode bg s) := by
  obtain ⟨hc, hp⟩ := hl
  unfold LocalPost
  fun_cases locateNode bg s with
  | case1 h => exact absurd h hc
  | case2 _ h2 => exact absurd hp.symm h2
  | case3 | case4 | case5 | case7 => exact .inr (.inr rfl)
  | case6 _ _ c p b hw s1 hrk hval =>
    have h3 : c ≠ EMPTY := fun e => by subst e; rw [hs.valid_nonempty] at hval; simp at hval
    exact .inl ⟨foundStatus_ok.mpr h3, ⟨h3, (Decidable.not_not.mp hrk).symm⟩, hs.walk_donor _ _ _ _ _ _ hw⟩
  | case8 _ _ _ s1 _ hq => exact .inr (.inl ⟨(foundStatus_notFound (s := s1)).mpr rfl, rfl, .inr hq⟩)
  | case9 _ _ _ _ _ c b hq =>
    have hc' : c ≠ EMPTY := hs.seq_nonempty _ _ _ hq
    exact .inl ⟨foundStatus_ok.mpr hc', ⟨hc', hp⟩, hs.seq_donor _ _ _ hq⟩
  | case10 _ _ _ s1 hpara =>
    exact .inr (.inl ⟨(foundStatus_notFound (s := s1)).mpr rfl, rfl, .inl (by simpa using hpara)⟩)

/-- a background that is interpolated continuously (`ref adapt -m`, `ref_grid_cache_background`) -/
def Live (cfg : Cfg) : Prop := cfg.hasInterp = true ∧ cfg.continuously = true

theorem interpolate_frame (cfg : Cfg) (bg : Bg P B M) (s : NodeSt P B M) :
    (metricInterpolateNode cfg bg s).2.xyz = s.xyz := by
  have hf := (locateNode_frame bg s).1
  fun_cases metricInterpolateNode cfg bg s with
  | case1 | case2 => rfl
  | case3 _ _ _ hr | case4 _ _ _ hr | case5 _ _ _ hr => rw [hr] at hf; exact hf
  | case6 => exact hf

theorem interpolate_noInterp (cfg : Cfg) (bg : Bg P B M) (s : NodeSt P B M) (h : cfg.hasInterp = false) :
    metricInterpolateNode cfg bg s = (.ok, s) := by
  unfold metricInterpolateNode; simp [h]

theorem interpolate_notCont (cfg : Cfg) (bg : Bg P B M) (s : NodeSt P B M) (h1 : cfg.hasInterp = true)
    (h2 : cfg.continuously = false) : metricInterpolateNode cfg bg s = (.ok, { s with cell := EMPTY }) := by
  unfold metricInterpolateNode; simp [h1, h2]

/-- **the hazard**: an unlocated vertex is skipped — `REF_SUCCESS`, metric untouched -/
theorem interpolate_empty {cfg : Cfg} (hl : Live cfg) (bg : Bg P B M) (s : NodeSt P B M) (h : s.cell = EMPTY) :
    metricInterpolateNode cfg bg s = (.ok, s) := by
  unfold metricInterpolateNode
  simp [hl.1, hl.2, locateNode_empty bg s h, h]

/-- a vertex whose donor is on another part is marked unlocated — `REF_SUCCESS`, metric untouched -/
theorem interpolate_offpart {cfg : Cfg} (hl : Live cfg) (bg : Bg P B M) (s : NodeSt P B M) (h : s.cell ≠ EMPTY)
    (hp : s.part ≠ bg.rank) : metricInterpolateNode cfg bg s = (.ok, { s with cell := EMPTY }) := by
  unfold metricInterpolateNode
  simp [hl.1, hl.2, locateNode_offpart bg s h hp]

theorem interpolate_local {cfg : Cfg} (hl : Live cfg) {bg : Bg P B M} {D : P → Int → B → Prop} (hs : Sound bg D)
    (s : NodeSt P B M) (hloc : Local bg s) :
    LocalPost bg s (fun s1 => Fresh bg D s1 ∧ s1.xyz = s.xyz) (metricInterpolateNode cfg bg s) := by
  have h := locateNode_local hs s hloc
  have hf := locateNode_frame bg s
  unfold LocalPost at h ⊢
  fun_cases metricInterpolateNode cfg bg s with
  | case1 hI => simp [hl.1] at hI
  | case2 _ hC => simp [hl.2] at hC
  | case3 _ _ s1 hr hcond =>
    -- the location succeeded, so its result is local: the skip test cannot fire
    rw [hr] at h
    rcases h with ⟨_, hl1, _⟩ | ⟨h, _⟩ | h <;> try cases h
    exact (hcond.elim hl1.1 fun h => h hl1.2.symm).elim
  | case4 => exact .inr (.inr rfl)
  | case5 _ _ s1 hr hcond m hi =>
    rw [hr] at h hf
    rcases h with ⟨_, hl1, hd⟩ | ⟨h, _⟩ | h <;> try cases h
    exact .inl ⟨rfl, ⟨hl1.1, hl1.2, hf.1 ▸ hd, hi⟩, hf.1⟩
  | case6 _ _ hx => exact h.imp_left fun h1 => (hx _ (Prod.ext h1.1 rfl)).elim

theorem restoreGuess_ok (guess : Int) (s : NodeSt P B M) : restoreGuess guess .ok s = s := by
  unfold restoreGuess; simp

/-- what a caller of the back-off loop learns about its result; an abort promises nothing -/
def LoopPost (g : Guards P B M) (trial : Nat → P) (Acc : P → NodeSt P B M → Prop) (Rb : NodeSt P B M → Prop)
    (hi : Nat) (r : Result P B M) : Prop :=
  (∀ j, r.outcome = .accepted j → Acc (trial j) r.st ∧ j < hi ∧ g.accept j r.st = true) ∧
  (r.outcome = .rolledBack → Rb r.st)

section LoopPost
variable {g : Guards P B M} {trial : Nat → P} {Acc : P → NodeSt P B M → Prop} {Rb : NodeSt P B M → Prop}
  {hi : Nat} {r : Result P B M}

theorem LoopPost.mono (h : LoopPost g trial Acc Rb hi r) {hi' : Nat} (h2 : hi ≤ hi') :
    LoopPost g trial Acc Rb hi' r :=
  ⟨fun j hj => let ⟨a, c, d⟩ := h.1 j hj; ⟨a, Nat.lt_of_lt_of_le c h2, d⟩, h.2⟩

theorem LoopPost.of_aborted (h : r.outcome = .aborted) : LoopPost g trial Acc Rb hi r :=
  ⟨(fun _ hj => nomatch h.symm.trans hj), (fun hj => nomatch h.symm.trans hj)⟩

theorem LoopPost.of_accepted {k : Nat} (h : r.outcome = .accepted k) (ha : Acc (trial k) r.st) (hk : k < hi)
    (hg : g.accept k r.st = true) : LoopPost g trial Acc Rb hi r :=
  ⟨fun j hj => by cases h.symm.trans hj; exact ⟨ha, hk, hg⟩, (fun hj => nomatch h.symm.trans hj)⟩

theorem LoopPost.of_rolledBack (h : r.outcome = .rolledBack) (hb : Rb r.st) : LoopPost g trial Acc Rb hi r :=
  ⟨(fun _ hj => nomatch h.symm.trans hj), fun _ => hb⟩

end LoopPost

/-- Loop rule.  `Inv` holds of the vertex state at the start of every try, `Acc x` of the state right after a
    successful interpolation at trial position `x` (the first of a try, or the edge smoother's second), `Rb` of the
    state after the roll-back. -/
theorem loop_rule (reinterp : Bool) (cfg : Cfg) (bg : Bg P B M) (g : Guards P B M) (trial : Nat → P) (orig : P)
    (guess : Int) (Inv : NodeSt P B M → Prop) (Acc : P → NodeSt P B M → Prop) (Rb : NodeSt P B M → Prop)
    (hstep : ∀ s x, Inv s → (metricInterpolateNode cfg bg { s with xyz := x }).1 ≠ .failure →
      Inv (restoreGuess guess (metricInterpolateNode cfg bg { s with xyz := x }).1
        (metricInterpolateNode cfg bg { s with xyz := x }).2) ∧
      ((metricInterpolateNode cfg bg { s with xyz := x }).1 = .ok →
        Acc x (metricInterpolateNode cfg bg { s with xyz := x }).2))
    (hrb : ∀ s, Inv s → (metricInterpolateNode cfg bg { s with xyz := orig }).1 ≠ .failure →
      Rb (metricInterpolateNode cfg bg { s with xyz := orig }).2) :
    ∀ (n k : Nat) (s : NodeSt P B M) (cs : List (Status × NodeSt P B M)), Inv s →
      LoopPost g trial Acc Rb (n + k) (loop reinterp cfg bg g trial orig guess n k s cs) := by
  -- the edge smoother's second interpolation runs on a state that is at the trial position already
  -- (`interpolate_frame`), so it is one more instance of `hstep`
  have hre : ∀ s x s2, Inv s → metricInterpolateNode cfg bg { s with xyz := x } = (.ok, s2) →
      (metricInterpolateNode cfg bg s2).1 = .ok →
      Acc x (metricInterpolateNode cfg bg s2).2 ∧ Inv (metricInterpolateNode cfg bg s2).2 := by
    intro s x s2 hi hr hok
    have key := hstep s x hi; rw [hr, restoreGuess_ok] at key
    have hx : s2.xyz = x := by have h := interpolate_frame cfg bg { s with xyz := x }; rwa [hr] at h
    have e : ({ s2 with xyz := x } : NodeSt P B M) = s2 := by rw [← hx]
    have h3 := hstep s2 x (key nofun).1; rw [e, hok, restoreGuess_ok] at h3
    exact ⟨(h3 nofun).2 rfl, (h3 nofun).1⟩
  intro n k s cs hi
  -- one case per branch of `loop`; `hr` is the first interpolation of the try, `key` what `hstep` says of it
  fun_induction loop reinterp cfg bg g trial orig guess n k s cs with
  | case1 k s cs => -- no try left: roll back
    have hb := hrb s hi
    fun_cases rollback cfg bg orig s cs with
    | case1 s2 hr => exact .of_aborted rfl
    | case2 st s2 hne hr => rw [hr] at hb; exact .of_rolledBack rfl (hb hne)
  | case2 => exact .of_aborted rfl -- the interpolation aborts
  | case3 n k s cs s2 hre' hal s3 hr2 hacc _ hr => -- re-interpolated and accepted
    have h3 := hre s (trial k) s2 hi hr; rw [hr2] at h3
    exact .of_accepted rfl (h3 rfl).1 (by omega) hacc
  | case4 n k s cs s2 hre' hal s3 hr2 hacc _ hr cs1 cs2 ih => -- re-interpolated, refused: next try
    have h3 := hre s (trial k) s2 hi hr; rw [hr2] at h3
    exact (ih (by rw [restoreGuess_ok]; exact (h3 rfl).2)).mono (by omega)
  | case5 => exact .of_aborted rfl -- the re-interpolation is not `ok`
  | case6 n k s cs s2 hre' hal _ hr cs1 ih => -- the move is not allowed: next try
    have key := hstep s (trial k) hi; rw [hr] at key
    exact (ih (key nofun).1).mono (by omega)
  | case7 n k s cs s2 hre' hacc _ hr => -- no re-interpolation, accepted
    have key := hstep s (trial k) hi; rw [hr] at key
    exact .of_accepted rfl ((key nofun).2 rfl) (by omega) hacc
  | case8 n k s cs s2 hre' hacc _ hr cs1 ih => -- no re-interpolation, refused: next try
    have key := hstep s (trial k) hi; rw [hr] at key
    exact (ih (key nofun).1).mono (by omega)
  | case9 n k s cs st s2 hne hr cs1 hnok ih => -- `REF_NOT_FOUND`: next try
    have key := hstep s (trial k) hi; rw [hr] at key
    exact (ih (key hne).1).mono (by omega)

/-- whatever the entry state: after an interpolation that did not abort, a vertex that is located on this rank has
    a fresh record (`REF_NOT_FOUND` and the two skip paths leave it unlocated) -/
theorem interpolate_any {cfg : Cfg} (hl : Live cfg) {bg : Bg P B M} {D : P → Int → B → Prop} (hs : Sound bg D)
    (s : NodeSt P B M) (hnf : (metricInterpolateNode cfg bg s).1 ≠ .failure) :
    MetricAtPosition bg D (metricInterpolateNode cfg bg s).2 := by
  by_cases hc : s.cell = EMPTY
  · rw [interpolate_empty hl bg s hc]; exact metricAtPosition_of_empty hc
  · by_cases hp : s.part = bg.rank
    · rcases interpolate_local hl hs s ⟨hc, hp⟩ with ⟨_, hf⟩ | ⟨_, he⟩ | hst
      · exact hf.1.weak
      · rw [he.1]; exact metricAtPosition_of_empty rfl
      · exact absurd hst hnf
    · rw [interpolate_offpart hl bg s hc hp]; exact metricAtPosition_of_empty rfl

/-- serial, complete fall-back: from a local guess a position that has a donor is never reported `REF_NOT_FOUND` -/
theorem interpolate_total {cfg : Cfg} (hl : Live cfg) {bg : Bg P B M} {D : P → Int → B → Prop} (hs : Sound bg D)
    (ht : Total bg D) (s : NodeSt P B M) (hloc : Local bg s) (hd : ∃ c b, D s.xyz c b) :
    (metricInterpolateNode cfg bg s).1 ≠ .notFound := by
  obtain ⟨c, b, hd⟩ := hd
  rcases interpolate_local hl hs s hloc with ⟨h, _⟩ | ⟨_, _, hp | hq⟩ | h
  · rw [h]; simp
  · rw [ht.serial] at hp; cases hp
  · obtain ⟨c', b', hq', _⟩ := ht.seq_complete _ _ _ hd
    rw [hq'] at hq; cases hq
  · rw [h]; simp

/-- when the first interpolation turns the record `s0` into `s1` and every later one leaves `s1` alone, position
    aside (`s1 = s0`: no background, or an unlocated vertex of a live background; `s1 = s0` with the cell forgotten:
    background not interpolated continuously, or the donor lives on another part), the improver only ever changes
    the coordinates of `s1` -/
theorem improve_settle (kind : Kind) (cfg : Cfg) (bg : Bg P B M) (g : Guards P B M) (tries : Nat) (trial : Nat → P)
    (s0 s1 : NodeSt P B M)
    (hI1 : ∀ x, metricInterpolateNode cfg bg { s0 with xyz := x } = (.ok, { s1 with xyz := x }))
    (hI2 : ∀ x, metricInterpolateNode cfg bg { s1 with xyz := x } = (.ok, { s1 with xyz := x })) :
    (∀ j, (improve kind cfg bg g tries trial s0).outcome = .accepted j →
      (improve kind cfg bg g tries trial s0).st = { s1 with xyz := trial j }) ∧
    ((improve kind cfg bg g tries trial s0).outcome = .rolledBack →
      (improve kind cfg bg g tries trial s0).st = { s1 with xyz := s0.xyz }) := by
  -- the invariant: wherever `s` is put, the interpolation lands on `s1` there; `s0` has it by `hI1`, and every
  -- state the loop continues from is `s1` at some position, which has it by `hI2`
  have key := loop_rule kind.reinterp cfg bg g trial s0.xyz (interpGuess cfg s0)
    (fun s => ∀ x, metricInterpolateNode cfg bg { s with xyz := x } = (.ok, { s1 with xyz := x }))
    (fun x s => s = { s1 with xyz := x }) (fun s => s = { s1 with xyz := s0.xyz })
    (fun s x hs _ => by rw [hs x, restoreGuess_ok]; exact ⟨hI2, fun _ => rfl⟩)
    (fun s hs _ => by rw [hs s0.xyz])
    tries 0 s0 [] hI1
  exact ⟨fun j hj => (key.1 j hj).1, key.2⟩

end Refine.Lemmas.SmoothInterp
