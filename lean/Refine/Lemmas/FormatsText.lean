import Refine.Lemmas.CellRows

/-! what the token-level readers of `Refine.Model.Formats` guarantee about an accepted file -/
namespace Refine.Lemmas.Formats
open Refine.Model.Formats
open Refine.Model.Meshb (Status Vertex Cfg adjAdd adjAddAll)
open Refine.Model.Ugrid (Kind)

theorem rdDs_eq_many (k : Nat) (ts : List Tok) : rdDs k ts = Refine.Lemmas.Reader.many rdD k ts := by
  fun_induction rdDs k ts <;> simp_all only [Refine.Lemmas.Reader.many]

theorem rdLfs_eq_many (k : Nat) (ts : List Tok) : rdLfs k ts = Refine.Lemmas.Reader.many rdLf k ts := by
  fun_induction rdLfs k ts <;> simp_all only [Refine.Lemmas.Reader.many]

theorem rdDs_length {k : Nat} {ts r : List Tok} {xs : List Int} (h : rdDs k ts = .ok (xs, r)) : xs.length = k :=
  Refine.Lemmas.Reader.many_length (rdDs_eq_many k ts ▸ h)

theorem rdLfs_length {k : Nat} {ts r : List Tok} {xs : List UInt64} (h : rdLfs k ts = .ok (xs, r)) : xs.length = k :=
  Refine.Lemmas.Reader.many_length (rdLfs_eq_many k ts ▸ h)

theorem rdVerts3_length {n : Nat} {ts r : List Tok} {vs : List Vertex} (h : rdVerts3 n ts = .ok (vs, r)) :
    vs.length = n := by
  revert h
  fun_induction rdVerts3 n ts generalizing vs r <;> intro h <;> cases h
  · rfl
  · rename_i ih; exact congrArg (· + 1) (ih ‹_›)

theorem rdVerts2_length {n : Nat} {ts r : List Tok} {vs : List Vertex} (h : rdVerts2 n ts = .ok (vs, r)) :
    vs.length = n := by
  revert h
  fun_induction rdVerts2 n ts generalizing vs r <;> intro h <;> cases h
  · rfl
  · rename_i ih; exact congrArg (· + 1) (ih ‹_›)

theorem rdVertsSurf_length {n : Nat} {ts r : List Tok} {vs : List Vertex} (h : rdVertsSurf n ts = .ok (vs, r)) :
    vs.length = n := by
  revert h
  fun_induction rdVertsSurf n ts generalizing vs r <;> intro h <;> cases h
  · rfl
  · rename_i ih; exact congrArg (· + 1) (ih ‹_›)

theorem rdIdx_ok {chk : Bool} {nnode : Int} {k : Nat} {ts r : List Tok} {xs : List Int}
    (h : rdIdx chk nnode k ts = .ok (xs, r)) :
    xs.length = k ∧ (chk = true → ∀ x ∈ xs, 1 ≤ x ∧ x ≤ nnode) := by
  revert h
  fun_induction rdIdx chk nnode k ts generalizing xs r <;> intro h <;> cases h
  · simp
  · rename_i hx _ _ _ ih
    obtain ⟨hl, hr⟩ := ih ‹_›
    exact ⟨congrArg (· + 1) hl, fun hc => List.forall_mem_cons.2 ⟨not_not.1 fun hcon => hx ⟨hc, hcon⟩, hr hc⟩⟩

theorem addCell1_ok {raw tail c : List Int} (h : addCell1 raw tail = .ok c) : c = raw.map (· - 1) ++ tail := by
  revert h
  fun_cases addCell1 raw tail <;> intro h <;> cases h
  rfl

theorem addCell0_ok {nodes tail c : List Int} (h : addCell0 nodes tail = .ok c) :
    c = nodes ++ tail ∧ ∀ x ∈ nodes, 0 ≤ x := by
  revert h
  fun_cases addCell0 nodes tail <;> intro h <;> cases h
  exact ⟨rfl, fun x hx => (Refine.Lemmas.Codec.adjAddAll_eq_ok_iff.1 ‹_› x hx).1⟩

theorem rdCells1_ok {chk : Bool} {nnode : Int} {per extra keep : Nat} {e : Bool} {n : Nat} {ts r : List Tok}
    {cs : List (List Int)} (h : rdCells1 chk nnode per extra keep e n ts = .ok (cs, r)) :
    cs.length = n ∧ (chk = true → ∀ c ∈ cs, nodesIn per 0 nnode c) := by
  revert h
  fun_induction rdCells1 chk nnode per extra keep e n ts generalizing cs r <;> intro h <;> cases h
  · simp
  · rename_i raw _ h1 _ _ _ c h3 _ _ _ ih
    obtain ⟨hlen, hidx⟩ := rdIdx_ok h1
    cases addCell1_ok h3
    obtain ⟨il, ichk⟩ := ih ‹_›
    exact ⟨congrArg (· + 1) il, fun hchk =>
      List.forall_mem_cons.2 ⟨nodesIn_of_row hlen fun x hx => by have := hidx hchk x hx; omega, ichk hchk⟩⟩

theorem map_append_nodes {per : Nat} {lo hi : Int} {cs : List (List Int)} {t : List Int}
    (h : ∀ c ∈ cs, nodesIn per lo hi c) : ∀ c ∈ cs.map (· ++ t), nodesIn per lo hi c := by
  intro d hd
  obtain ⟨c, hc, rfl⟩ := List.mem_map.mp hd
  obtain ⟨hl, hx⟩ := h c hc
  refine ⟨by simp; omega, ?_⟩
  rw [List.take_append_of_le_length hl]
  exact hx

end Refine.Lemmas.Formats
