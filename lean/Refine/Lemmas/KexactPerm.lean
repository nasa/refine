import Refine.Lemmas.KexactReal
import Mathlib.Data.List.Perm.Basic
import Mathlib.Algebra.BigOperators.Group.List.Basic
import Mathlib.Tactic.Positivity

/-!
  The coded least-squares chain returns THE least-squares solution (normal equations hold, and they have
  one solution because a successful QR means full column rank); hence the result does not depend on the
  order of the rows (= order of the cloud = vertex numbering), for any right-hand side, and a consistent
  system is solved exactly.
-/
namespace Refine.KexactPerm
open Refine Refine.Model.Geom Refine.Model.Kexact Refine.ScalarReal Refine.GeomReal Refine.KexactReal

/-- `ref_matrix_solve_ab` on an upper-triangular `[R | c]`, row by row: the pivot stays in row 0 (the rows below start
    with a zero), the guard of the division gives a non-zero diagonal entry, the rows below are untouched, and the back
    substitution of this row solves its equation from the solution of the rows below -/
theorem solve_upper : ∀ (R : List (List ℝ)) (c : List ℝ) (fuel : ℕ) (ill : Bool) (ps : List (List ℝ)) (x : List ℝ),
    TriRows R → c.length = R.length → R.length ≤ fuel →
    elim fuel (augment 0 R c) = some (ill, ps) → backSub ps = some x →
    rhsOf R x = c ∧ x.length = R.length ∧ ∀ r ∈ R, r.headD 0 ≠ 0
  | [], c, fuel, ill, ps, x, _, hc, _, h, hb => by
    obtain rfl : c = [] := by simpa using hc
    obtain rfl : ps = [] := by cases fuel <;> simp [elim, augment, swap0] at h <;> exact h.2
    cases hb
    simp [rhsOf]
  | r :: R, [], _, _, _, _, _, hc, _, _, _ => by simp at hc
  | r :: R, c0 :: cs, 0, _, _, _, _, _, hf, _, _ => by simp at hf
  | r :: R, c0 :: cs, f + 1, ill, ps, x, ht, hc, hf, h, hb => by
    obtain ⟨hrl, ht'⟩ := ht
    obtain ⟨d, rt, rfl⟩ : ∃ d rt, r = d :: rt := by
      cases r with
      | nil => simp at hrl
      | cons d rt => exact ⟨d, rt, rfl⟩
    have hpr : pivotRow (augment 0 ((d :: rt) :: R) (c0 :: cs)) = 0 := by
      simp only [augment, pivotRow]
      exact pivotScan_zero_heads _ _ _ _ (by rw [cabs_eq]; exact abs_nonneg _)
        (augment_heads_zero R cs 0)
    have haug : augment 0 ((d :: rt) :: R) (c0 :: cs) = (d :: (rt ++ [c0])) :: augment (0 + 1) R cs := by
      simp [augment]
    rw [haug] at h hpr
    have hs : swap0 ((d :: (rt ++ [c0])) :: augment (0 + 1) R cs) 0 =
        (d :: (rt ++ [c0])) :: augment (0 + 1) R cs := by simp [swap0]
    rw [elim, hpr, hs] at h
    dsimp only at h
    split at h
    case isFalse => cases h
    case isTrue hguard =>
    have hd0 : d ≠ 0 := by
      simp only [List.all_cons, Bool.and_eq_true, List.headD_cons] at hguard
      exact divisible_ne_zero hguard.1
    rw [others_eq R cs 0 _ ht' (by simp at hrl ⊢; omega)] at h
    cases hrec : elim f (augment 0 R cs) with
    | none => rw [hrec] at h; cases h
    | some res =>
      obtain ⟨ill', ps'⟩ := res
      rw [hrec] at h
      dsimp only at h
      simp only [Option.some.injEq, Prod.mk.injEq] at h
      obtain ⟨_, rfl⟩ := h
      unfold backSub at hb
      cases hrb : backSub ps' with
      | none => rw [hrb] at hb; cases hb
      | some xs =>
        rw [hrb] at hb
        obtain ⟨ih, hxl, hR⟩ := solve_upper R cs f ill' ps' xs ht' (by simpa using hc) (by simpa using hf) hrec hrb
        have hrtl : rt.length = xs.length := by simp at hrl; omega
        simp only [List.headD_cons, List.tail_cons, List.map_append, List.map_cons, List.map_nil, div_eq] at hb
        have hzip : List.zip (rt.map (fun x => x / d) ++ [c0 / d]) xs =
            List.zip (rt.map (fun x => x / d)) xs := by
          have := List.zip_append (l₁ := rt.map (fun x => x / d)) (r₁ := [c0 / d])
            (l₂ := xs) (r₂ := []) (by simp [hrtl])
          simpa using this
        have hget : (rt.map (fun x => x / d) ++ [c0 / d]).getD xs.length (lit0 : ℝ) = c0 / d := by
          rw [← hrtl]
          simp [List.getD_eq_getElem?_getD]
        rw [hzip, hget, foldl_sub_mul, ipl_map_div] at hb
        split at hb
        case isFalse => cases hb
        case isTrue =>
          obtain rfl := Option.some.inj hb
          refine ⟨?_, by simp [hxl], fun r' hr' => ?_⟩
          · simp only [rhsOf, ipl_cons, ih, List.cons.injEq, and_true]
            field_simp
            ring
          · rcases List.mem_cons.mp hr' with rfl | hr'
            · simpa using hd0
            · exact hR r' hr'

theorem solve_spec (R : List (List ℝ)) (c x : List ℝ) (ill : Bool) (ht : TriRows R) (hc : c.length = R.length)
    (h : solveAb (augment 0 R c) = some (ill, x)) :
    rhsOf R x = c ∧ x.length = R.length ∧ ∀ r ∈ R, r.headD 0 ≠ 0 := by
  revert h
  fun_cases solveAb (augment 0 R c)
  next => exact nofun
  next => exact nofun
  next ill' ps he x' hb =>
    intro h
    obtain ⟨-, rfl⟩ := Prod.mk.inj (Option.some.inj h)
    rw [augment_length R _ 0 hc] at he
    exact solve_upper R c R.length ill' ps x' ht hc (le_refl _) he hb

theorem rhsOf_inj : ∀ (R : List (List ℝ)) (u v : List ℝ), TriRows R → (∀ r ∈ R, r.headD 0 ≠ 0) →
    u.length = R.length → v.length = R.length → rhsOf R u = rhsOf R v → u = v
  | [], u, v, _, _, hu, hv, _ => by
    have h1 : u = [] := by simpa using hu
    have h2 : v = [] := by simpa using hv
    rw [h1, h2]
  | r :: R, [], _, _, _, hu, _, _ => by simp at hu
  | r :: R, _ :: _, [], _, _, _, hv, _ => by simp at hv
  | r :: R, u0 :: us, v0 :: vs, ht, hd, hu, hv, h => by
    obtain ⟨hrl, ht'⟩ := ht
    obtain ⟨d, rt, rfl⟩ : ∃ d rt, r = d :: rt := by
      cases r with
      | nil => simp at hrl
      | cons d rt => exact ⟨d, rt, rfl⟩
    have hd0 : d ≠ 0 := by simpa using hd (d :: rt) (by simp)
    simp only [rhsOf, ipl_cons, List.cons.injEq] at h
    obtain ⟨h0, hrest⟩ := h
    have := rhsOf_inj R us vs ht' (fun r' hr' => hd r' (by simp [hr'])) (by simpa using hu)
      (by simpa using hv) hrest
    subst this
    have : u0 = v0 := by
      have : d * u0 = d * v0 := by linarith
      exact mul_left_cancel₀ hd0 this
    rw [this]

def rowDot (n : ℕ) (row x : List ℝ) : ℝ := ∑ j ∈ Finset.range n, x.getD j 0 * row.getD j 0

theorem rowDot_eq_ipl (n : ℕ) (r z : List ℝ) (hr : r.length = n) (hz : z.length = n) : rowDot n r z = ipl r z :=
  (ip_comm n _ _).trans (sum_zipWith_mul r z n hr hz).symm

/-- `x` solves the normal equations `Aᵀ(A x − b) = 0` of the rows `(a_i, b_i)`, column by column -/
def NormalEq (n : ℕ) (rws : List (List ℝ × ℝ)) (x : List ℝ) : Prop :=
  ∀ j, j < n → (rws.map (fun p => p.1.getD j 0 * (rowDot n p.1 x - p.2))).sum = 0

theorem NormalEq.perm {n : ℕ} {rws rws' : List (List ℝ × ℝ)} {x : List ℝ} (hp : rws.Perm rws')
    (h : NormalEq n rws' x) : NormalEq n rws x := fun j hj =>
  ((hp.map (fun p : List ℝ × ℝ => p.1.getD j 0 * (rowDot n p.1 x - p.2))).sum_eq).trans (h j hj)

theorem NormalEq.of_exact {n : ℕ} {rws : List (List ℝ × ℝ)} {z : List ℝ} (h : ∀ p ∈ rws, rowDot n p.1 z = p.2) :
    NormalEq n rws z := fun j _ => List.sum_eq_zero fun y hy => by
  obtain ⟨p, hp, rfl⟩ := List.mem_map.mp hy
  rw [h p hp, sub_self, mul_zero]

theorem lincomb_columns_rowDot (n : ℕ) (rows : List (List ℝ)) (y : List ℝ) (hy : y.length = n) (i : ℕ) :
    lincomb (columns n rows) y i = rowDot n (rows.getD i []) y := by
  have := lincomb_columns rows i n 0 y hy
  rw [columns, List.range_eq_range', this]
  simp only [Nat.zero_add, rowDot]

/-- the normal equations, read by columns: the residual `A x − b` is orthogonal to every column of `A`
    (the one place where the row view `rws` and the column view `columns n rows` of the same matrix meet) -/
theorem normalEq_iff_cols (n : ℕ) (rws : List (List ℝ × ℝ)) (x : List ℝ) (hx : x.length = n) :
    NormalEq n rws x ↔ ∀ a ∈ columns n (rws.map (·.1)), ip rws.length (vec a)
      (fun i => lincomb (columns n (rws.map (·.1))) x i - vec (rws.map (·.2)) i) = 0 := by
  have hrow : ∀ i, (rws.map (·.1)).getD i [] = (rws.getD i ([], 0)).1 := fun i => by
    simp only [List.getD_eq_getElem?_getD, List.getElem?_map]
    cases rws[i]? <;> simp
  have hb : ∀ i, vec (rws.map (·.2)) i = (rws.getD i ([], 0)).2 := fun i => by
    simp only [vec, List.getD_eq_getElem?_getD, List.getElem?_map]
    cases rws[i]? <;> simp
  have key : ∀ j, (rws.map (fun p => p.1.getD j 0 * (rowDot n p.1 x - p.2))).sum =
      ip rws.length (vec (column (rws.map (·.1)) j))
        (fun i => lincomb (columns n (rws.map (·.1))) x i - vec (rws.map (·.2)) i) := fun j => by
    rw [list_sum_eq_range ([], (0 : ℝ))]
    refine Finset.sum_congr rfl (fun i _ => ?_)
    dsimp only
    rw [vec_column, lincomb_columns_rowDot n _ x hx, hrow, hb]
  constructor
  · intro h a ha
    simp only [columns, List.mem_map, List.mem_range] at ha
    obtain ⟨j, hj, rfl⟩ := ha
    rw [← key]; exact h j hj
  · intro h j hj
    rw [key]
    exact h _ (by simp only [columns, List.mem_map, List.mem_range]; exact ⟨j, hj, rfl⟩)

theorem lsq_ok {n : ℕ} {rows : List (List ℝ)} {b x : List ℝ} (h : lsq n rows b = (KSt.ok, x)) :
    ∃ Q R, qr (columns n rows) = some (Q, R) ∧ solveAb (augment 0 R (Q.map fun qj => dotl qj b)) = some (false, x) := by
  revert h
  fun_cases lsq n rows b
  next => exact nofun
  next => exact nofun
  next => exact nofun
  next Q R hq c ill x' hs hill =>
    intro h
    obtain rfl := (Prod.mk.inj h).2
    exact ⟨Q, R, hq, by rw [hs, Bool.eq_false_iff.mpr hill]⟩

/-- **the coded chain returns THE least-squares solution**: on success the result has `n` entries and solves the normal
    equations of the rows (the residual is orthogonal to every column of `Q`, hence of `A`), and nothing else of that
    length does: two solutions have the same `A x` (`lincomb_eq_of_orth`), and a successful QR means full column rank
    (`R` has a non-zero diagonal and `Qᵀ A = R`) -/
theorem lsq_unique (n : ℕ) (rws : List (List ℝ × ℝ)) (x : List ℝ) (hne : rws ≠ [])
    (h : lsq n (rws.map (·.1)) (rws.map (·.2)) = (KSt.ok, x)) :
    x.length = n ∧ NormalEq n rws x ∧ ∀ x' : List ℝ, x'.length = n → NormalEq n rws x' → x = x' := by
  have hrne : rws.map (·.1) ≠ [] := by simpa using hne
  have hmr : (rws.map (·.1)).length = rws.length := List.length_map _
  have hb : (rws.map (·.2)).length = rws.length := List.length_map _
  obtain ⟨Q, R, hq, hs⟩ := lsq_ok h
  obtain ⟨hQ, hQtA, hspan⟩ := qr_columns_spec n _ hrne Q R hq
  rw [hmr] at hQ hQtA hspan
  have hcl : (columns n (rws.map (·.1))).length = n := by simp [columns]
  have hRl : R.length = n := by rw [(QtA_length _ Q R _ hQtA).2, hcl]
  have hQl : Q.length = n := by rw [(QtA_length _ Q R _ hQtA).1, hcl]
  have htri := QtA_tri _ Q R _ hQtA
  obtain ⟨hsol, hxl, hdiag⟩ := solve_spec R _ x false htri (by simp [hQl, hRl]) hs
  have hxn : x.length = n := by rw [hxl, hRl]
  -- `Qᵀ (A y) = R y`
  have hQy : ∀ (y : List ℝ), y.length = n →
      Q.map (fun q => ip rws.length (vec q) (lincomb (columns n (rws.map (·.1))) y)) = rhsOf R y := fun y hy =>
    map_dot_eq_rhsOf _ Q R _ y hQtA (by rw [hcl, hy])
  -- the residual is orthogonal to every `q` (`Qᵀ A x = R x = Qᵀ b`), hence to every column
  have hcol : ∀ a ∈ columns n (rws.map (·.1)), ip rws.length (vec a)
      (fun i => lincomb (columns n (rws.map (·.1))) x i - vec (rws.map (·.2)) i) = 0 := by
    refine fun a ha => (ip_comm _ _ _).trans (hspan _ (fun q hq => ?_) a ha)
    rw [ip_comm, ip_sub_right]
    have h1 := hQy x hxn
    rw [hsol] at h1
    rw [(List.map_inj_left.mp h1) q hq, dotl_eq_ip q _ _ (hQ q hq) hb]; ring
  refine ⟨hxn, (normalEq_iff_cols n rws x hxn).mpr hcol, fun x' hx' hN' => ?_⟩
  -- another solution has the same `A x`, hence the same `R x`
  have hfun := lincomb_eq_of_orth rws.length _ x x' _ hcol ((normalEq_iff_cols n rws x' hx').mp hN')
  have : rhsOf R x = rhsOf R x' := by
    rw [← hQy x hxn, ← hQy x' hx']
    exact List.map_congr_left (fun q _ => ip_congr_right _ hfun)
  exact rhsOf_inj R x x' htri hdiag (by rw [hxn, hRl]) (by rw [hx', hRl]) this

/-- a consistent system is solved exactly: its solution has zero residual, so it satisfies the normal equations -/
theorem lsq_consistent (n : ℕ) (rws : List (List ℝ × ℝ)) (z x : List ℝ) (hne : rws ≠ []) (hz : z.length = n)
    (hcons : ∀ p ∈ rws, rowDot n p.1 z = p.2)
    (h : lsq n (rws.map (·.1)) (rws.map (·.2)) = (KSt.ok, x)) : x = z :=
  (lsq_unique n rws x hne h).2.2 z hz (.of_exact hcons)

end Refine.KexactPerm
