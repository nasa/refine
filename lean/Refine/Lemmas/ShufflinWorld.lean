import Refine.Lemmas.Shufflin
import Refine.Lemmas.DistLayout
import Refine.Lemmas.CommBuffer

/-!
  The cell phases of `ref_migrate_shufflin`: the invariant every rank satisfies from the node phase on (`RInv`), one rank of
  one cell phase under it (`cellPhaseRank_spec`), and the world level — what is sent to whom (`mem_cellsSentTo`), the sixteen
  phases in sequence (`phasesOver_spec`), the cells every rank ends up with (`phase_cells`).
-/
namespace Refine.Lemmas.ShufflinWorld
open Refine.Model.Dist Refine.Model.Shufflin Refine.Lemmas.Shufflin
open Refine.Lemmas.DistClauses (find_glob mem_flatten_zipIdx)
open Refine.Model.Comm (World allSome)

theorem allSome_mapIdx_some {α β : Type} (w : List α) (f : Nat → α → Option β) (g : Nat → α → β)
    (h : ∀ q s, w[q]? = some s → f q s = some (g q s)) : allSome (w.mapIdx f) = some (w.mapIdx g) := by
  rw [← Refine.Lemmas.Comm.allSome_map_some, Refine.ListFacts.map_mapIdx]
  exact congrArg allSome (List.mapIdx_eq_mapIdx_iff.mpr fun q hq => h q _ (List.getElem?_eq_getElem hq))

/-- what rank `q` receives when every other rank `r` sends `F` of its state -/
theorem mem_sent {α β : Type} (w : List α) (q : Nat) (F : α → List β) (x : β) :
    x ∈ (w.zipIdx.map fun sr => if sr.2 == q then [] else F sr.1).flatten ↔
      ∃ r s, w[r]? = some s ∧ r ≠ q ∧ x ∈ F s := by
  rw [mem_flatten_zipIdx]
  refine exists₂_congr fun r s => and_congr_right fun _ => ?_
  by_cases hq : r = q <;> simp [hq]

theorem partOf_eq {P : Int → Int} {Y : Int → List Nat} {me : Nat} {s : RankState} (ht : Table P Y me s.nodes)
    {v : Int} (hv : v ∈ s.nodes.map (·.glob)) : s.partOf v = some (P v) := by
  obtain ⟨nd, hnd, rfl⟩ := List.mem_map.mp hv
  unfold RankState.partOf
  rw [find_glob ht.1 hnd, Option.map_some, (ht.2 nd hnd).1]

theorem cellPartsOn_eq {P : Int → Int} {Y : Int → List Nat} {me : Nat} {s : RankState} (ht : Table P Y me s.nodes)
    {c : DCell} (hc : ∀ v ∈ c.nodes, v ∈ s.nodes.map (·.glob)) : cellPartsOn s c = c.nodes.map P := by
  unfold cellPartsOn
  refine List.map_congr_left fun v hv => ?_
  rw [partOf_eq ht (hc v hv), Option.getD_some]

theorem keepCell_iff {P : Int → Int} {Y : Int → List Nat} {me : Nat} {nodes : List DNode} (ht : Table P Y me nodes)
    {c : DCell} (hc : ∀ v ∈ c.nodes, v ∈ nodes.map (·.glob)) :
    keepCell me nodes c = true ↔ ∃ v ∈ c.nodes, P v = (me : Int) := by
  unfold keepCell
  rw [List.any_eq_true]
  refine exists_congr fun v => and_congr_right fun hv => ?_
  obtain ⟨nd, hnd, rfl⟩ := List.mem_map.mp (hc v hv)
  rw [find_glob ht.1 hnd, Option.map_some, beq_iff_eq, Option.some.injEq, (ht.2 nd hnd).1]

/-- what rank `q` satisfies from the node phase on.  `S`: the cells of the global mesh; `Vg`: its vertices -/
structure RInv (P : Int → Int) (Y : Int → List Nat) (S : DCell → Prop) (Vg : Int → Prop) (q : Nat) (s : RankState) :
    Prop where
  table : Table P Y q s.nodes
  known : ∀ nd ∈ s.nodes, Vg nd.glob
  cellsS : ∀ c ∈ s.cells, S c ∧ ∀ v ∈ c.nodes, v ∈ s.nodes.map (·.glob)
  cellsNd : s.cells.Nodup
  owned : ∀ g, Vg g → P g = (q : Int) → g ∈ s.nodes.map (·.glob)

def WInv (P : Int → Int) (Y : Int → List Nat) (S : DCell → Prop) (Vg : Int → Prop) (w : World RankState) : Prop :=
  ∀ (q : Nat) (s : RankState), w[q]? = some s → RInv P Y S Vg q s

/-- what rank `q` looks like after `ref_migrate_shufflin_cell` for group `g`, having received `msgs` -/
def phaseRank (q g : Nat) (s : RankState) (msgs : List CellMsg) : RankState :=
  { s with nodes := msgs.foldl (addGhosts q) s.nodes,
           cells := ((msgs.map (·.cell)).foldl (ins id) s.cells).filter
             fun c => c.group != g || keepCell q (msgs.foldl (addGhosts q) s.nodes) c }

section Phase
variable {P : Int → Int} {Y : Int → List Nat} {S : DCell → Prop} {Vg : Int → Prop}

/-- one rank of one cell phase: it completes, keeps the invariant, and stores the old and the received cells except
    those of group `g` without a vertex of its own -/
theorem cellPhaseRank_spec (hu : Uniq S) (hS : ∀ c, S c → ∀ v ∈ c.nodes, Vg v)
    {g q : Nat} {s : RankState} (hs : RInv P Y S Vg q s) {msgs : List CellMsg}
    (hm : ∀ m ∈ msgs, MsgOk P m ∧ S m.cell) :
    cellPhaseRank q g s msgs = some (phaseRank q g s msgs) ∧ RInv P Y S Vg q (phaseRank q g s msgs) ∧
    ∀ c, c ∈ (phaseRank q g s msgs).cells ↔
      (c ∈ s.cells ∨ c ∈ msgs.map (·.cell)) ∧ (c.group = g → ∃ v ∈ c.nodes, P v = (q : Int)) := by
  obtain ⟨hT, hG⟩ := foldl_addGhosts_spec hs.table fun m h => (hm m h).1
  -- every vertex of a received cell is stored after the first loop: the owned ones were, the others are added
  have hpres : ∀ m ∈ msgs, ∀ v ∈ m.cell.nodes, v ∈ (msgs.foldl (addGhosts q) s.nodes).map (·.glob) := by
    intro m h v hv
    rw [hG]
    by_cases hp : P v = (q : Int)
    · exact Or.inl (hs.owned v (hS m.cell (hm m h).2 v hv) hp)
    · exact Or.inr ⟨m, h, hv, hp⟩
  have hfold := foldl_recvCell_eq hu (fun nd hnd => (hT.2 nd hnd).1) msgs
    (fun m h => ⟨(hm m h).1, (hm m h).2, hpres m h⟩) s.cells (fun x hx => (hs.cellsS x hx).1)
  have hmem : ∀ c, c ∈ (msgs.map (·.cell)).foldl (ins id) s.cells ↔ c ∈ s.cells ∨ c ∈ msgs.map (·.cell) := by
    intro c
    simpa only [List.map_id] using keys_foldl_ins (id : DCell → DCell) (msgs.map (·.cell)) s.cells c
  have hcell : ∀ c, c ∈ s.cells ∨ c ∈ msgs.map (·.cell) →
      S c ∧ ∀ v ∈ c.nodes, v ∈ (msgs.foldl (addGhosts q) s.nodes).map (·.glob) := by
    rintro c (hc | hc)
    · exact ⟨(hs.cellsS c hc).1, fun v hv => (hG v).mpr (Or.inl ((hs.cellsS c hc).2 v hv))⟩
    · obtain ⟨m, h, rfl⟩ := List.mem_map.mp hc
      exact ⟨(hm m h).2, hpres m h⟩
  have hcells : ∀ c, c ∈ (phaseRank q g s msgs).cells ↔
      (c ∈ s.cells ∨ c ∈ msgs.map (·.cell)) ∧ (c.group = g → ∃ v ∈ c.nodes, P v = (q : Int)) := by
    intro c
    show c ∈ List.filter _ _ ↔ _
    rw [List.mem_filter, hmem]
    refine and_congr_right fun hc => ?_
    rw [Bool.or_eq_true, bne_iff_ne, keepCell_iff hT (hcell c hc).2, ← imp_iff_not_or]
  refine ⟨?_, ⟨hT, ?_, ?_, ?_, ?_⟩, hcells⟩
  · unfold cellPhaseRank
    rw [hfold]
    rfl
  · intro nd hnd
    rcases (hG nd.glob).mp (List.mem_map_of_mem hnd) with h1 | ⟨m, h, hv, _⟩
    · obtain ⟨nd', hnd', he⟩ := List.mem_map.mp h1
      exact he ▸ hs.known nd' hnd'
    · exact hS m.cell (hm m h).2 nd.glob hv
  · exact fun c hc => hcell c ((hcells c).mp hc).1
  · have := nodup_foldl_ins (id : DCell → DCell) (msgs.map (·.cell)) s.cells (by rw [List.map_id]; exact hs.cellsNd)
    rw [List.map_id] at this
    exact this.filter _
  · exact fun x hx hp => (hG x).mpr (Or.inl (hs.owned x hx hp))

theorem mem_cellsSentTo (w : World RankState) (g q : Nat) (m : CellMsg) :
    m ∈ cellsSentTo w g q ↔ ∃ r s, w[r]? = some s ∧ r ≠ q ∧ ∃ c ∈ s.cells, c.group = g ∧
      (q : Int) ∈ cellPartsOn s c ∧ ⟨c, cellPartsOn s c⟩ = m := by
  unfold cellsSentTo
  rw [mem_sent w q (fun s => (s.cells.filter fun c => c.group == g && (cellPartsOn s c).contains (q : Int)).map
        fun c => ⟨c, cellPartsOn s c⟩) m]
  simp only [List.mem_map, List.mem_filter, Bool.and_eq_true, beq_iff_eq, List.contains_eq_mem, decide_eq_true_eq,
    and_assoc]

/-- a message sent by a rank satisfying the invariant carries the parts of its cell's vertices, and a cell of the mesh -/
theorem sent_ok {w : World RankState} (hw : WInv P Y S Vg w) {g q : Nat} {m : CellMsg}
    (hm : m ∈ cellsSentTo w g q) : MsgOk P m ∧ S m.cell := by
  obtain ⟨r, t, ht, _, c, hc, _, _, rfl⟩ := (mem_cellsSentTo w g q m).mp hm
  exact ⟨cellPartsOn_eq (hw r t ht).table ((hw r t ht).cellsS c hc).2, ((hw r t ht).cellsS c hc).1⟩

def phaseWorld (w : World RankState) (g : Nat) : World RankState :=
  w.mapIdx fun q s => phaseRank q g s (cellsSentTo w g q)

theorem cellPhase_eq (hu : Uniq S) (hS : ∀ c, S c → ∀ v ∈ c.nodes, Vg v)
    {w : World RankState} (hw : WInv P Y S Vg w) (g : Nat) :
    cellPhase g w = some (phaseWorld w g) :=
  allSome_mapIdx_some w _ _ fun _ _ hs => (cellPhaseRank_spec hu hS (hw _ _ hs) fun _ => sent_ok hw).1

theorem phaseWorld_inv (hu : Uniq S) (hS : ∀ c, S c → ∀ v ∈ c.nodes, Vg v)
    {w : World RankState} (hw : WInv P Y S Vg w) (g : Nat) : WInv P Y S Vg (phaseWorld w g) := by
  intro q s' h
  obtain ⟨s, hs, rfl⟩ := Refine.ListFacts.getElem?_mapIdx_eq_some.mp h
  exact (cellPhaseRank_spec hu hS (hw _ _ hs) fun _ => sent_ok hw).2.1

theorem phase_cells (hu : Uniq S) (hS : ∀ c, S c → ∀ v ∈ c.nodes, Vg v)
    {w : World RankState} (hw : WInv P Y S Vg w) (g : Nat) {q : Nat} {s : RankState}
    (hs : w[q]? = some s) (c : DCell) :
    c ∈ (phaseRank q g s (cellsSentTo w g q)).cells ↔
      if c.group = g then (AllC w c ∧ ∃ v ∈ c.nodes, P v = (q : Int)) else c ∈ s.cells := by
  rw [(cellPhaseRank_spec hu hS (hw q s hs) fun _ => sent_ok hw).2.2 c]
  have hsent : c ∈ (cellsSentTo w g q).map (·.cell) → c.group = g ∧ AllC w c := by
    intro hc
    obtain ⟨m, hm, rfl⟩ := List.mem_map.mp hc
    obtain ⟨r, t, ht, _, c', hc', hg, _, rfl⟩ := (mem_cellsSentTo w g q m).mp hm
    exact ⟨hg, r, t, ht, hc'⟩
  by_cases hg : c.group = g
  · rw [if_pos hg, imp_iff_right hg]
    refine and_congr_left fun htouch => ⟨?_, ?_⟩
    · rintro (hc | hc)
      · exact ⟨q, s, hs, hc⟩
      · exact (hsent hc).2
    · rintro ⟨r, t, ht, hc⟩
      by_cases hrq : r = q
      · subst hrq
        rw [hs] at ht
        cases ht
        exact Or.inl hc
      · -- rank `r` reads the part `q` of the touching vertex in its own table and sends `c`
        obtain ⟨v, hv, hpv⟩ := htouch
        refine Or.inr (List.mem_map.mpr ⟨⟨c, cellPartsOn t c⟩, (mem_cellsSentTo w g q _).mpr ?_, rfl⟩)
        refine ⟨r, t, ht, hrq, c, hc, hg, ?_, rfl⟩
        rw [cellPartsOn_eq (hw r t ht).table ((hw r t ht).cellsS c hc).2]
        exact List.mem_map.mpr ⟨v, hv, hpv⟩
  · rw [if_neg hg]
    exact ⟨fun h => h.1.resolve_right fun hc => hg (hsent hc).1, fun hc => ⟨Or.inl hc, fun h => absurd h hg⟩⟩

theorem allC_phaseWorld (hu : Uniq S) (hS : ∀ c, S c → ∀ v ∈ c.nodes, Vg v)
    {w : World RankState} (hw : WInv P Y S Vg w) {g : Nat} {c : DCell} (hne : c.group ≠ g) :
    AllC (phaseWorld w g) c ↔ AllC w c := by
  constructor
  · rintro ⟨r, t', ht', hc⟩
    obtain ⟨t, ht, rfl⟩ := Refine.ListFacts.getElem?_mapIdx_eq_some.mp ht'
    exact ⟨r, t, ht, by rwa [phase_cells hu hS hw g ht c, if_neg hne] at hc⟩
  · rintro ⟨r, t, ht, hc⟩
    refine ⟨r, _, Refine.ListFacts.getElem?_mapIdx_eq_some.mpr ⟨t, ht, rfl⟩, ?_⟩
    rwa [phase_cells hu hS hw g ht c, if_neg hne]

/-- `cellPhases` of the model for any list of groups -/
def phasesOver (gs : List Nat) (w : World RankState) : Option (World RankState) :=
  gs.foldl (fun ow g => ow.bind (cellPhase g)) (some w)

theorem cellPhases_eq (w : World RankState) : cellPhases w = phasesOver (List.range NGROUP) w := rfl

/-- the phases of distinct groups `gs`: the cells of those groups are redistributed, the other cells stay -/
theorem phasesOver_spec (hu : Uniq S) (hS : ∀ c, S c → ∀ v ∈ c.nodes, Vg v)
    (gs : List Nat) (hnd : gs.Nodup) : ∀ (w : World RankState), WInv P Y S Vg w →
    ∃ w', phasesOver gs w = some w' ∧ w'.length = w.length ∧ WInv P Y S Vg w' ∧
      ∀ (q : Nat) (s s' : RankState), w[q]? = some s → w'[q]? = some s' →
        s'.oldN = s.oldN ∧ s'.newN = s.newN ∧ s'.nUnused = s.nUnused ∧
        ∀ c, c ∈ s'.cells ↔
          if c.group ∈ gs then (AllC w c ∧ ∃ v ∈ c.nodes, P v = (q : Int)) else c ∈ s.cells := by
  induction gs with
  | nil =>
    intro w hw
    refine ⟨w, rfl, rfl, hw, fun q s s' hs hs' => ?_⟩
    rw [hs] at hs'
    cases hs'
    exact ⟨rfl, rfl, rfl, fun c => by simp⟩
  | cons g gs ih =>
    intro w hw
    rw [List.nodup_cons] at hnd
    obtain ⟨w', he, hl, hw', hch⟩ := ih hnd.2 (phaseWorld w g) (phaseWorld_inv hu hS hw g)
    refine ⟨w', ?_, ?_, hw', ?_⟩
    · unfold phasesOver at he ⊢
      rw [List.foldl_cons]
      show List.foldl _ (cellPhase g w) gs = some w'
      rw [cellPhase_eq hu hS hw g]
      exact he
    · rw [hl]
      exact List.length_mapIdx
    · intro q s s' hs hs'
      obtain ⟨c1, c2, c3, c4⟩ := hch q _ s' (Refine.ListFacts.getElem?_mapIdx_eq_some.mpr ⟨s, hs, rfl⟩) hs'
      refine ⟨c1, c2, c3, fun c => ?_⟩
      rw [c4 c]
      by_cases hin : c.group ∈ gs
      · have hne : c.group ≠ g := fun h => hnd.1 (h ▸ hin)
        rw [if_pos hin, if_pos (List.mem_cons_of_mem _ hin), allC_phaseWorld hu hS hw hne]
      · rw [if_neg hin, phase_cells hu hS hw g hs c]
        by_cases hg : c.group = g
        · rw [if_pos hg, if_pos (hg ▸ List.mem_cons_self)]
        · rw [if_neg hg, if_neg (fun h => (List.mem_cons.mp h).elim hg hin)]

end Phase

end Refine.Lemmas.ShufflinWorld
