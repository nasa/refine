import Refine.Model.Search
import Refine.Lemmas.ScalarReal
import Refine.Lemmas.FoldMin
import Mathlib.Analysis.InnerProductSpace.PiL2

/-!
  The sphere tree of `ref_search.c` over `ℝ`.  One invariant, `BallInv` (the `children_ball` of a node reaches every
  descendant sphere), is kept by `ref_search_home`; under it every traversal that prunes with `children_ball` — `touching`,
  `nearestWith`, `trim` — equals the plain expression over the list of all entries.  `sqd` / `edist` are the Euclidean
  vocabulary of the whole C12 development; `toE` leads into Mathlib's Euclidean space.
-/
namespace Refine.Lemmas.Search
open Refine Refine.Model.Geom Refine.Model.Search Refine.ScalarReal

def sqd (a b : V3 ℝ) : ℝ := (a.x - b.x) ^ 2 + (a.y - b.y) ^ 2 + (a.z - b.z) ^ 2

noncomputable def edist (a b : V3 ℝ) : ℝ := Real.sqrt (sqd a b)

theorem sqd_nonneg (a b : V3 ℝ) : 0 ≤ sqd a b := by unfold sqd; positivity
theorem sqd_comm (a b : V3 ℝ) : sqd a b = sqd b a := by unfold sqd; ring
theorem edist_nonneg (a b : V3 ℝ) : 0 ≤ edist a b := Real.sqrt_nonneg _
theorem edist_comm (a b : V3 ℝ) : edist a b = edist b a := by unfold edist; rw [sqd_comm]
theorem edist_self (a : V3 ℝ) : edist a a = 0 := by unfold edist sqd; simp

theorem edist_le_iff (a b c d : V3 ℝ) : edist a b ≤ edist c d ↔ sqd a b ≤ sqd c d :=
  Real.sqrt_le_sqrt_iff (sqd_nonneg c d)

theorem edist_le_of_sqd_le {a b c d : V3 ℝ} (h : sqd a b ≤ sqd c d) : edist a b ≤ edist c d :=
  Real.sqrt_le_sqrt h

theorem eq_of_sqd_eq_zero {a b : V3 ℝ} (h : sqd a b = 0) : a = b := by
  obtain ⟨ax, ay, az⟩ := a
  obtain ⟨bx, by', bz⟩ := b
  simp only [sqd] at h
  have hx := sq_nonneg (ax - bx)
  have hy := sq_nonneg (ay - by')
  have hz := sq_nonneg (az - bz)
  congr <;> exact sub_eq_zero.mp (pow_eq_zero_iff two_ne_zero |>.mp (by linarith))

noncomputable def toE (a : V3 ℝ) : EuclideanSpace ℝ (Fin 3) := !₂[a.x, a.y, a.z]

theorem edist_eq_dist (a b : V3 ℝ) : edist a b = dist (toE a) (toE b) := by
  unfold edist sqd toE
  rw [EuclideanSpace.dist_eq, Fin.sum_univ_three]
  simp [Real.dist_eq, sq_abs]

theorem edist_triangle (a b c : V3 ℝ) : edist a c ≤ edist a b + edist b c := by
  rw [edist_eq_dist, edist_eq_dist, edist_eq_dist]; exact dist_triangle _ _ _

theorem dist0_eq (a b : V3 ℝ) : dist0 a b = edist a b := by
  unfold dist0 edist sqd
  simp only [add_eq, sub_eq, mul_eq, sqrt_eq, zero_eq]
  congr 1; ring

/-- for every node `p` and every descendant `q`: `dist c_p c_q + r_q ≤ children_ball_p` -/
def BallInv : STree ℝ → Prop
  | .nil => True
  | .node e ball l r => (∀ q ∈ l.pre ++ r.pre, edist e.pos q.pos + q.rad ≤ ball) ∧ BallInv l ∧ BallInv r

theorem ballUp_eq (c e : Entry ℝ) (ball : ℝ) :
    STree.ballUp c e ball = max ball (edist e.pos c.pos + c.rad) := by
  unfold STree.ballUp
  rw [cmax_eq, add_eq, dist0_eq, edist_comm]

theorem BallInv_leaf (c : Entry ℝ) : BallInv (STree.leaf c) := by
  simp [STree.leaf, BallInv, STree.pre]

theorem pre_home_perm (c : Entry ℝ) (t : STree ℝ) : (STree.home c t).pre.Perm (c :: t.pre) := by
  -- empty tree; free left slot; free right slot; descent to the nearer child, left or right
  fun_induction STree.home c t with
  | case1 => exact .refl _
  | case2 e ball r => exact List.perm_middle (l₁ := [e])
  | case3 e ball le lb ll lr => exact List.perm_middle (l₁ := e :: (STree.node le lb ll lr).pre) (l₂ := [])
  | case4 e ball le lb ll lr re rb rl rr h ih => exact ((ih.append_right _).cons e).trans (.swap _ _ _)
  | case5 e ball le lb ll lr re rb rl rr h ih =>
    exact ((ih.append_left _).cons e).trans (List.perm_middle (l₁ := e :: (STree.node le lb ll lr).pre))

theorem mem_pre_home (c : Entry ℝ) (t : STree ℝ) (q : Entry ℝ) :
    q ∈ (STree.home c t).pre ↔ q = c ∨ q ∈ t.pre :=
  (pre_home_perm c t).mem_iff.trans List.mem_cons

/-- `ref_search_home` keeps the invariant: the ball of every node on the insertion path is enlarged to
    contain the new sphere, balls off the path are untouched -/
theorem home_BallInv (c : Entry ℝ) (t : STree ℝ) (h : BallInv t) : BallInv (STree.home c t) := by
  -- the descendants of a node on the path are the old ones and `c`; `ballUp` covers both
  have step : ∀ {e : Entry ℝ} {ball : ℝ} {old new : List (Entry ℝ)}, new.Perm (c :: old) →
      (∀ q ∈ old, edist e.pos q.pos + q.rad ≤ ball) →
      ∀ q ∈ new, edist e.pos q.pos + q.rad ≤ STree.ballUp c e ball := by
    intro e ball old new hp ho q hq
    rw [ballUp_eq]
    rcases List.mem_cons.mp (hp.mem_iff.mp hq) with rfl | hq
    · exact le_max_right _ _
    · exact (ho q hq).trans (le_max_left _ _)
  fun_induction STree.home c t with
  | case1 => exact BallInv_leaf c
  | case2 e ball r => exact ⟨step (.refl _) h.1, BallInv_leaf c, h.2.2⟩
  | case3 e ball le lb ll lr => exact ⟨step (List.perm_middle (l₂ := [])) h.1, h.2.1, BallInv_leaf c⟩
  | case4 e ball le lb ll lr re rb rl rr hlt ih =>
    exact ⟨step ((pre_home_perm c _).append_right _) h.1, ih h.2.1, h.2.2⟩
  | case5 e ball le lb ll lr re rb rl rr hlt ih =>
    exact ⟨step (((pre_home_perm c _).append_left _).trans List.perm_middle) h.1, h.2.1, ih h.2.2⟩

/-- a query farther than `ball + ρ` from a node centre misses every descendant sphere by more than `ρ` -/
theorem far_from_descendants {e : Entry ℝ} {ball : ℝ} {l r : STree ℝ} (h : BallInv (.node e ball l r))
    (x : V3 ℝ) (q : Entry ℝ) (hq : q ∈ l.pre ++ r.pre) :
    edist e.pos x - ball ≤ edist q.pos x - q.rad := by
  have h1 := h.1 q hq
  have h2 := edist_triangle e.pos q.pos x
  linarith

theorem touching_eq (x : V3 ℝ) (rho : ℝ) (t : STree ℝ) (acc : List Int) (h : BallInv t) :
    t.touching x rho acc =
      acc ++ ((t.pre.filter (fun e => decide (edist e.pos x ≤ e.rad + rho))).map (·.item)) := by
  fun_induction STree.touching x rho t acc with
  | case1 acc => simp [STree.pre]
  -- the query is within `ball + rho` of the node: both children are visited
  | case2 e ball l r acc d acc1 h2 ihl ihr =>
    rw [ihr h.2.2, ihl h.2.1]
    simp only [acc1, d, dist0_eq, add_eq, le_iff]
    by_cases h1 : edist e.pos x ≤ e.rad + rho <;> simp [STree.pre, h1, List.filter_append]
  -- pruned: no descendant touches
  | case3 e ball l r acc d acc1 h2 =>
    simp only [d, dist0_eq, sub_eq, le_iff, not_le] at h2
    have hnone : (l.pre ++ r.pre).filter (fun e => decide (edist e.pos x ≤ e.rad + rho)) = [] := by
      rw [List.filter_eq_nil_iff]
      intro q hq
      have := far_from_descendants h x q hq
      simp only [decide_eq_true_eq, not_le]
      linarith
    simp only [acc1, d, dist0_eq, add_eq, le_iff]
    by_cases h1 : edist e.pos x ≤ e.rad + rho <;> simp [STree.pre, h1, hnone]

/-- branch-and-bound over the tree computes the plain running minimum over all entries, provided every
    element distance is bounded below by the distance to its sphere -/
theorem nearestWith_eq (ed : Int → ℝ) (x : V3 ℝ) (t : STree ℝ) (d : ℝ) (h : BallInv t)
    (hs : ∀ e ∈ t.pre, edist e.pos x - e.rad ≤ ed e.item) :
    t.nearestWith ed x d = (t.pre.map (fun e => ed e.item)).foldl min d := by
  induction t generalizing d with
  | nil => simp [STree.nearestWith, STree.pre]
  | node e ball l r ihl ihr =>
    have hsl : ∀ q ∈ l.pre, edist q.pos x - q.rad ≤ ed q.item :=
      fun q hq => hs q (by simp [STree.pre, hq])
    have hsr : ∀ q ∈ r.pre, edist q.pos x - q.rad ≤ ed q.item :=
      fun q hq => hs q (by simp [STree.pre, hq])
    have he := hs e (by simp [STree.pre])
    simp only [STree.nearestWith, dist0_eq, sub_eq, Scalar.bge]
    have hd1 : (if (edist e.pos x - e.rad <=. d) = true then Scalar.cmin d (ed e.item) else d)
        = min d (ed e.item) := by
      by_cases h1 : edist e.pos x - e.rad ≤ d
      · rw [if_pos ((le_iff _ _).mpr h1), cmin_eq]
      · rw [if_neg (fun hh => h1 ((le_iff _ _).mp hh))]
        exact (min_eq_left (by linarith [not_le.mp h1])).symm
    rw [hd1]
    simp only [STree.pre, List.map_cons, List.foldl_cons, List.map_append, List.foldl_append]
    by_cases h2 : edist e.pos x - ball ≤ min d (ed e.item)
    · rw [if_pos ((le_iff _ _).mpr h2), ihr _ h.2.2 hsr, ihl _ h.2.1 hsl]
    · rw [if_neg (fun hh => h2 ((le_iff _ _).mp hh))]
      refine (FoldMin.foldl_min_pruned _ _ _ _ fun q hq => ?_).symm
      have h3 := far_from_descendants h x q hq
      have h4 : edist q.pos x - q.rad ≤ ed q.item := hs q (List.mem_cons_of_mem _ hq)
      linarith [not_le.mp h2]

/-- `ref_search_trim` computes `min(t, min_i (dist_i + r_i))` when no radius is negative -/
theorem trim_eq (x : V3 ℝ) (t : STree ℝ) (d : ℝ) (h : BallInv t) (hr : ∀ e ∈ t.pre, 0 ≤ e.rad) :
    t.trim x d = (t.pre.map (fun e => edist e.pos x + e.rad)).foldl min d := by
  induction t generalizing d with
  | nil => simp [STree.trim, STree.pre]
  | node e ball l r ihl ihr =>
    have hrl : ∀ q ∈ l.pre, 0 ≤ q.rad := fun q hq => hr q (by simp [STree.pre, hq])
    have hrr : ∀ q ∈ r.pre, 0 ≤ q.rad := fun q hq => hr q (by simp [STree.pre, hq])
    simp only [STree.trim, dist0_eq, sub_eq, add_eq, Scalar.bgt]
    have hd1 : (if (edist e.pos x + e.rad <. d) = true then edist e.pos x + e.rad else d)
        = min d (edist e.pos x + e.rad) := by
      by_cases h1 : edist e.pos x + e.rad < d
      · rw [if_pos ((lt_iff _ _).mpr h1)]; exact (min_eq_right h1.le).symm
      · rw [if_neg (fun hh => h1 ((lt_iff _ _).mp hh))]; exact (min_eq_left (not_lt.mp h1)).symm
    rw [hd1]
    simp only [STree.pre, List.map_cons, List.foldl_cons, List.map_append, List.foldl_append]
    by_cases h2 : edist e.pos x - ball < min d (edist e.pos x + e.rad)
    · rw [if_pos ((lt_iff _ _).mpr h2), ihr _ h.2.2 hrr, ihl _ h.2.1 hrl]
    · rw [if_neg (fun hh => h2 ((lt_iff _ _).mp hh))]
      refine (FoldMin.foldl_min_pruned _ _ _ _ fun q hq => ?_).symm
      have h3 := far_from_descendants h x q hq
      have h4 : 0 ≤ q.rad := hr q (List.mem_cons_of_mem _ hq)
      linarith [not_lt.mp h2]

end Refine.Lemmas.Search
