import Mathlib.Data.List.Nodup

/-!
  `ins key`: append an entry unless one with the same key is present — what the receive loops of nasa/refine do
  (`ref_node_add_many` by global, `ref_cell_add_many_global` by cell), whatever the key.  What a `foldl (ins key)` holds
  afterwards: the old list, then entries of the new one (`foldl_ins_prefix`), hence its members (`mem_/subset_foldl_ins`);
  its keys (`keys_foldl_ins`), no key twice (`nodup_foldl_ins`).  Declared into `Refine.Lemmas.Shufflin`, the namespace of `Lemmas/Shufflin.lean`:
  `open Refine.Lemmas.Shufflin` gives `ins`.
-/
namespace Refine.Lemmas.Shufflin
variable {α κ : Type} [DecidableEq κ]

def ins (key : α → κ) (acc : List α) (x : α) : List α :=
  if key x ∈ acc.map key then acc else acc ++ [x]

theorem mem_ins (key : α → κ) (acc : List α) (x y : α) :
    y ∈ ins key acc x → y ∈ acc ∨ y = x := by
  fun_cases ins key acc x
  · exact Or.inl
  · intro h
    exact (List.mem_append.mp h).imp_right List.mem_singleton.mp

theorem keys_ins (key : α → κ) (acc : List α) (x : α) (k : κ) :
    k ∈ (ins key acc x).map key ↔ k ∈ acc.map key ∨ k = key x := by
  fun_cases ins key acc x with
  | case1 h => exact ⟨Or.inl, fun hk => hk.elim id fun e => e ▸ h⟩
  | case2 => rw [List.map_append, List.mem_append, List.map_singleton, List.mem_singleton]

theorem nodup_ins (key : α → κ) (acc : List α) (x : α) (h : (acc.map key).Nodup) :
    ((ins key acc x).map key).Nodup := by
  fun_cases ins key acc x with
  | case1 => exact h
  | case2 hx =>
    rw [List.map_append, List.nodup_append]
    refine ⟨h, List.nodup_singleton _, fun a ha b hb hab => hx ?_⟩
    rwa [← List.mem_singleton.mp hb, ← hab]

theorem foldl_ins_prefix (key : α → κ) (xs : List α) : ∀ (acc : List α),
    ∃ extra, xs.foldl (ins key) acc = acc ++ extra ∧ ∀ y ∈ extra, y ∈ xs := by
  induction xs with
  | nil => intro acc; exact ⟨[], (List.append_nil acc).symm, fun _ h => nomatch h⟩
  | cons x xs ih =>
    intro acc
    obtain ⟨extra, he, hm⟩ := ih (ins key acc x)
    rw [List.foldl_cons, he]
    fun_cases ins key acc x
    · exact ⟨extra, rfl, fun y hy => List.mem_cons_of_mem _ (hm y hy)⟩
    · exact ⟨x :: extra, List.append_assoc _ _ _, List.forall_mem_cons.mpr
        ⟨List.mem_cons_self, fun y hy => List.mem_cons_of_mem _ (hm y hy)⟩⟩

theorem mem_foldl_ins (key : α → κ) (xs : List α) (acc : List α) (y : α) :
    y ∈ xs.foldl (ins key) acc → y ∈ acc ∨ y ∈ xs := by
  obtain ⟨extra, he, hm⟩ := foldl_ins_prefix key xs acc
  rw [he, List.mem_append]
  exact Or.imp_right (hm y)

theorem subset_foldl_ins (key : α → κ) (xs : List α) : ∀ (acc : List α), ∀ y ∈ acc, y ∈ xs.foldl (ins key) acc := by
  intro acc y h
  obtain ⟨extra, he, _⟩ := foldl_ins_prefix key xs acc
  exact he ▸ List.mem_append_left _ h

theorem keys_foldl_ins (key : α → κ) (xs : List α) : ∀ (acc : List α) (k : κ),
    k ∈ (xs.foldl (ins key) acc).map key ↔ k ∈ acc.map key ∨ k ∈ xs.map key := by
  induction xs with
  | nil => intro acc k; simp
  | cons x xs ih =>
    intro acc k
    rw [List.foldl_cons, ih, keys_ins, List.map_cons, List.mem_cons, or_assoc]

theorem nodup_foldl_ins (key : α → κ) (xs : List α) : ∀ (acc : List α), (acc.map key).Nodup →
    ((xs.foldl (ins key) acc).map key).Nodup :=
  fun _ h => List.foldlRecOn xs (ins key) h fun a ih x _ => nodup_ins key a x ih

end Refine.Lemmas.Shufflin
