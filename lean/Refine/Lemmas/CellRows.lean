import Refine.Model.Formats
import Refine.Lemmas.UgridBytes
import Refine.Lemmas.ListFacts

/-! a cell as every mesh file of refine stores it, binary UGRID, the text formats and `.r8.ugrid` alike: a row of `per`
    1-based nodes, stored 0-based, followed by an id slot that `ref_import_*_bound_tag` fills afterwards (`-1` until
    then).  Stated over `per`; the `Kind`-indexed functions of the binary UGRID model are instances
    (`setTags_eq`, `connOf_eq`). -/
namespace Refine.Lemmas.Formats
open Refine.Model.Formats
open Refine.Model.Meshb (Cfg adjAddAll int32)
open Refine.Lemmas.Codec (adjAddAll_eq_ok_iff)

theorem take_map_append {α β : Type} (f : α → β) {raw : List α} (tail : List β) {per : Nat} (hl : raw.length = per) :
    (raw.map f ++ tail).take per = raw.map f := by
  rw [List.take_append_of_le_length (by simp [hl]), List.take_of_length_le (by simp [hl])]

theorem of_any_false {raw : List Int} {p : Int → Prop} [DecidablePred p] (h : ¬ raw.any (fun x => decide (p x)) = true) :
    ∀ x ∈ raw, ¬ p x := fun x hx hp => h (List.any_eq_true.2 ⟨x, hx, decide_eq_true hp⟩)

/-- the node part of a cell: its first `per` entries, all in `[lo, hi)` -/
def nodesIn (per : Nat) (lo hi : Int) (c : List Int) : Prop :=
  per ≤ c.length ∧ ∀ x ∈ c.take per, lo ≤ x ∧ x < hi

theorem cellsInRange_of {n : Int} {per : Nat} {cs : List (List Int)} (h : ∀ c ∈ cs, nodesIn per 0 n c) :
    cellsInRange n per cs = true := by
  unfold cellsInRange
  rw [List.all_eq_true]
  intro c hc
  rw [List.all_eq_true]
  intro x hx
  exact decide_eq_true ((h c hc).2 x hx)

theorem nodesIn_of_row {raw tail : List Int} {per : Nat} {lo hi : Int} (hl : raw.length = per)
    (h : ∀ x ∈ raw, lo + 1 ≤ x ∧ x ≤ hi) : nodesIn per lo hi (raw.map (· - 1) ++ tail) := by
  refine ⟨by simp; omega, ?_⟩
  rw [take_map_append _ _ hl, List.forall_mem_map]
  intro y hy
  have := h y hy
  omega

/-- the vertices a writer may index: below this bound `ref_adj_add` grows by a plain `realloc` -/
def maxNodes : Int := 2 ^ 28 - 200

/-- the 1-based nodes a writer prints for a cell -/
def conn1 (per : Nat) (c : List Int) : List Int := (c.take per).map (· + 1)

theorem conn1_length {per : Nat} {c : List Int} (h : per ≤ c.length) : (conn1 per c).length = per := by
  simp [conn1, h]

theorem conn1_sub (per : Nat) (c : List Int) : (conn1 per c).map (· - 1) = c.take per := by
  simp [conn1, List.map_map, Function.comp_def]

theorem conn1_idx {per : Nat} {nnode : Int} {c : List Int} (hn : nnode ≤ maxNodes) (hc : nodesIn per 0 nnode c) :
    ∀ x ∈ conn1 per c, int32 x ∧ 1 ≤ x ∧ x ≤ nnode := by
  intro y hy
  simp only [conn1, List.mem_map] at hy
  obtain ⟨x, hxm, rfl⟩ := hy
  have := hc.2 x hxm
  unfold maxNodes at hn
  unfold int32
  omega

theorem adjAddAll_conn1 {cfg : Cfg} (hcap : cfg.allocCap = 2 ^ 30) {per : Nat} {nnode : Int} {c : List Int}
    (hn : nnode ≤ maxNodes) (hc : nodesIn per 0 nnode c) : adjAddAll cfg ((conn1 per c).map (· - 1)) = .ok () := by
  rw [conn1_sub]
  unfold maxNodes at hn
  -- `ref_adj_add` refuses a node when `4 * (node + 100)` bytes exceed the cap of 2^30, i.e. above 2^28 - 100;
  -- `maxNodes` stays another 100 below that
  exact adjAddAll_eq_ok_iff.2 fun x hx => by have := hc.2 x hx; rw [hcap]; omega

theorem setIds_length {per : Nat} {cs : List (List Int)} {ids : List Int} : (setIds per cs ids).length = cs.length := by
  fun_induction setIds per cs ids <;> simp_all only [List.length_cons]

theorem setIds_take {per : Nat} {P : List Int → Prop} {cs : List (List Int)} {ids : List Int}
    (h : ∀ c ∈ cs, per ≤ c.length ∧ P (c.take per)) : ∀ c ∈ setIds per cs ids, per ≤ c.length ∧ P (c.take per) := by
  fun_induction setIds per cs ids
  · rename_i c cs t ts ih
    obtain ⟨⟨hl, hx⟩, hcs⟩ := List.forall_mem_cons.1 h
    refine List.forall_mem_cons.2 ⟨⟨by simp; omega, ?_⟩, ih hcs⟩
    rwa [List.take_append_of_le_length (by simp; omega), List.take_of_length_le (by simp)]
  · exact h

theorem setIds_nodes {per : Nat} {cs : List (List Int)} {ids : List Int} {lo hi : Int}
    (h : ∀ c ∈ cs, nodesIn per lo hi c) : ∀ c ∈ setIds per cs ids, nodesIn per lo hi c :=
  setIds_take (P := fun l => ∀ x ∈ l, lo ≤ x ∧ x < hi) h

theorem setIds_restore (per : Nat) (cs : List (List Int)) (h : ∀ c ∈ cs, c.length = per + 1) :
    setIds per (cs.map (fun c => c.take per ++ [-1])) (cs.map (fun c => c.getD per 0)) = cs := by
  induction cs with
  | nil => rfl
  | cons c cs ih =>
    have hc := h c (by simp)
    simp only [List.map_cons, setIds]
    rw [ih (fun d hd => h d (by simp [hd])), List.take_append_of_le_length (by simp; omega), List.take_take, Nat.min_self,
      Refine.ListFacts.take_append_getD hc]

theorem map_take_self (per : Nat) (cs : List (List Int)) (h : ∀ c ∈ cs, c.length = per) : cs.map (·.take per) = cs :=
  Refine.ListFacts.map_eq_self fun c hc => List.take_of_length_le (Nat.le_of_eq (h c hc))

end Refine.Lemmas.Formats

namespace Refine.Lemmas.Ugrid
open Refine.Model.Ugrid
open Refine.Model.Formats (setIds)
open Refine.Lemmas.Formats (conn1)

/-- `ref_import_bin_ugrid_bound_tag` fills the tag slot as the text readers fill their id slot -/
theorem setTags_eq (k : Kind) : setTags k = setIds k.nodePer := by
  funext cs ts
  fun_induction setTags k cs ts <;> simp_all only [setIds]

theorem connOf_eq (k : Kind) : connOf k = conn1 k.nodePer := rfl

theorem rows_flatten (per : Nat) (l : List (List Int)) (h : ∀ x ∈ l, x.length = per) :
    rows per l.length l.flatten = l :=
  Refine.ListFacts.chunks_flatten_of (ch := rows per) (fun _ => rfl) (fun _ _ => rfl) l h

theorem rows_map_flatten {α : Type} (per : Nat) (f : α → List Int) (l : List α) (h : ∀ a ∈ l, (f a).length = per) :
    rows per l.length (l.map f).flatten = l.map f := by
  have := rows_flatten per (l.map f) (List.forall_mem_map.2 h)
  rwa [List.length_map] at this

theorem rows_length (per n : Nat) (xs : List Int) : (rows per n xs).length = n := by
  induction n generalizing xs with
  | zero => rfl
  | succ n ih => simp [rows, ih]

theorem rows_each (per n : Nat) (xs : List Int) (h : xs.length = per * n) : ∀ r ∈ rows per n xs, r.length = per := by
  induction n generalizing xs with
  | zero => simp [rows]
  | succ n ih =>
    intro r hr
    simp only [rows, List.mem_cons] at hr
    rcases hr with rfl | hr
    · simp; rw [Nat.mul_succ] at h; omega
    · exact ih (xs.drop per) (by simp; rw [Nat.mul_succ] at h; omega) r hr

end Refine.Lemmas.Ugrid
