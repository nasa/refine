import Refine.Model.SmoothInterp
import Refine.Model.Metric
import Refine.Lemmas.MetricInterp
import Refine.Lemmas.ScalarReal
import Mathlib.Tactic.Ring
import Mathlib.Tactic.FieldSimp

/-! the back-off factor over ℝ (`2^-k`), and a log-linear tetrahedral background as an instance of `Bg.interp` -/
namespace Refine.Lemmas.SmoothInterp
open Refine Refine.ScalarReal Refine.Model.SmoothInterp
open Refine.Model.Geom (V3)

theorem backoffAt_real (k : Nat) : (backoffAt k : ℝ) = (1 / 2 : ℝ) ^ k := by
  induction k with
  | zero => simp [backoffAt]
  | succ k ih =>
    unfold backoffAt
    rw [ih]
    simp only [mul_eq, ofDec_eq]
    rw [pow_succ]
    norm_num

open Refine Refine.Model.Matrix Refine.Model.Metric in
open Refine.Model.Geom (V3 B4) in
/-- a tetrahedral background whose vertex logs are an affine function of position: the kernel `Bg.interp` is
    `ref_metric_interpolate_node`'s (`Model/Metric.interpolateNode`) on the four vertex logs of the donor cell -/
noncomputable def loglinInterp (verts : Int → V3 ℝ × V3 ℝ × V3 ℝ × V3 ℝ) (L0 Lx Ly Lz : M6 ℝ) (c : Int) (b : B4 ℝ) :
    Option (M6 ℝ × M6 ℝ) :=
  match interpolateNode 4 b (affM L0 Lx Ly Lz (verts c).1) (affM L0 Lx Ly Lz (verts c).2.1)
      (affM L0 Lx Ly Lz (verts c).2.2.1) (affM L0 Lx Ly Lz (verts c).2.2.2) with
  | .ok p => some p
  | .error _ => none

open Refine Refine.Model.Matrix in
open Refine.Model.Geom (V3 B4) in
/-- `b` are barycentric coordinates of `x` in cell `c`: non-negative, sum one, reproduce the point -/
def BaryDonor (verts : Int → V3 ℝ × V3 ℝ × V3 ℝ × V3 ℝ) (x : V3 ℝ) (c : Int) (b : B4 ℝ) : Prop :=
  0 ≤ b.b0 ∧ 0 ≤ b.b1 ∧ 0 ≤ b.b2 ∧ 0 ≤ b.b3 ∧ b.b0 + b.b1 + b.b2 + b.b3 = 1 ∧
  b.b0 * (verts c).1.x + b.b1 * (verts c).2.1.x + b.b2 * (verts c).2.2.1.x + b.b3 * (verts c).2.2.2.x = x.x ∧
  b.b0 * (verts c).1.y + b.b1 * (verts c).2.1.y + b.b2 * (verts c).2.2.1.y + b.b3 * (verts c).2.2.2.y = x.y ∧
  b.b0 * (verts c).1.z + b.b1 * (verts c).2.1.z + b.b2 * (verts c).2.2.1.z + b.b3 * (verts c).2.2.2.z = x.z


end Refine.Lemmas.SmoothInterp
