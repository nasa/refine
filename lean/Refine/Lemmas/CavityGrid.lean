import Refine.Lemmas.CavityChain

/-!
  `ref_cavity_replace` at grid level.  On the success path the tet store is the old one with the new tets added and then
  the listed cells removed (`replace_ok`; tris likewise), so the live tets are, as a multiset, `before − listed + newTets`.
  `OrderInv` is the form of "the walk in registration order gives the live cells" that `ref_cell_add` keeps; the
  `having` lemmas relate `each_ref_cell_having_node` to that walk.  A `VISIBLE` verdict of `ref_cavity_check_visible`
  means every new tet passed the `min_volume` test.
-/
namespace Refine.Lemmas.Cavity
open Refine.Model.Cavity

section cells
variable {α β : Type}

theorem Cells.get?_eq (s : Cells β) (cell : Int) :
    s.get? cell = if cell < 0 then none else s.slots.rows.getD cell.toNat none := rfl

theorem Cells.get?_row {s : Cells β} {cell : Int} {t : β} (h : s.get? cell = some t) :
    ¬ cell < 0 ∧ s.slots.rows.getD cell.toNat none = some t := by
  rw [Cells.get?_eq] at h
  split at h
  · cases h
  · exact ⟨‹_›, h⟩

theorem Cells.mem_valid_of_get? {s : Cells β} {cell : Int} {t : β} (h : s.get? cell = some t) : t ∈ s.valid := by
  have hrow := (Cells.get?_row h).2
  simp only [Cells.valid, Slots.valid, List.reduceOption, List.mem_filterMap, id]
  refine ⟨some t, ?_, rfl⟩
  rw [← hrow, ListFacts.getD_eq_getElem (getD_lt_of_some _ _ _ hrow)]
  exact List.getElem_mem _

theorem Cells.add_spec (s : Cells β) (x : β) (hinv : SlotsInv s.slots) :
    SlotsInv (s.add x).1.slots ∧ (s.add x).1.valid.Perm (x :: s.valid) ∧
    (∀ cell t, s.get? cell = some t → (s.add x).1.get? cell = some t) ∧
    (∀ cell t, (s.add x).1.get? cell = some t → s.get? cell = some t ∨ t = x) := by
  obtain ⟨hi, hp, hk, hb⟩ := Slots.add_spec s.slots 5000 (by decide) x hinv
  refine ⟨hi, hp, fun cell t h => ?_, fun cell t h => ?_⟩
  · obtain ⟨hneg, hrow⟩ := Cells.get?_row h
    rw [Cells.get?_eq, if_neg hneg]; exact hk _ _ hrow
  · obtain ⟨hneg, hrow⟩ := Cells.get?_row h
    rw [Cells.get?_eq, if_neg hneg]; exact hb _ _ hrow

theorem Cells.remove_spec (s : Cells β) (cell : Int) (t : β) (hinv : SlotsInv s.slots) (h : s.get? cell = some t) :
    SlotsInv (s.remove cell.toNat).slots ∧ s.valid.Perm (t :: (s.remove cell.toNat).valid) ∧
    (∀ c x, (s.remove cell.toNat).get? c = some x → s.get? c = some x) := by
  obtain ⟨hi, hp, hb⟩ := Slots.remove_spec s.slots cell.toNat t hinv (Cells.get?_row h).2
  refine ⟨hi, hp, fun c x hx => ?_⟩
  obtain ⟨hneg, hrow⟩ := Cells.get?_row hx
  rw [Cells.get?_eq, if_neg hneg]; exact hb _ _ hrow

def Cells.addAll (s : Cells β) (xs : List β) : Cells β := xs.foldl (fun s x => (s.add x).1) s

def Cells.removeAll (s : Cells β) : List Int → Option (Cells β)
  | [] => some s
  | c :: rest => match s.get? c with
    | none => none
    | some _ => Cells.removeAll (s.remove c.toNat) rest

theorem Cells.addAll_spec (s : Cells β) (xs : List β) (hinv : SlotsInv s.slots) :
    SlotsInv (Cells.addAll s xs).slots ∧ (Cells.addAll s xs).valid.Perm (xs ++ s.valid) ∧
    (∀ cell t, s.get? cell = some t → (Cells.addAll s xs).get? cell = some t) ∧
    (∀ cell t, (Cells.addAll s xs).get? cell = some t → s.get? cell = some t ∨ t ∈ xs) := by
  induction xs generalizing s with
  | nil => exact ⟨hinv, by simp [Cells.addAll], fun _ _ h => h, fun _ _ h => Or.inl h⟩
  | cons x rest ih =>
    obtain ⟨hi1, hp1, hk1, hb1⟩ := Cells.add_spec s x hinv
    obtain ⟨hi2, hp2, hk2, hb2⟩ := ih (s.add x).1 hi1
    refine ⟨hi2, hp2.trans ((List.Perm.append_left rest hp1).trans (by simp)),
      fun cell t h => hk2 cell t (hk1 cell t h), fun cell t h => ?_⟩
    rcases hb2 cell t h with h1 | h1
    · exact (hb1 cell t h1).imp_right fun e => List.mem_cons.mpr (Or.inl e)
    · exact Or.inr (List.mem_cons_of_mem _ h1)

theorem Cells.removeAll_spec (s s' : Cells β) (cells : List Int) (hinv : SlotsInv s.slots)
    (h : Cells.removeAll s cells = some s') :
    SlotsInv s'.slots ∧
    (∃ removed, List.Forall₂ (fun cell t => s.get? cell = some t) cells removed ∧ s.valid.Perm (removed ++ s'.valid)) ∧
    (∀ cell t, s'.get? cell = some t → s.get? cell = some t) := by
  induction cells generalizing s with
  | nil =>
    simp only [Cells.removeAll, Option.some.injEq] at h; subst h
    exact ⟨hinv, ⟨[], List.Forall₂.nil, by simp⟩, fun _ _ h => h⟩
  | cons cell rest ih =>
    unfold Cells.removeAll at h
    split at h
    · cases h
    · next t hget =>
      obtain ⟨hi1, hp1, back⟩ := Cells.remove_spec s cell t hinv hget
      obtain ⟨hi2, ⟨removed, hf, hp2⟩, hb2⟩ := ih _ hi1 h
      exact ⟨hi2, ⟨t :: removed, List.Forall₂.cons hget (hf.imp (fun {c x} hx => back c x hx)),
        hp1.trans (List.Perm.cons t hp2)⟩, fun c x hx => back c x (hb2 c x hx)⟩

theorem addNewTets_eq (g g1 : Grid α) (ts : List Tet) (h : addNewTets g ts = (.ok, g1)) :
    g1 = { g with tets := Cells.addAll g.tets ts } := by
  revert h
  fun_induction addNewTets g ts <;> intro h
  · cases h; rfl
  · cases h
  · next ih => exact ih h

theorem addNewTris_eq (g g1 : Grid α) (ts : List Tri) (h : addNewTris g ts = (.ok, g1)) :
    g1 = { g with tris := Cells.addAll g.tris ts } := by
  revert h
  fun_induction addNewTris g ts <;> intro h
  · cases h; rfl
  · cases h
  · next ih => exact ih h

theorem rmTets_eq (g g2 : Grid α) (acc acc' : List Int) (cells : List Int)
    (h : rmTets g acc cells = (.ok, g2, acc')) :
    ∃ s', Cells.removeAll g.tets cells = some s' ∧ g2 = { g with tets := s' } := by
  revert h
  fun_induction rmTets g acc cells <;> intro h
  · cases h; exact ⟨_, rfl, rfl⟩
  · cases h
  · cases h
  · next hget _ _ ih => simpa [Cells.removeAll, hget] using ih h

theorem rmTris_eq (g g2 : Grid α) (acc acc' : List Int) (cells : List Int)
    (h : rmTris g acc cells = (.ok, g2, acc')) :
    ∃ s', Cells.removeAll g.tris cells = some s' ∧ g2 = { g with tris := s' } := by
  revert h
  fun_induction rmTris g acc cells <;> intro h
  · cases h; exact ⟨_, rfl, rfl⟩
  · cases h
  · cases h
  · next hget _ _ ih => simpa [Cells.removeAll, hget] using ih h

end cells

section rest
variable {α : Type}

theorem notok {A : Type} {s : Refine.Model.Cavity.St} {a b : A} (h : (s, a) = (Refine.Model.Cavity.St.ok, b))
    (hs : s ≠ .ok) : False := hs (congrArg Prod.fst h)

theorem rmNodes_cells (g : Grid α) (vs : List Int) :
    (rmNodes g vs).tets = g.tets ∧ (rmNodes g vs).tris = g.tris := by
  fun_induction rmNodes g vs <;> first | exact ⟨rfl, rfl⟩ | assumption

theorem edgReplaceNode_cells (g : Grid α) (a b : Int) :
    (edgReplaceNode g a b).tets = g.tets ∧ (edgReplaceNode g a b).tris = g.tris := by
  unfold edgReplaceNode; split <;> exact ⟨rfl, rfl⟩

theorem replaceEdgs_cells (g : Grid α) (c : Cav) :
    (replaceEdgs g c).tets = g.tets ∧ (replaceEdgs g c).tris = g.tris := by
  unfold replaceEdgs
  simp only
  repeat' split
  all_goals first
    | exact ⟨rfl, rfl⟩
    | exact ⟨(edgReplaceNode_cells _ _ _).1, (edgReplaceNode_cells _ _ _).2⟩

theorem verifyFaceManifold_cases (c : Cav) :
    verifyFaceManifold c = (.ok, c) ∨ verifyFaceManifold c = (.ok, { c with state := .inconsistent }) ∨
    verifyFaceManifold c = (.failure, c) := by
  unfold verifyFaceManifold
  split
  · left; rfl
  · split
    · left; rfl
    · right; left; rfl
    · right; right; rfl

theorem verifySegManifold_cases (c : Cav) :
    verifySegManifold c = (.ok, c) ∨ verifySegManifold c = (.ok, { c with state := .inconsistent }) ∨
    verifySegManifold c = (.failure, c) := by
  unfold verifySegManifold
  split
  · left; rfl
  · split
    · left; rfl
    · right; left; rfl
    · right; right; rfl

theorem replace_ok (g g' : Grid α) (c c' : Cav) (h : replace g c = (.ok, c', g')) :
    c' = c ∧ c.state = .visible ∧ verifyFaceManifold c = (.ok, c) ∧ verifySegManifold c = (.ok, c) ∧
    Cells.removeAll (Cells.addAll g.tets (newTets c)) c.tetList = some g'.tets ∧
    Cells.removeAll (Cells.addAll g.tris (newTris c)) c.triList = some g'.tris := by
  revert h
  fun_cases replace g c <;> intro h
  -- the branches that answer another status, or hand on one that is not `ok`
  all_goals try (cases h; done)
  all_goals try (exact (‹_ = St.ok → False› (congrArg Prod.fst h)).elim)
  next hvis0 c1 hf c2 hs hvis2 _ g1 h1 g2 h2 g3 acc1 h3 g4 acc2 h4 _ _ _ _ _ =>
  have hvis : c.state = .visible := by simpa using hvis0
  have hc2v : c2.state = .visible := by simpa using hvis2
  -- neither verification flagged the cavity: both returned it unchanged
  obtain rfl : c1 = c := by
    rcases verifyFaceManifold_cases c with e | e | e <;> rw [e] at hf <;> cases hf
    · rfl
    · have : verifySegManifold { c with state := .inconsistent } = (.ok, { c with state := .inconsistent }) := by
        unfold verifySegManifold; simp
      rw [this] at hs; cases hs; cases hc2v
  obtain rfl : c2 = c1 := by
    rcases verifySegManifold_cases c1 with e | e | e <;> rw [e] at hs <;> cases hs
    · rfl
    · cases hc2v
  simp only [Prod.mk.injEq, true_and] at h
  obtain ⟨rfl, rfl⟩ := h
  obtain rfl := addNewTets_eq _ _ _ h1
  obtain rfl := addNewTris_eq _ _ _ h2
  obtain ⟨ts, e3, rfl⟩ := rmTets_eq _ _ _ _ _ h3
  obtain ⟨rs, e4, rfl⟩ := rmTris_eq _ _ _ _ _ h4
  rw [(replaceEdgs_cells _ _).1, (replaceEdgs_cells _ _).2, (rmNodes_cells _ _).1, (rmNodes_cells _ _).2]
  exact ⟨rfl, hvis, hf, hs, e3, e4⟩

end rest

section visible
open Refine Refine.Model.Geom
variable {α : Type} [Scalar α]

theorem checkVisibleLoop_true (g : Grid α) (node : Int) (fs : List Face)
    (h : checkVisibleLoop g node fs = some true) :
    ∀ f ∈ fs, f.has node = false →
      ∃ v, tetVolAt g f.n0 f.n1 f.n2 node = some v ∧ (v <=. (minVolume : α)) = false := by
  revert h
  fun_induction checkVisibleLoop g node fs <;> intro h
  · simp
  · next f t hhas ih =>
    simp only [List.forall_mem_cons, hhas, reduceCtorEq, false_imp_iff, true_and]; exact ih h
  · cases h
  · cases h
  · next f t hhas v hv hle ih =>
    simp only [List.forall_mem_cons]
    exact ⟨fun _ => ⟨v, hv, by simpa using hle⟩, ih h⟩

theorem checkVisible_visible (g : Grid α) (c c' : Cav) (s : Refine.Model.Cavity.St) (h : checkVisible g c = (s, c'))
    (h0 : c.state = .unknown) (h1 : c'.state = .visible) :
    s = .ok ∧ c' = { c with state := .visible } ∧ checkVisibleLoop g c.node c.validFaces = some true := by
  unfold checkVisible at h
  split at h
  · simp only [Prod.mk.injEq] at h; rw [← h.2, h0] at h1; cases h1
  · rw [if_neg (by simp [h0])] at h
    cases hl : checkVisibleLoop g c.node c.validFaces with
    | none => rw [hl] at h; simp only [Prod.mk.injEq] at h; rw [← h.2, h0] at h1; cases h1
    | some b =>
      rw [hl] at h
      cases b with
      | true => simp only [Prod.mk.injEq] at h; exact ⟨h.1.symm, h.2.symm, rfl⟩
      | false => simp only [Prod.mk.injEq] at h; rw [← h.2] at h1; cases h1

end visible

end Refine.Lemmas.Cavity

/-! The registration order of a cell store and the walks around a node (`each_ref_cell_having_node`), in the namespace
    of the `Cavity2*` lemma files, which state their hypotheses with them. -/
namespace Refine.Lemmas.Cavity2
open Refine.Model.Cavity Refine.Lemmas.Cavity

def walk {β : Type} (s : Cells β) : List β := s.order.filterMap fun c => s.slots.rows.getD c none

/-- the adjacency side of a cell store is consistent with its rows: walking the registration order and looking the
    cells up gives the live cells (as a multiset).  True of a store built by `ref_cell_add` (`OrderInv.create`, `.add`,
    `.orderOK`; `ref_cell_remove` keeps `OrderInv` too, not proved here); here a hypothesis on the input grid. -/
def OrderOK {β : Type} (s : Cells β) : Prop :=
  (s.order.filterMap fun c => s.slots.rows.getD c none).Perm s.valid

variable {β : Type}

/-- the registration order lists exactly the live rows, each once: the form of `OrderOK` that `ref_cell_add` keeps
    (`OrderOK` alone is not kept: a stale entry of `order` naming a blank row comes alive when the row is taken) -/
structure OrderInv (s : Cells β) : Prop where
  nodup : s.order.Nodup
  live : ∀ c, c ∈ s.order ↔ ∃ x, s.slots.rows.getD c none = some x

theorem OrderInv.create : OrderInv (Cells.create : Cells β) := by
  refine ⟨List.nodup_nil, fun c => ⟨fun h => (by cases h), fun ⟨x, hx⟩ => ?_⟩⟩
  have : (List.replicate 100 (none : Option β)).getD c none = none := by
    rw [List.getD_eq_getElem?_getD, List.getElem?_replicate]; split <;> rfl
  rw [show (Cells.create : Cells β).slots.rows = List.replicate 100 none from rfl, this] at hx
  cases hx

/-- `ref_cell_add`: the new cell takes a blank row, which was not registered -/
theorem OrderInv.add {s : Cells β} (h : OrderInv s) (hinv : SlotsInv s.slots) (x : β) : OrderInv (s.add x).1 := by
  obtain ⟨i, rest, _, e0, hi', hblank⟩ := Slots.add_eq s.slots 5000 (by decide) x hinv
  have e : (s.add x).1 = ⟨⟨(s.slots.grow 5000).rows.set i (some x), rest⟩, i :: s.order⟩ := by
    simp only [Cells.add, e0]
  have hnot : i ∉ s.order := fun hm => by
    obtain ⟨y, hy⟩ := (h.live i).mp hm
    rw [hblank] at hy; cases hy
  refine ⟨by rw [e]; exact List.nodup_cons.mpr ⟨hnot, h.nodup⟩, fun c => ?_⟩
  rw [e]
  simp only [List.mem_cons]
  by_cases hc : c = i
  · subst hc
    exact ⟨fun _ => ⟨x, ListFacts.getD_set_self _ _ _ hi'⟩, fun _ => Or.inl rfl⟩
  · rw [ListFacts.getD_set_ne _ _ _ (Ne.symm hc), Slots.grow_getD, ← h.live c]
    exact ⟨fun h' => h'.resolve_left hc, Or.inr⟩

theorem rows_eq_map_range (rows : List (Option β)) :
    rows = (List.range rows.length).map fun i => rows.getD i none := by
  apply List.ext_getElem (by simp)
  intro i h1 h2
  simp [List.getD_eq_getElem?_getD, h1]

theorem OrderInv.orderOK {s : Cells β} (h : OrderInv s) : OrderOK s := by
  unfold OrderOK Cells.valid Slots.valid
  -- the live slot numbers in increasing order: a duplicate-free list with the members of `order`
  have hp : s.order.Perm ((List.range s.slots.rows.length).filter fun c => (s.slots.rows.getD c none).isSome) := by
    refine (List.perm_ext_iff_of_nodup h.nodup (List.nodup_range.filter _)).mpr fun c => ?_
    rw [h.live c, List.mem_filter, List.mem_range, Option.isSome_iff_exists]
    exact ⟨fun ⟨x, hx⟩ => ⟨getD_lt_of_some _ _ _ hx, x, hx⟩, fun hc => hc.2⟩
  refine (hp.filterMap _).trans (List.Perm.of_eq ?_)
  conv_rhs => rw [rows_eq_map_range s.slots.rows]
  rw [List.reduceOption, List.filterMap_map, List.filterMap_filter]
  refine List.filterMap_congr fun c _ => ?_
  simp only [Function.comp, id]
  cases hr : s.slots.rows.getD c none <;> simp

theorem mem_having_iff {β : Type} (s : Cells β) (nodes : β → List Int) (v : Int) (i : Nat) (x : β) :
    (i, x) ∈ s.having nodes v ↔ i ∈ s.order ∧ s.slots.rows.getD i none = some x ∧ (nodes x).contains v = true := by
  simp only [Cells.having, List.mem_filterMap]
  refine ⟨fun ⟨c, hc, hx⟩ => ?_, fun ⟨hc, hrow, hh⟩ => ⟨i, hc, by simp only [hrow, hh, if_true]⟩⟩
  split at hx
  · split at hx
    · cases hx; exact ⟨hc, ‹_›, ‹_›⟩
    · cases hx
  · cases hx

theorem having_get {β : Type} (s : Cells β) (nodes : β → List Int) (v : Int) (p : Nat × β)
    (hp : p ∈ s.having nodes v) : s.get? (p.1 : Int) = some p.2 := by
  rw [Cells.get?_eq, if_neg (by omega), Int.toNat_natCast]
  exact ((mem_having_iff s nodes v p.1 p.2).mp hp).2.1

theorem having2_get {β : Type} (s : Cells β) (nodes : β → List Int) (v w : Int) (p : Nat × β)
    (hp : p ∈ s.having2 nodes v w) : s.get? (p.1 : Int) = some p.2 :=
  having_get s nodes v p (List.mem_filter.mp hp).1

theorem having_eq {β : Type} (s : Cells β) (nodes : β → List Int) (v : Int) :
    (s.having nodes v).map (·.2) = (walk s).filter fun x => (nodes x).contains v := by
  rw [Cells.having, walk, List.map_filterMap, List.filter_filterMap]
  refine List.filterMap_congr fun c _ => ?_
  cases s.slots.rows.getD c none with
  | none => rfl
  | some x =>
    cases h : (nodes x).contains v <;>
      simp only [h, Option.filter_some, Option.map_some, Option.map_none, if_true, if_false, Bool.false_eq_true]

theorem having2_eq {β : Type} (s : Cells β) (nodes : β → List Int) (v w : Int) :
    (s.having2 nodes v w).map (·.2) =
      (walk s).filter fun x => (nodes x).contains v && (nodes x).contains w := by
  have e : (s.having2 nodes v w).map (·.2) = ((s.having nodes v).map (·.2)).filter fun x => (nodes x).contains w := by
    rw [List.filter_map]; rfl
  rw [e, having_eq, List.filter_filter]
  exact List.filter_congr fun x _ => Bool.and_comm _ _

end Refine.Lemmas.Cavity2
