import Refine.Lemmas.SearchTree
import Refine.Lemmas.GeomReal

/-!
  `ref_search_distance2` over `ℝ`.  Along the line of the segment the squared distance is a quadratic in the parameter
  (`sqd_lerp`), and clamping its minimiser to `[0,1]` minimises it over the segment (`quad_clamp`).  When the
  `ref_math_divisible` guard fails the C returns the distance to the first end point; by Cauchy–Schwarz the segment is then
  shorter than `1e-20` times that distance (`seg_short_of_not_guard`), so the value is within relative `1e-20` of the
  minimum: `segSlack`.  Also here: balls are convex (`comb_in_ball`), and `ref_node_bounding_sphere_xyz` contains every vertex.
-/
namespace Refine.Lemmas.Search
open Refine Refine.Model.Geom Refine.Model.Search Refine.ScalarReal

def lerp (a b : V3 ℝ) (t : ℝ) : V3 ℝ :=
  ⟨a.x + t * (b.x - a.x), a.y + t * (b.y - a.y), a.z + t * (b.z - a.z)⟩

def comb3 (a b c : V3 ℝ) (u v w : ℝ) : V3 ℝ :=
  ⟨u * a.x + v * b.x + w * c.x, u * a.y + v * b.y + w * c.y, u * a.z + v * b.z + w * c.z⟩

def OnSeg (a b y : V3 ℝ) : Prop := ∃ t : ℝ, 0 ≤ t ∧ t ≤ 1 ∧ y = lerp a b t

def InTri (a b c y : V3 ℝ) : Prop :=
  ∃ u v w : ℝ, 0 ≤ u ∧ 0 ≤ v ∧ 0 ≤ w ∧ u + v + w = 1 ∧ y = comb3 a b c u v w

theorem lerp_zero (a b : V3 ℝ) : lerp a b 0 = a := by
  apply GeomReal.V3.ext' <;> simp [lerp]

theorem lerp_one (a b : V3 ℝ) : lerp a b 1 = b := by
  apply GeomReal.V3.ext' <;> simp [lerp]

theorem onSeg_left (a b : V3 ℝ) : OnSeg a b a := ⟨0, le_refl _, zero_le_one, (lerp_zero a b).symm⟩
theorem onSeg_right (a b : V3 ℝ) : OnSeg a b b := ⟨1, zero_le_one, le_refl _, (lerp_one a b).symm⟩

/-- `len2 = dl·dl` -/
def segL (p0 p1 : V3 ℝ) : ℝ :=
  (p1.x - p0.x) * (p1.x - p0.x) + (p1.y - p0.y) * (p1.y - p0.y) + (p1.z - p0.z) * (p1.z - p0.z)

/-- `proj2 = (x - p0)·dl` -/
def segP (p0 p1 x : V3 ℝ) : ℝ :=
  (x.x - p0.x) * (p1.x - p0.x) + (x.y - p0.y) * (p1.y - p0.y) + (x.z - p0.z) * (p1.z - p0.z)

/-- the guard `ref_math_divisible(proj2, len2)` of `ref_search_distance2` -/
def SegGuard (p0 p1 x : V3 ℝ) : Prop := Scalar.divisible (segP p0 p1 x) (segL p0 p1) = true

theorem segL_eq_sqd (p0 p1 : V3 ℝ) : segL p0 p1 = sqd p0 p1 := by unfold segL sqd; ring

theorem segL_nonneg (p0 p1 : V3 ℝ) : 0 ≤ segL p0 p1 := segL_eq_sqd p0 p1 ▸ sqd_nonneg p0 p1

theorem dist2seg_eq (p0 p1 x : V3 ℝ) :
    dist2seg p0 p1 x =
      if Scalar.divisible (segP p0 p1 x) (segL p0 p1) = true
      then edist x (lerp p0 p1 (min (max (segP p0 p1 x / segL p0 p1) 0) 1))
      else edist x p0 := by
  unfold dist2seg
  simp only [vsub, dot, add_eq, sub_eq, mul_eq, div_eq, sqrt_eq, cmax_eq, cmin_eq, zero_eq, one_eq]
  change (if Scalar.divisible (segP p0 p1 x) (segL p0 p1) = true then _ else _) = _
  by_cases h : Scalar.divisible (segP p0 p1 x) (segL p0 p1) = true
  · rw [if_pos h, if_pos h]
    unfold edist sqd lerp segP segL
    congr 1
    ring
  · rw [if_neg h, if_neg h]
    unfold edist sqd
    congr 1
    ring

theorem sqd_lerp (p0 p1 x : V3 ℝ) (t : ℝ) :
    sqd x (lerp p0 p1 t) = sqd x p0 - 2 * t * segP p0 p1 x + t ^ 2 * segL p0 p1 := by
  unfold sqd lerp segP segL; ring

theorem sqd_lerp_left (p0 p1 : V3 ℝ) (t : ℝ) : sqd p0 (lerp p0 p1 t) = t ^ 2 * segL p0 p1 := by
  unfold sqd lerp segL; ring

/-- `ref_search_xyz_normal` over `ℝ`: `(p1-p0) × (p2-p0)` -/
def nrm (p0 p1 p2 : V3 ℝ) : V3 ℝ :=
  ⟨(p1.y - p0.y) * (p2.z - p0.z) - (p1.z - p0.z) * (p2.y - p0.y),
   (p1.z - p0.z) * (p2.x - p0.x) - (p1.x - p0.x) * (p2.z - p0.z),
   (p1.x - p0.x) * (p2.y - p0.y) - (p1.y - p0.y) * (p2.x - p0.x)⟩

/-- Lagrange identity `|a × b|² = (a·a)(b·b) - (a·b)²` -/
theorem nrm_sq (p0 p1 p2 : V3 ℝ) :
    GeomReal.vdot (nrm p0 p1 p2) (nrm p0 p1 p2) = segL p0 p1 * segL p0 p2 - segP p0 p1 p2 ^ 2 := by
  unfold GeomReal.vdot nrm segL segP; ring

/-- Cauchy–Schwarz in coordinates: the Lagrange identity with `x` as the third point -/
theorem segP_sq_le (p0 p1 x : V3 ℝ) : segP p0 p1 x ^ 2 ≤ sqd x p0 * segL p0 p1 := by
  have h := nrm_sq p0 p1 x
  rw [segL_eq_sqd p0 x, sqd_comm p0 x] at h
  nlinarith [GeomReal.vdot_self_nonneg (nrm p0 p1 x)]

/-- clamping the unconstrained minimiser of a convex quadratic to `[0,1]` minimises it over `[0,1]` -/
theorem quad_clamp {D P L : ℝ} (hL : 0 < L) (s : ℝ) (hs0 : 0 ≤ s) (hs1 : s ≤ 1) :
    D - 2 * (min (max (P / L) 0) 1) * P + (min (max (P / L) 0) 1) ^ 2 * L ≤ D - 2 * s * P + s ^ 2 * L := by
  -- with `P = r L` the difference of the two sides is `(s - t) (s + t - 2 r) L`
  obtain ⟨r, rfl⟩ : ∃ r, P = r * L := ⟨P / L, (div_mul_cancel₀ P hL.ne').symm⟩
  rw [mul_div_cancel_right₀ r hL.ne']
  have key : ∀ t, (D - 2 * s * (r * L) + s ^ 2 * L) - (D - 2 * t * (r * L) + t ^ 2 * L) =
      (s - t) * (s + t - 2 * r) * L := fun t => by ring
  rw [← sub_nonneg, key]
  refine mul_nonneg ?_ hL.le
  rcases le_total r 0 with h0 | h0
  · rw [max_eq_right h0, min_eq_left zero_le_one]
    exact mul_nonneg (by linarith) (by linarith)
  · rw [max_eq_left h0]
    rcases le_total r 1 with h1 | h1
    · rw [min_eq_left h1]
      exact (mul_self_nonneg (s - r)).trans_eq (by ring)
    · rw [min_eq_right h1]
      exact mul_nonneg_of_nonpos_of_nonpos (by linarith) (by linarith)

/-- the value of `ref_search_distance2` is the distance to a point of the segment (both branches) -/
theorem dist2seg_attained (p0 p1 x : V3 ℝ) : ∃ y, OnSeg p0 p1 y ∧ dist2seg p0 p1 x = edist x y := by
  rw [dist2seg_eq]
  by_cases h : Scalar.divisible (segP p0 p1 x) (segL p0 p1) = true
  · rw [if_pos h]
    refine ⟨lerp p0 p1 _, ⟨_, ?_, ?_, rfl⟩, rfl⟩
    · exact le_min (le_max_right _ _) zero_le_one
    · exact min_le_right _ _
  · rw [if_neg h]
    exact ⟨p0, onSeg_left p0 p1, rfl⟩

theorem dist2seg_nonneg (p0 p1 x : V3 ℝ) : 0 ≤ dist2seg p0 p1 x := by
  obtain ⟨y, _, h⟩ := dist2seg_attained p0 p1 x
  rw [h]; exact edist_nonneg _ _

theorem dist2seg_le_of_guard (p0 p1 x : V3 ℝ) (h : SegGuard p0 p1 x) (y : V3 ℝ) (hy : OnSeg p0 p1 y) :
    dist2seg p0 p1 x ≤ edist x y := by
  obtain ⟨s, hs0, hs1, rfl⟩ := hy
  rw [dist2seg_eq, if_pos (show Scalar.divisible (segP p0 p1 x) (segL p0 p1) = true from h)]
  apply edist_le_of_sqd_le
  rw [sqd_lerp, sqd_lerp]
  have hL : 0 < segL p0 p1 := lt_of_le_of_ne (segL_nonneg _ _) (Ne.symm (divisible_ne_zero h))
  exact quad_clamp hL s hs0 hs1

theorem dist2seg_le_of_degenerate (p0 x : V3 ℝ) (y : V3 ℝ) (hy : OnSeg p0 p0 y) :
    dist2seg p0 p0 x ≤ edist x y := by
  obtain ⟨s, _, _, rfl⟩ := hy
  have hy : lerp p0 p0 s = p0 := by apply GeomReal.V3.ext' <;> simp [lerp]
  rw [hy, dist2seg_eq]
  have h0 : segL p0 p0 = 0 := by unfold segL; ring
  have hg : ¬ Scalar.divisible (segP p0 p0 x) (segL p0 p0) = true := fun h => divisible_ne_zero h h0
  rw [if_neg hg]

/-- the relative slack `1e-20` of the `ref_math_divisible` guard -/
noncomputable def eps20 : ℝ := 1 / 10 ^ 20

theorem eps20_pos : 0 < eps20 := by unfold eps20; positivity
theorem eps20_lt_one : eps20 < 1 := by unfold eps20; norm_num

/-- when the guard fails, the segment is shorter than `1e-20` times the distance to its first end point -/
theorem seg_short_of_not_guard (p0 p1 x : V3 ℝ) (h : ¬ SegGuard p0 p1 x) :
    edist p0 p1 ≤ eps20 * edist x p0 := by
  have hL := segL_nonneg p0 p1
  -- the failed guard and Cauchy–Schwarz: `(1e20 L)² ≤ P² ≤ D L`
  have h1 : |(1 : ℝ) * 10 ^ (20 : ℤ) * segL p0 p1| ≤ |segP p0 p1 x| :=
    not_lt.mp (mt (divisible_iff _ _).mpr h)
  have h2 : (1 * 10 ^ (20 : ℤ) * segL p0 p1) ^ 2 ≤ sqd x p0 * segL p0 p1 :=
    (sq_le_sq.mpr h1).trans (segP_sq_le p0 p1 x)
  have h3 : segL p0 p1 ≤ eps20 ^ 2 * sqd x p0 := by
    rcases hL.eq_or_lt with h0 | hpos
    · rw [← h0]; exact mul_nonneg (sq_nonneg _) (sqd_nonneg _ _)
    · have : 10 ^ 40 * segL p0 p1 ≤ sqd x p0 := le_of_mul_le_mul_right (h2.trans_eq' (by norm_num; ring)) hpos
      unfold eps20
      rw [div_pow, one_pow, div_mul_eq_mul_div, one_mul, le_div_iff₀ (by positivity)]
      linarith
  unfold edist
  rw [← segL_eq_sqd]
  exact (Real.sqrt_le_sqrt h3).trans_eq (by rw [Real.sqrt_mul (sq_nonneg _), Real.sqrt_sq eps20_pos.le])

theorem edist_left_lerp_le (p0 p1 : V3 ℝ) (s : ℝ) (hs0 : 0 ≤ s) (hs1 : s ≤ 1) :
    edist p0 (lerp p0 p1 s) ≤ edist p0 p1 := by
  apply edist_le_of_sqd_le
  rw [sqd_lerp_left, ← segL_eq_sqd]
  nlinarith [segL_nonneg p0 p1, mul_nonneg hs0 (segL_nonneg p0 p1)]

theorem dist2seg_near (p0 p1 x : V3 ℝ) (y : V3 ℝ) (hy : OnSeg p0 p1 y) :
    (1 - eps20) * dist2seg p0 p1 x ≤ edist x y := by
  by_cases h : SegGuard p0 p1 x
  · have h1 := dist2seg_le_of_guard p0 p1 x h y hy
    have h2 := dist2seg_nonneg p0 p1 x
    nlinarith [eps20_pos]
  · have hv : dist2seg p0 p1 x = edist x p0 := by
      rw [dist2seg_eq, if_neg (show ¬ Scalar.divisible (segP p0 p1 x) (segL p0 p1) = true from h)]
    obtain ⟨s, hs0, hs1, rfl⟩ := hy
    have h1 := seg_short_of_not_guard p0 p1 x h
    have h2 := edist_left_lerp_le p0 p1 s hs0 hs1
    have h3 := edist_triangle x (lerp p0 p1 s) p0
    rw [edist_comm (lerp p0 p1 s) p0] at h3
    rw [hv]
    linarith

/-- the guard passes whenever the query is closer than `1e20` segment lengths to the first end point -/
theorem segGuard_of_close (p0 p1 x : V3 ℝ) (h : eps20 * edist x p0 < edist p0 p1) : SegGuard p0 p1 x := by
  by_contra hn
  exact absurd (seg_short_of_not_guard p0 p1 x hn) (not_le.mpr h)

open Classical in
/-- relative slack of `ref_search_distance2`: `1` when the divisible guard passes or the segment has zero
    length (the value is then the exact minimum), `1 - 1e-20` in the remaining far-field branch -/
noncomputable def segSlack (p0 p1 x : V3 ℝ) : ℝ := if SegGuard p0 p1 x ∨ p0 = p1 then 1 else 1 - eps20

theorem segSlack_le_one (p0 p1 x : V3 ℝ) : segSlack p0 p1 x ≤ 1 := by
  unfold segSlack; split_ifs
  · exact le_refl _
  · linarith [eps20_pos]

theorem segSlack_ge (p0 p1 x : V3 ℝ) : 1 - eps20 ≤ segSlack p0 p1 x := by
  unfold segSlack; split_ifs
  · linarith [eps20_pos]
  · exact le_refl _

theorem segSlack_pos (p0 p1 x : V3 ℝ) : 0 < segSlack p0 p1 x :=
  lt_of_lt_of_le (by linarith [eps20_lt_one]) (segSlack_ge p0 p1 x)

theorem segSlack_eq_one {p0 p1 x : V3 ℝ} (h : SegGuard p0 p1 x ∨ p0 = p1) : segSlack p0 p1 x = 1 := by
  unfold segSlack; rw [if_pos h]

theorem segSlack_mul_le (p0 p1 x y : V3 ℝ) (hy : OnSeg p0 p1 y) :
    segSlack p0 p1 x * dist2seg p0 p1 x ≤ edist x y := by
  unfold segSlack
  split_ifs with h
  · rw [one_mul]
    rcases h with h | h
    · exact dist2seg_le_of_guard p0 p1 x h y hy
    · subst h; exact dist2seg_le_of_degenerate p0 x y hy
  · exact dist2seg_near p0 p1 x y hy

/-- balls are convex -/
theorem comb_in_ball {n : Nat} (c : V3 ℝ) (r : ℝ) (w : Fin n → ℝ) (p : Fin n → V3 ℝ) (hw : ∀ i, 0 ≤ w i)
    (hs : ∑ i, w i = 1) (hp : ∀ i, edist c (p i) ≤ r) (y : V3 ℝ) (hy : toE y = ∑ i, w i • toE (p i)) :
    edist c y ≤ r := by
  rw [edist_eq_dist, dist_comm, ← Metric.mem_closedBall, hy]
  refine (convex_closedBall (toE c) r).sum_mem (fun i _ => hw i) hs fun i _ => ?_
  rw [Metric.mem_closedBall, dist_comm, ← edist_eq_dist]
  exact hp i

/-- `y` lies in every ball that contains `pts`: all that is used of a point of their convex hull -/
def InEveryBall (pts : List (V3 ℝ)) (y : V3 ℝ) : Prop := ∀ c r, (∀ p ∈ pts, edist c p ≤ r) → edist c y ≤ r

theorem onSeg_in_ball {a b y : V3 ℝ} (hy : OnSeg a b y) : InEveryBall [a, b] y := by
  intro c r h
  obtain ⟨t, h0, h1, rfl⟩ := hy
  refine comb_in_ball c r ![1 - t, t] ![a, b] (fun i => by fin_cases i <;> simp [h0, h1]) (by simp)
    (fun i => by fin_cases i <;> exact h _ (by simp)) _ ?_
  ext i; fin_cases i <;> simp [toE, lerp] <;> ring

theorem inTri_in_ball {p0 p1 p2 y : V3 ℝ} (hy : InTri p0 p1 p2 y) : InEveryBall [p0, p1, p2] y := by
  intro c r h
  obtain ⟨u, v, w, hu, hv, hw, hs, rfl⟩ := hy
  refine comb_in_ball c r ![u, v, w] ![p0, p1, p2] (fun i => by fin_cases i <;> assumption)
    (by simpa [Fin.sum_univ_three] using hs) (fun i => by fin_cases i <;> exact h _ (by simp)) _ ?_
  ext i; fin_cases i <;> simp [toE, comb3, Fin.sum_univ_three]

theorem sphereTerm_eq (c p : V3 ℝ) : sphereTerm c p = edist c p := by
  unfold sphereTerm edist sqd
  simp only [add_eq, sub_eq, mul_eq, sqrt_eq]
  congr 1; ring

/-- the running maximum of `ref_node_bounding_sphere_xyz` is the least upper bound of its start value and the distances -/
theorem foldl_cmax_le_iff (c : V3 ℝ) (pts : List (V3 ℝ)) (r0 t : ℝ) :
    pts.foldl (fun r p => Scalar.cmax r (sphereTerm c p)) r0 ≤ t ↔ r0 ≤ t ∧ ∀ p ∈ pts, edist c p ≤ t := by
  induction pts generalizing r0 with
  | nil => simp
  | cons q pts ih =>
    rw [List.foldl_cons, ih, cmax_eq, sphereTerm_eq, max_le_iff, List.forall_mem_cons, and_assoc]

/-- every vertex is within `radius` of the centre, whatever the centre is -/
theorem sphereRadius_contains (c : V3 ℝ) (pts : List (V3 ℝ)) (p : V3 ℝ) (hp : p ∈ pts) :
    edist c p ≤ sphereRadius c pts := ((foldl_cmax_le_iff c pts _ _).1 le_rfl).2 p hp

theorem sphereRadius_nonneg (c : V3 ℝ) (pts : List (V3 ℝ)) : 0 ≤ sphereRadius c pts := by
  have := ((foldl_cmax_le_iff c pts _ _).1 (le_refl (sphereRadius c pts))).1
  rwa [zero_eq] at this

theorem boundingSphere_scaled_contains {scale : ℝ} (hs : 1 ≤ scale) (pts : List (V3 ℝ)) (p : V3 ℝ) (hp : p ∈ pts) :
    edist (boundingSphere pts).1 p ≤ scale * (boundingSphere pts).2 :=
  (sphereRadius_contains _ pts p hp).trans (le_mul_of_one_le_left (sphereRadius_nonneg _ _) hs)

/-- `scale = 1 + 1e-8 ≥ 1` -/
theorem inflate_ge_one : (1 : ℝ) ≤ (inflate : ℝ) := by
  unfold inflate
  rw [add_eq, one_eq, ofDec_eq]
  have : (0 : ℝ) ≤ ((1 : ℤ) : ℝ) * (10 : ℝ) ^ (-8 : ℤ) := by positivity
  linarith

end Refine.Lemmas.Search
