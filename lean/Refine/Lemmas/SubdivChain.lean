import Refine.Model.Subdiv
import Refine.Lemmas.CavityValid

/-!
  The `ref_subdiv` templates at chain level.

  The templates commute with relabelling the vertices, so a statement about the signed faces of a split tet
  `(a,b,c,d)` under an alternating `φ` is the same statement about the reference tet `(0,1,2,3)` under `φ ∘ atoms`,
  where it is a check on concrete face lists (`cancels`, `Lemmas/CavityValid`).
-/
namespace Refine.Lemmas.Subdiv
open Refine.Lemmas.Cavity
open Refine.Model.Cavity (Face Tet tetFaces)

variable {G : Type} [AddCommGroup G]

open Refine.Model.Subdiv

/-- cell-edge index of the tet edge joining local vertices `i`, `j` (regenerated `e2n` table) -/
def localEdge (i j : Nat) : Nat :=
  (Refine.Gen.CellTables.tet.e2n.findIdx? fun r => r == [min i j, max i j]).getD 0

/-- the triangles the TRI template (`ref_subdiv_split_tri`) makes of an oriented face with side marks
    `mab mbc mca` (the face itself when no side is marked) -/
def faceKids (btw : Int → Int → Int) (mab mbc mca : Bool) (f : Face) : List Face :=
  match splitTriChildren btw mab mbc mca ⟨f.n0, f.n1, f.n2, 0⟩ with
  | some (ts, _) => ts.map fun t => ⟨t.n0, t.n1, t.n2⟩
  | none => [f]

/-- the boundary of tet `t` with every face replaced by the tri-template children for that face's side marks -/
def refinedBoundary (btw : Int → Int → Int) (map : Nat) (t : Tet) : List Face :=
  Refine.Gen.CellTables.tet.f2n.flatMap fun row =>
    let i := row.getD 0 0
    let j := row.getD 1 0
    let k := row.getD 2 0
    faceKids btw (map.testBit (localEdge i j)) (map.testBit (localEdge j k)) (map.testBit (localEdge k i))
      ⟨tetNode t i, tetNode t j, tetNode t k⟩

def faceMarkCount (map : Nat) (row : List Nat) : Nat :=
  let i := row.getD 0 0
  let j := row.getD 1 0
  let k := row.getD 2 0
  (if map.testBit (localEdge i j) then 1 else 0) + (if map.testBit (localEdge j k) then 1 else 0) +
    (if map.testBit (localEdge k i) then 1 else 0)

/-- atoms 0..3: the corners; 4..9: `btw` of the six edges in table order; 10..13: `btw` of a corner with itself (no
    template asks for it; it makes `btwI` total on the corners) -/
def atoms (btw : Int → Int → Int) (a b c d : Int) (i : Int) : Int :=
  [a, b, c, d, btw a b, btw a c, btw a d, btw b c, btw b d, btw c d, btw a a, btw b b, btw c c,
   btw d d].getD i.toNat 0

/-- `btw` on atom indices, for a symmetric `btw`: the position in `atoms` of the edge `{x, y}` (`4 + e`, `e` its row
    in the edge table: `{0,y} ↦ y-1`, `{1,y} ↦ y+1`, `{2,3} ↦ 5`), resp. of `btw x x` (`10 + x`); see `atoms_carries` -/
def btwI (x y : Int) : Int :=
  let e : Int := if x < y then (if x == 0 then y - 1 else if x == 1 then y + 1 else 5)
                 else (if y == 0 then x - 1 else if y == 1 then x + 1 else 5)
  if x = y then 10 + x else 4 + e

def mapTet (ρ : Int → Int) (t : Tet) : Tet := ⟨ρ t.n0, ρ t.n1, ρ t.n2, ρ t.n3⟩
def mapFace (ρ : Int → Int) (f : Face) : Face := ⟨ρ f.n0, ρ f.n1, ρ f.n2⟩

theorem tetFaces_map (ρ : Int → Int) (t : Tet) : tetFaces (mapTet ρ t) = (tetFaces t).map (mapFace ρ) := by
  rcases t with ⟨a, b, c, d⟩; rfl

theorem tetNode_map (ρ : Int → Int) (t : Tet) (i : Nat) : tetNode (mapTet ρ t) i = ρ (tetNode t i) := by
  unfold tetNode; split <;> rfl

theorem tetSet_map (ρ : Int → Int) (t : Tet) (i : Nat) (v : Int) :
    tetSet (mapTet ρ t) i (ρ v) = mapTet ρ (tetSet t i v) := by
  unfold tetSet; split <;> rfl

theorem tetNode_mem (t : Tet) (i : Nat) : tetNode t i ∈ t.nodes := by
  unfold tetNode Tet.nodes; split <;> simp

theorem orientFace_map (ρ : Int → Int) (map : Nat) (t : Tet) :
    orientFace map (mapTet ρ t) = mapTet ρ (orientFace map t) := by
  unfold orientFace; split_ifs <;> rfl

theorem orientFace_nodes (map : Nat) (t : Tet) : ∀ v ∈ (orientFace map t).nodes, v ∈ t.nodes := by
  unfold orientFace; split_ifs <;> simp [Tet.nodes]

def Carries (ρ : Int → Int) (β btw : Int → Int → Int) (ns : List Int) : Prop :=
  ∀ i ∈ ns, ∀ j ∈ ns, btw (ρ i) (ρ j) = ρ (β i j)

theorem Carries.mono {ρ : Int → Int} {β btw : Int → Int → Int} {ns ms : List Int} (H : Carries ρ β btw ns)
    (h : ∀ i ∈ ms, i ∈ ns) : Carries ρ β btw ms :=
  fun i hi j hj => H i (h i hi) j (h j hj)

theorem splitTetChildren_map {ρ : Int → Int} {β btw : Int → Int → Int} (map : Nat) {t : Tet}
    (H : Carries ρ β btw t.nodes) :
    splitTetChildren btw map (mapTet ρ t) = (splitTetChildren β map t).map (List.map (mapTet ρ)) := by
  unfold splitTetChildren
  by_cases h0 : (map == 0) = true
  · simp only [if_pos h0]; rfl
  by_cases h1 : isOneEdge map = true
  · simp only [if_neg h0, if_pos h1, Option.map_some, List.map_cons, List.map_nil, tetNode_map,
      H _ (tetNode_mem t _) _ (tetNode_mem t _), tetSet_map]
  by_cases h2 : isFace map = true
  · simp only [if_neg h0, if_neg h1, if_pos h2]
    rw [orientFace_map]
    have hn := orientFace_nodes map t
    generalize orientFace map t = n at hn ⊢
    rcases n with ⟨n0, n1, n2, n3⟩
    simp only [Tet.nodes, List.forall_mem_cons, List.not_mem_nil, false_imp_iff, implies_true, and_true] at hn
    obtain ⟨h0, h1, h2, _⟩ := hn
    simp only [mapTet, Option.map_some, List.map_cons, List.map_nil, H _ h0 _ h1, H _ h0 _ h2, H _ h1 _ h0,
      H _ h1 _ h2, H _ h2 _ h0, H _ h2 _ h1]
  by_cases h3 : (map == 63) = true
  · simp only [if_neg h0, if_neg h1, if_neg h2, if_pos h3]
    rcases t with ⟨n0, n1, n2, n3⟩
    have h0 : n0 ∈ Tet.nodes ⟨n0, n1, n2, n3⟩ := by simp [Tet.nodes]
    have h1 : n1 ∈ Tet.nodes ⟨n0, n1, n2, n3⟩ := by simp [Tet.nodes]
    have h2 : n2 ∈ Tet.nodes ⟨n0, n1, n2, n3⟩ := by simp [Tet.nodes]
    have h3 : n3 ∈ Tet.nodes ⟨n0, n1, n2, n3⟩ := by simp [Tet.nodes]
    simp only [mapTet, Option.map_some, List.map_cons, List.map_nil, H _ h0 _ h1, H _ h0 _ h2, H _ h0 _ h3,
      H _ h1 _ h2, H _ h1 _ h3, H _ h2 _ h3]
  · simp only [if_neg h0, if_neg h1, if_neg h2, if_neg h3]; rfl

theorem keepOr_map (ρ : Int → Int) (t : Tet) (cs : List Tet) :
    keepOr (mapTet ρ t) (cs.map (mapTet ρ)) = (keepOr t cs).map (mapTet ρ) := by
  cases cs <;> rfl

theorem kids_map {ρ : Int → Int} {β btw : Int → Int → Int} (map : Nat) {t : Tet} (H : Carries ρ β btw t.nodes) :
    keepOr (mapTet ρ t) ((splitTetChildren btw map (mapTet ρ t)).getD []) =
      (keepOr t ((splitTetChildren β map t).getD [])).map (mapTet ρ) := by
  rw [splitTetChildren_map map H, ← keepOr_map]
  cases splitTetChildren β map t <;> rfl

theorem faceKids_map {ρ : Int → Int} {β btw : Int → Int → Int} (m1 m2 m3 : Bool) {f : Face}
    (H : Carries ρ β btw [f.n0, f.n1, f.n2]) :
    faceKids btw m1 m2 m3 (mapFace ρ f) = (faceKids β m1 m2 m3 f).map (mapFace ρ) := by
  rcases f with ⟨a, b, c⟩
  have ha : a ∈ [a, b, c] := by simp
  have hb : b ∈ [a, b, c] := by simp
  have hc : c ∈ [a, b, c] := by simp
  cases m1 <;> cases m2 <;> cases m3 <;>
    simp [faceKids, splitTriChildren, mapFace, H _ ha _ hb, H _ ha _ hc, H _ hb _ ha, H _ hb _ hc, H _ hc _ ha,
      H _ hc _ hb]

theorem refinedBoundary_map {ρ : Int → Int} {β btw : Int → Int → Int} (map : Nat) {t : Tet}
    (H : Carries ρ β btw t.nodes) :
    refinedBoundary btw map (mapTet ρ t) = (refinedBoundary β map t).map (mapFace ρ) := by
  unfold refinedBoundary
  rw [List.map_flatMap]
  refine List.flatMap_congr fun row _ => ?_
  simp only [tetNode_map]
  refine faceKids_map (f := ⟨tetNode t _, tetNode t _, tetNode t _⟩) _ _ _ fun i hi j hj => H i ?_ j ?_
  · simp only [List.mem_cons, List.not_mem_nil, or_false] at hi
    rcases hi with rfl | rfl | rfl <;> exact tetNode_mem t _
  · simp only [List.mem_cons, List.not_mem_nil, or_false] at hj
    rcases hj with rfl | rfl | rfl <;> exact tetNode_mem t _

theorem faceSum_map (φ : Int → Int → Int → G) (ρ : Int → Int) (l : List Face) :
    faceSum φ (l.map (mapFace ρ)) = faceSum (fun a b c => φ (ρ a) (ρ b) (ρ c)) l := by
  simp only [faceSum, List.map_map]; rfl

theorem tetFaces_flatMap_map (ρ : Int → Int) (l : List Tet) :
    (l.map (mapTet ρ)).flatMap tetFaces = (l.flatMap tetFaces).map (mapFace ρ) := by
  rw [List.flatMap_map, List.map_flatMap]
  simp only [tetFaces_map]

theorem atoms_carries (btw : Int → Int → Int) (hb : ∀ x y, btw x y = btw y x) (a b c d : Int) :
    Carries (atoms btw a b c d) btwI btw (Tet.nodes ⟨0, 1, 2, 3⟩) := by
  intro i hi j hj
  simp only [Tet.nodes, List.mem_cons, List.not_mem_nil, or_false] at hi hj
  rcases hi with rfl | rfl | rfl | rfl <;> rcases hj with rfl | rfl | rfl | rfl <;> first | rfl | exact hb _ _

end Refine.Lemmas.Subdiv
