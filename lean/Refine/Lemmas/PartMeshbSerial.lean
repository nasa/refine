import Refine.Lemmas.PartMeshbFinal

/-! what rank 0 of the parallel reader takes from a file is what the serial reader `decodeMeshbWith` takes from it
    (vertices, cells per group, CAD bytes), whenever both accept the file.
    Independent of the distribution lemmas. -/
namespace Refine.Lemmas.PartMeshb
open Refine.Lemmas.Reader
open Refine.Model.Meshb Refine.Model.PartMeshb Refine.Lemmas.Codec
open Refine.Gen.PartMacros

/-- `ref_import_meshb_int` reads what `ref_part_meshb_long` reads and truncates it to `REF_INT` -/
theorem rdInt_eq_rdLong (v : Nat) (s : Bytes) :
    rdInt v s = (rdLong v s).map fun br => (wrap32 br.1, br.2) := by
  unfold rdInt rdLong
  split
  · unfold rdI32
    rcases h : rdU 4 s with e | ⟨n, r⟩
    · rfl
    · show _ = Except.ok (wrap32 _, r)
      rw [wrap32_of_int32 (int32_toSigned32 (by have := rdU_lt h; norm_num at this ⊢; exact this))]
  · rcases rdU 8 s with e | ⟨n, r⟩
    · rfl
    · show _ = Except.ok (wrap32 _, r)
      rw [wrap32_toSigned64]

theorem rdLong_rdInt {v : Nat} {s r : Bytes} {b : Int} (h : rdLong v s = .ok (b, r)) :
    rdInt v s = .ok (wrap32 b, r) := by
  rw [rdInt_eq_rdLong, h]; rfl

theorem rdLongs_rdInts {v : Nat} : ∀ (k : Nat) {s r : Bytes} {raw : List Int},
    rdLongs v k s = .ok (raw, r) → rdInts v k s = .ok (raw.map wrap32, r)
  | 0, _, _, _, h => by cases h; rfl
  | k + 1, s, r, raw, h => by
    rw [rdLongs_eq_many] at h
    obtain ⟨x, s1, xs, h1, h2, rfl⟩ := many_succ_eq_ok.1 h
    rw [← rdLongs_eq_many] at h2
    simp only [rdInts, rdLong_rdInt h1, rdLongs_rdInts k h2, List.map_cons]

theorem rdLongs_consume {v : Nat} : ∀ (k : Nat) {s r : Bytes} {raw : List Int},
    rdLongs v k s = .ok (raw, r) → s.length = k * intSize v + r.length := by
  intro k s r raw h
  exact (rdInts_len (rdLongs_rdInts k h)).2

/-- for versions ≥ 2 (`double` coordinates) `ref_part_node` and `ref_import_meshb` read the same vertex records -/
theorem rdVertsD_eq_rdVerts {v : Nat} (hv : 2 ≤ v) (twod : Bool) : ∀ (n : Nat) (s : Bytes),
    rdVertsD v twod n s = rdVerts v twod n s
  | 0, _ => rfl
  | n + 1, s => by
    have hreal : ∀ t, rdReal v t = rdF64 t := fun t => by unfold rdReal; rw [if_neg (by omega)]
    unfold rdVertsD rdVerts rdVertD
    simp only [hreal, if_pos (show 0 < v by omega)]
    rcases rdF64 s with e | ⟨x, s1⟩
    · rfl
    simp only
    rcases rdF64 s1 with e | ⟨y, s2⟩
    · rfl
    simp only
    rcases (if twod then (.ok (0, s2) : Except Status (UInt64 × Bytes)) else rdF64 s2) with e | ⟨z, s3⟩
    · rfl
    simp only
    rw [rdInt_eq_rdLong]
    rcases rdLong v s3 with e | q
    · rfl
    · simp only [Except.map, rdVertsD_eq_rdVerts hv twod n]
      rcases rdVerts v twod n q.2 with e | ⟨ps, t⟩ <;> rfl

theorem rdBlocks_flatten {v : Nat} {twod : Bool} (counts : List Int) {s r : Bytes} {blocks : List (List Vertex)}
    (h : rdBlocks v twod counts s = .ok (blocks, r)) :
    many (rdVertD v twod) (blocks.flatten.length) s = .ok (blocks.flatten, r) := by
  revert blocks
  fun_induction rdBlocks v twod counts s <;> intro blocks h <;> cases h
  · rfl
  · rename_i h1 _ ih h2
    have h1 := (rdVertsD_eq_many ..).symm.trans h1
    rw [← many_length h1] at h1
    rw [List.flatten_cons, List.length_append]
    exact many_append _ _ h1 (ih h2)

theorem recs_consume {v k n : Nat} {s r : Bytes} {rs : List (List Int)}
    (h : many (rdLongs v k) n s = .ok (rs, r)) : s.length = n * (k * intSize v) + r.length :=
  many_consume_eq (μ := List.length) (fun _ _ _ => rdLongs_consume k) n h

/-- the cell the serial reader stores for a record -/
def serialCell (ci : CellInfo) (raw : List Int) : List Int :=
  recordNodes ci raw ++ (if ci.lastId then raw.drop ci.nodePer else [])

theorem cellOfRecord_eq {cfg : Cfg} {ci : CellInfo} {nnode : Int} {raw c : List Int}
    (h : cellOfRecord cfg ci nnode raw = .ok c) : c = serialCell ci raw := by
  unfold cellOfRecord at h
  split at h
  · cases h
  · split at h
    · cases h
    · split at h
      · cases h
      · cases h; rfl

/-- a record that passed the parallel reader's range check: the stored form of its cell is the serial reader's cell
    for the same bytes (`int` truncation of the longs included) -/
theorem norm_cellOfRaw {ci : CellInfo} {N : Int} {raw : List Int} (hp : ci.isPyr = true → ci.nodePer = 5)
    (hN31 : N < 2 ^ 31) (hlen : raw.length = ci.nodePer + 1) (hok : rawBad ci N raw = false) :
    norm ci (cellOfRaw ci raw) = serialCell ci (raw.map wrap32) := by
  have htake : (raw.map wrap32).take ci.nodePer = raw.take ci.nodePer := by
    rw [← List.map_take]
    refine ListFacts.map_eq_self fun x hx => ?_
    have := rawBad_eq_false_iff.1 hok x hx
    exact wrap32_of_int32 (by unfold int32; omega)
  have hdrop : (raw.drop ci.nodePer).take 1 = raw.drop ci.nodePer :=
    List.take_of_length_le (by simp [hlen])
  unfold norm serialCell
  have hnodes : recordNodes ci (raw.map wrap32) = recordNodes ci raw := by simp only [recordNodes, htake]
  rw [cellOfRaw_take hp hlen, cellOfRaw_drop hp hlen, hdrop, hnodes]
  congr 1
  split <;> simp

theorem rdCells_consume {cfg : Cfg} {v : Nat} {ci : CellInfo} {nnode : Int} (n : Nat) {s r : Bytes}
    {cs : List (List Int)} (h : rdCells cfg v ci nnode n s = .ok (cs, r)) :
    s.length = n * ((ci.nodePer + 1) * intSize v) + r.length := by
  rw [rdCells_eq_many] at h
  refine many_consume_eq (μ := List.length) (fun s c r hc => ?_) n h
  obtain ⟨raw, h1, _⟩ := rdCell_eq_ok_iff.1 hc
  exact (rdInts_len h1).2

theorem rdCells_of_recs {cfg : Cfg} {v : Nat} {ci : CellInfo} {nnode : Int} : ∀ (n : Nat) {s r r' : Bytes}
    {raws cs : List (List Int)}, many (rdLongs v (ci.nodePer + 1)) n s = .ok (raws, r) →
    many (rdCell cfg v ci nnode) n s = .ok (cs, r') →
    cs = raws.map (fun raw => serialCell ci (raw.map wrap32))
  | 0, _, _, _, _, _, h1, h2 => by cases h1; cases h2; rfl
  | n + 1, s, r, r', raws, cs, h1, h2 => by
    obtain ⟨x, t, xs, hx, hxs, rfl⟩ := many_succ_eq_ok.1 h1
    obtain ⟨c, t', cs', hc, hcs, rfl⟩ := many_succ_eq_ok.1 h2
    obtain ⟨raw, hr, hcr⟩ := rdCell_eq_ok_iff.1 hc
    rw [rdLongs_rdInts _ hx] at hr
    cases hr
    rw [List.map_cons, cellOfRecord_eq hcr, rdCells_of_recs n hxs hcs]

theorem tell_eq_len {bs r r' : Bytes} (h : tell bs r = tell bs r') : r.length = r'.length := by
  unfold tell at h; omega

/-- one cell group: the serial reader's cells are the stored forms of the parallel reader's cells, in file order -/
theorem group_rel {cfg : Cfg} {cm v np : Nat} {bs : Bytes} {kp : KeyPos} {ci : CellInfo} {N : Int}
    (hp : ci.isPyr = true → ci.nodePer = 5) (hN31 : N < 2 ^ 31) {chs : List (List Cell)} {cs : List (List Int)}
    (h1 : kwSectionL v bs kp ci.kw [] (fun n => rdCellSection cfg cm v np ci N n) = .ok chs)
    (h2 : kwSection v bs kp ci.kw [] (fun n => rdCells cfg v ci N n.toNat) = .ok cs) :
    cs = chs.flatten.map (norm ci) := by
  -- both readers find the keyword, or neither does
  rcases kwSectionL_cases h1 with ⟨hj, rfl⟩ | ⟨next, s0, n64, s1, r, hj, hl, _, hb1, hn1⟩
  · rcases kwSection_eq_ok_iff.1 h2 with ⟨_, rfl⟩ | ⟨_, _, _, _, hj', _⟩
    · rfl
    · rw [hj] at hj'; cases hj'
  rcases kwSection_eq_ok_iff.1 h2 with ⟨hj', _⟩ | ⟨s0', n, s', r', hj', hl', hb2⟩
  · rw [hj] at hj'; cases hj'
  · rw [hj] at hj'; cases hj'
    rw [rdLong_rdInt hl] at hl'
    cases hl'
    -- both readers stop at `next`, so they read the same number of records
    obtain ⟨raws, hr, hgood, hflat⟩ := rdCellSection_recs hb1
    have c1 := recs_consume hr
    have c2 := rdCells_consume _ hb2
    have hlen : r.length = r'.length := tell_eq_len hn1.symm
    have hK : 0 < (ci.nodePer + 1) * intSize v := by
      unfold intSize; split <;> positivity
    have hcount : raws.length = (wrap32 n64).toNat :=
      Nat.eq_of_mul_eq_mul_right hK (by omega)
    rw [hcount] at hr
    have e := rdCells_of_recs _ hr ((rdCells_eq_many ..).symm.trans hb2)
    rw [e, hflat, List.map_map]
    exact List.map_congr_left fun raw hraw =>
      (norm_cellOfRaw hp hN31 (recs_length hr raw hraw) (hgood raw hraw)).symm

/-- group `k` of the serial reader is group `k` of rank 0's parse in stored form — stated at an index, which is how
    `partRead_eq_serial_partial` (and `gatherGroup_perm`, over `fileGroup p k`) use it -/
theorem cells_at {cfg : Cfg} {cm v np : Nat} {bs : Bytes} {kp : KeyPos} {N : Int} (hN31 : N < 2 ^ 31)
    {cis : List CellInfo} {gs : List (List (List Cell))} {cs : List (List (List Int))}
    (hp : ∀ ci ∈ cis, ci.isPyr = true → ci.nodePer = 5)
    (h1 : rdCellGroupsP cfg cm v np bs kp N cis = .ok gs) (h2 : rdCellGroups cfg v bs kp N cis = .ok cs)
    {k : Nat} {ci : CellInfo} (hk : cis[k]? = some ci) :
    cs.getD k [] = ((gs.getD k []).flatten).map (norm ci) := by
  obtain ⟨hl2, hall⟩ := rdCellGroups_eq_ok_iff.1 h2
  obtain ⟨hl1, hf⟩ := each_eq_ok_iff.1 ((rdCellGroupsP_eq_each ..).symm.trans h1)
  obtain ⟨hlt, -⟩ := List.getElem?_eq_some_iff.1 hk
  obtain ⟨g, hg⟩ : ∃ g, gs[k]? = some g := ⟨_, List.getElem?_eq_getElem (hl1 ▸ hlt)⟩
  obtain ⟨c, hc⟩ : ∃ c, cs[k]? = some c := ⟨_, List.getElem?_eq_getElem (hl2 ▸ hlt)⟩
  rw [List.getD_eq_getElem?_getD, List.getD_eq_getElem?_getD, hg, hc, Option.getD_some, Option.getD_some]
  exact group_rel (hp ci (List.mem_of_getElem? hk)) hN31
    (hf (ci, g) (List.mem_of_getElem? (List.getElem?_zip_eq_some.2 ⟨hk, hg⟩)))
    (hall (ci, c) (List.mem_of_getElem? (List.getElem?_zip_eq_some.2 ⟨hk, hc⟩)))

/-- **what rank 0 of the parallel reader reads is what the serial reader reads**, when both accept the file, the
    file has `double` coordinates (version ≥ 2) and `1 ≤ nnode < 2^31` -/
theorem parse_eq_serial {cfg : Cfg} {np cm : Nat} {bs : Bytes} {p : Parsed} {m : MeshFile} (hnp : 1 ≤ np)
    (h1 : parseWith cfg np cm bs = .ok p) (h2 : decodeMeshbWith cfg bs = .ok m) (hN : 1 ≤ p.nnode)
    (hN31 : p.nnode < 2 ^ 31) (hv : ∀ v kp, header cfg bs = .ok (v, kp) → 2 ≤ v) :
    p.twod = m.twod ∧ p.blocks.flatten = m.nodes ∧ p.cad = m.cad ∧
    ∀ k ci, cellInfos[k]? = some ci → m.cells.getD k [] = (fileGroup p k).map (norm ci) := by
  obtain ⟨v, kp, hs⟩ := parse_inv h1
  have a0 := hs.header
  obtain ⟨n1, s1, dim, s2, a1, a2, a3⟩ := hs.dim
  obtain ⟨next, s0, s, r, a4, a5, a6, _⟩ := hs.verts
  obtain ⟨v'', kp'', next', s0', nnode, s', s'', d⟩ := decode_inv h2
  obtain ⟨n1', s1', dim', s2', b1, b2, _, b3⟩ := d.dim
  have c0 := d.header
  rw [a0] at c0; cases c0
  rw [a1] at b1; cases b1
  rw [a2] at b2; cases b2
  have c1 := d.jump
  rw [a4] at c1; cases c1
  have c2 := d.count
  rw [rdLong_rdInt a5] at c2; cases c2
  have c3 := d.verts
  have c4 := d.cells
  have c6 := d.cad
  have hNw : wrap32 p.nnode = p.nnode := wrap32_of_int32 (by unfold int32; omega)
  rw [hNw] at c3 c4
  have htw : p.twod = m.twod := by rw [a3, b3]
  refine ⟨htw, ?_, ?_, fun k ci hk => cells_at hN31 cellInfos_pyr hs.groups c4 hk⟩
  · have hb := rdBlocks_flatten _ a6
    rw [blocks_total hN hnp (blocksOK_of_rdBlocks hN hN31 hnp a6), ← rdVertsD_eq_many, rdVertsD_eq_rdVerts (hv v kp a0), htw, c3] at hb
    exact (Prod.mk.inj (Except.ok.inj hb)).1.symm
  · rw [hs.cad] at c6; exact Except.ok.inj c6

end Refine.Lemmas.PartMeshb
