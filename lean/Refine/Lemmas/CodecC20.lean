import Refine.Lemmas.CodecAccept
import Refine.Model.Solb

/-! lemmas behind Props/C20, each for any reader configuration with the one check it rests on: header scan progress
    (`checkProgress`), index range (`checkIndex`), .solb sizes (`checkCount`); counts fit for every configuration.
    A reader is opened by its own case principle (`fun_cases`, `fun_induction`): against `h : reader … = .ok _` every
    rejecting branch is absurd, and the accepting one has the successful reads in context. -/
namespace Refine.Lemmas.Codec
open Refine.Model.Meshb Refine.Model.Solb Refine.Lemmas.Reader

theorem headerScan_ne_diverge {cfg : Cfg} (hcp : cfg.checkProgress = true) (v : Nat) (bs : Bytes) (fuel : Nat)
    (next : Int) (kp : KeyPos) (h0 : 0 ≤ next) (hf : bs.length + 1 ≤ fuel + next.toNat) :
    headerScan cfg v bs fuel next kp ≠ .error .diverge := by
  fun_induction headerScan cfg v bs fuel next kp <;> intro h
  -- the arms of `headerScan` in the order of its text; the others end in `failure` or `ok`
  case case1 => omega                          -- no fuel left: excluded by `hf`
  case case4 => cases rdI32_error ‹_› ▸ h      -- the keyword read fails: `failure`
  case case5 => cases rdPos_error ‹_› ▸ h      -- the `next_position` read fails: `failure`
  case case7 ih =>
    -- an accepted hop ends the scan (`next' = 0`) or moves forward, so the fuel still suffices
    rcases not_and_not_right.1 ‹¬ (cfg.checkProgress = true ∧ _)› hcp with rfl | hgt
    · rw [headerScan_zero] at h; cases h
    · exact ih (by omega) (by omega) h
  all_goals cases h

theorem header_ne_diverge {cfg : Cfg} (hcp : cfg.checkProgress = true) (bs : Bytes) :
    header cfg bs ≠ .error .diverge := by
  fun_cases header cfg bs <;> intro h <;> cases h
  · cases rdI32_error ‹_›
  · cases rdI32_error ‹_›
  · exact headerScan_ne_diverge hcp _ bs (bs.length + 1) 8 [] (by omega) (by simp) ‹_›

theorem header_fixed_ne_diverge (bs : Bytes) : header Cfg.fixed bs ≠ .error .diverge := header_ne_diverge rfl bs

theorem headerHops_ge {cfg : Cfg} (hcp : cfg.checkProgress = true) (v : Nat) (bs : Bytes) (fuel : Nat) (start : Int) :
    (headerHops cfg v bs fuel start).Pairwise (· < ·) ∧
    ∀ x ∈ headerHops cfg v bs fuel start, start ≤ x := by
  fun_induction headerHops cfg v bs fuel start
  -- `case6` is the last arm of `headerHops`, the accepted hop; every other arm returns `[]` or `[next]`
  case case6 fuel start _ _ _ _ _ next' _ _ hp ih =>
    have key : ∀ y ∈ headerHops cfg v bs fuel next', start < y := by
      intro y hy
      rcases not_and_not_right.1 hp hcp with rfl | hgt
      · cases fuel <;> simp [headerHops] at hy
      · have := ih.2 y hy; omega
    refine ⟨List.pairwise_cons.2 ⟨key, ih.1⟩, fun x hx => ?_⟩
    rcases List.mem_cons.1 hx with rfl | hx'
    · exact Int.le_refl _
    · exact Int.le_of_lt (key x hx')
  all_goals simp

/-- 12 and, in `rdCells_len`, `4 · (node_per + 1)` are lower bounds of the record size over all versions
    (three version-1 floats; 4-byte integers) -/
theorem rdVerts_len {v : Nat} {twod : Bool} {n : Nat} {s r : Bytes} {vs : List Vertex}
    (h : rdVerts v twod n s = .ok (vs, r)) : vs.length = n ∧ r.length + n * 12 ≤ s.length := by
  revert h
  fun_induction rdVerts v twod n s generalizing vs r <;> intro h <;> cases h
  · simp
  · -- the successful reads of one vertex in file order: x, y, (z), reference, then the remaining vertices
    rename_i x s1 h1 y s2 h2 z s3 h3 _ s4 h4 vs' s5 h5 ih
    obtain ⟨hl, hc⟩ := ih h5
    have l1 := rdReal_len h1
    have l2 := rdReal_len h2
    have l4 := rdInt_len h4
    have l3 : s3.length ≤ s2.length := by
      split at h3
      · cases h3; exact Nat.le_refl _
      · have := rdReal_len h3; omega
    have := intSize_ge v
    rw [List.length_cons, hl]; omega

theorem rdInts_len {v n : Nat} {s r : Bytes} {xs : List Int} (h : rdInts v n s = .ok (xs, r)) :
    xs.length = n ∧ s.length = n * intSize v + r.length := by
  rw [rdInts_eq_many] at h
  exact ⟨many_length h, many_consume_eq (μ := List.length) (fun _ _ _ => rdInt_len) n h⟩

theorem rdCells_len {cfg : Cfg} {v : Nat} {ci : CellInfo} {nnode : Int} {n : Nat} {s r : Bytes}
    {cs : List (List Int)} (h : rdCells cfg v ci nnode n s = .ok (cs, r)) :
    cs.length = n ∧ r.length + n * (4 * (ci.nodePer + 1)) ≤ s.length := by
  rw [rdCells_eq_many] at h
  refine ⟨many_length h, many_consume (μ := List.length) (fun s c r hc => ?_) n h⟩
  obtain ⟨raw, h1, _⟩ := rdCell_eq_ok_iff.1 hc
  have := (rdInts_len h1).2
  have := Nat.mul_le_mul_left (ci.nodePer + 1) (intSize_ge v)
  omega

theorem jump_len {v : Nat} {bs : Bytes} {kp : KeyPos} {kw : Nat} {next : Int} {r : Bytes}
    (h : jump v bs kp kw = .ok (some (next, r))) : r.length ≤ bs.length := by
  revert h
  fun_cases jump v bs kp kw <;> intro h <;> cases h
  have l1 := rdI32_len ‹_›
  have l2 := rdPos_len ‹_›
  rw [List.length_drop] at l1
  omega

theorem rdCellGroups_group {cfg : Cfg} {v : Nat} {bs : Bytes} {kp : KeyPos} {nnode : Int}
    {cis : List CellInfo} {gs : List (List (List Int))}
    (h : rdCellGroups cfg v bs kp nnode cis = .ok gs) {p : CellInfo × List (List Int)} (hp : p ∈ cis.zip gs) :
    p.2 = [] ∨ ∃ n s r, rdCells cfg v p.1 nnode n s = .ok (p.2, r) ∧ s.length ≤ bs.length := by
  rcases kwSection_eq_ok_iff.1 ((rdCellGroups_eq_ok_iff.1 h).2 p hp) with ⟨_, h0⟩ | ⟨s0, n, s, r, hj, hi, hb⟩
  · exact .inl h0
  · have := jump_len hj
    have := rdInt_len hi
    exact .inr ⟨n.toNat, s, r, hb, by omega⟩

theorem rdCad_length_le {cfg : Cfg} {v : Nat} {bs : Bytes} {kp : KeyPos} {cad : Bytes}
    (h : rdCad cfg v bs kp = .ok cad) : cad.length ≤ bs.length := by
  revert h
  fun_cases rdCad cfg v bs kp <;> intro h <;> cases h
  · exact Nat.zero_le _
  · obtain ⟨rfl, _⟩ := takeN_ok ‹takeN _ _ = _›
    have l0 := jump_len ‹jump _ _ _ _ = _›
    have hsz := ‹rdSize _ _ = _›
    unfold rdSize at hsz
    split at hsz <;> (have := rdU_len hsz; rw [List.length_append] at this; omega)

theorem indicesInRange_iff (m : MeshFile) : indicesInRange m = true ↔
    (∀ p ∈ cellInfos.zip m.cells, ∀ c ∈ p.2, ∀ x ∈ c.take p.1.nodePer, 0 ≤ x ∧ x < (m.nodes.length : Int)) ∧
    ∀ g ∈ m.geoms, 0 ≤ g.node ∧ g.node < (m.nodes.length : Int) := by
  simp only [indicesInRange, Bool.and_eq_true, List.all_eq_true, decide_eq_true_eq]

theorem cellInfos_pyr : ∀ ci ∈ cellInfos, ci.isPyr = true → ci.nodePer = 5 := by decide

theorem recordNodes_length {ci : CellInfo} {raw : List Int}
    (hp : ci.isPyr = true → ci.nodePer = 5) (hraw : raw.length = ci.nodePer + 1) :
    (recordNodes ci raw).length = ci.nodePer := by
  unfold recordNodes
  split
  next hpy => rw [hp hpy]; rfl
  · rw [List.length_map, List.length_take, hraw]; omega

theorem cellOfRecord_range {cfg : Cfg} (hci : cfg.checkIndex = true) {ci : CellInfo} {nnode : Int} {raw c : List Int}
    (hp : ci.isPyr = true → ci.nodePer = 5) (hraw : raw.length = ci.nodePer + 1)
    (h : cellOfRecord cfg ci nnode raw = .ok c) :
    ∀ x ∈ c.take ci.nodePer, 0 ≤ x ∧ x < nnode := by
  revert h
  fun_cases cellOfRecord cfg ci nnode raw <;> intro h <;> cases h
  rw [List.take_left' (recordNodes_length hp hraw)]
  intro x hx
  have : ¬ (x < 0 ∨ nnode ≤ x) := fun hbad =>
    ‹¬ (cfg.checkIndex = true ∧ _)› ⟨hci, List.any_eq_true.2 ⟨x, hx, decide_eq_true hbad⟩⟩
  omega

theorem rdCells_range {cfg : Cfg} (hci : cfg.checkIndex = true) {v : Nat} {ci : CellInfo} {nnode : Int} {n : Nat}
    {s r : Bytes} {cs : List (List Int)} (hp : ci.isPyr = true → ci.nodePer = 5)
    (h : rdCells cfg v ci nnode n s = .ok (cs, r)) :
    ∀ c ∈ cs, ∀ x ∈ c.take ci.nodePer, 0 ≤ x ∧ x < nnode := by
  rw [rdCells_eq_many] at h
  refine many_all (fun s c r hc => ?_) n h
  obtain ⟨raw, h1, h2⟩ := rdCell_eq_ok_iff.1 hc
  exact cellOfRecord_range hci hp (rdInts_len h1).1 h2

theorem geomAdd_nodes {cfg : Cfg} {gs gs' : List GeomRec} {node : Int} {t : Nat} {id : Int} {p0 p1 : UInt64}
    (Pn : Int → Prop) (h : geomAdd cfg gs node t id p0 p1 = .ok gs') (hn : Pn node) (hgs : ∀ g ∈ gs, Pn g.node) :
    ∀ g ∈ gs', Pn g.node := by
  revert h
  fun_cases geomAdd cfg gs node t id p0 p1 <;> intro h <;> cases h <;> intro g hg
  · obtain ⟨g0, hg0, rfl⟩ := List.mem_map.1 hg
    split <;> exact hgs g0 hg0
  · rcases List.mem_append.1 hg with hg | hg
    · exact hgs g hg
    · cases List.mem_singleton.1 hg; exact hn

theorem geomSetGref_nodes {gs : List GeomRec} {node : Int} {t : Nat} {id gref : Int}
    (Pn : Int → Prop) (hgs : ∀ g ∈ gs, Pn g.node) : ∀ g ∈ geomSetGref gs node t id gref, Pn g.node := by
  intro g hg
  obtain ⟨g0, hg0, rfl⟩ := List.mem_map.1 hg
  split
  · exact hgs g0 hg0
  · exact hgs g0 hg0

theorem rdGeoms_range {cfg : Cfg} (hci : cfg.checkIndex = true) {v t : Nat} {nnode : Int} {n : Nat}
    {gs gs' : List GeomRec} {s r : Bytes} (hgs : ∀ g ∈ gs, 0 ≤ g.node ∧ g.node < nnode)
    (h : rdGeoms cfg v t nnode n gs s = .ok (gs', r)) : ∀ g ∈ gs', 0 ≤ g.node ∧ g.node < nnode := by
  revert h hgs
  fun_induction rdGeoms cfg v t nnode n gs s <;> intro hgs h
  case case1 => cases h; exact hgs             -- no record left
  case case10 ih =>                            -- the last arm of `rdGeoms`; arms 2–9 are its rejections
    -- the one accepting branch: `ref_geom_add` of a checked vertex, then the gref
    dsimp +zetaDelta only at *
    have hgs1 := geomAdd_nodes (fun x => 0 ≤ x ∧ x < nnode) ‹_›
      (by_contra fun hc => ‹¬ (cfg.checkIndex = true ∧ _)› ⟨hci, by omega⟩) hgs
    refine ih ?_ h
    split
    · exact geomSetGref_nodes (fun x => 0 ≤ x ∧ x < nnode) hgs1
    · exact hgs1
  all_goals cases h

theorem rdGeomTypes_range {cfg : Cfg} (hci : cfg.checkIndex = true) {v : Nat} {bs : Bytes} {kp : KeyPos} {nnode : Int}
    {ts : List Nat} {gs gs' : List GeomRec} (hgs : ∀ g ∈ gs, 0 ≤ g.node ∧ g.node < nnode)
    (h : rdGeomTypes cfg v bs kp nnode ts gs = .ok gs') : ∀ g ∈ gs', 0 ≤ g.node ∧ g.node < nnode := by
  revert h hgs
  fun_induction rdGeomTypes cfg v bs kp nnode ts gs <;> intro hgs h
  · cases h; exact hgs
  · cases h
  · rename_i ih
    refine ih ?_ h
    rcases kwSection_eq_ok_iff.1 ‹_› with ⟨_, rfl⟩ | ⟨s0, n, s, r, _, _, hb⟩
    · exact hgs
    · exact rdGeoms_range hci hgs hb

theorem rdLong_len {v : Nat} {s r : Bytes} {n : Int} (h : rdLong v s = .ok (n, r)) : r.length ≤ s.length := by
  revert h
  fun_cases rdLong v s <;> intro h
  · have := rdI32_len h; omega
  · cases h; have := rdU_len ‹_›; omega
  · cases h

theorem rdTypes_len {w : Int → Option Nat} {n l0 l : Nat} {s r : Bytes}
    (h : rdTypes w n l0 s = .ok (l, r)) : r.length ≤ s.length := by
  revert h
  fun_induction rdTypes w n l0 s <;> intro h
  · cases h; exact Nat.le_refl _
  · cases h
  · cases h
  · rename_i ih
    have := ih h
    have := rdI32_len ‹_›
    omega

theorem solPrefix_len {cfg : Cfg} {bs : Bytes} {v dim : Nat} {next nnode ntype : Int} {s : Bytes}
    (h : solPrefix cfg bs = .ok (v, dim, next, nnode, ntype, s)) : s.length ≤ bs.length := by
  revert h
  fun_cases solPrefix cfg bs <;> intro h <;> cases h
  have := jump_len ‹jump _ _ _ 62 = _›
  have := rdLong_len ‹_›
  have := rdI32_len ‹rdI32 _ = .ok (ntype, _)›
  omega

theorem chunkOf_small {nnode : Int} (h0 : 0 ≤ nnode) (h1 : nnode < 2 ^ 31) : chunkOf nnode = nnode := by
  unfold chunkOf
  rw [wrap32_of_int32 (x := max 100000 nnode) (by unfold int32; omega),
    show min (max 100000 nnode) nnode = nnode by omega, wrap32_of_int32 (by unfold int32; omega)]

theorem scalarPlan_ok {cfg : Cfg} (hcc : cfg.checkCount = true) {n : Nat} {bs : Bytes} {dim : Nat} {next nnode : Int}
    {ldim : Nat} {s : Bytes} (hp : scalarPlan cfg n bs = .ok (dim, next, nnode, ldim, s)) :
    0 ≤ nnode ∧ nnode < 2 ^ 31 ∧ nnode * ldim * 8 ≤ (s.length : Int) ∧ s.length ≤ bs.length := by
  revert hp
  fun_cases scalarPlan cfg n bs <;> intro hp <;> cases hp
  have hc := not_and_not_right.1 ‹¬ (cfg.checkCount = true ∧ _)› hcc
  have l1 := solPrefix_len ‹_›
  have l2 := rdTypes_len ‹_›
  exact ⟨hc.1, hc.2.1, hc.2.2, by omega⟩

end Refine.Lemmas.Codec
