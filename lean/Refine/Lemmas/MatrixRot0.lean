import Refine.Lemmas.MatrixDiag2

/-!
  The first rotation of `ref_matrix_diag_m` over ℝ: an orthogonal similarity to tridiagonal form.
-/
namespace Refine.Model.Matrix
open Refine Refine.ScalarReal

/-- `Q T Qᵀ` (upper triangle) for `Q` = the vectors of `d` as columns and
    `T = [[l0, e0, 0], [e0, l1, e1], [0, e1, l2]]` -/
def tridiagForm (d : Eig12 ℝ) (e0 e1 : ℝ) : M6 ℝ :=
  { m11 := d.l0 * d.x0 * d.x0 + d.l1 * d.x1 * d.x1 + d.l2 * d.x2 * d.x2
            + 2 * e0 * d.x0 * d.x1 + 2 * e1 * d.x1 * d.x2
    m12 := d.l0 * d.x0 * d.y0 + d.l1 * d.x1 * d.y1 + d.l2 * d.x2 * d.y2
            + e0 * (d.x0 * d.y1 + d.x1 * d.y0) + e1 * (d.x1 * d.y2 + d.x2 * d.y1)
    m13 := d.l0 * d.x0 * d.z0 + d.l1 * d.x1 * d.z1 + d.l2 * d.x2 * d.z2
            + e0 * (d.x0 * d.z1 + d.x1 * d.z0) + e1 * (d.x1 * d.z2 + d.x2 * d.z1)
    m22 := d.l0 * d.y0 * d.y0 + d.l1 * d.y1 * d.y1 + d.l2 * d.y2 * d.y2
            + 2 * e0 * d.y0 * d.y1 + 2 * e1 * d.y1 * d.y2
    m23 := d.l0 * d.y0 * d.z0 + d.l1 * d.y1 * d.z1 + d.l2 * d.y2 * d.z2
            + e0 * (d.y0 * d.z1 + d.y1 * d.z0) + e1 * (d.y1 * d.z2 + d.y2 * d.z1)
    m33 := d.l0 * d.z0 * d.z0 + d.l1 * d.z1 * d.z1 + d.l2 * d.z2 * d.z2
            + 2 * e0 * d.z0 * d.z1 + 2 * e1 * d.z1 * d.z2 }

theorem tridiagForm_zero (d : Eig12 ℝ) : tridiagForm d 0 0 = formM d := by
  apply M6.ext' <;> simp only [tridiagForm, formM, mul_eq, add_eq] <;> ring

/-- the rotation branch of the first rotation: `L = sqrt(m12² + m13²) > 0`, `(u, v) = (m12, m13) / L` -/
theorem rot0_of_pos (m : M6 ℝ) {L : ℝ} (hL : 0 < L) (hLL : L * L = m.m12 * m.m12 + m.m13 * m.m13) :
    rot0 m =
      { d := { l0 := m.m11
               l1 := m.m22 + m.m13 / L * (2 * (m.m12 / L) * m.m23 + m.m13 / L * (m.m33 - m.m22))
               l2 := m.m33 - m.m13 / L * (2 * (m.m12 / L) * m.m23 + m.m13 / L * (m.m33 - m.m22))
               x0 := 1, y0 := 0, z0 := 0
               x1 := 0, y1 := m.m12 / L, z1 := m.m13 / L
               x2 := 0, y2 := m.m13 / L, z2 := -(m.m12 / L) }
        e0 := L
        e1 := m.m23 - m.m12 / L * (2 * (m.m12 / L) * m.m23 + m.m13 / L * (m.m33 - m.m22))
        e2 := 0, f := 0, tst1 := 0 } := by
  have hs : Real.sqrt (m.m12 * m.m12 + m.m13 * m.m13) = L := by
    rw [← hLL]; exact Real.sqrt_mul_self hL.le
  have hne : m.m12 ≠ 0 ∨ m.m13 ≠ 0 := by
    by_contra h
    rw [not_or, not_not, not_not] at h
    rw [h.1, h.2] at hLL
    linarith [mul_pos hL hL]
  obtain ⟨g1, g2⟩ := divisible_sqrt_sumsq hne
  rw [hs] at g1 g2
  unfold rot0
  simp only [mul_eq, add_eq, sqrt_eq, hs, g1, g2, Bool.and_self, if_true, div_eq, sub_eq, neg_eq, one_eq, zero_eq,
    two_eq]

/-- the `else` branch (`L` not a usable divisor; over ℝ: `m12 = m13 = 0`): `Q` is the identity -/
theorem rot0_of_zero (m : M6 ℝ) (h12 : m.m12 = 0) (h13 : m.m13 = 0) :
    rot0 m = { d := ⟨m.m11, m.m22, m.m33, 1, 0, 0, 0, 1, 0, 0, 0, 1⟩,
               e0 := 0, e1 := m.m23, e2 := 0, f := 0, tst1 := 0 } := by
  have hd : Scalar.divisible (0 : ℝ) 0 = false := by
    rw [Bool.eq_false_iff]; intro h; exact divisible_ne_zero h rfl
  unfold rot0
  simp only [h12, h13, mul_eq, add_eq, sqrt_eq, mul_zero, add_zero, Real.sqrt_zero, hd, Bool.false_and,
    Bool.false_eq_true, if_false, one_eq, zero_eq]

theorem rot0_e2 (m : M6 ℝ) : (rot0 m).e2 = 0 := by
  fun_cases rot0 m <;> exact zero_eq

theorem rot0_f (m : M6 ℝ) : (rot0 m).f = 0 := by
  fun_cases rot0 m <;> exact zero_eq

theorem rot0_tst1 (m : M6 ℝ) : (rot0 m).tst1 = 0 := by
  fun_cases rot0 m <;> exact zero_eq

theorem rot0_spec (m : M6 ℝ) :
    Orthonormal (rot0 m).d ∧ tridiagForm (rot0 m).d (rot0 m).e0 (rot0 m).e1 = m := by
  cases m with
  | mk m11 m12 m13 m22 m23 m33 =>
  by_cases hz : m12 = 0 ∧ m13 = 0
  · obtain ⟨rfl, rfl⟩ := hz
    rw [rot0_of_zero _ rfl rfl]
    refine ⟨orthonormal_id _ _ _, ?_⟩
    apply M6.ext' <;> simp only [tridiagForm] <;> ring
  · rw [not_and_or] at hz
    have hLL := Real.mul_self_sqrt (add_nonneg (mul_self_nonneg m12) (mul_self_nonneg m13))
    have hLne := divisible_ne_zero (divisible_sqrt_sumsq hz).1
    rw [rot0_of_pos _ (lt_of_le_of_ne (Real.sqrt_nonneg _) hLne.symm) hLL]
    dsimp only
    generalize Real.sqrt (m12 * m12 + m13 * m13) = L at hLL hLne
    have hu : m12 / L * L = m12 := div_mul_cancel₀ _ hLne
    have hv : m13 / L * L = m13 := div_mul_cancel₀ _ hLne
    have huv : m12 / L * (m12 / L) + m13 / L * (m13 / L) = 1 := div_norm_unit hLne hLL
    generalize m12 / L = u at hu hv huv ⊢
    generalize m13 / L = v at hv huv ⊢
    refine ⟨⟨?_, ?_, ?_, ?_, ?_, ?_⟩, ?_⟩
    · dsimp only; ring
    · dsimp only; linear_combination huv
    · dsimp only; linear_combination huv
    · dsimp only; ring
    · dsimp only; ring
    · dsimp only; ring
    -- every entry of `Q T Qᵀ - m` is a multiple of `u² + v² - 1` (of `uL - m12`, `vL - m13`); the multipliers are the quotients
    · apply M6.ext' <;> simp only [tridiagForm]
      · ring
      · linear_combination hu
      · linear_combination hv
      · linear_combination (m22 * v ^ 2 + m22 - 2 * m23 * u * v - m33 * v ^ 2) * huv
      · linear_combination (-m22 * u * v + 2 * m23 * u ^ 2 + m23 + m33 * u * v) * huv
      · linear_combination (-m22 * v ^ 2 + 2 * m23 * u * v + m33 * v ^ 2 + m33) * huv

end Refine.Model.Matrix
