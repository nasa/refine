import Refine.Lemmas.PhysDistWorld
import Refine.Lemmas.SearchWall
import Refine.Lemmas.SearchTri

/-!
  The sphere tree of `Refine.Model.Search` as the search of the parallel wall distance, in exact arithmetic:
  for every insertion order that is a permutation of the chunk, `treeSearch` succeeds and returns the running
  minimum of the kernel values of the chunk's elements (`Lemmas/SearchWall`: `wallNearest_eq_fold`, for the kernel
  `elemDist twod` of either dimension).
  `wallGo_ok`/`wallBuild_ok` at the start speak of `Model/Search` alone; what else is known of `wallBuild` is in
  `Lemmas/SearchWall`.
-/
namespace Refine.Lemmas.PhysDist
open Refine Refine.Model Refine.Model.Geom Refine.Model.Search Refine.Model.PhysDist Refine.ScalarReal
open Refine.Lemmas.Search
open Refine.Model.Comm (World)

section Build
variable {α : Type} [Scalar α]

theorem wallGo_ok (verts : Int → List (V3 α)) (perm : List Int) (s : Search α)
    (hroom : s.empty + perm.length ≤ s.n) (hpos : ∀ c ∈ perm, 0 ≤ c) :
    (wallBuild.go verts s perm).1 = Search.Status.ok := by
  induction perm generalizing s with
  | nil => rfl
  | cons c rest ih =>
    have hc := hpos c List.mem_cons_self
    simp only [List.length_cons] at hroom
    have h1 : ¬ s.empty ≥ s.n := by omega
    have h2 : ¬ c < 0 := by omega
    simp only [wallBuild.go, Search.insert, h1, h2, if_false]
    apply ih
    · simp only; omega
    · exact fun d hd => hpos d (List.mem_cons_of_mem _ hd)

theorem wallBuild_ok (n : Nat) (verts : Int → List (V3 α)) (perm : List Int) (hlen : perm.length ≤ n)
    (hpos : ∀ c ∈ perm, 0 ≤ c) : ∃ s, wallBuild (n : Int) verts perm = (Search.Status.ok, some s) := by
  unfold wallBuild Search.create
  have hn : ¬ ((n : Int) < 0) := by omega
  simp only [hn, if_false]
  have h := wallGo_ok verts perm (⟨(n : Int).toNat, 0, .nil⟩ : Search α) (by simp; omega) hpos
  generalize wallBuild.go verts (⟨(n : Int).toNat, 0, .nil⟩ : Search α) perm = r at h
  obtain ⟨st, s⟩ := r
  simp only at h
  subst h
  exact ⟨s, rfl⟩

omit [Scalar α] in
theorem arr_getD (el : List (Elem α)) (k : Nat) (hk : k < el.length) :
    el.toArray.getD ((k : Int)).toNat [] = el[k] := by
  simp [Array.getD, hk]

theorem segAt_nat (el : List (Elem α)) (k : Nat) (hk : k < el.length) :
    segAt el.toArray (k : Int)
      = (el[k].getD 0 ⟨Scalar.zero, Scalar.zero, Scalar.zero⟩, el[k].getD 1 ⟨Scalar.zero, Scalar.zero, Scalar.zero⟩) := by
  unfold segAt
  rw [arr_getD el k hk]

theorem triAt_nat (el : List (Elem α)) (k : Nat) (hk : k < el.length) :
    triAt el.toArray (k : Int)
      = (el[k].getD 0 ⟨Scalar.zero, Scalar.zero, Scalar.zero⟩, el[k].getD 1 ⟨Scalar.zero, Scalar.zero, Scalar.zero⟩,
         el[k].getD 2 ⟨Scalar.zero, Scalar.zero, Scalar.zero⟩) := by
  unfold triAt
  rw [arr_getD el k hk]

theorem elemDist_seg (x : V3 α) (e : Elem α) :
    elemDist true x e = dist2seg (e.getD 0 ⟨Scalar.zero, Scalar.zero, Scalar.zero⟩)
      (e.getD 1 ⟨Scalar.zero, Scalar.zero, Scalar.zero⟩) x := by
  simp only [elemDist, if_true]

theorem elemDist_tri (x : V3 α) (e : Elem α) :
    elemDist false x e = dist2tri (e.getD 0 ⟨Scalar.zero, Scalar.zero, Scalar.zero⟩)
      (e.getD 1 ⟨Scalar.zero, Scalar.zero, Scalar.zero⟩) (e.getD 2 ⟨Scalar.zero, Scalar.zero, Scalar.zero⟩) x := by
  simp only [elemDist, Bool.false_eq_true, if_false]

end Build

/-- the kernel value of an element is the distance to a point that every ball around its vertices contains (a point of
    the segment, of the triangle) -/
theorem elemDist_attained (twod : Bool) (e : Elem ℝ) (he : e.length = if twod then 2 else 3) (x : V3 ℝ) :
    ∃ y, (∀ cen r, (∀ p ∈ e, edist cen p ≤ r) → edist cen y ≤ r) ∧ elemDist twod x e = edist x y := by
  cases twod with
  | true =>
    match e, he with
    | [a, b], _ =>
      obtain ⟨y, hy, hv⟩ := dist2seg_attained a b x
      exact ⟨y, onSeg_in_ball hy, hv⟩
  | false =>
    match e, he with
    | [a, b, c], _ =>
      obtain ⟨y, hy, hv⟩ := dist2triWith_attained tri3FootRepo tri3FootRepo_along a b c x
      exact ⟨y, inTri_in_ball hy, hv⟩

theorem fold_perm_eq (el : List (Elem ℝ)) (perm : List Int)
    (hperm : perm.Perm ((List.range el.length).map Int.ofNat)) (D : Elem ℝ → ℝ) (dist : Int → ℝ)
    (hd : ∀ k (hk : k < el.length), dist (k : Int) = D el[k]) (d : ℝ) :
    (perm.map dist).foldl min d = (el.map D).foldl min d := by
  rw [(hperm.map dist).foldl_eq d, List.map_map]
  exact congrArg (List.foldl min d) (List.ext_getElem (by simp) fun k h1 _ => by simp [hd k (by simpa using h1)])

/-- **one chunk**: for every insertion order that is a permutation of the chunk's indices the construction loop
    succeeds and the branch-and-bound returns the running minimum of the start value and the kernel distances of ALL
    elements of the chunk -/
theorem treeSearch_fold (twod : Bool) (el : List (Elem ℝ)) (perm : List Int)
    (hperm : perm.Perm ((List.range el.length).map Int.ofNat))
    (hper : ∀ e ∈ el, e.length = if twod then 2 else 3) :
    ∃ t, treeSearch twod perm el = some t ∧ ∀ x d, t x d = (el.map (elemDist twod x)).foldl min d := by
  have hmem : ∀ c ∈ perm, ∃ k, k < el.length ∧ c = (k : Int) := fun c hc => by
    obtain ⟨k, hk, rfl⟩ := List.mem_map.mp (hperm.mem_iff.mp hc)
    exact ⟨k, List.mem_range.mp hk, rfl⟩
  have hlen : perm.length = el.length := by rw [hperm.length_eq]; simp
  obtain ⟨s, hs⟩ := wallBuild_ok el.length (fun c => el.toArray.getD c.toNat []) perm (by omega)
    (by intro c hc; obtain ⟨k, _, rfl⟩ := hmem c hc; omega)
  unfold treeSearch
  simp only [hs]
  refine ⟨fun x d => s.root.nearestWith (fun c => elemDist twod x (el.toArray.getD c.toNat [])) x d,
    by cases twod <;> rfl, fun x d => ?_⟩
  refine (wallNearest_eq_fold _ _ perm s hs _ x d fun c hc => ?_).trans ?_
  · obtain ⟨k, hk, rfl⟩ := hmem c hc
    rw [arr_getD el k hk]
    exact elemDist_attained twod el[k] (hper _ (List.getElem_mem hk)) x
  exact fold_perm_eq el perm hperm (elemDist twod x) _ (fun k hk => by rw [arr_getD el k hk]) d

theorem localWall_lengths {α : Type} {inh : Inhabited α} (twod : Bool) (dict : RDict) (r : PRank α) :
    ∀ e ∈ localWall twod dict r, e.length = if twod then 2 else 3 := by
  intro e he
  unfold localWall at he
  cases twod with
  | true =>
    simp only [if_true, List.mem_map] at he ⊢
    obtain ⟨c, _, rfl⟩ := he
    rfl
  | false =>
    simp only [Bool.false_eq_true, if_false, List.mem_append, List.mem_map, List.mem_flatMap] at he ⊢
    rcases he with ⟨c, _, rfl⟩ | ⟨c, _, hq⟩
    · rfl
    · simp only [quadTris, List.mem_cons, List.not_mem_nil, or_false] at hq
      rcases hq with rfl | rfl <;> rfl

/-- the insertion orders are permutations of the chunks (what `ref_sort_shuffle` produces, whatever `rand()` does) -/
def PermsOk {α : Type} (perms : Nat → Nat → List Int) (chunks : List (List (Elem α))) : Prop :=
  ∀ me c (h : c < chunks.length), (perms me c).Perm ((List.range chunks[c].length).map Int.ofNat)

/-- the trees of `wallDistPar` fold `min` over their chunks.
    `localWall` only asks for `Inhabited`; on `ℝ` inference would find `Real.instInhabited`, while `wallDistPar` and
    `worldWalls` (stated under `[Scalar α]`) use `Scalar.instInhabited`, and the two are not definitionally equal:
    hence `@localWall ℝ Scalar.instInhabited` wherever a statement over `ℝ` names the wall lists. -/
theorem treeSearch_searchFolds (perms : Nat → Nat → List Int) (maxN : Int) (twod : Bool) (dict : RDict)
    (w : World (PRank ℝ))
    (hp : PermsOk perms (wallChunks maxN (w.map (@localWall ℝ Scalar.instInhabited twod dict)))) :
    SearchFolds (fun me c el => treeSearch twod (perms me c) el) min (elemDist twod)
      (wallChunks maxN (w.map (@localWall ℝ Scalar.instInhabited twod dict))) := by
  have hper : ∀ c (h : c < (wallChunks maxN (w.map (@localWall ℝ Scalar.instInhabited twod dict))).length),
      ∀ e ∈ (wallChunks maxN (w.map (@localWall ℝ Scalar.instInhabited twod dict)))[c],
        e.length = if twod then 2 else 3 := by
    intro c h e he
    have := List.mem_flatten.mpr ⟨_, List.getElem_mem h, he⟩
    rw [wallChunks_flatten] at this
    obtain ⟨l, hl, hel⟩ := List.mem_flatten.mp this
    obtain ⟨r, _, rfl⟩ := List.mem_map.mp hl
    exact localWall_lengths twod dict r e hel
  constructor
  · intro me c h
    obtain ⟨t, ht, _⟩ := treeSearch_fold twod _ (perms me c) (hp me c h) (hper c h)
    simp only [ht, Option.isSome_some]
  · intro me c h t ht x d
    obtain ⟨t', ht', hf⟩ := treeSearch_fold twod _ (perms me c) (hp me c h) (hper c h)
    simp only [ht'] at ht
    cases ht
    exact hf x d

/-- over `ℝ` the C's `MIN` is `min` -/
theorem wallMin_eq_foldl_min (twod : Bool) (dict : RDict) (w : World (PRank ℝ)) (x : V3 ℝ) :
    wallMin twod dict w x = ((worldWalls twod dict w).map (elemDist twod x)).foldl min dblMax := by
  unfold wallMin
  congr 1
  funext a b
  exact cmin_eq a b

theorem wallFold_eq_wallMin (twod : Bool) (dict : RDict) (w : World (PRank ℝ)) (x : V3 ℝ) :
    @wallFold ℝ Scalar.instInhabited min (elemDist twod) dblMax twod dict w x = wallMin twod dict w x :=
  (wallMin_eq_foldl_min twod dict w x).symm

end Refine.Lemmas.PhysDist
