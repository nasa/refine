import Refine.Model.PhysDist

/-!
  The distributed wall list against the GLOBAL mesh: if the ranks' stored cells are cells of a global mesh (same
  vertex globals, same id, coordinates by global id) and every global cell is stored by at least one rank — in refine
  by every rank that owns one of its vertices, in particular by its owner `ref_cell_part`, see `Props/C06.lean`
  `cellOwner_unique` — then the union of the ranks' `ref_phys_local_wall` lists is, as a SET, the list of selected
  wall elements of the global mesh (`Props/C12Par.localWall_covers_global`; a cell stored by several ranks is listed
  several times, `min` does not care).  Here: the vocabulary (`GMesh`, `globalWalls`, `Represents`) and the step for one
  kind of boundary cell, `exists_cell_iff`.
-/
namespace Refine.Lemmas.PhysDist
open Refine Refine.Model Refine.Model.Geom Refine.Model.PhysDist
open Refine.Model.Comm (World)

variable {α : Type} [Inhabited α]

/-- the global mesh: coordinates by global id, boundary cells as (vertex globals, id) -/
structure GMesh (α : Type) where
  xyz : Int → V3 α
  tri : List (List Int × Int)
  qua : List (List Int × Int)
  edg : List (List Int × Int)

/-- the vertex globals of a stored cell -/
def cellGlobs (r : PRank α) (c : PCell) : List Int :=
  c.nodes.map fun n => match r.nodes[n]? with
    | some nd => nd.glob
    | none => -1

/-- vertex `k` of a global cell -/
def gPoint (G : GMesh α) (gs : List Int) (k : Nat) : V3 α := G.xyz (gs.getD k (-1))

/-- the selected wall elements of the global mesh (quads split as the code splits them) -/
def globalWalls (twod : Bool) (dict : RDict) (G : GMesh α) : List (Elem α) :=
  if twod then
    (G.edg.filter fun c => isWallId dict c.2).map fun c => [gPoint G c.1 0, gPoint G c.1 1]
  else
    ((G.tri.filter fun c => isWallId dict c.2).map fun c => [gPoint G c.1 0, gPoint G c.1 1, gPoint G c.1 2]) ++
    ((G.qua.filter fun c => isWallId dict c.2).flatMap fun c =>
      [[gPoint G c.1 0, gPoint G c.1 1, gPoint G c.1 2], [gPoint G c.1 0, gPoint G c.1 2, gPoint G c.1 3]])

def CellsValid (r : PRank α) (per : Nat) (cs : List PCell) : Prop :=
  ∀ c ∈ cs, c.nodes.length = per ∧ ∀ n ∈ c.nodes, n < r.nodes.length

/-- the world is a distribution of the global mesh -/
structure Represents (w : World (PRank α)) (G : GMesh α) : Prop where
  coords : ∀ r ∈ w, ∀ nd ∈ r.nodes, nd.xyz = G.xyz nd.glob
  valid : ∀ r ∈ w, CellsValid r 3 r.tri ∧ CellsValid r 4 r.qua ∧ CellsValid r 2 r.edg
  sound : ∀ r ∈ w, (∀ c ∈ r.tri, (cellGlobs r c, c.id) ∈ G.tri) ∧ (∀ c ∈ r.qua, (cellGlobs r c, c.id) ∈ G.qua) ∧
    (∀ c ∈ r.edg, (cellGlobs r c, c.id) ∈ G.edg)
  /-- every global cell is stored somewhere (refine: on the rank `ref_cell_part` names, and on every other rank that
      owns one of its vertices) -/
  complete : (∀ gc ∈ G.tri, ∃ r ∈ w, ∃ c ∈ r.tri, (cellGlobs r c, c.id) = gc) ∧
    (∀ gc ∈ G.qua, ∃ r ∈ w, ∃ c ∈ r.qua, (cellGlobs r c, c.id) = gc) ∧
    (∀ gc ∈ G.edg, ∃ r ∈ w, ∃ c ∈ r.edg, (cellGlobs r c, c.id) = gc)

theorem cellXyz_eq (G : GMesh α) (r : PRank α) (hc : ∀ nd ∈ r.nodes, nd.xyz = G.xyz nd.glob) (c : PCell)
    (hn : ∀ n ∈ c.nodes, n < r.nodes.length) (k : Nat) (hk : k < c.nodes.length) :
    cellXyz r.nodes c k = gPoint G (cellGlobs r c) k := by
  have hlt := hn c.nodes[k] (List.getElem_mem hk)
  unfold cellXyz nodeXyz gPoint cellGlobs
  rw [List.getD_eq_getElem?_getD, List.getElem?_eq_getElem hk, Option.getD_some,
    List.getD_eq_getElem?_getD, List.getElem?_map, List.getElem?_eq_getElem hk, Option.map_some, Option.getD_some,
    List.getElem?_eq_getElem hlt]
  exact hc _ (List.getElem_mem hlt)

/-- one kind of boundary cell (`sel` = tri, qua or edg, with `per` vertices): a property `F` of the vertices of a stored
    wall cell of some rank is a property of the vertices of a wall cell of the global mesh -/
theorem exists_cell_iff (dict : RDict) (w : World (PRank α)) (G : GMesh α)
    (hco : ∀ r ∈ w, ∀ nd ∈ r.nodes, nd.xyz = G.xyz nd.glob)
    (sel : PRank α → List PCell) (gsel : List (List Int × Int)) (per : Nat)
    (valid : ∀ r ∈ w, CellsValid r per (sel r))
    (sound : ∀ r ∈ w, ∀ c ∈ sel r, (cellGlobs r c, c.id) ∈ gsel)
    (complete : ∀ gc ∈ gsel, ∃ r ∈ w, ∃ c ∈ sel r, (cellGlobs r c, c.id) = gc)
    (F : (Nat → V3 α) → Prop) (hF : ∀ f g : Nat → V3 α, (∀ k, k < per → f k = g k) → (F f ↔ F g)) :
    (∃ r, r ∈ w ∧ ∃ c, (c ∈ sel r ∧ isWallId dict c.id = true) ∧ F (cellXyz r.nodes c)) ↔
      ∃ gc, (gc ∈ gsel ∧ isWallId dict gc.2 = true) ∧ F (gPoint G gc.1) := by
  have key : ∀ r ∈ w, ∀ c ∈ sel r, (F (cellXyz r.nodes c) ↔ F (gPoint G (cellGlobs r c))) := by
    intro r hr c hc
    obtain ⟨hl, hn⟩ := valid r hr c hc
    exact hF _ _ fun k hk => cellXyz_eq G r (hco r hr) c hn k (hl ▸ hk)
  constructor
  · rintro ⟨r, hr, c, ⟨hc, hw⟩, hf⟩
    exact ⟨_, ⟨sound r hr c hc, hw⟩, (key r hr c hc).1 hf⟩
  · rintro ⟨gc, ⟨hg, hw⟩, hf⟩
    obtain ⟨r, hr, c, hc, rfl⟩ := complete gc hg
    exact ⟨r, hr, c, ⟨hc, hw⟩, (key r hr c hc).2 hf⟩

end Refine.Lemmas.PhysDist
