import Refine.Lemmas.ShufflinSpec

/-!
  `setParts`: a world satisfying `distInv` (for the OLD partition), relabelled with a new partition `f` on every stored copy
  (`setParts f`), satisfies the hypotheses `ShufHyp` of `shufflin_spec` (`shufHyp_of_distInv`); its mesh is the mesh of the
  old world and its partition is `f` (`allC_setParts`, `vw_setParts`, `payW_setParts`, `partW_setParts`), so migration takes
  the layout of a mesh under the old partition to the layout of the same mesh under `f` (`shufflin_layout`).
-/
namespace Refine.Lemmas.ShufflinPre
open Refine.Model.Dist Refine.Model.Shufflin Refine.Lemmas.Shufflin Refine.Lemmas.ShufflinWorld
open Refine.Lemmas.ShufflinSpec Refine.Lemmas.DistClauses Refine.Lemmas.DistLayout
open Refine.Model.Comm (World INT_MAX)

def relabel (f : Int → Int) (s : RankState) : RankState :=
  { s with nodes := s.nodes.map fun nd => { nd with part := f nd.glob } }

theorem forall_mem_setParts (f : Int → Int) (w : World RankState) (p : RankState → Prop) :
    (∀ s' ∈ setParts f w, p s') ↔ ∀ s ∈ w, p (relabel f s) :=
  List.forall_mem_map

theorem setParts_get (f : Int → Int) (w : World RankState) (q : Nat) (s' : RankState) :
    (setParts f w)[q]? = some s' ↔ ∃ s, w[q]? = some s ∧ relabel f s = s' := by
  unfold setParts
  rw [List.getElem?_map]
  exact Option.map_eq_some_iff

theorem relabel_globs (f : Int → Int) (s : RankState) : (relabel f s).nodes.map (·.glob) = s.nodes.map (·.glob) := by
  unfold relabel
  rw [List.map_map]
  rfl

theorem allC_setParts (f : Int → Int) (w : World RankState) (c : DCell) : AllC (setParts f w) c ↔ AllC w c := by
  constructor
  · rintro ⟨r, s', hs', hc⟩
    obtain ⟨s, hs, rfl⟩ := (setParts_get f w r s').mp hs'
    exact ⟨r, s, hs, hc⟩
  · rintro ⟨r, s, hs, hc⟩
    exact ⟨r, relabel f s, (setParts_get f w r _).mpr ⟨s, hs, rfl⟩, hc⟩

theorem allNodes_setParts (f : Int → Int) (w : World RankState) :
    allNodes (setParts f w) = (allNodes w).map fun nd => { nd with part := f nd.glob } := by
  simp only [allNodes, setParts, List.flatMap_map, List.map_flatMap]

theorem vw_setParts (f : Int → Int) (w : World RankState) (g : Int) : Vw (setParts f w) g ↔ Vw w g := by
  unfold Vw
  rw [allNodes_setParts, List.map_map]
  rfl

theorem payW_setParts (f : Int → Int) (w : World RankState) (g : Int) : payW (setParts f w) g = payW w g := by
  unfold payW
  rw [allNodes_setParts, List.find?_map, Option.map_map]
  rfl

theorem partW_setParts (f : Int → Int) {w : World RankState} {g : Int} (hg : Vw w g) : partW (setParts f w) g = f g := by
  unfold partW
  rw [allNodes_setParts, List.find?_map, Option.map_map]
  cases hf : (allNodes w).find? _ with
  | none =>
    obtain ⟨nd, hnd, rfl⟩ := List.mem_map.mp hg
    exact absurd (beq_self_eq_true _) (List.find?_eq_none.mp hf nd hnd)
  | some y => exact congrArg f (by simpa using List.find?_some hf)

/-- what a migration asks beyond `distInv w0`: the new partition `f` names ranks; the globals are below `N` and the payloads have
    `ldim` values (`distInv` bounds neither); cell groups are below `REF_CELL_N_TYPE`; two stored cells of one group with the
    same vertex set are the same cell (the duplicate search `ref_cell_with` compares vertex sets only, `distInv` compares
    cells); the ghost exchange fits the `int` range -/
structure MigInput (ldim N : Nat) (w0 : World RankState) (f : Int → Int) : Prop where
  ranks : ∀ s ∈ w0, ∀ nd ∈ s.nodes, 0 ≤ f nd.glob ∧ f nd.glob < (w0.length : Int)
  bounds : ∀ s ∈ w0, ∀ nd ∈ s.nodes, nd.glob < (N : Int) ∧ nd.payload.length = ldim
  groups : ∀ s ∈ w0, ∀ c ∈ s.cells, c.group < NGROUP
  uniq : ∀ s ∈ w0, ∀ t ∈ w0, ∀ c ∈ s.cells, ∀ c' ∈ t.cells, c.group = c'.group → sameVerts c c' = true → c = c'
  size : ((max 1 ldim : Nat) : Int) * ((w0.length : Int) * (N : Int)) ≤ INT_MAX

theorem shufHyp_of_distInv {ldim N : Nat} {w0 : World RankState} {f : Int → Int}
    (h0 : distInv w0 = true) (hs : synced w0 = true) (M : MigInput ldim N w0 f) :
    ShufHyp ldim N (setParts f w0) := by
  have F := invFacts_of_distInv w0 h0
  have hlen : (setParts f w0).length = w0.length := List.length_map _
  refine ⟨?_, ?_, ?_, ?_, ?_, ?_, ?_, hlen ▸ M.size⟩
  · unfold synced setParts at *
    rw [List.all_map]
    exact hs
  · refine (forall_mem_setParts f w0 _).mpr fun s hs' => ?_
    rw [relabel_globs]
    exact F.nodupG s hs'
  · refine (forall_mem_setParts f w0 _).mpr fun s hs' => List.forall_mem_map.mpr fun nd hnd => ?_
    rw [hlen]
    exact ⟨(M.ranks s hs' nd hnd).1, (M.ranks s hs' nd hnd).2, (F.nonneg s hs' nd hnd).1, M.bounds s hs' nd hnd⟩
  · -- two copies of a global carry `f` of it, and the payload of the one owned copy
    exact (forall_mem_setParts f w0 _).mpr fun s hs' => (forall_mem_setParts f w0 _).mpr fun t ht' =>
      List.forall_mem_map.mpr fun x hx => List.forall_mem_map.mpr fun y hy hg =>
        ⟨congrArg f hg, (copies_agree F hs' ht' hx hy hg).2⟩
  · refine (forall_mem_setParts f w0 _).mpr fun s hs' c hc => ⟨M.groups s hs' c hc, fun v hv => ?_⟩
    rw [relabel_globs]
    exact F.cellStored s hs' c hc v hv
  · exact (forall_mem_setParts f w0 _).mpr F.nodupC
  · exact (forall_mem_setParts f w0 _).mpr fun s hs' => (forall_mem_setParts f w0 _).mpr fun t ht' => M.uniq s hs' t ht'

/-- migration takes a world satisfying the invariant to the layout of the SAME mesh under the new partition `f` -/
theorem shufflin_layout {ldim N : Nat} {w0 : World RankState} {f : Int → Int}
    (h0 : distInv w0 = true) (hs : synced w0 = true) (hnp : 2 ≤ w0.length) (M : MigInput ldim N w0 f) :
    ∃ w', shufflin ldim (setParts f w0) = some w' ∧ IsLayout (setParts f w0) w' ∧
      Layout f (payW w0) (AllC w0) (Vw w0) w' := by
  have H := shufHyp_of_distInv h0 hs M
  obtain ⟨w', h1, h2⟩ := shufflin_main H (by rw [setParts, List.length_map]; exact hnp)
  exact ⟨w', h1, h2, (layout_of_isLayout H h2).congr (fun g hg => partW_setParts f ((vw_setParts f w0 g).mp hg))
    (fun g _ => payW_setParts f w0 g) (allC_setParts f w0) (vw_setParts f w0)⟩

end Refine.Lemmas.ShufflinPre
