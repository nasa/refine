import Refine.Lemmas.ContainersAdj

/-!
  `REF_ADJ` under arbitrary operation sequences: the concrete state machine refines the abstract
  map `node ↦ list of references` (add = cons, remove = erase first occurrence).  At the end the fold of
  `ref_adj_min_degree_node` over the nodes (`minFold`): the first node of minimal positive degree.
-/
namespace Refine.Model.RAdj

/-- the mutating public operations of `ref_adj.c` -/
inductive Op where
  | add (node reference : Int)
  | remove (node reference : Int)
  | addUniquely (node reference : Int)
  deriving Repr, DecidableEq

def Op.node : Op → Int
  | .add n _ | .remove n _ | .addUniquely n _ => n

/-- concrete step -/
def step (s : RAdj) : Op → RAdj × Status
  | .add n r => s.add n r
  | .remove n r => s.remove n r
  | .addUniquely n r => s.addUniquely n r

/-- abstract state: every node (any integer) has a list of references, most recent first -/
abbrev Spec := Int → List Int

def Spec.set (m : Spec) (n : Int) (l : List Int) : Spec := fun k => if k = n then l else m k

/-- abstract step: `add` conses (negative node: `invalid`), `remove` erases the first occurrence
    (`invalid` when absent), `add_uniquely` adds unless present -/
def specStep (m : Spec) : Op → Spec × Status
  | .add n r => if n < 0 then (m, .invalid) else (m.set n (r :: m n), .ok)
  | .remove n r => if r ∈ m n then (m.set n ((m n).erase r), .ok) else (m, .invalid)
  | .addUniquely n r =>
    if r ∈ m n then (m, .ok) else if n < 0 then (m, .invalid) else (m.set n (r :: m n), .ok)

def run : List Op → RAdj → RAdj × List Status
  | [], s => (s, [])
  | op :: ops, s => ((run ops (step s op).1).1, (step s op).2 :: (run ops (step s op).1).2)

def specRun : List Op → Spec → Spec × List Status
  | [], m => (m, [])
  | op :: ops, m => ((specRun ops (specStep m op).1).1, (specStep m op).2 :: (specRun ops (specStep m op).1).2)

/-- the conclusion spells `specStep m (.add n r)` out because `.addUniquely` reaches the same `if` after its own test -/
private theorem add_case {s : RAdj} {m : Spec} (h : Inv s) (hm : ∀ n, s.refsOf n = m n) (n r : Int)
    (hnode : n < (INT_MAX : Int)) (hnf : (s.add n r).2 ≠ Status.failure) :
    Inv (s.add n r).1 ∧
      (∀ k, (s.add n r).1.refsOf k = (if n < 0 then (m, Status.invalid) else (m.set n (r :: m n), Status.ok)).1 k) ∧
      (s.add n r).2 = (if n < 0 then (m, Status.invalid) else (m.set n (r :: m n), Status.ok)).2 := by
  by_cases hneg : n < 0
  · rw [add_negative s n r hneg, if_pos hneg]; exact ⟨h, hm, rfl⟩
  · rw [if_neg hneg]
    obtain ⟨hI, hst, hrefs⟩ := add_spec h n r (by omega) hnode
    have hok : (s.add n r).2 = Status.ok := by
      rcases hst with h1 | ⟨h1, -⟩
      · exact h1
      · exact absurd h1 hnf
    obtain ⟨h1, h2⟩ := hrefs hok
    refine ⟨hI, fun k => ?_, hok⟩
    simp only [Spec.set]
    by_cases hk : k = n
    · rw [if_pos hk, hk, h1, hm]
    · rw [if_neg hk, h2 k hk, hm]

theorem step_refines {s : RAdj} {m : Spec} (h : Inv s) (hm : ∀ n, s.refsOf n = m n) (op : Op)
    (hnode : op.node < (INT_MAX : Int)) (hnf : (step s op).2 ≠ Status.failure) :
    Inv (step s op).1 ∧ (∀ n, (step s op).1.refsOf n = (specStep m op).1 n) ∧
      (step s op).2 = (specStep m op).2 := by
  cases op with
  | add n r => exact add_case h hm n r hnode hnf
  | remove n r =>
    simp only [step, specStep]
    by_cases hmem : r ∈ m n
    · rw [if_pos hmem]
      obtain ⟨h1, h2, h3, h4⟩ := remove_spec_present h n r (by rw [hm]; exact hmem)
      refine ⟨h2, fun k => ?_, h1⟩
      simp only [Spec.set]
      by_cases hk : k = n
      · rw [if_pos hk, hk, h3, hm]
      · rw [if_neg hk, h4 k hk, hm]
    · rw [if_neg hmem, remove_spec_absent h n r (by rw [hm]; exact hmem)]
      exact ⟨h, hm, rfl⟩
  | addUniquely n r =>
    simp only [step, specStep] at hnf ⊢
    rw [addUniquely_spec s n r] at hnf ⊢
    rw [hm]
    by_cases hmem : r ∈ m n
    · rw [if_pos hmem, if_pos hmem]; exact ⟨h, hm, rfl⟩
    · rw [hm, if_neg hmem] at hnf
      rw [if_neg hmem, if_neg hmem]
      exact add_case h hm n r hnode hnf

theorem run_refines_from (ops : List Op) (s : RAdj) (h : Inv s) (m : Spec) (hm : ∀ n, s.refsOf n = m n)
    (hnode : ∀ op ∈ ops, op.node < (INT_MAX : Int)) (hnf : Status.failure ∉ (run ops s).2) :
    Inv (run ops s).1 ∧ (∀ n, (run ops s).1.refsOf n = (specRun ops m).1 n) ∧
      (run ops s).2 = (specRun ops m).2 := by
  induction ops generalizing s m with
  | nil => exact ⟨h, hm, rfl⟩
  | cons op ops ih =>
    simp only [run, specRun] at hnf ⊢
    rw [List.mem_cons, not_or] at hnf
    obtain ⟨h1, h2, h3⟩ := step_refines h hm op (hnode op List.mem_cons_self) (fun e => hnf.1 e.symm)
    obtain ⟨i1, i2, i3⟩ := ih (step s op).1 h1 (specStep m op).1 h2
      (fun o ho => hnode o (List.mem_cons_of_mem _ ho)) hnf.2
    rw [h3]
    exact ⟨i1, i2, by rw [i3]⟩

/-- the fold of `ref_adj_min_degree_node` over nodes `0..n-1` for a degree function `D` -/
def minFold (D : Nat → Int) (acc : Int × Int) (node : Nat) : Int × Int :=
  if D node > 0 then
    if acc.2 = EMPTY ∨ D node < acc.1 then (D node, (node : Int)) else acc
  else acc

/-- nothing seen yet, or the first node of minimal positive degree among `0..n-1` -/
def MinSpec (D : Nat → Int) (n : Nat) (acc : Int × Int) : Prop :=
  (acc = (EMPTY, EMPTY) ∧ ∀ w, w < n → ¬ D w > 0) ∨
  (∃ v, v < n ∧ acc = (D v, (v : Int)) ∧ D v > 0 ∧
    ∀ w, w < n → D w > 0 → D v ≤ D w ∧ (w < v → D v < D w))

theorem minFold_spec (D : Nat → Int) (n : Nat) :
    MinSpec D n ((List.range n).foldl (minFold D) (EMPTY, EMPTY)) := by
  induction n with
  | zero => exact Or.inl ⟨rfl, fun w hw => by omega⟩
  | succ n ih =>
    rw [List.range_succ, List.foldl_append, List.foldl_cons, List.foldl_nil]
    generalize (List.range n).foldl (minFold D) (EMPTY, EMPTY) = acc at ih
    simp only [MinSpec, minFold, Nat.forall_lt_succ_right]
    rcases ih with ⟨rfl, hz⟩ | ⟨v, hv, rfl, hpos, hmin⟩
    · by_cases hd : D n > 0
      · rw [if_pos hd, if_pos (Or.inl rfl)]
        exact Or.inr ⟨n, by omega, rfl, hd, fun w hw hwp => absurd hwp (hz w hw), fun _ => ⟨Int.le_refl _, fun h => by omega⟩⟩
      · rw [if_neg hd]
        exact Or.inl ⟨rfl, hz, hd⟩
    · have hne : ¬ ((v : Int) = EMPTY) := natCast_ne_EMPTY v
      by_cases hd : D n > 0
      · rw [if_pos hd]
        by_cases hlt : D n < D v
        · rw [if_pos (Or.inr hlt)]
          refine Or.inr ⟨n, by omega, rfl, hd, fun w hw hwp => ?_, fun _ => ⟨Int.le_refl _, fun h => by omega⟩⟩
          have := (hmin w hw hwp).1
          exact ⟨by omega, fun _ => by omega⟩
        · rw [if_neg (by rintro (h | h); exact hne h; exact hlt h)]
          exact Or.inr ⟨v, by omega, rfl, hpos, hmin, fun _ => ⟨by omega, fun h => by omega⟩⟩
      · rw [if_neg hd]
        exact Or.inr ⟨v, by omega, rfl, hpos, hmin, fun hwp => absurd hwp hd⟩

end Refine.Model.RAdj
