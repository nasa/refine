import Refine.Lemmas.Comm

/-!
  What an exchange delivers, for records of any type.  A rank hands over `(destination, record)` pairs;
  `arrive r w` (`CommPack`, with `sentTo`) is what rank `r` ends with: by source rank, then in the source's order.
  `bucket` (`CommPack`) / `delivered` (`CommBlind`) are the case "record = list of scalars".  `blindsend_items` is
  `ref_mpi_blindsend` read this way: records travel as `enc record` (`ldim` scalars each) and one bound on the whole
  exchange covers every `ref_math_int_*` guard.  Nothing is invented on the way (`mem_arrive`), so an invariant of the
  records sent is an invariant of the records received.
-/
namespace Refine.Lemmas.Comm
open Refine.Model.Comm

variable {α γ δ : Type}

theorem bucket_eq_sentTo (q : Nat) (pairs : List (Nat × List α)) : bucket q pairs = sentTo q pairs := rfl

theorem delivered_eq_arrive (r : Nat) (w : World (List (Nat × List α))) : delivered r w = arrive r w := rfl

/-- every record is delivered once, to its addressee -/
theorem arrive_eq_filter (r : Nat) (w : World (List (Nat × γ))) :
    arrive r w = (w.flatten.filter fun x => x.1 == r).map (·.2) :=
  arrive_eq_sentTo_flatten r w

theorem mem_arrive {r : Nat} {w : World (List (Nat × γ))} {x : γ} : x ∈ arrive r w ↔ ∃ l ∈ w, (r, x) ∈ l := by
  simp only [arrive, List.mem_flatMap, mem_sentTo]

theorem arrive_map (f : γ → δ) (r : Nat) (w : World (List (Nat × γ))) :
    arrive r (w.map fun l => l.map fun x => (x.1, f x.2)) = (arrive r w).map f := by
  simp only [arrive, List.flatMap_map, sentTo_map, List.map_flatMap]

/-- `ref_mpi_blindsend` of records `c` sent as `enc c`: rank `r` ends with the records addressed to it -/
theorem blindsend_items [Inhabited α] (native : Bool) (ty : RefType) (hty : ty.ild = true) (maxTag : Int) (ldim : Nat)
    (enc : γ → List α) (w : World (List (Nat × γ)))
    (hd : ∀ ps ∈ w, ∀ x ∈ ps, x.1 < w.length)
    (henc : ∀ ps ∈ w, ∀ x ∈ ps, (enc x.2).length = ldim)
    (hnat : native = true → (w.length : Int) * w.length ≤ maxTag)
    (htot : native = false → (ldim : Int) * w.flatten.length ≤ INT_MAX) :
    blindsend native ty maxTag ldim (w.map fun ps => ⟨ps.map fun x => (x.1 : Int), ps.flatMap fun x => enc x.2⟩)
      = some ((List.range w.length).map fun r =>
          (Status.ok, ((arrive r w).length : Int), (arrive r w).flatMap enc)) := by
  let W : World (List (Nat × List α)) := w.map fun l => l.map fun x => (x.1, enc x.2)
  have hW : (w.map fun ps => (⟨ps.map fun x => (x.1 : Int), ps.flatMap fun x => enc x.2⟩ : Blind α))
      = W.map blindOf := by
    simp only [W, List.map_map]
    apply List.map_congr_left
    intro ps _
    simp only [Function.comp_def, blindOf, List.map_map, List.flatMap_def]
  have hlen : W.length = w.length := List.length_map _
  have hflat : W.flatten.length = w.flatten.length := by
    simp only [W, List.length_flatten, List.map_map, Function.comp_def, List.length_map]
  have hW' : native = false → (ldim : Int) * W.flatten.length ≤ INT_MAX := fun hf => hflat ▸ htot hf
  have h := blindsend_spec native ty hty maxTag ldim W
    (by
      intro pairs hp x hx
      obtain ⟨ps, hps, rfl⟩ := List.mem_map.mp hp
      obtain ⟨y, hy, rfl⟩ := List.mem_map.mp hx
      rw [hlen]; exact hd ps hps y hy)
    (by
      intro pairs hp x hx
      obtain ⟨ps, hps, rfl⟩ := List.mem_map.mp hp
      obtain ⟨y, hy, rfl⟩ := List.mem_map.mp hx
      exact henc ps hps y hy)
    (by rw [hlen]; exact hnat)
    (sendBound_of_total hW') (recvBound_of_total hW')
  rw [hW, h, hlen]
  congr 1
  apply List.map_congr_left
  intro r _
  rw [delivered_eq_arrive, arrive_map, List.length_map, List.flatMap_def]

theorem blindExchange_of_total [Inhabited α] (native : Bool) (ty : RefType) (hty : ty.ild = true) (maxTag : Int)
    (ldim : Nat) (w : World (List (Nat × List α)))
    (hd : ∀ pairs ∈ w, ∀ x ∈ pairs, x.1 < w.length)
    (hi : ∀ pairs ∈ w, ∀ x ∈ pairs, x.2.length = ldim)
    (hnat : native = true → (w.length : Int) * w.length ≤ maxTag)
    (htot : native = false → (ldim : Int) * w.flatten.length ≤ INT_MAX) :
    alltoallv native ty maxTag (ldim : Int)
        (((w.map blindOf).zip (mpiAlltoall ((w.map blindOf).map fun b => countDest w.length b.proc))).map
          fun x => blindArgs ldim w.length x.1 x.2)
      = some ((List.range w.length).map fun r => (Status.ok, (delivered r w).flatten)) :=
  blindExchange native ty hty maxTag ldim w hd hi hnat (sendBound_of_total htot) (recvBound_of_total htot)

/-! ### a result that is `ok` on every rank passes the callers' tests -/

theorem all_ok_map {ι β : Type} (l : List ι) (f : ι → β) :
    ((l.map fun r => (Status.ok, f r)).all fun x => x.1 == Status.ok) = true := by
  simp [List.all_eq_true]

theorem any_isNone_map_some {β : Type} (l : List β) : (l.map some).any Option.isNone = false := by
  simp [List.any_eq_false]

end Refine.Lemmas.Comm
