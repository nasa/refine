import Refine.Lemmas.PartMeshbInv
import Mathlib.Data.List.Perm.Basic

/-! gathering the world of the parallel meshb reader gives back what rank 0 read from the file -/
namespace Refine.Lemmas.PartMeshb
open Refine.Model.Meshb Refine.Model.PartMeshb
open Refine.Model.Comm (World)
open Refine.Model.Dist
open Refine.Gen.PartMacros

/-- the owner `ref_cell_part` computes from the vertices of a cell -/
def ownerFn (N : Int) (np : Nat) (nodes : List Int) : Int := cellOwner (nodes.map fun g => (g, imp N np g))

theorem ownerFn_mem (N : Int) (np : Nat) (nodes : List Int) (hne : nodes ≠ []) :
    ∃ g ∈ nodes, ownerFn N np nodes = imp N np g := by
  obtain ⟨v, hv, he, _⟩ := Refine.Lemmas.Dist.cellOwner_min (nodes.map fun g => (g, imp N np g)) (by simpa using hne)
  obtain ⟨g, hg, rfl⟩ := List.mem_map.1 hv
  exact ⟨g, hg, he⟩

section Gather
variable {np : Nat} {p : Parsed} {w : World PRank} {cad : Bytes}

theorem gatherNodes_eq (hnp : 1 ≤ np) (hp : ParsedOK np p) (hF : FinalP np p cad w) :
    gatherNodes w = p.blocks.flatten := by
  unfold gatherNodes
  rw [zipIdx_flatMap, hF.len, flatten_eq_flatMap_range, hp.blocks.1]
  apply List.flatMap_congr
  intro r hr
  have hr' := List.mem_range.1 hr
  simp only
  rw [hF.own r hr', ownedNodes_base hp.nn hnp, List.map_map]
  have : ((fun n : PNode => n.xyz.getD default) ∘ fun vi : Vertex × Nat =>
      ({ glob := firstOf p.nnode np r + (vi.2 : Int), part := (r : Int), xyz := some vi.1 } : PNode)) =
      fun vi => vi.1 := rfl
  rw [this, List.zipIdx_map_fst]

theorem cellOwnerOf_eq (hF : FinalP np p cad w) (r : Nat) (hr : r < np) (j : Nat) (ci : CellInfo)
    (hci : cellInfos[j]? = some ci) (c : Cell) (hc : c ∈ (w.getD r default).group j) :
    cellOwnerOf (w.getD r default) ci.nodePer c = ownerFn p.nnode np (c.take ci.nodePer) := by
  unfold cellOwnerOf ownerFn
  congr 1
  apply List.map_congr_left
  intro g hg
  rw [(hF.inv r hr).partOf_eq g ((hF.inv r hr).verts j ci hci c hc g hg)]

/-- the gathered cells of a group are the cells of the file (as stored: id through `(REF_INT)`), each once -/
theorem gatherGroup_perm (hnp : 1 ≤ np) (hp : ParsedOK np p) (hF : FinalP np p cad w) (j : Nat) (ci : CellInfo)
    (hci : cellInfos[j]? = some ci) :
    (gatherGroup w j ci.nodePer).Perm ((fileGroup p j).map (norm ci)) := by
  obtain ⟨hcells, hdist⟩ := fileGroup_cells hp hci
  have hown : ∀ c0 ∈ fileGroup p j, ∃ q, q < np ∧ ownerFn p.nnode np ((norm ci c0).take ci.nodePer) = (q : Int) ∧
      norm ci c0 ∈ (w.getD q default).group j := fun c0 hc0 => by
    have hok := hcells c0 hc0
    obtain ⟨g, hg, hog⟩ := ownerFn_mem p.nnode np _
      (List.ne_nil_of_mem (dest_range (np := np) (cellInfos_nodePer_pos ci (List.mem_of_getElem? hci)) hnp hok).1)
    obtain ⟨i0, i1⟩ := imp_range (N := p.nnode) hnp (hok.2 g hg).1 (hok.2 g hg).2
    have hiq := (Int.toNat_of_nonneg i0).symm
    exact ⟨_, by omega, by rw [norm_take ci c0 hok.len, hog, ← hiq],
      (rank_stores_iff hp hF _ (by omega) j ci hci c0 hc0).2 ⟨g, hg, hiq⟩⟩
  unfold gatherGroup
  rw [zipIdx_flatMap, hF.len]
  refine (List.Perm.flatMap_left _ fun r hr => ?_).trans
    (ListFacts.flatMap_filter_range_perm_of_lt
      (owner := fun c => (ownerFn p.nnode np (c.take ci.nodePer)).toNat) fun c hc => ?_)
  · -- what rank `r` contributes: the cells of the file it owns, each once
    have hr' := List.mem_range.1 hr
    refine (List.perm_ext_iff_of_nodup ((group_nodup hp hF r hr' hci).filter _) (hdist.2.filter _)).2 fun c => ?_
    simp only [List.mem_filter, beq_iff_eq]
    constructor
    · rintro ⟨h1, h2⟩
      rw [cellOwnerOf_eq hF r hr' j ci hci c h1] at h2
      rw [hF.grp r hr' j, mem_finalGroup hnp hp hci r] at h1
      obtain ⟨c0, hc0, rfl, _⟩ := h1
      exact ⟨List.mem_map.2 ⟨c0, hc0, rfl⟩, by rw [h2]; rfl⟩
    · rintro ⟨h1, h2⟩
      obtain ⟨c0, hc0, rfl⟩ := List.mem_map.1 h1
      obtain ⟨q, _, hoq, hst⟩ := hown c0 hc0
      rw [hoq, Int.toNat_natCast] at h2
      subst h2
      exact ⟨hst, by rw [cellOwnerOf_eq hF q ‹_› j ci hci _ hst]; exact hoq⟩
  · obtain ⟨c0, hc0, rfl⟩ := List.mem_map.1 hc
    obtain ⟨q, hq, hoq, _⟩ := hown c0 hc0
    simp only [hoq, Int.toNat_natCast, hq]

theorem cad_eq (hF : FinalP np p cad w) : ∀ st ∈ w, st.cad = cad := by
  intro st hst
  obtain ⟨r, hr, rfl⟩ := hF.of_mem hst
  exact hF.cad r hr

end Gather

end Refine.Lemmas.PartMeshb
