import Refine.Lemmas.CodecLayout
import Refine.Lemmas.ListFacts

/-! record-level round trips: what `ref_export_meshb` writes for vertices, cells, geometry records and
    the CAD blob is read back unchanged by the corresponding loops of `ref_import_meshb`.
    The round-trip proofs here and in CodecRoundtrip/SolbRoundtrip walk the reader's reads in file order: each `rw` closes
    one read with the lemma of what was written there, each `dsimp only` reduces the reader's `match` on that result. -/
namespace Refine.Lemmas.Codec
open Refine.Model.Meshb Refine.Gen Refine.Lemmas.Reader

/-- sign, exponent and mantissa fields packed into a binary64 pattern come apart again -/
theorem binary64_fields {s E f : Nat} (hs : s ≤ 1) (hE : E < 2048) (hf : f < 2 ^ 52) :
    s * 2 ^ 63 + E * 2 ^ 52 + f < 2 ^ 64 ∧ (s * 2 ^ 63 + E * 2 ^ 52 + f) / 2 ^ 63 = s ∧
    (s * 2 ^ 63 + E * 2 ^ 52 + f) / 2 ^ 52 % 2048 = E ∧ (s * 2 ^ 63 + E * 2 ^ 52 + f) % 2 ^ 52 = f := by
  omega

/-- an integer `m` with leading bit `e ≤ 52`, shifted so that this bit is the implicit one: the mantissa
    field is `(m - 2^e) · 2^(52-e)`, and shifting `2^52 + field` back gives `m` -/
theorem mantissa_shift {m e : Nat} (he : e ≤ 52) (h1 : 2 ^ e ≤ m) (h2 : m < 2 ^ (e + 1)) :
    m * 2 ^ (52 - e) - 2 ^ 52 < 2 ^ 52 ∧ (2 ^ 52 + (m * 2 ^ (52 - e) - 2 ^ 52)) / 2 ^ (52 - e) = m := by
  have hk : 2 ^ e * 2 ^ (52 - e) = 2 ^ 52 := by rw [← Nat.pow_add]; congr 1; omega
  have hm : m * 2 ^ (52 - e) = 2 ^ 52 + (m - 2 ^ e) * 2 ^ (52 - e) := by
    rw [← hk, ← Nat.add_mul]; congr 1; omega
  rw [hm, Nat.add_sub_cancel_left, ← hm, Nat.mul_div_cancel _ (Nat.two_pow_pos _), ← hk]
  exact ⟨Nat.mul_lt_mul_of_pos_right (by rw [Nat.pow_succ] at h2; omega) (Nat.two_pow_pos _), rfl⟩

/-- `(REF_INT)(double)i = i` for every 32-bit `i`: the geometry `gref` travels through the file as a double -/
theorem d2i_i2d {x : Int} (h : int32 x) : d2i (i2d x) = x := by
  obtain ⟨lo, hi⟩ := h
  by_cases hx0 : x = 0
  · subst hx0; decide
  · by_cases hmin : x = -(2 ^ 31 : Int)
    · subst hmin; decide
    · have hm0 : x.natAbs ≠ 0 := by omega
      have he : x.natAbs.log2 < 31 := (Nat.log2_lt hm0).2 (by omega)
      obtain ⟨hf, hmag⟩ := mantissa_shift (by omega) (Nat.log2_self_le hm0) Nat.lt_log2_self
      obtain ⟨a1, a2, a3, a4⟩ := binary64_fields (s := if x < 0 then 1 else 0)
        (E := x.natAbs.log2 + 1023) (by split <;> omega) (by omega) hf
      unfold i2d d2i
      rw [if_neg hx0]
      dsimp only
      rw [UInt64.toNat_ofNat', Nat.mod_eq_of_lt a1, a2, a3, a4,
        if_neg (by omega), if_neg (by omega), Nat.add_sub_cancel, hmag]
      split <;> omega

/-- a vertex index that `ref_adj_add` takes without growing beyond the allocator cap, and below the vertex count
    when the reader checks indices -/
def NodeOK (cfg : Cfg) (nnode : Int) (x : Int) : Prop :=
  0 ≤ x ∧ x ≤ 2 ^ 31 - 1 - 100 ∧ 4 * (x.toNat + 100) ≤ cfg.allocCap ∧ (cfg.checkIndex = true → x < nnode)

def CellOK (cfg : Cfg) (ci : CellInfo) (nnode : Int) (c : List Int) : Prop :=
  c.length = ci.sizePer ∧ (∀ x ∈ c.take ci.nodePer, NodeOK cfg nnode x) ∧ (∀ x ∈ c, int32 x)

theorem adjAdd_eq_ok {cfg : Cfg} {nnode x : Int} (h : NodeOK cfg nnode x) : adjAdd cfg x = .ok () :=
  adjAdd_eq_ok_iff.2 ⟨h.1, h.2.1, h.2.2.1⟩

theorem adjAddAll_eq_ok {cfg : Cfg} {nnode : Int} {xs : List Int} (h : ∀ x ∈ xs, NodeOK cfg nnode x) :
    adjAddAll cfg xs = .ok () :=
  adjAddAll_eq_ok_iff.2 fun x hx => ⟨(h x hx).1, (h x hx).2.1, (h x hx).2.2.1⟩

theorem rdInts_flatMap (v : Nat) (xs : List Int) (r : Bytes) (h : ∀ x ∈ xs, int32 x) :
    rdInts v xs.length (xs.flatMap (encInt v) ++ r) = .ok (xs, r) :=
  (rdInts_eq_many v _ _).trans (many_flatMap id xs (fun x hx => rdInt_encInt v (h x hx)) r)

theorem permute_mem {p : List Nat} {L : List Int} {y : Int} (h : y ∈ permute p L) : y ∈ L ∨ y = 0 := by
  unfold permute at h
  obtain ⟨i, _, rfl⟩ := List.mem_map.1 h
  rw [List.getD_eq_getElem?_getD]
  cases hi : L[i]? with
  | none => right; simp
  | some z => left; simp; exact List.mem_of_getElem? hi

/-- the vertex part of a cell's file record: 1-based, pyramids in libMeshb order -/
def fileNodes (ci : CellInfo) (cell : List Int) : List Int :=
  if ci.isPyr then permute PyrPerm.exportMeshb ((cell.take ci.nodePer).map (· + 1))
  else (cell.take ci.nodePer).map (· + 1)

def cellRecord (ci : CellInfo) (cell : List Int) : List Int :=
  fileNodes ci cell ++ [if ci.lastId then cell.getD ci.nodePer 0 else CodecConsts.volumeId]

/-- the vertex entries of a cell's file record are its vertices plus one (a pyramid shuffle could only pad with 0) -/
theorem mem_fileNodes {ci : CellInfo} {c : List Int} {x : Int}
    (h : x ∈ fileNodes ci c) : x = 0 ∨ ∃ z ∈ c.take ci.nodePer, x = z + 1 := by
  have hm : x ∈ (c.take ci.nodePer).map (· + 1) ∨ x = 0 := by
    unfold fileNodes at h
    split at h
    · exact permute_mem h
    · exact .inl h
  rcases hm with hm | rfl
  · obtain ⟨z, hz, rfl⟩ := List.mem_map.1 hm
    exact .inr ⟨z, hz, rfl⟩
  · exact .inl rfl

theorem cellInfos_facts : ∀ ci ∈ cellInfos, (ci.isPyr = true → ci.nodePer = 5 ∧ ci.lastId = false) := by decide

theorem encCell_eq (v : Nat) (ci : CellInfo) (cell : List Int) :
    encCell v ci cell = (cellRecord ci cell).flatMap (encInt v) := by
  unfold encCell cellRecord fileNodes; rfl

theorem fileNodes_length {ci : CellInfo} {c : List Int}
    (hf : ci.isPyr = true → ci.nodePer = 5 ∧ ci.lastId = false) (hl : c.length = ci.sizePer) :
    (fileNodes ci c).length = ci.nodePer := by
  unfold fileNodes
  split
  next hp => rw [(hf hp).1]; rfl
  · rw [List.length_map, List.length_take, hl, CellInfo.sizePer]; omega

theorem cellRecord_length {ci : CellInfo} {c : List Int}
    (hf : ci.isPyr = true → ci.nodePer = 5 ∧ ci.lastId = false) (hl : c.length = ci.sizePer) :
    (cellRecord ci c).length = ci.nodePer + 1 := by
  rw [cellRecord, List.length_append, fileNodes_length hf hl]; rfl

theorem cellRecord_take {ci : CellInfo} {c : List Int}
    (hf : ci.isPyr = true → ci.nodePer = 5 ∧ ci.lastId = false) (hl : c.length = ci.sizePer) :
    (cellRecord ci c).take ci.nodePer = fileNodes ci c :=
  List.take_left' (fileNodes_length hf hl)

theorem cellRecord_drop {ci : CellInfo} {c : List Int}
    (hf : ci.isPyr = true → ci.nodePer = 5 ∧ ci.lastId = false) (hl : c.length = ci.sizePer) :
    (cellRecord ci c).drop ci.nodePer = [if ci.lastId then c.getD ci.nodePer 0 else CodecConsts.volumeId] :=
  List.drop_left' (fileNodes_length hf hl)

theorem recordNodes_cellRecord {ci : CellInfo} {c : List Int}
    (hf : ci.isPyr = true → ci.nodePer = 5 ∧ ci.lastId = false) (hl : c.length = ci.sizePer) :
    recordNodes ci (cellRecord ci c) = c.take ci.nodePer := by
  unfold recordNodes
  rw [cellRecord_take hf hl, fileNodes]
  by_cases hp : ci.isPyr = true
  · obtain ⟨h5, hid⟩ := hf hp
    rw [CellInfo.sizePer, h5, hid] at hl
    rw [if_pos hp, if_pos hp, h5]
    match c, hl with
    | [a, b, c', d, e], _ =>
      show [a + 1 - 1, b + 1 - 1, c' + 1 - 1, d + 1 - 1, e + 1 - 1] = _
      simp only [Int.add_sub_cancel]; rfl
  · rw [if_neg hp, if_neg hp, List.map_map]
    exact (List.map_congr_left fun x _ => Int.add_sub_cancel x 1).trans (List.map_id' _)

theorem cellOfRecord_cellRecord {cfg : Cfg} {ci : CellInfo} {nnode : Int} {c : List Int}
    (hf : ci.isPyr = true → ci.nodePer = 5 ∧ ci.lastId = false) (hc : CellOK cfg ci nnode c) :
    cellOfRecord cfg ci nnode (cellRecord ci c) = .ok c := by
  obtain ⟨hl, hnodes, hint⟩ := hc
  have hrn := recordNodes_cellRecord hf hl
  have hdrop := cellRecord_drop hf hl
  have htake := cellRecord_take hf hl
  unfold cellOfRecord
  have h1 : ¬ ((cellRecord ci c).take ci.nodePer).any (fun x => decide (x = -(2 ^ 31 : Int))) = true := by
    rw [List.any_eq_true]
    rintro ⟨x, hx, hbad⟩
    have hbad := of_decide_eq_true hbad
    rw [htake] at hx
    rcases mem_fileNodes hx with rfl | ⟨z, hz, rfl⟩
    · omega
    · have := (hnodes z hz).1
      omega
  rw [if_neg (fun h => h1 h.2), hrn]
  have h2 : ¬ (cfg.checkIndex = true ∧ (c.take ci.nodePer).any (fun x => decide (x < 0 ∨ nnode ≤ x)) = true) := by
    rintro ⟨hchk, hany⟩
    rw [List.any_eq_true] at hany
    obtain ⟨x, hx, hbad⟩ := hany
    simp only [decide_eq_true_eq] at hbad
    obtain ⟨h0, _, _, hlt⟩ := hnodes x hx
    have := hlt hchk; omega
  rw [if_neg h2, adjAddAll_eq_ok hnodes]
  dsimp only
  rw [hdrop]
  congr 1
  by_cases hid : ci.lastId = true
  · simp only [hid, if_true]
    exact Refine.ListFacts.take_append_getD (by rw [hl]; simp [CellInfo.sizePer, hid])
  · have hid' : ci.lastId = false := by simpa using hid
    have hlen2 : c.length ≤ ci.nodePer := by rw [hl]; simp [CellInfo.sizePer, hid']
    simp only [hid', Bool.false_eq_true, if_false, List.append_nil]
    exact List.take_of_length_le hlen2

theorem cellRecord_int32 {cfg : Cfg} {ci : CellInfo} {nnode : Int} {c : List Int} (hc : CellOK cfg ci nnode c) :
    ∀ x ∈ cellRecord ci c, int32 x := by
  obtain ⟨hl, hnodes, hint⟩ := hc
  intro x hx
  unfold cellRecord at hx
  rcases List.mem_append.1 hx with hx | hx
  · rcases mem_fileNodes hx with rfl | ⟨z, hz, rfl⟩
    · unfold int32; omega
    · obtain ⟨h0, h1, _, _⟩ := hnodes z hz
      unfold int32; omega
  · simp only [List.mem_singleton] at hx
    subst hx
    by_cases hid : ci.lastId = true
    · simp only [hid, if_true]
      rw [List.getD_eq_getElem?_getD]
      cases hi : c[ci.nodePer]? with
      | none => simp; unfold int32; omega
      | some z => simp; exact hint z (List.mem_of_getElem? hi)
    · have hid' : ci.lastId = false := by simpa using hid
      simp [hid', CodecConsts.volumeId]; unfold int32; omega

theorem rdCells_flatMap {cfg : Cfg} (v : Nat) {ci : CellInfo} {nnode : Int} (cs : List (List Int)) (r : Bytes)
    (hf : ci.isPyr = true → ci.nodePer = 5 ∧ ci.lastId = false) (hcs : ∀ c ∈ cs, CellOK cfg ci nnode c) :
    rdCells cfg v ci nnode cs.length (cs.flatMap (encCell v ci) ++ r) = .ok (cs, r) := by
  refine (rdCells_eq_many ..).trans (many_flatMap id cs (fun c hc r => rdCell_eq_ok_iff.2 ⟨cellRecord ci c, ?_,
    cellOfRecord_cellRecord hf (hcs c hc)⟩) r)
  rw [encCell_eq, ← cellRecord_length hf (hcs c hc).1]
  exact rdInts_flatMap v _ r (cellRecord_int32 (hcs c hc))

theorem rdVerts_flatMap {v : Nat} (hv : v ≠ 1) (twod : Bool) (ns : List Vertex) (r : Bytes)
    (hz : twod = true → ∀ p ∈ ns, p.z = 0) :
    rdVerts v twod ns.length (ns.flatMap (encVertex v twod) ++ r) = .ok (ns, r) := by
  induction ns with
  | nil => simp [rdVerts]
  | cons p ns ih =>
    simp only [List.length_cons, List.flatMap_cons, List.append_assoc]
    unfold rdVerts
    simp only [encVertex, List.append_assoc]
    rw [rdReal_encF64 hv]
    dsimp only
    rw [rdReal_encF64 hv]
    dsimp only
    have hid : int32 CodecConsts.vertexId := by unfold int32 CodecConsts.vertexId; norm_num
    cases twod with
    | true =>
      simp only [if_true, List.nil_append]
      rw [rdInt_encInt v hid]
      dsimp only
      rw [ih (fun h q hq => hz h q (List.mem_cons_of_mem _ hq))]
      have := hz rfl p (List.mem_cons_self ..)
      cases p; simp_all
    | false =>
      simp only [Bool.false_eq_true, if_false]
      rw [rdReal_encF64 hv]
      dsimp only
      rw [rdInt_encInt v hid]
      dsimp only
      rw [ih (fun h q hq => hz h q (List.mem_cons_of_mem _ hq))]

def geomKey (g : GeomRec) : Int × Nat × Int := (g.node, g.type, g.id)

def GeomOK (cfg : Cfg) (nnode : Int) (g : GeomRec) : Prop :=
  g.type ≤ 2 ∧ NodeOK cfg nnode g.node ∧ int32 g.id ∧ int32 g.gref ∧
  (g.type = 0 → g.gref = g.id ∧ g.p0 = 0 ∧ g.p1 = 0) ∧ (g.type = 1 → g.p1 = 0)

/-- a field of a geometry record that is present in the file only under `c` -/
theorem rdF64_opt (c : Prop) [Decidable c] (u : UInt64) (r : Bytes) :
    (if c then rdF64 ((if c then encF64 u else []) ++ r) else .ok (0, (if c then encF64 u else []) ++ r)) =
      .ok (if c then u else 0, r) := by
  split
  · exact rdF64_encF64 u r
  · rfl

theorem geomKey_ne {acc : List GeomRec} {k : Int × Nat × Int} (h : k ∉ acc.map geomKey) :
    ∀ g ∈ acc, ¬ ((g.node == k.1 && g.type == k.2.1 && g.id == k.2.2) = true) := by
  intro g hg hm
  simp only [Bool.and_eq_true, beq_iff_eq] at hm
  exact h (List.mem_map.2 ⟨g, hg, by rw [geomKey, hm.1.1, hm.1.2, hm.2]⟩)

theorem geomAdd_new {cfg : Cfg} {nnode : Int} {acc : List GeomRec} {node : Int} {t : Nat} {gid : Int}
    (p0 p1 : UInt64) (hk : (node, t, gid) ∉ acc.map geomKey) (hn : NodeOK cfg nnode node) :
    geomAdd cfg acc node t gid p0 p1 =
      .ok (acc ++ [{ type := t, id := gid, gref := gid, node := node,
                     p0 := (if 0 < t then p0 else 0), p1 := (if 1 < t then p1 else 0) }]) := by
  have hnew : ¬ acc.any (fun g => g.node == node && g.type == t && g.id == gid) = true := by
    rw [List.any_eq_true]
    rintro ⟨g, hg, hm⟩
    exact geomKey_ne hk g hg hm
  unfold geomAdd
  rw [if_neg hnew, adjAdd_eq_ok hn]

theorem geomSetGref_new {acc : List GeomRec} {g : GeomRec} (gref : Int)
    (hk : (g.node, g.type, g.id) ∉ acc.map geomKey) :
    geomSetGref (acc ++ [g]) g.node g.type g.id gref = acc ++ [{ g with gref := gref }] := by
  unfold geomSetGref
  rw [List.map_append, List.map_congr_left (g := fun x => x) (fun x hx => if_neg (geomKey_ne hk x hx)), List.map_id']
  simp

theorem rdGeoms_flatMap {cfg : Cfg} (v : Nat) {t : Nat} (ht : t ≤ 2) {nnode : Int} (gs : List GeomRec) :
    ∀ (acc : List GeomRec) (r : Bytes), (∀ g ∈ gs, g.type = t ∧ GeomOK cfg nnode g) →
      ((acc ++ gs).map geomKey).Nodup →
      rdGeoms cfg v t nnode gs.length acc (gs.flatMap (encGeom v t) ++ r) = .ok (acc ++ gs, r) := by
  induction gs with
  | nil => intro acc r _ _; simp [rdGeoms]
  | cons g gs ih =>
    intro acc r hgs hnd
    obtain ⟨ty, gid, gref, node, p0, p1⟩ := g
    obtain ⟨hty, _, hnode, hid, hgref, h0, h1⟩ := hgs _ (List.mem_cons_self ..)
    dsimp only at hty hnode hid hgref h0 h1
    subst hty
    obtain ⟨hn0, hnmax, -, hnlt⟩ := id hnode
    have hn1 : int32 (node + 1) := by
      unfold int32
      omega
    have hkey : (node, ty, gid) ∉ acc.map geomKey := by
      rw [List.map_append, List.map_cons] at hnd
      exact fun hmem => (List.nodup_append.1 hnd).2.2 _ hmem _ (List.mem_cons_self ..) rfl
    have hlast := ih (acc ++ [_]) r (fun g' hg' => hgs g' (List.mem_cons_of_mem _ hg')) (by simpa using hnd)
    rw [List.append_assoc, List.singleton_append] at hlast
    simp only [List.length_cons, List.flatMap_cons, List.append_assoc, encGeom]
    unfold rdGeoms
    rw [rdInt_encInt v hn1]
    dsimp only
    rw [rdInt_encInt v hid]
    dsimp only
    rw [rdF64_opt]
    dsimp only
    rw [rdF64_opt]
    dsimp only
    have hidx : ¬ (cfg.checkIndex = true ∧ (node < 0 ∨ nnode ≤ node)) := fun h => by
      have := hnlt h.1
      omega
    rw [if_neg (by omega), show node + 1 - 1 = node by omega, if_neg hidx, geomAdd_new _ _ hkey hnode]
    dsimp only
    rw [rdF64_opt]
    dsimp only
    -- the record built is the one written: type 0 stores neither `p0` nor `gref`, types 0 and 1 no `p1`
    rcases (by omega : ty = 0 ∨ ty = 1 ∨ ty = 2) with rfl | rfl | rfl
    · obtain ⟨rfl, rfl, rfl⟩ := h0 rfl
      exact hlast
    · obtain rfl := h1 rfl
      rw [if_pos Nat.one_pos, geomSetGref_new _ hkey]
      simpa only [Nat.one_pos, Nat.lt_irrefl, ↓reduceIte, d2i_i2d hgref] using hlast
    · rw [if_pos Nat.two_pos, geomSetGref_new _ hkey]
      simpa only [Nat.two_pos, Nat.one_lt_two, ↓reduceIte, d2i_i2d hgref] using hlast

end Refine.Lemmas.Codec
