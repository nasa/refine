import Refine.Model.FormatsBin
import Refine.Model.FormatsMapbc
import Refine.Lemmas.FormatsText
import Refine.Lemmas.UgridBytes

/-! what an accepted `.r8.ugrid` cell section and a passed `.rst` count test give; `ref_dict_store` (the `.mapbc`
    dictionary) as a sorted association list: a lookup sees the last store of its key -/
namespace Refine.Lemmas.Formats
open Refine.Model.Formats Refine.Model.FormatsBin Refine.Model.FormatsMapbc
open Refine.Model.Meshb (Bytes Status Vertex Cfg adjAddAll int32 wrap32)

theorem r8Cells_ok {fx : BFix} {nnode : Int} {per : Nat} {e : Bool} {n : Nat} {s r : Bytes} {cs : List (List Int)}
    (h : r8Cells fx nnode per e n s = .ok (cs, r)) :
    cs.length = n ∧ (fx.r8 = true → ∀ c ∈ cs, nodesIn per 0 nnode c) := by
  revert h
  fun_induction r8Cells fx nnode per e n s generalizing cs r <;> intro h <;> cases h
  · simp
  · rename_i raw _ h1 hchk _ _ _ _ _ _ ih
    obtain ⟨il, ichk⟩ := ih ‹_›
    have hlen := (Refine.Lemmas.Ugrid.rdInts_len h1).1
    exact ⟨congrArg (· + 1) il, fun hf => List.forall_mem_cons.2
      ⟨nodesIn_of_row hlen fun x hx => by have := of_any_false (fun hc => hchk ⟨hf, hc⟩) x hx; omega, ichk hf⟩⟩

theorem mul_le_of_le_ediv {a v x : Int} (hv : 0 < v) (h : x ≤ a / v) : x * v ≤ a :=
  (Int.le_ediv_iff_mul_le hv).mp h

/-- what the header test of the proposed `.rst` repair buys, without its divisions: no negative count, at least one
    step, and — when there are variables — `variables × steps × dof` doubles in the `avail` bytes -/
theorem rstCountsFit_fit {h : RstHeader} {avail : Int} (hf : rstCountsFit h avail = true) :
    0 ≤ h.variables ∧ 1 ≤ h.steps ∧ 0 ≤ h.dof ∧ (h.variables = 0 ∨ h.variables * h.steps * h.dof * 8 ≤ avail) := by
  unfold rstCountsFit at hf
  simp only [Bool.and_eq_true, Bool.or_eq_true, decide_eq_true_eq, beq_iff_eq] at hf
  obtain ⟨⟨hv, hs, hd0⟩, hrest⟩ := hf
  refine ⟨hv, hs, hd0, ?_⟩
  rcases hrest with h0 | ⟨⟨-, -⟩, h3⟩
  · exact .inl h0
  · by_cases hvz : h.variables = 0
    · exact .inl hvz
    · right
      -- `dof ≤ avail / 8 / variables / steps`, multiplied out from the inside
      have e2 := mul_le_of_le_ediv (by omega : 0 < h.variables) (mul_le_of_le_ediv (by omega : 0 < h.steps) h3)
      have e3 := Int.mul_le_mul_of_nonneg_right e2 (by norm_num : (0 : Int) ≤ 8)
      have e4 : avail / 8 * 8 ≤ avail := Int.ediv_mul_le _ (by norm_num)
      have e5 : h.variables * h.steps * h.dof * 8 = h.dof * h.steps * h.variables * 8 := by ring
      omega

def lookup (d : List (Int × Int)) (k : Int) : Option Int := (d.find? fun e => e.1 == k).map (·.2)

theorem lookup_cons (a b : Int) (d : List (Int × Int)) (k : Int) :
    lookup ((a, b) :: d) k = if a = k then some b else lookup d k := by
  unfold lookup
  rw [List.find?_cons]
  by_cases h : a = k
  · simp [h]
  · simp [h, show (a == k) = false by simpa using h]

theorem lookup_dictStore (d : List (Int × Int)) (k v k' : Int) :
    lookup (dictStore d k v) k' = if k' = k then some v else lookup d k' := by
  fun_induction dictStore d k v <;> simp only [lookup_cons]
  -- the recursive arm (the new key is beyond the head's); the other three are closed together below
  case case4 h1 _ ih =>
    rw [ih]
    by_cases h : k' = k
    · subst h; simp [h1]
    · simp [h]
  all_goals
    by_cases h : k' = k
    · simp [h]
    · simp [h, Ne.symm h, lookup]

/-- strictly ascending keys -/
def Sorted (d : List (Int × Int)) : Prop := d.Pairwise fun a b => a.1 < b.1

theorem mem_dictStore {d : List (Int × Int)} {k v : Int} : ∀ c ∈ dictStore d k v, c.1 = k ∨ c ∈ d := by
  fun_induction dictStore d k v <;> intro c hc
  · exact .inl (by rw [List.mem_singleton.1 hc])
  · exact (List.mem_cons.1 hc).elim (fun e => .inl (by rw [e])) fun h => .inr (List.mem_cons_of_mem _ h)
  · exact (List.mem_cons.1 hc).elim (fun e => .inl (by rw [e])) .inr
  · rename_i ih
    exact (List.mem_cons.1 hc).elim (fun e => .inr (e ▸ List.mem_cons_self)) fun h =>
      (ih c h).imp_right (List.mem_cons_of_mem _)

theorem dictStore_sorted {d : List (Int × Int)} (h : Sorted d) (k v : Int) : Sorted (dictStore d k v) := by
  fun_induction dictStore d k v
  · exact List.pairwise_singleton _ _
  · exact List.pairwise_cons.2 (List.pairwise_cons.1 h)
  · rename_i h2
    exact List.pairwise_cons.2 ⟨fun c hc => (List.mem_cons.1 hc).elim (fun e => e ▸ h2)
      fun hc => lt_trans h2 ((List.pairwise_cons.1 h).1 c hc), h⟩
  · rename_i a _ _ _ _ ih
    obtain ⟨hlt, hd⟩ := List.pairwise_cons.1 h
    -- an entry of `dictStore d k v` has key `k` or is in `d`: above `a` either way
    refine List.pairwise_cons.2 ⟨fun c hc => ?_, ih hd⟩
    rcases mem_dictStore c hc with hk | hin
    · show a < c.1
      omega
    · exact hlt c hin

theorem fold_sorted (es : List (Int × Int)) {d : List (Int × Int)} (h : Sorted d) :
    Sorted (es.foldl (fun d e => dictStore d e.1 e.2) d) := by
  induction es generalizing d with
  | nil => exact h
  | cons e es ih => exact ih (dictStore_sorted h e.1 e.2)

theorem mem_iff_lookup {d : List (Int × Int)} (h : Sorted d) (k v : Int) : (k, v) ∈ d ↔ lookup d k = some v := by
  induction d with
  | nil => simp [lookup]
  | cons e d ih =>
    obtain ⟨a, b⟩ := e
    obtain ⟨hlt, hd⟩ := List.pairwise_cons.1 h
    rw [lookup_cons, List.mem_cons, Prod.mk.injEq, ih hd]
    by_cases hak : a = k
    · -- the head holds the key, and no later entry does (keys ascend strictly)
      subst hak
      have : lookup d a ≠ some v := fun hl => Int.lt_irrefl a (hlt (a, v) ((ih hd).2 hl))
      simp [this, eq_comm]
    · simp [hak, Ne.symm hak]

/-- the code of the last line that names `id` -/
def lastCode (es : List (Int × Int)) (id : Int) : Option Int := (es.reverse.find? fun e => e.1 == id).map (·.2)

theorem lookup_fold (es : List (Int × Int)) (d : List (Int × Int)) (k : Int) :
    lookup (es.foldl (fun d e => dictStore d e.1 e.2) d) k = (lastCode es k).or (lookup d k) := by
  induction es generalizing d with
  | nil => simp [lastCode]
  | cons e es ih =>
    simp only [List.foldl_cons]
    rw [ih, lookup_dictStore]
    unfold lastCode
    simp only [List.reverse_cons, List.find?_append, List.find?]
    cases hfind : (es.reverse.find? fun x => x.1 == k) with
    | some x => simp
    | none =>
      by_cases hk : k = e.1
      · have : (e.1 == k) = true := by simp [hk]
        simp [hk]
      · have : (e.1 == k) = false := by simp; omega
        simp [hk, this]

end Refine.Lemmas.Formats
