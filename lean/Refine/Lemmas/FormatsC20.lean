import Refine.Lemmas.FormatsBin

/-! C20 for the text and `.mapbc` readers: per-kind `nodesIn` facts give `indicesInRange`; every way the `.mapbc` reader
    model can stop is REF_FAILURE or an input outside the token abstraction -/
namespace Refine.Lemmas.Formats
open Refine.Model.Formats Refine.Model.FormatsBin Refine.Model.FormatsMapbc
open Refine.Model.Meshb (Bytes Status Vertex)
open Refine.Model.Ugrid (Kind)

/-- cells whose nodes lie in `[0, nnode)` lie in `[0, cnt nnode)`: a cell with a node forces `nnode > 0` -/
theorem cellsInRange_cnt {nnode : Int} {per : Nat} {cs : List (List Int)} (h : ∀ c ∈ cs, nodesIn per 0 nnode c) :
    cellsInRange ((cnt nnode : Nat) : Int) per cs = true := by
  apply cellsInRange_of
  intro c hc
  obtain ⟨hl, hx⟩ := h c hc
  refine ⟨hl, fun x hxm => ?_⟩
  have hb := hx x hxm
  have hpos : 0 < nnode := by omega
  have : ((cnt nnode : Nat) : Int) = nnode := by unfold cnt; omega
  omega

theorem inRange_of_kinds {m : TMesh} {nnode : Int} (hn : m.nodes.length = cnt nnode)
    (h0 : ∀ c ∈ m.edg, nodesIn 2 0 nnode c) (h1 : ∀ c ∈ m.tri, nodesIn 3 0 nnode c)
    (h2 : ∀ c ∈ m.qua, nodesIn 4 0 nnode c) (h3 : ∀ c ∈ m.tet, nodesIn 4 0 nnode c)
    (h4 : ∀ c ∈ m.pyr, nodesIn 5 0 nnode c) (h5 : ∀ c ∈ m.pri, nodesIn 6 0 nnode c)
    (h6 : ∀ c ∈ m.hex, nodesIn 8 0 nnode c) : indicesInRange m = true := by
  unfold indicesInRange
  simp only [hn, Bool.and_eq_true, List.all_eq_true]
  refine ⟨cellsInRange_cnt h0, fun k _ => ?_⟩
  cases k
  · exact cellsInRange_cnt (per := 3) h1
  · exact cellsInRange_cnt (per := 4) h2
  · exact cellsInRange_cnt (per := 4) h3
  · exact cellsInRange_cnt (per := 5) h4
  · exact cellsInRange_cnt (per := 6) h5
  · exact cellsInRange_cnt (per := 8) h6

theorem nodesIn_nil {per : Nat} {lo hi : Int} : ∀ c ∈ ([] : List (List Int)), nodesIn per lo hi c := by simp

theorem vertsOfColumns_length (n : Nat) (f : List UInt64) : (vertsOfColumns n f).length = n := by
  simp [vertsOfColumns]

theorem mapbcEntries_length {n : Nat} {ts : List Tok} {es : List (Int × Int)} (h : mapbcEntries n ts = .ok es) :
    es.length = n := by
  revert h
  fun_induction mapbcEntries n ts generalizing es <;> intro h <;> cases h
  · rfl
  · rename_i ih; exact congrArg (· + 1) (ih ‹_›)

/-- only two things stop the `.mapbc` reader model: REF_FAILURE, or an input outside the token abstraction -/
def Benign (e : Err) : Prop := e = .st .failure ∨ e = .unmodelled

theorem scanD_error {ts : List Tok} {e : Err} (h : scanD ts = .error e) : e = .unmodelled := by
  revert h
  fun_cases scanD ts <;> intro h <;> cases h <;> rfl

theorem rdD_error {ts : List Tok} {e : Err} (h : rdD ts = .error e) : Benign e := by
  revert h
  fun_cases rdD ts <;> intro h <;> cases h
  · exact .inr (scanD_error ‹_›)
  · exact .inl rfl

theorem lineDs_error {k : Nat} {l : List Tok} {e : Err} (h : lineDs k l = .error e) : e = .unmodelled := by
  revert h
  fun_induction lineDs k l <;> intro h <;> cases h
  · exact scanD_error ‹_›
  · rename_i ih hrec; exact ih hrec

theorem lineD_error {l : List Tok} {e : Err} (h : lineD l = .error e) : Benign e := by
  revert h
  fun_cases lineD l <;> intro h <;> cases h
  · exact .inr (lineDs_error ‹_›)
  · exact .inl rfl

theorem mapbcEntries_error {n : Nat} {ts : List Tok} {e : Err} (h : mapbcEntries n ts = .error e) : Benign e := by
  revert h
  fun_induction mapbcEntries n ts <;> intro h <;> cases h
  · exact rdD_error ‹_›
  · exact rdD_error ‹_›
  · exact .inr rfl
  · rename_i ih hrec; exact ih hrec

/-- `fscanf("%s", line)` with `char line[1024]`: a piece of 1024 characters or more has no status in the model (the C
    writes past the buffer) -/
theorem msh_long_token (s : String) (h : 1024 ≤ s.length) :
    decodeMsh Fix.none [.word s, .nl] = .error (.st .undefined) := by
  have hl : (Tok.word s).len ≥ 1024 := h
  have hs : scanS Fix.none [.word s, .nl] = .error (.st .undefined) := by
    unfold scanS
    simp only [dropWs]
    rw [if_pos hl]
    rfl
  unfold decodeMsh
  show mshLoop Fix.none _ (_ + 1) _ _ = _
  unfold mshLoop
  rw [hs]

end Refine.Lemmas.Formats
