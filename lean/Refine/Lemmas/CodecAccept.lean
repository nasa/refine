import Refine.Lemmas.CodecBytes

/-!
  What acceptance means for the composite `.meshb` readers: `decodeMeshbWith`, `kwSection` and `rdCellGroups` answer `.ok`
  exactly when the reads listed here succeeded.  The round trip (CodecRoundtrip) supplies the reads from the facts about a
  written file; the C20 lemmas (CodecC20) and the parallel reader open them.  Each of the three readers is unfolded here
  and nowhere else.  All of this is about acceptance: which status a rejected file gets is stated nowhere (the C20
  counter-examples evaluate the reader on witness files).
-/
namespace Refine.Lemmas.Codec
open Refine.Model.Meshb

/-- The reads of `decodeMeshbWith cfg bs` that produce `m`, all of them (`decode_iff`), with the version `v`, the key
    positions `kp`, the vertex section's `next` and the streams before the count (`s0`), before (`s`) and after (`s'`) the
    vertex records. -/
structure Decoded (cfg : Cfg) (bs : Bytes) (m : MeshFile) (v : Nat) (kp : KeyPos) (next : Int) (s0 : Bytes)
    (nnode : Int) (s s' : Bytes) : Prop where
  header : header cfg bs = .ok (v, kp)
  dim : ∃ n1 s1 dim s2, Refine.Model.Meshb.jump v bs kp 3 = .ok (some (n1, s1)) ∧ rdI32 s1 = .ok (dim, s2) ∧
    ¬ (dim < 2 ∨ 3 < dim) ∧ m.twod = decide (dim = 2)
  jump : jump v bs kp 4 = .ok (some (next, s0))
  count : rdInt v s0 = .ok (nnode, s)
  verts : rdVerts v m.twod nnode.toNat s = .ok (m.nodes, s')
  tell : next = tell bs s'
  cells : rdCellGroups cfg v bs kp nnode cellInfos = .ok m.cells
  geoms : rdGeomTypes cfg v bs kp nnode [0, 1, 2] [] = .ok m.geoms
  cad : rdCad cfg v bs kp = .ok m.cad

theorem decode_iff {cfg : Cfg} {bs : Bytes} {m : MeshFile} :
    decodeMeshbWith cfg bs = .ok m ↔ ∃ v kp next s0 nnode s s', Decoded cfg bs m v kp next s0 nnode s s' := by
  constructor
  · intro h
    revert h
    fun_cases decodeMeshbWith cfg bs <;> intro h <;> cases h
    -- the reads of the accepting arm, in file order
    next v kp hhead n3 s3 hj3 dim s3' hdim hdok _ next s0 hj4 nnode s hcount vs s' hverts htell gs hcells geoms hgeoms
        cad hcad =>
      exact ⟨v, kp, next, s0, nnode, s, s', hhead, ⟨n3, s3, dim, s3', hj3, hdim, hdok, rfl⟩, hj4, hcount, hverts,
        Decidable.not_not.1 htell, hcells, hgeoms, hcad⟩
  · rintro ⟨v, kp, next, s0, nnode, s, s', d⟩
    obtain ⟨n1, s1, dim, s2, hj3, hdim, hdok, htw⟩ := d.dim
    have hv := d.verts
    rw [htw] at hv
    unfold decodeMeshbWith
    simp only [d.header, hj3, hdim, if_neg hdok, d.jump, d.count, hv, ← d.tell, d.cells, d.geoms, d.cad,
      ne_eq, not_true_eq_false, if_false]
    rw [← htw]

theorem decode_inv {cfg : Cfg} {bs : Bytes} {m : MeshFile} (h : decodeMeshbWith cfg bs = .ok m) :
    ∃ v kp next s0 nnode s s', Decoded cfg bs m v kp next s0 nnode s s' :=
  decode_iff.1 h

/-- what `kwSection` returns: the default when the keyword is absent, else what `body` reads after the count, provided
    it stops at `next_position` -/
theorem kwSection_eq_ok_iff {α : Type} {v : Nat} {bs : Bytes} {kp : KeyPos} {kw : Nat} {dflt a : α}
    {body : Int → P α} :
    kwSection v bs kp kw dflt body = .ok a ↔
      (jump v bs kp kw = .ok none ∧ a = dflt) ∨
      ∃ s0 n s r, jump v bs kp kw = .ok (some (tell bs r, s0)) ∧ rdInt v s0 = .ok (n, s) ∧ body n s = .ok (a, r) := by
  constructor
  · intro h
    revert h
    fun_cases kwSection v bs kp kw dflt body <;> intro h <;> cases h
    · exact .inl ⟨‹_›, rfl⟩
    · exact .inr ⟨_, _, _, _, ‹_›, ‹_›, ‹_›⟩
  · unfold kwSection
    rintro (⟨hj, rfl⟩ | ⟨s0, n, s, r, h1, h2, h3⟩)
    · simp only [hj]
    · simp only [h1, h2, h3, if_true]

theorem rdCellGroups_eq_each (cfg : Cfg) (v : Nat) (bs : Bytes) (kp : KeyPos) (nnode : Int) (cis : List CellInfo) :
    rdCellGroups cfg v bs kp nnode cis =
      Refine.Lemmas.Reader.each (fun ci => kwSection v bs kp ci.kw [] (fun n => rdCells cfg v ci nnode n.toNat)) cis := by
  fun_induction rdCellGroups cfg v bs kp nnode cis <;> simp_all only [Refine.Lemmas.Reader.each]

theorem rdCellGroups_eq_ok_iff {cfg : Cfg} {v : Nat} {bs : Bytes} {kp : KeyPos} {nnode : Int}
    {cis : List CellInfo} {gs : List (List (List Int))} :
    rdCellGroups cfg v bs kp nnode cis = .ok gs ↔ cis.length = gs.length ∧
      ∀ p ∈ cis.zip gs, kwSection v bs kp p.1.kw [] (fun n => rdCells cfg v p.1 nnode n.toNat) = .ok p.2 := by
  rw [rdCellGroups_eq_each]; exact Refine.Lemmas.Reader.each_eq_ok_iff

end Refine.Lemmas.Codec
