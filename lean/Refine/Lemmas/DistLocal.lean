import Refine.Lemmas.DistLayout

/-!
  Lemmas for `Refine/Props/C06Local.lean`: a local operation that exchanges cells all of whose vertices are owned by the
  acting rank.  If the world stores a mesh (`DistLayout.Stores`), the new world stores the mesh with those cells exchanged
  (`stores_replaceCells`), so clauses (i)–(v) of `distInv` and the distinct owned globals are kept — the cell lists may come
  to repeat a cell, which is why this is about `Stores` and not `Layout`.
  `replaceCells` and `fullyOwnedOn` are the modelled operation and its guard; `CellFacts` names clauses (ii), (iii) as
  propositions (`cellFacts_iff`), the form in which `cells_after_local_ops` is quoted.
-/
namespace Refine.Lemmas.DistLocal
open Refine.Model.Dist Refine.Lemmas.DistClauses Refine.Lemmas.DistLayout
open Refine.Lemmas.ShufflinSpec Refine.Lemmas.ShufflinWorld
open Refine.Model.Comm (World)

/-- rank `r` drops the cells of `removed` and stores the cells of `added`; vertex tables and the other ranks untouched -/
def replaceCells (r : Nat) (removed added : List DCell) (w : World RankState) : World RankState :=
  w.mapIdx fun q s =>
    if q = r then { s with cells := (s.cells.filter fun c => !removed.contains c) ++ added } else s

/-- every vertex of `c` is stored on `s` with part `r` (the ownership guard `ref_cell_local_gem`,
    `ref_collapse_edge_local_cell`, `ref_swap_local_cell`, … evaluates on its own rank) -/
def fullyOwnedOn (s : RankState) (r : Nat) (c : DCell) : Bool :=
  c.nodes.all fun g => s.partOf g == some (r : Int)

theorem replaceCells_get (r : Nat) (removed added : List DCell) (w : World RankState) (q : Nat) :
    (replaceCells r removed added w)[q]? =
      (w[q]?).map fun s => if q = r then { s with cells := (s.cells.filter fun c => !removed.contains c) ++ added } else s := by
  unfold replaceCells; rw [List.getElem?_mapIdx]

theorem replaceCells_ne (r : Nat) (removed added : List DCell) (w : World RankState) {q : Nat} (hq : q ≠ r) :
    (replaceCells r removed added w)[q]? = w[q]? := by
  rw [replaceCells_get]
  cases w[q]? with
  | none => rfl
  | some t => rw [Option.map_some, if_neg hq]

/-- clauses (ii), (iii) as propositions -/
structure CellFacts (w : World RankState) : Prop where
  stored : ∀ (q : Nat) (t : RankState), w[q]? = some t → ∀ c ∈ t.cells, ∀ v ∈ c.nodes, t.has v = true
  touches : ∀ (q : Nat) (t : RankState), w[q]? = some t → ∀ c ∈ t.cells,
    ∃ gp ∈ t.cellVerts c, gp.2 = (q : Int)
  owners : ∀ (q : Nat) (t : RankState), w[q]? = some t → ∀ c ∈ t.cells, ∀ gp ∈ t.cellVerts c,
    ∃ o, w[gp.2.toNat]? = some o ∧ c ∈ o.cells
  verts : ∀ (q : Nat) (t : RankState), w[q]? = some t → ∀ nd ∈ t.nodes,
    nd.part = (q : Int) ∨ ∃ c ∈ t.cells, nd.glob ∈ c.nodes

theorem cellFacts_iff (w : World RankState) : CellFacts w ↔ (clauseCells w = true ∧ clauseVerts w = true) := by
  rw [clauseCells_iff, clauseVerts_iff]
  constructor
  · exact fun F => ⟨fun q t hq c hc => ⟨F.stored q t hq c hc, F.touches q t hq c hc, F.owners q t hq c hc⟩, F.verts⟩
  · rintro ⟨hC, hV⟩
    exact ⟨fun q t hq c hc => (hC q t hq c hc).1, fun q t hq c hc => (hC q t hq c hc).2.1,
      fun q t hq c hc => (hC q t hq c hc).2.2, hV⟩

theorem fullyOwnedOn_iff (s : RankState) (r : Nat) (c : DCell) :
    fullyOwnedOn s r c = true ↔ ∀ g ∈ c.nodes, s.partOf g = some (r : Int) := by
  simp only [fullyOwnedOn, List.all_eq_true, beq_iff_eq]

section Stores
variable {P : Int → Int} {Y : Int → List Nat} {S : DCell → Prop} {Vg : Int → Prop} {w : World RankState}
  {r : Nat} {removed added : List DCell}

theorem replaceCells_rank {q : Nat} {t' : RankState} (h' : (replaceCells r removed added w)[q]? = some t') :
    ∃ t, w[q]? = some t ∧ t'.nodes = t.nodes ∧
      ∀ c, c ∈ t'.cells ↔ if q = r then (c ∈ t.cells ∧ c ∉ removed) ∨ c ∈ added else c ∈ t.cells := by
  rw [replaceCells_get] at h'
  obtain ⟨t, ht, rfl⟩ := Option.map_eq_some_iff.mp h'
  refine ⟨t, ht, by split <;> rfl, fun c => ?_⟩
  by_cases hq : q = r
  · simp [hq]
  · simp only [if_neg hq]

theorem fullyOwned_part (L : Stores P Y S Vg w) {s : RankState} (hs : w[r]? = some s) {c : DCell}
    (hfo : fullyOwnedOn s r c = true) : ∀ v ∈ c.nodes, Vg v ∧ P v = (r : Int) := by
  intro v hv
  obtain ⟨y, hy, rfl, hyp⟩ := partOf_some ((fullyOwnedOn_iff s r c).mp hfo v hv)
  obtain ⟨h1, h2, _⟩ := (L.nodes hs y).mp hy
  exact ⟨h1, h2 ▸ hyp⟩

theorem stores_replaceCells (L : Stores P Y S Vg w) (hrem : ∀ c ∈ removed, ∀ v ∈ c.nodes, P v = (r : Int))
    (hadd : ∀ c ∈ added, c.nodes ≠ [] ∧ ∀ v ∈ c.nodes, Vg v ∧ P v = (r : Int)) :
    Stores P Y (fun c => (S c ∧ c ∉ removed) ∨ c ∈ added) Vg (replaceCells r removed added w) := by
  have hother : ∀ {q : Nat} {c : DCell}, q ≠ r → (∃ v ∈ c.nodes, P v = (q : Int)) → c ∉ removed ∧ c ∉ added := by
    rintro q c hq ⟨v, hv, hp⟩
    exact ⟨fun h => hq (Int.ofNat_inj.mp (hp.symm.trans (hrem c h v hv))),
      fun h => hq (Int.ofNat_inj.mp (hp.symm.trans ((hadd c h).2 v hv).2))⟩
  refine { range := fun g hg => ?_, cellVerts := ?_, nodupG := fun h' => ?_, cells := fun {q t'} h' c => ?_,
           nodes := fun {q t'} h' nd => ?_ }
  · rw [replaceCells, List.length_mapIdx]
    exact L.range g hg
  · rintro c (hc | hc) v hv
    · exact L.cellVerts c hc.1 v hv
    · exact ((hadd c hc).2 v hv).1
  · obtain ⟨t, ht, hn, _⟩ := replaceCells_rank h'
    exact hn ▸ L.nodupG ht
  · obtain ⟨t, ht, _, hc⟩ := replaceCells_rank h'
    rw [hc c]
    by_cases hq : q = r
    · subst hq
      rw [if_pos rfl, L.cells ht c]
      constructor
      · rintro (⟨⟨h1, h2⟩, h3⟩ | h)
        · exact ⟨Or.inl ⟨h1, h3⟩, h2⟩
        · obtain ⟨v, hv⟩ := List.exists_mem_of_ne_nil _ (hadd c h).1
          exact ⟨Or.inr h, v, hv, ((hadd c h).2 v hv).2⟩
      · rintro ⟨⟨h1, h3⟩ | h, h2⟩
        · exact Or.inl ⟨⟨h1, h2⟩, h3⟩
        · exact Or.inr h
    · rw [if_neg hq, L.cells ht c]
      exact ⟨fun ⟨h1, h2⟩ => ⟨Or.inl ⟨h1, (hother hq h2).1⟩, h2⟩,
        fun ⟨h1, h2⟩ => ⟨(h1.resolve_right (hother hq h2).2).1, h2⟩⟩
  · obtain ⟨t, ht, hn, hc⟩ := replaceCells_rank h'
    rw [hn, L.nodes ht nd]
    refine and_congr_right fun _ => and_congr_right fun hp => and_congr_right fun _ => ?_
    -- a vertex of an exchanged cell has part `r`: on `r` it is owned
    by_cases hq : q = r
    · subst hq
      simp only [hc, if_pos]
      constructor
      · rintro (h | ⟨c, h1, h2⟩)
        · exact Or.inl h
        · by_cases hr : c ∈ removed
          · exact Or.inl (hp.trans (hrem c hr _ h2))
          · exact Or.inr ⟨c, Or.inl ⟨h1, hr⟩, h2⟩
      · rintro (h | ⟨c, h1 | h1, h2⟩)
        · exact Or.inl h
        · exact Or.inr ⟨c, h1.1, h2⟩
        · exact Or.inl (hp.trans ((hadd c h1).2 _ h2).2)
    · simp only [hc, if_neg hq]

end Stores

/-- from the invariant: after `r` has exchanged cells it fully owns (as it reads its own table) for non-empty cells it
    fully owns, the world stores the mesh with those cells exchanged — hence (`Stores.clauseOwner` … `clauseCellOwner`,
    `owned_nodup`) clauses (i)–(v) and the distinct owned globals hold again — and no other rank stored a removed cell -/
theorem stores_after_local_ops {w : World RankState} (h : distInv w = true) {r : Nat} {s : RankState}
    (hs : w[r]? = some s) {removed added : List DCell} (hrem : ∀ c ∈ removed, fullyOwnedOn s r c = true)
    (hadd : ∀ c ∈ added, fullyOwnedOn s r c = true ∧ c.nodes ≠ []) :
    Stores (partW w) (payW w) (fun c => (AllC w c ∧ c ∉ removed) ∨ c ∈ added) (Vw w) (replaceCells r removed added w) ∧
    ∀ c ∈ removed, ∀ (q : Nat) (t : RankState), q ≠ r → w[q]? = some t → c ∉ t.cells := by
  have L := (layout_of_distInv h).toStores
  have hrem' := fun c hc v hv => (fullyOwned_part L hs (hrem c hc) v hv).2
  refine ⟨stores_replaceCells L hrem' fun c hc => ⟨(hadd c hc).2, fullyOwned_part L hs (hadd c hc).1⟩,
    fun c hc q t hq ht hct => ?_⟩
  -- a rank storing `c` owns a vertex of it, and all vertices of `c` are owned by `r`
  obtain ⟨_, v, hv, hp⟩ := (L.cells ht c).mp hct
  exact hq (Int.ofNat_inj.mp (hp.symm.trans (hrem' c hc v hv)))

end Refine.Lemmas.DistLocal
