/-!
  Folding a commutative, associative, idempotent operation (a running `min`) over a list: the result depends only on
  the SET of the elements, not on their order or multiplicity: in the order `Below` of the operation the fold is the
  greatest lower bound of the start value and the entries (`below_foldl_iff`).  The laws are asked on a subset `S` closed
  under the operation, so that the C's `MIN` on IEEE doubles qualifies.  Core only.
  The namespace is the wall distance's (`Refine.Lemmas.PhysDist`): its statements (`Props/C12Par`) name `SemiLatOn`;
  `Lemmas/FoldMin` supplies the instance for `min` on a linear order from there.
-/
namespace Refine.Lemmas.PhysDist

/-- what `min` satisfies on a set `S` of values closed under it.  On `ℝ`: everywhere.  On IEEE doubles with
    `MIN(a,b) = a < b ? a : b`: on the values that are neither NaN nor `-0.0` (then `<` is a strict total order and
    numerically equal values are the same bit pattern), which is where the distance kernels take their values
    (`sqrt` of a sum of squares) -/
structure SemiLatOn {β : Type} (S : β → Prop) (op : β → β → β) : Prop where
  closed : ∀ a b, S a → S b → S (op a b)
  comm : ∀ a b, S a → S b → op a b = op b a
  assoc : ∀ a b c, S a → S b → S c → op (op a b) c = op a (op b c)
  idem : ∀ a, S a → op a a = a

abbrev SemiLat {β : Type} (op : β → β → β) : Prop := SemiLatOn (fun _ => True) op

section Fold
variable {β : Type} {S : β → Prop} {op : β → β → β}

/-- the order of the semilattice: `a` is below `b` -/
def Below (op : β → β → β) (a b : β) : Prop := op a b = a

theorem below_antisymm (h : SemiLatOn S op) {a b : β} (ha : S a) (hb : S b) (h1 : Below op a b)
    (h2 : Below op b a) : a = b := by
  unfold Below at h1 h2
  rw [← h1, h.comm a b ha hb, h2]

theorem below_refl (h : SemiLatOn S op) (a : β) (ha : S a) : Below op a a := h.idem a ha

theorem below_op_iff (h : SemiLatOn S op) {z a b : β} (hz : S z) (ha : S a) (hb : S b) :
    Below op z (op a b) ↔ Below op z a ∧ Below op z b := by
  unfold Below
  constructor
  · intro e
    constructor
    · rw [← e, h.assoc z _ a hz (h.closed a b ha hb) ha, h.comm (op a b) a (h.closed a b ha hb) ha,
        ← h.assoc a a b ha ha hb, h.idem a ha]
    · rw [← e, h.assoc z _ b hz (h.closed a b ha hb) hb, h.assoc a b b ha hb hb, h.idem b hb]
  · rintro ⟨h1, h2⟩
    rw [← h.assoc z a b hz ha hb, h1, h2]

theorem foldl_closed (h : SemiLatOn S op) (L : List β) (d : β) (hd : S d) (hL : ∀ x ∈ L, S x) : S (L.foldl op d) := by
  induction L generalizing d with
  | nil => exact hd
  | cons x xs ih =>
    exact ih (op d x) (h.closed d x hd (hL x List.mem_cons_self)) (fun y hy => hL y (List.mem_cons_of_mem _ hy))

theorem below_foldl_iff (h : SemiLatOn S op) (L : List β) (d z : β) (hz : S z) (hd : S d) (hL : ∀ x ∈ L, S x) :
    Below op z (L.foldl op d) ↔ Below op z d ∧ ∀ x ∈ L, Below op z x := by
  induction L generalizing d with
  | nil => exact ⟨fun e => ⟨e, nofun⟩, fun e => e.1⟩
  | cons y ys ih =>
    have hy := hL y List.mem_cons_self
    rw [List.foldl_cons, ih (op d y) (h.closed d y hd hy) fun x hx => hL x (List.mem_cons_of_mem _ hx),
      below_op_iff h hz hd hy, List.forall_mem_cons, and_assoc]

/-- **the fold only sees the set of the elements**: duplicates and order are irrelevant -/
theorem foldl_eq_of_same_set (h : SemiLatOn S op) (L1 L2 : List β) (d : β) (hd : S d) (h1 : ∀ x ∈ L1, S x)
    (h2 : ∀ x ∈ L2, S x) (hs : ∀ x, x ∈ L1 ↔ x ∈ L2) : L1.foldl op d = L2.foldl op d := by
  have m1 := foldl_closed h L1 d hd h1
  have m2 := foldl_closed h L2 d hd h2
  -- each fold is a lower bound of its own list, hence of the other, hence below the other's greatest lower bound
  have b1 := (below_foldl_iff h L1 d _ m1 hd h1).mp (below_refl h _ m1)
  have b2 := (below_foldl_iff h L2 d _ m2 hd h2).mp (below_refl h _ m2)
  exact below_antisymm h m1 m2
    ((below_foldl_iff h L2 d _ m1 hd h2).mpr ⟨b1.1, fun x hx => b1.2 x ((hs x).2 hx)⟩)
    ((below_foldl_iff h L1 d _ m2 hd h1).mpr ⟨b2.1, fun x hx => b2.2 x ((hs x).1 hx)⟩)

/-- the same through a map: equal sets of elements give equal folds of their values -/
theorem foldl_map_eq_of_same_set {γ : Type} (h : SemiLatOn S op) (f : γ → β) (E1 E2 : List γ) (d : β) (hd : S d)
    (hf : ∀ e, S (f e)) (hs : ∀ e, e ∈ E1 ↔ e ∈ E2) : (E1.map f).foldl op d = (E2.map f).foldl op d :=
  foldl_eq_of_same_set h _ _ d hd (List.forall_mem_map.mpr fun e _ => hf e) (List.forall_mem_map.mpr fun e _ => hf e)
    fun x => by simp only [List.mem_map, hs]

end Fold

end Refine.Lemmas.PhysDist
