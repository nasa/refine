import Refine.Scalar
import Mathlib.Analysis.SpecialFunctions.Pow.Real
import Mathlib.Analysis.SpecialFunctions.Sqrt

/-!
  The lawful instance `Scalar ℝ` and the bridge lemmas that rewrite the
  operations-only vocabulary of the models into Mathlib's real arithmetic.
  Theorems about `REF_DBL` kernels are stated at this instance: they hold in
  exact arithmetic; rounding is modelled (the `Float` instance), not verified.
-/
namespace Refine

noncomputable instance instScalarReal : Scalar ℝ where
  add := fun a b => a + b
  sub := fun a b => a - b
  mul := fun a b => a * b
  div := fun a b => a / b
  neg := fun a => -a
  abs := fun a => |a|
  sqrt := Real.sqrt
  exp := Real.exp
  log := Real.log
  pow := fun a b => a ^ b
  ofInt := fun i => (i : ℝ)
  ofDec := fun m e => (m : ℝ) * (10 : ℝ) ^ e
  le := fun a b => decide (a ≤ b)
  lt := fun a b => decide (a < b)
  isFinite := fun _ => true

namespace ScalarReal
open Scalar

@[simp] theorem add_eq (a b : ℝ) : Scalar.add a b = a + b := rfl
@[simp] theorem sub_eq (a b : ℝ) : Scalar.sub a b = a - b := rfl
@[simp] theorem mul_eq (a b : ℝ) : Scalar.mul a b = a * b := rfl
@[simp] theorem div_eq (a b : ℝ) : Scalar.div a b = a / b := rfl
@[simp] theorem neg_eq (a : ℝ) : Scalar.neg a = -a := rfl
@[simp] theorem abs_eq (a : ℝ) : Scalar.abs a = |a| := rfl
@[simp] theorem sqrt_eq (a : ℝ) : Scalar.sqrt a = Real.sqrt a := rfl
@[simp] theorem exp_eq (a : ℝ) : Scalar.exp a = Real.exp a := rfl
@[simp] theorem log_eq (a : ℝ) : Scalar.log a = Real.log a := rfl
@[simp] theorem pow_eq (a b : ℝ) : Scalar.pow a b = a ^ b := rfl
@[simp] theorem ofInt_eq (i : Int) : (Scalar.ofInt i : ℝ) = (i : ℝ) := rfl
@[simp] theorem ofDec_eq (m e : Int) : (Scalar.ofDec m e : ℝ) = (m : ℝ) * (10 : ℝ) ^ e := rfl
@[simp] theorem isFinite_eq (a : ℝ) : Scalar.isFinite a = true := rfl
@[simp] theorem le_iff (a b : ℝ) : Scalar.le a b = true ↔ a ≤ b := by simp [Scalar.le]
@[simp] theorem lt_iff (a b : ℝ) : Scalar.lt a b = true ↔ a < b := by simp [Scalar.lt]
theorem le_false_iff (a b : ℝ) : Scalar.le a b = false ↔ b < a := by simp [Scalar.le]
theorem lt_false_iff (a b : ℝ) : Scalar.lt a b = false ↔ b ≤ a := by simp [Scalar.lt]

@[simp] theorem zero_eq : (Scalar.zero : ℝ) = 0 := by simp [Scalar.zero]
@[simp] theorem one_eq : (Scalar.one : ℝ) = 1 := by simp [Scalar.one]
@[simp] theorem two_eq : (Scalar.two : ℝ) = 2 := by simp [Scalar.two]

theorem cmax_eq (a b : ℝ) : Scalar.cmax a b = max a b := by
  unfold Scalar.cmax
  by_cases h : b < a
  · rw [if_pos ((lt_iff _ _).mpr h)]; exact (max_eq_left h.le).symm
  · rw [if_neg (fun hh => h ((lt_iff _ _).mp hh))]; exact (max_eq_right (not_lt.mp h)).symm

theorem cmin_eq (a b : ℝ) : Scalar.cmin a b = min a b := by
  unfold Scalar.cmin
  by_cases h : a < b
  · rw [if_pos ((lt_iff _ _).mpr h)]; exact (min_eq_left h.le).symm
  · rw [if_neg (fun hh => h ((lt_iff _ _).mp hh))]; exact (min_eq_right (not_lt.mp h)).symm

theorem cabs_eq (a : ℝ) : Scalar.cabs a = |a| := by
  unfold Scalar.cabs
  have h0 : (Scalar.ofInt 0 : ℝ) = 0 := by rw [ofInt_eq]; exact Int.cast_zero
  rw [h0]
  by_cases h : (0 : ℝ) < a
  · rw [if_pos ((lt_iff _ _).mpr h)]; exact (abs_of_pos h).symm
  · rw [if_neg (fun hh => h ((lt_iff _ _).mp hh)), neg_eq]; exact (abs_of_nonpos (not_lt.mp h)).symm

theorem divisible_iff (n d : ℝ) :
    Scalar.divisible n d = true ↔ |n| < |(1 : ℝ) * (10 : ℝ) ^ (20 : ℤ) * d| := by
  unfold Scalar.divisible
  rw [lt_iff, cabs_eq, cabs_eq, mul_eq, ofDec_eq, Int.cast_one]

theorem divisible_ne_zero {n d : ℝ} (h : Scalar.divisible n d = true) : d ≠ 0 := by
  rw [divisible_iff] at h
  intro hd
  subst hd
  rw [mul_zero, abs_zero] at h
  exact absurd h (not_lt.mpr (abs_nonneg n))

theorem divisible_iff' (n d : ℝ) : Scalar.divisible n d = true ↔ |n| < (10 : ℝ) ^ (20 : ℤ) * |d| := by
  rw [divisible_iff, one_mul, abs_mul]
  have : |(10 : ℝ) ^ (20 : ℤ)| = (10 : ℝ) ^ (20 : ℤ) := abs_of_pos (by positivity)
  rw [this]

theorem divisible_of_le {n d : ℝ} (hd : 0 < d) (h : |n| ≤ d) : Scalar.divisible n d = true := by
  rw [divisible_iff', abs_of_pos hd]
  exact lt_of_le_of_lt h (lt_mul_of_one_lt_left hd (by norm_num))

theorem divisible_of_ne_zero_of_zero {d : ℝ} (h : d ≠ 0) : Scalar.divisible (0 : ℝ) d = true := by
  rw [divisible_iff', abs_zero]
  have : 0 < |d| := abs_pos.mpr h
  positivity

end ScalarReal
end Refine
