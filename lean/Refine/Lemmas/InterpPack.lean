import Refine.Model.InterpPack
import Refine.Lemmas.ListFacts

/-! what a successful `interpPack` (`ref_interp_pack`) returns (`interpPack_ok`), and indexing into the arrays it
    builds: the per-slot arrays, and the flat `bary` array written in blocks of four. -/
namespace Refine.Lemmas.InterpPack
open Refine Refine.Model Refine.Model.InterpPack Refine.Model.NodeIds
open Refine.Model.SmoothInterp (EMPTY)

variable {α : Type}

theorem getD_map_range_append {X : Type} (n : Nat) (f : Nat → X) (tl : List X) (d : X) (k : Nat) (hk : k < n) :
    (((List.range n).map f) ++ tl).getD k d = f k := by
  rw [ListFacts.getD_append_left (by simpa using hk), ListFacts.getD_map_range hk]

theorem getD_map_range_replicate {X : Type} (n c : Nat) (f : Nat → X) (d : X) (k : Nat) (hk : n ≤ k) :
    (((List.range n).map f) ++ List.replicate c d).getD k d = d := by
  rw [ListFacts.getD_append_right (by simpa using hk), ListFacts.getD_replicate]

theorem blocks_getD (w n : Nat) (g : Nat → List α) (hg : ∀ node, (g node).length = w) (tl : List α) (d : α)
    (k i : Nat) (hk : k < n) (hi : i < w) :
    (((List.range n).flatMap g) ++ tl).getD (i + w * k) d = (g k).getD i d := by
  induction n generalizing tl with
  | zero => omega
  | succ n ih =>
    rw [List.range_succ, List.flatMap_append, List.append_assoc]
    by_cases hkn : k < n
    · exact ih _ hkn
    · have hke : k = n := by omega
      subst hke
      have hl : ((List.range k).flatMap g).length = k * w := by
        rw [ListFacts.length_flatMap_const fun x _ => hg x, List.length_range]
      rw [List.getD_eq_getElem?_getD, List.getElem?_append_right (by rw [hl, Nat.mul_comm]; omega), hl, Nat.mul_comm,
        Nat.add_sub_cancel]
      simp only [List.flatMap_cons, List.flatMap_nil, List.append_nil]
      rw [List.getElem?_append_left (by rw [hg]; exact hi), ← List.getD_eq_getElem?_getD]

theorem interpPack_ok {junk : α} {n : Nat} {n2o : List Int} {it it' : Interp α}
    (h : interpPack junk n 0 n2o it = .ok it') :
    n ≤ it.max ∧ (∀ v, v < n → 0 ≤ n2o.getD v 0 ∧ old n2o v < it.max) ∧
    it' = { it with
      cell := ((List.range n).map fun node => it.cell.getD (old n2o node) EMPTY) ++ List.replicate (it.max - n) EMPTY,
      part := ((List.range n).map fun node => it.part.getD (old n2o node) EMPTY) ++ List.replicate (it.max - n) EMPTY,
      bary := ((List.range n).flatMap fun node => (List.range 4).map fun i => it.bary.getD (i + 4 * old n2o node) junk)
                ++ it.bary.drop (4 * n) } := by
  revert h
  fun_cases interpPack junk n 0 n2o it with
  | case1 h0 => exact absurd rfl h0
  | case2 => nofun
  | case3 => nofun
  | case4 it1 max _ _ hb =>
    rintro ⟨⟩
    -- in bounds, so `n ≤ max` and the (ineffective) resize is not even entered
    simp only [Bool.not_eq_true, Bool.not_eq_false', packInBounds, Bool.and_eq_true, decide_eq_true_eq,
      List.all_eq_true, List.mem_range] at hb
    have hit : it1 = it := if_neg (by omega)
    exact ⟨hb.1, fun v hv => hb.2 v hv, by rw [hit]⟩

end Refine.Lemmas.InterpPack
