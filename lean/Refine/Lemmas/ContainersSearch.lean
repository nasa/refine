import Refine.Model.Containers
import Refine.Lemmas.ListFacts

/-!
  `ref_sort_search_int` / `_glob`: the bisection loop on ANY list ends on a position holding the target or on a gap
  `a[k-1] < t < a[k]` around it (`searchInt_any`); on a non-decreasing list a gap means the target is absent
  (`searchInt_spec`).  Also the other way refine finds the place of a key in a sorted array: the backward scan of `ref_dict_store`
  (`storeScan_split`; `ref_node_add` scans the same way).  Core imports only.
-/
namespace Refine.Model.Sort

theorem getD_rel_of_pairwise {α : Type} {R : α → α → Prop} {l : List α} (hs : l.Pairwise R) (hr : ∀ x, R x x)
    (d : α) {i j : Nat} (hij : i ≤ j) (hj : j < l.length) : R (l.getD i d) (l.getD j d) := by
  rcases Nat.lt_or_eq_of_le hij with h | rfl
  · rw [ListFacts.getD_eq_getElem (by omega : i < l.length), ListFacts.getD_eq_getElem hj]
    exact List.pairwise_iff_getElem.1 hs i j _ _ h
  · exact hr _

/-- outcome of a search in a non-decreasing list: a position holding the target, or `not_found`/`REF_EMPTY`
    and the target is absent -/
def SearchOK (a : List Int) (t : Int) (r : Status × Int) : Prop :=
  (∃ p : Nat, r = (Status.ok, (p : Int)) ∧ p < a.length ∧ a.getD p 0 = t) ∨
  (r = (Status.not_found, EMPTY) ∧ t ∉ a)

/-- `t` lies strictly between the entries `k-1` and `k` of `a` (below the first entry when `k = 0`, above the
    last when `k = a.length`) -/
def Gap (a : List Int) (t : Int) (k : Nat) : Prop :=
  k ≤ a.length ∧ (∀ j, j + 1 = k → a.getD j 0 < t) ∧ (k < a.length → t < a.getD k 0)

/-- the outcome read by membership -/
theorem SearchOK.of_mem {a : List Int} {t : Int} {r : Status × Int} (h : SearchOK a t r) :
    (t ∈ a → ∃ p : Nat, r = (Status.ok, (p : Int)) ∧ p < a.length ∧ a.getD p 0 = t) ∧
    (t ∉ a → r = (Status.not_found, EMPTY)) := by
  rcases h with ⟨p, hr, hp, hx⟩ | ⟨hr, hx⟩
  · exact ⟨fun _ => ⟨p, hr, hp, hx⟩, fun hn => absurd ((ListFacts.mem_iff_getD (d := 0)).2 ⟨p, hp, hx⟩) hn⟩
  · exact ⟨fun hm => absurd hm hx, fun _ => hr⟩

theorem Gap.not_mem {a : List Int} {t : Int} {k : Nat} (h : Gap a t k) (hs : a.Pairwise (· ≤ ·)) : t ∉ a := by
  obtain ⟨hk, hlo, hup⟩ := h
  rw [ListFacts.mem_iff_getD (d := 0)]
  rintro ⟨i, hi, hx⟩
  by_cases hik : i < k
  · have h1 := hlo (k - 1) (by omega)
    have h2 : a.getD i 0 ≤ _ := getD_rel_of_pairwise hs Int.le_refl 0 (by omega : i ≤ k - 1) (by omega)
    omega
  · have h1 := hup (by omega)
    have h2 : a.getD k 0 ≤ _ := getD_rel_of_pairwise hs Int.le_refl 0 (by omega : k ≤ i) hi
    omega

/-- the bisection keeps `a[lower] < t < a[upper]`, sorted or not: it ends on a position holding the target or on
    two neighbours with the target strictly between them.  Of `mid` only this is used: it lies strictly inside the interval
    whenever the interval has an inside (true of the midpoint, and of the C's `mid = n >> 1` on entry). -/
theorem searchLoop_spec (a : List Int) (t : Int) (fuel lo up mid : Nat) (hup : up < a.length)
    (hlo : a.getD lo 0 < t) (hupv : t < a.getD up 0)
    (hmid : lo + 1 < up → lo < mid ∧ mid < up)
    (hfuel : up ≤ lo + fuel) (hlu : lo < up) :
    (∃ p : Nat, searchLoop a t fuel lo up mid = (Status.ok, (p : Int)) ∧ p < a.length ∧ a.getD p 0 = t) ∨
      (searchLoop a t fuel lo up mid = (Status.not_found, EMPTY) ∧ ∃ k, Gap a t k) := by
  induction fuel generalizing lo up mid with
  | zero => omega
  | succ f ih =>
    simp only [searchLoop, Bool.and_eq_true, decide_eq_true_eq, Nat.shiftRight_eq_div_pow, Nat.pow_one]
    by_cases hc : lo < mid ∧ mid < up
    · rw [if_pos hc]
      by_cases hge : t ≥ a.getD mid 0
      · rw [if_pos hge]
        by_cases heq : t = a.getD mid 0
        · rw [if_pos heq]
          exact Or.inl ⟨mid, rfl, Nat.lt_trans hc.2 hup, heq.symm⟩
        · rw [if_neg heq]
          exact ih mid up _ hup (Int.lt_iff_le_and_ne.2 ⟨hge, fun e => heq e.symm⟩) hupv (by omega) (by omega) hc.2
      · rw [if_neg hge]
        exact ih lo mid _ (Nat.lt_trans hc.2 hup) hlo (Int.not_le.1 hge) (by omega) (by omega) hc.1
    · rw [if_neg hc]
      refine Or.inr ⟨rfl, up, Nat.le_of_lt hup, fun j hj => ?_, fun _ => hupv⟩
      rw [show j = lo by omega]; exact hlo

/-- the loop ends within `upper - lower` iterations on any list: more fuel changes nothing -/
theorem searchLoop_fuel (a : List Int) (t : Int) (fuel lo up mid : Nat) (h : up ≤ lo + fuel)
    (extra : Nat) : searchLoop a t (fuel + extra) lo up mid = searchLoop a t fuel lo up mid := by
  induction fuel generalizing lo up mid with
  | zero =>
    cases extra with
    | zero => rfl
    | succ e =>
      have hc : ¬ (lo < mid ∧ mid < up) := by omega
      simp only [searchLoop, Bool.and_eq_true, decide_eq_true_eq]
      rw [if_neg hc]
  | succ f ih =>
    have he : f + 1 + extra = (f + extra) + 1 := by omega
    rw [he]
    simp only [searchLoop, Bool.and_eq_true, decide_eq_true_eq]
    by_cases hc : lo < mid ∧ mid < up
    · rw [if_pos hc, if_pos hc, ih mid up _ (by omega), ih lo mid _ (by omega)]
    · rw [if_neg hc, if_neg hc]

theorem searchInt_any (a : List Int) (t : Int) :
    (∃ p : Nat, searchInt a t = (Status.ok, (p : Int)) ∧ p < a.length ∧ a.getD p 0 = t) ∨
      (searchInt a t = (Status.not_found, EMPTY) ∧ ∃ k, Gap a t k) := by
  simp only [searchInt, Bool.or_eq_true, decide_eq_true_eq]
  by_cases hn : a.length < 1
  · rw [if_pos hn]
    exact Or.inr ⟨rfl, 0, Nat.zero_le _, fun j hj => by omega, fun h => by omega⟩
  rw [if_neg hn]
  by_cases hout : t < a.getD 0 0 ∨ t > a.getD (a.length - 1) 0
  · rw [if_pos hout]
    refine Or.inr ⟨rfl, ?_⟩
    rcases hout with h | h
    · exact ⟨0, Nat.zero_le _, fun j hj => by omega, fun _ => h⟩
    · refine ⟨a.length, Nat.le_refl _, fun j hj => ?_, fun h => by omega⟩
      rw [show j = a.length - 1 by omega]; exact h
  rw [if_neg hout]
  by_cases h0 : t = a.getD 0 0
  · rw [if_pos h0]; exact Or.inl ⟨0, rfl, by omega, h0.symm⟩
  rw [if_neg h0]
  by_cases h1 : t = a.getD (a.length - 1) 0
  · rw [if_pos h1]; exact Or.inl ⟨a.length - 1, rfl, by omega, h1.symm⟩
  rw [if_neg h1]
  have hn2 : 0 < a.length - 1 := Nat.pos_of_ne_zero fun hc => by
    rw [hc] at hout h1
    omega
  exact searchLoop_spec a t a.length 0 (a.length - 1) (a.length >>> 1) (by omega) (by omega) (by omega)
    (by rw [Nat.shiftRight_eq_div_pow]; omega) (by omega) hn2

/-- `ref_sort_search_int` on a non-decreasing list -/
theorem searchInt_spec (a : List Int) (hsorted : a.Pairwise (· ≤ ·)) (t : Int) :
    SearchOK a t (searchInt a t) :=
  (searchInt_any a t).imp_right fun ⟨h, _, hk⟩ => ⟨h, hk.not_mem hsorted⟩

example : searchLoop [1, 3, 5, 7, 9] 7 5 0 4 2 = (Status.ok, 3) := by decide +kernel

end Refine.Model.Sort

namespace Refine.Model.RDict

/-- the scan from position `m` down does not look at the cells from `m` on -/
theorem storeScan_append (ks suf : List Int) (key : Int) (m : Nat) (hm : m ≤ ks.length) :
    storeScan (ks ++ suf) key m = storeScan ks key m := by
  induction m with
  | zero => rfl
  | succ m ih =>
    simp only [storeScan]
    rw [ListFacts.getD_append_left (show m < ks.length by omega), ih (by omega)]

/-- the downward scan of `ref_dict_store` over strictly increasing keys splits them at the key: it is found behind the
    keys below it, or the insert point separates the keys below from the keys above -/
theorem storeScan_split (keys : List Int) (hs : keys.Pairwise (· < ·)) (key : Int) :
    (∃ lo hi, keys = lo ++ key :: hi ∧ storeScan keys key keys.length = .found lo.length) ∨
    (∃ lo hi, keys = lo ++ hi ∧ storeScan keys key keys.length = .insertAt lo.length ∧
      (∀ x ∈ lo, x < key) ∧ ∀ x ∈ hi, key < x) := by
  induction keys using Refine.ListFacts.concat_induction with
  | nil => exact Or.inr ⟨[], [], rfl, rfl, by simp, by simp⟩
  | concat ks x ih =>
    obtain ⟨hks, -, hx⟩ := List.pairwise_append.1 hs
    have hget : (ks ++ [x]).getD ks.length 0 = x := by simp [List.getD_eq_getElem?_getD]
    rw [List.length_append, List.length_singleton, storeScan, hget]
    by_cases he : x = key
    · rw [if_pos he, he]; exact Or.inl ⟨ks, [], rfl, rfl⟩
    rw [if_neg he]
    by_cases hlt : x < key
    · rw [if_pos hlt]
      refine Or.inr ⟨ks ++ [x], [], (List.append_nil _).symm, by simp, fun y hy => ?_, by simp⟩
      rcases List.mem_append.1 hy with h | h
      · exact Int.lt_trans (hx y h x (by simp)) hlt
      · rw [List.mem_singleton.1 h]; exact hlt
    · rw [if_neg hlt, storeScan_append _ _ _ _ (Nat.le_refl _)]
      have hgt : key < x := by omega
      rcases ih hks with ⟨lo, hi, rfl, h⟩ | ⟨lo, hi, rfl, h, h1, h2⟩
      · exact Or.inl ⟨lo, hi ++ [x], by simp, h⟩
      · refine Or.inr ⟨lo, hi ++ [x], by simp, h, h1, fun y hy => ?_⟩
        rcases List.mem_append.1 hy with h | h
        · exact h2 y h
        · rw [List.mem_singleton.1 h]; exact hgt

/-- a key put between the two halves of such a split keeps the keys strictly increasing -/
theorem pairwise_insert {lo hi : List Int} {key : Int} (hs : (lo ++ hi).Pairwise (· < ·))
    (hlo : ∀ x ∈ lo, x < key) (hhi : ∀ x ∈ hi, key < x) : (lo ++ key :: hi).Pairwise (· < ·) := by
  obtain ⟨p1, p2, p3⟩ := List.pairwise_append.1 hs
  rw [List.pairwise_append, List.pairwise_cons]
  refine ⟨p1, ⟨hhi, p2⟩, fun a ha b hb => ?_⟩
  rcases List.mem_cons.1 hb with rfl | hb
  · exact hlo a ha
  · exact p3 a ha b hb

end Refine.Model.RDict
