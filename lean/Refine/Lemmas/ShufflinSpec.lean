import Refine.Lemmas.ShufflinWorld
import Refine.Lemmas.DistGhostFull
import Refine.Lemmas.Dist

/-!
  `ref_migrate_shufflin` as a whole, about the mesh the input world stores (`Vw`, `AllC`, `payW`, `partW` of
  `Lemmas/DistLayout.lean`): the hypotheses `ShufHyp`, the state after the node phase (`nodeWorld`), the removal of
  unreferenced ghosts and the ghost refresh under the rank invariant (`pruneRank_inv`, `ghostReal_eq`), and the assembly
  `shufflin_main`: the model returns the state `IsLayout`, which is the `Layout` of that mesh for the new partition
  (`layout_of_isLayout`).
-/
namespace Refine.Lemmas.ShufflinSpec
open Refine.Model.Dist Refine.Model.Shufflin Refine.Lemmas.Shufflin Refine.Lemmas.ShufflinWorld
open Refine.Model.Comm (World allSome INT_MAX RefType)
open Refine.Lemmas.DistLayout (Layout)

/-- the hypotheses of `shufflin_spec` on the world `ref_migrate_shufflin` is entered with (the `part` fields hold the
    NEW partition).  `N` bounds the global ids, `ldim` is the payload length. -/
structure ShufHyp (ldim N : Nat) (w : World RankState) : Prop where
  synced : synced w = true
  nodupG : ∀ s ∈ w, (s.nodes.map (·.glob)).Nodup
  range : ∀ s ∈ w, ∀ nd ∈ s.nodes, 0 ≤ nd.part ∧ nd.part < (w.length : Int) ∧ 0 ≤ nd.glob ∧ nd.glob < (N : Int) ∧
    nd.payload.length = ldim
  agree : ∀ s ∈ w, ∀ t ∈ w, ∀ x ∈ s.nodes, ∀ y ∈ t.nodes, x.glob = y.glob → x.part = y.part ∧ x.payload = y.payload
  cellVerts : ∀ s ∈ w, ∀ c ∈ s.cells, c.group < NGROUP ∧ ∀ v ∈ c.nodes, v ∈ s.nodes.map (·.glob)
  cellsNd : ∀ s ∈ w, s.cells.Nodup
  cellsU : ∀ s ∈ w, ∀ t ∈ w, ∀ c ∈ s.cells, ∀ c' ∈ t.cells, c.group = c'.group → sameVerts c c' = true → c = c'
  size : ((max 1 ldim : Nat) : Int) * ((w.length : Int) * (N : Int)) ≤ INT_MAX

section Hyp
variable {ldim N : Nat} {w : World RankState}

theorem entry_all (H : ShufHyp ldim N w) (q : Nat) : ∀ s ∈ w, ∀ nd ∈ s.nodes, Entry (partW w) (payW w) q nd :=
  fun _ hs _ hnd => ⟨(canon H.agree hs hnd).1, fun _ => (canon H.agree hs hnd).2⟩

theorem vw_facts (H : ShufHyp ldim N w) (g : Int) (hg : Vw w g) :
    0 ≤ partW w g ∧ partW w g < (w.length : Int) ∧ 0 ≤ g ∧ g < (N : Int) ∧ (payW w g).length = ldim := by
  obtain ⟨nd, hnd, rfl⟩ := List.mem_map.mp hg
  obtain ⟨s, hs, hns⟩ := (mem_allNodes w nd).mp hnd
  obtain ⟨c1, c2⟩ := canon H.agree hs hns
  rw [← c1, ← c2]
  exact H.range s hs nd hns

theorem partsInRange_true (H : ShufHyp ldim N w) : partsInRange w = true := by
  unfold partsInRange
  simp only [List.all_eq_true, Bool.and_eq_true, decide_eq_true_eq]
  intro s hs nd hnd
  obtain ⟨h0, hlt, _⟩ := H.range s hs nd hnd
  exact ⟨h0, hlt⟩

/-- the world after `ref_migrate_shufflin_node` -/
def nodeWorld (w : World RankState) : World RankState :=
  w.mapIdx fun q s => { s with nodes := (nodesSentTo w q).foldl (ins (·.glob)) s.nodes }

theorem mem_nodesSentTo (w : World RankState) (q : Nat) (nd : DNode) :
    nd ∈ nodesSentTo w q ↔ ∃ r s, w[r]? = some s ∧ r ≠ q ∧ nd ∈ s.nodes ∧ nd.part = (q : Int) := by
  unfold nodesSentTo
  rw [mem_sent w q (fun s => s.nodes.filter fun nd => nd.part == (q : Int)) nd]
  simp only [List.mem_filter, beq_iff_eq]

theorem sent_entry (H : ShufHyp ldim N w) {q : Nat} {nd : DNode} (hnd : nd ∈ nodesSentTo w q) :
    Entry (partW w) (payW w) q nd ∧ nd.part = (q : Int) := by
  obtain ⟨r, t, ht, _, hm, hp⟩ := (mem_nodesSentTo w q nd).mp hnd
  exact ⟨entry_all H q t (List.mem_of_getElem? ht) nd hm, hp⟩

theorem nodePhase_eq (H : ShufHyp ldim N w) : nodePhase w = some (nodeWorld w) := by
  unfold nodePhase nodeWorld
  rw [partsInRange_true H]
  refine congrArg some (List.mapIdx_eq_mapIdx_iff.mpr fun q hq => ?_)
  rw [foldl_recvNode_eq (nodesSentTo w q) (fun nd => sent_entry H) _ (entry_all H q _ (List.getElem_mem hq))]

theorem uniq_allC (H : ShufHyp ldim N w) : Uniq (AllC w) := by
  rintro x y ⟨r, s, hs, hx⟩ ⟨r', t, ht, hy⟩ hg hv
  exact H.cellsU s (List.mem_of_getElem? hs) t (List.mem_of_getElem? ht) x hx y hy hg hv

theorem allC_verts (H : ShufHyp ldim N w) : ∀ c, AllC w c → ∀ v ∈ c.nodes, Vw w v := by
  rintro c ⟨r, s, hs, hc⟩ v hv
  exact (vw_iff w v).mpr ⟨s, List.mem_of_getElem? hs, (H.cellVerts s (List.mem_of_getElem? hs) c hc).2 v hv⟩

/-- after the node phase the invariant of the cell phases holds (`S` = the cells stored anywhere, `Vg` = the vertices
    stored anywhere in the input world) -/
theorem nodeWorld_inv (H : ShufHyp ldim N w) : WInv (partW w) (payW w) (AllC w) (Vw w) (nodeWorld w) := by
  intro q s' h
  obtain ⟨s, hs, rfl⟩ := Refine.ListFacts.getElem?_mapIdx_eq_some.mp h
  have hsw := List.mem_of_getElem? hs
  refine ⟨table_foldl_ins ⟨H.nodupG s hsw, entry_all H q s hsw⟩ fun nd hnd => (sent_entry H hnd).1, ?_, ?_,
    H.cellsNd s hsw, ?_⟩
  · intro nd hnd
    rcases mem_foldl_ins _ _ _ _ hnd with h1 | h1
    · exact vw_of_mem hsw h1
    · obtain ⟨r, t, ht, _, hm, _⟩ := (mem_nodesSentTo w q nd).mp h1
      exact vw_of_mem (List.mem_of_getElem? ht) hm
  · exact fun c hc => ⟨⟨q, s, hs, hc⟩, fun v hv =>
      (keys_foldl_ins _ _ _ v).mpr (Or.inl ((H.cellVerts s hsw c hc).2 v hv))⟩
  · -- a vertex of new part `q` is stored by `q` already or arrives from a rank that stores it
    intro g hg hp
    obtain ⟨nd, hnd, rfl⟩ := List.mem_map.mp hg
    obtain ⟨t, ht, hnt⟩ := (mem_allNodes w nd).mp hnd
    obtain ⟨r, hr⟩ := List.getElem?_of_mem ht
    rw [keys_foldl_ins]
    by_cases hrq : r = q
    · subst hrq
      rw [hs] at hr
      cases hr
      exact Or.inl (List.mem_map_of_mem hnt)
    · refine Or.inr (List.mem_map_of_mem ((mem_nodesSentTo w q nd).mpr ⟨r, t, hr, hrq, hnt, ?_⟩))
      rw [(canon H.agree ht hnt).1]
      exact hp

theorem allC_nodeWorld (w : World RankState) (c : DCell) : AllC (nodeWorld w) c ↔ AllC w c := by
  constructor
  · rintro ⟨r, s', h, hc⟩
    obtain ⟨s, hs, rfl⟩ := Refine.ListFacts.getElem?_mapIdx_eq_some.mp h
    exact ⟨r, s, hs, hc⟩
  · rintro ⟨r, s, hs, hc⟩
    exact ⟨r, _, Refine.ListFacts.getElem?_mapIdx_eq_some.mpr ⟨s, hs, rfl⟩, hc⟩

end Hyp

theorem mem_pruneRank (q : Nat) (s : RankState) (nd : DNode) :
    nd ∈ (pruneRank q s).nodes ↔ nd ∈ s.nodes ∧ (nd.part = (q : Int) ∨ ∃ c ∈ s.cells, nd.glob ∈ c.nodes) := by
  unfold pruneRank
  simp only [List.mem_filter, Bool.or_eq_true, beq_iff_eq, List.any_eq_true, List.contains_eq_mem, decide_eq_true_eq]

theorem pruneRank_inv {P : Int → Int} {Y : Int → List Nat} {S : DCell → Prop} {Vg : Int → Prop} {q : Nat} {s : RankState}
    (hs : RInv P Y S Vg q s) : RInv P Y S Vg q (pruneRank q s) := by
  have hkeep : ∀ g ∈ s.nodes.map (·.glob), (P g = (q : Int) ∨ ∃ c ∈ s.cells, g ∈ c.nodes) →
      g ∈ (pruneRank q s).nodes.map (·.glob) := by
    intro g hg hk
    obtain ⟨nd, hnd, rfl⟩ := List.mem_map.mp hg
    exact List.mem_map_of_mem ((mem_pruneRank q s nd).mpr ⟨hnd, (hs.table.2 nd hnd).1 ▸ hk⟩)
  exact ⟨⟨hs.table.1.sublist (List.filter_sublist.map _), fun nd hnd => hs.table.2 nd (List.mem_filter.mp hnd).1⟩,
    fun nd hnd => hs.known nd (List.mem_filter.mp hnd).1,
    fun c hc => ⟨(hs.cellsS c hc).1, fun v hv => hkeep v ((hs.cellsS c hc).2 v hv) (Or.inr ⟨c, hc, hv⟩)⟩,
    hs.cellsNd, fun g hg hp => hkeep g (hs.owned g hg hp) (Or.inl hp)⟩

/-- one entry after `ref_node_ghost_real`: a ghost takes the payload of its global -/
def fixNode (Y : Int → List Nat) (q : Nat) (nd : DNode) : DNode :=
  if nd.part = (q : Int) then nd else { nd with payload := Y nd.glob }

theorem fixNode_eq {P : Int → Int} {Y : Int → List Nat} {q : Nat} {nd : DNode} (h : Entry P Y q nd) :
    fixNode Y q nd = ⟨nd.glob, P nd.glob, Y nd.glob⟩ := by
  unfold fixNode
  split
  · rename_i hp
    rw [← h.2 hp, ← h.1]
  · rw [← h.1]

theorem toG_glob (s : RankState) : (toG s).map (·.glob) = s.nodes.map (·.glob) := by
  unfold toG; rw [List.map_map]; rfl

theorem toG_length (s : RankState) : (toG s).length = s.nodes.length := List.length_map _

theorem getD_toG {w : World RankState} {p : Nat} {t : RankState} (ht : w[p]? = some t) : (w.map toG).getD p [] = toG t := by
  rw [List.getD_eq_getElem?_getD, List.getElem?_map, ht]
  rfl

theorem ofG_refreshed (W : World (List (GNode Nat))) (Y : Int → List Nat) (q : Nat) (s : RankState)
    (h : ∀ nd ∈ s.nodes, nd.part ≠ (q : Int) →
      Refine.Lemmas.DistGhostFull.ownerVals W ⟨nd.glob, nd.part, nd.payload⟩ = Y nd.glob) :
    ofG s ((toG s).map (Refine.Lemmas.DistGhostFull.refreshNode W q)) = { s with nodes := s.nodes.map (fixNode Y q) } := by
  unfold ofG toG
  rw [List.map_map, List.map_map]
  congr 1
  refine List.map_congr_left fun nd hnd => ?_
  simp only [Function.comp, Refine.Lemmas.DistGhostFull.refreshNode, fixNode]
  split
  · rfl
  · rename_i hp
    rw [h nd hnd hp]

section Ghost
variable {P : Int → Int} {Y : Int → List Nat} {S : DCell → Prop} {Vg : Int → Prop} {ldim N : Nat}
  {w : World RankState}

theorem owner_vals (hw : WInv P Y S Vg w)
    (hV : ∀ g, Vg g → 0 ≤ P g ∧ P g < (w.length : Int) ∧ 0 ≤ g ∧ g < (N : Int) ∧ (Y g).length = ldim)
    {q : Nat} {s : RankState} (hs : w[q]? = some s) {nd : DNode} (hnd : nd ∈ s.nodes) :
    0 ≤ nd.part ∧ nd.part.toNat < w.length ∧
      ∃ t, w[nd.part.toNat]? = some t ∧ (⟨nd.glob, nd.part, Y nd.glob⟩ : GNode Nat) ∈ toG t := by
  obtain ⟨h0, h1, _⟩ := hV nd.glob ((hw q s hs).known nd hnd)
  rw [((hw q s hs).table.2 nd hnd).1]
  have hlt : (P nd.glob).toNat < w.length := (Int.toNat_lt h0).mpr h1
  have hpp : P nd.glob = (((P nd.glob).toNat : Nat) : Int) := (Int.toNat_of_nonneg h0).symm
  have ht := List.getElem?_eq_getElem hlt
  obtain ⟨od, hod, hg⟩ := List.mem_map.mp ((hw _ _ ht).owned nd.glob ((hw q s hs).known nd hnd) hpp)
  obtain ⟨e1, e2⟩ := (hw _ _ ht).table.2 od hod
  refine ⟨h0, hlt, _, ht, List.mem_map.mpr ⟨od, hod, ?_⟩⟩
  rw [← hg, ← e1, ← e2 (e1.trans (hg ▸ hpp))]

theorem nodes_length_le (hw : WInv P Y S Vg w)
    (hV : ∀ g, Vg g → 0 ≤ P g ∧ P g < (w.length : Int) ∧ 0 ≤ g ∧ g < (N : Int) ∧ (Y g).length = ldim)
    {q : Nat} {s : RankState} (hs : w[q]? = some s) : s.nodes.length ≤ N := by
  have := Refine.Lemmas.Dist.nodup_length_le (s.nodes.map (·.glob)) 0 N (Int.natCast_nonneg N) (hw q s hs).table.1 (by
    intro x hx
    obtain ⟨nd, hnd, rfl⟩ := List.mem_map.mp hx
    obtain ⟨_, _, h3, h4, _⟩ := hV nd.glob ((hw q s hs).known nd hnd)
    exact ⟨h3, h4⟩)
  rw [List.length_map, Int.sub_zero] at this
  exact Int.ofNat_le.mp this

theorem get_toG {r : Nat} (hr : r < (w.map toG).length) : ∃ s, w[r]? = some s ∧ (w.map toG)[r] = toG s :=
  ⟨w[r]'(List.length_map toG ▸ hr), List.getElem?_eq_getElem _, List.getElem_map _⟩

theorem ghostsOwned_toG (hw : WInv P Y S Vg w)
    (hV : ∀ g, Vg g → 0 ≤ P g ∧ P g < (w.length : Int) ∧ 0 ≤ g ∧ g < (N : Int) ∧ (Y g).length = ldim)
    : Refine.Lemmas.DistGhostFull.GhostsOwned ldim (w.map toG) := by
  intro r hr nd hnd _
  obtain ⟨s, hs, he⟩ := get_toG hr
  rw [he] at hnd
  obtain ⟨x, hx, rfl⟩ := List.mem_map.mp hnd
  obtain ⟨h0, hlt, t, ht, hmem⟩ := owner_vals hw hV hs hx
  exact ⟨h0, by rwa [List.length_map], ⟨x.glob, x.part, Y x.glob⟩, getD_toG ht ▸ hmem, rfl,
    (hV x.glob ((hw r s hs).known x hx)).2.2.2.2⟩

/-- all tables together hold at most `np · N` entries: `a_total`, `b_total` are within the `int` range by `hsize` -/
theorem sizesOk_toG (hw : WInv P Y S Vg w)
    (hV : ∀ g, Vg g → 0 ≤ P g ∧ P g < (w.length : Int) ∧ 0 ≤ g ∧ g < (N : Int) ∧ (Y g).length = ldim)
    (hsize : ((max 1 ldim : Nat) : Int) * ((w.length : Int) * (N : Int)) ≤ INT_MAX) :
    Refine.Lemmas.DistGhostFull.SizesOk ldim (w.map toG) := by
  refine .of_total (le_trans (Int.mul_le_mul_of_nonneg_left ?_ (Int.natCast_nonneg _)) hsize)
  have := List.sum_le_card_nsmul ((w.map toG).map List.length) N fun n hn => by
    obtain ⟨s, hs, rfl⟩ := List.mem_map.mp (List.map_map ▸ hn)
    obtain ⟨q, hq⟩ := List.getElem?_of_mem hs
    exact (toG_length s).trans_le (nodes_length_le hw hV hq)
  rw [List.length_map, List.length_map] at this
  exact_mod_cast this

/-- `ref_node_ghost_real` on a world satisfying the invariant: it completes, and every ghost takes the payload of its
    global -/
theorem ghostReal_eq (hw : WInv P Y S Vg w)
    (hV : ∀ g, Vg g → 0 ≤ P g ∧ P g < (w.length : Int) ∧ 0 ≤ g ∧ g < (N : Int) ∧ (Y g).length = ldim)
    (hsize : ((max 1 ldim : Nat) : Int) * ((w.length : Int) * (N : Int)) ≤ INT_MAX) :
    ghostReal ldim w = some (w.mapIdx fun q s => { s with nodes := s.nodes.map (fixNode Y q) }) := by
  have hnd : ∀ nodes ∈ w.map toG, (nodes.map (·.glob)).Nodup := by
    intro nodes hn
    obtain ⟨s, hs, rfl⟩ := List.mem_map.mp hn
    obtain ⟨q, hq⟩ := List.getElem?_of_mem hs
    rw [toG_glob]
    exact (hw q s hq).table.1
  have hspec := Refine.Lemmas.DistGhostFull.ghost_full (β := Nat) RefType.dbl rfl ldim (w.map toG) hnd
    (ghostsOwned_toG hw hV) (sizesOk_toG hw hV hsize)
  unfold ghostReal
  rw [hspec, Option.map_some]
  refine congrArg some (List.ext_getElem (by simp [Refine.Lemmas.DistGhostFull.refreshed_length]) fun i h1 h2 => ?_)
  have hi : i < w.length := by simpa using h2
  simp only [Refine.Lemmas.DistGhostFull.refreshed_getElem, List.getElem_map, List.getElem_zip, List.getElem_mapIdx]
  refine ofG_refreshed _ Y i w[i] fun nd hnd' _ => ?_
  obtain ⟨_, hlt, t, ht, hmem⟩ := owner_vals hw hV (List.getElem?_eq_getElem hi) hnd'
  refine Refine.Lemmas.DistGhostFull.ownerVals_of_mem (nd := ⟨nd.glob, nd.part, nd.payload⟩)
    (od := ⟨nd.glob, nd.part, Y nd.glob⟩) ?_ (getD_toG ht ▸ hmem) rfl
  rw [getD_toG ht, toG_glob]
  exact (hw _ t ht).table.1

end Ghost

/-- the state determined by the global mesh (`AllC w`, `Vw w`, `payW w`) and the new partition `partW w` -/
structure IsLayout (w w' : World RankState) : Prop where
  len : w'.length = w.length
  rank : ∀ (q : Nat) (s s' : RankState), w[q]? = some s → w'[q]? = some s' →
    s'.oldN = s.oldN ∧ s'.newN = s.newN ∧ s'.nUnused = s.nUnused ∧
    s'.cells.Nodup ∧ (s'.nodes.map (·.glob)).Nodup ∧
    (∀ c, c ∈ s'.cells ↔ AllC w c ∧ ∃ v ∈ c.nodes, partW w v = (q : Int)) ∧
    (∀ nd, nd ∈ s'.nodes ↔ Vw w nd.glob ∧ nd.part = partW w nd.glob ∧ nd.payload = payW w nd.glob ∧
      (nd.part = (q : Int) ∨ ∃ c ∈ s'.cells, nd.glob ∈ c.nodes))

section Lay
variable {w w' : World RankState}

/-- a rank of the layout has its rank of `w`, of which `IsLayout.rank` then speaks -/
theorem IsLayout.src (hL : IsLayout w w') {q : Nat} {s' : RankState} (h : w'[q]? = some s') : ∃ s, w[q]? = some s :=
  ⟨_, List.getElem?_eq_getElem (hL.len ▸ (List.getElem?_eq_some_iff.mp h).1)⟩

theorem layout_of_isLayout {ldim N : Nat} (H : ShufHyp ldim N w) (hL : IsLayout w w') :
    Layout (partW w) (payW w) (AllC w) (Vw w) w' := by
  refine { range := fun g hg => ?_, cellVerts := allC_verts H, nodupG := fun h => ?_, cells := fun h => ?_,
           nodes := fun h => ?_, nodupC := fun h => ?_ }
  · obtain ⟨a, b, c, _⟩ := vw_facts H g hg
    exact ⟨c, a, hL.len ▸ b⟩
  all_goals
    obtain ⟨s, hs⟩ := hL.src h
    obtain ⟨_, _, _, hC, hG, hc, hn⟩ := hL.rank _ s _ hs h
  exacts [hG, hc, hn, hC]

theorem newN_of_isLayout (hL : IsLayout w w') {n : Int} (hN : ∀ s ∈ w, s.newN = n) : ∀ s' ∈ w', s'.newN = n := by
  intro s' hs'
  obtain ⟨q, hq⟩ := List.getElem?_of_mem hs'
  obtain ⟨s, hs⟩ := hL.src hq
  rw [(hL.rank q s s' hs hq).2.1, hN s (List.mem_of_getElem? hs)]

end Lay

/-- the last two steps on one rank: unreferenced ghosts removed, ghosts refreshed -/
def finishRank (Y : Int → List Nat) (q : Nat) (s : RankState) : RankState :=
  { (pruneRank q s) with nodes := (pruneRank q s).nodes.map (fixNode Y q) }


theorem finishRank_globs (Y : Int → List Nat) (q : Nat) (s : RankState) :
    (finishRank Y q s).nodes.map (·.glob) = (pruneRank q s).nodes.map (·.glob) := by
  show ((pruneRank q s).nodes.map (fixNode Y q)).map (·.glob) = _
  rw [List.map_map]
  exact List.map_congr_left fun x _ => by simp only [Function.comp, fixNode]; split <;> rfl

/-- the `nodes` clause of the layout on one rank -/
theorem mem_finishRank {P : Int → Int} {Y : Int → List Nat} {S : DCell → Prop} {Vg : Int → Prop} {q : Nat} {s : RankState}
    (hs : RInv P Y S Vg q s) (nd : DNode) :
    nd ∈ (finishRank Y q s).nodes ↔ Vg nd.glob ∧ nd.part = P nd.glob ∧ nd.payload = Y nd.glob ∧
      (nd.part = (q : Int) ∨ ∃ c ∈ s.cells, nd.glob ∈ c.nodes) := by
  have hp := pruneRank_inv hs
  refine Refine.Lemmas.DistLayout.nodes_iff_of_rank (s := finishRank Y q s) (fun nd hnd => ?_) (fun nd hnd => ?_)
    (fun g hg hpg => finishRank_globs Y q s ▸ hp.owned g hg hpg)
    (fun c hc v hv => finishRank_globs Y q s ▸ (hp.cellsS c hc).2 v hv) nd
  · obtain ⟨x, hx, rfl⟩ := List.mem_map.mp hnd
    rw [fixNode_eq (hp.table.2 x hx)]
    exact ⟨hp.known x hx, rfl, rfl⟩
  · obtain ⟨x, hx, rfl⟩ := List.mem_map.mp hnd
    rw [fixNode_eq (hp.table.2 x hx)]
    exact (hp.table.2 x hx).1 ▸ ((mem_pruneRank q s x).mp hx).2

section Main
variable {ldim N : Nat} {w : World RankState}

theorem shufflin_main (H : ShufHyp ldim N w)
    (hnp : 2 ≤ w.length) : ∃ w', shufflin ldim w = some w' ∧ IsLayout w w' := by
  obtain ⟨w2, he2, hl2, hw2, hch2⟩ := phasesOver_spec (uniq_allC H) (allC_verts H) (List.range NGROUP)
    List.nodup_range (nodeWorld w) (nodeWorld_inv H)
  have hl : w2.length = w.length := by rw [hl2]; exact List.length_mapIdx
  have hw3 : WInv (partW w) (payW w) (AllC w) (Vw w) (w2.mapIdx pruneRank) := by
    intro q s3 h
    obtain ⟨s2, hs2, rfl⟩ := Refine.ListFacts.getElem?_mapIdx_eq_some.mp h
    exact pruneRank_inv (hw2 q s2 hs2)
  have hg := ghostReal_eq hw3 (N := N) (ldim := ldim)
    (by rw [List.length_mapIdx, hl]; exact vw_facts H) (by rw [List.length_mapIdx, hl]; exact H.size)
  rw [List.mapIdx_mapIdx] at hg
  refine ⟨w2.mapIdx (finishRank (payW w)), ?_, ⟨by rw [List.length_mapIdx, hl], ?_⟩⟩
  · unfold shufflin
    rw [if_neg (Nat.not_le.mpr hnp), H.synced, nodePhase_eq H]
    show (cellPhases (nodeWorld w)).bind _ = _
    rw [cellPhases_eq, he2]
    exact hg
  · intro q s s4 hs hs4
    obtain ⟨s2, hs2, rfl⟩ := Refine.ListFacts.getElem?_mapIdx_eq_some.mp hs4
    obtain ⟨c1, c2, c3, c4⟩ := hch2 q _ s2 (Refine.ListFacts.getElem?_mapIdx_eq_some.mpr ⟨s, hs, rfl⟩) hs2
    have hr2 := hw2 q s2 hs2
    refine ⟨c1, c2, c3, hr2.cellsNd, ?_, fun c => ?_, mem_finishRank hr2⟩
    · rw [finishRank_globs]
      exact (pruneRank_inv hr2).table.1
    · -- every cell group is below `NGROUP`, so every cell has been through its phase
      have hin : ∀ t ∈ w, c ∈ t.cells → c.group ∈ List.range NGROUP :=
        fun t ht hc => List.mem_range.mpr (H.cellVerts t ht c hc).1
      show c ∈ s2.cells ↔ _
      rw [c4 c]
      by_cases hg : c.group ∈ List.range NGROUP
      · rw [if_pos hg, allC_nodeWorld]
      · rw [if_neg hg]
        exact ⟨fun hc => absurd (hin s (List.mem_of_getElem? hs) hc) hg,
          fun ⟨⟨r, t, ht, hc⟩, _⟩ => absurd (hin t (List.mem_of_getElem? ht) hc) hg⟩

end Main

end Refine.Lemmas.ShufflinSpec
