import Refine.Lemmas.Rcb
import Refine.Lemmas.CommExchange
import Mathlib.Data.List.Nodup

/-!
  `ref_migrate_native_rcb_part` — the owned vertices of
  every rank enter the recursion once, the leaf `ref_mpi_blindsend`s bring every `(part, local)` pair back to the
  owner, and the store loop writes every owned slot exactly once with an id of `[0, npart)`; the other slots keep
  `REF_EMPTY`.
-/
namespace Refine.Lemmas.Rcb
open Refine Refine.Model.Comm Refine.Model.Rcb Refine.Lemmas.Comm

variable {α : Type}

theorem storeParts_length (part : List Int) (recv : List (Int × Int)) :
    (storeParts part recv).length = part.length :=
  Refine.ListFacts.length_foldl_set (fun x : Int × Int => x.2.toNat) (·.1) recv part

theorem storeParts_other (part : List Int) (recv : List (Int × Int)) (i : Nat)
    (h : ∀ x ∈ recv, x.2.toNat ≠ i) : (storeParts part recv)[i]? = part[i]? :=
  Refine.ListFacts.getElem?_foldl_set_of_not_mem (fun x : Int × Int => x.2.toNat) (·.1) recv part i h

/-- a slot named by a received pair ends with the part of SOME received pair naming it (the last one) -/
theorem storeParts_hit (part : List Int) (recv : List (Int × Int)) (i : Nat) (hi : i < part.length)
    (h : ∃ x ∈ recv, x.2.toNat = i) :
    ∃ x ∈ recv, x.2.toNat = i ∧ (storeParts part recv)[i]? = some x.1 :=
  Refine.ListFacts.getElem?_foldl_set_of_mem (fun x : Int × Int => x.2.toNat) (·.1) recv part i hi h

section Owned

theorem mem_ownedRecs (me : Nat) (nodes : List (PNode α)) (r : Rec α) :
    r ∈ ownedRecs me nodes ↔
      r.owner = me ∧ ∃ nd, nodes[r.loc]? = some nd ∧ nd.part = (me : Int) ∧ r.p = nd.p := by
  unfold ownedRecs
  simp only [List.mem_map, List.mem_filter, List.mem_zipIdx_iff_getElem?, beq_iff_eq]
  constructor
  · rintro ⟨x, ⟨hx, hp⟩, rfl⟩
    exact ⟨rfl, x.1, hx, hp, rfl⟩
  · rintro ⟨ho, nd, hnd, hp, hpp⟩
    refine ⟨(nd, r.loc), ⟨hnd, hp⟩, ?_⟩
    cases r
    simp_all

/-- `(owner, local)` of a record -/
def key (r : Rec α) : Nat × Nat := (r.owner, r.loc)

theorem ownedRecs_keys_nodup (me : Nat) (nodes : List (PNode α)) : ((ownedRecs me nodes).map key).Nodup := by
  unfold ownedRecs
  rw [List.map_map]
  have h1 : ((nodes.zipIdx.filter fun x => x.1.part == (me : Int)).map (·.2)).Nodup := by
    refine List.Nodup.sublist ((List.filter_sublist).map _) ?_
    rw [List.zipIdx_map_snd]
    exact List.nodup_range' 1
  have : (key ∘ fun x : PNode α × Nat => (⟨x.1.p, me, x.2⟩ : Rec α)) = (fun i => (me, i)) ∘ (·.2) := by
    funext x; rfl
  rw [this, ← List.map_map]
  exact h1.map (fun a b h => by simpa using h)

theorem mem_owned (w : World (List (PNode α))) (rc : Rec α) :
    rc ∈ (w.mapIdx fun r nodes => ownedRecs r nodes).flatten ↔
      ∃ nodes nd, w[rc.owner]? = some nodes ∧ nodes[rc.loc]? = some nd ∧ nd.part = (rc.owner : Int) ∧ rc.p = nd.p := by
  simp only [List.mem_flatten, List.mem_mapIdx]
  constructor
  · rintro ⟨_, ⟨r, hr, rfl⟩, h⟩
    obtain ⟨rfl, nd, hnd, hp, hpp⟩ := (mem_ownedRecs r w[r] rc).mp h
    exact ⟨_, nd, List.getElem?_eq_getElem hr, hnd, hp, hpp⟩
  · rintro ⟨nodes, nd, hw, hnd, hp, hpp⟩
    obtain ⟨hr, rfl⟩ := List.getElem?_eq_some_iff.mp hw
    exact ⟨_, ⟨rc.owner, hr, rfl⟩, (mem_ownedRecs _ _ rc).mpr ⟨rfl, nd, hnd, hp, hpp⟩⟩

theorem owned_keys_nodup (w : World (List (PNode α))) :
    ((w.mapIdx fun r nodes => ownedRecs r nodes).flatten.map key).Nodup := by
  rw [List.map_flatten, List.nodup_flatten]
  constructor
  · intro l hl
    obtain ⟨_, hm, rfl⟩ := List.mem_map.mp hl
    obtain ⟨r, hr, rfl⟩ := List.mem_mapIdx.mp hm
    exact ownedRecs_keys_nodup r _
  · -- the keys of rank `r` start with `r`
    rw [List.pairwise_iff_getElem]
    intro i j hi hj hij a ha hb
    simp only [List.getElem_map, List.getElem_mapIdx, List.mem_map] at ha hb
    obtain ⟨x, hx, rfl⟩ := ha
    obtain ⟨y, hy, hxy⟩ := hb
    have h1 := ((mem_ownedRecs _ _ x).mp hx).1
    have h2 := ((mem_ownedRecs _ _ y).mp hy).1
    have : y.owner = x.owner := congrArg Prod.fst hxy
    omega

theorem owned_length_le (w : World (List (PNode α))) :
    (w.mapIdx fun r nodes => ownedRecs r nodes).flatten.length ≤ w.flatten.length := by
  rw [List.length_flatten, List.length_flatten, Refine.ListFacts.map_mapIdx]
  refine Refine.ListFacts.sum_mapIdx_le w _ _ fun r nodes _ => ?_
  rw [ownedRecs, List.length_map]
  exact Nat.le_trans (List.length_filter_le _ _) (Nat.le_of_eq List.length_zipIdx)

end Owned

section Leaf

/-- what rank `r` receives: the `(part, local)` pairs of the assignments whose owner is `r`, in leaf-rank order -/
def recvOf (A : List (Rec α × Int)) (r : Nat) : List (Int × Int) :=
  (A.filter fun a => a.1.owner == r).map fun a => (a.2, (a.1.loc : Int))

theorem mem_recvOf {A : List (Rec α × Int)} {r : Nat} {x : Int × Int} :
    x ∈ recvOf A r ↔ ∃ a ∈ A, a.1.owner = r ∧ x = (a.2, (a.1.loc : Int)) := by
  simp only [recvOf, List.mem_map, List.mem_filter, beq_iff_eq]
  exact ⟨fun ⟨a, ⟨ha, ho⟩, e⟩ => ⟨a, ha, ho, e.symm⟩, fun ⟨a, ha, ho, e⟩ => ⟨a, ⟨ha, ho⟩, e.symm⟩⟩

/-- `leafSend`: owners inside the communicator, fewer than `2^31` records: every rank receives exactly the pairs
    addressed to it -/
theorem leafSend_spec (leaves : World (Int × List (Rec α)))
    (hown : ∀ a ∈ assignments leaves, a.1.owner < leaves.length)
    (htot : ((assignments leaves).length : Int) ≤ INT_MAX) :
    leafSend leaves = some ((List.range leaves.length).map (recvOf (assignments leaves))) := by
  let W : World (List (Nat × (Int × Int))) := leaves.map fun l => l.2.map fun r => (r.owner, (l.1, (r.loc : Int)))
  have hflat : W.flatten = (assignments leaves).map fun a => (a.1.owner, (a.2, (a.1.loc : Int))) := by
    simp only [W, assignments, List.flatMap_def, List.map_flatten, List.map_map, Function.comp_def]
  have hargs : (leaves.map fun l : Int × List (Rec α) =>
      (⟨l.2.map fun r => (r.owner : Int), l.2.map fun r => (l.1, (r.loc : Int))⟩ : Blind (Int × Int)))
      = W.map fun ps => ⟨ps.map fun x => (x.1 : Int), ps.flatMap fun x => [x.2]⟩ := by
    simp only [W, List.map_map, Function.comp_def, ← List.map_eq_flatMap]
  have hb := blindsend_items (α := Int × Int) false RefType.int rfl 0 1 (fun x => [x]) W
    (by
      intro ps hp x hx
      have : x ∈ W.flatten := List.mem_flatten.mpr ⟨ps, hp, hx⟩
      rw [hflat] at this
      obtain ⟨a, ha, rfl⟩ := List.mem_map.mp this
      simpa [W] using hown a ha)
    (fun _ _ _ _ => rfl) nofun
    (fun _ => by rw [hflat, List.length_map]; simpa using htot)
  unfold leafSend
  simp only []
  rw [hargs, hb]
  simp only []
  rw [if_pos (all_ok_map _ _)]
  simp only [List.map_map, Function.comp_def, W, List.length_map]
  congr 1
  apply List.map_congr_left
  intro r _
  rw [List.flatMap_singleton', arrive_eq_filter, hflat, recvOf, List.filter_map, List.map_map]
  rfl

end Leaf

section Part
variable [Scalar α] [RcbScalar α]

/-- `ref_migrate_native_rcb_part` for `1 ≤ npart ≤ ref_mpi_n`, any distribution of fewer than `2^31` stored
    vertices, any seed and rand stream: the call succeeds; every slot holding an owned vertex is written exactly once
    (exactly one assignment names it) with a part id of `[0, npart)`; every other slot keeps `REF_EMPTY`. -/
theorem rcbPart_spec (hst : ∀ n : Nat, 2 ≤ n → (splitRatio (α := α) (n : Int)).1 = Status.ok)
    (npart : Nat) (seed : Int) (twod : Bool) (rands : List Nat) (w : World (List (PNode α)))
    (h1 : 1 ≤ npart) (hn : npart ≤ w.length) (htot : (w.flatten.length : Int) ≤ INT_MAX) :
    ∃ leaves parts,
      rcbDirection (transformOf twod rands) seed twod npart 0 (-1) (w.mapIdx fun r nodes => ownedRecs r nodes)
        = some leaves
      ∧ rcbPart npart seed twod rands w = some parts ∧ parts.length = w.length
      ∧ ∀ (r : Nat) (nodes : List (PNode α)), w[r]? = some nodes →
          ∃ pr : List Int, parts[r]? = some pr ∧ pr.length = nodes.length
          ∧ ∀ (i : Nat) (nd : PNode α), nodes[i]? = some nd →
              (nd.part = (r : Int) → ∃ k, pr[i]? = some k ∧ 0 ≤ k ∧ k < (npart : Int)
                  ∧ ((assignments leaves).map fun a => key a.1).count (r, i) = 1
                  ∧ ∃ a ∈ assignments leaves, key a.1 = (r, i) ∧ a.1.p = nd.p ∧ a.2 = k)
              ∧ (nd.part ≠ (r : Int) → pr[i]? = some (-1)) := by
  have hrl : (w.mapIdx fun r nodes => ownedRecs r nodes).length = w.length := List.length_mapIdx
  have hrtot : (((w.mapIdx fun r nodes => ownedRecs r nodes).flatten.length : Nat) : Int) ≤ INT_MAX := by
    have := owned_length_le w
    omega
  obtain ⟨leaves, hl, hlen, hperm, hrng, _⟩ :=
    rcbDirection_spec hst (transformOf twod rands) seed twod npart 0 (-1) _ h1 (by omega) hrtot
  rw [hrl] at hlen
  have hA : ((assignments leaves).map (·.1)).Perm (w.mapIdx fun r nodes => ownedRecs r nodes).flatten := by
    rw [assignments_fst]; exact hperm
  have hmemA : ∀ a ∈ assignments leaves, a.1 ∈ (w.mapIdx fun r nodes => ownedRecs r nodes).flatten := fun a ha =>
    hA.mem_iff.mp (List.mem_map_of_mem ha)
  have hown : ∀ a ∈ assignments leaves, a.1.owner < leaves.length := by
    intro a ha
    obtain ⟨nodes, _, hnodes, _⟩ := (mem_owned w a.1).mp (hmemA a ha)
    rw [hlen]
    have := (List.getElem?_eq_some_iff.mp hnodes).1
    omega
  have hAlen : ((assignments leaves).length : Int) ≤ INT_MAX := by
    have := hA.length_eq
    rw [List.length_map] at this
    omega
  have hsend := leafSend_spec leaves hown hAlen
  have hArng : ∀ a ∈ assignments leaves, 0 ≤ a.2 ∧ a.2 < (npart : Int) := by
    intro a ha
    simp only [assignments, List.mem_flatMap, List.mem_map] at ha
    obtain ⟨l, hl', _, _, rfl⟩ := ha
    have := hrng l hl'
    omega
  have hnodup : ((assignments leaves).map fun a => key a.1).Nodup := by
    have : ((assignments leaves).map fun a => key a.1) = ((assignments leaves).map (·.1)).map key := by
      rw [List.map_map]; rfl
    rw [this]
    exact ((hA.map key).nodup_iff).mpr (owned_keys_nodup w)
  refine ⟨leaves, (w.zip ((List.range leaves.length).map (recvOf (assignments leaves)))).map fun x =>
    storeParts (List.replicate x.1.length (-1)) x.2, hl, ?_, ?_, ?_⟩
  · unfold rcbPart
    simp only []
    rw [hl]
    simp only []
    rw [hsend]
  · simp [hlen]
  · intro r nodes hnodes
    have hr : r < w.length := (List.getElem?_eq_some_iff.mp hnodes).1
    have hrecv : ((List.range leaves.length).map (recvOf (assignments leaves)))[r]?
        = some (recvOf (assignments leaves) r) := by
      rw [List.getElem?_map, List.getElem?_range (by omega)]
      rfl
    refine ⟨storeParts (List.replicate nodes.length (-1)) (recvOf (assignments leaves) r),
      by rw [List.getElem?_map, (List.getElem?_zip_eq_some (z := (nodes, _))).mpr ⟨hnodes, hrecv⟩]; rfl,
      by rw [storeParts_length, List.length_replicate], ?_⟩
    intro i nd hnd
    have hi : i < nodes.length := (List.getElem?_eq_some_iff.mp hnd).1
    -- an assignment that names this slot is about this vertex
    have hslot : ∀ a ∈ assignments leaves, a.1.owner = r → a.1.loc = i → nd.part = (r : Int) ∧ a.1.p = nd.p := by
      intro a haA hao hal
      obtain ⟨nodes', nd', hn', hnd', hp', hpp⟩ := (mem_owned w a.1).mp (hmemA a haA)
      rw [hao, hnodes] at hn'
      cases hn'
      rw [hal, hnd] at hnd'
      cases hnd'
      exact ⟨hao ▸ hp', hpp⟩
    constructor
    · intro hpart
      -- the record of this vertex went into the recursion, so some assignment names the slot
      have hrec : (⟨nd.p, r, i⟩ : Rec α) ∈ (w.mapIdx fun r nodes => ownedRecs r nodes).flatten :=
        (mem_owned w _).mpr ⟨nodes, nd, hnodes, hnd, hpart, rfl⟩
      obtain ⟨a0, ha0, ha0e⟩ := List.mem_map.mp (hA.mem_iff.mpr hrec)
      have hin : ∃ x ∈ recvOf (assignments leaves) r, x.2.toNat = i :=
        ⟨_, mem_recvOf.mpr ⟨a0, ha0, by rw [ha0e], rfl⟩, by rw [ha0e]; exact Int.toNat_natCast i⟩
      obtain ⟨x, hx, hxi, hget⟩ :=
        storeParts_hit (List.replicate nodes.length (-1)) _ i (by rw [List.length_replicate]; exact hi) hin
      obtain ⟨a, haA, hao, rfl⟩ := mem_recvOf.mp hx
      rw [Int.toNat_natCast] at hxi
      have hkey : key a.1 = (r, i) := by rw [key, hao, hxi]
      refine ⟨a.2, hget, (hArng a haA).1, (hArng a haA).2, ?_, a, haA, hkey, (hslot a haA hao hxi).2, rfl⟩
      exact List.count_eq_one_of_mem hnodup (List.mem_map.mpr ⟨a, haA, hkey⟩)
    · intro hpart
      have hno : ∀ x ∈ recvOf (assignments leaves) r, x.2.toNat ≠ i := by
        intro x hx hxi
        obtain ⟨a, haA, hao, rfl⟩ := mem_recvOf.mp hx
        rw [Int.toNat_natCast] at hxi
        exact hpart (hslot a haA hao hxi).1
      rw [storeParts_other _ _ i hno, List.getElem?_replicate, if_pos hi]

/-- the range check of `ref_migrate_report_load_balance` passes on the part arrays of `rcbPart` -/
theorem rcbPart_reportOk (hst : ∀ n : Nat, 2 ≤ n → (splitRatio (α := α) (n : Int)).1 = Status.ok)
    (npart : Nat) (seed : Int) (twod : Bool) (rands : List Nat) (w : World (List (PNode α)))
    (h1 : 1 ≤ npart) (hn : npart ≤ w.length) (htot : (w.flatten.length : Int) ≤ INT_MAX) :
    ∃ parts, rcbPart npart seed twod rands w = some parts ∧ reportOk w parts = true := by
  obtain ⟨_, parts, _, hp, _, h⟩ := rcbPart_spec hst npart seed twod rands w h1 hn htot
  refine ⟨parts, hp, ?_⟩
  unfold reportOk
  rw [List.all_eq_true]
  intro x hx
  have hx' := List.mem_zipIdx_iff_getElem?.mp hx
  obtain ⟨hw, hp⟩ := List.getElem?_zip_eq_some.mp hx'
  obtain ⟨pr, hpr, _, hall⟩ := h x.2 x.1.1 hw
  rw [hp] at hpr
  cases hpr
  rw [List.all_eq_true]
  intro np hnp
  obtain ⟨i, hi⟩ := List.mem_iff_getElem?.mp hnp
  obtain ⟨h1, h2⟩ := List.getElem?_zip_eq_some.mp hi
  by_cases hown : np.1.part = (x.2 : Int)
  · obtain ⟨k, hk, hk0, hk1, _⟩ := (hall i np.1 h1).1 hown
    rw [h2] at hk
    cases hk
    have : (npart : Int) ≤ (w.length : Int) := by exact_mod_cast hn
    simp only [Bool.or_eq_true, Bool.and_eq_true, decide_eq_true_eq]
    right
    exact ⟨hk0, by omega⟩
  · simp only [Bool.or_eq_true, bne_iff_ne, ne_eq]
    left
    exact hown
end Part

end Refine.Lemmas.Rcb
