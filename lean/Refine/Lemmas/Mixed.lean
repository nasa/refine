import Refine.Model.Mixed
import Refine.Lemmas.GuardsRules

/-!
  What the lemmas about `Refine/Model/Mixed.lean` need of the edge / face tables generated from `ref_cell_initialize`
  (`FaceTable`), and what the mixed-element guards decide, as exact criteria (`MixedEdge`, `OnFrozen`).
-/
namespace Refine.MixedLemmas
open Refine Refine.Model Refine.Model.Guards Refine.Model.Mixed Refine.GuardsRules

theorem triF2nPyr_eq : triF2nPyr = [[0, 1, 2], [1, 4, 2], [2, 4, 3], [0, 2, 3]] := by decide
theorem triF2nPri_eq : triF2nPri = [[0, 1, 2], [3, 5, 4]] := by decide
theorem triF2nHex_eq : triF2nHex = [] := by decide

/-- what the lemmas use of the generated tables of a cell type with `np` vertices (edge rows `e2n`, triangular face rows
    `faces`) -/
structure FaceTable (np : Nat) (e2n : List (Nat × Nat)) (faces : List (List Nat)) : Prop where
  edge_bound : ∀ p ∈ e2n, p.1 < np ∧ p.2 < np
  face_bound : ∀ f ∈ faces, ∀ x ∈ f, x < np
  face_rows : ∀ f ∈ faces, f.Nodup ∧ f.length = 3
  face_sides : ∀ f ∈ faces, ∀ x ∈ f, ∀ y ∈ f, x ≠ y → (x, y) ∈ e2n ∨ (y, x) ∈ e2n

theorem pyrTable : FaceTable 5 e2nPyr triF2nPyr := by constructor <;> decide
theorem priTable : FaceTable 6 e2nPri triF2nPri := by constructor <;> decide
theorem e2nQua_bound : ∀ p ∈ e2nQua, p.1 < 4 ∧ p.2 < 4 := by decide
theorem e2nHex_bound : ∀ p ∈ e2nHex, p.1 < 8 ∧ p.2 < 8 := by decide

/-- `(n0,n1)` is an edge (row of the `e2n` table, either direction) of the cell -/
def IsEdgeOf (e2n : List (Nat × Nat)) (c : Cell) (n0 n1 : Nat) : Prop :=
  ∃ p ∈ e2n, (n0 = c.nd p.1 ∧ n1 = c.nd p.2) ∨ (n0 = c.nd p.2 ∧ n1 = c.nd p.1)

/-- the cells of the four non-simplex groups have their `node_per` vertices -/
structure Arity (g : Grid) : Prop where
  qua : ∀ c ∈ g.qua, c.nodes.length = 4
  pyr : ∀ c ∈ g.pyr, c.nodes.length = 5
  pri : ∀ c ∈ g.pri, c.nodes.length = 6
  hex : ∀ c ∈ g.hex, c.nodes.length = 8

theorem hasSide_iff {e2n : List (Nat × Nat)} {cells : List Cell} {n0 n1 np : Nat}
    (hw : ∀ c ∈ cells, c.nodes.length = np) (hb : ∀ p ∈ e2n, p.1 < np ∧ p.2 < np) :
    hasSide e2n cells n0 n1 = true ↔ ∃ c ∈ cells, IsEdgeOf e2n c n0 n1 :=
  hasSide_eq_true_iff.trans (exists_congr fun c => and_congr_right fun hc =>
    and_iff_right_of_imp fun he => (side_mem (hw c hc) hb he).1)

theorem hasSide_eq_false_iff {e2n : List (Nat × Nat)} {cells : List Cell} {n0 n1 np : Nat}
    (hw : ∀ c ∈ cells, c.nodes.length = np) (hb : ∀ p ∈ e2n, p.1 < np ∧ p.2 < np) :
    hasSide e2n cells n0 n1 = false ↔ ∀ c ∈ cells, ¬ IsEdgeOf e2n c n0 n1 := by
  rw [← Bool.not_eq_true, hasSide_iff hw hb]
  simp

theorem not_isEdgeOf_of_hasSide_false {e2n : List (Nat × Nat)} {cells : List Cell} {n0 n1 : Nat}
    (h : hasSide e2n cells n0 n1 = false) : ∀ c ∈ cells, n0 ∈ c.nodes → ¬ IsEdgeOf e2n c n0 n1 :=
  fun c hc hn he => Bool.false_ne_true (h.symm.trans (hasSide_eq_true_iff.mpr ⟨c, hc, hn, he⟩))

/-- some non-simplex cell has `(n0,n1)` as an edge -/
def MixedEdge (g : Grid) (n0 n1 : Nat) : Prop :=
  (∃ c ∈ g.pyr, IsEdgeOf e2nPyr c n0 n1) ∨ (∃ c ∈ g.pri, IsEdgeOf e2nPri c n0 n1) ∨
  (∃ c ∈ g.hex, IsEdgeOf e2nHex c n0 n1) ∨ (∃ c ∈ g.qua, IsEdgeOf e2nQua c n0 n1)

theorem splitEdgeMixed_true_iff {g : Grid} (hw : Arity g) (n0 n1 : Nat) :
    Guards.splitEdgeMixed g n0 n1 = true ↔ ¬ MixedEdge g n0 n1 := by
  unfold Guards.splitEdgeMixed MixedEdge
  simp only [Bool.and_eq_true, Bool.not_eq_true', hasSide_eq_false_iff hw.pyr pyrTable.edge_bound,
    hasSide_eq_false_iff hw.pri priTable.edge_bound, hasSide_eq_false_iff hw.hex e2nHex_bound,
    hasSide_eq_false_iff hw.qua e2nQua_bound, not_or, not_exists, not_and, and_assoc]

theorem not_isEdgeOf_of_splitEdgeMixed {g : Grid} {n0 n1 : Nat} (h : Guards.splitEdgeMixed g n0 n1 = true) :
    (∀ c ∈ g.pyr, n0 ∈ c.nodes → ¬ IsEdgeOf e2nPyr c n0 n1) ∧ (∀ c ∈ g.pri, n0 ∈ c.nodes → ¬ IsEdgeOf e2nPri c n0 n1) ∧
    (∀ c ∈ g.hex, n0 ∈ c.nodes → ¬ IsEdgeOf e2nHex c n0 n1) ∧ (∀ c ∈ g.qua, n0 ∈ c.nodes → ¬ IsEdgeOf e2nQua c n0 n1) := by
  unfold Guards.splitEdgeMixed at h
  simp only [Bool.and_eq_true, Bool.not_eq_true'] at h
  obtain ⟨⟨⟨hp, hr⟩, hh⟩, hq⟩ := h
  exact ⟨not_isEdgeOf_of_hasSide_false hp, not_isEdgeOf_of_hasSide_false hr, not_isEdgeOf_of_hasSide_false hh,
    not_isEdgeOf_of_hasSide_false hq⟩

theorem swapEdgeMixed_eq_split (g : Grid) (n0 n1 : Nat) :
    Guards.swapEdgeMixed g n0 n1 = Guards.splitEdgeMixed g n0 n1 := by
  -- the same four tests, asked in another order
  unfold Guards.swapEdgeMixed Guards.splitEdgeMixed
  simp only [Bool.and_assoc, Bool.and_comm, Bool.and_left_comm]

/-- a vertex of some cell of the four frozen groups -/
def OnFrozen (g : Grid) (n : Nat) : Prop := ∃ c, (c ∈ g.qua ∨ c ∈ g.pyr ∨ c ∈ g.pri ∨ c ∈ g.hex) ∧ n ∈ c.nodes

theorem collapseEdgeMixed_true_iff (g : Grid) (n0 n1 : Nat) :
    Guards.collapseEdgeMixed g n0 n1 = true ↔ ¬ OnFrozen g n1 := by
  unfold Guards.collapseEdgeMixed OnFrozen
  simp only [Bool.and_eq_true, nodeEmpty_iff, not_exists, not_and, or_imp, forall_and]
  tauto

/-- `ref_cavity_mixed` is `ref_collapse_edge_mixed` asked of both ends -/
theorem cavityMixed_true_iff (g : Grid) (n0 n1 : Nat) :
    Guards.cavityMixed g n0 n1 = true ↔ ¬ OnFrozen g n0 ∧ ¬ OnFrozen g n1 := by
  rw [← collapseEdgeMixed_true_iff g n1 n0, ← collapseEdgeMixed_true_iff g n0 n1]
  unfold Guards.cavityMixed Guards.collapseEdgeMixed
  simp only [Bool.and_eq_true, and_assoc]

theorem collapseGroup_frozen {g : Grid} {n0 n1 : Nat} (h : ¬ OnFrozen g n1) :
    collapseGroup g.qua n0 n1 = g.qua ∧ collapseGroup g.pyr n0 n1 = g.pyr ∧
    collapseGroup g.pri n0 n1 = g.pri ∧ collapseGroup g.hex n0 n1 = g.hex :=
  ⟨collapseGroup_eq_self fun c hc hn => h ⟨c, .inl hc, hn⟩,
   collapseGroup_eq_self fun c hc hn => h ⟨c, .inr (.inl hc), hn⟩,
   collapseGroup_eq_self fun c hc hn => h ⟨c, .inr (.inr (.inl hc)), hn⟩,
   collapseGroup_eq_self fun c hc hn => h ⟨c, .inr (.inr (.inr hc)), hn⟩⟩

end Refine.MixedLemmas
