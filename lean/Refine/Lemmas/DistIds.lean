import Refine.Model.DistIds
import Refine.Lemmas.NodeIds
import Refine.Lemmas.Dist
import Refine.Lemmas.DistSync
import Mathlib.Data.List.Nodup

/-!
  The LOCAL (unshifted) id invariant `IdInvL`: that it implies the
  invariant `IdInv` needed by `sync_bijection`, that the four local operations of `Refine.Model.DistIds` preserve
  it on any rank, and that `syncGlobals` re-establishes it.
-/
namespace Refine.Lemmas.DistIds
open Refine.Model.Dist Refine.Model.NodeIds Refine.Model.DistIds Refine.Lemmas.Dist Refine.Lemmas.DistSync
open Refine.Model.Comm (World)

/-- the unused ids of rank `r` (`[]` for a rank out of range) -/
def _root_.Refine.Lemmas.Dist.IdWorld.unusedOf (w : IdWorld) (r : Nat) : List Int := w.unused.getD r []

/-- The id invariant in LOCAL (unshifted) ids, the Lean form of `id_invariant` in `checks/streams_dist.py`:
    per rank the live ids and the unused ids are duplicate-free, disjoint, inside `[0, old + k_r)` and cover the
    rank's fresh interval `[old, old + k_r)`; every shared id in `[0, old)` is live on at least one rank or sits in
    exactly one rank's unused list, never both. -/
structure IdInvL (A : IdWorld) : Prop where
  old_nonneg : 0 ≤ A.old
  len_live : A.live.length = A.k.length
  len_unused : A.unused.length = A.k.length
  live_nodup : ∀ r, (A.liveOf r).Nodup
  unused_nodup : ∀ r, (A.unusedOf r).Nodup
  disj : ∀ r g, g ∈ A.liveOf r → g ∉ A.unusedOf r
  live_range : ∀ r g, g ∈ A.liveOf r → 0 ≤ g ∧ g < A.old + (A.kOf r : Nat)
  unused_range : ∀ r g, g ∈ A.unusedOf r → 0 ≤ g ∧ g < A.old + (A.kOf r : Nat)
  fresh_cov : ∀ r g, A.old ≤ g → g < A.old + (A.kOf r : Nat) → g ∈ A.liveOf r ∨ g ∈ A.unusedOf r
  old_cov : ∀ g, 0 ≤ g → g < A.old → (∃ r, g ∈ A.liveOf r) ∨ (∃ r, g ∈ A.unusedOf r)
  old_excl : ∀ g r q, g < A.old → g ∈ A.unusedOf r → g ∉ A.liveOf q
  old_uniq : ∀ g r q, g < A.old → g ∈ A.unusedOf r → g ∈ A.unusedOf q → r = q

/-- in a synchronised world (no unused and no fresh ids) the invariant says: the live ids of a rank are distinct and
    in `[0, old)`, and every id of `[0, old)` is live somewhere -/
theorem IdInvL.of_synced {A : IdWorld} (h0 : 0 ≤ A.old) (hl : A.live.length = A.k.length)
    (hu : A.unused.length = A.k.length) (hU : ∀ r, A.unusedOf r = []) (hK : ∀ r, A.kOf r = 0)
    (nodup : ∀ r, (A.liveOf r).Nodup) (range : ∀ r g, g ∈ A.liveOf r → 0 ≤ g ∧ g < A.old)
    (cov : ∀ g, 0 ≤ g → g < A.old → ∃ r, g ∈ A.liveOf r) : IdInvL A := by
  have hno : ∀ r g, g ∉ A.unusedOf r := fun r g => by rw [hU]; exact List.not_mem_nil
  refine ⟨h0, hl, hu, nodup, fun r => by rw [hU]; exact List.nodup_nil, fun r g _ => hno r g, ?_,
    fun r g hg => absurd hg (hno r g), ?_, fun g h0 hlt => Or.inl (cov g h0 hlt),
    fun g r q _ hg => absurd hg (hno r g), fun g r q _ hg => absurd hg (hno r g)⟩
  · intro r g hg
    rw [hK, Nat.cast_zero, Int.add_zero]
    exact range r g hg
  · intro r g h1 h2
    rw [hK, Nat.cast_zero, Int.add_zero] at h2
    exact absurd h2 (not_lt.2 h1)

theorem mem_shiftedUnused (A : IdWorld) (u : Int) :
    u ∈ A.shiftedUnused ↔ ∃ r g, g ∈ A.unusedOf r ∧ shiftId A.old (A.off r) g = u := by
  unfold IdWorld.shiftedUnused IdWorld.unusedOf
  simp only [List.mem_flatten, List.mem_mapIdx]
  constructor
  · rintro ⟨l, ⟨i, hi, rfl⟩, hu⟩
    obtain ⟨g, hg, rfl⟩ := List.mem_map.1 hu
    exact ⟨i, g, by simpa [List.getD_eq_getElem?_getD, hi] using hg, rfl⟩
  · rintro ⟨r, g, hg, rfl⟩
    by_cases hr : r < A.unused.length
    · refine ⟨_, ⟨r, hr, rfl⟩, List.mem_map.2 ⟨g, ?_, rfl⟩⟩
      simpa [List.getD_eq_getElem?_getD, hr] using hg
    · simp [List.getD_eq_getElem?_getD, List.getElem?_eq_none (Nat.le_of_not_gt hr)] at hg

/-- **`IdInvL → IdInv`**: the local invariant gives the (shifted) invariant `sync_bijection` needs: the shifted
    fresh intervals `[old + off r, old + off r + k_r)` are pairwise disjoint and cover `[old, M)`. -/
theorem IdInvL.toIdInv {A : IdWorld} (h : IdInvL A) : IdInv A := by
  have hmem := mem_shiftedUnused A
  refine ⟨h.old_nonneg, h.live_range, ?_, ?_, ?_, ?_⟩
  · -- the shifted unused ids are pairwise distinct
    have hU : ∀ i (hi : i < A.unused.length), A.unused[i] = A.unusedOf i := fun i hi => by
      rw [IdWorld.unusedOf, List.getD_eq_getElem?_getD, List.getElem?_eq_getElem hi, Option.getD_some]
    unfold IdWorld.shiftedUnused
    rw [List.nodup_flatten, List.pairwise_iff_getElem]
    constructor
    · intro l hl
      obtain ⟨i, hi, rfl⟩ := List.mem_iff_getElem.1 hl
      rw [List.length_mapIdx] at hi
      rw [List.getElem_mapIdx, hU i hi]
      exact (h.unused_nodup i).map_on fun x _ y _ hxy => shiftId_injective _ _ (off_nonneg A i) hxy
    · intro i j hi hj hij x hx hx'
      rw [List.length_mapIdx] at hi hj
      rw [List.getElem_mapIdx, hU i hi] at hx
      rw [List.getElem_mapIdx, hU j hj] at hx'
      obtain ⟨g, hgu, rfl⟩ := List.mem_map.1 hx
      obtain ⟨g', hgu', he⟩ := List.mem_map.1 hx'
      obtain ⟨hgg, hc⟩ := shift_eq_cases A j i g' g (h.unused_range j g' hgu').2 (h.unused_range i g hgu).2 he
      subst hgg
      rcases hc with hc | hc
      · exact absurd (h.old_uniq g' i j hc hgu hgu') (Nat.ne_of_lt hij)
      · exact absurd hc.symm (Nat.ne_of_lt hij)
  · intro u hu
    obtain ⟨r, g, hg, rfl⟩ := (hmem u).1 hu
    exact shiftId_range A r g (h.unused_range r g hg)
  · intro r g hg hu
    obtain ⟨q, g', hg', he⟩ := (hmem _).1 hu
    obtain ⟨hgg, hc⟩ := shift_eq_cases A q r g' g (h.unused_range q g' hg').2 (h.live_range r g hg).2 he
    subst hgg
    rcases hc with hc | hc
    · exact h.old_excl g' q r hc hg' hg
    · subst hc; exact h.disj q g' hg hg'
  · intro x hx0 hxM hxU
    by_cases hlo : x < A.old
    · rcases h.old_cov x hx0 hlo with ⟨r, hr⟩ | ⟨r, hr⟩
      · exact ⟨r, x, hr, by simp [shiftId]; omega⟩
      · exfalso
        exact hxU ((hmem x).2 ⟨r, x, hr, by simp [shiftId]; omega⟩)
    · obtain ⟨r, g, hg1, hg2, hsh⟩ := exists_fresh_preimage A x (not_lt.1 hlo) hxM
      rcases h.fresh_cov r g hg1 hg2 with hl | hu
      · exact ⟨r, g, hl, hsh⟩
      · exact absurd ((hmem x).2 ⟨r, g, hu, hsh⟩) hxU

/-- If `A'` differs from `A` on rank `r` only, `IdInvL A'` follows from `IdInvL A` and the obligations on rank `r`:
    the per-rank clauses for the new lists, every shared id that rank `r` held (live or unused) is still held by
    rank `r` or live elsewhere, a shared id in the new unused list of `r` is held by nobody else, and a shared id
    in the new live list of `r` is in nobody else's unused list. -/
theorem IdInvL.update {A A' : IdWorld} (h : IdInvL A) (r : Nat)
    (hold : A'.old = A.old) (hlk : A'.live.length = A'.k.length) (hlu : A'.unused.length = A'.k.length)
    (hoL : ∀ q, q ≠ r → A'.liveOf q = A.liveOf q) (hoU : ∀ q, q ≠ r → A'.unusedOf q = A.unusedOf q)
    (hoK : ∀ q, q ≠ r → A'.kOf q = A.kOf q)
    (nodupL : (A'.liveOf r).Nodup) (nodupU : (A'.unusedOf r).Nodup)
    (disj : ∀ g, g ∈ A'.liveOf r → g ∉ A'.unusedOf r)
    (rangeL : ∀ g, g ∈ A'.liveOf r → 0 ≤ g ∧ g < A.old + (A'.kOf r : Nat))
    (rangeU : ∀ g, g ∈ A'.unusedOf r → 0 ≤ g ∧ g < A.old + (A'.kOf r : Nat))
    (fresh : ∀ g, A.old ≤ g → g < A.old + (A'.kOf r : Nat) → g ∈ A'.liveOf r ∨ g ∈ A'.unusedOf r)
    (cov : ∀ g, 0 ≤ g → g < A.old → (g ∈ A.liveOf r ∨ g ∈ A.unusedOf r) →
      g ∈ A'.liveOf r ∨ g ∈ A'.unusedOf r ∨ ∃ q, q ≠ r ∧ g ∈ A.liveOf q)
    (exclU : ∀ g, g < A.old → g ∈ A'.unusedOf r → ∀ q, q ≠ r → g ∉ A.liveOf q ∧ g ∉ A.unusedOf q)
    (exclL : ∀ g, g < A.old → g ∈ A'.liveOf r → ∀ q, q ≠ r → g ∉ A.unusedOf q) : IdInvL A' := by
  -- a clause about one rank at a time: on `r` it is an obligation, elsewhere nothing changed
  have lift : ∀ P : List Int → List Int → Nat → Prop, P (A'.liveOf r) (A'.unusedOf r) (A'.kOf r) →
      (∀ q, P (A.liveOf q) (A.unusedOf q) (A.kOf q)) → ∀ q, P (A'.liveOf q) (A'.unusedOf q) (A'.kOf q) := by
    intro P hr hA q
    by_cases hq : q = r
    · subst hq; exact hr
    · rw [hoL q hq, hoU q hq, hoK q hq]; exact hA q
  rw [← hold] at rangeL rangeU fresh
  refine ⟨by rw [hold]; exact h.old_nonneg, hlk, hlu, lift (fun L _ _ => L.Nodup) nodupL h.live_nodup,
    lift (fun _ U _ => U.Nodup) nodupU h.unused_nodup, lift (fun L U _ => ∀ g, g ∈ L → g ∉ U) disj h.disj,
    lift (fun L _ k => ∀ g, g ∈ L → 0 ≤ g ∧ g < A'.old + (k : Nat)) rangeL (hold ▸ h.live_range),
    lift (fun _ U k => ∀ g, g ∈ U → 0 ≤ g ∧ g < A'.old + (k : Nat)) rangeU (hold ▸ h.unused_range),
    lift (fun L U k => ∀ g, A'.old ≤ g → g < A'.old + (k : Nat) → g ∈ L ∨ g ∈ U) fresh (hold ▸ h.fresh_cov),
    ?_, ?_, ?_⟩
  · intro g h0 hlt
    rw [hold] at hlt
    have key : ∀ q, (g ∈ A.liveOf q ∨ g ∈ A.unusedOf q) → (∃ q, g ∈ A'.liveOf q) ∨ (∃ q, g ∈ A'.unusedOf q) := by
      intro q hq
      by_cases hqr : q = r
      · subst hqr
        rcases cov g h0 hlt hq with h1 | h1 | ⟨p, hp, h1⟩
        · exact Or.inl ⟨q, h1⟩
        · exact Or.inr ⟨q, h1⟩
        · exact Or.inl ⟨p, by rw [hoL p hp]; exact h1⟩
      · rcases hq with h1 | h1
        · exact Or.inl ⟨q, by rw [hoL q hqr]; exact h1⟩
        · exact Or.inr ⟨q, by rw [hoU q hqr]; exact h1⟩
    rcases h.old_cov g h0 hlt with ⟨q, hq⟩ | ⟨q, hq⟩
    · exact key q (Or.inl hq)
    · exact key q (Or.inr hq)
  · intro g p q hlt hu hl
    rw [hold] at hlt
    by_cases hp : p = r
    · subst hp
      by_cases hq : q = p
      · subst hq; exact disj g hl hu
      · rw [hoL q hq] at hl
        exact (exclU g hlt hu q hq).1 hl
    · rw [hoU p hp] at hu
      by_cases hq : q = r
      · subst hq
        exact exclL g hlt hl p hp hu
      · rw [hoL q hq] at hl
        exact h.old_excl g p q hlt hu hl
  · intro g p q hlt hu hu'
    rw [hold] at hlt
    by_cases hp : p = r
    · by_cases hq : q = r
      · rw [hp, hq]
      · subst hp
        rw [hoU q hq] at hu'
        exact absurd hu' (exclU g hlt hu q hq).2
    · by_cases hq : q = r
      · subst hq
        rw [hoU p hp] at hu
        exact absurd hu (exclU g hlt hu' p hp).2
      · rw [hoU p hp] at hu
        rw [hoU q hq] at hu'
        exact h.old_uniq g p q hlt hu hu'

theorem mem_unusedArr (s : NodeIds) (g : Int) : g ∈ unusedArr s ↔ g ∈ s.unusedStk := by
  simp [unusedArr]

theorem liveOf_abs (old : Int) (w : World NodeIds) (q : Nat) :
    (absWorld old w).liveOf q = ((w[q]?).map (·.keys)).getD [] := by
  simp [IdWorld.liveOf, absWorld, List.getD_eq_getElem?_getD, List.getElem?_map]

theorem unusedOf_abs (old : Int) (w : World NodeIds) (q : Nat) :
    (absWorld old w).unusedOf q = ((w[q]?).map unusedArr).getD [] := by
  simp [IdWorld.unusedOf, absWorld, List.getD_eq_getElem?_getD, List.getElem?_map]

theorem kOf_abs (old : Int) (w : World NodeIds) (q : Nat) :
    (absWorld old w).kOf q = ((w[q]?).map fun s => (newNodes s).toNat).getD 0 := by
  simp [IdWorld.kOf, absWorld, List.getD_eq_getElem?_getD, List.getElem?_map]

theorem liveOf_abs_some {old : Int} {w : World NodeIds} {q : Nat} {s : NodeIds} (h : w[q]? = some s) :
    (absWorld old w).liveOf q = s.keys := by
  rw [liveOf_abs, h]; rfl

theorem unusedOf_abs_some {old : Int} {w : World NodeIds} {q : Nat} {s : NodeIds} (h : w[q]? = some s) :
    (absWorld old w).unusedOf q = unusedArr s := by
  rw [unusedOf_abs, h]; rfl

theorem kOf_abs_some {old : Int} {w : World NodeIds} {q : Nat} {s : NodeIds} (h : w[q]? = some s) :
    (absWorld old w).kOf q = (newNodes s).toNat := by
  rw [kOf_abs, h]; rfl

/-- what `IdInvL (absWorld old w)` says about one rank, in terms of the fields of its `NodeIds` -/
structure RankIds (old : Int) (s : NodeIds) : Prop where
  nodupU : s.unusedStk.Nodup
  disj : ∀ g, g ∈ s.keys → g ∉ s.unusedStk
  rangeL : ∀ g, g ∈ s.keys → 0 ≤ g ∧ g < s.newN
  rangeU : ∀ g, g ∈ s.unusedStk → 0 ≤ g ∧ g < s.newN
  fresh : ∀ g, old ≤ g → g < s.newN → g ∈ s.keys ∨ g ∈ s.unusedStk

theorem rank_facts {old : Int} {w : World NodeIds} (hI : IdInvL (absWorld old w)) {r : Nat} {s : NodeIds}
    (hr : w[r]? = some s) (ho : s.oldN = old) (hn : old ≤ s.newN) : RankIds old s := by
  have hk : (absWorld old w).old + (((absWorld old w).kOf r : Nat) : Int) = s.newN := by
    rw [kOf_abs_some hr]
    show old + _ = _
    unfold newNodes
    omega
  have h1 := hI.unused_nodup r
  have h2 := hI.disj r
  have h3 := hI.live_range r
  have h4 := hI.unused_range r
  have h5 := hI.fresh_cov r
  simp only [hk, unusedOf_abs_some hr, liveOf_abs_some hr, mem_unusedArr] at h1 h2 h3 h4 h5
  exact ⟨List.nodup_reverse.1 h1, h2, h3, h4, h5⟩

theorem slots_nodup {s : NodeIds} (h : NodeInv s) : (s.sorted.map (·.2)).Nodup := by
  have hk : (s.sorted.map (·.1)).Nodup := keys_nodup h
  have hs : s.sorted.Nodup := List.Nodup.of_map _ hk
  apply hs.map_on
  intro p hp p' hp' he
  obtain ⟨h1, _⟩ := h.srt.sound p hp
  obtain ⟨h1', _⟩ := h.srt.sound p' hp'
  refine Prod.ext ?_ he
  rw [← h1, ← h1', he]

/-- the invariant carried along a history, for a given `old_n_global` -/
def WorldInvAt (old : Int) (w : World NodeIds) : Prop :=
  (∀ s ∈ w, s.oldN = old ∧ old ≤ s.newN ∧ NodeInv s) ∧ IdInvL (absWorld old w)

/-- **the invariant carried along a history**: every rank has the same `old_n_global = old ≤ new_n_global` and
    satisfies the `ref_node` structure invariant `NodeInv`; the abstraction of the world (fresh-id counts, live
    ids = `sorted_global`, unused ids) satisfies the local id invariant `IdInvL`. -/
def WorldInv (w : World NodeIds) : Prop := ∃ old, WorldInvAt old w

theorem sharedUnused_nowhere_else {old : Int} {w : World NodeIds} (hI : IdInvL (absWorld old w)) {r : Nat} {s : NodeIds}
    (hr : w[r]? = some s) (x : Int) (hlt : x < old) (hx : x ∈ s.unusedStk) (q : Nat) (hq : q ≠ r) :
    x ∉ (absWorld old w).liveOf q ∧ x ∉ (absWorld old w).unusedOf q := by
  have hxu : x ∈ (absWorld old w).unusedOf r := by
    rw [unusedOf_abs_some hr, mem_unusedArr]; exact hx
  exact ⟨hI.old_excl x r q hlt hxu, fun hx' => hq (hI.old_uniq x r q hlt hxu hx').symm⟩

theorem sharedLive_nowhere_unused {old : Int} {w : World NodeIds} (hI : IdInvL (absWorld old w)) {r : Nat} {s : NodeIds}
    (hr : w[r]? = some s) (x : Int) (hlt : x < old) (hx : x ∈ s.keys) (q : Nat) :
    x ∉ (absWorld old w).unusedOf q := by
  have hxl : x ∈ (absWorld old w).liveOf r := by rw [liveOf_abs_some hr]; exact hx
  exact fun hx' => hI.old_excl x q r hlt hx' hxl

/-- Rank `r` of `w` is replaced by `s'`.  With "held" for the live and unused ids of the rank: nothing is held
    afterwards that was not held or handed out fresh in between (`hin`); what was held or handed out is still held,
    unless it is a shared id that is live on another rank (`hout`); a shared id that newly enters the unused list is
    live on no other rank (`hnewU`). -/
theorem rank_step {old : Int} {w : World NodeIds} (h : WorldInvAt old w) {r : Nat} {s : NodeIds}
    (hr : w[r]? = some s) (s' : NodeIds) (hN : NodeInv s') (ho' : s'.oldN = old) (hn' : s.newN ≤ s'.newN)
    (nodupU : s'.unusedStk.Nodup) (disj : ∀ g, g ∈ s'.keys → g ∉ s'.unusedStk)
    (hin : ∀ g, g ∈ s'.keys ∨ g ∈ s'.unusedStk →
      g ∈ s.keys ∨ g ∈ s.unusedStk ∨ (s.newN ≤ g ∧ g < s'.newN))
    (hout : ∀ g, g ∈ s.keys ∨ g ∈ s.unusedStk ∨ (s.newN ≤ g ∧ g < s'.newN) →
      g ∈ s'.keys ∨ g ∈ s'.unusedStk ∨ (g < old ∧ ∃ q, q ≠ r ∧ g ∈ (absWorld old w).liveOf q))
    (hnewU : ∀ g, g < old → g ∈ s'.unusedStk → g ∉ s.unusedStk →
      ∀ q, q ≠ r → g ∉ (absWorld old w).liveOf q) :
    WorldInvAt old (w.set r s') := by
  obtain ⟨ho, hn, _⟩ := h.1 s (List.mem_of_getElem? hr)
  have hI := h.2
  have hold0 : 0 ≤ old := hI.old_nonneg
  obtain ⟨_, _, hRL, hRU, hF⟩ := rank_facts hI hr ho hn
  have hself := List.getElem?_set_self (l := w) (a := s') (List.getElem?_eq_some_iff.1 hr).1
  have hk : (absWorld old w).old + ((((absWorld old (w.set r s')).kOf r : Nat)) : Int) = s'.newN := by
    rw [kOf_abs_some hself]
    show old + _ = _
    unfold newNodes
    omega
  have hrange : ∀ g, g ∈ s'.keys ∨ g ∈ s'.unusedStk → 0 ≤ g ∧ g < s'.newN := by
    intro g hg
    rcases hin g hg with hg | hg | hg
    · exact ⟨(hRL g hg).1, lt_of_lt_of_le (hRL g hg).2 hn'⟩
    · exact ⟨(hRU g hg).1, lt_of_lt_of_le (hRU g hg).2 hn'⟩
    · exact ⟨le_trans (le_trans hold0 hn) hg.1, hg.2⟩
  constructor
  · intro t ht
    rcases List.mem_or_eq_of_mem_set ht with ht | rfl
    · exact h.1 t ht
    · exact ⟨ho', le_trans hn hn', hN⟩
  apply IdInvL.update (A' := absWorld old (w.set r s')) hI r rfl (by simp [absWorld]) (by simp [absWorld])
  · intro q hq; rw [liveOf_abs, liveOf_abs, List.getElem?_set_ne (Ne.symm hq)]
  · intro q hq; rw [unusedOf_abs, unusedOf_abs, List.getElem?_set_ne (Ne.symm hq)]
  · intro q hq; rw [kOf_abs, kOf_abs, List.getElem?_set_ne (Ne.symm hq)]
  · rw [liveOf_abs_some hself]; exact keys_nodup hN
  · rw [unusedOf_abs_some hself]; exact List.nodup_reverse.2 nodupU
  · rw [liveOf_abs_some hself, unusedOf_abs_some hself]
    intro g hg; rw [mem_unusedArr]; exact disj g hg
  · rw [liveOf_abs_some hself, hk]; exact fun g hg => hrange g (Or.inl hg)
  · rw [unusedOf_abs_some hself, hk]
    exact fun g hg => hrange g (Or.inr ((mem_unusedArr _ _).1 hg))
  · rw [liveOf_abs_some hself, unusedOf_abs_some hself, hk]
    intro g h1 h2
    rw [mem_unusedArr]
    have : g ∈ s.keys ∨ g ∈ s.unusedStk ∨ (s.newN ≤ g ∧ g < s'.newN) := by
      by_cases hg : g < s.newN
      · exact (hF g h1 hg).imp_right Or.inl
      · exact Or.inr (Or.inr ⟨not_lt.1 hg, h2⟩)
    rcases hout g this with hg | hg | hg
    · exact Or.inl hg
    · exact Or.inr hg
    · exact absurd hg.1 (not_lt.2 h1)
  · rw [liveOf_abs_some hself, unusedOf_abs_some hself, liveOf_abs_some hr, unusedOf_abs_some hr]
    intro g _ _ hg
    rw [mem_unusedArr] at hg ⊢
    rcases hout g (hg.imp_right Or.inl) with hg | hg | hg
    · exact Or.inl hg
    · exact Or.inr (Or.inl hg)
    · exact Or.inr (Or.inr hg.2)
  · rw [unusedOf_abs_some hself]
    intro g hlt hg q hq
    rw [mem_unusedArr] at hg
    by_cases hgu : g ∈ s.unusedStk
    · exact sharedUnused_nowhere_else hI hr g hlt hgu q hq
    · refine ⟨hnewU g hlt hg hgu q hq, ?_⟩
      rcases hin g (Or.inr hg) with hg | hg | hg
      · exact sharedLive_nowhere_unused hI hr g hlt hg q
      · exact absurd hg hgu
      · exact absurd (lt_of_lt_of_le hlt hn) (not_lt.2 hg.1)
  · rw [liveOf_abs_some hself]
    intro g hlt hg q hq
    rcases hin g (Or.inl hg) with hg | hg | hg
    · exact sharedLive_nowhere_unused hI hr g hlt hg q
    · exact (sharedUnused_nowhere_else hI hr g hlt hg q hq).2
    · exact absurd (lt_of_lt_of_le hlt hn) (not_lt.2 hg.1)

/-- What every local operation does: it moves ONE id `g` of one rank between live, unused and neither
    (`next_global` + `add`: unused → live, or `g = new_n_global` handed out fresh; `remove`: live → unused;
    `remove_without_global`: live → neither).  So the lists agree off `g`, at most `g` is handed out fresh, and the
    inclusions of `rank_step` are asked at `g` only. -/
theorem rank_move {old : Int} {w : World NodeIds} (h : WorldInvAt old w) {r : Nat} {s : NodeIds}
    (hr : w[r]? = some s) (s' : NodeIds) (hN : NodeInv s') (ho' : s'.oldN = old) (hn' : s.newN ≤ s'.newN)
    (nodupU : s'.unusedStk.Nodup) (g : Int)
    (hk : ∀ x, x ≠ g → (x ∈ s'.keys ↔ x ∈ s.keys)) (hu : ∀ x, x ≠ g → (x ∈ s'.unusedStk ↔ x ∈ s.unusedStk))
    (hfr : ∀ x, s.newN ≤ x → x < s'.newN → x = g)
    (hdisj : g ∈ s'.keys → g ∉ s'.unusedStk)
    (hin : g ∈ s'.keys ∨ g ∈ s'.unusedStk → g ∈ s.keys ∨ g ∈ s.unusedStk ∨ (s.newN ≤ g ∧ g < s'.newN))
    (hout : g ∈ s.keys ∨ g ∈ s.unusedStk ∨ (s.newN ≤ g ∧ g < s'.newN) →
      g ∈ s'.keys ∨ g ∈ s'.unusedStk ∨ (g < old ∧ ∃ q, q ≠ r ∧ g ∈ (absWorld old w).liveOf q))
    (hnewU : g < old → g ∈ s'.unusedStk → g ∉ s.unusedStk → ∀ q, q ≠ r → g ∉ (absWorld old w).liveOf q) :
    WorldInvAt old (w.set r s') := by
  obtain ⟨ho, hn, _⟩ := h.1 s (List.mem_of_getElem? hr)
  have hD := (rank_facts h.2 hr ho hn).disj
  apply rank_step h hr s' hN ho' hn' nodupU
  · intro x hx hxu
    by_cases hxg : x = g
    · subst hxg; exact hdisj hx hxu
    · exact hD x ((hk x hxg).1 hx) ((hu x hxg).1 hxu)
  · intro x hx
    by_cases hxg : x = g
    · subst hxg; exact hin hx
    · rw [hk x hxg, hu x hxg] at hx
      exact hx.imp_right Or.inl
  · intro x hx
    by_cases hxg : x = g
    · subst hxg; exact hout hx
    · rw [hk x hxg, hu x hxg]
      rcases hx with hx | hx | hx
      · exact Or.inl hx
      · exact Or.inr (Or.inl hx)
      · exact absurd (hfr x hx.1 hx.2) hxg
  · intro x hlt hx hnx
    by_cases hxg : x = g
    · subst hxg; exact hnewU hlt hx hnx
    · exact absurd ((hu x hxg).1 hx) hnx

/-- `ref_node_next_global` then `ref_node_add` of the returned id on rank `r`: both calls succeed, the invariant is
    preserved, the returned slot is valid and holds the returned id, and if that id is a shared one nobody else
    has it live (it came from this rank's unused list). -/
theorem addFresh_core {old : Int} {w : World NodeIds} (h : WorldInvAt old w) {r : Nat} {s : NodeIds}
    (hr : w[r]? = some s) :
    ∃ g s1, s.nextGlobal = (.ok, g, s1) ∧ (s1.add g).1 = .ok ∧
      WorldInvAt old (w.set r (s1.add g).2.2) ∧
      (s1.add g).2.2.validSlot ((s1.add g).2.1 : Int) = true ∧
      (s1.add g).2.2.global.getD (s1.add g).2.1 (-1) = g ∧
      (g < old → ∀ q, q ≠ r → g ∉ (absWorld old w).liveOf q) := by
  obtain ⟨ho, hn, hN⟩ := h.1 s (List.mem_of_getElem? hr)
  have hI := h.2
  have hold0 : 0 ≤ old := hI.old_nonneg
  obtain ⟨hU, hD, hRL, hRU, hF⟩ := rank_facts hI hr ho hn
  cases hu : s.unusedStk with
  | cons g rest =>
    rw [hu] at hU hD hRU
    have h1 : NodeInv { s with unusedStk := rest } := hN.congr rfl rfl rfl rfl
    have hg0 : 0 ≤ g := (hRU g (by simp)).1
    have hK := add_keys h1 hg0
    obtain ⟨fU, fN, fO⟩ := add_fields { s with unusedStk := rest } g
    have hN' := (add_NodeInv h1 hg0)
    have hgu : g ∈ s.unusedStk := by rw [hu]; simp
    refine ⟨g, _, nextGlobal_cons hu, hN'.1, ?_, add_valid h1 hg0, (add_holds h1 hg0).2, ?_⟩
    · apply rank_move h hr _ hN'.2 (fO.trans ho) (le_of_eq fN.symm) (fU ▸ (List.nodup_cons.1 hU).2) g
      case hk =>
        intro x hx
        rw [hK]
        exact or_iff_right hx
      case hu =>
        intro x hx
        rw [fU, hu, List.mem_cons]
        exact (or_iff_right hx).symm
      case hfr =>
        intro x h1 h2
        rw [fN] at h2
        exact absurd h2 (not_lt.2 h1)
      case hdisj =>
        intro _
        rw [fU]
        exact (List.nodup_cons.1 hU).1
      case hin => exact fun _ => Or.inr (Or.inl hgu)
      case hout => exact fun _ => Or.inl ((hK g).2 (Or.inl rfl))
      case hnewU =>
        intro _ hg
        rw [fU] at hg
        exact absurd hg (List.nodup_cons.1 hU).1
    · intro hlt q hq
      exact (sharedUnused_nowhere_else hI hr g hlt hgu q hq).1
  | nil =>
    have hne : s.newN ≠ -1 := by omega
    have h1 : NodeInv { s with newN := s.newN + 1 } := hN.congr rfl rfl rfl rfl
    have hg0 : 0 ≤ s.newN := by omega
    have hK := add_keys h1 hg0
    obtain ⟨fU, fN, fO⟩ := add_fields { s with newN := s.newN + 1 } s.newN
    have hN' := (add_NodeInv h1 hg0)
    replace fU := fU.trans hu
    replace fN : _ = s.newN + 1 := fN
    refine ⟨s.newN, _, nextGlobal_nil' hu hne, hN'.1, ?_, add_valid h1 hg0, (add_holds h1 hg0).2, ?_⟩
    · apply rank_move h hr _ hN'.2 (fO.trans ho) (by rw [fN]; omega) (fU ▸ List.nodup_nil) s.newN
      case hk =>
        intro x hx
        rw [hK]
        exact or_iff_right hx
      case hu =>
        intro x _
        rw [fU, hu]
      case hfr =>
        intro x h1 h2
        rw [fN] at h2
        omega
      case hdisj =>
        intro _
        rw [fU]
        exact List.not_mem_nil
      case hin => exact fun _ => Or.inr (Or.inr ⟨le_refl _, by rw [fN]; omega⟩)
      case hout => exact fun _ => Or.inl ((hK _).2 (Or.inl rfl))
      case hnewU =>
        intro _ hg
        rw [fU] at hg
        exact absurd hg List.not_mem_nil
    · intro hlt; omega

/-- `ref_node_remove(node)` on rank `r`, under the ownership guard: the slot is valid and, if its id is a shared
    id, no other rank has it live -/
theorem remove_core {old : Int} {w : World NodeIds} (h : WorldInvAt old w) {r : Nat} {s : NodeIds}
    (hr : w[r]? = some s) {node : Int} (hv : s.validSlot node = true)
    (hguard : s.global.getD node.toNat (-1) < old → ∀ q, q ≠ r →
      s.global.getD node.toNat (-1) ∉ (absWorld old w).liveOf q) :
    WorldInvAt old (w.set r (s.remove node).2) := by
  obtain ⟨ho, hn, hN⟩ := h.1 s (List.mem_of_getElem? hr)
  obtain ⟨hU, hD, _, _, _⟩ := rank_facts h.2 hr ho hn
  obtain ⟨_, _, _, fU, fN, fO⟩ := remove_fields hN hv
  have hK := remove_keys hN hv
  have hgk := slot_mem_keys hN hv
  generalize s.global.getD node.toNat (-1) = g at *
  apply rank_move h hr _ (remove_NodeInv hN hv).2 (fO.trans ho) (le_of_eq fN.symm)
    (fU ▸ List.nodup_cons.2 ⟨hD g hgk, hU⟩) g
  case hk =>
    intro x hx
    rw [hK]
    exact and_iff_right hx
  case hu =>
    intro x hx
    rw [fU, List.mem_cons]
    exact or_iff_right hx
  case hfr =>
    intro x h1 h2
    rw [fN] at h2
    exact absurd h2 (not_lt.2 h1)
  case hdisj => exact fun hg => absurd rfl ((hK g).1 hg).1
  case hin => exact fun _ => Or.inl hgk
  case hout => exact fun _ => Or.inr (Or.inl (fU ▸ List.mem_cons_self))
  case hnewU => exact fun hlt _ _ => hguard hlt

/-- `ref_node_remove_without_global(node)` on rank `r`, under the ghost guard: the slot is valid, its id is a
    shared id and some other rank has it live -/
theorem removeWithoutGlobal_core {old : Int} {w : World NodeIds} (h : WorldInvAt old w) {r : Nat} {s : NodeIds}
    (hr : w[r]? = some s) {node : Int} (hv : s.validSlot node = true)
    (hlt : s.global.getD node.toNat (-1) < old)
    (hex : ∃ q, q ≠ r ∧ s.global.getD node.toNat (-1) ∈ (absWorld old w).liveOf q) :
    WorldInvAt old (w.set r (s.removeWithoutGlobal node).2) := by
  obtain ⟨ho, hn, hN⟩ := h.1 s (List.mem_of_getElem? hr)
  obtain ⟨hU, hD, _, _, _⟩ := rank_facts h.2 hr ho hn
  obtain ⟨_, fU, fN, fO⟩ := rwg_fields hN hv
  have hK := rwg_keys hN hv
  have hgk := slot_mem_keys hN hv
  generalize s.global.getD node.toNat (-1) = g at *
  apply rank_move h hr _ (removeWithoutGlobal_NodeInv hN hv).2 (fO.trans ho) (le_of_eq fN.symm) (fU ▸ hU) g
  case hk =>
    intro x hx
    rw [hK]
    exact and_iff_right hx
  case hu =>
    intro x _
    rw [fU]
  case hfr =>
    intro x h1 h2
    rw [fN] at h2
    exact absurd h2 (not_lt.2 h1)
  case hdisj => exact fun hg => absurd rfl ((hK g).1 hg).1
  case hin => exact fun _ => Or.inl hgk
  case hout => exact fun _ => Or.inr (Or.inr ⟨hlt, hex⟩)
  case hnewU =>
    intro _ hg
    rw [fU] at hg
    exact absurd hg (hD g hgk)

theorem liveElsewhere_iff (old : Int) (w : World NodeIds) (r : Nat) (g : Int) :
    liveElsewhere w r g = true ↔ ∃ q, q ≠ r ∧ g ∈ (absWorld old w).liveOf q := by
  unfold liveElsewhere
  simp only [List.any_eq_true, List.mem_range, Bool.and_eq_true, decide_eq_true_eq, liveOf_abs]
  -- rank by rank; a rank that holds something is in range
  refine exists_congr fun q => ?_
  cases hw : w[q]? with
  | none => simp
  | some t => simp [(List.getElem?_eq_some_iff.1 hw).1]

theorem op_step {old : Int} {w : World NodeIds} (h : WorldInvAt old w) (r : Nat) (o : LocalOp)
    (hen : enabled w (.op r o) = true) : WorldInvAt old (stepWorld w (.op r o)) := by
  unfold enabled at hen
  cases hr : w[r]? with
  | none => simp [hr] at hen
  | some s =>
    simp only [hr] at hen
    simp only [stepWorld, hr]
    obtain ⟨ho, hn, hN⟩ := h.1 s (List.mem_of_getElem? hr)
    cases o with
    | addFresh =>
      obtain ⟨g, s1, e1, _, h3, _⟩ := addFresh_core h hr
      simp only [stepRank, e1, ne_eq, not_true_eq_false, if_false]
      exact h3
    | remove node =>
      simp only [Bool.and_eq_true, Bool.or_eq_true, decide_eq_true_eq, Bool.not_eq_true'] at hen
      obtain ⟨hv, hg⟩ := hen
      rw [globalOf_valid hv, ho] at hg
      apply remove_core h hr hv
      intro hlt q hq hm
      rcases hg with hg | hg
      · omega
      · have := (liveElsewhere_iff old w r _).2 ⟨q, hq, hm⟩
        rw [this] at hg
        cases hg
    | removeWithoutGlobal node =>
      simp only [Bool.and_eq_true, decide_eq_true_eq] at hen
      obtain ⟨⟨hv, hlt⟩, hle⟩ := hen
      rw [globalOf_valid hv] at hlt hle
      rw [ho] at hlt
      exact removeWithoutGlobal_core h hr hv hlt ((liveElsewhere_iff old w r _).1 hle)
    | trial =>
      obtain ⟨g, s1, e1, h2, h3, h4, h5, h6⟩ := addFresh_core h hr
      simp only [stepRank, e1, h2, ne_eq, not_true_eq_false, if_false]
      have hrl : r < w.length := (List.getElem?_eq_some_iff.1 hr).1
      have hr2 := List.getElem?_set_self (l := w) (a := (s1.add g).2.2) hrl
      have := remove_core h3 hr2 h4 (by
        rw [Int.toNat_natCast, h5]
        intro hlt q hq
        rw [liveOf_abs, List.getElem?_set_ne (Ne.symm hq), ← liveOf_abs]
        exact h6 hlt q hq)
      rw [List.set_set] at this
      exact this

theorem worldInvAt_syncInv {old : Int} {w : World NodeIds} (h : WorldInvAt old w) : SyncInv old w :=
  ⟨fun s hs => (h.1 s hs).1, fun s hs => by have := h.1 s hs; omega,
   fun s hs => (h.1 s hs).2.2.srt.sorted.imp fun hab => Int.le_of_lt hab, h.2.toIdInv⟩

theorem finalRank_keys (A : IdWorld) (r : Nat) (s : NodeIds) :
    (finalRank A r s).keys = s.keys.map (A.newId r) := by
  show (s.sorted.map _).map _ = (s.sorted.map _).map _
  rw [List.map_map, List.map_map]
  rfl

/-- the closed-form post-state of one rank satisfies the `ref_node` structure invariant again: `newId` is strictly
    monotone and non-negative on the rank's live ids, the write-back leaves the free slots alone and puts
    `global[sorted_local[i]] = sorted_global[i]` -/
theorem finalRank_NodeInv (A : IdWorld) (r : Nat) (s : NodeIds) (hN : NodeInv s)
    (hmono : ∀ g g', g ∈ s.keys → g' ∈ s.keys → g < g' → A.newId r g < A.newId r g')
    (hnn : ∀ g, g ∈ s.keys → 0 ≤ A.newId r g) : NodeInv (finalRank A r s) := by
  have hnd : ((s.sorted.map fun (e : Int × Nat) => (A.newId r e.1, e.2)).map (·.2)).Nodup := by
    rw [List.map_map]; exact slots_nodup hN
  refine NodeInv.relabel (A.newId r) s _ hN hmono hnn rfl rfl rfl
    (by show (writeBack _ _).length = _; rw [writeBack_length, List.length_map]) (fun v hv => ?_) (fun v hv => ?_)
  · show (writeBack _ _).getD v (-1) = _
    rw [writeBack_getD_not_mem]
    · exact map_getD_neg _ _ v (fun x hx => if_neg fun h => absurd h.1 (not_le.2 hx)) hv
    · rw [List.map_map]
      intro hm
      obtain ⟨p, hp, rfl⟩ := List.mem_map.1 hm
      have := hN.srt.sound p hp
      simp only [Function.comp] at hv
      omega
  · show (writeBack _ _).getD v (-1) = _
    apply writeBack_getD _ _ _ hnd
    · exact List.mem_map.2 ⟨_, hN.srt.complete v hv, rfl⟩
    · rw [List.length_map]; exact lt_length_of_getD_nonneg hv

theorem worldInvAt_of_synced {N : Int} {w : World NodeIds} (h0 : 0 ≤ N)
    (hs : ∀ s ∈ w, s.oldN = N ∧ s.newN = N ∧ s.unusedStk = [] ∧ NodeInv s ∧ ∀ g ∈ s.keys, 0 ≤ g ∧ g < N)
    (hc : ∀ g, 0 ≤ g → g < N → ∃ s ∈ w, g ∈ s.keys) : WorldInvAt N w := by
  have hinv : ∀ s ∈ w, NodeInv s := fun s h => have ⟨_, _, _, hN, _⟩ := hs s h; hN
  have hrange : ∀ s ∈ w, ∀ g ∈ s.keys, 0 ≤ g ∧ g < N := fun s h => have ⟨_, _, _, _, hR⟩ := hs s h; hR
  refine ⟨fun s h => have ⟨e1, e2, _⟩ := hs s h; ⟨e1, e2 ▸ le_refl N, hinv s h⟩, ?_⟩
  -- every clause is about one rank: a rank out of range holds nothing
  have rank : ∀ (P : List Int → List Int → Nat → Prop), P [] [] 0 → (∀ s ∈ w, P s.keys [] 0) →
      ∀ r, P ((absWorld N w).liveOf r) ((absWorld N w).unusedOf r) ((absWorld N w).kOf r) := by
    intro P h1 h2 r
    rw [liveOf_abs, unusedOf_abs, kOf_abs]
    cases hr : w[r]? with
    | none => exact h1
    | some s =>
      obtain ⟨e1, e2, e3, _⟩ := hs s (List.mem_of_getElem? hr)
      have := h2 s (List.mem_of_getElem? hr)
      simpa [unusedArr, newNodes, e1, e2, e3] using this
  refine IdInvL.of_synced h0 (by simp [absWorld]) (by simp [absWorld])
    (rank (fun _ U _ => U = []) rfl fun _ _ => rfl) (rank (fun _ _ k => k = 0) rfl fun _ _ => rfl)
    (rank (fun L _ _ => L.Nodup) List.nodup_nil fun s h => keys_nodup (hinv s h))
    (rank (fun L _ _ => ∀ g, g ∈ L → 0 ≤ g ∧ g < N) (fun g hg => absurd hg List.not_mem_nil) hrange)
    fun g hg0 hgN => ?_
  obtain ⟨s, hsw, hg⟩ := hc g hg0 hgN
  obtain ⟨r, hr⟩ := List.getElem?_of_mem hsw
  exact ⟨r, by rw [liveOf_abs_some hr]; exact hg⟩

theorem sync_post {old : Int} {w : World NodeIds} (h : WorldInvAt old w) :
    0 ≤ (absWorld old w).N ∧
    (∀ s' ∈ syncGlobals w, s'.oldN = (absWorld old w).N ∧ s'.newN = (absWorld old w).N ∧ s'.unusedStk = [] ∧
      NodeInv s' ∧ ∀ g ∈ s'.keys, 0 ≤ g ∧ g < (absWorld old w).N) ∧
    (∀ g, 0 ≤ g → g < (absWorld old w).N → ∃ s' ∈ syncGlobals w, g ∈ s'.keys) := by
  have hS := worldInvAt_syncInv h
  refine ⟨N_nonneg hS.inv, fun s' hs' => ?_, fun g h0 hlt => ?_⟩
  · obtain ⟨i, s, hi, rfl⟩ := (mem_syncGlobals hS).1 hs'
    have hl := liveOf_abs_some (old := old) hi
    refine ⟨rfl, rfl, rfl, finalRank_NodeInv _ _ _ (h.1 s (List.mem_of_getElem? hi)).2.2 ?_ ?_, ?_⟩
    · exact fun g g' hg _ hlt => newId_strictMono _ hS.inv i g g' (hl ▸ hg) hlt
    · exact fun g hg => (newId_range _ hS.inv i g (hl ▸ hg)).1
    · intro g hg
      rw [finalRank_keys] at hg
      obtain ⟨g0, hg0, rfl⟩ := List.mem_map.1 hg
      exact newId_range _ hS.inv i g0 (hl ▸ hg0)
  · obtain ⟨r, g0, hg0, rfl⟩ := newId_onto _ hS.inv g h0 hlt
    cases hw : w[r]? with
    | none => rw [liveOf_abs, hw] at hg0; exact absurd hg0 List.not_mem_nil
    | some s =>
      rw [liveOf_abs_some hw] at hg0
      exact ⟨_, (mem_syncGlobals hS).2 ⟨r, s, hw, rfl⟩, by rw [finalRank_keys]; exact List.mem_map_of_mem hg0⟩

theorem sync_core {old : Int} {w : World NodeIds} (h : WorldInvAt old w) :
    WorldInvAt (absWorld old w).N (syncGlobals w) :=
  have ⟨hN, hranks, hcover⟩ := sync_post h
  worldInvAt_of_synced hN hranks hcover

theorem run_append (a b : List Event) (w : World NodeIds) : run (a ++ b) w = run b (run a w) := by
  simp [run, List.foldl_append]

theorem sync_slot {old : Int} {w : World NodeIds} (h : WorldInvAt old w) {r : Nat} {s s' : NodeIds}
    (hr : w[r]? = some s) (hs' : (syncGlobals w)[r]? = some s') {g : Int} {l : Nat} (hm : (g, l) ∈ s.sorted) :
    s'.global.getD l (-1) = (absWorld old w).newId r g := by
  have hN := (h.1 s (List.mem_of_getElem? hr)).2.2
  exact (syncGlobals_table (worldInvAt_syncInv h) hr hs' (slots_nodup hN) hm (hN.srt.mem_iff.1 hm).lt_length).1

end Refine.Lemmas.DistIds
