import Refine.Model.Geom

/-!
  L8 Search: `ref_search.c` (sphere tree), `ref_node_bounding_sphere_xyz` (ref_node.c) and the
  tree construction loop of `ref_phys_wall_distance` (ref_phys.c), generic over `Scalar`.

  The C stores the tree in arrays indexed by insertion slot (`item[] pos[] radius[] left[] right[]
  children_ball[]`); slot 0 is the root and a slot's `item/pos/radius` never change after the insert.
  The model keeps the same information as an inductive `STree` whose nodes remember their slot
  (`Entry.loc`); `STree.rows` lists the array rows, so a dump of the C arrays can be compared
  after every insert (driver `search`, op `dump`).  Operation order of every `REF_DBL` expression is
  copied from the C so that the `Float` instance is bit-identical.
-/
namespace Refine.Model.Search
open Refine Refine.Model.Geom

variable {α : Type} [Scalar α]

/-! ## small vector helpers (`ref_math.h` macros) -/

-- `ref_math_dot` and `ref_math_cross_product` are `Refine.Model.Geom.dot` / `cross` (same operation order)

/-- componentwise `a[i] - b[i]` -/
@[inline] def vsub (a b : V3 α) : V3 α := ⟨a.x -. b.x, a.y -. b.y, a.z -. b.z⟩


/-- the loop `d = 0.0; for i: d += pow(b[i] - a[i], 2); d = sqrt(d)` used by `ref_search_distance`
    (`a` = first slot, `b` = second slot) and, with `a` = node centre and `b` = query position, by
    `ref_search_gather*` / `ref_search_trim`.  gcc folds `pow(x,2)` to `x*x`. -/
def dist0 (a b : V3 α) : α :=
  let dx := b.x -. a.x
  let dy := b.y -. a.y
  let dz := b.z -. a.z
  Scalar.sqrt (((Scalar.zero +. dx *. dx) +. dy *. dy) +. dz *. dz)

/-! ## distance kernels -/

/-- `ref_search_distance2`: point–segment distance -/
def dist2seg (p0 p1 x : V3 α) : α :=
  let dl := vsub p1 p0
  let dx := vsub x p0
  let len2 := dot dl dl
  let proj2 := dot dx dl
  if Scalar.divisible proj2 len2 then
    let t := proj2 /. len2
    let t := Scalar.cmax t Scalar.zero
    let t := Scalar.cmin t Scalar.one
    let d : V3 α := ⟨x.x -. (p0.x +. t *. dl.x), x.y -. (p0.y +. t *. dl.y), x.z -. (p0.z +. t *. dl.z)⟩
    Scalar.sqrt (dot d d)
  else
    Scalar.sqrt (dot dx dx)

/-- `ref_search_xyz_normal` : `(xyz1-xyz0) × (xyz2-xyz0)` -/
@[inline] def xyzNormal (p0 p1 p2 : V3 α) : V3 α := cross (vsub p1 p0) (vsub p2 p0)

/-- the in-plane foot `xyzp` as `ref_search_distance3` computed it until /repo cb0f67a (projection along the
    *un-normalised* normal: `xyzp = x - N (N·(x-p0))`, which is the orthogonal projection only when `|N| = 1`) -/
def tri3Foot (p0 p1 p2 x : V3 α) : V3 α :=
  let n := xyzNormal p0 p1 p2
  let q := vsub x p0
  let total := dot q n
  let q : V3 α := ⟨q.x -. n.x *. total, q.y -. n.y *. total, q.z -. n.z *. total⟩
  ⟨q.x +. p0.x, q.y +. p0.y, q.z +. p0.z⟩

/-- the foot since /repo cb0f67a: after `total = dot(xyzp, N)` comes
    `if (ref_math_divisible(total, dot(N,N))) total /= dot(N,N);` so that `xyzp` is the orthogonal projection -/
def tri3FootFixed (p0 p1 p2 x : V3 α) : V3 α :=
  let n := xyzNormal p0 p1 p2
  let q := vsub x p0
  let total := dot q n
  let total := if Scalar.divisible total (dot n n) then total /. dot n n else total
  let q : V3 α := ⟨q.x -. n.x *. total, q.y -. n.y *. total, q.z -. n.z *. total⟩
  ⟨q.x +. p0.x, q.y +. p0.y, q.z +. p0.z⟩

/-- the three un-normalised barycentric numerators of `ref_search_distance3`, for a given in-plane foot `xp` -/
def tri3BaryAt (p0 p1 p2 xp : V3 α) : V3 α :=
  let n := xyzNormal p0 p1 p2
  ⟨dot (xyzNormal xp p1 p2) n, dot (xyzNormal p0 xp p2) n, dot (xyzNormal p0 p1 xp) n⟩

/-- the edge fall-back of `ref_search_distance3` -/
def tri3Edges (p0 p1 p2 x : V3 α) : α :=
  let d := dist2seg p0 p1 x
  let d := Scalar.cmin d (dist2seg p1 p2 x)
  Scalar.cmin d (dist2seg p2 p0 x)

/-- `ref_search_distance3` with the foot computation as a parameter -/
def dist2triWith (foot : V3 α → V3 α → V3 α → V3 α → V3 α) (p0 p1 p2 x : V3 α) : α :=
  let b := tri3BaryAt p0 p1 p2 (foot p0 p1 p2 x)
  let total := b.x +. b.y +. b.z
  if Scalar.divisible b.x total && Scalar.divisible b.y total && Scalar.divisible b.z total then
    let b0 := b.x /. total
    let b1 := b.y /. total
    let b2 := b.z /. total
    if Scalar.bge b0 Scalar.zero && Scalar.bge b1 Scalar.zero && Scalar.bge b2 Scalar.zero then
      let d : V3 α := ⟨b0 *. p0.x +. b1 *. p1.x +. b2 *. p2.x -. x.x,
                       b0 *. p0.y +. b1 *. p1.y +. b2 *. p2.y -. x.y,
                       b0 *. p0.z +. b1 *. p1.z +. b2 *. p2.z -. x.z⟩
      Scalar.sqrt (dot d d)
    else tri3Edges p0 p1 p2 x
  else tri3Edges p0 p1 p2 x

/-- the foot computation `ref_search_distance3` uses in /repo today: the repaired one.  (The one line that was flipped
    when the repair landed; the theorems of `Lemmas/SearchTri.lean` hold for either foot.) -/
@[inline] def tri3FootRepo (p0 p1 p2 x : V3 α) : V3 α := tri3FootFixed p0 p1 p2 x

/-- `ref_search_distance3`: point–triangle distance, as in /repo today -/
def dist2tri (p0 p1 p2 x : V3 α) : α := dist2triWith tri3FootRepo p0 p1 p2 x

/-- `ref_search_distance3` with the repaired foot, spelt out (the same function as `dist2tri` today) -/
def dist2triFixed (p0 p1 p2 x : V3 α) : α := dist2triWith tri3FootFixed p0 p1 p2 x

/-! ## bounding sphere (`ref_node_bounding_sphere_xyz`) -/

/-- centre: per component `c = 0; for j: c += xyz[i+3j]; c /= (REF_DBL)n` -/
def sphereCenter (pts : List (V3 α)) : V3 α :=
  let n : α := Scalar.ofInt (Int.ofNat pts.length)
  let s : V3 α := pts.foldl (fun c p => ⟨c.x +. p.x, c.y +. p.y, c.z +. p.z⟩) ⟨Scalar.zero, Scalar.zero, Scalar.zero⟩
  ⟨s.x /. n, s.y /. n, s.z /. n⟩

/-- one term of the radius loop: `sqrt(pow(x-c0,2)+pow(y-c1,2)+pow(z-c2,2))` -/
def sphereTerm (c p : V3 α) : α :=
  let dx := p.x -. c.x
  let dy := p.y -. c.y
  let dz := p.z -. c.z
  Scalar.sqrt (dx *. dx +. dy *. dy +. dz *. dz)

/-- radius about an arbitrary centre: `r = 0; for i: r = MAX(r, term_i)` -/
def sphereRadius (c : V3 α) (pts : List (V3 α)) : α :=
  pts.foldl (fun r p => Scalar.cmax r (sphereTerm c p)) Scalar.zero

/-- `ref_node_bounding_sphere_xyz(xyz, n, center, &radius)` -/
def boundingSphere (pts : List (V3 α)) : V3 α × α :=
  let c := sphereCenter pts
  (c, sphereRadius c pts)

/-! ## the tree -/

/-- what `ref_search_insert` writes into slot `loc` -/
structure Entry (α : Type) where
  loc : Nat
  item : Int
  pos : V3 α
  rad : α

inductive STree (α : Type) where
  | nil : STree α
  | node (e : Entry α) (ball : α) (l r : STree α) : STree α

namespace STree

@[inline] def leaf (c : Entry α) : STree α := .node c Scalar.zero .nil .nil

/-- `children_ball[parent] = MAX(children_ball[parent], child_distance + radius[child])` -/
@[inline] def ballUp (c e : Entry α) (ball : α) : α :=
  Scalar.cmax ball (dist0 c.pos e.pos +. c.rad)

/-- `ref_search_home(child, parent)`: update the parent's ball, take the first free child slot
    (left first), else descend to the nearer child (`<`: ties and NaN go right).
    `nil` is the empty tree: the first insert lands in slot 0 and `home(0,0)` returns at once. -/
def home (c : Entry α) : STree α → STree α
  | .nil => leaf c
  | .node e ball .nil r => .node e (ballUp c e ball) (leaf c) r
  | .node e ball (.node le lb ll lr) .nil => .node e (ballUp c e ball) (.node le lb ll lr) (leaf c)
  | .node e ball (.node le lb ll lr) (.node re rb rl rr) =>
    if dist0 c.pos le.pos <. dist0 c.pos re.pos then
      .node e (ballUp c e ball) (home c (.node le lb ll lr)) (.node re rb rl rr)
    else
      .node e (ballUp c e ball) (.node le lb ll lr) (home c (.node re rb rl rr))

/-- pre-order list of the entries (the order `ref_search_gather` visits an unpruned tree) -/
def pre : STree α → List (Entry α)
  | .nil => []
  | .node e _ l r => e :: (pre l ++ pre r)

def rootLoc : STree α → Int
  | .nil => -1
  | .node e _ _ _ => Int.ofNat e.loc

/-- the C array rows `(slot, item, left, right, children_ball, pos, radius)`, pre-order -/
def rows : STree α → List (Nat × Int × Int × Int × α × V3 α × α)
  | .nil => []
  | .node e ball l r => (e.loc, e.item, rootLoc l, rootLoc r, ball, e.pos, e.rad) :: (rows l ++ rows r)

/-- `ref_search_gather`: items whose sphere touches the query sphere, appended to `acc` in C push order -/
def touching (x : V3 α) (rho : α) : STree α → List Int → List Int
  | .nil, acc => acc
  | .node e ball l r, acc =>
    let d := dist0 e.pos x
    let acc1 := if d <=. e.rad +. rho then acc ++ [e.item] else acc
    if d -. rho <=. ball then touching x rho r (touching x rho l acc1) else acc1

/-- `ref_search_gather_seg/_tri` with the element distance abstracted to `ed item`
    (`ed i = dist2seg …` resp. `dist2tri …` of element `i` to the query point `x`) -/
def nearestWith (ed : Int → α) (x : V3 α) : STree α → α → α
  | .nil, d => d
  | .node e ball l r, d =>
    let dist := dist0 e.pos x
    let d1 := if dist -. e.rad <=. d then Scalar.cmin d (ed e.item) else d
    if Scalar.bge d1 (dist -. ball) then nearestWith ed x r (nearestWith ed x l d1) else d1

/-- `ref_search_trim` -/
def trim (x : V3 α) : STree α → α → α
  | .nil, t => t
  | .node e ball l r, t =>
    let d := dist0 e.pos x
    let t1 := if d +. e.rad <. t then d +. e.rad else t
    if Scalar.bgt t1 (d -. ball) then trim x r (trim x l t1) else t1

end STree

/-- `REF_DBL_MAX` (ref_defs.h) -/
@[inline] def dblMax : α := Scalar.ofDec 1 200

/-- `REF_SEARCH_STRUCT`: capacity `n`, next free slot `empty`, and the tree of the filled slots -/
structure Search (α : Type) where
  n : Nat
  empty : Nat
  root : STree α

inductive Status where
  | ok | failure | invalid | increaseLimit
  deriving DecidableEq, Repr

namespace Search

/-- `ref_search_create(&s, n)`; a negative `n` fails in `ref_malloc` (`REF_FAILURE`) -/
def create (n : Int) : Except Status (Search α) :=
  if n < 0 then .error .failure else .ok ⟨n.toNat, 0, .nil⟩

/-- `ref_search_insert`: limit check first, then the negative-item check, then slot `empty` is filled -/
def insert (s : Search α) (item : Int) (pos : V3 α) (rad : α) : Status × Search α :=
  if s.empty ≥ s.n then (.increaseLimit, s)
  else if item < 0 then (.invalid, s)
  else (.ok, { s with empty := s.empty + 1, root := s.root.home ⟨s.empty, item, pos, rad⟩ })

/-- `ref_search_touching` into an empty list -/
def touching (s : Search α) (x : V3 α) (rho : α) : List Int := s.root.touching x rho []

/-- `ref_search_trim_radius` -/
def trimRadius (s : Search α) (x : V3 α) : α := s.root.trim x dblMax

/-- `ref_search_nearest_candidates` -/
def nearestCandidates (s : Search α) (x : V3 α) : List Int := s.touching x (s.trimRadius x)

/-- `ref_search_nearest_candidates_closer_than` -/
def nearestCandidatesCloserThan (s : Search α) (x : V3 α) (d : α) : List Int :=
  s.touching x (s.root.trim x d)

/-- `ref_search_nearest_element` with `node_per == 2`; `segs i` are the end points of element `i` -/
def nearestSeg (s : Search α) (segs : Int → V3 α × V3 α) (x : V3 α) (d0 : α) : α :=
  s.root.nearestWith (fun i => dist2seg (segs i).1 (segs i).2 x) x d0

/-- `ref_search_nearest_element` with `node_per != 2` -/
def nearestTri (s : Search α) (tris : Int → V3 α × V3 α × V3 α) (x : V3 α) (d0 : α) : α :=
  s.root.nearestWith (fun i => dist2tri (tris i).1 (tris i).2.1 (tris i).2.2 x) x d0

end Search

/-! ## the construction loop of `ref_phys_wall_distance` -/

/-- `scale = 1.0 + 1.0e-8` -/
@[inline] def inflate : α := Scalar.one +. Scalar.ofDec 1 (-8)

/-- `for i: cell = permutation[i]; bounding_sphere_xyz; ref_search_insert(s, cell, center, scale*radius)`.
    `verts cell` are the `node_per` vertices of element `cell`; stops at the first non-ok status like `RSS`. -/
def wallBuild (ncell : Int) (verts : Int → List (V3 α)) (perm : List Int) : Status × Option (Search α) :=
  match (Search.create ncell : Except Status (Search α)) with
  | .error st => (st, none)
  | .ok s0 =>
    let rec go (s : Search α) : List Int → Status × Search α
      | [] => (.ok, s)
      | cell :: rest =>
        let (c, r) := boundingSphere (verts cell)
        match s.insert cell c (inflate *. r) with
        | (.ok, s') => go s' rest
        | (st, s') => (st, s')
    let (st, s) := go s0 perm
    (st, some s)

/-- `ref_phys_local_wall` (3-D): the wall triangles first, then every wall quad as the two triangles
    `(0,1,2)` and `(0,2,3)`, in cell order -/
def localWall3 (tris : List (V3 α × V3 α × V3 α)) (quads : List (V3 α × V3 α × V3 α × V3 α)) :
    List (V3 α × V3 α × V3 α) :=
  tris ++ quads.flatMap (fun q => [(q.1, q.2.1, q.2.2.1), (q.1, q.2.2.1, q.2.2.2)])

end Refine.Model.Search
