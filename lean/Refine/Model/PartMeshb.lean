import Refine.Model.Meshb
import Refine.Model.Comm
import Refine.Model.Dist
import Refine.Gen.PartMacros

/-!
  The PARALLEL libMeshb reader: `ref_part_by_extension` → `ref_part_meshb` (src/ref_part.c) with
  `ref_part_node`, `ref_part_meshb_cell`, `ref_part_meshb_geom_bcast`, the CAD blob, then
  `ref_cell_add_many_global` (src/ref_cell.c), `ref_migrate_shufflin_cell` (src/ref_migrate.c),
  `ref_geom_ghost`, `ref_node_ghost_real` — the state of every rank just BEFORE
  `ref_grid_inward_boundary_orientation` (the last call of `ref_part_meshb`; it only reverses boundary cells).

  `partRead np chunkMin bytes = parse np chunkMin bytes >>= distribute np`:

  * `parse` is what rank 0 does with the file (all file access and all validation is on rank 0): the header
    scan and keyword jumps are the SAME C functions as the serial reader (`Meshb.header`, `Meshb.jump`), the
    vertex section is read block by block (`ref_part_first` of the generated partition macros), every cell
    section in chunks of `chunk = (REF_INT)MAX(1000000, ncell / np)` records with ONE checked `fread` per chunk,
    then the range check `c2n < 1 || nnode < c2n → REF_INVALID` on the 1-based values of the chunk, then the
    decrement and the pyramid shuffle.  `(REF_INT)` casts are modelled (`wrap32`); the places where the C has
    undefined behaviour or does not return are explicit results: `Status.undefined` (`size_per * chunk`
    overflows `int`), `Status.diverge` (`section_size = 0`: the `while (ncell_read < ncell)` loop makes no progress);
    since /repo 4474557 every declared cell / geometry count passes `ref_part_meshb_count_fits` first, and
    `Props/C20PartMeshb.lean` proves `diverge` unreachable behind it (`partCell_loop_progress`) and, for files of at most
    `overflowFreeBytes` bytes per rank, the two cell-buffer products inside `int` (`partCell_no_int_overflow`).
  * `distribute` is the SPMD part on `World PRank` (one entry per rank): vertex block `p` goes to rank `p`; per
    chunk the routing `dest = ref_part_implicit(nnode, np, c2n[size_per*cell])` (FIRST vertex after the pyramid
    shuffle), the counting sort `elements_to_send` / `start_to_send` / `new_location` (`Comm.countDest`,
    `Comm.displs`, `Comm.pack` with one cell per slot), `ref_cell_add_many_global` on the receiving rank
    (ghost vertices added, `part` set, a cell whose vertex SET is already stored is dropped: `ref_cell_with`),
    after the last chunk `ref_migrate_shufflin_cell` (every cell is sent to every other part that owns one of its
    vertices; the exchange is `ref_mpi_alltoallv`, modelled by its C17 post-condition: a rank receives the blocks
    addressed to it in source-rank order), the geometry records (broadcast, kept where the vertex is local),
    the CAD bytes (broadcast), `ref_geom_ghost`, `ref_node_ghost_real`.
    `Status.undefined` in `routeChunk` stands for an index outside `elements_to_send[0..np)`;
    `Props/C20PartMeshb.lean` proves it unreachable.

  Not modelled: the `pad` branch of `ref_part_meshb_cell` (`pad` is the constant `REF_FALSE`), the local index
  order of ghost vertices (`ref_node_add_many` de-duplicates with an unstable heap sort; the tie prints vertices
  sorted by global id), integer width beyond the casts named above.

  Core-only imports: this file is linked into `refdrv`.
-/
namespace Refine.Model.PartMeshb
open Refine.Gen
open Refine.Gen.PartMacros
open Refine.Model.Meshb
open Refine.Model.Comm (World countDest displs pack slice)

/-! ## rank 0: reading -/

/-- `ref_part_meshb_long`: `int` (versions < 4) or `long`, NOT truncated (the serial reader truncates) -/
def rdLong (v : Nat) : P Int := fun s =>
  if v < 4 then rdI32 s else
  match rdU 8 s with
  | .ok (n, r) => .ok (toSigned 64 n, r)
  | .error e => .error e

/-- one vertex record as `ref_part_node` reads it: `dim` doubles (whatever the version) and the reference -/
def rdVertD (v : Nat) (twod : Bool) : P Vertex := fun s =>
  match rdF64 s with
  | .error e => .error e
  | .ok (x, s) =>
  match rdF64 s with
  | .error e => .error e
  | .ok (y, s) =>
  match (if twod then (.ok (0, s) : Except Status (UInt64 × Bytes)) else rdF64 s) with
  | .error e => .error e
  | .ok (z, s) =>
  match (if 0 < v then rdLong v s else .ok (0, s)) with
  | .error e => .error e
  | .ok (_, s) => .ok (⟨x, y, z⟩, s)

def rdVertsD (v : Nat) (twod : Bool) : Nat → P (List Vertex)
  | 0, s => .ok ([], s)
  | n + 1, s =>
    match rdVertD v twod s with
    | .error e => .error e
    | .ok (p, s) =>
    match rdVertsD v twod n s with
    | .error e => .error e
    | .ok (ps, s) => .ok (p :: ps, s)

/-- how many vertex records rank 0 reads for part `p`: its own `for (node < ref_part_first(nnode, n, 1))`, and
    `n = (REF_INT)(first(part+1) - first(part))`, read `if (n > 0)`, for a worker -/
def blockCount (N : Int) (np : Nat) (p : Nat) : Int :=
  if p = 0 then ref_part_first N (np : Int) 1
  else wrap32 (ref_part_first N (np : Int) ((p : Int) + 1) - ref_part_first N (np : Int) (p : Int))

def blockCounts (N : Int) (np : Nat) : List Int := (List.range np).map (blockCount N np)

def rdBlocks (v : Nat) (twod : Bool) : List Int → P (List (List Vertex))
  | [], s => .ok ([], s)
  | c :: cs, s =>
    match rdVertsD v twod c.toNat s with
    | .error e => .error e
    | .ok (b, s) =>
    match rdBlocks v twod cs s with
    | .error e => .error e
    | .ok (bs, s) => .ok (b :: bs, s)

def rdLongs (v : Nat) : Nat → P (List Int)
  | 0, s => .ok ([], s)
  | n + 1, s =>
    match rdLong v s with
    | .error e => .error e
    | .ok (x, s) =>
    match rdLongs v n s with
    | .error e => .error e
    | .ok (xs, s) => .ok (x :: xs, s)

/-- `n` records of `k` integers (loop with an accumulator: a chunk has up to a million records) -/
def rdRecsAcc (v k : Nat) : Nat → Bytes → List (List Int) → Except Status (List (List Int) × Bytes)
  | 0, s, acc => .ok (acc.reverse, s)
  | n + 1, s, acc =>
    match rdLongs v k s with
    | .error e => .error e
    | .ok (r, s) => rdRecsAcc v k n s (r :: acc)

def rdRecs (v k n : Nat) : P (List (List Int)) := fun s => rdRecsAcc v k n s []

/-- a cell as the model carries it: `size_per` integers, `node_per` GLOBAL 0-based vertex ids then the id for the
    groups with `last_node_is_an_id` -/
abbrev Cell := List Int

/-- the range check of `ref_part_meshb_cell`, on the 1-based value, both bounds as coded -/
def badIndex (N : Int) (x : Int) : Bool := decide (x < 1 ∨ N < x)

def rawBad (ci : CellInfo) (N : Int) (raw : List Int) : Bool := (raw.take ci.nodePer).any (badIndex N)

/-- copy of the first `size_per` integers, `c2n--` on the vertices, pyramid shuffle of `ref_part.c` -/
def cellOfRaw (ci : CellInfo) (raw : List Int) : Cell :=
  let nodes := (raw.take ci.nodePer).map fun x => x - 1
  let nodes := if ci.isPyr then permute PyrPerm.partMeshb nodes else nodes
  nodes ++ (if ci.lastId then (raw.drop ci.nodePer).take 1 else [])

/-- one trip of the `while (ncell_read < ncell)` loop on rank 0 up to the routing: ONE `fread` of
    `section_size * (1 + node_per)` integers (`REIS` → `REF_FAILURE` when short), then the range check of every
    vertex of the chunk (`REF_INVALID`) -/
def readChunk (v : Nat) (ci : CellInfo) (N : Int) (sec : Nat) : P (List Cell) := fun s =>
  if s.length < sec * (ci.nodePer + 1) * intSize v then .error .failure else
  match rdRecs v (ci.nodePer + 1) sec s with
  | .error e => .error e
  | .ok (raws, s) =>
    if raws.any (rawBad ci N) then .error .invalid
    else .ok (raws.map (cellOfRaw ci), s)

def INT_MAX : Int := 2147483647

/-- `ref_malloc(ptr, a * b, type)` with `a * b` computed in `int`: overflow is undefined behaviour, a negative
    count is `REF_FAILURE`, more than the allocator gives is `REF_NULL` -/
def mallocInts (cap : Nat) (bytesPer : Nat) (count : Int) : Except Status Unit :=
  if count > INT_MAX ∨ count < -INT_MAX - 1 then .error .undefined
  else if count < 0 then .error .failure
  else if cap < bytesPer * count.toNat then .error .null
  else .ok ()

/-- `chunk = (REF_INT)MAX(1000000, ncell / (REF_LONG)ref_mpi_n(ref_mpi))` (`chunkMin` = the constant) -/
def chunkOf (chunkMin : Nat) (ncell : Int) (np : Nat) : Int :=
  wrap32 (max (chunkMin : Int) (Int.tdiv ncell (np : Int)))

/-- `section_size = MIN(chunk, (REF_INT)(ncell - ncell_read))` -/
def sectionSize (chunk ncell nread : Int) : Int := min chunk (wrap32 (ncell - nread))

/-- the `while (ncell_read < ncell)` loop of rank 0: the chunks, in order.  `sec = 0` is the C's infinite loop
    (nothing is read, `ncell_read` stays); a negative `sec` makes `nread = (size_t)(…)` enormous and the `fread`
    short.  With these two cases out every trip advances by ≥ 1, so `fuel = ncell + 1` is never exhausted. -/
def rdCellChunks (v : Nat) (ci : CellInfo) (N chunk ncell : Int) :
    Nat → Int → Bytes → List (List Cell) → Except Status (List (List Cell) × Bytes)
  | 0, nread, s, acc => if nread < ncell then .error .diverge else .ok (acc.reverse, s)
  | fuel + 1, nread, s, acc =>
    if nread < ncell then
      let sec := sectionSize chunk ncell nread
      if sec = 0 then .error .diverge
      else if sec < 0 then .error .failure
      else
        match readChunk v ci N sec.toNat s with
        | .error e => .error e
        | .ok (cells, s) => rdCellChunks v ci N chunk ncell fuel (nread + sec) s (cells :: acc)
    else .ok (acc.reverse, s)

/-- `ref_part_meshb_cell` as far as rank 0's file access goes: the buffers sized by `chunk`, then the loop -/
def rdCellSection (cfg : Cfg) (chunkMin : Nat) (v : Nat) (np : Nat) (ci : CellInfo) (N ncell : Int) :
    P (List (List Cell)) := fun s =>
  let chunk := chunkOf chunkMin ncell np
  match mallocInts cfg.allocCap 8 ((ci.sizePer : Int) * chunk) with        -- sent_c2n (every rank), c2n
  | .error e => .error e
  | .ok _ =>
  match mallocInts cfg.allocCap 8 (((ci.nodePer : Int) + 1) * chunk) with  -- c2n_int, c2n_long
  | .error e => .error e
  | .ok _ => rdCellChunks v ci N chunk ncell (ncell.toNat + 1) 0 s []

/-- a geometry record as broadcast: 0-based vertex (`read_node--`), id, gref, two parameters -/
structure RawGeom where
  node : Int
  id : Int
  gref : Int
  p0 : UInt64
  p1 : UInt64
  deriving DecidableEq, Repr, Inhabited

/-- C `(REF_LONG)d` on x86-64 (`cvttsd2si` 64-bit): truncation toward zero, `LONG_MIN` when out of range / NaN -/
def d2l (b : UInt64) : Int :=
  let n := b.toNat
  let s := n / 2 ^ 63
  let e := (n / 2 ^ 52) % 2048
  let mant := n % 2 ^ 52
  if e < 1023 then 0
  else if 1023 + 63 ≤ e then -(2 ^ 63 : Int)
  else
    let m := 2 ^ 52 + mant
    let sh := e - 1023
    let mag : Nat := if sh ≤ 52 then m / 2 ^ (52 - sh) else m * 2 ^ (sh - 52)
    if s = 1 then -(mag : Int) else (mag : Int)

/-- one record of `ref_part_meshb_geom_bcast` on rank 0 -/
def rdGeomRec (v t : Nat) : P RawGeom := fun s =>
  match rdLong v s with
  | .error e => .error e
  | .ok (node, s) =>
  match rdLong v s with
  | .error e => .error e
  | .ok (id, s) =>
  match (if 0 < t then rdF64 s else .ok (0, s)) with
  | .error e => .error e
  | .ok (p0, s) =>
  match (if 1 < t then rdF64 s else .ok (0, s)) with
  | .error e => .error e
  | .ok (p1, s) =>
  match (if 0 < t then rdF64 s else .ok (0, s)) with
  | .error e => .error e
  | .ok (g, s) =>
    .ok ({ node := node - 1, id := id, gref := if 0 < t then d2l g else id, p0 := p0, p1 := p1 }, s)

def rdGeomRecs (v t : Nat) : Nat → P (List RawGeom)
  | 0, s => .ok ([], s)
  | n + 1, s =>
    match rdGeomRec v t s with
    | .error e => .error e
    | .ok (g, s) =>
    match rdGeomRecs v t n s with
    | .error e => .error e
    | .ok (gs, s) => .ok (g :: gs, s)

/-- the `while (ngeom_read < ngeom)` loop (the records are broadcast chunk by chunk; only their order matters) -/
def rdGeomChunks (v t : Nat) (chunk ngeom : Int) :
    Nat → Int → Bytes → List RawGeom → Except Status (List RawGeom × Bytes)
  | 0, nread, s, acc => if nread < ngeom then .error .diverge else .ok (acc, s)
  | fuel + 1, nread, s, acc =>
    if nread < ngeom then
      let sec := sectionSize chunk ngeom nread
      if sec = 0 then .error .diverge
      else if sec < 0 then .error .undefined   -- `ref_mpi_bcast` with a negative count
      else
        match rdGeomRecs v t sec.toNat s with
        | .error e => .error e
        | .ok (gs, s) => rdGeomChunks v t chunk ngeom fuel (nread + sec) s (acc ++ gs)
    else .ok (acc, s)

/-- `ref_part_meshb_geom_bcast`: `chunk = MAX(1000000, ngeom/np)`, `chunk = MIN(chunk, ngeom)`, four buffers -/
def rdGeomSection (cfg : Cfg) (chunkMin : Nat) (v np t : Nat) (ngeom : Int) : P (List RawGeom) := fun s =>
  let chunk := wrap32 (min (chunkOf chunkMin ngeom np) ngeom)
  match mallocInts cfg.allocCap 8 chunk with
  | .error e => .error e
  | .ok _ =>
  match mallocInts cfg.allocCap 8 (2 * chunk) with
  | .error e => .error e
  | .ok _ => rdGeomChunks v t chunk ngeom (ngeom.toNat + 1) 0 s []

/-- `ref_part_meshb_count_fits(file, count)` (rank 0, /repo 4474557), `rest` = the bytes after the count field:
    `0 <= count && count <= REF_INT_MAX && count <= (end - here) / 4` — C integer division of the remaining bytes -/
def countFits (count : Int) (rest : Bytes) : Bool :=
  decide (0 ≤ count) && decide (count ≤ INT_MAX) && decide (count ≤ ((rest.length / 4 : Nat) : Int))

/-- a keyword section of `ref_part_meshb`: jump, `ref_part_meshb_long` count, `ref_part_meshb_count_fits` right after
    it (`RAS` → `REF_FAILURE`, on rank 0 before anything is broadcast), body, `REIS(next_position, ftello)` -/
def kwSectionL {α : Type} (v : Nat) (bs : Bytes) (kp : KeyPos) (kw : Nat) (dflt : α)
    (body : Int → P α) : Except Status α :=
  match jump v bs kp kw with
  | .error e => .error e
  | .ok none => .ok dflt
  | .ok (some (next, s)) =>
    match rdLong v s with
    | .error e => .error e
    | .ok (n, s) =>
    if !countFits n s then .error .failure else
    match body n s with
    | .error e => .error e
    | .ok (a, s) => if next = tell bs s then .ok a else .error .failure

def rdCellGroupsP (cfg : Cfg) (chunkMin v np : Nat) (bs : Bytes) (kp : KeyPos) (N : Int) :
    List CellInfo → Except Status (List (List (List Cell)))
  | [] => .ok []
  | ci :: cis =>
    match kwSectionL v bs kp ci.kw [] (fun n => rdCellSection cfg chunkMin v np ci N n) with
    | .error e => .error e
    | .ok g =>
    match rdCellGroupsP cfg chunkMin v np bs kp N cis with
    | .error e => .error e
    | .ok gs => .ok (g :: gs)

def rdGeomTypesP (cfg : Cfg) (chunkMin v np : Nat) (bs : Bytes) (kp : KeyPos) :
    List Nat → Except Status (List (List RawGeom))
  | [] => .ok []
  | t :: ts =>
    match kwSectionL v bs kp (40 + t) [] (fun n => rdGeomSection cfg chunkMin v np t n) with
    | .error e => .error e
    | .ok g =>
    match rdGeomTypesP cfg chunkMin v np bs kp ts with
    | .error e => .error e
    | .ok gs => .ok (g :: gs)

/-- everything rank 0 takes from the file -/
structure Parsed where
  twod : Bool
  nnode : Int
  /-- vertex records per part -/
  blocks : List (List Vertex)
  /-- per cell group (16), the chunks in reading order, cells 0-based and shuffled -/
  groups : List (List (List Cell))
  /-- per geometry type 0,1,2 the records in file order -/
  geoms : List (List RawGeom)
  cad : Bytes
  deriving DecidableEq, Repr

/-- `ref_part_meshb` as far as rank 0's file access and validation go -/
def parseWith (cfg : Cfg) (np chunkMin : Nat) (bs : Bytes) : Except Status Parsed :=
  match header cfg bs with
  | .error e => .error e
  | .ok (v, kp) =>
  match jump v bs kp 3 with
  | .error e => .error e
  | .ok none => .error .failure            -- "meshb missing dimension"
  | .ok (some (_, s)) =>
  match rdI32 s with
  | .error e => .error e
  | .ok (dim, _) =>
  let twod := decide (dim = 2)              -- no other check of `dim`
  match jump v bs kp 4 with
  | .error e => .error e
  | .ok none => .error .failure            -- "meshb missing vertex"
  | .ok (some (next, s)) =>
  match rdLong v s with
  | .error e => .error e
  | .ok (nnode, s) =>
  match rdBlocks v twod (blockCounts nnode np) s with
  | .error e => .error e
  | .ok (blocks, s) =>
  if next ≠ tell bs s then .error .failure else
  match rdCellGroupsP cfg chunkMin v np bs kp nnode cellInfos with
  | .error e => .error e
  | .ok groups =>
  match rdGeomTypesP cfg chunkMin v np bs kp [0, 1, 2] with
  | .error e => .error e
  | .ok geoms =>
  match rdCad cfg v bs kp with
  | .error e => .error e
  | .ok cad => .ok { twod := twod, nnode := nnode, blocks := blocks, groups := groups, geoms := geoms, cad := cad }

/-! ## all ranks: placement -/

/-- a vertex held by a rank; `xyz = none`: the slot was never written (a ghost before `ref_node_ghost_real`) -/
structure PNode where
  glob : Int
  part : Int
  xyz : Option Vertex
  deriving DecidableEq, Repr, Inhabited

/-- a geometry association held by a rank (vertex as global id) -/
structure PGeom where
  type : Nat
  id : Int
  gref : Int
  node : Int
  p0 : UInt64
  p1 : UInt64
  deriving DecidableEq, Repr, Inhabited

structure PRank where
  /-- `old_n_global = new_n_global` after `ref_node_initialize_n_global` -/
  nGlobal : Int
  nodes : List PNode
  /-- per cell group, local cell order -/
  cells : List (List Cell)
  geoms : List PGeom
  cad : Bytes
  deriving DecidableEq, Repr, Inhabited

def PRank.has (s : PRank) (g : Int) : Bool := s.nodes.any fun n => n.glob == g

/-- `ref_node_part` of the local vertex with global `g` (`-1`: not local) -/
def PRank.partOf (s : PRank) (g : Int) : Int :=
  match s.nodes.find? fun n => n.glob == g with
  | some n => n.part
  | none => -1

def PRank.group (s : PRank) (k : Nat) : List Cell := s.cells.getD k []

def PRank.setGroup (s : PRank) (k : Nat) (cs : List Cell) : PRank := { s with cells := s.cells.set k cs }

/-- `ref_part_node`: part `p` owns the globals `first p + i`; rank 0 numbers its own block from 0 -/
def ownedNodes (N : Int) (np : Nat) (p : Nat) (block : List Vertex) : List PNode :=
  let base : Int := if p = 0 then 0 else ref_part_first N (np : Int) (p : Int)
  block.zipIdx.map fun vi => { glob := base + (vi.2 : Int), part := (p : Int), xyz := some vi.1 }

def initWorld (N : Int) (np : Nat) (blocks : List (List Vertex)) : World PRank :=
  (List.range np).map fun p =>
    { nGlobal := N, nodes := ownedNodes N np p (blocks.getD p []), cells := List.replicate 16 [], geoms := [],
      cad := [] }

/-- is `x` among the first `n` entries of `l` -/
def memFirst : Nat → List Int → Int → Bool
  | 0, _, _ => false
  | _, [], _ => false
  | n + 1, y :: ys, x => x == y || memFirst n ys x

/-- are the first `n` entries of `a` all among the first `m` entries of `b` -/
def subFirst (m : Nat) (b : List Int) : Nat → List Int → Bool
  | 0, _ => true
  | _, [] => true
  | n + 1, x :: xs => memFirst m b x && subFirst m b n xs

/-- `ref_cell_with`: a stored cell with the same SET of vertices (order and id do not matter) -/
def sameSet (nodePer : Nat) (a b : Cell) : Bool :=
  subFirst nodePer b nodePer a && subFirst nodePer a nodePer b

/-- the cell loop of `ref_cell_add_many_global`: `ref_cell_with`, then `ref_cell_add` when not found
    (`(REF_INT)` of the id column) -/
def addCells (ci : CellInfo) (stored : List Cell) : List Cell → List Cell
  | [] => stored
  | c :: cs =>
    let c' := c.take ci.nodePer ++ (c.drop ci.nodePer).map wrap32
    addCells ci (if stored.any (sameSet ci.nodePer c') then stored else stored ++ [c']) cs

/-- `ref_node_add_many`: the globals that are not local yet, once each, appended with the default `part = rank` -/
def addNodes (me : Nat) (nodes : List PNode) : List Int → List PNode
  | [] => nodes
  | g :: gs =>
    addNodes me (if nodes.any (fun n => n.glob == g) then nodes
                 else nodes ++ [{ glob := g, part := (me : Int), xyz := none }]) gs

/-- `ref_node_part(ref_node, local) = part` -/
def setPart (nodes : List PNode) (g p : Int) : List PNode :=
  nodes.map fun n => if n.glob == g then { n with part := p } else n

/-- a cell with the `part` of each of its vertices (`sent_part` / `b_parts`) -/
abbrev CellP := Cell × List Int

/-- `ref_cell_add_many_global(ref_cell, ref_node, n, c2n, part, exclude_part_id = rank)`:
    vertices whose `part` is not this rank are added; every vertex must then be local
    (`RSB(ref_node_local …)` → `REF_NOT_FOUND`) and gets its `part`; cells are added unless already stored. -/
def addManyGlobal (me : Nat) (ci : CellInfo) (k : Nat) (cells : List CellP) (st : PRank) : Except Status PRank :=
  let newGlobals := cells.flatMap fun cp =>
    ((cp.1.take ci.nodePer).zip cp.2).filterMap fun gp => if gp.2 != (me : Int) then some gp.1 else none
  let nodes1 := addNodes me st.nodes newGlobals
  let verts := cells.flatMap fun cp => (cp.1.take ci.nodePer).zip cp.2
  if verts.any (fun gp => !(nodes1.any fun n => n.glob == gp.1)) then .error .not_found else
  let nodes2 := verts.foldl (fun ns gp => setPart ns gp.1 gp.2) nodes1
  .ok { st with nodes := nodes2, cells := st.cells.set k (addCells ci (st.group k) (cells.map (·.1))) }

/-- the `part` of the vertices of a cell by the implicit block partition: `sent_part` -/
def implicitParts (N : Int) (np : Nat) (ci : CellInfo) (c : Cell) : List Int :=
  (c.take ci.nodePer).map fun g => ref_part_implicit N (np : Int) g

/-- `dest[cell] = ref_part_implicit(nnode, np, c2n[size_per * cell])` -/
def destOf (N : Int) (np : Nat) (c : Cell) : Int := ref_part_implicit N (np : Int) (c.getD 0 0)

/-- the routing of one chunk on rank 0, AS CODED: `elements_to_send` by counting, `start_to_send` by prefix sums,
    `new_location = start_to_send[dest] + elements_to_send[dest]++` (one cell per slot), then the slice
    `[start_to_send[part], +elements_to_send[part])` for every part.  `undefined`: a `dest` outside `0..np-1`
    indexes `elements_to_send[]` out of bounds.  (Quadratic as a list program; the driver runs `routeChunk`,
    `Props/C20PartMeshb.routeChunk_eq_coded` proves the two equal on every input.) -/
def routeChunkCoded (N : Int) (np : Nat) (cells : List Cell) : Except Status (List (List Cell)) :=
  let dest := cells.map (destOf N np)
  if dest.any (fun d => decide (d < 0 ∨ (np : Int) ≤ d)) then .error .undefined else
  let counts := countDest np dest
  let starts := displs counts
  let sent := pack 1 dest cells (List.replicate cells.length []) starts
  .ok ((List.range np).map fun p => slice sent (starts.getD p 0).toNat (counts.getD p 0).toNat)

/-- the same routing as the driver executes it: bucket `p` = the cells of the chunk with `dest = p`, in chunk order -/
def routeChunk (N : Int) (np : Nat) (cells : List Cell) : Except Status (List (List Cell)) :=
  if (cells.map (destOf N np)).any (fun d => decide (d < 0 ∨ (np : Int) ≤ d)) then .error .undefined else
  .ok ((List.range np).map fun (p : Nat) => cells.filter fun c => destOf N np c == (p : Int))

/-- per rank: apply `f rank state`, first error wins (the C: that rank returns the status) -/
def mapRanksFrom (f : Nat → PRank → Except Status PRank) : Nat → List PRank → Except Status (List PRank)
  | _, [] => .ok []
  | r, st :: rest =>
    match f r st with
    | .error e => .error e
    | .ok st' =>
    match mapRanksFrom f (r + 1) rest with
    | .error e => .error e
    | .ok rest' => .ok (st' :: rest')

def mapRanks (f : Nat → PRank → Except Status PRank) (w : World PRank) : Except Status (World PRank) :=
  mapRanksFrom f 0 w

/-- one chunk: rank 0 keeps bucket 0, sends bucket `p` to worker `p` (`if (0 < elements_to_send[part])`);
    the receiver computes `sent_part` and calls `ref_cell_add_many_global` -/
def placeChunk (N : Int) (np : Nat) (ci : CellInfo) (k : Nat) (w : World PRank) (cells : List Cell) :
    Except Status (World PRank) :=
  match routeChunk N np cells with
  | .error e => .error e
  | .ok buckets =>
    mapRanks (fun r st =>
      let b := buckets.getD r []
      if b.isEmpty then .ok st
      else addManyGlobal r ci k (b.map fun c => (c, implicitParts N np ci c)) st) w

/-- `ref_sort_unique_int` of the parts of a cell's vertices, as a set: does it contain `p` -/
def cellSendsTo (st : PRank) (ci : CellInfo) (me p : Nat) (c : Cell) : Bool :=
  decide (p ≠ me) && (c.take ci.nodePer).any fun g => st.partOf g == (p : Int)

/-- what rank `s` puts into the bucket of part `r` in `ref_migrate_shufflin_cell`: its cells having a vertex of
    part `r`, in local order, with the parts of all vertices -/
def shufflinSend (ci : CellInfo) (k : Nat) (s : Nat) (st : PRank) (r : Nat) : List CellP :=
  ((st.group k).filter (cellSendsTo st ci s r)).map fun c => (c, (c.take ci.nodePer).map st.partOf)

/-- `ref_migrate_shufflin_cell`.  `undefined`: a stored `part` outside `0..np-1` indexes `a_size[]` out of bounds. -/
def shufflinCell (np : Nat) (ci : CellInfo) (k : Nat) (w : World PRank) : Except Status (World PRank) :=
  if np ≤ 1 then .ok w else           -- `if (!ref_mpi_para(ref_mpi)) return REF_SUCCESS`
  if w.any (fun st => (st.group k).any fun c => (c.take ci.nodePer).any fun g =>
      decide (st.partOf g < 0 ∨ (np : Int) ≤ st.partOf g)) then .error .undefined else
  -- `ref_mpi_alltoallv`: rank r receives the blocks addressed to it, in source-rank order
  let recv : Nat → List CellP := fun r => w.zipIdx.flatMap fun ss => shufflinSend ci k ss.2 ss.1 r
  match mapRanks (fun r st => addManyGlobal r ci k (recv r) st) w with
  | .error e => .error e
  | .ok w1 =>
    -- `if (!need_to_keep) ref_cell_remove`
    .ok (w1.zipIdx.map fun sr =>
      sr.1.setGroup k ((sr.1.group k).filter fun c => (c.take ci.nodePer).any fun g => sr.1.partOf g == (sr.2 : Int)))

/-- `ref_part_meshb_cell` after the reading: every chunk placed, then the completion step -/
def placeChunks (N : Int) (np : Nat) (ci : CellInfo) (k : Nat) : List (List Cell) → World PRank →
    Except Status (World PRank)
  | [], w => .ok w
  | cells :: rest, w =>
    match placeChunk N np ci k w cells with
    | .error e => .error e
    | .ok w => placeChunks N np ci k rest w

def placeGroup (N : Int) (np : Nat) (ci : CellInfo) (k : Nat) (chunks : List (List Cell)) (w : World PRank) :
    Except Status (World PRank) :=
  match placeChunks N np ci k chunks w with
  | .error e => .error e
  | .ok w => shufflinCell np ci k w

def placeGroups (N : Int) (np : Nat) : List (CellInfo × Nat × List (List Cell)) → World PRank →
    Except Status (World PRank)
  | [], w => .ok w
  | (ci, k, chunks) :: rest, w =>
    match placeGroup N np ci k chunks w with
    | .error e => .error e
    | .ok w => placeGroups N np rest w

/-- `ref_geom_add` + `ref_geom_find` + `ref_geom_gref(…) = gref`: an existing (vertex, type, id) record gets its
    parameters updated, else a record is appended; then the gref is set -/
def geomUpsert (gs : List PGeom) (node : Int) (t : Nat) (id gref : Int) (p0 p1 : UInt64) : List PGeom :=
  if gs.any (fun g => g.node == node && g.type == t && g.id == id) then
    gs.map fun g => if g.node == node && g.type == t && g.id == id then
      { g with p0 := if 0 < t then p0 else g.p0, p1 := if 1 < t then p1 else g.p1, gref := gref } else g
  else
    gs ++ [{ type := t, id := id, gref := gref, node := node,
             p0 := (if 0 < t then p0 else 0), p1 := (if 1 < t then p1 else 0) }]

/-- the record loop of `ref_part_meshb_geom_bcast` on one rank: `if (REF_EMPTY != local)` add
    (`(REF_INT)` of id and gref) -/
def addGeoms (t : Nat) (st : PRank) (recs : List RawGeom) : PRank :=
  { st with geoms := recs.foldl (fun gs r =>
      if st.has r.node then geomUpsert gs r.node t (wrap32 r.id) (wrap32 r.gref) r.p0 r.p1 else gs) st.geoms }

/-- `ref_geom_ghost`: for every ghost vertex the owner's records are added with `ref_geom_add_with_descr`
    (the exchange is three `ref_mpi_alltoallv`; a ghost's owner must know the vertex: `REF_NOT_FOUND`) -/
def geomGhost (np : Nat) (w : World PRank) : Except Status (World PRank) :=
  if np ≤ 1 then .ok w else
  mapRanks (fun r st =>
    let ghosts := st.nodes.filter fun n => n.part != (r : Int)
    if ghosts.any (fun n => !((w.getD n.part.toNat default).has n.glob)) then .error .not_found else
    .ok { st with geoms := ghosts.foldl (fun gs n =>
      ((w.getD n.part.toNat default).geoms.filter fun g => g.node == n.glob).foldl
        (fun gs g => geomUpsert gs g.node g.type g.id g.gref g.p0 g.p1) gs) st.geoms }) w

/-- `ref_node_ghost_real`: every ghost takes the owner's reals -/
def ghostReal (np : Nat) (w : World PRank) : Except Status (World PRank) :=
  if np ≤ 1 then .ok w else
  mapRanks (fun r st =>
    if st.nodes.any (fun n => n.part != (r : Int) && !((w.getD n.part.toNat default).has n.glob)) then
      .error .not_found
    else .ok { st with nodes := st.nodes.map fun n =>
      if n.part != (r : Int) then
        match (w.getD n.part.toNat default).nodes.find? fun o => o.glob == n.glob with
        | some o => { n with xyz := o.xyz }
        | none => n
      else n }) w

def groupsOf (p : Parsed) : List (CellInfo × Nat × List (List Cell)) :=
  (cellInfos.zipIdx.zip p.groups).map fun x => (x.1.1, x.1.2, x.2)

/-- the SPMD part of `ref_part_meshb` on the data rank 0 read -/
def distribute (np : Nat) (p : Parsed) : Except Status (World PRank) :=
  let w0 := initWorld p.nnode np p.blocks
  match placeGroups p.nnode np (groupsOf p) w0 with
  | .error e => .error e
  | .ok w1 =>
  let w2 := w1.map fun st => ((p.geoms.zipIdx.foldl (fun st gt => addGeoms gt.2 st gt.1) st))
  let w3 := w2.map fun st => { st with cad := p.cad }
  match geomGhost np w3 with
  | .error e => .error e
  | .ok w4 => ghostReal np w4

/-- the constant of `ref_part_meshb_cell` / `ref_part_meshb_geom_bcast` -/
def chunkConst : Nat := 1000000

/-- `ref_part_by_extension(&ref_grid, ref_mpi, "*.meshb")` on `np` ranks, up to the orientation pass -/
def partReadWith (cfg : Cfg) (np chunkMin : Nat) (bs : Bytes) : Except Status (World PRank) :=
  match parseWith cfg np chunkMin bs with
  | .error e => .error e
  | .ok p => distribute np p

def partRead (np : Nat) (bs : Bytes) : Except Status (World PRank) := partReadWith Cfg.current np chunkConst bs

/-! ## history: the reader before /repo 4474557 (no `ref_part_meshb_count_fits`) -/

def kwSectionLLegacy {α : Type} (v : Nat) (bs : Bytes) (kp : KeyPos) (kw : Nat) (dflt : α)
    (body : Int → P α) : Except Status α :=
  match jump v bs kp kw with
  | .error e => .error e
  | .ok none => .ok dflt
  | .ok (some (next, s)) =>
    match rdLong v s with
    | .error e => .error e
    | .ok (n, s) =>
    match body n s with
    | .error e => .error e
    | .ok (a, s) => if next = tell bs s then .ok a else .error .failure

/-- the cell sections of the legacy reader, as far as the first error or the end of the groups (enough for the
    two recorded counterexamples, whose first cell section already does not return) -/
def rdCellGroupsLegacy (cfg : Cfg) (chunkMin v np : Nat) (bs : Bytes) (kp : KeyPos) (N : Int) :
    List CellInfo → Except Status (List (List (List Cell)))
  | [] => .ok []
  | ci :: cis =>
    match kwSectionLLegacy v bs kp ci.kw [] (fun n => rdCellSection cfg chunkMin v np ci N n) with
    | .error e => .error e
    | .ok g =>
    match rdCellGroupsLegacy cfg chunkMin v np bs kp N cis with
    | .error e => .error e
    | .ok gs => .ok (g :: gs)

/-- vertex count and cell sections of the legacy reader on `np` ranks -/
def parseCellsLegacy (cfg : Cfg) (np chunkMin : Nat) (bs : Bytes) : Except Status (List (List (List Cell))) :=
  match header cfg bs with
  | .error e => .error e
  | .ok (v, kp) =>
  match jump v bs kp 4 with
  | .error e => .error e
  | .ok none => .error .failure
  | .ok (some (_, s)) =>
  match rdLong v s with
  | .error e => .error e
  | .ok (nnode, _) => rdCellGroupsLegacy cfg chunkMin v np bs kp nnode cellInfos

/-! ## views used by the properties -/

/-- the 64-bit patterns of a vertex (payload of the C06 invariant) -/
def payloadOf (n : PNode) : List Nat :=
  match n.xyz with
  | some v => [v.x.toNat, v.y.toNat, v.z.toNat]
  | none => []

/-- a rank as the C06 invariant sees it -/
def toRankState (st : PRank) : Refine.Model.Dist.RankState :=
  { nodes := st.nodes.map fun n => { glob := n.glob, part := n.part, payload := payloadOf n },
    cells := (cellInfos.zipIdx.zip st.cells).flatMap fun x =>
      x.2.map fun c => { group := x.1.2, nodes := c.take x.1.1.nodePer, id := (c.drop x.1.1.nodePer).headD 0 },
    oldN := st.nGlobal, newN := st.nGlobal, nUnused := 0 }

def toDist (w : World PRank) : World Refine.Model.Dist.RankState := w.map toRankState

/-- the vertices a gather assembles (`ref_gather_node`): every rank contributes the vertices it owns; the blocks are
    contiguous, so rank order is global order -/
def gatherNodes (w : World PRank) : List Vertex :=
  w.zipIdx.flatMap fun sr => (sr.1.nodes.filter fun n => n.part == (sr.2 : Int)).map fun n => n.xyz.getD default

/-- `ref_cell_part` on a rank: the part of the cell's vertex with the smallest global id, from the rank's own table -/
def cellOwnerOf (st : PRank) (nodePer : Nat) (c : Cell) : Int :=
  Refine.Model.Dist.cellOwner ((c.take nodePer).map fun g => (g, st.partOf g))

/-- the cells of group `k` a gather assembles (`ref_gather_cell`): every rank contributes the cells it owns, rank 0
    first, in local order -/
def gatherGroup (w : World PRank) (k nodePer : Nat) : List Cell :=
  w.zipIdx.flatMap fun sr => (sr.1.group k).filter fun c => cellOwnerOf sr.1 nodePer c == (sr.2 : Int)

end Refine.Model.PartMeshb
