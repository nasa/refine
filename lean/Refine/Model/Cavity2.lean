import Refine.Model.Cavity
import Refine.Model.Collapse

/-!
  L5 Mesh / `Cavity2`: the parts of `src/ref_cavity.c` that sit around the insert / verify / replace core of
  `Model/Cavity.lean`, statement by statement:

  * `swapNode23`, `formEdgeSwap`, `formBall`, `formInsert`, `formInsertTet`
      (`ref_swap_node23`, `ref_cavity_form_edge_swap`, `_form_ball`, `_form_insert`, `_form_insert_tet`);
      `formEdgeSplit` / `formEdgeCollapse` are in `Model/Cavity.lean`.
  * `withFace` (`ref_cell_with_face` on tets), `faceVisible` (`ref_cavity_visible`), `enlargeFace`, `enlargeSeg`,
    `cavManifold` (`ref_cavity_manifold`), `enlargeVisible`, `enlargeConforming`, `enlargeCombined`.
  * `addTetWithoutFaceid` (`ref_cavity_add_tet_without_faceid`, static).
  * acceptance tests `cavRatio`, `cavChange`, `cavNormdevNoGeom` (`ref_cavity_ratio`, `_change`, `_normdev`).
  * callers: `swapTetCell` (loop body of `ref_cavity_swap_tet_pass`), `collapseCavityPath`
    (`ref_collapse_to_remove_node1`, the `!allowed` branch), `splitCavityPath` (`ref_split_pass`, the `try_cavity`
    branch): the part between `ref_cavity_create` and `ref_cavity_free`.

  The `while (keep_growing)` loops of the C have NO iteration cap.  They are modelled with two explicit budgets
  (`sweeps`, `adds`), both derived from the size of the grid, and the theorems of `Props/C01Cavity2.lean` show that the
  budgets are never exhausted on a cavity whose `tet_list` / `tri_list` is duplicate free and lists live cells
  (`Res.fuel` is unreachable), and that the only way not to terminate is a sweep that asks for growth and changes
  nothing (`Res.hang`: the C spins forever on such a state).

  `ref_cavity_conforming` needs CAD (`ref_geom_tri_norm_deviation`): it is a parameter `conf` of the model
  (the drivers use `fun _ _ => false`: without a CAD model the C answers "not conforming" for every seg).
  Core-only.
-/
namespace Refine.Model.Cavity2
open Refine Refine.Model.Geom Refine.Model.Cavity

/-- `REF_STATUS` as used by the cavity model -/
abbrev St := Refine.Model.Cavity.St

variable {α : Type}

/-! ### small queries on the cell stores -/

/-- same node set (what `ref_sort_unique_int` + elementwise comparison decides in `ref_cell_with(_face)`) -/
def sameSet (a b : List Int) : Bool := a.all (fun v => b.contains v) && b.all (fun v => a.contains v)

def Face.nodes (f : Face) : List Int := [f.n0, f.n1, f.n2]

/-- `ref_cell_with(tri, nodes)`: first tri around `nodes[0]` with the node set of `nodes` -/
def triWith (g : Grid α) (ns : List Int) : Option (Nat × Tri) :=
  (g.tris.having Tri.nodes (ns.getD 0 (-1))).find? fun p => sameSet p.2.nodes ns

/-- `ref_cell_with(tet, nodes)` -/
def tetWith (g : Grid α) (ns : List Int) : Option (Nat × Tet) :=
  (g.tets.having Tet.nodes (ns.getD 0 (-1))).find? fun p => sameSet p.2.nodes ns

/-- `ref_cell_with_face(tet, face_nodes, &cell0, &cell1)`; `-1` = `REF_EMPTY`; `REF_INVALID` at the third hit -/
def withFace (g : Grid α) (f : Face) : St × Int × Int :=
  let hits : List Int := (g.tets.having Tet.nodes f.n0).flatMap fun p =>
    ((tetFaces p.2).filter fun h => sameSet (Face.nodes h) (Face.nodes f)).map fun _ => (p.1 : Int)
  match hits with
  | [] => (.ok, -1, -1)
  | [a] => (.ok, a, -1)
  | [a, b] => (.ok, a, b)
  | a :: b :: _ :: _ => (.invalid, a, b)

/-- `ref_cell_has_side(tri, n0, n1)` (every node pair of a tri is a side) -/
def triHasSide (g : Grid α) (n0 n1 : Int) : Bool := !(g.tris.having2 Tri.nodes n0 n1).isEmpty

/-- `ref_cell_has_side(edg, n0, n1)` -/
def edgHasSide (g : Grid α) (n0 n1 : Int) : Bool := !(g.edgs.having2 Edg.nodes n0 n1).isEmpty

/-! ### ref_swap_node23 -/

/-- the six `if`s of `ref_swap_node23` for one triangle -/
def node23Step (n0 n1 : Int) (acc : Int × Int) (t : Tri) : Int × Int :=
  let n2 := acc.1
  let n3 := acc.2
  let n2 := if n0 == t.n0 && n1 == t.n1 then t.n2 else n2
  let n2 := if n0 == t.n1 && n1 == t.n2 then t.n0 else n2
  let n2 := if n0 == t.n2 && n1 == t.n0 then t.n1 else n2
  let n3 := if n1 == t.n0 && n0 == t.n1 then t.n2 else n3
  let n3 := if n1 == t.n1 && n0 == t.n2 then t.n0 else n3
  let n3 := if n1 == t.n2 && n0 == t.n0 then t.n1 else n3
  (n2, n3)

/-- `ref_swap_node23(ref_grid, node0, node1, &node2, &node3)` -/
def swapNode23 (g : Grid α) (n0 n1 : Int) : St × Int × Int :=
  let tl := g.tris.having2 Tri.nodes n0 n1
  if tl.length > 2 then (.increase_limit, -1, -1) else
  if tl.length ≠ 2 then (.failure, -1, -1) else
  let r := tl.foldl (fun acc p => node23Step n0 n1 acc p.2) ((-1 : Int), (-1 : Int))
  if r.1 = -1 then (.failure, r.1, r.2) else
  if r.2 = -1 then (.failure, r.1, r.2) else (.ok, r.1, r.2)

/-! ### form functions -/

/-- the tri loop of `ref_cavity_form_edge_swap`: push, locality test, remember the face id of the last tri -/
def formSwapTris (g : Grid α) : Cav → Int → List (Nat × Tri) → Cav × Int × Bool
  | c, id, [] => (c, id, false)
  | c, id, (cell, tri) :: rest =>
    let c := { c with triList := c.triList ++ [(cell : Int)] }
    if !(tri.nodes.all g.nodeOwned) then ({ c with state := .partition_constrained }, id, true) else
    formSwapTris g c tri.id rest

/-- `ref_cavity_form_edge_swap` on a freshly created cavity (tet/tri grids: the pyramid/prism gate is in
    `Model/Mixed.lean`) -/
def formEdgeSwap (g : Grid α) (c : Cav) (n0 n1 node : Int) : St × Cav :=
  let c := { c with node := node }
  if !(g.nodeOwned n0) || !(g.nodeOwned n1) || !(g.nodeOwned node) then
    (.ok, { c with state := .partition_constrained }) else
  match formSplitTets g n0 n1 c (g.tets.having2 Tet.nodes n0 n1) with
  | (s, c, true) => (s, c)
  | (_, c, false) =>
    if !(triHasSide g n0 n1) then verifyBoth c else
    match swapNode23 g n0 n1 with
    | (.ok, n2, n3) =>
      let c := { c with surfNode := n2 }
      match formSwapTris g c (-1) (g.tris.having2 Tri.nodes n0 n1) with
      | (c, _, true) => (.ok, c)
      | (c, id, false) =>
        if c.triList.length ≠ 2 then (.failure, c) else
        if id = -1 then (.failure, c) else
        match insertSegs g c [⟨n0, n3, id⟩, ⟨n3, n1, id⟩, ⟨n1, n2, id⟩, ⟨n2, n0, id⟩] with
        | (.ok, c) => verifyBoth c
        | r => r
    | (s, _, _) => (s, c)

/-- `protected_cell` of `ref_cavity_form_insert*` -/
def protectedCell (protect : Int) (nodes : List Int) : Bool := nodes.contains protect

/-- the tet loop of `form_ball` / `form_insert` / `form_insert_tet`: cells around `site` without `protect`, faces
    without `node` are inserted -/
def formBallTets (g : Grid α) (node protect : Int) : Cav → List (Nat × Tet) → St × Cav × Bool
  | c, [] => (.ok, c, false)
  | c, (cell, tet) :: rest =>
    if protectedCell protect tet.nodes then formBallTets g node protect c rest else
    if c.tetList.contains (cell : Int) then (.failure, c, true) else
    let c := { c with tetList := c.tetList ++ [(cell : Int)] }
    if !(tet.nodes.all g.nodeOwned) then (.ok, { c with state := .partition_constrained }, true) else
    match insertFaces c ((tetFaces tet).filter fun f => !(f.has node)) with
    | (.ok, c) => formBallTets g node protect c rest
    | (s, c) => (s, c, true)

/-- the tri loop: sides 12, 20, 01 without `node`; `faceid = -1` (`REF_EMPTY`) accepts every tri -/
def formBallTris (g : Grid α) (node protect faceid : Int) : Cav → List (Nat × Tri) → St × Cav × Bool
  | c, [] => (.ok, c, false)
  | c, (cell, tri) :: rest =>
    if protectedCell protect tri.nodes then formBallTris g node protect faceid c rest else
    if faceid ≠ -1 ∧ faceid ≠ tri.id then formBallTris g node protect faceid c rest else
    if c.triList.contains (cell : Int) then (.failure, c, true) else
    let c := { c with triList := c.triList ++ [(cell : Int)] }
    if !(tri.nodes.all g.nodeOwned) then (.ok, { c with state := .partition_constrained }, true) else
    let segs := ([(tri.n1, tri.n2), (tri.n2, tri.n0), (tri.n0, tri.n1)].filter
      fun p => !(node == p.1 || node == p.2)).map fun p => (⟨p.1, p.2, tri.id⟩ : Seg)
    match insertSegs g c segs with
    | (.ok, c) => formBallTris g node protect faceid c rest
    | (s, c) => (s, c, true)

/-- `ref_cavity_form_ball` -/
def formBall (g : Grid α) (c : Cav) (node : Int) : St × Cav :=
  let c := { c with node := node }
  if !(g.nodeOwned node) then (.ok, { c with state := .partition_constrained }) else
  match formBallTets g node (-1) c (g.tets.having Tet.nodes node) with
  | (s, c, true) => (s, c)
  | (_, c, false) =>
    match formBallTris g node (-1) (-1) c (g.tris.having Tri.nodes node) with
    | (s, c, true) => (s, c)
    | (_, c, false) => verifyBoth c

/-- `ref_cavity_form_insert` (tris first, then tets) -/
def formInsert (g : Grid α) (c : Cav) (node site protect faceid : Int) : St × Cav :=
  let c := { c with node := node }
  if !(g.nodeOwned node) || !(g.nodeOwned site) then (.ok, { c with state := .partition_constrained }) else
  match formBallTris g node protect faceid c (g.tris.having Tri.nodes site) with
  | (s, c, true) => (s, c)
  | (_, c, false) =>
    match formBallTets g node protect c (g.tets.having Tet.nodes site) with
    | (s, c, true) => (s, c)
    | (_, c, false) => verifyBoth c

/-- `ref_cavity_form_insert_tet` -/
def formInsertTet (g : Grid α) (c : Cav) (node site protect : Int) : St × Cav :=
  let c := { c with node := node }
  if !(g.nodeOwned node) || !(g.nodeOwned site) then (.ok, { c with state := .partition_constrained }) else
  match formBallTets g node protect c (g.tets.having Tet.nodes site) with
  | (s, c, true) => (s, c)
  | (_, c, false) => verifyBoth c

/-! ### add_tet_without_faceid -/

/-- face loop of `ref_cavity_add_tet_without_faceid` -/
def addTetWoFaces (g : Grid α) (faceid : Int) : Cav → List Face → St × Cav
  | c, [] => (.ok, c)
  | c, f :: t =>
    if !((Face.nodes f).all g.nodeOwned) then (.ok, { c with state := .partition_constrained }) else
    match triWith g (Face.nodes f) with
    | some p =>
      if p.2.id = faceid then addTetWoFaces g faceid c t else
      match insertFace c f with
      | (.ok, c) => if c.state ≠ .unknown then (.ok, c) else addTetWoFaces g faceid c t
      | r => r
    | none =>
      match insertFace c f with
      | (.ok, c) => if c.state ≠ .unknown then (.ok, c) else addTetWoFaces g faceid c t
      | r => r

/-- `ref_cavity_add_tet_without_faceid` (static) -/
def addTetWithoutFaceid (g : Grid α) (c : Cav) (cell faceid : Int) : St × Cav :=
  match g.tets.get? cell with
  | none => (.failure, c)
  | some tet =>
    if c.tetList.contains cell then (.ok, c) else
    addTetWoFaces g faceid { c with tetList := c.tetList ++ [cell] } (tetFaces tet)

/-! ### visibility of one face, enlarge_face, enlarge_seg -/

section vis
variable [Scalar α]

/-- `ref_cavity_visible(ref_cavity, face, &visible)`: `none` = the status of `ref_node_tet_vol` (`REF_INVALID`) -/
def faceVisible (g : Grid α) (c : Cav) (f : Face) : Option Bool :=
  match tetVolAt g f.n0 f.n1 f.n2 c.node with
  | none => none
  | some v => some (!(v <=. minVolume))

end vis

/-- `ref_cavity_enlarge_face(ref_cavity, face)` (the qua/pyr/pri/hex gate is `Mixed.cavityFaceGate`) -/
def enlargeFace (g : Grid α) (c : Cav) (face : Nat) : St × Cav :=
  match c.faces.rows.getD face none with
  | none => (.failure, c)
  | some f =>
    if !((Face.nodes f).all g.nodeOwned) then (.ok, { c with state := .partition_constrained }) else
    match withFace g f with
    | (.ok, t0, t1) =>
      if t0 = -1 then (.ok, { c with state := .boundary_constrained }) else
      if t1 = -1 then (.ok, { c with state := .boundary_constrained }) else
      let have0 := c.tetList.contains t0
      let have1 := c.tetList.contains t1
      match (if have0 then addTet g c t1 else (.ok, c)) with
      | (.ok, c1) => if have1 then addTet g c1 t0 else (.ok, c1)
      | r => r
    | (s, _, _) => (s, c)

/-- `ref_cavity_enlarge_seg(ref_cavity, seg)` -/
def enlargeSeg (g : Grid α) (c : Cav) (seg : Nat) : St × Cav :=
  match c.segs.rows.getD seg none with
  | none => (.failure, c)
  | some s =>
    match g.tris.having2 Tri.nodes s.n0 s.n1 with
    | [p0, p1] =>
      let have0 := c.triList.contains (p0.1 : Int)
      let have1 := c.triList.contains (p1.1 : Int)
      if have0 == have1 then (.failure, c) else
      match (if have0 then addTri g c (p1.1 : Int) else (.ok, c)) with
      | (.ok, c1) => if have1 then addTri g c1 (p0.1 : Int) else (.ok, c1)
      | r => r
    | _ :: _ :: _ :: _ => (.increase_limit, c)
    | _ => (.ok, { c with state := .boundary_constrained })

/-- `ref_cavity_manifold(ref_cavity, &manifold)`: no new tri / tet repeats a cell that stays -/
def cavManifold (g : Grid α) (c : Cav) : Bool :=
  let sn := c.segNode
  let segOk := c.validSegs.all fun s =>
    (sn == s.n0 || sn == s.n1) ||
    (match triWith g [s.n0, s.n1, sn] with
     | some p => c.triList.contains (p.1 : Int)
     | none => true)
  let faceOk := c.validFaces.all fun f =>
    f.has c.node ||
    (match tetWith g [f.n0, f.n1, f.n2, c.node] with
     | some p => c.tetList.contains (p.1 : Int)
     | none => true)
  segOk && faceOk

/-! ### the conformity ledger of a tet + tri cavity (executable, evaluated by the run-level driver on every
       `cavity_replace begin` record) -/

/-- the cone faces `(s0, s1, seg_node)` of the live segs that are not attached to the seg node: the faces of the
    boundary tris `ref_cavity_replace` creates -/
def segCone (c : Cav) : List Face :=
  c.validSegs.filterMap fun s =>
    if c.segNode == s.n0 || c.segNode == s.n1 then none else some ⟨s.n0, s.n1, c.segNode⟩

/-- `live faces + removed tris` against `cone of the live segs + faces of the removed tets`: every unordered face has
    signed multiplicity zero.  This is the chain identity `F − cone(∂S) = ∂T − S` under which the replacement keeps
    the signed boundary of the mesh INCLUDING its boundary tris (`replace_conforming_boundary`). -/
def ledgerOk (c : Cav) (ts : List Tet) (ss : List Tri) : Bool :=
  let pos := c.validFaces ++ ss.map fun t => (⟨t.n0, t.n1, t.n2⟩ : Face)
  let neg := segCone c ++ ts.flatMap tetFaces
  (pos ++ neg).all fun f => signedCount pos neg (sort3s f.n0 f.n1 f.n2).1 == 0

/-- the listed cells, looked up in the grid (dead cells are dropped: `ref_cavity_replace` fails on them) -/
def listedTets (g : Grid α) (c : Cav) : List Tet := c.tetList.filterMap fun cell => g.tets.get? cell
def listedTris (g : Grid α) (c : Cav) : List Tri := c.triList.filterMap fun cell => g.tris.get? cell

/-- `ledgerOk` on the cells the cavity lists -/
def ledgerOkAt (g : Grid α) (c : Cav) : Bool := ledgerOk c (listedTets g c) (listedTris g c)

/-- three distinct nodes -/
def Face.nondeg (f : Face) : Bool := f.n0 != f.n1 && f.n1 != f.n2 && f.n2 != f.n0

/-- the certificate the run-level driver evaluates on every `cavity_replace begin` record (and the function-level
    driver on request): listed cells live, live faces non-degenerate, ledger equation.  With it an accepted
    `ref_cavity_replace` is a conforming step (`certified_step`). -/
def certOk (g : Grid α) (c : Cav) : Bool :=
  c.tetList.all (fun cell => (g.tets.get? cell).isSome) && c.triList.all (fun cell => (g.tris.get? cell).isSome) &&
  c.validFaces.all Face.nondeg && ledgerOkAt g c

/-- every live seg carries the face id of a listed (to be removed) boundary tri that has the seg's two nodes: the
    face ids the new boundary tris inherit are ids of tris that go away (evaluated by the run-level driver) -/
def segIdsOk (g : Grid α) (c : Cav) : Bool :=
  c.validSegs.all fun s => (listedTris g c).any fun t => t.id == s.id

/-! ### the enlarge loops -/

/-- result of a modelled C function that contains a `while (keep_growing)` loop -/
inductive Res where
  /-- the C function returned `s` with the cavity `c` -/
  | ret (s : St) (c : Cav)
  /-- a sweep set `keep_growing` and left the cavity exactly as it was: the C loops forever -/
  | hang (c : Cav)
  /-- a model budget ran out (never happens under `CavOK`, theorems `enlargeVisible_terminates` / `enlargeConforming_terminates`) -/
  | fuel (c : Cav)
  deriving Repr, DecidableEq

inductive Scan where
  /-- the `each_ref_cavity_valid_*` loop reached the end; `stall` = some enlarge call changed nothing -/
  | none (stall : Bool)
  /-- the function returns from inside the loop with this status and cavity -/
  | exit (s : St) (c : Cav)
  /-- the enlarge call at slot `j` changed the cavity to `c'` (status ok, state still unknown) -/
  | hit (j : Nat) (c' : Cav) (stall : Bool)

inductive SweepRes where
  | done (c : Cav) (grew : Bool)
  | exit (s : St) (c : Cav)
  | fuel (c : Cav)

section loops
variable [Scalar α]

/-- the part of one `each_ref_cavity_valid_face` sweep of `ref_cavity_enlarge_visible` during which the cavity does
    not change: slots from `i` on (rows `rows = c.faces.rows.drop i`), up to and including the first enlarge call that
    changes something or returns -/
def scanVis (g : Grid α) (c : Cav) : List (Option Face) → Nat → Bool → Scan
  | [], _, st => .none st
  | none :: t, i, st => scanVis g c t (i + 1) st
  | some f :: t, i, st =>
    if f.has c.node then scanVis g c t (i + 1) st else
    match faceVisible g c f with
    | none => .exit .invalid c
    | some true => scanVis g c t (i + 1) st
    | some false =>
      match enlargeFace g c i with
      | (.ok, c') =>
        if c'.state ≠ .unknown then .exit .ok c' else
        if c' = c then scanVis g c t (i + 1) true else .hit i c' st
      | (s, c') => .exit s c'

/-- one sweep; `adds` bounds the number of enlarge calls that change the cavity -/
def visSweep (g : Grid α) : Nat → Cav → Nat → Bool → SweepRes
  | 0, c, _, _ => .fuel c
  | k + 1, c, i, grew =>
    match scanVis g c (c.faces.rows.drop i) i false with
    | .none st => .done c (grew || st)
    | .exit s c' => .exit s c'
    | .hit j c' _ => visSweep g k c' (j + 1) true

/-- the `while (keep_growing)` loop: `some c` = loop left normally, go on with the manifold test -/
def visLoop (g : Grid α) (adds : Nat) : Nat → Cav → Res ⊕ Cav
  | 0, c => .inl (.fuel c)
  | n + 1, c =>
    match visSweep g adds c 0 false with
    | .done c' grew =>
      if !grew then .inr c' else
      if c' = c then .inl (.hang c) else visLoop g adds n c'
    | .exit s c' => .inl (.ret s c')
    | .fuel c' => .inl (.fuel c')

/-- the budgets: every sweep but the last adds a tet, and there are only so many -/
def visBudget (g : Grid α) : Nat := g.tets.slots.rows.length + 1

/-- `ref_cavity_enlarge_visible` -/
def enlargeVisible (g : Grid α) (c : Cav) : Res :=
  if !(g.nodeOwned c.node) then .ret .failure c else
  if c.state ≠ .unknown then .ret .ok c else
  match verifyFaceManifold c with
  | (.ok, c) =>
    match visLoop g (visBudget g) (visBudget g) c with
    | .inl r => r
    | .inr c =>
      if !(cavManifold g c) then .ret .ok { c with state := .manifold_constrained } else
      let r := verifyFaceManifold { c with state := .visible }
      .ret r.1 r.2
  | (s, c) => .ret s c

/-- same for `ref_cavity_enlarge_conforming`; `conf c s` = `ref_cavity_conforming(ref_cavity, seg, &conforming)` -/
def scanConf (g : Grid α) (conf : Cav → Seg → Bool) (c : Cav) : List (Option Seg) → Nat → Bool → Scan
  | [], _, st => .none st
  | none :: t, i, st => scanConf g conf c t (i + 1) st
  | some s :: t, i, st =>
    if c.segNode == s.n0 || c.segNode == s.n1 then scanConf g conf c t (i + 1) st else
    if conf c s then scanConf g conf c t (i + 1) st else
    match enlargeSeg g c i with
    | (.ok, c') =>
      if c'.state ≠ .unknown then .exit .ok c' else
      if c' = c then scanConf g conf c t (i + 1) true else .hit i c' st
    | (s, c') => .exit s c'

def confSweep (g : Grid α) (conf : Cav → Seg → Bool) : Nat → Cav → Nat → Bool → SweepRes
  | 0, c, _, _ => .fuel c
  | k + 1, c, i, grew =>
    match scanConf g conf c (c.segs.rows.drop i) i false with
    | .none st => .done c (grew || st)
    | .exit s c' => .exit s c'
    | .hit j c' _ => confSweep g conf k c' (j + 1) true

def confLoop (g : Grid α) (conf : Cav → Seg → Bool) (adds : Nat) : Nat → Cav → Res ⊕ Cav
  | 0, c => .inl (.fuel c)
  | n + 1, c =>
    match confSweep g conf adds c 0 false with
    | .done c' grew =>
      if !grew then .inr c' else
      if c' = c then .inl (.hang c) else confLoop g conf adds n c'
    | .exit s c' => .inl (.ret s c')
    | .fuel c' => .inl (.fuel c')

def confBudget (g : Grid α) : Nat := g.tris.slots.rows.length + 1

/-- `ref_cavity_enlarge_conforming` -/
def enlargeConforming (g : Grid α) (conf : Cav → Seg → Bool) (c : Cav) : Res :=
  if !(g.nodeOwned c.segNode) then .ret .failure c else
  if c.state ≠ .unknown then .ret .ok c else
  if c.segs.n = 0 ∧ c.faces.n = 0 ∧ c.triList.isEmpty ∧ c.tetList.isEmpty then .ret .ok { c with state := .noop } else
  match verifySegManifold c with
  | (.ok, c) =>
    match confLoop g conf (confBudget g) (confBudget g) c with
    | .inl r => r
    | .inr c =>
      if !(cavManifold g c) then .ret .ok { c with state := .manifold_constrained } else
      let r := verifySegManifold { c with state := .visible }
      .ret r.1 r.2
  | (s, c) => .ret s c

/-- `ref_cavity_enlarge_combined` -/
def enlargeCombined (g : Grid α) (conf : Cav → Seg → Bool) (c : Cav) : Res :=
  match enlargeConforming g conf c with
  | .ret .ok c => if c.state ≠ .visible then .ret .ok c else enlargeVisible g { c with state := .unknown }
  | r => r

end loops

/-! ### acceptance tests -/

section accept
variable [Scalar α]

/-- metric side of `REF_NODE` (the grid carries the coordinates) -/
structure Met (α : Type) where
  met : List (M6 α)
  logm : List (M6 α)

/-- the view of the nodes `ref_node_ratio` / `ref_node_tet_quality` read -/
def nodesOf (g : Grid α) (m : Met α) : Collapse.Nodes α :=
  { xyz := g.nodes.rows.map fun r => match r with | some n => n.xyz | none => V3.zero
    met := m.met, logm := m.logm
    owned := g.nodes.rows.map fun r => match r with | some n => n.owned | none => true }

/-- `ref_cavity_ratio(ref_cavity, &allowed)`: every edge from the cavity node to a live, unattached face stays inside
    `[post_min_ratio, post_max_ratio]` -/
def cavRatio (nd : Collapse.Nodes α) (postMin postMax : α) (c : Cav) : Bool :=
  c.validFaces.all fun f =>
    f.has c.node ||
    (Face.nodes f).all fun v =>
      let r := Collapse.nodeRatio nd c.node.toNat v.toNat
      !(r <. postMin || postMax <. r)

def stOf : Refine.Model.Status → St
  | .ok => .ok | .failure => .failure | .null => .null | .invalid => .invalid | .div_zero => .div_zero
  | .not_found => .not_found | .implement => .implement | .increase_limit => .increase_limit
  | .ill_conditioned => .ill_conditioned

/-- `n++; min_quality = MIN(min_quality, quality)` over a list of node quadruples, stopping at the first error -/
def minQuality (nd : Collapse.Nodes α) (minVol : α) : α → List (List Nat) → St × α
  | q, [] => (.ok, q)
  | q, ns :: rest =>
    match Collapse.tetJacQuality nd minVol ns with
    | (.ok, x) => minQuality nd minVol (Scalar.cmin q x) rest
    | (s, _) => (stOf s, q)

/-- first loop of `ref_cavity_change`: the listed tets (`ref_cell_nodes` gives `REF_INVALID` on a dead cell) -/
def delQuality (g : Grid α) (nd : Collapse.Nodes α) (minVol : α) : α → List Int → St × α
  | q, [] => (.ok, q)
  | q, cell :: rest =>
    match g.tets.get? cell with
    | none => (.invalid, q)
    | some t =>
      match Collapse.tetJacQuality nd minVol (t.nodes.map Int.toNat) with
      | (.ok, x) => delQuality g nd minVol (Scalar.cmin q x) rest
      | (s, _) => (stOf s, q)

/-- the node quadruples of the tets `ref_cavity_replace` would create -/
def addQuads (c : Cav) : List (List Nat) :=
  (c.validFaces.filter fun f => !(f.has c.node)).map fun f => [f.n0.toNat, f.n1.toNat, f.n2.toNat, c.node.toNat]

/-- `ref_cavity_change(ref_cavity, &min_del, &min_add)`; on an error return the outputs hold what the C had stored
    (`-2.0` for a slot not yet written) -/
def cavChange (g : Grid α) (nd : Collapse.Nodes α) (minVol : α) (c : Cav) : St × α × α :=
  let m2 : α := Scalar.ofInt (-2)
  let one : α := Scalar.ofInt 1
  match delQuality g nd minVol one c.tetList with
  | (.ok, minDel) =>
    match minQuality nd minVol one (addQuads c) with
    | (.ok, minAdd) => (.ok, minDel, minAdd)
    | (s, _) => (s, minDel, m2)
  | (s, _) => (s, m2, m2)

/-- `ref_cavity_normdev` without a CAD model: `ref_geom_tri_norm_deviation` fails on the first listed tri
    (`REF_NOT_FOUND` from `ref_geom_cell_tuv`, or succeeds with `-2.0` on a zero-area tri — not modelled: the
    status is a parameter); with an empty `tri_list` the seg loop answers "not improved" at the first unattached
    seg, and `2.0 > 2.0` is false otherwise -/
def cavNormdevNoGeom (triStatus : St) (c : Cav) : St × Bool :=
  if !c.triList.isEmpty then (triStatus, true) else (.ok, false)

end accept

/-! ### callers: from `ref_cavity_create` to `ref_cavity_free` -/

section callers
variable [Scalar α]

/-- thresholds of `ref_grid_adapt` read by the cavity callers -/
structure Adapt (α : Type) where
  postMin : α
  postMax : α
  swapMinQuality : α
  swapMaxDegree : Nat
  collapseQualityAbsolute : α
  splitQualityAbsolute : α

/-- one candidate of `ref_cavity_swap_tet_pass` after the gates: `some min_add` = candidate accepted for the
    `best` competition (`min_add - min_del > 0.0001`); a status other than ok is an `RSS` failure that ends the pass -/
def swapTetTrial (g : Grid α) (nd : Collapse.Nodes α) (a : Adapt α) (n0 n1 n2 : Int) : St × Option α :=
  match formEdgeSwap g Cav.create n0 n1 n2 with
  | (.ok, c) =>
    if c.state = .inconsistent then (.ok, none) else
    match checkVisible g c with
    | (.ok, c) =>
      if c.state ≠ .visible then (.ok, none) else
      if !(cavRatio nd a.postMin a.postMax c) then (.ok, none) else
      match cavChange g nd minVolume c with
      | (.ok, minDel, minAdd) =>
        if Scalar.ofDec 1 (-4) <. (minAdd -. minDel) then (.ok, some minAdd) else (.ok, none)
      | (s, _, _) => (s, none)
    | _ => (.ok, none)
  | _ => (.ok, none)

/-- the twelve (edge, node) choices of a tet, `others[12][3]` -/
def others12 : List (Nat × Nat × Nat) :=
  [(0, 1, 2), (0, 1, 3), (0, 2, 1), (0, 2, 3), (0, 3, 1), (0, 3, 2),
   (1, 2, 0), (1, 2, 3), (1, 3, 0), (1, 3, 2), (2, 3, 0), (2, 3, 1)]

/-- `ref_cell_local_gem(tet, node0, node1)` -/
def localGem (g : Grid α) (n0 n1 : Int) : Bool :=
  (g.tets.having2 Tet.nodes n0 n1).all fun p => p.2.nodes.all g.nodeOwned

/-- the `best` selection: first strictly larger `min_add` wins; `(status, best, best_other)` -/
def swapTetBest (g : Grid α) (nd : Collapse.Nodes α) (a : Adapt α) (gate : Int → Int → Bool) (t : Tet) :
    St × Option (Int × Int × Int) :=
  let pick := others12.foldl (fun (acc : St × Option (Int × Int × Int) × α) o =>
    if acc.1 ≠ .ok then acc else
    let e0 := t.nodes.getD o.1 (-1); let e1 := t.nodes.getD o.2.1 (-1); let e2 := t.nodes.getD o.2.2 (-1)
    if !(gate e0 e1) then acc else
    if !(localGem g e0 e1) then acc else
    if (g.tets.having2 Tet.nodes e0 e1).length > a.swapMaxDegree then acc else
    match swapTetTrial g nd a e0 e1 e2 with
    | (.ok, some q) => if acc.2.2 <. q then (.ok, some (e0, e1, e2), q) else acc
    | (.ok, none) => acc
    | (s, _) => (s, acc.2))
    ((.ok : St), (none : Option (Int × Int × Int)), (Scalar.ofInt (-2) : α))
  (pick.1, pick.2.1)

/-- loop body of `ref_cavity_swap_tet_pass` for one tet whose quality is below `swap_min_quality`
    (`gate n0 n1` = `ref_cavity_mixed && ref_cavity_edge_swap_boundary`): the grid after the body.
    The status is that of the `RSS`-guarded calls. -/
def swapTetCell (g : Grid α) (nd : Collapse.Nodes α) (a : Adapt α) (gate : Int → Int → Bool) (t : Tet) :
    St × Grid α :=
  match swapTetBest g nd a gate t with
  | (.ok, none) => (.ok, g)
  | (.ok, some (e0, e1, e2)) =>
    match formEdgeSwap g Cav.create e0 e1 e2 with
    | (.ok, c) =>
      match checkVisible g c with
      | (.ok, c) => let r := replace g c; (r.1, r.2.2)
      | (s, _) => (s, g)
    | (s, _) => (s, g)
  | (s, _) => (s, g)

/-- the `!allowed` branch of `ref_collapse_to_remove_node1` for one candidate `node0`: `(status, replaced, grid)` -/
def collapseCavityPath (g : Grid α) (nd : Collapse.Nodes α) (a : Adapt α) (n0 n1 : Int) : St × Bool × Grid α :=
  match formEdgeCollapse g Cav.create n0 n1 with
  | (.ok, c) =>
    if c.state = .inconsistent then (.ok, false, g) else
    match enlargeVisible g c with
    | .ret .ok c =>
      if c.state ≠ .visible then (.ok, false, g) else
      match cavChange g nd minVolume c with
      | (.ok, _, minAdd) =>
        if cavRatio nd a.postMin a.postMax c && (a.collapseQualityAbsolute <. minAdd) then
          let r := replace g c
          (r.1, r.1 == .ok, r.2.2)
        else (.ok, false, g)
      | (s, _, _) => (s, false, g)
    | .ret s _ => (s, false, g)
    | _ => (.failure, false, g)
  | _ => (.ok, false, g)

/-- the `try_cavity` branch of `ref_split_pass` between `ref_cavity_create` and `ref_cavity_free` (the trial vertex
    `newNode` is removed by the caller when `replaced = false`) -/
def splitCavityPath (g : Grid α) (nd : Collapse.Nodes α) (a : Adapt α) (conf : Cav → Seg → Bool) (hasEdge : Bool)
    (n0 n1 newNode : Int) : St × Bool × Grid α :=
  match formEdgeSplit g Cav.create n0 n1 newNode with
  | (.ok, c) =>
    -- a failing `enlarge_combined` is noted and skipped (`REF_WHERE`), the state decides
    let c' := match enlargeCombined g conf c with
      | .ret _ c' => some c'
      | _ => none
    match c' with
    | none => (.failure, false, g)
    | some c =>
      if c.state ≠ .visible then (.ok, false, g) else
      match cavChange g nd minVolume c with
      | (.ok, _, minAdd) =>
        if (cavRatio nd a.postMin a.postMax c || hasEdge) && (a.splitQualityAbsolute <. minAdd) then
          let r := replace g c
          (r.1, r.1 == .ok, r.2.2)
        else (.ok, false, g)
      | (s, _, _) => (s, false, g)
  | (s, _) => (s, false, g)

end callers

end Refine.Model.Cavity2
