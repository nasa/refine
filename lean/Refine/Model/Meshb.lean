import Refine.Gen.CellTables
import Refine.Gen.MeshbKeywords
import Refine.Gen.PyrPerm
import Refine.Gen.CodecConsts

/-!
  L7 Codec, part 1: the binary libMeshb mesh file (`.meshb`) as written by
  `ref_export_meshb` (ref_export.c) and read by `ref_import_meshb_header`,
  `ref_import_meshb_jump`, `ref_import_meshb` (ref_import.c).

  * bytes are `List UInt8`; doubles travel as `UInt64` bit patterns;
  * the reader model mirrors the C reader's *validation logic*: which `fread`s are
    checked (`REIS(1, fread…)` → `failure`), which counts and indices are trusted
    (cell vertex indices are only checked for `< 0`, by `ref_adj_add`), the header scan
    that follows `next_position` (with explicit fuel: exhaustion = the C loop does not
    return, reported as `Status.diverge`), the `REIS(next_position, ftell)` checks;
  * `Cfg` selects the reader as it was before the C20 `fix:` commits (`Cfg.faithful`, `decodeMeshb`: the trust
    described above) or with the checks /repo has since (`Cfg.fixed`, `decodeMeshbFixed`), see `Props/C20.lean`.

  Core-only imports: this file is linked into `refdrv`.
-/
namespace Refine.Model.Meshb
open Refine.Gen

/-- `REF_STATUS` without `REF_SUCCESS`, plus `diverge` (not a C status: the modelled C loop
    does not terminate; the model ran out of fuel that provably suffices otherwise). -/
inductive Status
  | failure | null | invalid | div_zero | not_found | implement | increase_limit | ill_conditioned
  | diverge
  /-- not a C status either: the C has undefined behaviour at this point (signed overflow) -/
  | undefined
  deriving DecidableEq, Repr, Inhabited

def Status.name : Status → String
  | .failure => "failure" | .null => "null" | .invalid => "invalid" | .div_zero => "div_zero"
  | .not_found => "not_found" | .implement => "implement" | .increase_limit => "increase_limit"
  | .ill_conditioned => "ill_conditioned" | .diverge => "hang" | .undefined => "ub"

abbrev Bytes := List UInt8

deriving instance DecidableEq for Except

/-! ## little-endian words -/

/-- `k` little-endian bytes of `n` (low `8k` bits) -/
def encLE : Nat → Nat → Bytes
  | 0, _ => []
  | k + 1, n => UInt8.ofNat (n % 256) :: encLE k (n / 256)

def decLE : Bytes → Nat
  | [] => 0
  | b :: bs => b.toNat + 256 * decLE bs

/-- two's complement: unsigned `bits`-bit pattern → signed value -/
def toSigned (bits : Nat) (n : Nat) : Int :=
  if n < 2 ^ (bits - 1) then (n : Int) else (n : Int) - (2 ^ bits : Nat)

/-- two's complement: signed value → unsigned `bits`-bit pattern (C conversion to a narrower/wider int) -/
def ofSigned (bits : Nat) (x : Int) : Nat := (x % ((2 ^ bits : Nat) : Int)).toNat

/-- C `(REF_INT)x` for an integer `x` of any width (wrap to 32 bits) -/
def wrap32 (x : Int) : Int := toSigned 32 (ofSigned 32 x)

def le32 (n : Nat) : Bytes := encLE 4 n
def le64 (n : Nat) : Bytes := encLE 8 n

/-! ## version-dependent field widths (ref_export_meshb / ref_import_meshb) -/

/-- `int_size`: 8 for version 4, else 4 -/
def intSize (v : Nat) : Nat := if 3 < v then 8 else 4
/-- `fp_size` (file position width): 8 for versions 3 and 4, else 4 -/
def fpSize (v : Nat) : Nat := if 2 < v then 8 else 4
/-- `header_size = 4 + fp_size + int_size`: keyword, next position, count -/
def headerSize (v : Nat) : Nat := 4 + fpSize v + intSize v

/-- `ref_export_meshb_int`: `REF_INT` written as `int` (v<4) or sign-extended `long` (v4) -/
def encInt (v : Nat) (x : Int) : Bytes :=
  if v < 4 then encLE 4 (ofSigned 32 x) else encLE 8 (ofSigned 64 x)

/-- `ref_export_meshb_next_position` (the `REF_INVALID` branch for positions outside int32 in
    versions 1,2 is not modelled: `WellFormed` bounds the file size instead) -/
def encPos (v : Nat) (p : Int) : Bytes :=
  if 3 ≤ v then encLE 8 (ofSigned 64 p) else encLE 4 (ofSigned 32 p)

def encF64 (u : UInt64) : Bytes := encLE 8 u.toNat

/-! ## the mesh as the file sees it -/

structure Vertex where
  x : UInt64
  y : UInt64
  z : UInt64
  deriving DecidableEq, Repr, Inhabited

/-- one geometry association (`ref_geom` record): `type` 0 node, 1 edge, 2 face -/
structure GeomRec where
  type : Nat
  id : Int
  gref : Int
  node : Int
  p0 : UInt64
  p1 : UInt64
  deriving DecidableEq, Repr, Inhabited

/-- The content of a REF_GRID that a `.meshb` file stores.
    `cells` has one entry per cell group in `REF_CELL_TYPE` order (16 groups); a cell is its
    `size_per` integers: `node_per` 0-based vertex indices, followed by the id for the groups
    with `last_node_is_an_id` (edges, triangles, quads); volume cells carry no id.
    `geoms` is in `ref_geom` index order. -/
structure MeshFile where
  twod : Bool
  nodes : List Vertex
  cells : List (List (List Int))
  geoms : List GeomRec
  cad : Bytes
  deriving DecidableEq, Repr, Inhabited

/-- per cell group: name, meshb keyword, node_per, last_node_is_an_id, is it REF_CELL_PYR -/
structure CellInfo where
  name : String
  kw : Nat
  nodePer : Nat
  lastId : Bool
  isPyr : Bool
  deriving DecidableEq, Repr, Inhabited

def CellInfo.sizePer (c : CellInfo) : Nat := c.nodePer + (if c.lastId then 1 else 0)

/-- the 16 cell groups in `each_ref_grid_all_ref_cell` order, from the generated tables -/
def cellInfos : List CellInfo :=
  (CellTables.all.zip MeshbKeywords.keywords).map fun (c, k) =>
    { name := c.name, kw := k.2, nodePer := c.nodePer, lastId := c.lastNodeIsId, isPyr := c.name == "pyr" }

/-- `out[i] = in[p[i]]` -/
def permute (p : List Nat) (xs : List Int) : List Int := p.map fun i => xs.getD i 0

/-! ## writer: `ref_export_meshb` -/

/-- A keyword section as the writer produces it: keyword code, the section length that the C
    computes *by formula* for `next_position` (measured from the keyword), the bytes after the
    `next_position` field. -/
structure Sec where
  kw : Nat
  declLen : Nat
  body : Bytes
  deriving DecidableEq, Repr

def Sec.bytes (v : Nat) (pos : Nat) (s : Sec) : Bytes :=
  le32 s.kw ++ encPos v ((pos + s.declLen : Nat) : Int) ++ s.body

def dim (m : MeshFile) : Nat := if m.twod then 2 else 3

def secDim (v : Nat) (m : MeshFile) : Sec :=
  { kw := 3, declLen := 4 + fpSize v + 4, body := le32 (dim m) }

def encVertex (v : Nat) (twod : Bool) (p : Vertex) : Bytes :=
  encF64 p.x ++ encF64 p.y ++ (if twod then [] else encF64 p.z) ++ encInt v CodecConsts.vertexId

def secVerts (v : Nat) (m : MeshFile) : Sec :=
  { kw := 4, declLen := headerSize v + m.nodes.length * (dim m * 8 + intSize v),
    body := encInt v m.nodes.length ++ m.nodes.flatMap (encVertex v m.twod) }

/-- one cell record: `node_per + 1` integers, vertices 1-based, pyramids shuffled, volume id constant -/
def encCell (v : Nat) (ci : CellInfo) (cell : List Int) : Bytes :=
  let nodes := (cell.take ci.nodePer).map (· + 1)
  let nodes := if ci.isPyr then permute PyrPerm.exportMeshb nodes else nodes
  let id := if ci.lastId then cell.getD ci.nodePer 0 else CodecConsts.volumeId
  (nodes ++ [id]).flatMap (encInt v)

def secCells (v : Nat) (ci : CellInfo) (cells : List (List Int)) : Sec :=
  { kw := ci.kw, declLen := headerSize v + cells.length * (intSize v * (ci.nodePer + 1)),
    body := encInt v cells.length ++ cells.flatMap (encCell v ci) }

/-- C `(double)i` for a 32-bit `i`: exact, as an IEEE-754 binary64 bit pattern -/
def i2d (x : Int) : UInt64 :=
  if x = 0 then 0 else
    let s : Nat := if x < 0 then 1 else 0
    let m := x.natAbs
    let e := m.log2
    UInt64.ofNat (s * 2 ^ 63 + (e + 1023) * 2 ^ 52 + (m * 2 ^ (52 - e) - 2 ^ 52))

/-- C `(REF_INT)d` as compiled for x86-64 (`cvttsd2si`): truncation toward zero, and the
    "integer indefinite" value `INT_MIN` for NaN, infinities and magnitudes ≥ 2^31 -/
def d2i (b : UInt64) : Int :=
  let n := b.toNat
  let s := n / 2 ^ 63
  let e := (n / 2 ^ 52) % 2048
  let mant := n % 2 ^ 52
  if e < 1023 then 0
  else if 1023 + 31 ≤ e then -(2 ^ 31 : Int)
  else
    let mag : Nat := (2 ^ 52 + mant) / 2 ^ (52 - (e - 1023))
    if s = 1 then -(mag : Int) else (mag : Int)

def encGeom (v : Nat) (t : Nat) (g : GeomRec) : Bytes :=
  encInt v (g.node + 1) ++ encInt v g.id ++
  (if 0 < t then encF64 g.p0 else []) ++ (if 1 < t then encF64 g.p1 else []) ++
  (if 0 < t then encF64 (i2d g.gref) else [])

def geomsOf (t : Nat) (gs : List GeomRec) : List GeomRec := gs.filter (·.type == t)

def secGeom (v : Nat) (t : Nat) (gs : List GeomRec) : Sec :=
  { kw := 40 + t, declLen := headerSize v + gs.length * (intSize v * 2 + 8 * t + (if 0 < t then 8 else 0)),
    body := encInt v gs.length ++ gs.flatMap (encGeom v t) }

def secCad (v : Nat) (cad : Bytes) : Sec :=
  { kw := 126, declLen := headerSize v + cad.length, body := encInt v cad.length ++ cad }

/-- every section the writer knows, in writing order, with "is it written" (count positive) -/
def master (v : Nat) (m : MeshFile) : List (Bool × Sec) :=
  [(true, secDim v m), (!m.nodes.isEmpty, secVerts v m)] ++
  (cellInfos.zip m.cells).map (fun p => (!p.2.isEmpty, secCells v p.1 p.2)) ++
  [0, 1, 2].map (fun t => (!(geomsOf t m.geoms).isEmpty, secGeom v t (geomsOf t m.geoms))) ++
  [(!m.cad.isEmpty, secCad v m.cad)]

/-- the sections actually written -/
def sections (v : Nat) (m : MeshFile) : List Sec := ((master v m).filter (·.1)).map (·.2)

/-- sections laid out from file offset `pos`; then `End` (keyword 54, next position 0) -/
def layout (v : Nat) : Nat → List Sec → Bytes
  | _, [] => le32 54 ++ encPos v 0
  | pos, s :: ss => s.bytes v pos ++ layout v (pos + (s.bytes v pos).length) ss

/-- `ref_export_meshb` for `ref_grid_meshb_version = v` (2, 3 or 4) -/
def encodeMeshb (v : Nat) (m : MeshFile) : Bytes :=
  le32 1 ++ le32 v ++ layout v 8 (sections v m)

/-! ## reader -/

/-- which reader: the faithful one (all `false`) or with maintainer-style checks added -/
structure Cfg where
  /-- header scan accepts a hop only if `next_position > position` or `next_position = 0` -/
  checkProgress : Bool := false
  /-- cell records / geometry records are rejected unless `0 ≤ vertex index < nnode` -/
  checkIndex : Bool := false
  /-- solb readers: the declared vertex count must be a non-negative `int` and `count × ldim × 8`
      bytes must be left in the file *before* anything is sized by it -/
  checkCount : Bool := false
  /-- scalar solb reader: for a `SolAtVertices` section that declares no field (`ldim = 0`) the per-vertex loop
      is skipped (54a1e7c) -/
  checkFields : Bool := false
  /-- `malloc` of more than this many bytes returns NULL (the harness runs with this cap) -/
  allocCap : Nat := 2 ^ 30
  deriving DecidableEq, Repr

def Cfg.faithful : Cfg := {}
def Cfg.fixed : Cfg := { checkProgress := true, checkIndex := true, checkCount := true, checkFields := true }

abbrev P (α : Type) := Bytes → Except Status (α × Bytes)

/-- `fread` of `n` bytes that is checked by the caller: short read → `REF_FAILURE` -/
def takeN : Nat → P Bytes
  | 0, s => .ok ([], s)
  | _ + 1, [] => .error .failure
  | n + 1, b :: s =>
    match takeN n s with
    | .ok (a, r) => .ok (b :: a, r)
    | .error e => .error e

def rdU (k : Nat) : P Nat := fun s =>
  match takeN k s with
  | .ok (a, r) => .ok (decLE a, r)
  | .error e => .error e

def rdI32 : P Int := fun s =>
  match rdU 4 s with
  | .ok (n, r) => .ok (toSigned 32 n, r)
  | .error e => .error e

/-- `ref_import_meshb_int`: `int`, or `long` truncated to `REF_INT` -/
def rdInt (v : Nat) : P Int := fun s =>
  if v < 4 then rdI32 s else
  match rdU 8 s with
  | .ok (n, r) => .ok (toSigned 32 (n % 2 ^ 32), r)
  | .error e => .error e

/-- `meshb_pos`: `long` for versions ≥ 3, else `int` -/
def rdPos (v : Nat) : P Int := fun s =>
  if 3 ≤ v then
    match rdU 8 s with
    | .ok (n, r) => .ok (toSigned 64 n, r)
    | .error e => .error e
  else rdI32 s

/-- `ref_import_meshb_size`: unsigned -/
def rdSize (v : Nat) : P Nat := fun s => if v < 4 then rdU 4 s else rdU 8 s

def rdF64 : P UInt64 := fun s =>
  match rdU 8 s with
  | .ok (n, r) => .ok (UInt64.ofNat n, r)
  | .error e => .error e

/-- C `(double)f` on the bit pattern of a binary32 -/
def f32to64 (n : Nat) : UInt64 := (Float32.ofBits (UInt32.ofNat n)).toFloat.toBits

/-- `meshb_real`: `float` in version 1, else `double` -/
def rdReal (v : Nat) : P UInt64 := fun s =>
  if v = 1 then
    match rdU 4 s with
    | .ok (n, r) => .ok (f32to64 n, r)
    | .error e => .error e
  else rdF64 s

/-- keyword → file position, most recent first (`key_pos[]`, later hops overwrite) -/
abbrev KeyPos := List (Nat × Nat)

def KeyPos.get (kp : KeyPos) (k : Nat) : Option Nat :=
  match kp.find? (fun p => p.1 == k) with
  | some p => some p.2
  | none => none

/-- The `while (next_position <= end_position && 0 != next_position)` loop of
    `ref_import_meshb_header`.  `fuel` hops; `diverge` when exhausted. -/
def headerScan (cfg : Cfg) (v : Nat) (bs : Bytes) : Nat → Int → KeyPos → Except Status KeyPos
  | 0, next, kp => if next ≤ (bs.length : Int) ∧ next ≠ 0 then .error .diverge else .ok kp
  | fuel + 1, next, kp =>
    if next ≤ (bs.length : Int) ∧ next ≠ 0 then
      if next < 0 then .error .failure  -- fseeko(negative) fails
      else
        let pos := next.toNat
        match rdI32 (bs.drop pos) with
        | .error e => .error e
        | .ok (kw, r) =>
          let kp' := if 0 ≤ kw ∧ kw < (CodecConsts.lastKeyword : Int) then (kw.toNat, pos) :: kp else kp
          match rdPos v r with
          | .error e => .error e
          | .ok (next', _) =>
            if cfg.checkProgress ∧ ¬(next' = 0 ∨ next' > (pos : Int)) then .error .failure
            else headerScan cfg v bs fuel next' kp'
    else .ok kp

/-- `ref_import_meshb_header`: code, version, key positions.  Every successful hop reads ≥ 8 bytes
    inside the file, so more than `length + 1` hops means a position was visited twice. -/
def header (cfg : Cfg) (bs : Bytes) : Except Status (Nat × KeyPos) :=
  match rdI32 bs with
  | .error e => .error e
  | .ok (code, r) =>
    if code ≠ 1 then .error .failure else
    match rdI32 r with
    | .error e => .error e
    | .ok (ver, _) =>
      if ver < 1 ∨ 4 < ver then .error .failure else
      match headerScan cfg ver.toNat bs (bs.length + 1) 8 [] with
      | .error e => .error e
      | .ok kp => .ok (ver.toNat, kp)

/-- `ref_import_meshb_jump`: `none` = keyword not available; else `next_position` and the stream
    positioned after the `next_position` field -/
def jump (v : Nat) (bs : Bytes) (kp : KeyPos) (kw : Nat) : Except Status (Option (Int × Bytes)) :=
  match kp.get kw with
  | none => .ok none
  | some pos =>
    match rdI32 (bs.drop pos) with
    | .error e => .error e
    | .ok (code, r) =>
      if code ≠ (kw : Int) then .error .failure else
      match rdPos v r with
      | .error e => .error e
      | .ok (next, r) => .ok (some (next, r))

/-- `ftell` when the unread rest of the file is `r` -/
def tell (bs r : Bytes) : Int := (bs.length : Int) - (r.length : Int)

/-- vertex records: `dim` reals and one integer (the reference, discarded) -/
def rdVerts (v : Nat) (twod : Bool) : Nat → P (List Vertex)
  | 0, s => .ok ([], s)
  | n + 1, s =>
    match rdReal v s with
    | .error e => .error e
    | .ok (x, s) =>
    match rdReal v s with
    | .error e => .error e
    | .ok (y, s) =>
    match (if twod then (.ok (0, s) : Except Status (UInt64 × Bytes)) else rdReal v s) with
    | .error e => .error e
    | .ok (z, s) =>
    match rdInt v s with
    | .error e => .error e
    | .ok (_, s) =>
    match rdVerts v twod n s with
    | .error e => .error e
    | .ok (vs, s) => .ok (⟨x, y, z⟩ :: vs, s)

def rdInts (v : Nat) : Nat → P (List Int)
  | 0, s => .ok ([], s)
  | n + 1, s =>
    match rdInt v s with
    | .error e => .error e
    | .ok (x, s) =>
    match rdInts v n s with
    | .error e => .error e
    | .ok (xs, s) => .ok (x :: xs, s)

/-- `ref_adj_add(ref_adj, node, …)` as far as a reader can observe it: a negative vertex is
    `REF_INVALID`; a vertex beyond the table makes it grow to `node + 100` entries — computed as
    `100 + MAX(0, node - orig)` in `int` (overflow = undefined behaviour for vertices within 100 of
    `INT_MAX`), `realloc`ed (NULL above the allocator cap → `REF_NULL`).  Nothing compares the
    vertex with the number of vertices. -/
def adjAdd (cfg : Cfg) (node : Int) : Except Status Unit :=
  if node < 0 then .error .invalid
  else if node > 2 ^ 31 - 1 - 100 then .error .undefined
  else if cfg.allocCap < 4 * (node.toNat + 100) then .error .null
  else .ok ()

def adjAddAll (cfg : Cfg) : List Int → Except Status Unit
  | [] => .ok ()
  | x :: xs =>
    match adjAdd cfg x with
    | .error e => .error e
    | .ok _ => adjAddAll cfg xs

/-- the vertices of one cell record in memory convention: 0-based, pyramids shuffled -/
def recordNodes (ci : CellInfo) (raw : List Int) : List Int :=
  let nodes := (raw.take ci.nodePer).map fun x => x - 1
  if ci.isPyr then permute PyrPerm.importMeshb nodes else nodes

/-- one cell record → the `size_per` integers stored by `ref_cell_add`, or its error
    (`ref_adj_add` of the vertices in order). -/
def cellOfRecord (cfg : Cfg) (ci : CellInfo) (nnode : Int) (raw : List Int) : Except Status (List Int) :=
  -- `nodes[node]--` on `INT_MIN` is a signed overflow (the index check, when present, is made on the
  -- 1-based value before the decrement, so it never gets there)
  if ¬ cfg.checkIndex ∧ (raw.take ci.nodePer).any (fun x => decide (x = -(2 ^ 31 : Int))) then .error .undefined else
  if cfg.checkIndex ∧ (recordNodes ci raw).any (fun x => decide (x < 0 ∨ nnode ≤ x)) then .error .invalid
  else
    match adjAddAll cfg (recordNodes ci raw) with
    | .error e => .error e
    | .ok _ => .ok (recordNodes ci raw ++ (if ci.lastId then raw.drop ci.nodePer else []))

def rdCells (cfg : Cfg) (v : Nat) (ci : CellInfo) (nnode : Int) : Nat → P (List (List Int))
  | 0, s => .ok ([], s)
  | n + 1, s =>
    match rdInts v (ci.nodePer + 1) s with
    | .error e => .error e
    | .ok (raw, s) =>
    match cellOfRecord cfg ci nnode raw with
    | .error e => .error e
    | .ok c =>
    match rdCells cfg v ci nnode n s with
    | .error e => .error e
    | .ok (cs, s) => .ok (c :: cs, s)

/-- `ref_geom_add`: an existing (node,type,id) record only gets its parameters updated -/
def geomAdd (cfg : Cfg) (gs : List GeomRec) (node : Int) (t : Nat) (id : Int) (p0 p1 : UInt64) :
    Except Status (List GeomRec) :=
  if gs.any (fun g => g.node == node && g.type == t && g.id == id) then
    .ok (gs.map fun g => if g.node == node && g.type == t && g.id == id then
      { g with p0 := if 0 < t then p0 else g.p0, p1 := if 1 < t then p1 else g.p1 } else g)
  else
    match adjAdd cfg node with
    | .error e => .error e
    | .ok _ => .ok (gs ++ [{ type := t, id := id, gref := id, node := node,
                             p0 := (if 0 < t then p0 else 0), p1 := (if 1 < t then p1 else 0) }])

def geomSetGref (gs : List GeomRec) (node : Int) (t : Nat) (id : Int) (gref : Int) : List GeomRec :=
  gs.map fun g => if g.node == node && g.type == t && g.id == id then { g with gref := gref } else g

def rdGeoms (cfg : Cfg) (v : Nat) (t : Nat) (nnode : Int) : Nat → List GeomRec → P (List GeomRec)
  | 0, gs, s => .ok (gs, s)
  | n + 1, gs, s =>
    match rdInt v s with
    | .error e => .error e
    | .ok (node, s) =>
    match rdInt v s with
    | .error e => .error e
    | .ok (id, s) =>
    match (if 0 < t then rdF64 s else .ok (0, s)) with
    | .error e => .error e
    | .ok (p0, s) =>
    match (if 1 < t then rdF64 s else .ok (0, s)) with
    | .error e => .error e
    | .ok (p1, s) =>
    if ¬ cfg.checkIndex ∧ node = -(2 ^ 31 : Int) then .error .undefined else   -- `node--` overflows
    let node := node - 1
    if cfg.checkIndex ∧ (node < 0 ∨ nnode ≤ node) then .error .invalid else
    match geomAdd cfg gs node t id p0 p1 with
    | .error e => .error e
    | .ok gs =>
    match (if 0 < t then rdF64 s else .ok (0, s)) with
    | .error e => .error e
    | .ok (gref, s) =>
    let gs := if 0 < t then geomSetGref gs node t id (d2i gref) else gs
    rdGeoms cfg v t nnode n gs s

/-- a keyword section with a count: jump, read the count, run `body`, check `REIS(next_position, ftell)` -/
def kwSection {α : Type} (v : Nat) (bs : Bytes) (kp : KeyPos) (kw : Nat) (dflt : α)
    (body : Int → P α) : Except Status α :=
  match jump v bs kp kw with
  | .error e => .error e
  | .ok none => .ok dflt
  | .ok (some (next, s)) =>
    match rdInt v s with
    | .error e => .error e
    | .ok (n, s) =>
    match body n s with
    | .error e => .error e
    | .ok (a, s) => if next = tell bs s then .ok a else .error .failure

def rdCellGroups (cfg : Cfg) (v : Nat) (bs : Bytes) (kp : KeyPos) (nnode : Int) :
    List CellInfo → Except Status (List (List (List Int)))
  | [] => .ok []
  | ci :: cis =>
    match kwSection v bs kp ci.kw [] (fun n => rdCells cfg v ci nnode n.toNat) with
    | .error e => .error e
    | .ok g =>
    match rdCellGroups cfg v bs kp nnode cis with
    | .error e => .error e
    | .ok gs => .ok (g :: gs)

def rdGeomTypes (cfg : Cfg) (v : Nat) (bs : Bytes) (kp : KeyPos) (nnode : Int) :
    List Nat → List GeomRec → Except Status (List GeomRec)
  | [], gs => .ok gs
  | t :: ts, gs =>
    match kwSection v bs kp (40 + t) gs (fun n => rdGeoms cfg v t nnode n.toNat gs) with
    | .error e => .error e
    | .ok gs => rdGeomTypes cfg v bs kp nnode ts gs

/-- the CAD byte blob (`GmfByteFlow`, keyword 126): the size is unsigned and sizes a `malloc` -/
def rdCad (cfg : Cfg) (v : Nat) (bs : Bytes) (kp : KeyPos) : Except Status Bytes :=
  match jump v bs kp 126 with
  | .error e => .error e
  | .ok none => .ok []
  | .ok (some (next, s)) =>
    match rdSize v s with
    | .error e => .error e
    | .ok (size, s) =>
    if cfg.allocCap < size then .error .null else
    match takeN size s with
    | .error e => .error e
    | .ok (data, s) => if next = tell bs s then .ok data else .error .failure

/-- `ref_import_meshb` -/
def decodeMeshbWith (cfg : Cfg) (bs : Bytes) : Except Status MeshFile :=
  match header cfg bs with
  | .error e => .error e
  | .ok (v, kp) =>
  match jump v bs kp 3 with
  | .error e => .error e
  | .ok none => .error .failure            -- "meshb missing dimension"
  | .ok (some (_, s)) =>
  match rdI32 s with
  | .error e => .error e
  | .ok (dim, _) =>
  if dim < 2 ∨ 3 < dim then .error .failure else
  let twod := decide (dim = 2)
  match jump v bs kp 4 with
  | .error e => .error e
  | .ok none => .error .failure            -- "meshb missing vertex"
  | .ok (some (next, s)) =>
  match rdInt v s with
  | .error e => .error e
  | .ok (nnode, s) =>
  match rdVerts v twod nnode.toNat s with
  | .error e => .error e
  | .ok (nodes, s) =>
  if next ≠ tell bs s then .error .failure else
  match rdCellGroups cfg v bs kp nnode cellInfos with
  | .error e => .error e
  | .ok cells =>
  match rdGeomTypes cfg v bs kp nnode [0, 1, 2] [] with
  | .error e => .error e
  | .ok geoms =>
  match rdCad cfg v bs kp with
  | .error e => .error e
  | .ok cad => .ok { twod := twod, nodes := nodes, cells := cells, geoms := geoms, cad := cad }

/-- the reader as it was in /repo before the C20 `fix:` commits (none of the four checks of `Cfg`) -/
def decodeMeshb (bs : Bytes) : Except Status MeshFile := decodeMeshbWith Cfg.faithful bs

/-- the reader with `next_position > position` required per hop and `0 ≤ index < nnode` per record -/
def decodeMeshbFixed (bs : Bytes) : Except Status MeshFile := decodeMeshbWith Cfg.fixed bs

/-- **model selection**: the reader the correspondence streams compare the C against.  /repo has the checks
    (ref_import.c: `RAS(0 == next_position || position < next_position, …)`, `nodes[node] < 1 || nnode < nodes[node]`),
    so it is `Cfg.fixed` (see Props/C20.lean). -/
def Cfg.current : Cfg := Cfg.fixed

/-! ## predicates used by C08 / C20 -/

def int32 (x : Int) : Prop := -(2 ^ 31 : Int) ≤ x ∧ x < 2 ^ 31
instance (x : Int) : Decidable (int32 x) := by unfold int32; infer_instance

/-- all vertex indices of all cells and geometry records are in `[0, nnode)` -/
def indicesInRange (m : MeshFile) : Bool :=
  let n : Int := m.nodes.length
  ((cellInfos.zip m.cells).all fun p => p.2.all fun c => (c.take p.1.nodePer).all fun x => decide (0 ≤ x ∧ x < n)) &&
  m.geoms.all fun g => decide (0 ≤ g.node ∧ g.node < n)

/-- the positions visited by the header scan (for `header_progress`) -/
def headerHops (cfg : Cfg) (v : Nat) (bs : Bytes) : Nat → Int → List Int
  | 0, _ => []
  | fuel + 1, next =>
    if next ≤ (bs.length : Int) ∧ next ≠ 0 then
      if next < 0 then [next] else
        match rdI32 (bs.drop next.toNat) with
        | .error _ => [next]
        | .ok (_, r) =>
          match rdPos v r with
          | .error _ => [next]
          | .ok (next', _) =>
            if cfg.checkProgress ∧ ¬(next' = 0 ∨ next' > next) then [next]
            else next :: headerHops cfg v bs fuel next'
    else []

/-- bytes of a lower-case hex string (used to write the witness files of C20 readably) -/
def ofHex (s : String) : Bytes :=
  let nib (c : Char) : Nat := if c.toNat ≥ 97 then c.toNat - 87 else c.toNat - 48
  let rec go : List Char → Bytes
    | a :: b :: r => UInt8.ofNat (16 * nib a + nib b) :: go r
    | _ => []
  go s.toList

end Refine.Model.Meshb
