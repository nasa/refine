import Refine.Scalar

/-!
  L6 Matrix: the symmetric-matrix kernel of `ref_matrix.c`, generic over `Scalar`.

  Operation order is copied from the C (as compiled by `gcc -O1 -ffp-contract=off`), so the `Float`
  instance reproduces the implementation bit for bit (driver `matrix`, harness `h_matrix.c`); the
  `ℝ` instance is what `Refine/Props/C16.lean` proves theorems about.  Core-only imports.

  ## API (for the metric packages C10 / C05)

  Shapes (fixed-size structures, C index order in brackets):
  * `M6 α`    symmetric 3x3, upper triangle  `m11[0] m12[1] m13[2] m22[3] m23[4] m33[5]`
  * `M3 α`    symmetric 2x2                  `m11[0] m12[1] m22[2]`
  * `Eig12 α` eigen system `l0 l1 l2 [0..2]`, vector k = `(xk yk zk)` = `d[3+3k .. 5+3k]`
              (`ref_matrix_eig(d,k)`, `ref_matrix_vec(d,xyz,k)`)
  * `Eig6 α`  2x2 eigen system `l0 l1 [0,1]`, vector k = `(xk yk)` = `d[2+2k], d[3+2k]`
  * `Vec3 α`, `M33 α` (rows `r0 r1 r2`; C flat index of row i, column k is `i + 3*k`)
  * `Err` = the non-success `REF_STATUS` values these routines can return, plus `ub` (returned by none, see `Err`);
    every routine that can fail returns `Except Err _`.

  Functions (`C name` → model):
  * `ref_matrix_diag_m`  → `diagM : M6 α → Except Err (Eig12 α)`   (`invalid` on non-finite input,
        `failure` when a row needs more than 30 QL sweeps)
  * `ref_matrix_diag_m2` → `diagM2 : M3 α → Except Err (Eig6 α)`
  * `ref_matrix_descending_eig(_twod)` → `descendingEig`, `descendingEigTwod`
  * `ref_matrix_form_m(2)` → `formM : Eig12 α → M6 α`, `formM2 : Eig6 α → M3 α`
  * `ref_matrix_log_m / exp_m` → `logM`, `expM : M6 α → Except Err (M6 α)`
  * `ref_matrix_sqrt_m` → `sqrtM : M6 α → Except Err (M6 α × M6 α)`  (square root, inverse square root);
        `sqrtAbsM` is the static `ref_matrix_sqrt_abs_m`
  * `ref_matrix_inv_m` (via `ref_matrix_inv_gen`, n = 3) → `invM`, `invGen3`
  * `ref_matrix_det_m` (via `ref_matrix_det_gen`, n = 3) → `detM : M6 α → α`, `detGen3`; `detM2`
  * `ref_matrix_mult_m0m1m0` → `multM0M1M0 a b` (= a·b·a), `ref_matrix_mult_m` → `multM`,
    `ref_matrix_weight_m` → `weightM`, `ref_matrix_twod_m` → `twodM`
  * `ref_matrix_intersect / bound` → `intersect`, `bound : M6 α → M6 α → Except Err (M6 α)`
  * `ref_matrix_jacob_m` → `jacobM`, `ref_matrix_healthy_m` → `healthyM`
  * macros `ref_matrix_vt_m_v`, `ref_matrix_sqrt_vt_m_v` → `vtMv`, `sqrtVtMv`; `…_deriv` → `vtMvDeriv`, `sqrtVtMvDeriv`
  * `mapEig f d` replaces the three eigenvalues by `f` of them (the `d[k] = log(d[k])` lines).

  Internals of `diagM` (exposed because the theorems are stated about them): `rot0` (first rotation, returns the
  QL state `QL α` = d[0..11], e[0..2], f, tst1), `rowStep l` (body of the row loop), `QL.findSmall`, `QL.isSmall`
  (the convergence test), `qlLoop` (≤ 30 sweeps as fuel), `sweep l mm` = `shift l` + `innerLoop` of `innerStep`s
  (each a plane rotation `rotVec i c s`).  Internals of `invGen3`: `invStep j` = `swapStep` (pivot search
  `pivotRow`) + `scaleRow` + `elimOthers` (`elimRow`).

  SWITCH: `relativeConvergence : Bool := true` selects the convergence test of /repo,
  `ABS(tst2 - tst1) <= 1.0e-14 * tst1` (ref_matrix.c:192,251); `false` selects the absolute test
  `ABS(tst2 - tst1) < 1.0e-14` — nothing else changes, and every theorem of `Props/C16.lean` is proved for both values.
-/
namespace Refine.Model.Matrix
open Refine Refine.Scalar

/-- non-success `REF_STATUS` values returned by the kernel.  `ub` (the C would index `e[3]`) is returned by no
    routine: `rowStep` returns `failure` there, as the C's `RAS(mm < 3, …)` does. -/
inductive Err where
  | failure | invalid | div_zero | ub
  deriving DecidableEq, Repr, Inhabited

def Err.name : Err → String
  | .failure => "failure"
  | .invalid => "invalid"
  | .div_zero => "div_zero"
  | .ub => "ub"

structure Vec3 (α : Type) where
  x : α
  y : α
  z : α

/-- symmetric 3x3, upper triangle in C order m[0..5] -/
structure M6 (α : Type) where
  m11 : α
  m12 : α
  m13 : α
  m22 : α
  m23 : α
  m33 : α

/-- symmetric 2x2, C order m[0..2] -/
structure M3 (α : Type) where
  m11 : α
  m12 : α
  m22 : α

/-- 12-vector eigen system: `d[0..2]` eigenvalues, `d[3+3k+i]` component i of vector k -/
structure Eig12 (α : Type) where
  l0 : α
  l1 : α
  l2 : α
  x0 : α
  y0 : α
  z0 : α
  x1 : α
  y1 : α
  z1 : α
  x2 : α
  y2 : α
  z2 : α

/-- 6-vector 2x2 eigen system: `d[0..1]` eigenvalues, `d[2+2k+i]` component i of vector k -/
structure Eig6 (α : Type) where
  l0 : α
  l1 : α
  x0 : α
  y0 : α
  x1 : α
  y1 : α

/-- full 3x3 by rows; C flat index of (row i, column k) is `i + 3*k` -/
structure M33 (α : Type) where
  r0 : Vec3 α
  r1 : Vec3 α
  r2 : Vec3 α

variable {α : Type} [Scalar α]

/-- flat C order a[0..8] (`a[i+3k]` = row i column k) -/
def M33.toFlat (a : M33 α) : List α :=
  [a.r0.x, a.r1.x, a.r2.x, a.r0.y, a.r1.y, a.r2.y, a.r0.z, a.r1.z, a.r2.z]

def M6.toList (m : M6 α) : List α := [m.m11, m.m12, m.m13, m.m22, m.m23, m.m33]
def M3.toList (m : M3 α) : List α := [m.m11, m.m12, m.m22]
def Eig12.toList (d : Eig12 α) : List α :=
  [d.l0, d.l1, d.l2, d.x0, d.y0, d.z0, d.x1, d.y1, d.z1, d.x2, d.y2, d.z2]
def Eig6.toList (d : Eig6 α) : List α := [d.l0, d.l1, d.x0, d.y0, d.x1, d.y1]

/-- the `d[k] = f(d[k])` lines of log_m / exp_m / sqrt_m -/
@[inline] def mapEig (f : α → α) (d : Eig12 α) : Eig12 α :=
  { d with l0 := f d.l0, l1 := f d.l1, l2 := f d.l2 }

def M6.allFinite (m : M6 α) : Bool :=
  Scalar.isFinite m.m11 && Scalar.isFinite m.m12 && Scalar.isFinite m.m13 &&
  Scalar.isFinite m.m22 && Scalar.isFinite m.m23 && Scalar.isFinite m.m33

/-! ### quadratic forms (macros of ref_matrix.h) and their derivatives -/

/-- `ref_matrix_vt_m_v(m,v)` -/
def vtMv (m : M6 α) (v : Vec3 α) : α :=
  v.x *. (m.m11 *. v.x +. m.m12 *. v.y +. m.m13 *. v.z) +.
  v.y *. (m.m12 *. v.x +. m.m22 *. v.y +. m.m23 *. v.z) +.
  v.z *. (m.m13 *. v.x +. m.m23 *. v.y +. m.m33 *. v.z)

/-- `ref_matrix_sqrt_vt_m_v(m,v)` -/
def sqrtVtMv (m : M6 α) (v : Vec3 α) : α := Scalar.sqrt (vtMv m v)

/-- `ref_matrix_vt_m_v_deriv` : (f, df/dv) -/
def vtMvDeriv (m : M6 α) (v : Vec3 α) : α × Vec3 α :=
  let f := vtMv m v
  let d0 := (m.m11 *. v.x +. m.m12 *. v.y +. m.m13 *. v.z) +. v.x *. m.m11 +. v.y *. m.m12 +. v.z *. m.m13
  let d1 := (m.m12 *. v.x +. m.m22 *. v.y +. m.m23 *. v.z) +. v.x *. m.m12 +. v.y *. m.m22 +. v.z *. m.m23
  let d2 := (m.m13 *. v.x +. m.m23 *. v.y +. m.m33 *. v.z) +. v.x *. m.m13 +. v.y *. m.m23 +. v.z *. m.m33
  (f, ⟨d0, d1, d2⟩)

/-- `ref_matrix_sqrt_vt_m_v_deriv` : (f, df/dv) (no guard on f = 0 in the C) -/
def sqrtVtMvDeriv (m : M6 α) (v : Vec3 α) : α × Vec3 α :=
  let f := Scalar.sqrt (vtMv m v)
  let half : α := Scalar.ofDec 5 (-1)
  let d0 := half /. f *.
    (v.x *. m.m11 +. (m.m11 *. v.x +. m.m12 *. v.y +. m.m13 *. v.z) +. v.y *. m.m12 +. v.z *. m.m13)
  let d1 := half /. f *.
    (v.x *. m.m12 +. v.y *. m.m22 +. (m.m12 *. v.x +. m.m22 *. v.y +. m.m23 *. v.z) +. v.z *. m.m23)
  let d2 := half /. f *.
    (v.x *. m.m13 +. v.y *. m.m23 +. v.z *. m.m33 +. (m.m13 *. v.x +. m.m23 *. v.y +. m.m33 *. v.z))
  (f, ⟨d0, d1, d2⟩)

/-! ### form_m, form_m2 -/

/-- `ref_matrix_form_m`: m = V diag(l) Vᵀ -/
def formM (d : Eig12 α) : M6 α :=
  { m11 := d.x0 *. d.l0 *. d.x0 +. d.x1 *. d.l1 *. d.x1 +. d.x2 *. d.l2 *. d.x2
    m12 := d.x0 *. d.l0 *. d.y0 +. d.x1 *. d.l1 *. d.y1 +. d.x2 *. d.l2 *. d.y2
    m13 := d.x0 *. d.l0 *. d.z0 +. d.x1 *. d.l1 *. d.z1 +. d.x2 *. d.l2 *. d.z2
    m22 := d.y0 *. d.l0 *. d.y0 +. d.y1 *. d.l1 *. d.y1 +. d.y2 *. d.l2 *. d.y2
    m23 := d.y0 *. d.l0 *. d.z0 +. d.y1 *. d.l1 *. d.z1 +. d.y2 *. d.l2 *. d.z2
    m33 := d.z0 *. d.l0 *. d.z0 +. d.z1 *. d.l1 *. d.z1 +. d.z2 *. d.l2 *. d.z2 }

/-- `ref_matrix_form_m2` -/
def formM2 (d : Eig6 α) : M3 α :=
  { m11 := d.x0 *. d.l0 *. d.x0 +. d.x1 *. d.l1 *. d.x1
    m12 := d.x0 *. d.l0 *. d.y0 +. d.x1 *. d.l1 *. d.y1
    m22 := d.y0 *. d.l0 *. d.y0 +. d.y1 *. d.l1 *. d.y1 }

/-- `ref_matrix_det_m2` -/
def detM2 (m : M3 α) : α := m.m11 *. m.m22 -. m.m12 *. m.m12

/-- `ref_matrix_twod_m` -/
def twodM (m : M6 α) : M6 α := { m with m13 := Scalar.ofInt 0, m23 := Scalar.ofInt 0, m33 := Scalar.ofInt 1 }

/-- `ref_matrix_weight_m` -/
def weightM (m0 m1 : M6 α) (w : α) : M6 α :=
  let f (a b : α) : α := (one -. w) *. a +. w *. b
  ⟨f m0.m11 m1.m11, f m0.m12 m1.m12, f m0.m13 m1.m13, f m0.m22 m1.m22, f m0.m23 m1.m23, f m0.m33 m1.m33⟩

/-! ### diag_m2 : closed form 2x2 -/

/-- tail of `ref_matrix_diag_m2`: from the unit vector (c2, s2) = (cos 2t, sin 2t), c2 <= 0, to the system -/
def diagM2Fin (m : M3 α) (c2 s2 : α) : Eig6 α :=
  let half : α := Scalar.ofDec 5 (-1)
  let s := Scalar.sqrt (half *. (one -. c2))
  let c := half *. s2 /. s
  let cc := c *. c
  let ss := s *. s
  let mid := s2 *. m.m12
  { l0 := cc *. m.m22 -. mid +. ss *. m.m11
    l1 := cc *. m.m11 +. mid +. ss *. m.m22
    x0 := s, y0 := -. c, x1 := c, y1 := s }

/-- `ref_matrix_diag_m2` -/
def diagM2 (m : M3 α) : Except Err (Eig6 α) :=
  if !(Scalar.isFinite m.m11 && Scalar.isFinite m.m12 && Scalar.isFinite m.m22) then .error .invalid else
  let half : α := Scalar.ofDec 5 (-1)
  let c2 := half *. (m.m11 -. m.m22)
  let s2 := m.m12
  let norm := cmax (cabs c2) (cabs s2)
  if divisible c2 norm && divisible s2 norm then
    let c2 := c2 /. norm
    let s2 := s2 /. norm
    let l := Scalar.sqrt (c2 *. c2 +. s2 *. s2)
    if !(divisible c2 l) then .error .failure else
    if !(divisible s2 l) then .error .failure else
    let c2 := c2 /. l
    let s2 := s2 /. l
    if bgt c2 zero then .ok (diagM2Fin m (-. c2) (-. s2)) else .ok (diagM2Fin m c2 s2)
  else
    .ok (diagM2Fin m (Scalar.ofInt (-1)) zero)

/-! ### diag_m : one rotation to tridiagonal form + implicit QL -/

/-- locals of the QL part of `ref_matrix_diag_m`: `d[0..11]`, `e[0..2]`, `f`, `tst1` -/
structure QL (α : Type) where
  d : Eig12 α
  e0 : α
  e1 : α
  e2 : α
  f : α
  tst1 : α

/-- `d[i]`, i ∈ {0,1,2} -/
@[inline] def QL.getD (st : QL α) : Nat → α
  | 0 => st.d.l0
  | 1 => st.d.l1
  | _ => st.d.l2

@[inline] def QL.setD (st : QL α) (i : Nat) (v : α) : QL α :=
  match i with
  | 0 => { st with d := { st.d with l0 := v } }
  | 1 => { st with d := { st.d with l1 := v } }
  | _ => { st with d := { st.d with l2 := v } }

/-- `e[i]`, i ∈ {0,1,2} -/
@[inline] def QL.getE (st : QL α) : Nat → α
  | 0 => st.e0
  | 1 => st.e1
  | _ => st.e2

@[inline] def QL.setE (st : QL α) (i : Nat) (v : α) : QL α :=
  match i with
  | 0 => { st with e0 := v }
  | 1 => { st with e1 := v }
  | _ => { st with e2 := v }

/-- the `form vector` loop: plane rotation of vectors i and i+1 (i ∈ {0,1}), all three components:
    `h = vec(k,i+1); vec(k,i+1) = s*vec(k,i) + c*h; vec(k,i) = c*vec(k,i) - s*h` -/
def rotVec (i : Nat) (c s : α) (d : Eig12 α) : Eig12 α :=
  match i with
  | 0 => { d with
      x1 := s *. d.x0 +. c *. d.x1, x0 := c *. d.x0 -. s *. d.x1
      y1 := s *. d.y0 +. c *. d.y1, y0 := c *. d.y0 -. s *. d.y1
      z1 := s *. d.z0 +. c *. d.z1, z0 := c *. d.z0 -. s *. d.z1 }
  | _ => { d with
      x2 := s *. d.x1 +. c *. d.x2, x1 := c *. d.x1 -. s *. d.x2
      y2 := s *. d.y1 +. c *. d.y2, y1 := c *. d.y1 -. s *. d.y2
      z2 := s *. d.z1 +. c *. d.z2, z1 := c *. d.z1 -. s *. d.z2 }

/-- the first rotation (zero out m[2]); returns the QL state with `f = tst1 = 0`, `e[2] = 0` -/
def rot0 (m : M6 α) : QL α :=
  let L := Scalar.sqrt (m.m12 *. m.m12 +. m.m13 *. m.m13)
  if divisible m.m12 L && divisible m.m13 L then
    let u := m.m12 /. L
    let v := m.m13 /. L
    let s := two *. u *. m.m23 +. v *. (m.m33 -. m.m22)
    { d := { l0 := m.m11, l1 := m.m22 +. v *. s, l2 := m.m33 -. v *. s
             x0 := one, y0 := zero, z0 := zero
             x1 := zero, y1 := u, z1 := v
             x2 := zero, y2 := v, z2 := -. u }
      e0 := L, e1 := m.m23 -. u *. s, e2 := zero, f := zero, tst1 := zero }
  else
    { d := { l0 := m.m11, l1 := m.m22, l2 := m.m33
             x0 := one, y0 := zero, z0 := zero
             x1 := zero, y1 := one, z1 := zero
             x2 := zero, y2 := zero, z2 := one }
      e0 := m.m12, e1 := m.m23, e2 := zero, f := zero, tst1 := zero }

/-- `gridSign(a,b) (b >= 0 ? ABS(a) : -ABS(a))` -/
@[inline] def gridSign (a b : α) : α := if Scalar.le zero b then cabs a else -. (cabs a)

/-- SWITCH for the two convergence tests of `ref_matrix_diag_m` (the only place it is used is `QL.isSmall`).
    `true` : the tests as they are in /repo, `ABS(tst2 - tst1) <= 1.0e-14 * tst1` (relative threshold);
    `false`: `ABS(tst2 - tst1) < 1.0e-14` (absolute threshold).
    The theorems of `Props/C16.lean` are proved for both settings. -/
def relativeConvergence : Bool := true

/-- `tst2 = tst1 + ABS(e[mm]); ABS(tst2 - tst1) <= 1.0e-14 * tst1` (`< 1.0e-14` when `relativeConvergence` is `false`) -/
def QL.isSmall (st : QL α) (mm : Nat) : Bool :=
  let tst2 := st.tst1 +. cabs (st.getE mm)
  if relativeConvergence then Scalar.le (cabs (tst2 -. st.tst1)) (Scalar.ofDec 1 (-14) *. st.tst1)
  else Scalar.lt (cabs (tst2 -. st.tst1)) (Scalar.ofDec 1 (-14))

/-- `for (mm = l; mm < 3; mm++) if small break;`  (`n` = 3 - mm); returns 3 when the loop falls through -/
def QL.findSmall (st : QL α) : Nat → Nat → Nat
  | mm, 0 => mm
  | mm, n + 1 => if st.isSmall mm then mm else st.findSmall (mm + 1) n

/-- locals of the `ql transformation` loop -/
structure Sweep (α : Type) where
  st : QL α
  p : α
  c : α
  c2 : α
  c3 : α
  s : α
  s2 : α

/-- body of `for (ii = 0; ii < mml; ii++)` at index `i = mm - ii - 1` -/
def innerStep (i : Nat) (w : Sweep α) : Sweep α :=
  let c3 := w.c2
  let c2 := w.c
  let s2 := w.s
  let ei := w.st.getE i
  let di := w.st.getD i
  let g := w.c *. ei
  let h := w.c *. w.p
  let r := Scalar.sqrt (w.p *. w.p +. ei *. ei)
  let st := w.st.setE (i + 1) (w.s *. r)
  let s := ei /. r
  let c := w.p /. r
  let p := c *. di -. s *. g
  let st := st.setD (i + 1) (h +. s *. (c *. g +. s *. di))
  let st := { st with d := rotVec i c s st.d }
  { st := st, p := p, c := c, c2 := c2, c3 := c3, s := s, s2 := s2 }

/-- `for (ii = 0; ii < mml; ii++)`: `n` = remaining trips, `i + 1` = index of the previous trip -/
def innerLoop : Nat → Nat → Sweep α → Sweep α
  | 0, _, w => w
  | n + 1, top, w => innerLoop n (top - 1) (innerStep (top - 1) w)

/-- the `form shift` part of the loop body: new `d[l]`, `d[l+1]`, `d[i] -= h` for i ≥ l+2, `f += h` -/
def shift (l : Nat) (st : QL α) : QL α :=
  let l1 := l + 1
  let g := st.getD l
  let el := st.getE l
  let p := (st.getD l1 -. g) /. (two *. el)
  let r := Scalar.sqrt (p *. p +. one)
  let st := st.setD l (el /. (p +. gridSign r p))
  let st := st.setD l1 (el *. (p +. gridSign r p))
  let h := g -. st.getD l
  let st := if l1 + 1 ≤ 2 then st.setD 2 (st.getD 2 -. h) else st
  { st with f := st.f +. h }

/-- one pass through the body of the `do { } while (REF_TRUE)` loop (shift + QL sweep), l < mm ≤ 2 -/
def sweep (l mm : Nat) (st : QL α) : QL α :=
  let st1 := shift l st
  let dl1 := st1.getD (l + 1)
  let el1 := st.getE (l + 1)
  let w := innerLoop (mm - l) mm
    { st := st1, p := st1.getD mm, c := one, c2 := one, c3 := zero, s := zero, s2 := zero }
  let p := (-. w.s) *. w.s2 *. w.c3 *. el1 *. w.st.getE l /. dl1
  let st := w.st.setE l (w.s *. p)
  st.setD l (w.c *. p)

/-- the `do { j = j + 1; if (j > 30) failure; …; if small break; } while (REF_TRUE)` loop;
    `fuel` = 30 - j -/
def qlLoop : Nat → Nat → Nat → QL α → Except Err (QL α)
  | 0, _, _, _ => .error .failure
  | fuel + 1, l, mm, st =>
    let st := sweep l mm st
    if st.isSmall l then .ok st else qlLoop fuel l mm st

/-- body of `for (l = 0; l < 3; l++)`.  When the small-subdiagonal search falls through (`mm = 3`,
    which needs `tst1` or `e[2]` to be ±inf/NaN, e.g. after an overflow on finite entries of size 1e308) the C returns
    `REF_FAILURE` (`RAS(mm < 3, …)`, the repair `fix: ref_matrix_diag_m stops when an intermediate overflows`; before it the
    code went on to write `e[3]`, an out-of-bounds store that this model carried as the outcome `ub`). -/
def rowStep (l : Nat) (st : QL α) : Except Err (QL α) :=
  let h := cabs (st.getD l) +. cabs (st.getE l)
  let st := if Scalar.lt st.tst1 h then { st with tst1 := h } else st
  let mm := st.findSmall l (3 - l)
  if mm == 3 then .error .failure
  else if mm != l then
    match qlLoop 30 l mm st with
    | .ok st => .ok (st.setD l (st.getD l +. st.f))
    | .error e => .error e
  else .ok (st.setD l (st.getD l +. st.f))

/-- `ref_matrix_diag_m` -/
def diagM (m : M6 α) : Except Err (Eig12 α) :=
  if !m.allFinite then .error .invalid else
  match rowStep 0 (rot0 m) with
  | .error e => .error e
  | .ok st =>
    match rowStep 1 st with
    | .error e => .error e
    | .ok st =>
      match rowStep 2 st with
      | .error e => .error e
      | .ok st => .ok st.d

/-! ### ordering of eigen systems -/

def swap01 (d : Eig12 α) : Eig12 α :=
  { d with l0 := d.l1, l1 := d.l0, x0 := d.x1, x1 := d.x0, y0 := d.y1, y1 := d.y0, z0 := d.z1, z1 := d.z0 }
def swap02 (d : Eig12 α) : Eig12 α :=
  { d with l0 := d.l2, l2 := d.l0, x0 := d.x2, x2 := d.x0, y0 := d.y2, y2 := d.y0, z0 := d.z2, z2 := d.z0 }
def swap12 (d : Eig12 α) : Eig12 α :=
  { d with l1 := d.l2, l2 := d.l1, x1 := d.x2, x2 := d.x1, y1 := d.y2, y2 := d.y1, z1 := d.z2, z2 := d.z1 }

/-- `ref_matrix_descending_eig` -/
def descendingEig (d : Eig12 α) : Eig12 α :=
  let d := if bgt d.l1 d.l0 then swap01 d else d
  let d := if bgt d.l2 d.l0 then swap02 d else d
  if bgt d.l2 d.l1 then swap12 d else d

/-- `ref_matrix_descending_eig_twod`: the vector closest to z goes last, the other two descending -/
def descendingEigTwod (d : Eig12 α) : Except Err (Eig12 α) :=
  let dot (x y z : α) : α := cabs (zero *. x +. zero *. y +. one *. z)
  let best : α := Scalar.ofInt (-2)
  let zdir : Option Nat := none
  let d0 := dot d.x0 d.y0 d.z0
  let (best, zdir) := if bgt d0 best then (d0, some 0) else (best, zdir)
  let d1 := dot d.x1 d.y1 d.z1
  let (best, zdir) := if bgt d1 best then (d1, some 1) else (best, zdir)
  let d2 := dot d.x2 d.y2 d.z2
  let (_, zdir) := if bgt d2 best then (d2, some 2) else (best, zdir)
  match zdir with
  | none => .error .failure
  | some z =>
    let d := match z with
      | 0 => swap02 d
      | 1 => swap12 d
      | _ => d
    .ok (if bgt d.l1 d.l0 then swap01 d else d)

/-! ### matrix functions through the eigen system -/

/-- `ref_matrix_log_m` -/
def logM (m : M6 α) : Except Err (M6 α) :=
  match diagM m with
  | .error e => .error e
  | .ok d => .ok (formM (mapEig Scalar.log d))

/-- `ref_matrix_exp_m` -/
def expM (m : M6 α) : Except Err (M6 α) :=
  match diagM m with
  | .error e => .error e
  | .ok d => .ok (formM (mapEig Scalar.exp d))

/-- shared tail of sqrt_m / sqrt_abs_m after the eigenvalues were made non-negative:
    `d[k] = sqrt(d[k])`, form, guarded reciprocals, form -/
def sqrtTail (d : Eig12 α) : Except Err (M6 α × M6 α) :=
  let d := mapEig Scalar.sqrt d
  let sq := formM d
  if !(divisible one d.l0) then .error .div_zero else
  let d := { d with l0 := one /. d.l0 }
  if !(divisible one d.l1) then .error .div_zero else
  let d := { d with l1 := one /. d.l1 }
  if !(divisible one d.l2) then .error .div_zero else
  let d := { d with l2 := one /. d.l2 }
  .ok (sq, formM d)

/-- `ref_matrix_sqrt_m`: (m^{1/2}, m^{-1/2}); `failure` on a negative eigenvalue -/
def sqrtM (m : M6 α) : Except Err (M6 α × M6 α) :=
  match diagM m with
  | .error e => .error e
  | .ok d =>
    if Scalar.lt d.l0 zero || Scalar.lt d.l1 zero || Scalar.lt d.l2 zero then .error .failure
    else sqrtTail d

/-- static `ref_matrix_sqrt_abs_m`: as sqrt_m with `ABS` of the eigenvalues -/
def sqrtAbsM (m : M6 α) : Except Err (M6 α × M6 α) :=
  match diagM m with
  | .error e => .error e
  | .ok d => sqrtTail (mapEig cabs d)

/-- `ref_matrix_jacob_m`: `j[i+3k] = sqrt(l_k) * vec(i,k)` -/
def jacobM (m : M6 α) : Except Err (M33 α) :=
  match diagM m with
  | .error e => .error e
  | .ok d =>
    let d := mapEig Scalar.sqrt d
    .ok { r0 := ⟨d.l0 *. d.x0, d.l1 *. d.x1, d.l2 *. d.x2⟩
          r1 := ⟨d.l0 *. d.y0, d.l1 *. d.y1, d.l2 *. d.y2⟩
          r2 := ⟨d.l0 *. d.z0, d.l1 *. d.z1, d.l2 *. d.z2⟩ }

/-- `ref_matrix_healthy_m`: `failure` when an eigenvalue is below -1.0e-15 -/
def healthyM (m : M6 α) : Except Err Unit :=
  match diagM m with
  | .error e => .error e
  | .ok d =>
    let floor : α := Scalar.ofDec (-1) (-15)
    if Scalar.lt d.l0 floor || Scalar.lt d.l1 floor || Scalar.lt d.l2 floor then .error .failure
    else .ok ()

/-! ### products -/

/-- `ref_matrix_m_full` -/
def mFull (m : M6 α) : M33 α :=
  { r0 := ⟨m.m11, m.m12, m.m13⟩, r1 := ⟨m.m12, m.m22, m.m23⟩, r2 := ⟨m.m13, m.m23, m.m33⟩ }

/-- `ref_matrix_full_m`: upper triangle -/
def fullM (a : M33 α) : M6 α := ⟨a.r0.x, a.r0.y, a.r0.z, a.r1.y, a.r1.z, a.r2.z⟩

/-- `ref_matrix_mult_m`: full product of two symmetric matrices (`product[i+3k]`) -/
def multM (m1 m2 : M6 α) : M33 α :=
  { r0 := ⟨m1.m11 *. m2.m11 +. m1.m12 *. m2.m12 +. m1.m13 *. m2.m13,
           m1.m11 *. m2.m12 +. m1.m12 *. m2.m22 +. m1.m13 *. m2.m23,
           m1.m11 *. m2.m13 +. m1.m12 *. m2.m23 +. m1.m13 *. m2.m33⟩
    r1 := ⟨m1.m12 *. m2.m11 +. m1.m22 *. m2.m12 +. m1.m23 *. m2.m13,
           m1.m12 *. m2.m12 +. m1.m22 *. m2.m22 +. m1.m23 *. m2.m23,
           m1.m12 *. m2.m13 +. m1.m22 *. m2.m23 +. m1.m23 *. m2.m33⟩
    r2 := ⟨m1.m13 *. m2.m11 +. m1.m23 *. m2.m12 +. m1.m33 *. m2.m13,
           m1.m13 *. m2.m12 +. m1.m23 *. m2.m22 +. m1.m33 *. m2.m23,
           m1.m13 *. m2.m13 +. m1.m23 *. m2.m23 +. m1.m33 *. m2.m33⟩ }

/-- `ref_matrix_mult_m0m1m0(m1, m2, m)`: upper triangle of m1·m2·m1 -/
def multM0M1M0 (m1 m2 : M6 α) : M6 α :=
  let p := multM m1 m2
  { m11 := p.r0.x *. m1.m11 +. p.r0.y *. m1.m12 +. p.r0.z *. m1.m13
    m12 := p.r0.x *. m1.m12 +. p.r0.y *. m1.m22 +. p.r0.z *. m1.m23
    m13 := p.r0.x *. m1.m13 +. p.r0.y *. m1.m23 +. p.r0.z *. m1.m33
    m22 := p.r1.x *. m1.m12 +. p.r1.y *. m1.m22 +. p.r1.z *. m1.m23
    m23 := p.r1.x *. m1.m13 +. p.r1.y *. m1.m23 +. p.r1.z *. m1.m33
    m33 := p.r2.x *. m1.m13 +. p.r2.y *. m1.m23 +. p.r2.z *. m1.m33 }

/-! ### metric intersection and its dual -/

/-- shared tail of intersect / bound: `clamp` is `MAX(1.0, ·)` resp. `MIN(1.0, ·)` -/
def combine (clamp : α → α) (m1half m1neghalf m2 : M6 α) : Except Err (M6 α) :=
  let m2bar := multM0M1M0 m1neghalf m2
  match diagM m2bar with
  | .error e => .error e
  | .ok sys =>
    let m12bar := formM (mapEig clamp sys)
    .ok (multM0M1M0 m1half m12bar)

/-- `ref_matrix_intersect`; `div_zero` from the square root of m1 returns m2 -/
def intersect (m1 m2 : M6 α) : Except Err (M6 α) :=
  match sqrtM m1 with
  | .error .div_zero => .ok m2
  | .error e => .error e
  | .ok (m1half, m1neghalf) => combine (fun x => cmax one x) m1half m1neghalf m2

/-- `ref_matrix_bound`; `div_zero` from the square root of |m1| returns m2 -/
def bound (m1 m2 : M6 α) : Except Err (M6 α) :=
  match sqrtAbsM m1 with
  | .error .div_zero => .ok m2
  | .error e => .error e
  | .ok (m1half, m1neghalf) => combine (fun x => cmin one x) m1half m1neghalf m2

/-! ### general 3x3 inverse and determinant (`ref_matrix_inv_gen`, `ref_matrix_det_gen` with n = 3) -/

@[inline] def Vec3.get (r : Vec3 α) : Nat → α
  | 0 => r.x
  | 1 => r.y
  | _ => r.z

@[inline] def M33.row (a : M33 α) : Nat → Vec3 α
  | 0 => a.r0
  | 1 => a.r1
  | _ => a.r2

@[inline] def M33.setRow (a : M33 α) (i : Nat) (r : Vec3 α) : M33 α :=
  match i with
  | 0 => { a with r0 := r }
  | 1 => { a with r1 := r }
  | _ => { a with r2 := r }

@[inline] def M33.swapRows (a : M33 α) (i j : Nat) : M33 α :=
  (a.setRow i (a.row j)).setRow j (a.row i)

/-- `row /= pivot` (each entry) -/
@[inline] def Vec3.divBy (r : Vec3 α) (p : α) : Vec3 α := ⟨r.x /. p, r.y /. p, r.z /. p⟩
/-- `ri[k] -= scale * rj[k]` -/
@[inline] def Vec3.axmy (ri : Vec3 α) (scale : α) (rj : Vec3 α) : Vec3 α :=
  ⟨ri.x -. scale *. rj.x, ri.y -. scale *. rj.y, ri.z -. scale *. rj.z⟩
@[inline] def Vec3.allDivisible (r : Vec3 α) (p : α) : Bool :=
  divisible r.x p && divisible r.y p && divisible r.z p

def M33.identity : M33 α := ⟨⟨one, zero, zero⟩, ⟨zero, one, zero⟩, ⟨zero, zero, one⟩⟩

/-- eliminate column j from row i of (a | inv): guarded `scale = a[i][j]/a[j][j]`, both rows updated -/
def elimRow (j i : Nat) (p : M33 α × M33 α) : Except Err (M33 α × M33 α) :=
  let (a, inv) := p
  let aij := (a.row i).get j
  let ajj := (a.row j).get j
  if !(divisible aij ajj) then .error .div_zero else
  let scale := aij /. ajj
  .ok (a.setRow i ((a.row i).axmy scale (a.row j)), inv.setRow i ((inv.row i).axmy scale (inv.row j)))

/-- `best = j; for (k = j+1; k < n; k++) if (ABS(a[k][j]) > ABS(a[best][j])) best = k;` -/
def pivotRow (j : Nat) (a : M33 α) : Nat :=
  let best := j
  let best := if j + 1 ≤ 2 ∧ bgt (cabs ((a.row (j + 1)).get j)) (cabs ((a.row best).get j)) then j + 1 else best
  if j + 2 ≤ 2 ∧ bgt (cabs ((a.row (j + 2)).get j)) (cabs ((a.row best).get j)) then j + 2 else best

/-- `if (best != j)` swap rows j and best of both matrices -/
def swapStep (j : Nat) (p : M33 α × M33 α) : M33 α × M33 α :=
  let best := pivotRow j p.1
  if best != j then (p.1.swapRows j best, p.2.swapRows j best) else p

/-- scale row j of both matrices so that `a[j][j]` is 1.0; every entry is guarded by `ref_math_divisible` -/
def scaleRow (j : Nat) (p : M33 α × M33 α) : Except Err (M33 α × M33 α) :=
  let pivot := (p.1.row j).get j
  if !((p.1.row j).allDivisible pivot && (p.2.row j).allDivisible pivot) then .error .div_zero else
  .ok (p.1.setRow j ((p.1.row j).divBy pivot), p.2.setRow j ((p.2.row j).divBy pivot))

/-- eliminate column j: lower triangle first (`i = j+1 … 2`), then upper triangle (`i = 0 … j-1`) -/
def elimOthers (j : Nat) (p : M33 α × M33 α) : Except Err (M33 α × M33 α) :=
  match j with
  | 0 => match elimRow 0 1 p with
      | .error e => .error e
      | .ok q => elimRow 0 2 q
  | 1 => match elimRow 1 2 p with
      | .error e => .error e
      | .ok q => elimRow 1 0 q
  | _ => match elimRow 2 0 p with
      | .error e => .error e
      | .ok q => elimRow 2 1 q

/-- one trip of the `for (j = 0; j < n; j++)` loop of `ref_matrix_inv_gen` (n = 3):
    partial pivoting, scaling of row j, elimination of column j below then above -/
def invStep (j : Nat) (p : M33 α × M33 α) : Except Err (M33 α × M33 α) :=
  match scaleRow j (swapStep j p) with
  | .error e => .error e
  | .ok q => elimOthers j q

/-- `ref_matrix_inv_gen(3, orig, inv)` -/
def invGen3 (orig : M33 α) : Except Err (M33 α) :=
  match invStep 0 (orig, M33.identity) with
  | .error e => .error e
  | .ok p =>
    match invStep 1 p with
    | .error e => .error e
    | .ok p =>
      match invStep 2 p with
      | .error e => .error e
      | .ok p => .ok p.2

/-- `ref_matrix_inv_m` -/
def invM (m : M6 α) : Except Err (M6 α) :=
  match invGen3 (mFull m) with
  | .error e => .error e
  | .ok inv => .ok (fullM inv)

/-- `ref_matrix_det_gen(3, orig, det)`: Gaussian elimination without pivoting; a pivot that is not
    `ref_math_divisible` makes the routine return det = 0 (with REF_SUCCESS) -/
def detGen3 (a : M33 α) : α :=
  let det := one *. a.r0.x
  if !(divisible a.r1.x a.r0.x) then zero else
  let r1 := a.r1.axmy (a.r1.x /. a.r0.x) a.r0
  if !(divisible a.r2.x a.r0.x) then zero else
  let r2 := a.r2.axmy (a.r2.x /. a.r0.x) a.r0
  let det := det *. r1.y
  if !(divisible r2.y r1.y) then zero else
  let r2 := r2.axmy (r2.y /. r1.y) r1
  det *. r2.z

/-- `ref_matrix_det_m` -/
def detM (m : M6 α) : α := detGen3 (mFull m)

end Refine.Model.Matrix
