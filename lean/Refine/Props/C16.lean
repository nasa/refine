import Refine.Lemmas.MatrixReal
import Refine.Lemmas.MatrixDiag2
import Refine.Lemmas.MatrixRot0
import Refine.Lemmas.MatrixFun
import Refine.Lemmas.MatrixInv
import Refine.Lemmas.MatrixQL4
import Refine.Lemmas.MatrixBlock2

/-!
  C16 — the symmetric-matrix kernel of `ref_matrix.c` (model: `Refine/Model/Matrix.lean`).

  All theorems over ℝ are about the executable model instantiated at the lawful real instance:
  they hold in exact arithmetic; IEEE rounding is modelled (the `Float` instance is bit-compared with
  the C by the `matrix_*` streams), not verified.

  `IsEigSys d m := Orthonormal d ∧ formM d = m`.  The QL iteration stops on a *threshold*, so the system
  returned by `diagM` reconstructs `m` only up to the dropped sub-diagonal entry; the theorems about
  log/exp/sqrt/intersect/bound therefore take `IsEigSys` of the systems returned by the inner `diagM`
  calls as explicit hypotheses (checked numerically on the implementation by the stream oracles).
  `Props/C16QL.lean` proves what `diagM` does return, `m = Q diag(d) Qᵀ + resid` with the dropped entries as `resid`
  (`diagM_similarity`), and discharges `IsEigSys` for the runs that dropped nothing non-zero (`zeroResidual_isEigSys`).
-/
namespace Refine.Props.C16
open Refine Refine.Model.Matrix Refine.ScalarReal
open _root_.Matrix

/-- a non-finite entry makes `ref_matrix_diag_m` return REF_INVALID before anything else happens -/
theorem diagM_nonfinite_invalid {α : Type} [Scalar α] (m : M6 α) (h : m.allFinite = false) :
    diagM m = .error .invalid := by
  unfold diagM; simp [h]

theorem diagM2_nonfinite_invalid {α : Type} [Scalar α] (m : M3 α)
    (h : (Scalar.isFinite m.m11 && Scalar.isFinite m.m12 && Scalar.isFinite m.m22) = false) :
    diagM2 m = .error .invalid := by
  unfold diagM2; simp [h]

/-- every routine that starts with the eigen decomposition propagates REF_INVALID -/
theorem matrix_functions_nonfinite_invalid {α : Type} [Scalar α] (m m2 : M6 α) (h : m.allFinite = false) :
    logM m = .error .invalid ∧ expM m = .error .invalid ∧ sqrtM m = .error .invalid ∧
    sqrtAbsM m = .error .invalid ∧ jacobM m = .error .invalid ∧ healthyM m = .error .invalid ∧
    intersect m m2 = .error .invalid ∧ bound m m2 = .error .invalid := by
  have hd := diagM_nonfinite_invalid m h
  have hs : sqrtM m = .error .invalid := by unfold sqrtM; rw [hd]
  have ha : sqrtAbsM m = .error .invalid := by unfold sqrtAbsM; rw [hd]
  refine ⟨?_, ?_, hs, ha, ?_, ?_, ?_, ?_⟩
  · unfold logM; rw [hd]
  · unfold expM; rw [hd]
  · unfold jacobM; rw [hd]
  · unfold healthyM; rw [hd]
  · unfold intersect; rw [hs]
  · unfold bound; rw [ha]

/-- the guard is reachable: a NaN entry at the `Float` instance -/
example : diagM (⟨1, 0, 0, 1, 0, (0 : Float) / 0⟩ : M6 Float) = .error .invalid :=
  diagM_nonfinite_invalid _ (by decide +kernel)

/-- `ref_matrix_diag_m2`: on success the two vectors are orthonormal and `form_m2` gives back m (all branches) -/
theorem diagM2_spec (m : M3 ℝ) (d : Eig6 ℝ) (h : diagM2 m = .ok d) :
    Orthonormal2 d ∧ formM2 d = m := by
  obtain ⟨c2, s2, hn, hc, hp, he⟩ := diagM2_eq m
  obtain rfl : diagM2Fin m c2 s2 = d := Except.ok.inj (he.symm.trans h)
  exact diagM2Fin_spec m c2 s2 hn hc hp

/-- over ℝ the closed form never fails -/
theorem diagM2_total (m : M3 ℝ) : ∃ d, diagM2 m = .ok d := by
  obtain ⟨c2, s2, _, _, _, he⟩ := diagM2_eq m
  exact ⟨_, he⟩

/-- the first rotation is an orthogonal similarity: the vectors are orthonormal and
    `Q · tridiag(d; e0, e1) · Qᵀ = m` with the coded d and e (both branches; the `else` branch is the
    identity on an already tridiagonal input), and the QL loop starts with `e[2] = f = tst1 = 0` -/
theorem diagM_rot0 (m : M6 ℝ) :
    Orthonormal (rot0 m).d ∧ tridiagForm (rot0 m).d (rot0 m).e0 (rot0 m).e1 = m ∧
    (rot0 m).e2 = 0 ∧ (rot0 m).f = 0 ∧ (rot0 m).tst1 = 0 :=
  ⟨(rot0_spec m).1, (rot0_spec m).2, rot0_e2 m, rot0_f m, rot0_tst1 m⟩

/-- every vector update of the QL iteration is a plane rotation `(c, s)`, `c = p/r`, `s = e[i]/r`,
    `r = sqrt(p² + e[i]²)` with `c² + s² = 1` (the sub-diagonal entries inside the active block are
    non-zero: invariant of the loop), so after any number of sweeps — all iterations, both settings of
    `relativeConvergence` — a successful `ref_matrix_diag_m` returns orthonormal eigenvectors.  The lemma
    `diagM_orthonormal'` of `Lemmas/MatrixQL4.lean` (needed below the property files), as the property. -/
theorem diagM_orthonormal (m : M6 ℝ) (d : Eig12 ℝ) (h : diagM m = .ok d) : Orthonormal d :=
  diagM_orthonormal' m d h

/-- one plane rotation of two neighbouring vectors keeps an orthonormal system orthonormal -/
theorem rotVec_keeps_orthonormal (i : Nat) (c s : ℝ) (h : c * c + s * s = 1) {d : Eig12 ℝ}
    (ho : Orthonormal d) : Orthonormal (rotVec i c s d) := rotVec_orthonormal i c s h ho

/-- the only error status of `diagM` on (finite) real input is `failure`: 30 sweeps without convergence, or a search for a
    negligible sub-diagonal entry that runs off the end (`RAS(mm < 3, …)`) -/
theorem diagM_error_kinds (m : M6 ℝ) (e : Err) (h : diagM m = .error e) : e = .failure := by
  have hloop : ∀ (fuel l mm : Nat) (st : QL ℝ) (e : Err), qlLoop fuel l mm st = .error e → e = .failure := by
    intro fuel l mm st e h
    fun_induction qlLoop fuel l mm st with
    | case1 => exact (Except.error.inj h).symm
    | case2 => cases h
    | case3 _ _ _ _ _ _ ih => exact ih h
  have hrow : ∀ l (st : QL ℝ) (e : Err), rowStep l st = .error e → e = .failure := by
    intro l st e h
    revert h
    fun_cases rowStep l st <;> intro h
    · exact (Except.error.inj h).symm
    · cases h
    · exact Except.error.inj h ▸ hloop _ _ _ _ _ ‹_›
    · cases h
  revert h
  fun_cases diagM m <;> intro h <;> cases h
  · rename_i hf
    simp only [M6.allFinite, isFinite_eq, Bool.and_self, Bool.not_true, Bool.false_eq_true] at hf
  all_goals exact hrow _ _ _ ‹_›

/-!
  For every input, with the entries the convergence test drops as an explicit residual: `diagM_similarity` in
  `Props/C16QL.lean`. -/

/-- one implicit-shift sweep over the leading 2x2 block (l = 0, mm = 1, e[1] = 0) keeps `Q (T + f·I) Qᵀ`
    and annihilates e[0] exactly -/
theorem sweep_block2_similarity (st : QL ℝ) (he0 : st.e0 ≠ 0) (he1 : st.e1 = 0) :
    (sweep 0 1 st).repr0 = st.repr0 ∧ (sweep 0 1 st).e0 = 0 ∧ (sweep 0 1 st).e1 = 0 := by
  obtain ⟨hr, z0, z1⟩ := sweep01_repr st he0
  have hst : ({ st with e1 := 0 } : QL ℝ) = st := by
    cases st; dsimp only at he1; subst he1; rfl
  refine ⟨M6.toMat_injective ?_, z0, z1⟩
  rw [toMat_repr0, toMat_repr0, hr, hst]

/-- every 2-D embedded matrix (m13 = m23 = 0, as produced by `ref_matrix_twod_m`) has a tridiagonal form with e[1] = 0:
    the decomposition is exact — unless e[0] passes the convergence test before any sweep, in which case e[0] is
    dropped and `d` is the tridiagonal form itself (`diagM_block2`) -/
theorem diagM_twod (m : M6 ℝ) (h13 : m.m13 = 0) (h23 : m.m23 = 0) (d : Eig12 ℝ) (h : diagM m = .ok d) :
    IsEigSys d m ∨
    (Orthonormal d ∧ tridiagForm d (rot0 m).e0 0 = m ∧ (tstUpd 0 (rot0 m)).isSmall 0 = true) := by
  obtain ⟨d', hd', hc⟩ := diagM_block2 m (rot0_e1_twod m h13 h23)
  obtain rfl : d' = d := Except.ok.inj (hd'.symm.trans h)
  rcases hc with ⟨r, h0, h1, h2⟩ | ⟨e, s⟩
  · exact Or.inl (r.isEigSys h0 h1 h2)
  · exact Or.inr ⟨diagM_orthonormal' m d' h, e, s⟩

/-- non-vacuity: [[2,1,0],[1,2,0],[0,0,1]] is decomposed exactly, after one genuine QL sweep -/
example : ∃ d, diagM (⟨2, 1, 0, 2, 0, 1⟩ : M6 ℝ) = .ok d ∧ IsEigSys d ⟨2, 1, 0, 2, 0, 1⟩ := by
  obtain ⟨d, hd, hc⟩ := diagM_block2 (⟨2, 1, 0, 2, 0, 1⟩ : M6 ℝ) (rot0_e1_twod _ rfl rfl)
  refine ⟨d, hd, ?_⟩
  rcases hc with ⟨r, h0, h1, h2⟩ | ⟨_, s⟩
  · exact r.isEigSys h0 h1 h2
  · rw [example_not_small] at s; exact absurd s (by decide)

/-- `xᵀ (form_m d) x = Σ l_k (v_k · x)²` -/
theorem formM_quadratic_form (d : Eig12 ℝ) (x : Vec3 ℝ) :
    vtMv (formM d) x =
      d.l0 * (d.x0 * x.x + d.y0 * x.y + d.z0 * x.z) ^ 2 +
      d.l1 * (d.x1 * x.x + d.y1 * x.y + d.z1 * x.z) ^ 2 +
      d.l2 * (d.x2 * x.x + d.y2 * x.y + d.z2 * x.z) ^ 2 := vtMv_formM d x

/-- matrix functions are well defined: two eigen systems of the same matrix give the same `f(m)` -/
theorem formM_fun_congr {d d' : Eig12 ℝ} {m : M6 ℝ} (f : ℝ → ℝ) (h : IsEigSys d m) (h' : IsEigSys d' m) :
    formM (mapEig f d) = formM (mapEig f d') := Refine.Model.Matrix.formM_fun_congr f h h'

/-- `exp_m (log_m m) = m` for positive eigenvalues, given exact inner decompositions -/
theorem exp_log (m lg : M6 ℝ) (d d' : Eig12 ℝ)
    (h1 : diagM m = .ok d) (he : IsEigSys d m) (hpos : 0 < d.l0 ∧ 0 < d.l1 ∧ 0 < d.l2)
    (hl : logM m = .ok lg) (h2 : diagM lg = .ok d') (he' : IsEigSys d' lg) :
    expM lg = .ok m := by
  obtain rfl := Except.ok.inj ((logM_of h1).symm.trans hl)
  rw [expM_of h2]
  exact congrArg Except.ok (formM_comp_inv Real.log Real.exp he he' (Real.exp_log hpos.1) (Real.exp_log hpos.2.1)
    (Real.exp_log hpos.2.2))

/-- `log_m (exp_m m) = m` for every symmetric m, given exact inner decompositions -/
theorem log_exp (m ex : M6 ℝ) (d d' : Eig12 ℝ)
    (h1 : diagM m = .ok d) (he : IsEigSys d m)
    (hx : expM m = .ok ex) (h2 : diagM ex = .ok d') (he' : IsEigSys d' ex) :
    logM ex = .ok m := by
  obtain rfl := Except.ok.inj ((expM_of h1).symm.trans hx)
  rw [logM_of h2]
  exact congrArg Except.ok (formM_comp_inv Real.exp Real.log he he' (Real.log_exp _) (Real.log_exp _) (Real.log_exp _))

theorem sqrtM_spec (m s is : M6 ℝ) (d : Eig12 ℝ) (h1 : diagM m = .ok d) (he : IsEigSys d m)
    (h : sqrtM m = .ok (s, is)) :
    (0 < d.l0 ∧ 0 < d.l1 ∧ 0 < d.l2) ∧
    s.toMat * s.toMat = m.toMat ∧ s.toMat * is.toMat = 1 ∧ is.toMat * s.toMat = 1 := by
  rw [sqrtM, h1] at h
  dsimp only at h
  split_ifs at h  -- the error exit closes by itself (`h : .error _ = .ok _`)
  obtain ⟨r0, r1, r2, hs, his⟩ := sqrtTail_ok h
  -- the divisibility guards of the tail say more than the sign guard: `sqrt l ≠ 0` is `0 < l`
  have p0 := Real.sqrt_ne_zero'.mp r0
  have p1 := Real.sqrt_ne_zero'.mp r1
  have p2 := Real.sqrt_ne_zero'.mp r2
  have hss : s.toMat * s.toMat = m.toMat := by
    rw [hs, toMat_formM_mul d he.orth, mapEig_eq_self d _ (Real.mul_self_sqrt p0.le) (Real.mul_self_sqrt p1.le)
      (Real.mul_self_sqrt p2.le), he.form]
  have hsi : s.toMat * is.toMat = 1 := by
    rw [hs, his, toMat_formM_mul d he.orth, mapEig_congr d _ (fun _ => (1 : ℝ)) (mul_one_div_cancel r0)
      (mul_one_div_cancel r1) (mul_one_div_cancel r2), toMat_formM_one d he.orth]
  exact ⟨⟨p0, p1, p2⟩, hss, hsi, mul_eq_one_comm.mp hsi⟩

/-- `sqrt_m`: the first result squares to m -/
theorem sqrt_sq (m s is : M6 ℝ) (d : Eig12 ℝ) (h1 : diagM m = .ok d) (he : IsEigSys d m)
    (h : sqrtM m = .ok (s, is)) : s.toMat * s.toMat = m.toMat :=
  (sqrtM_spec m s is d h1 he h).2.1

/-- `sqrt_m`: the two results are inverse to each other -/
theorem sqrt_invsqrt (m s is : M6 ℝ) (d : Eig12 ℝ) (h1 : diagM m = .ok d) (he : IsEigSys d m)
    (h : sqrtM m = .ok (s, is)) : s.toMat * is.toMat = 1 ∧ is.toMat * s.toMat = 1 :=
  (sqrtM_spec m s is d h1 he h).2.2

/-- hypotheses shared by the intersect / bound theorems: the two inner eigen decompositions
    (of `m1`, and of `m1^{-1/2} m2 m1^{-1/2}`) succeeded and are exact -/
structure InnerExact (m1 m2 s is : M6 ℝ) (d1 d2 : Eig12 ℝ) : Prop where
  h1 : diagM m1 = .ok d1
  e1 : IsEigSys d1 m1
  hs : sqrtM m1 = .ok (s, is)
  h2 : diagM (multM0M1M0 is m2) = .ok d2
  e2 : IsEigSys d2 (multM0M1M0 is m2)

/-- with positive eigenvalues `sqrt_abs_m` is `sqrt_m` -/
theorem bound_eq_combine {m1 m2 s is : M6 ℝ} {d1 d2 : Eig12 ℝ} (H : InnerExact m1 m2 s is d1 d2) :
    bound m1 m2 = combine (fun x => Scalar.cmin Scalar.one x) s is m2 := by
  obtain ⟨hpos, _⟩ := sqrtM_spec m1 s is d1 H.h1 H.e1 H.hs
  exact bound_of ((sqrtAbsM_eq_sqrtM m1 d1 H.h1 ⟨hpos.1.le, hpos.2.1.le, hpos.2.2.le⟩).trans H.hs) m2

/-- the quadratic forms of `m1`, `m2` and of the combined matrix in the common basis `w = Wᵀ m1^{1/2} x` -/
theorem InnerExact.forms {m1 m2 s is m12 : M6 ℝ} {d1 d2 : Eig12 ℝ} (H : InnerExact m1 m2 s is d1 d2)
    (clamp : ℝ → ℝ) (h : combine clamp s is m2 = .ok m12) (x : Vec3 ℝ) :
    ∃ w : Fin 3 → ℝ, vtMv m1 x = ∑ k, w k ^ 2 ∧ vtMv m2 x = ∑ k, d2.lam k * w k ^ 2 ∧
      vtMv m12 x = ∑ k, clamp (d2.lam k) * w k ^ 2 := by
  obtain ⟨_, hss, hsi, _⟩ := sqrtM_spec m1 s is d1 H.h1 H.e1 H.hs
  obtain rfl := Except.ok.inj ((combine_of H.h2 clamp s).symm.trans h)
  have hB : is.toMat * m2.toMat * is.toMat = d2.V * diagonal d2.lam * d2.Vᵀ := by
    rw [← toMat_multM0M1M0, ← H.e2.form, toMat_formM]
  obtain ⟨c1, c2, c3⟩ := combine_core s.toMat is.toMat m2.toMat d2.V d2.lam clamp
    (M6.toMat_transpose s) hsi ((orthonormal_iff d2).mp H.e2.orth) hB x.toFun
  refine ⟨d2.Vᵀ *ᵥ (s.toMat *ᵥ x.toFun), ?_, ?_, ?_⟩
  · rw [vtMv_eq, ← hss, c1]
  · rw [vtMv_eq, c2]
  · rw [vtMv_eq, toMat_multM0M1M0, toMat_formM_mapEig, c3]

/-- `xᵀ (intersect A B) x ≥ xᵀ A x` for every x -/
theorem intersect_ge_left {m1 m2 s is m12 : M6 ℝ} {d1 d2 : Eig12 ℝ} (H : InnerExact m1 m2 s is d1 d2)
    (h : intersect m1 m2 = .ok m12) (x : Vec3 ℝ) : vtMv m1 x ≤ vtMv m12 x := by
  rw [intersect_of H.hs] at h
  obtain ⟨w, a, _, c⟩ := H.forms _ h x
  rw [a, c]
  refine Finset.sum_le_sum fun k _ => le_mul_of_one_le_left (sq_nonneg _) ?_
  rw [cmax_eq, one_eq]; exact le_max_left _ _

/-- `xᵀ (intersect A B) x ≥ xᵀ B x` for every x -/
theorem intersect_ge_right {m1 m2 s is m12 : M6 ℝ} {d1 d2 : Eig12 ℝ} (H : InnerExact m1 m2 s is d1 d2)
    (h : intersect m1 m2 = .ok m12) (x : Vec3 ℝ) : vtMv m2 x ≤ vtMv m12 x := by
  rw [intersect_of H.hs] at h
  obtain ⟨w, _, b, c⟩ := H.forms _ h x
  rw [b, c]
  refine Finset.sum_le_sum fun k _ => mul_le_mul_of_nonneg_right ?_ (sq_nonneg _)
  rw [cmax_eq, one_eq]; exact le_max_right _ _

/-- the intersection is positive definite -/
theorem intersect_spd {m1 m2 s is m12 : M6 ℝ} {d1 d2 : Eig12 ℝ} (H : InnerExact m1 m2 s is d1 d2)
    (h : intersect m1 m2 = .ok m12) (x : Vec3 ℝ) (hx : x.x ≠ 0 ∨ x.y ≠ 0 ∨ x.z ≠ 0) :
    0 < vtMv m12 x := by
  obtain ⟨hpos, _, _, _⟩ := sqrtM_spec m1 s is d1 H.h1 H.e1 H.hs
  have h1 : 0 < vtMv m1 x := by
    rw [← H.e1.form]; exact vtMv_formM_pos d1 H.e1.orth hpos x hx
  exact lt_of_lt_of_le h1 (intersect_ge_left H h x)

/-- when both arguments coincide the clamped matrix is the identity, so the result is `m1` -/
theorem combine_self (clamp : ℝ → ℝ) (hc1 : clamp 1 = 1) {m1 s is m12 : M6 ℝ} {d1 d2 : Eig12 ℝ}
    (H : InnerExact m1 m1 s is d1 d2) (h : combine clamp s is m1 = .ok m12) : m12 = m1 := by
  obtain ⟨_, hss, hsi, his⟩ := sqrtM_spec m1 s is d1 H.h1 H.e1 H.hs
  have hone : (⟨1, 0, 0, 1, 0, 1⟩ : M6 ℝ).toMat = 1 := by
    rw [one_fin_three]; rfl
  have hbar : multM0M1M0 is m1 = (⟨1, 0, 0, 1, 0, 1⟩ : M6 ℝ) := by
    apply M6.toMat_injective
    rw [toMat_multM0M1M0, ← hss, hone]
    calc is.toMat * (s.toMat * s.toMat) * is.toMat
        = (is.toMat * s.toMat) * (s.toMat * is.toMat) := by simp only [Matrix.mul_assoc]
      _ = 1 := by rw [his, hsi, Matrix.one_mul]
  obtain rfl := Except.ok.inj ((combine_of H.h2 clamp s).symm.trans h)
  have he2 := H.e2
  rw [hbar] at he2
  -- `clamp` of the identity, computed in its trivial eigen system
  have hcl : formM (mapEig clamp d2) = (⟨1, 0, 0, 1, 0, 1⟩ : M6 ℝ) := by
    rw [Refine.Model.Matrix.formM_fun_congr clamp he2 (isEigSys_diag 1 1 1)]
    show formM ⟨clamp 1, clamp 1, clamp 1, 1, 0, 0, 0, 1, 0, 0, 0, 1⟩ = _
    rw [formM_diag, hc1]
  apply M6.toMat_injective
  rw [hcl, toMat_multM0M1M0, ← hss, hone, Matrix.mul_one]

/-- `intersect A A = A` -/
theorem intersect_self {m1 s is m12 : M6 ℝ} {d1 d2 : Eig12 ℝ} (H : InnerExact m1 m1 s is d1 d2)
    (h : intersect m1 m1 = .ok m12) : m12 = m1 := by
  rw [intersect_of H.hs] at h
  refine combine_self _ ?_ H h
  rw [cmax_eq, one_eq, max_self]

/-- the `REF_DIV_ZERO` branch of `ref_matrix_intersect` / `ref_matrix_bound`: a singular first argument
    makes the routine return the second argument unchanged -/
theorem intersect_bound_div_zero (m1 m2 : M6 ℝ) :
    (sqrtM m1 = .error .div_zero → intersect m1 m2 = .ok m2) ∧
    (sqrtAbsM m1 = .error .div_zero → bound m1 m2 = .ok m2) := by
  constructor
  · intro h; unfold intersect; rw [h]
  · intro h; unfold bound; rw [h]

/-- `xᵀ (bound A B) x ≤ xᵀ A x` for every x (A with positive eigenvalues: `sqrt_abs_m` = `sqrt_m`) -/
theorem bound_le_left {m1 m2 s is m12 : M6 ℝ} {d1 d2 : Eig12 ℝ} (H : InnerExact m1 m2 s is d1 d2)
    (h : bound m1 m2 = .ok m12) (x : Vec3 ℝ) : vtMv m12 x ≤ vtMv m1 x := by
  rw [bound_eq_combine H] at h
  obtain ⟨w, a, _, c⟩ := H.forms _ h x
  rw [a, c]
  refine Finset.sum_le_sum fun k _ => mul_le_of_le_one_left (sq_nonneg _) ?_
  rw [cmin_eq, one_eq]; exact min_le_left _ _

/-- `xᵀ (bound A B) x ≤ xᵀ B x` for every x -/
theorem bound_le_right {m1 m2 s is m12 : M6 ℝ} {d1 d2 : Eig12 ℝ} (H : InnerExact m1 m2 s is d1 d2)
    (h : bound m1 m2 = .ok m12) (x : Vec3 ℝ) : vtMv m12 x ≤ vtMv m2 x := by
  rw [bound_eq_combine H] at h
  obtain ⟨w, _, b, c⟩ := H.forms _ h x
  rw [b, c]
  refine Finset.sum_le_sum fun k _ => mul_le_mul_of_nonneg_right ?_ (sq_nonneg _)
  rw [cmin_eq, one_eq]; exact min_le_right _ _

/-- `bound A A = A` -/
theorem bound_self {m1 s is m12 : M6 ℝ} {d1 d2 : Eig12 ℝ} (H : InnerExact m1 m1 s is d1 d2)
    (h : bound m1 m1 = .ok m12) : m12 = m1 := by
  rw [bound_eq_combine H] at h
  refine combine_self _ ?_ H h
  rw [cmin_eq, one_eq, min_self]

/-- `ref_matrix_inv_gen` with n = 3: every successful run returns the inverse (no hypothesis on the input:
    the `ref_math_divisible` guards are what makes the pivots non-zero) -/
theorem invGen3_mul (a b : M33 ℝ) (h : invGen3 a = .ok b) :
    b.toMat * a.toMat = 1 ∧ a.toMat * b.toMat = 1 :=
  ⟨invGen3_spec a b h, mul_eq_one_comm.mp (invGen3_spec a b h)⟩

/-- `ref_matrix_inv_m`: every successful run returns the two-sided inverse of m
    (the upper triangle of the general inverse suffices because that inverse is symmetric) -/
theorem invM_mul (m r : M6 ℝ) (h : invM m = .ok r) : r.toMat * m.toMat = 1 ∧ m.toMat * r.toMat = 1 := by
  revert h
  fun_cases invM m <;> intro h <;> cases h
  rename_i inv hinv
  have hl : inv.toMat * m.toMat = 1 := by
    rw [← mFull_toMat]; exact invGen3_spec _ _ hinv
  have hsym : inv.toMatᵀ = inv.toMat := by
    rw [← inv_eq_left_inv hl, transpose_nonsing_inv, M6.toMat_transpose]
  have hfull : (fullM inv).toMat = inv.toMat := by
    rw [M33.toMat, transpose_fin_three] at hsym
    obtain ⟨_, e10, e20, _, _, e21, _, _, _⟩ := lit3_inj hsym
    simp only [fullM, M6.toMat, M33.toMat, e10, e20, e21]
  rw [hfull]
  exact ⟨hl, mul_eq_one_comm.mp hl⟩

/-- `ref_matrix_det_m`: the result is the determinant, or 0.0 when a pivot is not `ref_math_divisible`
    (the C returns REF_SUCCESS with `*det = 0.0` there) -/
theorem detM_det_or_zero (m : M6 ℝ) : detM m = m.toMat.det ∨ detM m = 0 := by
  cases m with
  | mk m11 m12 m13 m22 m23 m33 =>
  rw [detM_def]
  split_ifs with g1 g2 g3
  · right; rfl
  · right; rfl
  · right; rfl
  · left
    rw [Bool.not_eq_true', Bool.not_eq_false] at g1 g3
    have h1 : m11 ≠ 0 := divisible_ne_zero g1
    have h2 : m22 - m12 / m11 * m12 ≠ 0 := divisible_ne_zero g3
    have h3 : m11 * m22 - m12 ^ 2 ≠ 0 := by
      have : m11 * m22 - m12 ^ 2 = (m22 - m12 / m11 * m12) * m11 := by field_simp
      rw [this]; exact mul_ne_zero h2 h1
    rw [_root_.Matrix.det_fin_three]
    simp [M6.toMat]
    field_simp
    ring

/-- `ref_matrix_descending_eig` permutes (value, vector) pairs: it keeps an eigen system an eigen system
    and leaves the eigenvalues in descending order -/
theorem descendingEig_spec {d : Eig12 ℝ} {m : M6 ℝ} (h : IsEigSys d m) :
    IsEigSys (descendingEig d) m ∧
    (descendingEig d).l1 ≤ (descendingEig d).l0 ∧ (descendingEig d).l2 ≤ (descendingEig d).l1 := by
  have s1 : ∀ d : Eig12 ℝ, IsEigSys d m →
      IsEigSys (if Scalar.bgt d.l1 d.l0 then swap01 d else d) m ∧
      (if Scalar.bgt d.l1 d.l0 then swap01 d else d).l1 ≤ (if Scalar.bgt d.l1 d.l0 then swap01 d else d).l0 := by
    intro d h
    by_cases c : Scalar.bgt d.l1 d.l0 = true
    · rw [if_pos c]; simp only [Scalar.bgt, lt_iff] at c
      exact ⟨h.swap01, le_of_lt c⟩
    · rw [if_neg c]; simp only [Scalar.bgt, lt_iff, not_lt] at c
      exact ⟨h, c⟩
  have s2 : ∀ d : Eig12 ℝ, IsEigSys d m → d.l1 ≤ d.l0 →
      IsEigSys (if Scalar.bgt d.l2 d.l0 then swap02 d else d) m ∧
      (if Scalar.bgt d.l2 d.l0 then swap02 d else d).l1 ≤ (if Scalar.bgt d.l2 d.l0 then swap02 d else d).l0 ∧
      (if Scalar.bgt d.l2 d.l0 then swap02 d else d).l2 ≤ (if Scalar.bgt d.l2 d.l0 then swap02 d else d).l0 := by
    intro d h h10
    by_cases c : Scalar.bgt d.l2 d.l0 = true
    · rw [if_pos c]; simp only [Scalar.bgt, lt_iff] at c
      refine ⟨h.swap02, ?_, ?_⟩
      · show d.l1 ≤ d.l2; linarith
      · show d.l0 ≤ d.l2; linarith
    · rw [if_neg c]; simp only [Scalar.bgt, lt_iff, not_lt] at c
      exact ⟨h, h10, c⟩
  have s3 : ∀ d : Eig12 ℝ, IsEigSys d m → d.l1 ≤ d.l0 → d.l2 ≤ d.l0 →
      IsEigSys (if Scalar.bgt d.l2 d.l1 then swap12 d else d) m ∧
      (if Scalar.bgt d.l2 d.l1 then swap12 d else d).l1 ≤ (if Scalar.bgt d.l2 d.l1 then swap12 d else d).l0 ∧
      (if Scalar.bgt d.l2 d.l1 then swap12 d else d).l2 ≤ (if Scalar.bgt d.l2 d.l1 then swap12 d else d).l1 := by
    intro d h h10 h20
    by_cases c : Scalar.bgt d.l2 d.l1 = true
    · rw [if_pos c]; simp only [Scalar.bgt, lt_iff] at c
      refine ⟨h.swap12, ?_, ?_⟩
      · show d.l2 ≤ d.l0; exact h20
      · show d.l1 ≤ d.l2; linarith
    · rw [if_neg c]; simp only [Scalar.bgt, lt_iff, not_lt] at c
      exact ⟨h, h10, c⟩
  unfold descendingEig
  obtain ⟨e1, o1⟩ := s1 d h
  obtain ⟨e2, o2, o2'⟩ := s2 _ e1 o1
  exact s3 _ e2 o2 o2'

/-- a diagonal matrix is returned unchanged with the identity as eigenvectors (exact decomposition) -/
theorem diagM_diagonal (a b c : ℝ) :
    diagM (⟨a, 0, 0, b, 0, c⟩ : M6 ℝ) = .ok ⟨a, b, c, 1, 0, 0, 0, 1, 0, 0, 0, 1⟩ ∧
    IsEigSys ⟨a, b, c, 1, 0, 0, 0, 1, 0, 0, 0, 1⟩ (⟨a, 0, 0, b, 0, c⟩ : M6 ℝ) :=
  ⟨diagM_diag a b c, isEigSys_diag a b c⟩

/-- non-vacuity of `diagM_orthonormal` -/
example : Orthonormal (⟨2, 3, 5, 1, 0, 0, 0, 1, 0, 0, 0, 1⟩ : Eig12 ℝ) :=
  diagM_orthonormal _ _ (diagM_diagonal 2 3 5).1

theorem logM_diag (a b c : ℝ) :
    logM (⟨a, 0, 0, b, 0, c⟩ : M6 ℝ) = .ok ⟨Real.log a, 0, 0, Real.log b, 0, Real.log c⟩ := by
  rw [logM_of (diagM_diag a b c)]
  exact congrArg Except.ok (formM_diag _ _ _)

theorem expM_diag (a b c : ℝ) :
    expM (⟨a, 0, 0, b, 0, c⟩ : M6 ℝ) = .ok ⟨Real.exp a, 0, 0, Real.exp b, 0, Real.exp c⟩ := by
  rw [expM_of (diagM_diag a b c)]
  exact congrArg Except.ok (formM_diag _ _ _)

/-- non-vacuity of `exp_log`: all hypotheses hold for diag(2,3,5) -/
example : expM (⟨Real.log 2, 0, 0, Real.log 3, 0, Real.log 5⟩ : M6 ℝ) = .ok ⟨2, 0, 0, 3, 0, 5⟩ :=
  exp_log ⟨2, 0, 0, 3, 0, 5⟩ _ _ _ (diagM_diagonal 2 3 5).1 (diagM_diagonal 2 3 5).2
    ⟨by norm_num, by norm_num, by norm_num⟩ (logM_diag 2 3 5)
    (diagM_diagonal (Real.log 2) (Real.log 3) (Real.log 5)).1
    (diagM_diagonal (Real.log 2) (Real.log 3) (Real.log 5)).2

/-- non-vacuity of `log_exp` (an indefinite matrix) -/
example : logM (⟨Real.exp (-1), 0, 0, Real.exp 0, 0, Real.exp 7⟩ : M6 ℝ) = .ok ⟨-1, 0, 0, 0, 0, 7⟩ :=
  log_exp ⟨-1, 0, 0, 0, 0, 7⟩ _ _ _ (diagM_diagonal (-1) 0 7).1 (diagM_diagonal (-1) 0 7).2
    (expM_diag (-1) 0 7)
    (diagM_diagonal (Real.exp (-1)) (Real.exp 0) (Real.exp 7)).1
    (diagM_diagonal (Real.exp (-1)) (Real.exp 0) (Real.exp 7)).2

theorem sqrtM_diag {a b c : ℝ} (ha : 0 ≤ a) (hb : 0 ≤ b) (hc : 0 ≤ c)
    (ga : Scalar.divisible 1 (Real.sqrt a) = true) (gb : Scalar.divisible 1 (Real.sqrt b) = true)
    (gc : Scalar.divisible 1 (Real.sqrt c) = true) :
    sqrtM (⟨a, 0, 0, b, 0, c⟩ : M6 ℝ) = .ok (⟨Real.sqrt a, 0, 0, Real.sqrt b, 0, Real.sqrt c⟩,
      ⟨1 / Real.sqrt a, 0, 0, 1 / Real.sqrt b, 0, 1 / Real.sqrt c⟩) := by
  rw [sqrtM_of (diagM_diag a b c) ha hb hc]
  unfold sqrtTail
  simp only [mapEig, sqrt_eq, one_eq, div_eq, ga, gb, gc, Bool.not_true, Bool.false_eq_true, if_false]
  rw [formM_diag, formM_diag]

theorem sqrtM_diag491 :
    sqrtM (⟨4, 0, 0, 9, 0, 1⟩ : M6 ℝ) = .ok (⟨2, 0, 0, 3, 0, 1⟩, ⟨1 / 2, 0, 0, 1 / 3, 0, 1⟩) := by
  have sqrt4 : Real.sqrt 4 = 2 := by
    rw [show (4 : ℝ) = 2 * 2 by norm_num]; exact Real.sqrt_mul_self (by norm_num)
  have sqrt9 : Real.sqrt 9 = 3 := by
    rw [show (9 : ℝ) = 3 * 3 by norm_num]; exact Real.sqrt_mul_self (by norm_num)
  have h := sqrtM_diag (a := 4) (b := 9) (c := 1) (by norm_num) (by norm_num) (by norm_num)
    (by rw [sqrt4, divisible_iff]; norm_num) (by rw [sqrt9, divisible_iff]; norm_num)
    (by rw [Real.sqrt_one, divisible_iff]; norm_num)
  rw [sqrt4, sqrt9, Real.sqrt_one] at h
  rw [h]; norm_num

/-- two diagonal matrices, the square root of the first one known: both inner decompositions are exact -/
theorem innerExact_diag {a b c sa sb sc : ℝ}
    (hs : sqrtM (⟨a, 0, 0, b, 0, c⟩ : M6 ℝ) = .ok (⟨sa, 0, 0, sb, 0, sc⟩, ⟨1 / sa, 0, 0, 1 / sb, 0, 1 / sc⟩)) (x y z : ℝ) :
    InnerExact (⟨a, 0, 0, b, 0, c⟩ : M6 ℝ) ⟨x, 0, 0, y, 0, z⟩ ⟨sa, 0, 0, sb, 0, sc⟩ ⟨1 / sa, 0, 0, 1 / sb, 0, 1 / sc⟩
      ⟨a, b, c, 1, 0, 0, 0, 1, 0, 0, 0, 1⟩
      ⟨1 / sa * x * (1 / sa), 1 / sb * y * (1 / sb), 1 / sc * z * (1 / sc), 1, 0, 0, 0, 1, 0, 0, 0, 1⟩ := by
  refine ⟨diagM_diag a b c, isEigSys_diag a b c, hs, ?_, ?_⟩
  · rw [multM0M1M0_diag]; exact diagM_diag _ _ _
  · rw [multM0M1M0_diag]; exact isEigSys_diag _ _ _

/-- the shared tail of intersect / bound when everything is diagonal: the clamp acts entry by entry -/
theorem combine_diag {m1 m2 is : M6 ℝ} {d1 : Eig12 ℝ} {sa sb sc l0 l1 l2 : ℝ}
    (H : InnerExact m1 m2 ⟨sa, 0, 0, sb, 0, sc⟩ is d1 ⟨l0, l1, l2, 1, 0, 0, 0, 1, 0, 0, 0, 1⟩) (clamp : ℝ → ℝ) :
    combine clamp ⟨sa, 0, 0, sb, 0, sc⟩ is m2 =
      .ok ⟨sa * clamp l0 * sa, 0, 0, sb * clamp l1 * sb, 0, sc * clamp l2 * sc⟩ := by
  rw [combine_of H.h2]
  show Except.ok (multM0M1M0 _ (formM ⟨clamp l0, clamp l1, clamp l2, 1, 0, 0, 0, 1, 0, 0, 0, 1⟩)) = _
  rw [formM_diag, multM0M1M0_diag]

/-- all inner decompositions are exact for A = diag(4, 9, 1), B = diag(1, 36, 1/4) -/
theorem innerExact_example :
    InnerExact (⟨4, 0, 0, 9, 0, 1⟩ : M6 ℝ) ⟨1, 0, 0, 36, 0, 1 / 4⟩ ⟨2, 0, 0, 3, 0, 1⟩ ⟨1 / 2, 0, 0, 1 / 3, 0, 1⟩
      ⟨4, 9, 1, 1, 0, 0, 0, 1, 0, 0, 0, 1⟩ ⟨1 / 2 * 1 * (1 / 2), 1 / 3 * 36 * (1 / 3), 1 * (1 / 4) * 1, 1, 0, 0, 0, 1, 0, 0, 0, 1⟩ := by
  have h := innerExact_diag (a := 4) (b := 9) (c := 1) (sa := 2) (sb := 3) (sc := 1)
    (by rw [sqrtM_diag491]; norm_num) 1 36 (1 / 4)
  norm_num at h ⊢
  exact h

theorem intersect_example :
    intersect (⟨4, 0, 0, 9, 0, 1⟩ : M6 ℝ) ⟨1, 0, 0, 36, 0, 1 / 4⟩ = .ok ⟨4, 0, 0, 36, 0, 1⟩ := by
  rw [intersect_of innerExact_example.hs, combine_diag innerExact_example, cmax_eq, cmax_eq, cmax_eq, one_eq]
  norm_num

/-- non-vacuity of the intersect theorems: the hypotheses hold and the result is diag(4, 36, 1) -/
example : intersect (⟨4, 0, 0, 9, 0, 1⟩ : M6 ℝ) ⟨1, 0, 0, 36, 0, 1 / 4⟩ = .ok ⟨4, 0, 0, 36, 0, 1⟩ :=
  intersect_example

/-- non-vacuity of `intersect_ge_left/right`, `intersect_spd`: instantiate with the exact example -/
example (x : Vec3 ℝ) : vtMv (⟨4, 0, 0, 9, 0, 1⟩ : M6 ℝ) x ≤ vtMv (⟨4, 0, 0, 36, 0, 1⟩ : M6 ℝ) x ∧
    vtMv (⟨1, 0, 0, 36, 0, 1 / 4⟩ : M6 ℝ) x ≤ vtMv (⟨4, 0, 0, 36, 0, 1⟩ : M6 ℝ) x :=
  ⟨intersect_ge_left innerExact_example intersect_example x, intersect_ge_right innerExact_example intersect_example x⟩

/-- non-vacuity of `bound_le_left/right`: the same pair gives diag(1, 9, 1/4) -/
example (x : Vec3 ℝ) : vtMv (⟨1, 0, 0, 9, 0, 1 / 4⟩ : M6 ℝ) x ≤ vtMv (⟨4, 0, 0, 9, 0, 1⟩ : M6 ℝ) x ∧
    vtMv (⟨1, 0, 0, 9, 0, 1 / 4⟩ : M6 ℝ) x ≤ vtMv (⟨1, 0, 0, 36, 0, 1 / 4⟩ : M6 ℝ) x := by
  have h : bound (⟨4, 0, 0, 9, 0, 1⟩ : M6 ℝ) ⟨1, 0, 0, 36, 0, 1 / 4⟩ = .ok ⟨1, 0, 0, 9, 0, 1 / 4⟩ := by
    rw [bound_eq_combine innerExact_example, combine_diag innerExact_example, cmin_eq, cmin_eq, cmin_eq, one_eq]
    norm_num
  exact ⟨bound_le_left innerExact_example h x, bound_le_right innerExact_example h x⟩

/-- non-vacuity of `sqrt_sq` / `sqrt_invsqrt` -/
example : (⟨2, 0, 0, 3, 0, 1⟩ : M6 ℝ).toMat * (⟨2, 0, 0, 3, 0, 1⟩ : M6 ℝ).toMat = (⟨4, 0, 0, 9, 0, 1⟩ : M6 ℝ).toMat :=
  sqrt_sq _ _ _ _ (diagM_diagonal 4 9 1).1 (diagM_diagonal 4 9 1).2 sqrtM_diag491

/-- non-vacuity of `descendingEig_spec` -/
example : (descendingEig (⟨2, 5, 3, 1, 0, 0, 0, 1, 0, 0, 0, 1⟩ : Eig12 ℝ)).l1 ≤
    (descendingEig (⟨2, 5, 3, 1, 0, 0, 0, 1, 0, 0, 0, 1⟩ : Eig12 ℝ)).l0 :=
  (descendingEig_spec (isEigSys_diag 2 5 3)).2.1

/-- non-vacuity of `diagM2_spec`: the hypothesis is met by every matrix -/
example : ∃ d, diagM2 (⟨2, 1, 2⟩ : M3 ℝ) = .ok d ∧ Orthonormal2 d ∧ formM2 d = ⟨2, 1, 2⟩ := by
  obtain ⟨d, h⟩ := diagM2_total ⟨2, 1, 2⟩
  exact ⟨d, h, diagM2_spec _ _ h⟩

/-- the rotation branch of the first rotation is taken for m12 = 3, m13 = 4 (L = 5) -/
example : (rot0 (⟨1, 3, 4, 2, 0, 5⟩ : M6 ℝ)).e0 = 5 := by
  rw [rot0_of_pos _ (L := 5) (by norm_num) (by norm_num)]

/-- `det_m` of diag(2, 3, 5) -/
example : detM (⟨2, 0, 0, 3, 0, 5⟩ : M6 ℝ) = 30 := by
  rw [detM_diag 2 3 5 (by norm_num) (by norm_num)]; norm_num

theorem divisible_eq_decide (n d : ℝ) : Scalar.divisible n d = decide (|n| < 10 ^ 20 * |d|) := by
  rw [Bool.eq_iff_iff, divisible_iff', decide_eq_true_iff]; rfl

theorem invM_example_step0 : invStep 0 (mFull (⟨2, 1, 0, 2, 0, 1⟩ : M6 ℝ), M33.identity) =
    .ok (⟨⟨1, 1 / 2, 0⟩, ⟨0, 3 / 2, 0⟩, ⟨0, 0, 1⟩⟩, ⟨⟨1 / 2, 0, 0⟩, ⟨-(1 / 2), 1, 0⟩, ⟨0, 0, 1⟩⟩) := by
  have p0 : pivotRow 0 (⟨⟨2, 1, 0⟩, ⟨1, 2, 0⟩, ⟨0, 0, 1⟩⟩ : M33 ℝ) = 0 := by
    simp [pivotRow, Scalar.bgt, cabs_eq, lt_iff]
  norm_num [invStep, swapStep, p0, scaleRow, elimOthers, elimRow, mFull, M33.identity, Vec3.allDivisible,
    Vec3.divBy, Vec3.axmy, divisible_eq_decide]

theorem invM_example_step1 : invStep 1 ((⟨⟨1, 1 / 2, 0⟩, ⟨0, 3 / 2, 0⟩, ⟨0, 0, 1⟩⟩ : M33 ℝ), (⟨⟨1 / 2, 0, 0⟩, ⟨-(1 / 2), 1, 0⟩, ⟨0, 0, 1⟩⟩ : M33 ℝ)) =
    .ok (⟨⟨1, 0, 0⟩, ⟨0, 1, 0⟩, ⟨0, 0, 1⟩⟩, ⟨⟨2 / 3, -(1 / 3), 0⟩, ⟨-(1 / 3), 2 / 3, 0⟩, ⟨0, 0, 1⟩⟩) := by
  have p0 : pivotRow 1 (⟨⟨1, 1 / 2, 0⟩, ⟨0, 3 / 2, 0⟩, ⟨0, 0, 1⟩⟩ : M33 ℝ) = 1 := by
    simp [pivotRow, Scalar.bgt, cabs_eq, lt_iff]
  norm_num [invStep, swapStep, p0, scaleRow, elimOthers, elimRow, Vec3.allDivisible,
    Vec3.divBy, Vec3.axmy, divisible_eq_decide]

theorem invM_example_step2 : invStep 2 ((⟨⟨1, 0, 0⟩, ⟨0, 1, 0⟩, ⟨0, 0, 1⟩⟩ : M33 ℝ), (⟨⟨2 / 3, -(1 / 3), 0⟩, ⟨-(1 / 3), 2 / 3, 0⟩, ⟨0, 0, 1⟩⟩ : M33 ℝ)) =
    .ok (⟨⟨1, 0, 0⟩, ⟨0, 1, 0⟩, ⟨0, 0, 1⟩⟩, ⟨⟨2 / 3, -(1 / 3), 0⟩, ⟨-(1 / 3), 2 / 3, 0⟩, ⟨0, 0, 1⟩⟩) := by
  have p0 : pivotRow 2 (⟨⟨1, 0, 0⟩, ⟨0, 1, 0⟩, ⟨0, 0, 1⟩⟩ : M33 ℝ) = 2 := pivotRow_two _
  norm_num [invStep, swapStep, p0, scaleRow, elimOthers, elimRow, Vec3.allDivisible,
    Vec3.divBy, Vec3.axmy, divisible_eq_decide]

/-- non-vacuity of `invM_mul`: a non-diagonal matrix goes through pivot search, guards and elimination -/
theorem invM_example : invM (⟨2, 1, 0, 2, 0, 1⟩ : M6 ℝ) = .ok ⟨2 / 3, -(1 / 3), 0, 2 / 3, 0, 1⟩ := by
  unfold invM invGen3
  rw [invM_example_step0]; dsimp only
  rw [invM_example_step1]; dsimp only
  rw [invM_example_step2]; rfl

/-- the inverse found above is indeed the inverse (instance of `invM_mul`) -/
example : (⟨2 / 3, -(1 / 3), 0, 2 / 3, 0, 1⟩ : M6 ℝ).toMat * (⟨2, 1, 0, 2, 0, 1⟩ : M6 ℝ).toMat = 1 :=
  (invM_mul _ _ invM_example).1

end Refine.Props.C16
