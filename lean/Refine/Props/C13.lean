import Refine.Lemmas.NodeIds
import Refine.Lemmas.MeshOps
import Refine.Lemmas.MeshOpsReal
import Refine.Props.C14NodeCell
import Mathlib.Tactic.Abel

/-!
  C13 — the local operations of `ref_split.c`, `ref_collapse.c`, `ref_swap.c` on the cell groups of
  `Refine/Model/MeshOps.lean` (tied to the C by the `meshops_fn` / `meshops_run` streams): a rejected split attempt
  leaves no trace in the id state; split, collapse and the 2-D swap are (permutations of) their specification; a split
  divides the volume exactly; the swap keeps the boundary chain and the area; guarded splits and collapses never
  create a cell with a repeated vertex.  Stated by no theorem: the executable predicates `localValid*` of the model
  ("valid around the touched vertices"), and the `REF_INCREASE_LIMIT` branch of `trialFrame` after the tets were split.
-/
namespace Refine.Props.C13
open Refine.Model.NodeIds Refine.Model.NodeIds.NodeIds Refine.Model.MeshOps

/-- **reject leaves no trace** (frame level): on every reject path of the modelled frame of `ref_split_pass`
    that is taken *before* `ref_split_edge` (checks failed / cavity not valid / edge not local), all three calls
    `next_global; add; remove` succeed, the attempt is reported as not accepted, the cell groups are literally
    unchanged, `NodeInv` still holds and the abstract id state (live map global ↦ slot, pool of reusable ids =
    unused list ∪ [new_n_global, ∞)) is the one before the attempt. -/
theorem trialFrame_reject_no_trace {m : Mesh} (h : NodeInv m.ids) (hp : PoolInv m.ids) (n0 n1 : Int)
    {d : Decision} (hd : d ≠ .split) :
    (trialFrame m n0 n1 d).1 = .ok ∧ (trialFrame m n0 n1 d).2.1 = false ∧
    (trialFrame m n0 n1 d).2.2.2.g = m.g ∧ NodeInv (trialFrame m n0 n1 d).2.2.2.ids ∧
    (trialFrame m n0 n1 d).2.2.2.ids.abs = m.ids.abs := by
  obtain ⟨h1, h2, h3, h4, h5⟩ := Refine.Props.C14NodeCell.trial_vertex_roundtrip h hp
  cases d <;> first | exact absurd rfl hd | (simp [trialFrame, trialBegin, trialWithdraw, h1, h2, h3, h4, h5])

/-- one group of `ref_split_edge`: with at most `MAX_CELL_SPLIT` cells on the edge the status is
    `REF_SUCCESS` and the group becomes (a permutation of) "for every cell containing both end points the two
    cells with `node0 ↦ new` resp. `node1 ↦ new`, every other cell unchanged"; with more the status is
    `REF_INCREASE_LIMIT` and the group is untouched -/
theorem splitGroup_spec (np : Nat) (cs : List Cell) (n0 n1 new : Int) :
    ((cs.filter (has2 np n0 n1)).length ≤ MAX_CELL_SPLIT →
      (splitGroup np cs n0 n1 new).1 = .ok ∧ (splitGroup np cs n0 n1 new).2.Perm (splitSpec np n0 n1 new cs)) ∧
    (MAX_CELL_SPLIT < (cs.filter (has2 np n0 n1)).length →
      splitGroup np cs n0 n1 new = (.increase_limit, cs)) := by
  constructor
  · intro h
    have : ¬ (cs.filter (has2 np n0 n1)).length > MAX_CELL_SPLIT := by omega
    simp only [splitGroup, listWith2, this, if_false, ne_eq, not_true_eq_false, true_and]
    exact splitLoop_spec np n0 n1 new cs
  · intro h
    simp [splitGroup, listWith2, h]

/-- **splitEdge_spec**: `ref_split_edge` with every group within `MAX_CELL_SPLIT` succeeds and replaces, group by
    group (tet, tri, edg), every cell on the edge by its two halves; nothing else changes -/
theorem splitEdge_spec (g : Groups) (n0 n1 new : Int)
    (ht : (g.tet.filter (has2 4 n0 n1)).length ≤ MAX_CELL_SPLIT)
    (hr : (g.tri.filter (has2 3 n0 n1)).length ≤ MAX_CELL_SPLIT)
    (he : (g.edg.filter (has2 2 n0 n1)).length ≤ MAX_CELL_SPLIT) :
    (splitEdge g n0 n1 new).1 = .ok ∧
    (splitEdge g n0 n1 new).2.tet.Perm (splitSpec 4 n0 n1 new g.tet) ∧
    (splitEdge g n0 n1 new).2.tri.Perm (splitSpec 3 n0 n1 new g.tri) ∧
    (splitEdge g n0 n1 new).2.edg.Perm (splitSpec 2 n0 n1 new g.edg) := by
  obtain ⟨t1, t2⟩ := (splitGroup_spec 4 g.tet n0 n1 new).1 ht
  obtain ⟨r1, r2⟩ := (splitGroup_spec 3 g.tri n0 n1 new).1 hr
  obtain ⟨e1, e2⟩ := (splitGroup_spec 2 g.edg n0 n1 new).1 he
  simp only [splitEdge, t1, r1, e1, ne_eq, not_true_eq_false, if_false, true_and]
  exact ⟨t2, r2, e2⟩

/-- the only error `ref_split_pass` recovers from: more than `MAX_CELL_SPLIT` tets on the edge ↦
    `REF_INCREASE_LIMIT` before anything was changed -/
theorem splitEdge_tet_limit (g : Groups) (n0 n1 new : Int)
    (ht : MAX_CELL_SPLIT < (g.tet.filter (has2 4 n0 n1)).length) :
    splitEdge g n0 n1 new = (.increase_limit, g) := by
  simp [splitEdge, (splitGroup_spec 4 g.tet n0 n1 new).2 ht]

/-- cell counts: `+1` per split cell -/
theorem splitSpec_length (np : Nat) (n0 n1 new : Int) (cs : List Cell) :
    (splitSpec np n0 n1 new cs).length = cs.length + (cs.filter (has2 np n0 n1)).length := by
  induction cs with
  | nil => rfl
  | cons a t ih =>
    rw [splitSpec, List.flatMap_cons, List.length_append, ← splitSpec, ih, splitSpecCell, List.filter_cons]
    by_cases h : has2 np n0 n1 a = true
    · rw [if_pos h, if_pos h]; simp only [List.length_cons, List.length_nil]; omega
    · rw [if_neg h, if_neg h]; simp only [List.length_cons, List.length_nil]; omega

/-- ids inherited: both halves carry the id entry (everything after the `node_per` vertices) of the cell they
    split -/
theorem split_ids_inherited (np : Nat) (n0 n1 new : Int) (c : Cell) (h : np ≤ c.length) :
    (splitV0 np n0 new c).drop np = c.drop np ∧ (splitV1 np n0 n1 new c).drop np = c.drop np := by
  refine ⟨drop_subst np n0 new c, ?_⟩
  unfold splitV1
  rw [drop_subst, drop_subst, drop_subst]

/-- with a fresh `new` (not a vertex of the cell) the C's "undo" (`new ↦ node0`) restores the cell, so the
    node1 version is plainly `node1 ↦ new` -/
theorem splitV1_fresh (np : Nat) (n0 n1 new : Int) (c : Cell) (hf : new ∉ nodesOf np c) :
    splitV1 np n0 n1 new c = subst np n1 new c := Refine.Model.MeshOps.splitV1_fresh np n0 n1 new c hf

/-- one group of `ref_collapse_edge` -/
theorem collapseGroup_spec (np : Nat) (cs : List Cell) (n0 n1 : Int) :
    ((cs.filter (has2 np n0 n1)).length ≤ MAX_CELL_COLLAPSE →
      (collapseGroup np cs n0 n1).1 = .ok ∧ (collapseGroup np cs n0 n1).2.Perm (collapseSpec np n0 n1 cs)) ∧
    (MAX_CELL_COLLAPSE < (cs.filter (has2 np n0 n1)).length →
      collapseGroup np cs n0 n1 = (.increase_limit, cs)) := by
  constructor
  · intro h
    have : ¬ (cs.filter (has2 np n0 n1)).length > MAX_CELL_COLLAPSE := by omega
    simp only [collapseGroup, listWith2, this, if_false, ne_eq, not_true_eq_false, replaceNode_eq_map, true_and]
    exact (removeLoop_spec (has2 np n0 n1) cs).map _
  · intro h
    simp [collapseGroup, listWith2, h]

/-- after the substitution `node1 ↦ node0` (`node0 ≠ node1`) no cell of the group references `node1` -/
theorem collapseSpec_unreferenced (np : Nat) (n0 n1 : Int) (hne : n0 ≠ n1) (cs : List Cell) :
    ∀ c ∈ collapseSpec np n0 n1 cs, n1 ∉ nodesOf np c := by
  intro c hc
  simp only [collapseSpec, List.mem_map, List.mem_filter] at hc
  obtain ⟨c0, _, rfl⟩ := hc
  rw [nodesOf_subst]
  intro hmem
  simp only [List.mem_map] at hmem
  obtain ⟨v, _, hv⟩ := hmem
  by_cases h : v = n1
  · simp only [h, if_true] at hv; exact hne hv
  · simp only [h, if_false] at hv

/-- **collapseEdge_subst**: with every group within `MAX_CELL_COLLAPSE` and `node1` a valid vertex,
    `ref_collapse_edge` succeeds; every group becomes "cells containing both removed, `node1 ↦ node0` in the
    rest"; `node1` is referenced by nothing (if `node0 ≠ node1`); the vertex is removed (`NodeInv` kept, slot no
    longer valid, every other slot untouched) and its global id sits on top of the unused list -/
theorem collapseEdge_subst {m : Mesh} (h : NodeInv m.ids) (n0 n1 : Int) (hv : m.ids.validSlot n1 = true)
    (ht : (m.g.tet.filter (has2 4 n0 n1)).length ≤ MAX_CELL_COLLAPSE)
    (hr : (m.g.tri.filter (has2 3 n0 n1)).length ≤ MAX_CELL_COLLAPSE)
    (he : (m.g.edg.filter (has2 2 n0 n1)).length ≤ MAX_CELL_COLLAPSE) :
    (collapseEdge m n0 n1).1 = .ok ∧
    (collapseEdge m n0 n1).2.g.tet.Perm (collapseSpec 4 n0 n1 m.g.tet) ∧
    (collapseEdge m n0 n1).2.g.tri.Perm (collapseSpec 3 n0 n1 m.g.tri) ∧
    (collapseEdge m n0 n1).2.g.edg.Perm (collapseSpec 2 n0 n1 m.g.edg) ∧
    (n0 ≠ n1 → unreferenced (collapseEdge m n0 n1).2.g [n1] = true) ∧
    NodeInv (collapseEdge m n0 n1).2.ids ∧
    (collapseEdge m n0 n1).2.ids.validSlot n1 = false ∧
    (∀ w : Nat, w ≠ n1.toNat →
      (collapseEdge m n0 n1).2.ids.global.getD w (-1) = m.ids.global.getD w (-1)) ∧
    (collapseEdge m n0 n1).2.ids.unusedStk = m.ids.global.getD n1.toNat (-1) :: m.ids.unusedStk := by
  obtain ⟨t1, t2⟩ := (collapseGroup_spec 4 m.g.tet n0 n1).1 ht
  obtain ⟨r1, r2⟩ := (collapseGroup_spec 3 m.g.tri n0 n1).1 hr
  obtain ⟨e1, e2⟩ := (collapseGroup_spec 2 m.g.edg n0 n1).1 he
  obtain ⟨k1, k2⟩ := remove_NodeInv h hv
  have hce : collapseEdge m n0 n1 = (.ok, ⟨(m.ids.remove n1).2,
      ⟨(collapseGroup 4 m.g.tet n0 n1).2, (collapseGroup 3 m.g.tri n0 n1).2, (collapseGroup 2 m.g.edg n0 n1).2⟩⟩) := by
    simp only [collapseEdge, t1, r1, e1, k1, ne_eq, not_true_eq_false, if_false]
  rw [hce]
  refine ⟨rfl, t2, r2, e2, ?_, k2, remove_not_valid h hv, fun w hw => remove_frame h hv hw,
    (remove_fields h hv).unused⟩
  · intro hne
    have u4 := collapseSpec_unreferenced 4 n0 n1 hne m.g.tet
    have u3 := collapseSpec_unreferenced 3 n0 n1 hne m.g.tri
    have u2 := collapseSpec_unreferenced 2 n0 n1 hne m.g.edg
    simp only [unreferenced, List.all_cons, List.all_nil, Bool.and_true, Bool.and_eq_true, List.all_eq_true,
      Bool.not_eq_eq_eq_not, Bool.not_true, List.contains_eq_mem, decide_eq_false_iff_not]
    exact ⟨⟨fun c hc => u4 c (t2.mem_iff.1 hc), fun c hc => u3 c (r2.mem_iff.1 hc)⟩,
      fun c hc => u2 c (e2.mem_iff.1 hc)⟩

open Refine Refine.Model.Geom in
/-- **split_vol**: for a tet without a repeated vertex on the split edge, `new` fresh and placed at
    `(1-w)*x(n0) + w*x(n1)` (`ref_node_interpolate_edge`), in exact arithmetic: the two halves have `(1-w)` resp.
    `w` times the volume, their sum is the old volume, and for `0 < w < 1` (the pass clamps `w` to `[0.05,0.95]`)
    each half of a positive tet is positive -/
theorem split_vol (xyz : Int → V3 ℝ) (n0 n1 new : Int) (w : ℝ) (v0 v1 v2 v3 : Int)
    (hnd : [v0, v1, v2, v3].Nodup) (h0 : n0 ∈ [v0, v1, v2, v3]) (h1 : n1 ∈ [v0, v1, v2, v3]) (hne : n0 ≠ n1)
    (hf : new ∉ [v0, v1, v2, v3]) (hx : xyz new = interpolateEdgeXyz (xyz n0) (xyz n1) w) :
    rowVol xyz (splitV0 4 n0 new [v0, v1, v2, v3]) + rowVol xyz (splitV1 4 n0 n1 new [v0, v1, v2, v3]) =
      rowVol xyz [v0, v1, v2, v3] ∧
    (0 < w → w < 1 → 0 < rowVol xyz [v0, v1, v2, v3] →
      0 < rowVol xyz (splitV0 4 n0 new [v0, v1, v2, v3]) ∧
      0 < rowVol xyz (splitV1 4 n0 n1 new [v0, v1, v2, v3])) := by
  obtain ⟨e0, e1⟩ := split_vol_cell xyz n0 n1 new w v0 v1 v2 v3 hnd h0 h1 hne hf hx
  rw [e0, e1]
  refine ⟨by ring, fun hw0 hw1 hv => ⟨?_, ?_⟩⟩
  · exact mul_pos (by linarith) hv
  · exact mul_pos hw0 hv

/-- `ref_swap_tri_edge` when the edge has exactly the two triangles `t0`, `t1` and `ref_swap_node23` found the
    opposite vertices: the two triangles are removed, `(n1,n2,n3)` and `(n0,n3,n2)` are added with the id of `t0`,
    every other triangle, all tets and all edgs are untouched -/
theorem swapTriEdge_spec (g : Groups) (n0 n1 n2 n3 : Int) (t0 t1 : Cell)
    (hl : g.tri.filter (has2 3 n0 n1) = [t0, t1]) (hn : swapNode23 g.tri n0 n1 = (.ok, n2, n3)) :
    swapTriEdge g n0 n1 = (.ok, { g with tri :=
      [n1, n2, n3, t0.getD 3 (-1)] :: [n0, n3, n2, t0.getD 3 (-1)] :: (g.tri.erase t0).erase t1 }) := by
  simp [swapTriEdge, hn, listWith2, hl]

/-- id preserved: when `ref_swap_same_faceid` allows the swap of an edge with two triangles, both carry the same
    id (so both new triangles carry the id of both old ones) -/
theorem sameFaceid_ids (g : Groups) (n0 n1 : Int) (t0 t1 : Cell)
    (hl : g.tri.filter (has2 3 n0 n1) = [t0, t1]) (ha : sameFaceid g n0 n1 = (.ok, true)) :
    t0.getD 3 (-1) = t1.getD 3 (-1) := by
  unfold sameFaceid at ha
  split at ha
  · simp at ha
  · simp only [listWith2, hl, List.length_cons, List.length_nil] at ha
    simpa using ha

/-- boundary of a triangle `(a,b,c)` under an edge functional -/
def triBoundary {G : Type} [AddCommGroup G] (φ : Int → Int → G) (a b c : Int) : G := φ a b + φ b c + φ c a

/-- the boundary does not depend on which vertex the row starts with -/
theorem triBoundary_rot {G : Type} [AddCommGroup G] (φ : Int → Int → G) (a b c : Int) :
    triBoundary φ b c a = triBoundary φ a b c := by simp only [triBoundary]; abel

/-- **swapTri_conforming**: for every antisymmetric edge functional into an abelian group the signed boundary
    chain of the two new triangles equals that of the two old ones (the diagonal cancels in both pairs) -/
theorem swapTri_conforming {G : Type} [AddCommGroup G] (φ : Int → Int → G) (hanti : ∀ a b, φ b a = -φ a b)
    (n0 n1 n2 n3 : Int) :
    triBoundary φ n0 n3 n2 + triBoundary φ n1 n2 n3 = triBoundary φ n0 n1 n2 + triBoundary φ n1 n0 n3 := by
  simp only [triBoundary, hanti n0 n1, hanti n2 n3]
  abel

open Refine Refine.Model.Geom Refine.ScalarReal in
/-- **swapTri_area**: the signed area (z component of `ref_node_tri_normal`, the quantity whose sign
    `localValid` tests in 2-D) of the two new triangles adds up to that of the two old ones, in exact arithmetic -/
theorem swapTri_area (a b c d : V3 ℝ) :
    (triNormal a d c).z + (triNormal b c d).z = (triNormal a b c).z + (triNormal b a d).z := by
  simp only [triNormal, cross, V3.sub, sub_eq, mul_eq]
  ring

/-- no row of the group repeats a vertex -/
def NoRepeat (np : Nat) (cs : List Cell) : Prop := ∀ c ∈ cs, (nodesOf np c).Nodup

/-- `new` is referenced by no row of the group -/
def Fresh (np : Nat) (new : Int) (cs : List Cell) : Prop := ∀ c ∈ cs, new ∉ nodesOf np c

/-- the executable guard of `gstep` gives `Fresh` -/
theorem fresh_of_all {np : Nat} {new : Int} {cs : List Cell}
    (hall : cs.all (fun c => !(nodesOf np c).contains new) = true) : Fresh np new cs := by
  intro c hc
  have := List.all_eq_true.1 hall c hc
  simpa using this

theorem subst_nodup (np : Nat) (old new : Int) (c : Cell) (hnd : (nodesOf np c).Nodup)
    (hf : new ∉ nodesOf np c ∨ old ∉ nodesOf np c) : (nodesOf np (subst np old new c)).Nodup := by
  rw [nodesOf_subst]
  apply List.Nodup.map_on _ hnd
  intro x hx y hy hxy
  by_cases h1 : x = old <;> by_cases h2 : y = old
  · rw [h1, h2]
  · simp only [h1, h2, if_true, if_false] at hxy
    rcases hf with hf | hf
    · exact absurd (hxy ▸ hy) hf
    · exact absurd (h1 ▸ hx) hf
  · simp only [h1, h2, if_true, if_false] at hxy
    rcases hf with hf | hf
    · exact absurd (hxy ▸ hx) hf
    · exact absurd (h2 ▸ hy) hf
  · simpa [h1, h2] using hxy

theorem splitSpec_noRepeat (np : Nat) (n0 n1 new : Int) (cs : List Cell) (h : NoRepeat np cs)
    (hf : Fresh np new cs) : NoRepeat np (splitSpec np n0 n1 new cs) := by
  intro c hc
  simp only [splitSpec, List.mem_flatMap] at hc
  obtain ⟨c0, hc0, hc⟩ := hc
  unfold splitSpecCell at hc
  split at hc
  · simp only [List.mem_cons, List.not_mem_nil, or_false] at hc
    rcases hc with rfl | rfl
    · rw [splitV1_fresh np n0 n1 new c0 (hf c0 hc0)]
      exact subst_nodup np n1 new c0 (h c0 hc0) (Or.inl (hf c0 hc0))
    · exact subst_nodup np n0 new c0 (h c0 hc0) (Or.inl (hf c0 hc0))
  · simp only [List.mem_cons, List.not_mem_nil, or_false] at hc
    rw [hc]; exact h c0 hc0

/-- a collapse creates no cell with a repeated vertex (cells containing both end points are removed first) -/
theorem collapseSpec_noRepeat (np : Nat) (n0 n1 : Int) (cs : List Cell) (h : NoRepeat np cs) :
    NoRepeat np (collapseSpec np n0 n1 cs) := by
  intro c hc
  simp only [collapseSpec, List.mem_map, List.mem_filter] at hc
  obtain ⟨c0, ⟨hc0, hnot⟩, rfl⟩ := hc
  apply subst_nodup np n1 n0 c0 (h c0 hc0)
  simp only [has2, Bool.not_eq_true', Bool.and_eq_false_iff, List.contains_eq_mem, decide_eq_false_iff_not] at hnot
  exact hnot

/-- guarded operations on the cell groups: a split is taken with a vertex referenced by no cell (what
    `ref_node_add` of a fresh id returns, given that cells reference valid slots only); every group within its limit -/
inductive GOp
  | split (n0 n1 new : Int)
  | collapse (n0 n1 : Int)

def NoRepeatG (g : Groups) : Prop := NoRepeat 4 g.tet ∧ NoRepeat 3 g.tri ∧ NoRepeat 2 g.edg

def gstep (g : Groups) : GOp → Groups
  | .split n0 n1 new =>
    if (g.tet.filter (has2 4 n0 n1)).length ≤ MAX_CELL_SPLIT ∧ (g.tri.filter (has2 3 n0 n1)).length ≤ MAX_CELL_SPLIT ∧
        (g.edg.filter (has2 2 n0 n1)).length ≤ MAX_CELL_SPLIT ∧
        g.tet.all (fun c => !(nodesOf 4 c).contains new) ∧ g.tri.all (fun c => !(nodesOf 3 c).contains new) ∧
        g.edg.all (fun c => !(nodesOf 2 c).contains new)
    then (splitEdge g n0 n1 new).2 else g
  | .collapse n0 n1 =>
    if (g.tet.filter (has2 4 n0 n1)).length ≤ MAX_CELL_COLLAPSE ∧
        (g.tri.filter (has2 3 n0 n1)).length ≤ MAX_CELL_COLLAPSE ∧
        (g.edg.filter (has2 2 n0 n1)).length ≤ MAX_CELL_COLLAPSE
    then ⟨(collapseGroup 4 g.tet n0 n1).2, (collapseGroup 3 g.tri n0 n1).2, (collapseGroup 2 g.edg n0 n1).2⟩ else g

theorem NoRepeat.perm {np : Nat} {a b : List Cell} (h : NoRepeat np b) (p : a.Perm b) : NoRepeat np a :=
  fun c hc => h c (p.mem_iff.1 hc)

theorem gstep_noRepeat {g : Groups} (h : NoRepeatG g) (o : GOp) : NoRepeatG (gstep g o) := by
  cases o with
  | split n0 n1 new =>
    simp only [gstep]
    split
    next hc =>
      obtain ⟨ht, hr, he, f4, f3, f2⟩ := hc
      obtain ⟨_, p4, p3, p2⟩ := splitEdge_spec g n0 n1 new ht hr he
      exact ⟨(splitSpec_noRepeat 4 n0 n1 new _ h.1 (fresh_of_all f4)).perm p4,
        (splitSpec_noRepeat 3 n0 n1 new _ h.2.1 (fresh_of_all f3)).perm p3,
        (splitSpec_noRepeat 2 n0 n1 new _ h.2.2 (fresh_of_all f2)).perm p2⟩
    · exact h
  | collapse n0 n1 =>
    simp only [gstep]
    split
    next hc =>
      obtain ⟨ht, hr, he⟩ := hc
      exact ⟨(collapseSpec_noRepeat 4 n0 n1 _ h.1).perm ((collapseGroup_spec 4 g.tet n0 n1).1 ht).2,
        (collapseSpec_noRepeat 3 n0 n1 _ h.2.1).perm ((collapseGroup_spec 3 g.tri n0 n1).1 hr).2,
        (collapseSpec_noRepeat 2 n0 n1 _ h.2.2).perm ((collapseGroup_spec 2 g.edg n0 n1).1 he).2⟩
    · exact h

/-- **history_noRepeat_partial**: along every sequence of guarded splits and collapses, after every prefix, no
    cell repeats a vertex (so the model of `ref_cell_list_with2` stays the model of the C).
    FULL STATEMENT (not proved): for every list of accepted modelled operations (split, collapse, swap) starting
    from a mesh in which every cell references valid vertices only, has no repeated vertex and the signed boundary
    chain `∂φ` vanishes for every alternating face functional `φ`, the same holds after every prefix.  Missing: the
    swap step (needs the case analysis of `ref_swap_node23`) and "references valid vertices only" through the id state
    (that `add` of a new global returns a slot that held nothing is `NodeIds.add_miss_stores … |>.vacant`).  The `∂φ`
    half exists step by step but on other cell representations, so it cannot be joined to this theorem: the two
    children of `ref_split_edge` are the one-edge maps of `C13Subdiv.subdiv_tet_conforming` (on `Cavity.Tet`), the
    collapse step is `C13Collapse.collapse_conforming` (on `Guards.Cell`), the 2-D swap identity is `swapTri_conforming`. -/
theorem history_noRepeat_partial (ops : List GOp) (g : Groups) (h : NoRepeatG g) :
    ∀ k, NoRepeatG ((ops.take k).foldl gstep g) :=
  fun k => List.foldlRecOn (ops.take k) gstep h fun _ h o _ => gstep_noRepeat h o

/-- two tets on the edge (0,2), two boundary triangles and an edg on it, and one cell of each kind away from it,
    over the id state `exState` of C14NodeCell (slots 0 and 2 live, global 1 on the unused list, slot 1 free) -/
def exGroups : Groups := ⟨[[0, 2, 3, 4], [2, 0, 3, 5], [3, 4, 5, 6]], [[0, 2, 4, 7], [2, 0, 5, 7], [3, 4, 5, 9]], [[0, 2, 11]]⟩
def exMesh : Mesh := ⟨Refine.Props.C14NodeCell.exState, exGroups⟩

/-- hypotheses of `trialFrame_reject_no_trace` are met by `exMesh`; here even the concrete state is restored -/
example : NodeInv exMesh.ids ∧ PoolInv exMesh.ids ∧
    (trialFrame exMesh 0 2 .rejectChecks).2.2.2 = exMesh ∧ (trialFrame exMesh 0 2 .rejectCavity).2.2.1 = 1 :=
  ⟨Refine.Props.C14NodeCell.exState_inv,
   Refine.Props.C14NodeCell.exState_pool, by rw [exMesh, Refine.Props.C14NodeCell.exState_eq]; decide,
   by rw [exMesh, Refine.Props.C14NodeCell.exState_eq]; decide⟩

/-- the accepted path on `exMesh`: the trial vertex gets the pooled global 1 and the freed slot 1, every cell on
    the edge (0,2) is split, ids 7 and 11 are inherited, the other cells are untouched -/
example : (trialFrame exMesh 0 2 .split).2.1 = true ∧ (trialFrame exMesh 0 2 .split).2.2.1 = 1 ∧
    (trialFrame exMesh 0 2 .split).2.2.2.g.tet.Perm [[1, 2, 3, 4], [0, 1, 3, 4], [2, 1, 3, 5], [1, 0, 3, 5], [3, 4, 5, 6]] ∧
    (trialFrame exMesh 0 2 .split).2.2.2.g.edg.Perm [[0, 1, 11], [1, 2, 11]] := by
  rw [exMesh, Refine.Props.C14NodeCell.exState_eq]
  refine ⟨by decide, by decide, ?_, ?_⟩ <;> decide

/-- `splitEdge_spec` / `collapseEdge_subst` / `swapTriEdge_spec` hypotheses on concrete states -/
example : (exGroups.tet.filter (has2 4 0 2)).length = 2 ∧ (collapseEdge exMesh 0 2).1 = .ok ∧
    (collapseEdge exMesh 0 2).2.g.tet = [[3, 4, 5, 6]] ∧ (collapseEdge exMesh 0 2).2.ids.unusedStk = [2, 1] := by
  rw [exMesh, Refine.Props.C14NodeCell.exState_eq]; decide

/-- `history_noRepeat_partial`: the start invariant holds of `exGroups` and the guard of a split with the unreferenced
    vertex 1 is met (the step is not the identity) -/
example : NoRepeatG exGroups ∧ (gstep exGroups (.split 0 2 1)).tet.length = 5 ∧
    (gstep (gstep exGroups (.split 0 2 1)) (.collapse 3 4)).tet.length = 2 := by
  refine ⟨?_, by decide, by decide⟩
  unfold NoRepeatG NoRepeat
  decide

def exTris : Groups := ⟨[], [[5, 6, 7, 1], [6, 5, 8, 1], [7, 6, 9, 1]], []⟩
example : swapNode23 exTris.tri 5 6 = (.ok, 7, 8) ∧ sameFaceid exTris 5 6 = (.ok, true) ∧
    (swapTriEdge exTris 5 6).2.tri = [[6, 7, 8, 1], [5, 8, 7, 1], [7, 6, 9, 1]] := by decide

end Refine.Props.C13
