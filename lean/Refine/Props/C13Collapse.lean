import Refine.Lemmas.Collapse
import Refine.Lemmas.GuardsReal
import Refine.Lemmas.ScalarReal
import Refine.Props.C01

/-!
  C13 / C01, the edge collapse (`ref_collapse.c`, model `Model/Collapse.lean`, run by `Drivers/Collapse.lean`): what the
  guards establish and why a guarded collapse keeps the mesh conforming.  The collapse is the simplicial map
  `σ : node1 ↦ node0`; for every alternating, diagonal-free `φ` the signed boundary chain of the collapsed tets and tris
  under `φ` IS that of the input under `φ ∘ σ` (cells containing both ends map to degenerate cells, whose chain is
  zero), with no hypothesis on the star of node1.

  What chain-level conformity does NOT give (two sheets covering a region with opposite signs cancel) is what the
  guards add: no new cell coincides with an old one (manifold), every new cell has volume above `min_volume`
  (quality).  That positively oriented cells with an unchanged boundary chain do not overlap is the geometric degree
  argument and is not proved here (same gap as for the cavity operator, `Props/C01`).
-/
namespace Refine.Props.C13Collapse
open Refine Refine.Model Refine.Model.Guards Refine.Model.Collapse Refine.Model.Cavity Refine.Lemmas.Cavity
open Refine.Lemmas.Collapse Refine.GuardsRules

variable {G : Type} [AddCommGroup G]

structure WF (g : Grid) : Prop where
  tet : ∀ c ∈ g.tet, c.nodes.length = 4
  tri : ∀ c ∈ g.tri, c.nodes.length = 3

/-- **collapseEdge_spec**: when `ref_collapse_edge` returns `REF_SUCCESS` each simplex group is "cells with both
    ends removed, node1 ↦ node0 elsewhere"; the other groups are untouched -/
theorem collapseEdge_spec (g : Grid) (n0 n1 : Nat) (h : (collapseEdge g n0 n1).1 = .ok) :
    (collapseEdge g n0 n1).2 = { g with tet := collapseGroup g.tet n0 n1, tri := collapseGroup g.tri n0 n1,
                                        edg := collapseGroup g.edg n0 n1 } := by
  unfold collapseEdge at h ⊢
  simp only at h ⊢
  split at h
  · cases h
  · split at h
    · cases h
    · split at h
      · cases h
      · rename_i h1 h2 h3
        simp only [h1, h2, h3, if_false]

/-- **collapse_conforming** (chain level).  For every abelian group `G` and every alternating `φ : Node³ → G` that
    vanishes on repeated vertices, the signed boundary of the mesh after `ref_collapse_edge(node0, node1)`,
    `Σ_tets ∂φ − Σ_tris φ`, equals the signed boundary of the mesh before under `φ ∘ σ`, `σ = (node1 ↦ node0)`.
    In words: the tets around node1 after substitution, minus those that contained both ends, have the signed
    boundary of the removed star pushed forward by `σ`; the faces of the link are kept, the faces through node1 are
    moved to node0, and the two faces of a removed cell that do not contain the edge are glued onto each other. -/
theorem collapse_conforming {φ : Int → Int → Int → G} (hφ : Alt φ) (hd : Diag φ) (g : Grid) (n0 n1 : Nat)
    (hne : n0 ≠ n1) (hw : WF g) (hok : (collapseEdge g n0 n1).1 = .ok) :
    gridBd φ (collapseEdge g n0 n1).2 = gridBd (pull φ n0 n1) g := by
  rw [collapseEdge_spec g n0 n1 hok]
  unfold gridBd
  simp only
  rw [sum_collapseGroup cellBd φ hne g.tet (fun c hc => cellBd_subst φ n0 n1 c (hw.tet c hc))
        (fun c hc => cellBd_dup hφ hd _ (by simpa [Cell.subst] using hw.tet c hc)),
      sum_collapseGroup triVal φ hne g.tri (fun c hc => triVal_subst φ n0 n1 c (hw.tri c hc))
        (fun c hc => triVal_dup hφ hd _ (by simpa [Cell.subst] using hw.tri c hc))]

/-- chain-level conformity of a `Guards.Grid` (the `SignedConforming` of `Props/C01`, for alternating maps that
    vanish on repeated vertices — automatic when `G` has no 2-torsion) -/
def Conforming (g : Grid) : Prop :=
  ∀ (G : Type) [AddCommGroup G] (φ : Int → Int → Int → G), Alt φ → Diag φ → gridBd φ g = 0

theorem collapseEdge_wf (g : Grid) (n0 n1 : Nat) (hw : WF g) (hok : (collapseEdge g n0 n1).1 = .ok) :
    WF (collapseEdge g n0 n1).2 := by
  rw [collapseEdge_spec g n0 n1 hok]
  constructor
  · intro d hd
    obtain ⟨c, hc, _, rfl⟩ := mem_collapseGroup.mp hd
    simpa [Cell.subst] using hw.tet c hc
  · intro d hd
    obtain ⟨c, hc, _, rfl⟩ := mem_collapseGroup.mp hd
    simpa [Cell.subst] using hw.tri c hc

/-- **collapse_signedConforming**: a conforming mesh is conforming after an accepted `ref_collapse_edge` -/
theorem collapse_signedConforming (g : Grid) (n0 n1 : Nat) (hne : n0 ≠ n1) (hw : WF g)
    (hok : (collapseEdge g n0 n1).1 = .ok) (hc : Conforming g) : Conforming (collapseEdge g n0 n1).2 := by
  intro G _ φ hφ hd
  rw [collapse_conforming hφ hd g n0 n1 hne hw hok]
  exact hc G (pull φ n0 n1) (pull_alt hφ n0 n1) (pull_diag hd n0 n1)

/-- one accepted collapse of a history: distinct ends, `REF_SUCCESS` -/
def cstep (g : Grid) (o : Nat × Nat) : Grid :=
  if o.1 ≠ o.2 ∧ (collapseEdge g o.1 o.2).1 = .ok then (collapseEdge g o.1 o.2).2 else g

theorem cstep_keeps (g : Grid) (o : Nat × Nat) (h : WF g ∧ Conforming g) : WF (cstep g o) ∧ Conforming (cstep g o) := by
  unfold cstep
  split
  · next hc => exact ⟨collapseEdge_wf g o.1 o.2 h.1 hc.2, collapse_signedConforming g o.1 o.2 hc.1 h.1 hc.2 h.2⟩
  · exact h

/-- **collapse_history_conforming**: along every sequence of accepted collapses, after every prefix, the mesh is
    well formed and chain-level conforming.  (This is the collapse step that `history_noRepeat_partial` of
    `Props/C13` lists as missing for conformity, on the list model of the guards; the rows of `Model/MeshOps` are the
    same cells, `Props/C13.collapseGroup_spec`.) -/
theorem collapse_history_conforming (ops : List (Nat × Nat)) (g : Grid) (hw : WF g) (hc : Conforming g) :
    ∀ k, WF ((ops.take k).foldl cstep g) ∧ Conforming ((ops.take k).foldl cstep g) :=
  fun k => List.foldlRecOn (ops.take k) cstep ⟨hw, hc⟩ fun g h o _ => cstep_keeps g o h

open Refine.Props.C01 in
/-- **collapse_volume_interior**: over ℝ, for a conforming mesh and a vertex node1 that lies on no boundary
    triangle, the total signed volume of the tets is the same before and after the collapse (wherever the vertices
    are).  Read with `collapse_quality_positive` — every new tet has a volume above `min_volume`; that theorem speaks
    of the node table `nd` where this one speaks of `x`, and the volume is positive only for `min_volume ≥ 0`; neither
    link is stated here — the new star fills exactly the volume of the removed one. -/
theorem collapse_volume_interior (x : Int → Geom.V3 ℝ) (g : Grid) (n0 n1 : Nat) (hne : n0 ≠ n1) (hw : WF g)
    (hok : (collapseEdge g n0 n1).1 = .ok) (hc : Conforming g) (hint : ∀ c ∈ g.tri, n1 ∉ c.nodes) :
    ((collapseEdge g n0 n1).2.tet.map fun c => volOf x (tetOf c)).sum = (g.tet.map fun c => volOf x (tetOf c)).sum := by
  let p : Geom.V3 ℝ := x 0
  have hvol : ∀ l : List Cell, (l.map (cellBd (coneVol x p))).sum = (l.map fun c => volOf x (tetOf c)).sum := by
    intro l; congr 1; apply List.map_congr_left; intro c _; exact tetBd_coneVol x p (tetOf c)
  have h1 := collapse_signedConforming g n0 n1 hne hw hok hc ℝ (coneVol x p) (coneVol_alt x p) (coneVol_diag x p)
  have h0 := hc ℝ (coneVol x p) (coneVol_alt x p) (coneVol_diag x p)
  have htri : (collapseEdge g n0 n1).2.tri = g.tri := by
    rw [collapseEdge_spec g n0 n1 hok]
    exact collapseGroup_eq_self hint
  unfold gridBd at h0 h1
  rw [htri, hvol] at h1
  rw [hvol] at h0
  linarith

/-- **collapse_removed_unreferenced**: after an accepted collapse node1 is referenced by no tet, tri or edg -/
theorem collapse_removed_unreferenced (g : Grid) (n0 n1 : Nat) (hne : n0 ≠ n1) (hok : (collapseEdge g n0 n1).1 = .ok) :
    (∀ c ∈ (collapseEdge g n0 n1).2.tet, n1 ∉ c.nodes) ∧ (∀ c ∈ (collapseEdge g n0 n1).2.tri, n1 ∉ c.nodes) ∧
    (∀ c ∈ (collapseEdge g n0 n1).2.edg, n1 ∉ c.nodes) := by
  rw [collapseEdge_spec g n0 n1 hok]
  have key : ∀ cells : List Cell, ∀ d ∈ collapseGroup cells n0 n1, n1 ∉ d.nodes := by
    intro cells d hd hmem
    obtain ⟨c, _, _, rfl⟩ := mem_collapseGroup.mp hd
    rcases mem_subst.mp hmem with ⟨e, _⟩ | ⟨_, e⟩
    · exact hne e.symm
    · exact e rfl
  exact ⟨key g.tet, key g.tri, key g.edg⟩

/-- one group of the manifold guard: if the loop runs to its end, no cell that survives the collapse gets, with
    node1 replaced by node0, the vertex set (`ref_sort_unique_int`) of a cell of the group -/
theorem manifoldGroup_no_duplicate (cells : List Cell) (n0 n1 : Nat) (h : manifoldGroup cells n0 n1 = true)
    (c : Cell) (hc : c ∈ cells) (h1 : n1 ∈ c.nodes) (h0 : n0 ∉ c.nodes) :
    ∀ c' ∈ cells, uniq c'.nodes ≠ uniq (Cell.subst n1 n0 c).nodes := by
  unfold manifoldGroup at h
  rw [List.all_eq_true] at h
  have := h c (mem_having.mpr ⟨hc, h1⟩)
  have hw : willCollapse n0 c = false := by simpa [willCollapse] using h0
  simp only [hw, Bool.false_or, Bool.not_eq_true'] at this
  have hne : subst n1 n0 c.nodes ≠ [] := by
    intro e
    have : c.nodes = [] := by simpa [subst] using e
    rw [this] at h1; cases h1
  exact cellWith_false hne this

/-- `ref_collapse_edge_manifold` allows only if the loop over each of the three groups ran to its end -/
theorem collapseEdgeManifold_allowed {g : Grid} {n0 n1 : Nat} (h : collapseEdgeManifold g n0 n1 = (.ok, true)) :
    manifoldGroup g.tet n0 n1 = true ∧ manifoldGroup g.tri n0 n1 = true ∧ manifoldGroup g.edg n0 n1 = true := by
  revert h
  fun_cases collapseEdgeManifold g n0 n1 <;> intro h <;> try (cases h; done)
  · -- the shared-node test ended with another status
    exact Bool.noConfusion (Prod.mk.inj h).2
  · next htet htri _ _ _ _ _ _ _ hedg => exact ⟨by simpa using htet, by simpa using htri, by simpa using hedg⟩

/-- **collapse_manifold_no_duplicate**: if `ref_collapse_edge_manifold` allows the collapse, then in each of the tet,
    tri and edg groups no cell created by the collapse has the vertex set of a cell that exists already — no
    duplicate cell is created.  (Two created cells coincide only if their originals did: `σ` is injective on cells
    that do not contain node0.) -/
theorem collapse_manifold_no_duplicate (g : Grid) (n0 n1 : Nat) (h : collapseEdgeManifold g n0 n1 = (.ok, true)) :
    (∀ c ∈ g.tet, n1 ∈ c.nodes → n0 ∉ c.nodes → ∀ c' ∈ g.tet, uniq c'.nodes ≠ uniq (Cell.subst n1 n0 c).nodes) ∧
    (∀ c ∈ g.tri, n1 ∈ c.nodes → n0 ∉ c.nodes → ∀ c' ∈ g.tri, uniq c'.nodes ≠ uniq (Cell.subst n1 n0 c).nodes) ∧
    (∀ c ∈ g.edg, n1 ∈ c.nodes → n0 ∉ c.nodes → ∀ c' ∈ g.edg, uniq c'.nodes ≠ uniq (Cell.subst n1 n0 c).nodes) := by
  obtain ⟨ht, hr, he⟩ := collapseEdgeManifold_allowed h
  exact ⟨fun c hc h1 h0 => manifoldGroup_no_duplicate g.tet n0 n1 ht c hc h1 h0,
    fun c hc h1 h0 => manifoldGroup_no_duplicate g.tri n0 n1 hr c hc h1 h0,
    fun c hc h1 h0 => manifoldGroup_no_duplicate g.edg n0 n1 he c hc h1 h0⟩

/-- every early return of the loop body of `ref_collapse_edge_tet_quality` carries `allowed = false` … -/
theorem tetQualityStep_ne_allow {α : Type} [Scalar α] (g : Grid) (nd : Nodes α) (p : Params α) (n0 n1 : Nat) (c : Cell) :
    tetQualityStep g nd p n0 n1 c ≠ some (.ok, true) := by
  fun_cases tetQualityStep g nd p n0 n1 c <;> simp

/-- … and so does that of `ref_collapse_edge_twod_orientation` -/
theorem twodOrientationStep_ne_allow {α : Type} [Scalar α] (nd : Nodes α) (keep remove : Nat) (c : Cell) :
    twodOrientationStep nd keep remove c ≠ some (.ok, true) := by
  fun_cases twodOrientationStep nd keep remove c <;> simp

open Refine.ScalarReal in
/-- **collapse_quality_positive**: over ℝ, with a positive `collapse_quality_absolute`, if
    `ref_collapse_edge_tet_quality` allows the collapse then every tet around node1 that survives has, with node1
    replaced by node0, a volume strictly above `min_volume` (in particular positive when `min_volume ≥ 0`), and at
    most one of its faces is a boundary triangle. -/
theorem collapse_quality_positive (g : Grid) (nd : Nodes ℝ) (p : Params ℝ) (n0 n1 : Nat) (hq : 0 < p.cqa)
    (h : collapseEdgeTetQuality g nd p n0 n1 = (.ok, true)) :
    ∀ c ∈ g.tet, n1 ∈ c.nodes → n0 ∉ c.nodes →
      p.minVol < tetVolOf nd (subst n1 n0 c.nodes) ∧ ntriWithTetNodes g.tri (subst n1 n0 c.nodes) ≤ 1 := by
  intro c hc h1 h0
  unfold collapseEdgeTetQuality at h
  have hn := Refine.GuardsReal.firstSome_all_none _ _ _ (tetQualityStep_ne_allow g nd p n0 n1) h c
    (mem_having.mpr ⟨hc, h1⟩)
  have hw : willCollapse n0 c = false := by simpa [willCollapse] using h0
  unfold tetQualityStep at hn
  simp only [hw, Bool.false_eq_true, if_false] at hn
  split at hn
  · rename_i q hqual
    split at hn
    · cases hn
    · rename_i hlt
      split at hn
      · cases hn
      · rename_i hnt
        refine ⟨?_, by omega⟩
        -- below `min_volume` the quality `ref_node_tet_quality` answers is `volume − min_volume ≤ 0`, which the test
        -- `quality < collapse_quality_absolute` refuses as soon as that threshold is positive (`hq`)
        by_contra hle
        have hle' : tetVolOf nd (subst n1 n0 c.nodes) ≤ p.minVol := not_lt.mp hle
        unfold tetJacQuality at hqual
        simp only [(le_iff _ _).mpr hle', if_true] at hqual
        have hq' : q = tetVolOf nd (subst n1 n0 c.nodes) - p.minVol := by
          have := congrArg Prod.snd hqual; simpa [sub_eq] using this.symm
        apply hlt
        rw [lt_iff, hq']
        linarith
  · cases hn

open Refine.ScalarReal in
/-- **collapse_tri_positive** (2-D): over ℝ, if `ref_collapse_edge_twod_orientation` allows the collapse, every
    triangle around node1 that survives is, with node1 replaced by node0, counter-clockwise (`normal[2] > 0`) -/
theorem collapse_tri_positive (g : Grid) (nd : Nodes ℝ) (n0 n1 : Nat)
    (h : collapseEdgeTwodOrientation g nd n0 n1 = (.ok, true)) :
    ∀ c ∈ g.tri, n1 ∈ c.nodes → n0 ∉ c.nodes →
      Geom.triTwodOrientation (pt nd.xyz ((subst n1 n0 c.nodes).getD 0 0)) (pt nd.xyz ((subst n1 n0 c.nodes).getD 1 0))
        (pt nd.xyz ((subst n1 n0 c.nodes).getD 2 0)) = true := by
  intro c hc h1 h0
  unfold collapseEdgeTwodOrientation at h
  have hn := Refine.GuardsReal.firstSome_all_none _ _ _ (twodOrientationStep_ne_allow nd n0 n1) h c
    (mem_having.mpr ⟨hc, h1⟩)
  have hw : willCollapse n0 c = false := by simpa [willCollapse] using h0
  unfold twodOrientationStep at hn
  simp only [hw, Bool.false_eq_true, if_false] at hn
  split at hn
  · assumption
  · cases hn

/-- **collapse_local_owned**: if `ref_collapse_edge_local_cell` says local, every vertex of every tet and tri around
    node0 and node1 is owned by this partition (no ghost is touched by the collapse) -/
theorem collapse_local_owned (g : Grid) (owned : List Bool) (n0 n1 : Nat)
    (h : collapseEdgeLocalCell g owned n0 n1 = true) :
    ∀ c, (c ∈ g.tet ∨ c ∈ g.tri) → (n0 ∈ c.nodes ∨ n1 ∈ c.nodes) → ∀ v ∈ c.nodes, ownedAt owned v = true := by
  unfold collapseEdgeLocalCell allOwned at h
  simp only [Bool.and_eq_true, List.all_eq_true] at h
  obtain ⟨⟨⟨ht1, ht0⟩, hr1⟩, hr0⟩ := h
  intro c hc hn v hv
  rcases hc with hc | hc <;> rcases hn with hn | hn
  · exact ht0 c (mem_having.mpr ⟨hc, hn⟩) v hv
  · exact ht1 c (mem_having.mpr ⟨hc, hn⟩) v hv
  · exact hr0 c (mem_having.mpr ⟨hc, hn⟩) v hv
  · exact hr1 c (mem_having.mpr ⟨hc, hn⟩) v hv

section Driver
variable {α : Type} [Scalar α] [Inhabited α]

/-- **judge_collapse_guards**: the verdict `collapse` of the guard chain of `ref_collapse_to_remove_node1` means
    that the guards listed here answered `REF_SUCCESS` / allowed, in particular the manifold, quality and locality
    guards (the chord-height, normdev, same-normal and same-tangent guards of the chain passed too; not listed) -/
theorem judge_collapse_guards (g : Grid) (nd : Nodes α) (p : Params α) (n0 n1 : Nat)
    (h : judge g nd p n0 n1 = .collapse) :
    collapseEdgeMixed g n0 n1 = true ∧ collapseEdgeGeometry g false false n0 n1 = (.ok, true) ∧
    collapseEdgeManifold g n0 n1 = (.ok, true) ∧ collapseEdgeRatio g nd p n0 n1 = true ∧
    (p.twod = true → collapseEdgeTwodOrientation g nd n0 n1 = (.ok, true)) ∧
    collapseEdgeTriQuality g nd p n0 n1 = (.ok, true) ∧ collapseEdgeTetQuality g nd p n0 n1 = (.ok, true) ∧
    collapseEdgeLocalCell g nd.owned n0 n1 = true := by
  revert h
  -- every leaf but one is another verdict; on that one the answers of the guards passed on the way stand in the context
  fun_cases judge g nd p n0 n1 <;> intro h <;> try exact Verdict.noConfusion h
  next hmixed hgeom hman _ hratio _ _ _ htwod htri allowed htet hloc hallowed =>
  have ha : allowed = true := by simpa using hallowed
  exact ⟨by simpa using hmixed, hgeom, hman, by simpa using hratio, fun ht => by simpa [ht] using htwod, htri,
    ha ▸ htet, by simpa using hloc⟩

omit [Inhabited α] in
/-- the candidate loop either applies `ref_collapse_edge` for a candidate whose verdict is `collapse`, or leaves the
    grid as it was -/
theorem removeGo_spec (g : Grid) (nd : Nodes α) (p : Params α) (n1 : Nat) (cands : List Nat)
    (tr : List (Nat × Collapse.Verdict)) :
    (∀ n0, (removeGo g nd p n1 cands tr).actual = some n0 →
      n0 ∈ cands ∧ judge g nd p n0 n1 = .collapse ∧ (removeGo g nd p n1 cands tr).grid = (collapseEdge g n0 n1).2 ∧
      (removeGo g nd p n1 cands tr).status = (collapseEdge g n0 n1).1) ∧
    ((removeGo g nd p n1 cands tr).actual = none → (removeGo g nd p n1 cands tr).grid = g) := by
  induction cands generalizing tr with
  | nil => simp [removeGo]
  | cons c cs ih =>
    unfold removeGo
    split
    · rename_i hj
      refine ⟨?_, by simp⟩
      intro n0 h0
      simp only [Option.some.injEq] at h0
      subst h0
      exact ⟨List.mem_cons_self, hj, rfl, rfl⟩
    · exact ⟨by simp, by simp⟩
    · obtain ⟨a, b⟩ := ih (tr ++ [(c, judge g nd p c n1)])
      refine ⟨fun n0 h0 => ?_, fun h0 => b h0⟩
      obtain ⟨hm, rest⟩ := a n0 h0
      exact ⟨List.mem_cons_of_mem _ hm, rest⟩

/-- **toRemoveNode1_applies_guarded**: if `ref_collapse_to_remove_node1` reports `*actual_node0 = node0` (by the
    substitution path), every guard of the chain accepted `(node0, node1)` and the resulting grid is
    `ref_collapse_edge(node0, node1)` of the input; if it reports `REF_EMPTY`, the cells are those of the input
    (a rejected attempt leaves the mesh as it was; the cavity fall-back is a separate operator, `Props/C01`). -/
theorem toRemoveNode1_applies_guarded (lt : α → α → Bool) (g : Grid) (nd : Nodes α) (p : Params α) (n1 : Nat) :
    (∀ n0, (toRemoveNode1 lt g nd p n1).actual = some n0 →
      judge g nd p n0 n1 = .collapse ∧ (toRemoveNode1 lt g nd p n1).grid = (collapseEdge g n0 n1).2) ∧
    ((toRemoveNode1 lt g nd p n1).actual = none → (toRemoveNode1 lt g nd p n1).grid = g) := by
  unfold toRemoveNode1
  simp only
  split
  · simp
  · rename_i cand _
    refine ⟨fun n0 h0 => ?_, fun h0 => ?_⟩
    · obtain ⟨_, hj, hg, _⟩ := (removeGo_spec g nd p n1 _ []).1 n0 h0
      exact ⟨hj, hg⟩
    · exact (removeGo_spec g nd p n1 _ []).2 h0

end Driver

/-- the `Mesh3` of `Model/Cavity.lean` (the vocabulary of `Valid3` / `valid3Orient`) of a `Guards.Grid` -/
def toMesh3 (g : Grid) : Mesh3 Int :=
  ⟨[], g.tet.map tetOf, g.tri.map fun c => ⟨(c.nd 0 : Int), (c.nd 1 : Int), (c.nd 2 : Int), c.id⟩⟩

/-- the combinatorial orientation clause of `Props/C01` (signed multiplicity of every unordered face is zero: two
    tets seeing it from opposite sides, or one tet and one boundary tri oriented like the tet face) gives
    `Conforming` — the "closed / half-open star" hypothesis in executable form -/
theorem conforming_of_orient (g : Grid) (h : valid3Orient (toMesh3 g) = true) : Conforming g := by
  intro G _ φ hφ _
  have := cancels_cells hφ _ _ h
  rwa [toMesh3, List.map_map, List.map_map] at this

instance (g : Grid) : Decidable (WF g) :=
  decidable_of_iff ((∀ c ∈ g.tet, c.nodes.length = 4) ∧ (∀ c ∈ g.tri, c.nodes.length = 3))
    ⟨fun h => ⟨h.1, h.2⟩, fun h => ⟨h.tet, h.tri⟩⟩

/-- an interior vertex star of 8 tets: centre 6, link = octahedron 0:+x 1:-x 2:+y 3:-y 4:+z 5:-z, closed by the 8
    boundary triangles of the link -/
def exStar : Grid :=
  { tet := [⟨[6, 0, 2, 4], 0⟩, ⟨[6, 2, 1, 4], 0⟩, ⟨[6, 3, 0, 4], 0⟩, ⟨[6, 1, 3, 4], 0⟩,
            ⟨[6, 2, 0, 5], 0⟩, ⟨[6, 1, 2, 5], 0⟩, ⟨[6, 0, 3, 5], 0⟩, ⟨[6, 3, 1, 5], 0⟩],
    tri := [⟨[0, 4, 2], 1⟩, ⟨[2, 4, 1], 1⟩, ⟨[3, 4, 0], 1⟩, ⟨[1, 4, 3], 1⟩,
            ⟨[2, 5, 0], 1⟩, ⟨[1, 5, 2], 1⟩, ⟨[0, 5, 3], 1⟩, ⟨[3, 5, 1], 1⟩] }

theorem exStar_orient : valid3Orient (toMesh3 exStar) = true := by decide +kernel

theorem exStar_collapsed_orient : valid3Orient (toMesh3 (collapseEdge exStar 0 6).2) = true := by decide +kernel

/-- hypotheses of `collapse_conforming` / `collapse_signedConforming` / `collapse_volume_interior` /
    `collapse_manifold_no_duplicate` / `collapse_removed_unreferenced` on the 8-tet star, collapsing the interior
    vertex 6 onto the link vertex 0: well formed, conforming (orientation clause), node1 on no tri, the manifold guard
    allows, the kernel succeeds and leaves the 4 tets of the far side coned from vertex 0 — again conforming -/
example : WF exStar ∧ valid3Orient (toMesh3 exStar) = true ∧ (∀ c ∈ exStar.tri, 6 ∉ c.nodes) ∧
    collapseEdgeManifold exStar 0 6 = (.ok, true) ∧ (collapseEdge exStar 0 6).1 = .ok ∧
    (collapseEdge exStar 0 6).2.tet = [⟨[0, 2, 1, 4], 0⟩, ⟨[0, 1, 3, 4], 0⟩, ⟨[0, 1, 2, 5], 0⟩, ⟨[0, 3, 1, 5], 0⟩] ∧
    valid3Orient (toMesh3 (collapseEdge exStar 0 6).2) = true :=
  ⟨by decide, exStar_orient, by decide, by decide +kernel, by decide +kernel, by decide +kernel,
    exStar_collapsed_orient⟩

example : Conforming exStar ∧ Conforming (collapseEdge exStar 0 6).2 :=
  ⟨conforming_of_orient _ exStar_orient,
   collapse_signedConforming exStar 0 6 (by decide) (by decide) (by decide +kernel)
     (conforming_of_orient _ exStar_orient)⟩

/-- the manifold guard is not vacuous: with the tet (0,1,2,4) already present the collapse 6 → 0 would create it a
    second time and is refused; the collapse of 0 onto 6 (node0 = 6) would leave tri (6,4,2) and others doubled on
    the boundary and is allowed only topologically (the geometry guard refuses it, vertex 0 lies on a patch) -/
example : collapseEdgeManifold { exStar with tet := exStar.tet ++ [⟨[1, 0, 2, 4], 0⟩] } 0 6 = (.ok, false) ∧
    collapseEdgeGeometry exStar false false 6 0 = (.ok, false) ∧
    collapseEdgeGeometry exStar false false 0 6 = (.ok, true) := by
  decide +kernel

/-- a boundary vertex: the upper half of the star (4 tets), vertex 6 on the bottom patch (id 2) together with
    0,1,2,3; collapsing 6 onto 0 along the boundary: geometry and manifold guards allow, the result is conforming,
    both bottom triangles with the edge (0,6) are removed; a ghost in the star makes `local_cell` refuse -/
def exHalf : Grid :=
  { tet := [⟨[6, 0, 2, 4], 0⟩, ⟨[6, 2, 1, 4], 0⟩, ⟨[6, 3, 0, 4], 0⟩, ⟨[6, 1, 3, 4], 0⟩],
    tri := [⟨[0, 4, 2], 1⟩, ⟨[2, 4, 1], 1⟩, ⟨[3, 4, 0], 1⟩, ⟨[1, 4, 3], 1⟩,
            ⟨[6, 0, 2], 2⟩, ⟨[6, 2, 1], 2⟩, ⟨[6, 3, 0], 2⟩, ⟨[6, 1, 3], 2⟩] }

example : WF exHalf ∧ valid3Orient (toMesh3 exHalf) = true ∧
    collapseEdgeGeometry exHalf false false 0 6 = (.ok, true) ∧ collapseEdgeManifold exHalf 0 6 = (.ok, true) ∧
    (collapseEdge exHalf 0 6).2.tri.length = 6 ∧ (collapseEdge exHalf 0 6).2.tet.length = 2 ∧
    valid3Orient (toMesh3 (collapseEdge exHalf 0 6).2) = true ∧
    collapseEdgeLocalCell exHalf [true, true, true, true, true, true, true] 0 6 = true ∧
    collapseEdgeLocalCell exHalf [true, true, true, false, true, true, true] 0 6 = false := by
  decide +kernel

/-- the 8 tets of `exStar` in the cell store of the cavity model -/
def exStarCavGrid : Cavity.Grid Int :=
  let g : Cavity.Grid Int := (List.range 7).foldl (fun g _ => (g.addNode ⟨⟨0, 0, 0⟩, true⟩).1) Cavity.Grid.create
  (exStar.tet.map tetOf).foldl (fun g t => { g with tets := (g.tets.add t).1 }) g

/-- the collapse as a cavity replacement, on the 8-tet star (NOT proved in general: it needs the face list of
    `ref_cavity_add_tet` over the closed star to be exactly the link, slot by slot).  The cavity machine fed with
    star(node1 = 6) and cavity node node0 = 0 (what `ref_cavity_form_edge_collapse` builds) passes the manifold
    verification and creates 4 tets; they have the vertex sets of the 4 tets `ref_collapse_edge` leaves, and the same
    orientation: closing the cavity's tets with the faces of the collapsed tets as boundary gives signed multiplicity
    zero on every face.  So on this star the substitution IS the cavity replace, and `replace_conforming` /
    `replace_volume` of `Props/C01` say the same as `collapse_conforming` / `collapse_volume_interior`. -/
example :
    let c := (addTets exStarCavGrid (Refine.Props.C01.emptyCav 0) [0, 1, 2, 3, 4, 5, 6, 7]).2
    let new := newTets { c with state := .visible }
    let col := (collapseEdge exStar 0 6).2.tet.map tetOf
    (addTets exStarCavGrid (Refine.Props.C01.emptyCav 0) [0, 1, 2, 3, 4, 5, 6, 7]).1 = .ok ∧
    Refine.Props.C01.VerifyPassed { c with state := .visible } ∧ new.length = 4 ∧
    (∀ t ∈ new, ∃ u ∈ col, uniq [t.n0.toNat, t.n1.toNat, t.n2.toNat, t.n3.toNat] =
        uniq [u.n0.toNat, u.n1.toNat, u.n2.toNat, u.n3.toNat]) ∧
    valid3Orient (⟨[], new, (col.flatMap tetFaces).map fun f => ⟨f.n0, f.n1, f.n2, 0⟩⟩ : Mesh3 Int) = true := by
  decide +kernel

end Refine.Props.C13Collapse
