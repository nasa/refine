import Refine.Lemmas.SolChunk
import Refine.Lemmas.SolIndex

/-!
  C09, part 2 — text formats and the multi-rank chunk loops (`Refine/Model/Sol.lean`, tied by the streams
  `sol_read[_mpi]`, `sol_write[_mpi]`, `sol_rst` through harness/h_sol.c ↔ `refdrv sol`).

  Memory slots are (m11,m12,m13,m22,m23,m33) = (xx,xy,xz,yy,yz,zz).  The slot orders are `Refine.Gen.SolOrder`,
  regenerated from the C text of every reader/writer branch on every run.
-/
namespace Refine.Props.C09Sol
open Refine.Gen Refine.Model.Meshb Refine.Model.Sol Refine.Lemmas.Sol
open Refine.Model.Comm (World)

def memNames : List String := ["xx", "xy", "xz", "yy", "yz", "zz"]
def named (order : List Nat) : List String := order.map fun k => memNames.getD k ""

/-- the ASCII `.sol` 3-D branch of ref_part_metric reads libMeshb's order xx xy yy xz yz zz -/
theorem asciiSol3_order_is_libmeshb : named SolOrder.asciiSol3 = ["xx", "xy", "yy", "xz", "yz", "zz"] := by decide

/-- the ASCII `.sol` 2-D branch reads xx xy yy and fills m13 = m23 = 0, m33 = 1 -/
theorem asciiSol2_order :
    named SolOrder.asciiSol2 = ["xx", "xy", "yy"] ∧
    SolOrder.asciiSol2Fill = [(2, false), (4, false), (5, true)] := by decide

/-- the plain six-column reader and writer use the in-memory order m11 m12 m13 m22 m23 m33 -/
theorem plainMetric_order_is_natural :
    SolOrder.plainMetric = [0, 1, 2, 3, 4, 5] ∧ SolOrder.writePlain = [0, 1, 2, 3, 4, 5] := by decide

/-- the binary branches: libMeshb order, reader = writer, 2-D fills -/
theorem solb_orders :
    named SolOrder.solb3 = ["xx", "xy", "yy", "xz", "yz", "zz"] ∧ named SolOrder.solb2 = ["xx", "xy", "yy"] ∧
    SolOrder.writeSolb3 = SolOrder.solb3 ∧ SolOrder.writeSolb2 = SolOrder.solb2 ∧
    SolOrder.solb2Fill = [(2, false), (4, false), (5, true)] ∧
    SolOrder.solb3 = MetricOrder.read3 ∧ SolOrder.writeSolb3 = MetricOrder.write3 := by decide

/-- every reader/writer pair refine has uses one table: what ref_gather_metric writes as `.solb` is what the ASCII
    `.sol` reader and the `.solb` reader expect; `.met` (xx xy yy) is what the bamg reader stores as (xx,xy,0,yy,0,1) -/
theorem reader_writer_orders_agree :
    SolOrder.asciiSol3 = SolOrder.writeSolb3 ∧ SolOrder.asciiSol2 = SolOrder.writeSolb2 ∧
    SolOrder.plainMetric = SolOrder.writePlain ∧ named SolOrder.writeMet = ["xx", "xy", "yy"] ∧
    SolOrder.bamgRead = [0, 1, 2] ∧
    SolOrder.bamgForm = [(some 0, false), (some 1, false), (none, false), (some 2, false), (none, false), (none, true)] ∧
    SolOrder.asciiSol3.map (fun k => SolOrder.asciiSol3.getD k 0) = [0, 1, 2, 3, 4, 5] := by decide

/-- **read (independent write t) = t, per row, 3-D ASCII**: the six tokens of a libMeshb line land in the slots of
    the tensor they name; and what the `.solb` writer emits for that tensor is that line again -/
theorem asciiSol3_row (xx xy xz yy yz zz : UInt64) :
    storeRow SolOrder.asciiSol3 [] [xx, xy, yy, xz, yz, zz] = [xx, xy, xz, yy, yz, zz] ∧
    loadRow SolOrder.writeSolb3 [xx, xy, xz, yy, yz, zz] = [xx, xy, yy, xz, yz, zz] := ⟨rfl, rfl⟩

/-- 2-D ASCII: xx xy yy ↦ (xx, xy, 0, yy, 0, 1) -/
theorem asciiSol2_row (xx xy yy : UInt64) :
    storeRow SolOrder.asciiSol2 SolOrder.asciiSol2Fill [xx, xy, yy] = [xx, xy, 0, yy, 0, one] ∧
    loadRow SolOrder.writeSolb2 [xx, xy, 0, yy, 0, one] = [xx, xy, yy] ∧
    loadRow SolOrder.writeMet [xx, xy, 0, yy, 0, one] = [xx, xy, yy] ∧
    bamgRow [xx, xy, yy] = [xx, xy, 0, yy, 0, one] := ⟨rfl, rfl, rfl, rfl⟩

/-- plain six columns: identity both ways -/
theorem plainMetric_row (a b c d e f : UInt64) :
    storeRow SolOrder.plainMetric [] [a, b, c, d, e, f] = [a, b, c, d, e, f] ∧
    loadRow SolOrder.writePlain [a, b, c, d, e, f] = [a, b, c, d, e, f] := ⟨rfl, rfl⟩

/-- writer ∘ reader and reader ∘ writer are the identity for the pairs refine has (3-D) -/
theorem metric_row_roundtrip (a b c d e f : UInt64) :
    storeRow SolOrder.solb3 [] (loadRow SolOrder.writeSolb3 [a, b, c, d, e, f]) = [a, b, c, d, e, f] ∧
    loadRow SolOrder.writeSolb3 (storeRow SolOrder.asciiSol3 [] [a, b, c, d, e, f]) = [a, b, c, d, e, f] ∧
    storeRow SolOrder.plainMetric [] (loadRow SolOrder.writePlain [a, b, c, d, e, f]) = [a, b, c, d, e, f] :=
  ⟨rfl, rfl, rfl⟩

/-- for every chunk size ≥ 1 and every world of ranks (any rank count, any distribution of
    the globals) the `while (nnode_read < nnode)` loop of the readers — rank 0 reads a section, `ref_mpi_bcast`, every
    rank stores — ends with status ok and leaves on every rank exactly what ONE pass over rows `0 … nnode-1` leaves:
    row `g` of the file is offered to the local node of global `g` (and of `nnode + g` for 2-D files) once, in order.
    `rd`/`view`: any sequential row reader (`RowStream`). -/
theorem chunked_read_eq_whole {σ : Type} (rd : Nat → σ → Except Status (List Row × σ)) (view : σ → List Row)
    (hrd : RowStream rd view) (dup : Bool) (nnode chunk : Int) (hchunk : 1 ≤ chunk) (s : σ) (w : World Rank)
    (hn : 0 ≤ nnode) (hlen : nnode ≤ (view s).length) :
    ∃ w' s', readLoop dup nnode nnode chunk rd (nnode.toNat + 1) 0 s w = .ok (w', s') ∧
      w'.map (fun st => (st.globals, st.arr)) =
        w.map (fun st => (st.globals, scatterRows dup nnode st.globals 0 ((view s).take nnode.toNat) st.arr)) := by
  have := readLoop_eq rd view hrd dup nnode chunk hchunk (nnode.toNat + 1) 0 s w (by omega) (by omega) (by omega)
  simpa [storeAll, Function.comp_def] using this

/-- the chunk the readers compute is ≥ 1 whenever the file declares at least one vertex (so the loop advances) -/
theorem reader_chunk_pos (nnode : Int) (np : Nat) (h1 : 1 ≤ nnode) (h2 : nnode < 2 ^ 31) (hnp : 1 ≤ np) :
    1 ≤ chunkOfR SolOrder.readChunkFloor nnode np := by
  rw [chunkOfR_eq (by decide) (by omega) h2]
  have : (1 : Int) ≤ SolOrder.readChunkFloor := by decide
  omega

/-- (3-D files, `dup = false`) after the pass that the chunk loop equals (`chunked_read_eq_whole`), the local
    node `l` that `ref_node_local` returns for global `g` (and for no other global — the node-id invariant) holds
    entry `g` of the file if the file has one, and is untouched otherwise; no other entry is ever stored there -/
theorem field_index_is_vertex_index (nnode : Int) (gl : List Nat) (g : Int) (l : Nat)
    (hloc : refNodeLocal gl g = some l) (hinj : ∀ g', refNodeLocal gl g' = some l → g' = g)
    (rows : List Row) (arr : List Row) (hl : l < arr.length) (h0 : 0 ≤ g) :
    (scatterRows false nnode gl 0 rows arr)[l]? = if g < rows.length then rows[g.toNat]? else arr[l]? := by
  have := scatterRows_getElem? nnode gl g l hloc hinj rows 0 arr hl
  simpa [h0] using this

/-! ### non-vacuity: an anisotropic tensor whose six components all differ -/

example : refNodeLocal [2, 0, 1] 0 = some 1 ∧ ∀ g', refNodeLocal [2, 0, 1] g' = some 1 → g' = 0 := by
  refine ⟨by decide, fun g' h => ?_⟩
  unfold refNodeLocal at h
  split at h
  · cases h
  · obtain ⟨_, h1, _⟩ := List.idxOf?_eq_some_iff.1 h
    have : (0 : Nat) = g'.toNat := h1
    omega

/-- the list reader: the stream is the list of remaining rows -/
def listRd (k : Nat) (s : List Row) : Except Status (List Row × List Row) := .ok (s.take k, s.drop k)

example : RowStream listRd id := fun k s _ => ⟨s.drop k, rfl, rfl⟩

def t0 : Row := [11, 12, 13, 22, 23, 33]
def t1 : Row := [111, 112, 113, 122, 123, 133]
def t2 : Row := [211, 212, 213, 222, 223, 233]

/-- three tensors, two ranks (rank 0 holds globals 2,0; rank 1 holds 1,2), chunk 2 (not a divisor of 3):
    every local node ends with the tensor of its global id -/
example :
    (readLoop false 3 3 2 listRd 4 0 [t0, t1, t2]
        [{ globals := [2, 0], buf := [[], []], arr := [[], []] }, { globals := [1, 2], buf := [[], []], arr := [[], []] }]).map
      (fun r => r.1.map (·.arr)) = .ok [[t2, t0], [t1, t2]] := by decide +kernel

/-- token level, 3-D ASCII `.sol` written in libMeshb order, one rank, chunk floor 1 (three passes) -/
example :
    partMetricText true 1 3 [[2, 0, 1]]
      ([Tok.word "MeshVersionFormatted", .int 2, .word "Dimension", .int 3, .word "SolAtVertices", .int 3, .int 1, .int 3] ++
       [11, 12, 22, 13, 23, 33].map Tok.num ++ [111, 112, 122, 113, 123, 133].map Tok.num ++
       [211, 212, 222, 213, 223, 233].map Tok.num ++ [Tok.word "End"]) = .ok [[t2, t0, t1]] := by decide +kernel

/-- 2-D ASCII `.sol`, two ranks -/
example :
    partMetricText true 1 2 [[1], [0, 1]]
      ([Tok.word "Dimension", .int 2, .word "SolAtVertices", .int 2, .int 1, .int 3] ++
       [11, 12, 22].map Tok.num ++ [111, 112, 122].map Tok.num) =
      .ok [[[111, 112, 0, 122, 0, one]], [[11, 12, 0, 22, 0, one], [111, 112, 0, 122, 0, one]]] := by decide +kernel

/-- the plain writer followed by the plain reader, two ranks each way -/
example :
    gatherMetric "h.metric" false 0 56 2
      [{ nodes := [{ global := 1, part := 0, payload := t1 }], cells := [] },
       { nodes := [{ global := 0, part := 1, payload := t0 }, { global := 1, part := 0, payload := t2 }], cells := [] }] =
      .done (.ok (.toks ((t0 ++ t1).map Tok.num))) := by decide +kernel

end Refine.Props.C09Sol
