import Refine.Lemmas.PartMeshbParse
import Refine.Lemmas.PartMeshbRoute
import Refine.Lemmas.PartMeshbCount

/-!
  C20 for the PARALLEL libMeshb reader (`ref_part_by_extension` → `ref_part_meshb`, model
  `Refine.Model.PartMeshb`): the reader's OWN validation — the range check of `ref_part_meshb_cell`, made on the
  1-based value of every vertex of a chunk before the decrement — implies that every vertex of every cell that
  reaches the routing is in `[0, nnode)`, hence that `dest = ref_part_implicit(nnode, np, vertex)` is a rank and
  `elements_to_send[dest]`, `start_to_send[dest]` are indexed inside `[0, np)`: the `undefined` result of the model's
  `routeChunk` (an index outside the send-count arrays) is unreachable from an accepted file.
  Every theorem holds for every rank count `np ≥ 1`, every chunk constant, every byte string.
-/
namespace Refine.Props.C20PartMeshb
open Refine.Model.Meshb Refine.Model.PartMeshb Refine.Lemmas.PartMeshb
open Refine.Gen.PartMacros

/-- **accepted ⇒ in range**: rank 0 accepted the file (`parseWith … = ok p`; `p.groups` = what it hands to the
    routing, per cell group and chunk) ⇒ every vertex `x` of every cell is a vertex index `0 ≤ x < nnode`, and the
    block owner `ref_part_implicit nnode np x` (generated from `ref_part.h`) is a rank `0 ≤ · < np` -/
theorem partCell_accepted_in_range (cfg : Cfg) (np cm : Nat) (hnp : 1 ≤ np) (bs : Bytes) (p : Parsed)
    (h : parseWith cfg np cm bs = .ok p) :
    ∀ g ∈ cellInfos.zip p.groups, ∀ ch ∈ g.2, ∀ c ∈ ch, ∀ x ∈ c.take g.1.nodePer,
      0 ≤ x ∧ x < p.nnode ∧
      0 ≤ ref_part_implicit p.nnode (np : Int) x ∧ ref_part_implicit p.nnode (np : Int) x < (np : Int) := by
  intro g hg ch hch c hc x hx
  obtain ⟨h0, h1⟩ := (parse_cells h g hg ch hch c hc).2 x hx
  exact ⟨h0, h1, imp_range hnp h0 h1⟩

/-- the routing of an accepted chunk never indexes the send-count arrays out of range: `routeChunk` (and the
    as-coded counting sort `routeChunkCoded`, equal to it on every input) returns the buckets -/
theorem partCell_route_in_bounds (cfg : Cfg) (np cm : Nat) (hnp : 1 ≤ np) (bs : Bytes) (p : Parsed)
    (h : parseWith cfg np cm bs = .ok p) :
    ∀ g ∈ cellInfos.zip p.groups, ∀ ch ∈ g.2,
      routeChunkCoded p.nnode np ch = .ok ((List.range np).map fun (r : Nat) =>
        ch.filter fun c => destOf p.nnode np c == (r : Int)) := by
  intro g hg ch hch
  rw [routeChunkCoded_eq]
  exact routeChunk_ok (cellInfos_nodePer_pos g.1 (List.of_mem_zip hg).1) hnp (parse_cells h g hg ch hch)

/-- the counting sort as coded (`elements_to_send`, `start_to_send`, `new_location`, slices) equals, on EVERY input,
    the routing the driver executes (bucket `p` = the cells with `dest = p`, in chunk order) -/
theorem routeChunk_eq_coded (N : Int) (np : Nat) (cells : List Cell) :
    routeChunk N np cells = routeChunkCoded N np cells :=
  (routeChunkCoded_eq N np cells).symm

/-! ### non-vacuity -/

/-- 7 vertices, one tet, two triangles, one edge whose FIRST vertex is the last vertex (file index 7 = nnode),
    a geometry record and two CAD bytes -/
def lastVertexFile : Bytes :=
  [1, 0, 0, 0, 2, 0, 0, 0, 3, 0, 0, 0, 20, 0, 0, 0, 3, 0, 0, 0, 4, 0, 0, 0, 228, 0, 0, 0, 7, 0, 0, 0, 0, 0, 0,
   0, 0, 0, 0, 0, 0, 0, 0, 0, 0, 0, 0, 0, 0, 0, 0, 0, 0, 0, 0, 128, 1, 0, 0, 0, 0, 0, 0, 0, 0, 0, 240, 63, 0,
   0, 0, 0, 0, 0, 224, 63, 0, 0, 0, 0, 0, 0, 240, 191, 1, 0, 0, 0, 0, 0, 0, 0, 0, 0, 0, 64, 0, 0, 0, 0, 0, 0,
   240, 63, 0, 0, 0, 0, 0, 0, 0, 192, 1, 0, 0, 0, 0, 0, 0, 0, 0, 0, 8, 64, 0, 0, 0, 0, 0, 0, 248, 63, 0, 0, 0,
   0, 0, 0, 8, 192, 1, 0, 0, 0, 0, 0, 0, 0, 0, 0, 16, 64, 0, 0, 0, 0, 0, 0, 0, 64, 0, 0, 0, 0, 0, 0, 16, 192,
   1, 0, 0, 0, 0, 0, 0, 0, 0, 0, 20, 64, 0, 0, 0, 0, 0, 0, 4, 64, 0, 0, 0, 0, 0, 0, 20, 192, 1, 0, 0, 0, 0, 0,
   0, 0, 0, 0, 24, 64, 0, 0, 0, 0, 0, 0, 8, 64, 0, 0, 0, 0, 0, 0, 24, 192, 1, 0, 0, 0, 5, 0, 0, 0, 252, 0, 0,
   0, 1, 0, 0, 0, 7, 0, 0, 0, 1, 0, 0, 0, 7, 0, 0, 0, 6, 0, 0, 0, 40, 1, 0, 0, 2, 0, 0, 0, 1, 0, 0, 0, 2, 0, 0,
   0, 3, 0, 0, 0, 5, 0, 0, 0, 5, 0, 0, 0, 4, 0, 0, 0, 3, 0, 0, 0, 6, 0, 0, 0, 8, 0, 0, 0, 72, 1, 0, 0, 1, 0, 0,
   0, 1, 0, 0, 0, 2, 0, 0, 0, 3, 0, 0, 0, 4, 0, 0, 0, 0, 0, 0, 0, 41, 0, 0, 0, 108, 1, 0, 0, 1, 0, 0, 0, 2, 0,
   0, 0, 4, 0, 0, 0, 0, 0, 0, 0, 0, 0, 224, 63, 0, 0, 0, 0, 0, 0, 16, 64, 126, 0, 0, 0, 122, 1, 0, 0, 2, 0, 0,
   0, 9, 8, 54, 0, 0, 0, 0, 0, 0, 0]

/-- the same file with that vertex index raised to 8 = nnode + 1 (exactly one past the end) -/
def onePastFile : Bytes :=
  [1, 0, 0, 0, 2, 0, 0, 0, 3, 0, 0, 0, 20, 0, 0, 0, 3, 0, 0, 0, 4, 0, 0, 0, 228, 0, 0, 0, 7, 0, 0, 0, 0, 0, 0,
   0, 0, 0, 0, 0, 0, 0, 0, 0, 0, 0, 0, 0, 0, 0, 0, 0, 0, 0, 0, 128, 1, 0, 0, 0, 0, 0, 0, 0, 0, 0, 240, 63, 0,
   0, 0, 0, 0, 0, 224, 63, 0, 0, 0, 0, 0, 0, 240, 191, 1, 0, 0, 0, 0, 0, 0, 0, 0, 0, 0, 64, 0, 0, 0, 0, 0, 0,
   240, 63, 0, 0, 0, 0, 0, 0, 0, 192, 1, 0, 0, 0, 0, 0, 0, 0, 0, 0, 8, 64, 0, 0, 0, 0, 0, 0, 248, 63, 0, 0, 0,
   0, 0, 0, 8, 192, 1, 0, 0, 0, 0, 0, 0, 0, 0, 0, 16, 64, 0, 0, 0, 0, 0, 0, 0, 64, 0, 0, 0, 0, 0, 0, 16, 192,
   1, 0, 0, 0, 0, 0, 0, 0, 0, 0, 20, 64, 0, 0, 0, 0, 0, 0, 4, 64, 0, 0, 0, 0, 0, 0, 20, 192, 1, 0, 0, 0, 0, 0,
   0, 0, 0, 0, 24, 64, 0, 0, 0, 0, 0, 0, 8, 64, 0, 0, 0, 0, 0, 0, 24, 192, 1, 0, 0, 0, 5, 0, 0, 0, 252, 0, 0,
   0, 1, 0, 0, 0, 8, 0, 0, 0, 1, 0, 0, 0, 7, 0, 0, 0, 6, 0, 0, 0, 40, 1, 0, 0, 2, 0, 0, 0, 1, 0, 0, 0, 2, 0, 0,
   0, 3, 0, 0, 0, 5, 0, 0, 0, 5, 0, 0, 0, 4, 0, 0, 0, 3, 0, 0, 0, 6, 0, 0, 0, 8, 0, 0, 0, 72, 1, 0, 0, 1, 0, 0,
   0, 1, 0, 0, 0, 2, 0, 0, 0, 3, 0, 0, 0, 4, 0, 0, 0, 0, 0, 0, 0, 41, 0, 0, 0, 108, 1, 0, 0, 1, 0, 0, 0, 2, 0,
   0, 0, 4, 0, 0, 0, 0, 0, 0, 0, 0, 0, 224, 63, 0, 0, 0, 0, 0, 0, 16, 64, 126, 0, 0, 0, 122, 1, 0, 0, 2, 0, 0,
   0, 9, 8, 54, 0, 0, 0, 0, 0, 0, 0]

/-- the hypothesis of `partCell_accepted_in_range` is met by a file that uses the last vertex, on 3 ranks -/
example : (parseWith Cfg.current 3 chunkConst lastVertexFile).toOption.map
    (fun p => (p.nnode, p.groups.getD 0 [])) = some (7, [[[6, 0, 7]]]) := by decide +kernel

/-- and the index one past the end is rejected with `REF_INVALID`, for 1, 2 and 3 ranks -/
example : [1, 2, 3].map (fun np => partRead np onePastFile) = [.error .invalid, .error .invalid, .error .invalid] := by
  decide +kernel

/-! ### the declared counts (reader of /repo since 4474557: `ref_part_meshb_count_fits`) -/

/-- **accepted ⇒ every declared cell / geometry count fits**: rank 0 accepted the file ⇒ for every cell group and
    every geometry type whose keyword is in the file, the declared count `n` (read by `ref_part_meshb_long` at the
    bytes `s0`, leaving `s`) satisfies `0 ≤ n ≤ INT_MAX` and `n ≤ (bytes after the count) / 4` -/
theorem partCell_count_fits (cfg : Cfg) (np cm : Nat) (bs : Bytes) (p : Parsed)
    (h : parseWith cfg np cm bs = .ok p) :
    ∃ v kp, header cfg bs = .ok (v, kp) ∧
      ∀ kw, (kw ∈ cellInfos.map (·.kw) ∨ kw ∈ [40, 41, 42]) → ∀ next s0 n s,
        jump v bs kp kw = .ok (some (next, s0)) → rdLong v s0 = .ok (n, s) →
        0 ≤ n ∧ n ≤ INT_MAX ∧ n ≤ ((s.length / 4 : Nat) : Int) := by
  obtain ⟨v, kp, hs⟩ := parse_inv h
  refine ⟨v, kp, hs.header, ?_⟩
  intro kw hkw next s0 n s hj hl
  rw [← countFits_iff]
  rcases hkw with hkw | hkw
  · obtain ⟨ci, hci, rfl⟩ := List.mem_map.1 hkw
    obtain ⟨g, hs⟩ := Refine.Lemmas.Reader.each_ok_of_mem ((rdCellGroupsP_eq_each ..).symm.trans hs.groups) hci
    exact kwSectionL_fits hs hj hl
  · obtain ⟨t, ht, rfl⟩ := List.mem_map.1 (show kw ∈ [0, 1, 2].map (40 + ·) from hkw)
    obtain ⟨g, hs⟩ := Refine.Lemmas.Reader.each_ok_of_mem ((rdGeomTypesP_eq_each ..).symm.trans hs.geoms) ht
    exact kwSectionL_fits hs hj hl

/-- **the read loops make progress and return**: for a count that passed the check (`0 ≤ n ≤ INT_MAX`), any chunk
    constant `1 ≤ cm ≤ INT_MAX` and `np ≥ 1`: `chunk = (REF_INT)MAX(cm, n/np) ≥ 1` (no truncation), and
    `section_size = MIN(chunk, (REF_INT)(n - read)) ≥ 1` whenever `0 ≤ read < n`; hence the fuel `n + 1` of the model
    is never exhausted and NO byte string makes rank 0's reading diverge (`parseWith Cfg.current … ≠ error diverge`:
    the C loops `while (ncell_read < ncell)` / `while (ngeom_read < ngeom)` return) -/
theorem partCell_loop_progress (np cm : Nat) (hcm : 1 ≤ cm) (hcmax : (cm : Int) ≤ INT_MAX) (hnp : 1 ≤ np) :
    (∀ n : Int, 0 ≤ n → n ≤ INT_MAX →
      1 ≤ chunkOf cm n np ∧ chunkOf cm n np ≤ INT_MAX ∧
      ∀ read : Int, 0 ≤ read → read < n → 1 ≤ sectionSize (chunkOf cm n np) n read) ∧
    ∀ bs : Bytes, parseWith Cfg.current np cm bs ≠ .error .diverge := by
  refine ⟨?_, parse_ne_diverge hcm hcmax⟩
  intro n h0 h1
  obtain ⟨_, hc, hm⟩ := chunkOf_bounds (np := np) hcm hcmax h0 h1
  exact ⟨hc, hm, fun read r0 r1 => sectionSize_pos hc r0 r1 h1⟩

/-- **no `int` overflow in the buffer sizes**: for a file of at most `overflowFreeBytes * np = 306 783 376 · np`
    bytes (≈ 292 MiB per rank), a count that passed the check (so `n ≤ bytes/4`) and the chunk constant of the C,
    `size_per * chunk` and `(node_per + 1) * chunk` — the element counts of `sent_c2n`, `c2n`, `c2n_int`, `c2n_long` —
    are in `[0, 2^31)` for every cell group, so the first test of `mallocInts` (the one that returns the model's
    `undefined`) does not fire for the two cell buffers; the geometry buffers (`chunk`, `2 * chunk`) are not stated -/
theorem partCell_no_int_overflow (np : Nat) (hnp : 1 ≤ np) (len : Nat) (hlen : len ≤ overflowFreeBytes * np)
    (n : Int) (h0 : 0 ≤ n) (h1 : n ≤ INT_MAX) (hfit : n ≤ ((len / 4 : Nat) : Int)) :
    ∀ ci ∈ cellInfos,
      (ci.sizePer : Int) * chunkOf chunkConst n np ≤ INT_MAX ∧
      ((ci.nodePer : Int) + 1) * chunkOf chunkConst n np ≤ INT_MAX ∧
      0 ≤ (ci.sizePer : Int) * chunkOf chunkConst n np ∧ 0 ≤ ((ci.nodePer : Int) + 1) * chunkOf chunkConst n np := by
  intro ci hci
  obtain ⟨c1, c2⟩ := chunk_small hnp h0 hfit hlen h1
  obtain ⟨a, b⟩ := cellInfos_nodePer_le ci hci
  -- at most 28 integers per record, at most 76 695 844 records per chunk: 28 * 76 695 844 = 2 147 483 632
  have key : ∀ k : Nat, k ≤ 28 → 0 ≤ (k : Int) * chunkOf chunkConst n np ∧ (k : Int) * chunkOf chunkConst n np ≤ INT_MAX :=
    fun k hk => ⟨Int.mul_nonneg (by omega) (by omega),
      le_trans (Int.mul_le_mul (show (k : Int) ≤ 28 by omega) c2 (by omega) (by omega)) (by decide)⟩
  exact ⟨(key _ b).2, by exact_mod_cast (key _ a).2, (key _ b).1, by exact_mod_cast (key _ a).1⟩

/-! ### history: the reader before 4474557 trusted the counts (findings/partmeshb-count-*) -/

/-- a 244-byte version-4 file that declares 2^32 tetrahedra -/
def count2pow32File : Bytes :=
  [1, 0, 0, 0, 4, 0, 0, 0, 3, 0, 0, 0, 24, 0, 0, 0, 0, 0, 0, 0, 3, 0, 0, 0, 4, 0, 0, 0, 172, 0, 0, 0, 0, 0, 0,
   0, 4, 0, 0, 0, 0, 0, 0, 0, 0, 0, 0, 0, 0, 0, 0, 0, 0, 0, 0, 0, 0, 0, 0, 0, 0, 0, 0, 0, 0, 0, 0, 0, 1, 0, 0,
   0, 0, 0, 0, 0, 0, 0, 0, 0, 0, 0, 240, 63, 0, 0, 0, 0, 0, 0, 224, 63, 0, 0, 0, 0, 0, 0, 240, 191, 1, 0, 0, 0,
   0, 0, 0, 0, 0, 0, 0, 0, 0, 0, 0, 64, 0, 0, 0, 0, 0, 0, 240, 63, 0, 0, 0, 0, 0, 0, 0, 192, 1, 0, 0, 0, 0, 0,
   0, 0, 0, 0, 0, 0, 0, 0, 8, 64, 0, 0, 0, 0, 0, 0, 248, 63, 0, 0, 0, 0, 0, 0, 8, 192, 1, 0, 0, 0, 0, 0, 0, 0,
   8, 0, 0, 0, 232, 0, 0, 0, 0, 0, 0, 0, 0, 0, 0, 0, 1, 0, 0, 0, 1, 0, 0, 0, 0, 0, 0, 0, 2, 0, 0, 0, 0, 0, 0,
   0, 3, 0, 0, 0, 0, 0, 0, 0, 4, 0, 0, 0, 0, 0, 0, 0, 0, 0, 0, 0, 0, 0, 0, 0, 54, 0, 0, 0, 0, 0, 0, 0, 0, 0, 0,
   0]

/-- a 184-byte version-2 file that declares 2^31-1 tetrahedra -/
def countIntMaxFile : Bytes :=
  [1, 0, 0, 0, 2, 0, 0, 0, 3, 0, 0, 0, 20, 0, 0, 0, 3, 0, 0, 0, 4, 0, 0, 0, 144, 0, 0, 0, 4, 0, 0, 0, 0, 0, 0,
   0, 0, 0, 0, 0, 0, 0, 0, 0, 0, 0, 0, 0, 0, 0, 0, 0, 0, 0, 0, 0, 1, 0, 0, 0, 0, 0, 0, 0, 0, 0, 240, 63, 0, 0,
   0, 0, 0, 0, 224, 63, 0, 0, 0, 0, 0, 0, 240, 191, 1, 0, 0, 0, 0, 0, 0, 0, 0, 0, 0, 64, 0, 0, 0, 0, 0, 0, 240,
   63, 0, 0, 0, 0, 0, 0, 0, 192, 1, 0, 0, 0, 0, 0, 0, 0, 0, 0, 8, 64, 0, 0, 0, 0, 0, 0, 248, 63, 0, 0, 0, 0, 0,
   0, 8, 192, 1, 0, 0, 0, 8, 0, 0, 0, 176, 0, 0, 0, 255, 255, 255, 127, 1, 0, 0, 0, 2, 0, 0, 0, 3, 0, 0, 0, 4,
   0, 0, 0, 0, 0, 0, 0, 54, 0, 0, 0, 0, 0, 0, 0]

/-- HISTORY: "the reader returns on every file" was FALSE of the reader before 4474557 (`parseCellsLegacy`: no
    `ref_part_meshb_count_fits`): with a declared count of 2^32 both `chunk` and `section_size` were `(REF_INT)` casts
    giving 0 and the loop made no progress; on 2 ranks `chunk = (REF_INT)2^31` was negative and `size_per * chunk`
    overflowed.  The reader of today refuses the same bytes with `REF_FAILURE` on 1, 2 and 3 ranks. -/
theorem partCell_count_loop_counterexample :
    parseCellsLegacy Cfg.current 1 chunkConst count2pow32File = .error .diverge ∧
    parseCellsLegacy Cfg.current 2 chunkConst count2pow32File = .error .undefined ∧
    [1, 2, 3].map (fun np => partRead np count2pow32File) = [.error .failure, .error .failure, .error .failure] := by
  decide +kernel

/-- HISTORY: `size_per * chunk` was computed in `int` from an unchecked declared count (2^31-1 tetrahedra in a
    184-byte file: undefined behaviour, UBSan at ref_part.c:439); refused with `REF_FAILURE` today -/
theorem partCell_count_overflow_counterexample :
    parseCellsLegacy Cfg.current 1 chunkConst countIntMaxFile = .error .undefined ∧
    [1, 2, 3].map (fun np => partRead np countIntMaxFile) = [.error .failure, .error .failure, .error .failure] := by
  decide +kernel

end Refine.Props.C20PartMeshb
