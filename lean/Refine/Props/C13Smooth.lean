import Refine.Lemmas.SmoothInterpBetween
import Refine.Lemmas.SmoothInterpEx
import Refine.Lemmas.SmoothInterpReal

/-!
  C13 (smoothers) — "every accepted operation keeps validity; a REJECTED operation leaves no trace", for the back-off
  loop of `ref_smooth_no_geom_edge_improve`, `ref_smooth_no_geom_tri_improve`, `ref_smooth_tet_improve`
  (`Refine/Model/SmoothInterp.lean`, tied to the C by `refdrv smoothinterp` / `harness/h_smoothinterp.c`).

  The loop ends either inside a try whose acceptance test said yes (`smooth_accept_guard`: the accepted state is the
  one the guards of `Model/Guards.lean` / `Model/Unit.lean` / `Model/Quality.lean` were evaluated on), or with the
  original coordinates bit-identical (`smooth_reject_restores_xyz`, unconditional) and
  * the whole record `(xyz, cell, part, bary, metric)` identical when the original position re-locates to its
    original donor (`smooth_reject_no_trace`), or when there is no background / the vertex was unlocated;
  * the metric identical and the donor record fresh when the interpolant is single-valued (`smooth_reject_no_trace_metric`);
  * the donor cell forgotten (a deliberate "moved" mark) when the background is not interpolated continuously or
    the donor lives on another part.
-/
namespace Refine.Props.C13Smooth
open Refine.Model.SmoothInterp Refine.Lemmas.SmoothInterp

variable {P B M : Type}

/-- whatever the configuration, the search outcomes and the acceptance tests: an improver call that ends by
    rejecting all tries leaves the coordinates exactly the original ones -/
theorem smooth_reject_restores_xyz (kind : Kind) (cfg : Cfg) (bg : Bg P B M) (g : Guards P B M) (tries : Nat)
    (trial : Nat → P) (s0 : NodeSt P B M) (h : (improve kind cfg bg g tries trial s0).outcome = .rolledBack) :
    (improve kind cfg bg g tries trial s0).st.xyz = s0.xyz := by
  have key := loop_rule kind.reinterp cfg bg g trial s0.xyz (interpGuess cfg s0) (fun _ => True) (fun _ _ => True)
    (fun s => s.xyz = s0.xyz) (fun _ _ _ _ => ⟨trivial, fun _ => trivial⟩)
    (fun s _ _ => interpolate_frame cfg bg _) tries 0 s0 [] trivial
  exact key.2 h

/-- an accepted try `j` is one of the `tries` tries, the vertex sits at `trial j`, and the acceptance test of that try
    was evaluated on exactly the state the improver returns (position AND metric: the quality / ratio guards of an
    accepted move saw the metric the vertex keeps) -/
theorem smooth_accept_guard (kind : Kind) (cfg : Cfg) (bg : Bg P B M) (g : Guards P B M) (tries : Nat)
    (trial : Nat → P) (s0 : NodeSt P B M) (j : Nat) (h : (improve kind cfg bg g tries trial s0).outcome = .accepted j) :
    j < tries ∧ (improve kind cfg bg g tries trial s0).st.xyz = trial j ∧
    g.accept j (improve kind cfg bg g tries trial s0).st = true := by
  have key := loop_rule kind.reinterp cfg bg g trial s0.xyz (interpGuess cfg s0) (fun _ => True)
    (fun x s => s.xyz = x) (fun _ => True)
    (fun s x _ _ => ⟨trivial, fun _ => interpolate_frame cfg bg _⟩)
    (fun _ _ _ => trivial) tries 0 s0 [] trivial
  obtain ⟨a, c, d⟩ := key.1 j h
  exact ⟨c, a, d⟩

/-- all tries rejected by the acceptance test ⇒ the improver never returns from inside the loop -/
theorem smooth_all_rejected (kind : Kind) (cfg : Cfg) (bg : Bg P B M) (g : Guards P B M) (tries : Nat)
    (trial : Nat → P) (s0 : NodeSt P B M) (hrej : ∀ k s, g.accept k s = false) (j : Nat) :
    (improve kind cfg bg g tries trial s0).outcome ≠ .accepted j := by
  intro h
  have := (smooth_accept_guard kind cfg bg g tries trial s0 j h).2.2
  rw [hrej] at this
  cases this

/-- **reject leaves no trace.**  Live background, vertex with a fresh record whose position re-locates to its own
    donor record from every located guess (`StableAt`): all tries rejected ⇒ the final state IS the initial state —
    coordinates, donor cell, part, weights, metric. -/
theorem smooth_reject_no_trace {cfg : Cfg} (hl : Live cfg) {bg : Bg P B M} {D : P → Int → B → Prop} (hs : Sound bg D)
    (kind : Kind) (g : Guards P B M) (tries : Nat) (trial : Nat → P) (s0 : NodeSt P B M) (h0 : Fresh bg D s0)
    (hst : StableAt bg s0) (h : (improve kind cfg bg g tries trial s0).outcome = .rolledBack) :
    (improve kind cfg bg g tries trial s0).st = s0 := by
  refine (improve_local_rule hl hs kind g tries trial s0 ⟨h0.1, h0.2.1⟩ (fun r => r = s0) ?_).2 h
  intro s hloc _
  rw [interpolate_stable hl s0 h0 hst s hloc]

/-- **reject restores position and metric** (serial, complete fall-back, single-valued interpolant — the
    log-Euclidean interpolant is continuous across background cells): all tries rejected ⇒ coordinates identical,
    metric identical, and the donor record — possibly another cell containing the same point — fresh -/
theorem smooth_reject_no_trace_metric {cfg : Cfg} (hl : Live cfg) {bg : Bg P B M} {D : P → Int → B → Prop}
    (hs : Sound bg D) (ht : Total bg D)
    (hsv : ∀ x c b c' b', D x c b → D x c' b' → bg.interp c b = bg.interp c' b')
    (kind : Kind) (g : Guards P B M) (tries : Nat) (trial : Nat → P) (s0 : NodeSt P B M) (h0 : Fresh bg D s0)
    (h : (improve kind cfg bg g tries trial s0).outcome = .rolledBack) :
    (improve kind cfg bg g tries trial s0).st.xyz = s0.xyz ∧ (improve kind cfg bg g tries trial s0).st.met = s0.met ∧
    Fresh bg D (improve kind cfg bg g tries trial s0).st := by
  refine (improve_local_rule hl hs kind g tries trial s0 ⟨h0.1, h0.2.1⟩
    (fun r => r.xyz = s0.xyz ∧ r.met = s0.met ∧ Fresh bg D r) ?_).2 h
  intro s hloc hnf
  rcases interpolate_local hl hs { s with xyz := s0.xyz } hloc with ⟨_, hf, hfr⟩ | ⟨hnf', _⟩ | hfl
  · refine ⟨hfr, ?_, hf⟩
    have hd := hf.2.2.1
    rw [hfr] at hd
    have := hsv _ _ _ _ _ hd h0.2.2.1
    rw [hf.2.2.2, h0.2.2.2] at this
    exact Option.some.inj this
  · exact absurd hnf' (interpolate_total hl hs ht { s with xyz := s0.xyz } hloc
      ⟨s0.cell, s0.bary, h0.2.2.1⟩)
  · exact absurd hfl hnf

/-- no background (`ref_grid_interp == NULL`): the improver only ever writes the coordinates; rejected ⇒ identical -/
theorem smooth_reject_no_interp (cfg : Cfg) (hc : cfg.hasInterp = false) (bg : Bg P B M) (kind : Kind)
    (g : Guards P B M) (tries : Nat) (trial : Nat → P) (s0 : NodeSt P B M) :
    (∀ j, (improve kind cfg bg g tries trial s0).outcome = .accepted j →
      (improve kind cfg bg g tries trial s0).st = { s0 with xyz := trial j }) ∧
    ((improve kind cfg bg g tries trial s0).outcome = .rolledBack → (improve kind cfg bg g tries trial s0).st = s0) := by
  exact improve_settle kind cfg bg g tries trial s0 s0 (fun x => interpolate_noInterp cfg bg _ hc)
    (fun x => interpolate_noInterp cfg bg _ hc)

/-- background not interpolated continuously: every interpolation call marks the vertex "moved"
    (`cell = REF_EMPTY`) — also when all tries are rejected; nothing else changes -/
theorem smooth_reject_not_continuous (cfg : Cfg) (h1 : cfg.hasInterp = true) (h2 : cfg.continuously = false)
    (bg : Bg P B M) (kind : Kind) (g : Guards P B M) (tries : Nat) (trial : Nat → P) (s0 : NodeSt P B M) :
    (∀ j, (improve kind cfg bg g tries trial s0).outcome = .accepted j →
      (improve kind cfg bg g tries trial s0).st = { s0 with xyz := trial j, cell := EMPTY }) ∧
    ((improve kind cfg bg g tries trial s0).outcome = .rolledBack →
      (improve kind cfg bg g tries trial s0).st = { s0 with cell := EMPTY }) := by
  exact improve_settle kind cfg bg g tries trial s0 { s0 with cell := EMPTY }
    (fun x => interpolate_notCont cfg bg _ h1 h2) (fun x => interpolate_notCont cfg bg _ h1 h2)

/-- an improver call that is a step of a history (any outcome but an abort: `stepOp` returns `none` on an abort) writes
    the improver's result to its own vertex and leaves every other vertex of the grid untouched -/
theorem history_step_frame (cfg : Cfg) (bg : Bg P B M) (G G' : GridSt P B M) (kind : Kind) (node : Nat)
    (g : GridSt P B M → Guards P B M) (tries : Nat) (trial : GridSt P B M → Nat → P)
    (h : stepOp cfg bg G (.improve kind node g tries trial) = some G') :
    (∀ n, n ≠ node → G' n = G n) ∧ G' node = (improve kind cfg bg (g G) tries (trial G) (G node)).st := by
  obtain ⟨_, rfl⟩ := stepOp_improve h
  exact ⟨fun n hn => GridSt.set_other _ _ _ _ hn, GridSt.set_same _ _ _⟩

open Refine.Model.Geom (V3) in
/-- the shrinking step, in exact arithmetic: try `k` is at `original + 2^-k (ideal - original)` — the first try at the
    ideal position, every later one half as far from the original coordinates -/
theorem trial_positions_shrink (ideal original : V3 ℝ) (k : Nat) :
    (trialPos ideal original k).x = original.x + (1 / 2 : ℝ) ^ k * (ideal.x - original.x) ∧
    (trialPos ideal original k).y = original.y + (1 / 2 : ℝ) ^ k * (ideal.y - original.y) ∧
    (trialPos ideal original k).z = original.z + (1 / 2 : ℝ) ^ k * (ideal.z - original.z) := by
  unfold trialPos
  simp only [Refine.ScalarReal.add_eq, Refine.ScalarReal.sub_eq, Refine.ScalarReal.mul_eq, Refine.ScalarReal.ofInt_eq,
    backoffAt_real]
  refine ⟨?_, ?_, ?_⟩ <;> (push_cast; ring)

open Refine.Lemmas.SmoothInterp.Ex in
/-- first trial (100) outside the background: `REF_NOT_FOUND`, guess restored; second (6) located but rejected;
    third (3) located and accepted: three interpolation calls with statuses not_found, ok, ok -/
example : (improve .tri live bg guards cTries trial s0).outcome = .accepted 2 ∧
    (improve .tri live bg guards cTries trial s0).st = { xyz := 3, cell := 3, part := 0, bary := 21, met := 24 } ∧
    (improve .tri live bg guards cTries trial s0).calls.map (·.1) = [.notFound, .ok, .ok] := by
  refine ⟨by decide, rfl, by decide⟩

open Refine.Lemmas.SmoothInterp.Ex in
/-- the edge smoother on the same sequence: the accepted try interpolates twice -/
example : (improve .edge live bg guards cTries trial s0).outcome = .accepted 2 ∧
    (improve .edge live bg guards cTries trial s0).calls.map (·.1) = [.notFound, .ok, .ok, .ok, .ok] := by
  refine ⟨by decide, by decide⟩

open Refine.Lemmas.SmoothInterp.Ex in
/-- all eight tries rejected (the first not located): nine interpolation calls, final state = initial state -/
example : (improve .tri live bg rejectAll cTries trial s0).outcome = .rolledBack ∧
    (improve .tri live bg rejectAll cTries trial s0).st = s0 ∧
    (improve .tri live bg rejectAll cTries trial s0).calls.length = 9 := by
  refine ⟨by decide, rfl, by decide⟩

open Refine.Lemmas.SmoothInterp.Ex in
/-- the hypotheses of `smooth_reject_no_trace` are met by this state -/
example : StableAt bg s0 := by
  intro s hs
  obtain ⟨hc, hp⟩ := hs
  unfold locateNode
  have hr : ¬ ((bg : Bg Int Int Int).rank ≠ s.part) := fun e => e hp.symm
  simp only [hc, if_false, hr]
  have hp0 : s.part = 0 := hp
  simp [bg, s0, inBg, foundStatus, EMPTY, hp0]

end Refine.Props.C13Smooth
