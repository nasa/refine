import Refine.Lemmas.Cavity2Collapse
import Refine.Lemmas.Cavity2Conf
import Refine.Lemmas.Cavity2SwapChain
import Refine.Props.C01

/-!
  C01 / C13 — the cavity operator with boundary triangles, the enlarge loops and the form functions
  (`src/ref_cavity.c`; model `Refine/Model/Cavity2.lean` on top of `Refine/Model/Cavity.lean`; tied by the streams
  `cavity2_*`).

  The parts: 1 boundary bookkeeping, 2 the enlarge loops ((a) grows by whole tets, (b) terminates, (c) new tets
  positive, (d) rejected ⇒ no trace: the clauses of the property), 3 the form functions, 4 the acceptance tests.

  Part 1, BOUNDARY BOOKKEEPING.  `ledgerVal φ c = Σ_{live faces} φ − Σ_{live segs} φ(s0,s1,seg node)`.
  `LedgerEq φ g c : ledgerVal φ c = Σ_{listed tets} ∂φ − Σ_{listed tris} φ` is the chain identity
  `F − cone(∂S) = ∂T − S` under which `ref_cavity_replace` keeps the signed boundary of the mesh INCLUDING its
  boundary tris.  It is (i) maintained by every successful 3-D `ref_cavity_insert_seg` up to the faces
  `ref_cavity_remove_seg_add_tets` skips (`insertSeg_ledger`), (ii) decidable on a concrete cavity
  (`ledgerOkAt`, evaluated by the run-level driver on every `cavity_replace begin` record; sound:
  `ledgerOkAt_ledgerEq`), (iii) established by the form functions on a conforming grid (Part 3).
-/
namespace Refine.Props.C01Cavity2
open Refine.Model.Cavity Refine.Model.Cavity2 Refine.Lemmas.Cavity Refine.Lemmas.Cavity2 Refine.Props.C01

variable {G : Type} [AddCommGroup G] {α : Type}

/-! ## 1. boundary bookkeeping -/

/-- **insertSeg_ledger** (`ref_cavity_insert_seg` with tets listed and state unknown — the guard under which
    `ref_cavity_add_seg_face` / `ref_cavity_remove_seg_face` / `ref_cavity_remove_seg_add_tets` act).  A successful
    call either flags the cavity (`boundary_constrained`: the reversed seg carries another face id;
    `partition_constrained`: a ghost tet around the seg), or there is a list `new` of live tets appended to `tet_list`
    with: `ledgerVal` grows by the faces of `new` that are NOT one of the two tris on the seg (`keptFaces`), the seg
    chain grows by `ψ(s)` for every antisymmetric `ψ`, and nothing else changes. -/
theorem insertSeg_ledger {φ : Int → Int → Int → G} {ψ : Int → Int → G} (hφ : Alt φ) (hd : Diag φ) (hψ : Alt2 ψ)
    (g : Grid α) (c c' : Cav) (s : Seg) (hf : SlotsInv c.faces) (hsg : SlotsInv c.segs)
    (htl : c.tetList ≠ []) (hst : c.state = .unknown) (h : insertSeg g c s = (.ok, c')) :
    c'.state ≠ .unknown ∨ ∃ new, SegStep φ ψ g c c' s new :=
  insertSeg3_spec hφ hd hψ g c c' s hf hsg ⟨htl, hst⟩ h

/-- a seg cancels only against the reversed seg WITH THE SAME face id: otherwise the cavity is flagged and
    `ref_cavity_replace` refuses it -/
theorem insertSeg_id_mismatch (g : Grid α) (c : Cav) (s old : Seg) (i : Nat)
    (hfind : findSegAux s.n0 s.n1 c.segs.rows 0 = some (i, true)) (hold : c.segs.rows.getD i none = some old)
    (hid : s.id ≠ old.id) :
    insertSeg g c s = (.ok, { c with state := .boundary_constrained }) := by
  unfold insertSeg
  rw [hfind]
  simp only [hold, hid, ne_eq, not_false_eq_true, if_true]

/-- **replace_conforming_boundary.**  Face verification passed + ledger equation ⇒ for every alternating `φ`
    vanishing on repeated nodes, (new tets − new boundary tris) has the signed boundary of
    (removed tets − removed boundary tris). -/
theorem replace_conforming_boundary {φ : Int → Int → Int → G} (hφ : Alt φ) (hd : Diag φ) (g : Grid α) (c : Cav)
    (hnd : ∀ f ∈ c.validFaces, Nondeg f) (hv : VerifyPassed c) (hl : LedgerEq φ g c) :
    ((newTets c).map fun t => faceSum φ (tetFaces t)).sum - ((newTris c).map fun t => φ t.n0 t.n1 t.n2).sum =
      (c.tetList.map (tetBd φ g)).sum - (c.triList.map (triVal φ g)).sum :=
  replace_chain_boundary hφ hd g c hnd (verifyPassed_loop hv) hl

/-- **ledgerOkAt_ledgerEq**: the executable check (signed multiplicity of every unordered face in
    `live faces + listed tris` against `cone of the unattached live segs + faces of the listed tets` is zero) gives the
    ledger equation for every `G`, `φ`. -/
theorem ledgerOkAt_ledgerEq {φ : Int → Int → Int → G} (hφ : Alt φ) (hd : Diag φ) (g : Grid α) (c : Cav)
    (h : ledgerOkAt g c = true) : LedgerEq φ g c :=
  ledgerOkAt_sound hφ hd g c h

/-- **replace_ids_from_segs**: every boundary tri `ref_cavity_replace` creates takes its first two nodes and its face
    id from a live seg (the third node is the seg node). -/
theorem replace_ids_from_segs (c : Cav) :
    ∀ t ∈ newTris c, ∃ s ∈ c.validSegs, t.id = s.id ∧ t.n0 = s.n0 ∧ t.n1 = s.n1 ∧ t.n2 = c.segNode :=
  newTris_from_segs c

section areavec
open Refine Refine.Model.Geom Refine.ScalarReal

theorem area_component (ψ : Int → Int → ℝ) (hψ : Alt2 ψ) (N : Tri → ℝ) (hN : ∀ t, triBd ψ t = N t) (g : Grid α)
    (c : Cav)
    (hchain : ∀ χ : Int → Int → ℝ, Alt2 χ → segSum χ c.validSegs = (c.triList.map (triBdAt χ g)).sum) :
    ((newTris c).map N).sum =
      (c.triList.map fun cell => match g.tris.get? cell with | some t => N t | none => 0).sum := by
  obtain rfl : triBd ψ = N := funext hN
  exact replace_conforming_2d hψ g c hchain

/-- **replace_area_vector.**  When the live segs are the signed boundary of the listed boundary tris (for every
    antisymmetric edge cochain — the seg chain `insertSeg_ledger` tracks), the boundary tris `ref_cavity_replace`
    creates have exactly the VECTOR area of the tris it removes: each component of `Σ ref_node_tri_normal` is
    conserved, in exact arithmetic, for any position of the seg node and any shape of the patch.  On a planar patch
    this is the conservation of the (signed) patch area. -/
theorem replace_area_vector (x : Int → V3 ℝ) (g : Grid α) (c : Cav)
    (hchain : ∀ χ : Int → Int → ℝ, Alt2 χ → segSum χ c.validSegs = (c.triList.map (triBdAt χ g)).sum) :
    ((newTris c).map fun t => (triNormal (x t.n0) (x t.n1) (x t.n2)).x).sum =
      (c.triList.map fun cell => match g.tris.get? cell with
        | some t => (triNormal (x t.n0) (x t.n1) (x t.n2)).x | none => 0).sum ∧
    ((newTris c).map fun t => (triNormal (x t.n0) (x t.n1) (x t.n2)).y).sum =
      (c.triList.map fun cell => match g.tris.get? cell with
        | some t => (triNormal (x t.n0) (x t.n1) (x t.n2)).y | none => 0).sum ∧
    ((newTris c).map fun t => (triNormal (x t.n0) (x t.n1) (x t.n2)).z).sum =
      (c.triList.map fun cell => match g.tris.get? cell with
        | some t => (triNormal (x t.n0) (x t.n1) (x t.n2)).z | none => 0).sum := by
  -- the apex of the cone cochain: any point does (the cone's boundary does not depend on it), and `have` forgets which
  have p : V3 ℝ := x 0
  exact ⟨area_component _ (coneN_alt (Or.inl rfl) x p) _ (triBd_coneN (Or.inl rfl) x p) g c hchain,
    area_component _ (coneN_alt (Or.inr (Or.inl rfl)) x p) _ (triBd_coneN (Or.inr (Or.inl rfl)) x p) g c hchain,
    area_component _ (coneN_alt (Or.inr (Or.inr rfl)) x p) _ (triBd_coneN (Or.inr (Or.inr rfl)) x p) g c hchain⟩

end areavec

theorem removed_tri_sum (φ : Int → Int → Int → G) (g : Grid α) (cells : List Int) (rs : List Tri)
    (h : List.Forall₂ (fun cell t => g.tris.get? cell = some t) cells rs) :
    (rs.map fun t => φ t.n0 t.n1 t.n2).sum = (cells.map (triVal φ g)).sum := by
  induction h with
  | nil => simp
  | cons hab _ ih => simp only [List.map_cons, List.sum_cons, ih, triVal, hab]

/-- one cavity operation with boundary tris: a cavity `c` whose live faces are non-degenerate, whose listed cells are
    live, which satisfies the ledger equation for every coefficient group, and which `ref_cavity_replace` accepts
    (state visible, both manifold verifications passed, all node checks passed) -/
def CavStep2 (g g' : Grid α) : Prop :=
  ∃ c c', (∀ f ∈ c.validFaces, Nondeg f) ∧
    (∀ cell ∈ c.tetList, ∃ t, g.tets.get? cell = some t) ∧
    (∀ cell ∈ c.triList, ∃ t, g.tris.get? cell = some t) ∧
    (∀ (H : Type) [AddCommGroup H] (χ : Int → Int → Int → H), Alt χ → Diag χ → LedgerEq χ g c) ∧
    replace g c = (.ok, c', g')

theorem sum_replaced {β : Type} (F : β → G) {removed live' created live : List β}
    (p : (removed ++ live').Perm (created ++ live)) :
    (live'.map F).sum = (created.map F).sum + (live.map F).sum - (removed.map F).sum := by
  have := (p.map F).sum_eq
  simp only [List.map_append, List.sum_append] at this
  rw [← this]; abel

/-- **replace_mesh_conforming_boundary.**  One cavity operation with boundary tris keeps
    `meshBd φ = Σ_tets ∂φ − Σ_tris φ` and keeps the grid invariant (the face ids of the new tris: `replace_tris_ids`). -/
theorem replace_mesh_conforming_boundary {φ : Int → Int → Int → G} (hφ : Alt φ) (hd : Diag φ)
    (g g' : Grid α) (hok : GridOK g) (hstep : CavStep2 g g') :
    GridOK g' ∧ meshBd φ g' = meshBd φ g := by
  obtain ⟨c, c', hnd, hlt, hls, hled, hrep⟩ := hstep
  obtain ⟨_, hvis, hvf, _, _⟩ := replace_ok g g' c c' hrep
  have hv : VerifyPassed c := ⟨hvf, by rw [hvis]; decide⟩
  obtain ⟨_, rt, rs, frt, frs, pt, ps, _⟩ := replace_grid_multiset g g' c c' hok.inv hrep hlt hls
  have hchain := replace_conforming_boundary hφ hd g c hnd hv (hled G φ hφ hd)
  refine ⟨replace_gridOK g g' c c' hok hnd hlt hls hrep, ?_⟩
  -- tets' = new + tets − T ;  tris' = newtris + tris − S
  unfold meshBd tetsBd
  rw [sum_replaced _ pt, sum_replaced _ ps, removed_sum φ g c.tetList rt frt, removed_tri_sum φ g c.triList rs frs]
  rw [sub_eq_iff_eq_add] at hchain
  rw [hchain]; abel

/-- a finite history of cavity operations with boundary tris -/
inductive CavHistory2 : Grid α → Grid α → Prop
  | nil (g : Grid α) : CavHistory2 g g
  | cons {g g1 g2 : Grid α} : CavStep2 g g1 → CavHistory2 g1 g2 → CavHistory2 g g2

/-- **cavity_history_conforming_boundary.**  Any chain of accepted cavity replacements — tets AND boundary tris —
    preserves the signed boundary chain of the mesh including its boundary triangles, for every alternating `φ`
    vanishing on repeated nodes, into every abelian group.  In particular a conforming mesh (`meshBd φ = 0`) stays
    conforming. -/
theorem cavity_history_conforming_boundary {φ : Int → Int → Int → G} (hφ : Alt φ) (hd : Diag φ)
    (g g' : Grid α) (hok : GridOK g) (hist : CavHistory2 g g') :
    GridOK g' ∧ meshBd φ g' = meshBd φ g := by
  induction hist with
  | nil g => exact ⟨hok, rfl⟩
  | cons hstep _ ih =>
    obtain ⟨hok1, hm1⟩ := replace_mesh_conforming_boundary hφ hd _ _ hok hstep
    obtain ⟨hok2, hm2⟩ := ih hok1
    exact ⟨hok2, hm2.trans hm1⟩

/-- **replace_tris_ids**: after an accepted replacement every live boundary tri is an old one or carries the face id
    of a live seg of the cavity; no other face id appears. -/
theorem replace_tris_ids (g g' : Grid α) (c c' : Cav) (hinv : GridInv g) (h : replace g c = (.ok, c', g'))
    (hlt : ∀ cell ∈ c.tetList, ∃ t, g.tets.get? cell = some t)
    (hls : ∀ cell ∈ c.triList, ∃ t, g.tris.get? cell = some t) :
    ∀ t ∈ g'.tris.valid, t ∈ g.tris.valid ∨ ∃ s ∈ c.validSegs, t.id = s.id := by
  obtain ⟨_, rt, rs, _, _, _, ps, _⟩ := replace_grid_multiset g g' c c' hinv h hlt hls
  intro t ht
  have := ps.subset (List.mem_append_right _ ht)
  rcases List.mem_append.mp this with h1 | h1
  · obtain ⟨s, hs, hid, _⟩ := replace_ids_from_segs c t h1
    exact Or.inr ⟨s, hs, hid⟩
  · exact Or.inl h1


theorem certOk_spec {g : Grid α} {c : Cav} (hc : certOk g c = true) :
    (∀ cell ∈ c.tetList, ∃ t, g.tets.get? cell = some t) ∧ (∀ cell ∈ c.triList, ∃ t, g.tris.get? cell = some t) ∧
    (∀ f ∈ c.validFaces, Nondeg f) ∧ ledgerOkAt g c = true := by
  simp only [certOk, Bool.and_eq_true, List.all_eq_true] at hc
  obtain ⟨⟨⟨h1, h2⟩, h3⟩, h4⟩ := hc
  refine ⟨fun cell hcell => Option.isSome_iff_exists.mp (h1 cell hcell),
    fun cell hcell => Option.isSome_iff_exists.mp (h2 cell hcell), fun f hf => ?_, h4⟩
  have := h3 f hf
  simp only [Face.nondeg, Bool.and_eq_true, bne_iff_ne, ne_eq] at this
  exact ⟨this.1.1, this.1.2, this.2⟩

/-- **certified_step**: the executable certificate `certOk` (listed cells live, live faces non-degenerate, ledger
    check) — evaluated by the drivers on every cavity the real code hands to `ref_cavity_replace` — turns an accepted
    replacement into a `CavStep2`, i.e. into a step of `cavity_history_conforming_boundary`. -/
theorem certified_step (g g' : Grid α) (c c' : Cav) (hc : certOk g c = true) (h : replace g c = (.ok, c', g')) :
    CavStep2 g g' := by
  obtain ⟨h1, h2, h3, h4⟩ := certOk_spec hc
  exact ⟨c, c', h3, h1, h2, fun H _ χ hχ hd => ledgerOkAt_sound hχ hd g c h4, h⟩

/-- **certified_ids_partial** ("the set of face ids does not grow; new boundary tris inherit the id of a removed one"): with
    the executable clause `segIdsOk` (every live seg carries the id of a listed boundary tri), after an accepted
    replacement every live boundary tri is an old one or has the face id of a boundary tri that was removed.
    (`_partial` with respect to "the SET of face ids is unchanged": that no id disappears is not a property of the
    cavity operator — a patch reduced to the removed tris would lose its id — and is left to the callers' guards.) -/
theorem certified_ids_partial (g g' : Grid α) (c c' : Cav) (hinv : GridInv g) (hc : certOk g c = true)
    (hids : segIdsOk g c = true) (h : replace g c = (.ok, c', g')) :
    ∀ t ∈ g'.tris.valid, t ∈ g.tris.valid ∨
      ∃ cell ∈ c.triList, ∃ r, g.tris.get? cell = some r ∧ r.id = t.id := by
  obtain ⟨hlt, hls, _, _⟩ := certOk_spec hc
  intro t ht
  rcases replace_tris_ids g g' c c' hinv h hlt hls t ht with h0 | ⟨s, hs, hid⟩
  · exact Or.inl h0
  · right
    simp only [segIdsOk, List.all_eq_true, List.any_eq_true, beq_iff_eq] at hids
    obtain ⟨r, hr, hrid⟩ := hids s hs
    simp only [listedTris, List.mem_filterMap] at hr
    obtain ⟨cell, hcell, hget⟩ := hr
    exact ⟨cell, hcell, r, hget, by rw [hrid, hid]⟩

/-! ## 2. the enlarge loops

`ref_cavity_enlarge_visible` has no iteration cap in the C (`while (keep_growing)`).  The model runs it with two
budgets, `visBudget g = (number of tet slots of the grid) + 1` sweeps and as many cavity-changing enlarge calls per
sweep, and reports `Res.fuel` if one runs out and `Res.hang` if a sweep asks for growth but leaves the cavity as it
was (the C spins forever on such a state). -/

/-- the cavities the loops are about: consistent blank chains, listed cells live and listed once -/
abbrev CavOK (g : Grid α) (c : Cav) : Prop := CavInv g c

/-- a fresh cavity (`ref_cavity_create` + `ref_cavity_form_empty`) is fine -/
theorem cavOK_fresh (g : Grid α) (node : Int) : CavOK g (emptyCav node) :=
  ⟨SlotsInv.create 10, SlotsInv.create 10, (by intro cell h; cases h), List.nodup_nil,
    (by intro cell h; cases h), List.nodup_nil⟩

theorem cavInv_state {g : Grid α} {c : Cav} (h : CavInv g c) (st : CState) : CavInv g { c with state := st } :=
  ⟨h.finv, h.sinv, h.tetsLive, h.tetsNodup, h.trisLive, h.trisNodup⟩

section loops
variable [Refine.Scalar α]

/-- **enlargeVisible_terminates** (b): on a cavity whose lists are duplicate free and live, the modelled
    `ref_cavity_enlarge_visible` never runs out of its budgets — at most `#tet slots − |tet_list| + 1` sweeps, each
    with at most that many cavity-changing enlarge calls, because every such call lists a new live tet.  What remains
    is a normal return or `hang`. -/
theorem enlargeVisible_terminates (g : Grid α) (c : Cav) (hinv : CavOK g c) (c' : Cav) :
    enlargeVisible g c ≠ .fuel c' := by
  fun_cases enlargeVisible g c
  case case3 c1 hv r hr =>
    obtain ⟨st, rfl, _⟩ := verify_result (Or.inl hv)
    rintro rfl
    exact visLoop_no_fuel g (visBudget g) (visBudget g) _ (cavInv_state hinv st)
      (by simp [visBudget]) (by simp only [visBudget]; omega) c' hr
  all_goals simp

/-- **enlargeConforming_terminates** (b, boundary loop): on a cavity that lists tets (the 3-D case) and whose lists
    are duplicate free and live, the modelled `ref_cavity_enlarge_conforming` never runs out of its budgets
    (`#tri slots + 1` sweeps, as many cavity-changing `enlarge_seg` calls per sweep): every such call lists a new live
    boundary tri — whatever the conformity predicate `conf` (`ref_cavity_conforming`, CAD) answers. -/
theorem enlargeConforming_terminates (g : Grid α) (conf : Cav → Seg → Bool) (c : Cav) (hinv : CavOK g c)
    (htl : c.tetList ≠ []) (c' : Cav) : enlargeConforming g conf c ≠ .fuel c' := by
  fun_cases enlargeConforming g conf c
  case case4 c1 hv r hr =>
    obtain ⟨st, rfl, _⟩ := verify_result (Or.inr hv)
    rintro rfl
    exact confLoop_no_fuel g conf (confBudget g) (confBudget g) _ (cavInv_state hinv st) (by simp [confBudget])
      (by simp only [confBudget]; omega) c' hr
  all_goals simp

/-- what a `VISIBLE` verdict of `ref_cavity_enlarge_visible` carries -/
structure VisibleOutcome (g : Grid α) (c c' : Cav) : Prop where
  inv : CavOK g c'
  verified : VerifyPassed c'
  manifold : cavManifold g c' = true
  /-- (c) every tet `ref_cavity_replace` will create passed `ref_cavity_visible`: nodes valid, volume not `<= min_volume` -/
  positive : ∀ t ∈ newTets c', ∃ v, tetVolAt g t.n0 t.n1 t.n2 t.n3 = some v ∧ (v <=. (minVolume : α)) = false
  /-- (a) the cavity grew by whole tets only: seg side untouched, `tet_list` extended -/
  same : c'.segs = c.segs ∧ c'.node = c.node ∧ c'.surfNode = c.surfNode ∧ c'.triList = c.triList
  grew : ∃ new, c'.tetList = c.tetList ++ new

theorem faceVisible_positive (g : Grid α) (c : Cav) (f : Face) (h : faceVisible g c f = some true) :
    ∃ v, tetVolAt g f.n0 f.n1 f.n2 c.node = some v ∧ (v <=. (minVolume : α)) = false := by
  unfold faceVisible at h
  cases hv : tetVolAt g f.n0 f.n1 f.n2 c.node with
  | none => rw [hv] at h; cases h
  | some v =>
    rw [hv] at h
    simp only [Option.some.injEq, Bool.not_eq_true'] at h
    exact ⟨v, rfl, h⟩

/-- the run behind a `VISIBLE` verdict of `ref_cavity_enlarge_visible`: the loop grew the cavity (with the state the
    first verification left) to some `c1` by whole tets, and `c'` is `c1` made visible -/
theorem enlargeVisible_run (g : Grid α) (c c' : Cav) (hinv : CavOK g c) (h0 : c.state = .unknown)
    (h : enlargeVisible g c = .ret .ok c') (hvis : c'.state = .visible) :
    VisibleOutcome g c c' ∧ ∃ st c1, c' = { c1 with state := .visible } ∧ TetsGrown g { c with state := st } c1 := by
  revert h
  fun_cases enlargeVisible g c <;> intro h
  case case2 hne => exact absurd h0 hne
  case case3 c0 hv r hr =>
    -- the loop runs on `c0`, which differs from `c` in its state only, and an early return is not `VISIBLE`
    obtain ⟨st, rfl, hst⟩ := verify_result (Or.inl hv)
    subst h
    have post := visLoop_post g (visBudget g) (visBudget g) { c with state := st } hr
    exact absurd hvis (post (by rcases hst with rfl | rfl <;> simp [h0]))
  case case4 => cases h; simp at hvis
  case case5 c0 hv c1 hr hman r =>
    obtain ⟨st, rfl, hst⟩ := verify_result (Or.inl hv)
    obtain ⟨hgrown, _, hsc⟩ := visLoop_post g (visBudget g) (visBudget g) { c with state := st } hr
    simp only [Res.ret.injEq] at h
    -- the final verification returned `c1` made visible as it is
    have hver : verifyFaceManifold { c1 with state := .visible } = (.ok, c') := Prod.ext h.1 h.2
    obtain rfl := verify_unflagged (Or.inl hver) (by rw [hvis]; decide)
    have ⟨new, l, _⟩ := hgrown
    refine ⟨⟨cavInv_state (hgrown.cavInv (cavInv_state hinv st)) _, ⟨hver, by simp⟩,
      show cavManifold g c1 = true by simpa using hman, ?_,
      l.same.side, ⟨new, l.tets⟩⟩, st, c1, rfl, hgrown⟩
    intro t ht
    obtain ⟨f, hf, hhas, rfl⟩ := Refine.Lemmas.Cavity.mem_newTets ht
    have hmem : some f ∈ c1.faces.rows := by
      simp only [Cav.validFaces, Slots.valid, List.reduceOption, List.mem_filterMap, id] at hf
      obtain ⟨a, ha, rfl⟩ := hf
      exact ha
    exact faceVisible_positive g c1 f (scanVis_none_false g c1 c1.faces.rows 0 hsc f hmem hhas)
  -- every other exit returns a status that is not ok
  all_goals simp only [Res.ret.injEq] at h; first | exact absurd h.1 (by decide) | exact absurd h.1 ‹_›

/-- **enlargeVisible_visible** (a)+(c): if `ref_cavity_enlarge_visible`, called on a cavity in state unknown, returns
    `REF_SUCCESS` with the cavity `VISIBLE`, then the final face verification passed, `ref_cavity_manifold` said yes,
    every would-be tet has `ref_node_tet_vol > min_volume` (as the modelled predicate decides it), and the ledger
    equation and the non-degeneracy of the live faces were carried along every step — so
    `replace_conforming_boundary` applies to whatever cavity the loop ended with. -/
theorem enlargeVisible_visible {φ : Int → Int → Int → G} (hφ : Alt φ) (g : Grid α) (c c' : Cav)
    (hinv : CavOK g c) (h0 : c.state = .unknown) (h : enlargeVisible g c = .ret .ok c') (hvis : c'.state = .visible) :
    VisibleOutcome g c c' ∧ (LedgerEq φ g c → LedgerEq φ g c') ∧
    ((∀ cell t, g.tets.get? cell = some t → TetNondeg t) → (∀ f ∈ c.validFaces, Nondeg f) →
      ∀ f ∈ c'.validFaces, Nondeg f) := by
  obtain ⟨out, st, c1, rfl, hgrown⟩ := enlargeVisible_run g c _ hinv h0 h hvis
  exact ⟨out, fun hl => (hgrown.step hinv.finv hφ).ledger hl, fun hg hnd => hgrown.faceNd hinv.finv hg hnd⟩

/-- **enlargeVisible_step** (Part 2 ⇒ Part 1): a cavity that satisfied the hypotheses of Part 1 before
    `ref_cavity_enlarge_visible` and comes back ok + `VISIBLE`, and which `ref_cavity_replace` then accepts, is a
    `CavStep2` — so the history theorem covers it. -/
theorem enlargeVisible_step (g g' : Grid α) (c c' c'' : Cav) (hok : GridOK g) (hinv : CavOK g c)
    (h0 : c.state = .unknown) (hnd : ∀ f ∈ c.validFaces, Nondeg f)
    (hled : ∀ (H : Type) [AddCommGroup H] (χ : Int → Int → Int → H), Alt χ → Diag χ → LedgerEq χ g c)
    (h : enlargeVisible g c = .ret .ok c') (hvis : c'.state = .visible)
    (hrep : replace g c' = (.ok, c'', g')) : CavStep2 g g' := by
  obtain ⟨out, st, c1, rfl, hgrown⟩ := enlargeVisible_run g c _ hinv h0 h hvis
  refine ⟨{ c1 with state := .visible }, c'', hgrown.faceNd hinv.finv hok.nondeg hnd, out.inv.tetsLive,
    out.inv.trisLive, ?_, hrep⟩
  intro H _ χ hχ hd
  exact (hgrown.step hinv.finv hχ).ledger (hled H χ hχ hd)

end loops


/-! ## 3. the form functions under the history theorem -/

/-- the input of an a-priori statement: a grid with consistent blank chains and adjacency, non-degenerate tets,
    whose signed boundary chain (tets minus boundary tris) vanishes for every alternating `φ` — a conforming mesh -/
structure MeshConf (g : Grid α) : Prop where
  ok : GridOK g
  tetsOrder : OrderOK g.tets
  trisOrder : OrderOK g.tris
  conf : ∀ (H : Type) [AddCommGroup H] (χ : Int → Int → Int → H), Alt χ → meshBd χ g = 0

/-- **formEdgeSwap_ledger** (`ref_cavity_form_edge_swap`, the 3-D edge swap = cavity of the tets around an edge + the
    chosen node, with the two boundary tris and the four segs when the edge is on the boundary).  On a conforming grid,
    if the call returns ok with the state still unknown (anything else — `PARTITION_CONSTRAINED`, `INCONSISTENT`,
    `BOUNDARY_CONSTRAINED`, an error status — blocks `ref_cavity_replace`), at least one tet is around the edge and no
    tet beyond those was pulled in by a cancelling seg, then the cavity lists exactly the tets and tris around the edge
    and satisfies the ledger equation: face list = boundary of the tet set, the faces through the edge cancelled
    against each other and against the two boundary tris, the cone of the four segs added. -/
theorem formEdgeSwap_ledger {φ : Int → Int → Int → G} (hφ : Alt φ) (hd : Diag φ) (g : Grid α) (hg : MeshConf g)
    (n0 n1 node : Int) (c' : Cav) (h : formEdgeSwap g Cav.create n0 n1 node = (.ok, c')) (hs : c'.state = .unknown)
    (hne : g.tets.having2 Tet.nodes n0 n1 ≠ [])
    (hextra : c'.tetList = (g.tets.having2 Tet.nodes n0 n1).map fun p => (p.1 : Int)) :
    EdgeFormed φ g n0 n1 c' ∧ LedgerEq φ g c' := by
  have hf := formEdgeSwap_formed hφ hd g n0 n1 node c' h hs hne hextra
  exact ⟨hf, hf.ledgerEq (edgeMatched_of_conforming hφ g n0 n1 hg.tetsOrder hg.trisOrder (hg.conf G))⟩

/-- **formEdgeSplit_ledger** (`ref_cavity_form_edge_split`: the tets around the edge, the one or two boundary tris on
    it, the sides of those tris other than the edge as segs — plus the two explicit half-edge segs when there is one
    tri only).  Same statement as for the swap: on a conforming grid a call that returns ok / state unknown and pulled
    no further tet in leaves a cavity that lists exactly the cells around the edge and satisfies the ledger equation. -/
theorem formEdgeSplit_ledger {φ : Int → Int → Int → G} (hφ : Alt φ) (hd : Diag φ) (g : Grid α) (hg : MeshConf g)
    (n0 n1 newNode : Int) (c' : Cav) (h : formEdgeSplit g Cav.create n0 n1 newNode = (.ok, c'))
    (hs : c'.state = .unknown) (hne : g.tets.having2 Tet.nodes n0 n1 ≠ [])
    (hextra : c'.tetList = (g.tets.having2 Tet.nodes n0 n1).map fun p => (p.1 : Int)) :
    EdgeFormed φ g n0 n1 c' ∧ LedgerEq φ g c' := by
  have hf := formEdgeSplit_formed hφ hd g n0 n1 newNode c' h hs hne hextra
  exact ⟨hf, hf.ledgerEq (edgeMatched_of_conforming hφ g n0 n1 hg.tetsOrder hg.trisOrder (hg.conf G))⟩

/-- **swap_area_conserved** (the boundary edge swap, planar-patch case and beyond): for the cavity
    `ref_cavity_form_edge_swap` leaves on a boundary edge whose two tris have three distinct valid nodes each, the four
    segs `(n0,n3) (n3,n1) (n1,n2) (n2,n0)` are the signed boundary of the two listed tris (`ref_swap_node23`), hence
    the two boundary tris `ref_cavity_replace` creates have exactly the vector area of the two it removes — each
    component of `Σ ref_node_tri_normal`, exact arithmetic, any node positions. -/
theorem swap_area_conserved (x : Int → Refine.Model.Geom.V3 ℝ) (g : Grid α) (n0 n1 node : Int) (hne01 : n0 ≠ n1)
    (hgood : ∀ p ∈ g.tris.having2 Tri.nodes n0 n1, TriGood p.2)
    (c' : Cav) (h : formEdgeSwap g Cav.create n0 n1 node = (.ok, c')) (hs : c'.state = .unknown)
    (hne : g.tets.having2 Tet.nodes n0 n1 ≠ [])
    (hextra : c'.tetList = (g.tets.having2 Tet.nodes n0 n1).map fun p => (p.1 : Int)) :
    ((newTris c').map fun t => (Refine.Model.Geom.triNormal (x t.n0) (x t.n1) (x t.n2)).x).sum =
      (c'.triList.map fun cell => match g.tris.get? cell with
        | some t => (Refine.Model.Geom.triNormal (x t.n0) (x t.n1) (x t.n2)).x | none => 0).sum ∧
    ((newTris c').map fun t => (Refine.Model.Geom.triNormal (x t.n0) (x t.n1) (x t.n2)).y).sum =
      (c'.triList.map fun cell => match g.tris.get? cell with
        | some t => (Refine.Model.Geom.triNormal (x t.n0) (x t.n1) (x t.n2)).y | none => 0).sum ∧
    ((newTris c').map fun t => (Refine.Model.Geom.triNormal (x t.n0) (x t.n1) (x t.n2)).z).sum =
      (c'.triList.map fun cell => match g.tris.get? cell with
        | some t => (Refine.Model.Geom.triNormal (x t.n0) (x t.n1) (x t.n2)).z | none => 0).sum :=
  replace_area_vector x g c'
    (fun χ hχ => formEdgeSwap_segchain hχ g n0 n1 node hne01 hgood c' h hs hne hextra)

theorem MeshConf.step {g g' : Grid α} (hg : MeshConf g) (hstep : CavStep2 g g') :
    GridOK g' ∧ ∀ (H : Type) [AddCommGroup H] (χ : Int → Int → Int → H), Alt χ → Diag χ → meshBd χ g' = 0 := by
  refine ⟨?_, ?_⟩
  · obtain ⟨c, c', hnd, hlt, hls, _, hrep⟩ := hstep
    exact replace_gridOK g g' c c' hg.ok hnd hlt hls hrep
  intro H _ χ hχ hd
  rw [(replace_mesh_conforming_boundary hχ hd g g' hg.ok hstep).2]
  exact hg.conf H χ hχ

section swappipe
variable [Refine.Scalar α]

theorem checkVisible_state (g : Grid α) (c : Cav) : ∃ st, (checkVisible g c).2 = { c with state := st } := by
  fun_cases checkVisible g c <;> exact ⟨_, rfl⟩

/-- **swap_accept_conforming**: the whole pipeline of `ref_cavity_swap_tet_pass` for the chosen candidate —
    `form_edge_swap → check_visible → replace` — on a conforming grid: if `ref_cavity_replace` accepts, the step is a
    `CavStep2`, the new grid is again conforming (`meshBd χ = 0` for every alternating `χ` vanishing on repeated
    nodes) and keeps the grid invariant.  (`hnd`: the live faces are non-degenerate — part of the executable
    certificate `certOk`.) -/
theorem swap_accept_conforming (g g' : Grid α) (hg : MeshConf g) (n0 n1 node : Int) (c1 c3 : Cav)
    (h : formEdgeSwap g Cav.create n0 n1 node = (.ok, c1)) (hs : c1.state = .unknown)
    (hne : g.tets.having2 Tet.nodes n0 n1 ≠ [])
    (hextra : c1.tetList = (g.tets.having2 Tet.nodes n0 n1).map fun p => (p.1 : Int))
    (hnd : ∀ f ∈ c1.validFaces, Nondeg f)
    (hrep : replace g (checkVisible g c1).2 = (.ok, c3, g')) :
    CavStep2 g g' ∧ GridOK g' ∧
    ∀ (H : Type) [AddCommGroup H] (χ : Int → Int → Int → H), Alt χ → Diag χ → meshBd χ g' = 0 := by
  obtain ⟨st, e⟩ := checkVisible_state g c1
  rw [e] at hrep
  obtain ⟨_, run, _⟩ := formEdgeSwap_edgeRun g n0 n1 node c1 h hs hne hextra
  -- the cavity handed to `replace` is `c1` with another state, which none of the clauses reads
  have hstep : CavStep2 g g' :=
    ⟨{ c1 with state := st }, c3, hnd, hextra ▸ walk_live (having2_get g.tets Tet.nodes n0 n1),
      run.tris ▸ walk_live (having2_get g.tris Tri.nodes n0 n1),
      fun H _ χ hχ hd => (formEdgeSwap_ledger hχ hd g hg n0 n1 node c1 h hs hne hextra).2, hrep⟩
  exact ⟨hstep, hg.step hstep⟩

end swappipe


/-- what the collapse statements need of the two vertex balls: distinct ends, at least one tet at `n0`, and
    adjacency walks that list each cell once -/
structure BallLists (g : Grid α) (n0 n1 : Int) : Prop where
  ne : n0 ≠ n1
  some : g.tets.having Tet.nodes n0 ≠ []
  t0 : ((g.tets.having Tet.nodes n0).map (·.1)).Nodup
  t1 : ((g.tets.having Tet.nodes n1).map (·.1)).Nodup
  s0 : ((g.tris.having Tri.nodes n0).map (·.1)).Nodup
  s1 : ((g.tris.having Tri.nodes n1).map (·.1)).Nodup

/-- **formEdgeCollapse_ledger** (`ref_cavity_form_edge_collapse`).  On a conforming grid, if the call returns ok with
    the state still unknown and no tet beyond the balls of the two ends was pulled in by a cancelling seg, the cavity
    lists the ball of `n0` followed by the rest of the ball of `n1` (tets and boundary tris), its lists are duplicate
    free and live, and it satisfies the ledger equation: the faces the loops skip (those containing the kept node, all
    faces of the tets that hold both ends) cancel against each other and against the listed boundary tris. -/
theorem formEdgeCollapse_ledger {φ : Int → Int → Int → G} (hφ : Alt φ) (hd : Diag φ) (g : Grid α) (hg : MeshConf g)
    (n0 n1 : Int) (hb : BallLists g n0 n1) (c' : Cav) (h : formEdgeCollapse g Cav.create n0 n1 = (.ok, c'))
    (hs : c'.state = .unknown)
    (hextra : c'.tetList =
      ((ballA g.tets Tet.nodes n0) ++ (ballB g.tets Tet.nodes n0 n1)).map fun p => (p.1 : Int)) :
    BallFormed φ g n0 n1 c' ∧ CavOK g c' ∧ LedgerEq φ g c' := by
  have hf := formEdgeCollapse_formed hφ hd g n0 n1 c' h hs hb.some hb.t0 hb.t1 hb.s0 hb.s1 hextra
  exact ⟨hf, hf.cavInv hb.t0 hb.t1 hb.s0 hb.s1,
    hf.ledgerEq (ballMatched_of_conforming hφ g n0 n1 hb.ne hg.tetsOrder hg.trisOrder (hg.conf G))⟩

section collapsepipe
variable [Refine.Scalar α]

/-- **collapse_accept_conforming**: the cavity fall-back of `ref_collapse_to_remove_node1` —
    `form_edge_collapse → enlarge_visible → (ratio, change) → replace` — on a conforming grid: if the enlarge loop
    comes back ok + `VISIBLE` and `ref_cavity_replace` accepts, the step is a `CavStep2`, the new grid is conforming
    again and keeps the grid invariant, whatever cavity the loop ended with.  (`hnd`: the live faces after the form
    call are non-degenerate — part of `certOk`; the acceptance tests only decide WHETHER replace is called.) -/
theorem collapse_accept_conforming (g g' : Grid α) (hg : MeshConf g) (n0 n1 : Int) (hb : BallLists g n0 n1)
    (c1 c2 c3 : Cav) (h : formEdgeCollapse g Cav.create n0 n1 = (.ok, c1)) (hs : c1.state = .unknown)
    (hextra : c1.tetList =
      ((ballA g.tets Tet.nodes n0) ++ (ballB g.tets Tet.nodes n0 n1)).map fun p => (p.1 : Int))
    (hnd : ∀ f ∈ c1.validFaces, Nondeg f)
    (he : enlargeVisible g c1 = .ret .ok c2) (hvis : c2.state = .visible)
    (hrep : replace g c2 = (.ok, c3, g')) :
    CavStep2 g g' ∧ GridOK g' ∧
    ∀ (H : Type) [AddCommGroup H] (χ : Int → Int → Int → H), Alt χ → Diag χ → meshBd χ g' = 0 := by
  have hinv := (formEdgeCollapse_run g n0 n1 c1 h hs hb.some hb.t0 hb.t1 hb.s0 hb.s1 hextra).cavInv hb.t0 hb.t1 hb.s0 hb.s1
  have hstep : CavStep2 g g' :=
    enlargeVisible_step g g' c1 c2 c3 hg.ok hinv hs hnd
      (fun H _ χ hχ hd => (formEdgeCollapse_ledger hχ hd g hg n0 n1 hb c1 h hs hextra).2.2) he hvis hrep
  exact ⟨hstep, hg.step hstep⟩

end collapsepipe

/-! ### non-vacuity of the swap statements (`formEdgeSwap_ledger`, `swap_accept_conforming`, `certified_step`): an 8-tet star
    around an interior edge, and a boundary edge with two tris -/

/-- build a grid from points (all owned), tets and tris -/
def mkGrid (pts : List (Refine.Model.Geom.V3 Int)) (tets : List Tet) (tris : List Tri) : Grid Int :=
  let g : Grid Int := pts.foldl (fun g p => (g.addNode ⟨p, true⟩).1) Grid.create
  let g := tets.foldl (fun g t => { g with tets := (g.tets.add t).1 }) g
  tris.foldl (fun g t => { g with tris := (g.tris.add t).1 }) g

/-- edge 0-1 along z, ring 2..9 on an octagon at mid height: 8 tets `(0,1,r_k,r_k+1)`, 16 outer boundary tris -/
def star8 : Grid Int :=
  mkGrid [⟨0, 0, 0⟩, ⟨0, 0, 12⟩, ⟨12, 0, 6⟩, ⟨9, 9, 6⟩, ⟨0, 12, 6⟩, ⟨-9, 9, 6⟩, ⟨-12, 0, 6⟩, ⟨-9, -9, 6⟩, ⟨0, -12, 6⟩,
      ⟨9, -9, 6⟩]
    ((List.range 8).map fun k => ⟨0, 1, (2 + k : Nat), (2 + (k + 1) % 8 : Nat)⟩)
    ((List.range 8).flatMap fun k =>
      [⟨1, (2 + (k + 1) % 8 : Nat), (2 + k : Nat), 5⟩, ⟨0, (2 + k : Nat), (2 + (k + 1) % 8 : Nat), 5⟩])

/-- boundary edge 0-1: open fan of 4 tets over the half ring 2..6, the two boundary tris `(0,1,2)`, `(0,6,1)` on the
    edge with face id 7, 8 outer tris with face id 5 -/
def fan4 : Grid Int :=
  mkGrid [⟨0, 0, 0⟩, ⟨0, 0, 12⟩, ⟨12, 0, 6⟩, ⟨9, 9, 6⟩, ⟨0, 12, 6⟩, ⟨-9, 9, 6⟩, ⟨-12, 0, 6⟩]
    ((List.range 4).map fun k => ⟨0, 1, (2 + k : Nat), (3 + k : Nat)⟩)
    ([⟨0, 1, 2, 7⟩, ⟨0, 6, 1, 7⟩] ++ (List.range 4).flatMap fun k =>
      [⟨1, (3 + k : Nat), (2 + k : Nat), 5⟩, ⟨0, (2 + k : Nat), (3 + k : Nat), 5⟩])

/-- `mkGrid` only ever adds cells -/
theorem mkGrid_inv (pts : List (Refine.Model.Geom.V3 Int)) (tets : List Tet) (tris : List Tri) :
    GridInv (mkGrid pts tets tris) ∧ OrderInv (mkGrid pts tets tris).tets ∧ OrderInv (mkGrid pts tets tris).tris := by
  let P (g : Grid Int) : Prop := GridInv g ∧ OrderInv g.tets ∧ OrderInv g.tris
  show P (tris.foldl _ (tets.foldl _ (pts.foldl _ Grid.create)))
  refine List.foldlRecOn (motive := P) _ _ (List.foldlRecOn (motive := P) _ _ (List.foldlRecOn (motive := P) _ _
    ⟨⟨SlotsInv.create 100, SlotsInv.create 100⟩, OrderInv.create, OrderInv.create⟩ ?_) ?_) ?_
  · exact fun g ⟨ok, tets, tris⟩ p _ => ⟨⟨ok.tets, ok.tris⟩, tets, tris⟩
  · exact fun g ⟨ok, tets, tris⟩ t _ => ⟨⟨(Cells.add_spec g.tets t ok.tets).1, ok.tris⟩, tets.add ok.tets t, tris⟩
  · exact fun g ⟨ok, tets, tris⟩ t _ => ⟨⟨ok.tets, (Cells.add_spec g.tris t ok.tris).1⟩, tets, tris.add ok.tris t⟩

theorem gridOK_of_valid (g : Grid Int) (h1 : GridInv g) (h3 : ∀ t ∈ g.tets.valid, TetNondeg t) : GridOK g :=
  ⟨h1, fun cell t h => h3 t (Cells.mem_valid_of_get? h)⟩

instance (f : Face) : Decidable (Nondeg f) := by unfold Nondeg; infer_instance

theorem star8_conf : MeshConf star8 :=
  have h : (∀ t ∈ star8.tets.valid, TetNondeg t) ∧ gridOrient star8 = true := by decide +kernel
  have inv := mkGrid_inv _ _ _
  ⟨gridOK_of_valid star8 inv.1 h.1, inv.2.1.orderOK, inv.2.2.orderOK, fun _ _ χ hχ => meshBd_zero_of_orient hχ star8 h.2⟩

theorem fan4_conf : MeshConf fan4 :=
  have h : (∀ t ∈ fan4.tets.valid, TetNondeg t) ∧ gridOrient fan4 = true := by decide +kernel
  have inv := mkGrid_inv _ _ _
  ⟨gridOK_of_valid fan4 inv.1 h.1, inv.2.1.orderOK, inv.2.2.orderOK, fun _ _ χ hχ => meshBd_zero_of_orient hχ fan4 h.2⟩


/-- hypotheses of `formEdgeSwap_ledger`, `swap_accept_conforming`, `certified_step`: the 8-tet star, swap of the
    interior edge 0-1 from node 2 — status ok, state unknown, 8 tets listed, certificate ok, visible, replace accepted
    (8 tets out, 12 in) -/
example :
    (formEdgeSwap star8 Cav.create 0 1 2).1 = .ok ∧ (formEdgeSwap star8 Cav.create 0 1 2).2.state = .unknown ∧
    star8.tets.having2 Tet.nodes 0 1 ≠ [] ∧
    (formEdgeSwap star8 Cav.create 0 1 2).2.tetList = (star8.tets.having2 Tet.nodes 0 1).map (fun p => (p.1 : Int)) ∧
    (∀ f ∈ (formEdgeSwap star8 Cav.create 0 1 2).2.validFaces, Nondeg f) ∧
    certOk star8 (formEdgeSwap star8 Cav.create 0 1 2).2 = true ∧
    (@replace Int star8 (@checkVisible Int intScalar star8 (formEdgeSwap star8 Cav.create 0 1 2).2).2).1 = .ok ∧
    (@replace Int star8 (@checkVisible Int intScalar star8 (formEdgeSwap star8 Cav.create 0 1 2).2).2).2.2.tets.valid.length
      = 12 := by
  decide +kernel

/-- the boundary edge with two tris, swap from node 4: the two boundary tris are listed, four segs (two attached to
    the seg node 2), certificate ok, replace accepted: 4 tets out, 6 in; tris `(0,1,2)`, `(0,6,1)` out,
    `(0,6,2)`, `(6,1,2)` in with the inherited face id 7 -/
example :
    (formEdgeSwap fan4 Cav.create 0 1 4).1 = .ok ∧ (formEdgeSwap fan4 Cav.create 0 1 4).2.state = .unknown ∧
    (formEdgeSwap fan4 Cav.create 0 1 4).2.triList.length = 2 ∧
    (formEdgeSwap fan4 Cav.create 0 1 4).2.validSegs.length = 4 ∧
    (formEdgeSwap fan4 Cav.create 0 1 4).2.tetList = (fan4.tets.having2 Tet.nodes 0 1).map (fun p => (p.1 : Int)) ∧
    (∀ f ∈ (formEdgeSwap fan4 Cav.create 0 1 4).2.validFaces, Nondeg f) ∧
    certOk fan4 (formEdgeSwap fan4 Cav.create 0 1 4).2 = true ∧
    (@replace Int fan4 (@checkVisible Int intScalar fan4 (formEdgeSwap fan4 Cav.create 0 1 4).2).2).1 = .ok ∧
    newTris (formEdgeSwap fan4 Cav.create 0 1 4).2 = [⟨0, 6, 2, 7⟩, ⟨6, 1, 2, 7⟩] := by
  decide +kernel


/-! ## 2(d) / C13. rejected ⇒ no trace

In the model `ref_cavity_form_*`, `ref_cavity_enlarge_*`, `ref_cavity_check_visible`, the acceptance tests and
`ref_cavity_free` cannot touch the grid: they produce a cavity (private lists) and read the grid; only
`ref_cavity_replace` returns a grid.  That the C has the same shape is what the tie checks (structural grid hash
before `ref_cavity_create` / after `ref_cavity_free` on every path that does not reach `replace`).  What is proved
here is the logic of the callers: the grid they hand back differs from the one they got only through a
`ref_cavity_replace` of a cavity that is `VISIBLE` and passed the caller's acceptance test. -/

/-- **replace_requires_visible**: `ref_cavity_replace` on a cavity in any state other than `VISIBLE` fails at its first
    test and returns the grid (cells, node validity, free lists: the whole value) and the cavity untouched -/
theorem replace_requires_visible (g : Grid α) (c : Cav) (h : c.state ≠ .visible) :
    replace g c = (.failure, c, g) := by
  unfold replace
  rw [if_pos h]

/-- an inconsistent face or seg list blocks `ref_cavity_replace` as well (the grid is returned untouched) -/
theorem replace_inconsistent_no_trace (g : Grid α) (c : Cav) (h : ¬ VerifyPassed c) :
    (replace g c).2.2 = g := by
  by_cases hvis : c.state = .visible
  · -- a visible cavity is not `inconsistent`, so the face verification did not return it unchanged
    have hv : verifyFaceManifold c ≠ (.ok, c) := fun hf => h ⟨hf, by rw [hvis]; decide⟩
    unfold replace
    rw [if_neg (not_not.mpr hvis)]
    rcases verifyFaceManifold_cases c with hf | hf | hf
    · exact absurd hf hv
    · have : verifySegManifold { c with state := .inconsistent } = (.ok, { c with state := .inconsistent }) :=
        if_pos rfl
      simp only [hf, this, ne_eq, reduceCtorEq, not_false_eq_true, if_true]
    · simp only [hf]
  · rw [replace_requires_visible g c hvis]

section callers
variable [Refine.Scalar α]

/-- **collapseCavityPath_no_trace** (rejected ⇒ no trace, collapse path): the grid `ref_collapse_to_remove_node1`'s cavity fall-back hands back is
    the one it got, unless a cavity in state `VISIBLE` that passed `ref_cavity_ratio` and
    `min_add > collapse_quality_absolute` was given to `ref_cavity_replace`. -/
theorem collapseCavityPath_no_trace (g g' : Grid α) (nd : Refine.Model.Collapse.Nodes α) (a : Adapt α) (n0 n1 : Int)
    (s : Refine.Model.Cavity.St) (rep : Bool) (h : collapseCavityPath g nd a n0 n1 = (s, rep, g')) :
    g' = g ∨ ∃ c minDel minAdd, c.state = .visible ∧ cavRatio nd a.postMin a.postMax c = true ∧
      cavChange g nd minVolume c = (.ok, minDel, minAdd) ∧ (a.collapseQualityAbsolute <. minAdd) = true ∧
      g' = (replace g c).2.2 ∧ rep = ((replace g c).1 == .ok) := by
  revert h
  fun_cases collapseCavityPath g nd a n0 n1 <;> intro h
  case case3 c1 _ _ c _ hvis minDel minAdd hch hacc r =>          -- accepted: `replace` is called
    cases h
    simp only [Bool.and_eq_true] at hacc
    exact Or.inr ⟨c, minDel, minAdd, by simpa using hvis, hacc.1, hch, hacc.2, rfl, rfl⟩
  all_goals cases h; exact Or.inl rfl

/-- **splitCavityPath_no_trace** (rejected ⇒ no trace, split path): same for the `try_cavity` branch of `ref_split_pass` -/
theorem splitCavityPath_no_trace (g g' : Grid α) (nd : Refine.Model.Collapse.Nodes α) (a : Adapt α)
    (conf : Cav → Seg → Bool) (hasEdge : Bool) (n0 n1 newNode : Int) (s : Refine.Model.Cavity.St) (rep : Bool)
    (h : splitCavityPath g nd a conf hasEdge n0 n1 newNode = (s, rep, g')) :
    g' = g ∨ ∃ c minDel minAdd, c.state = .visible ∧ (cavRatio nd a.postMin a.postMax c || hasEdge) = true ∧
      cavChange g nd minVolume c = (.ok, minDel, minAdd) ∧ (a.splitQualityAbsolute <. minAdd) = true ∧
      g' = (replace g c).2.2 ∧ rep = ((replace g c).1 == .ok) := by
  revert h
  fun_cases splitCavityPath g nd a conf hasEdge n0 n1 newNode <;> intro h
  case case3 c1 _ c'' c _ hvis minDel minAdd hch hacc r =>          -- accepted: `replace` is called
    cases h
    simp only [Bool.and_eq_true] at hacc
    exact Or.inr ⟨c, minDel, minAdd, by simpa using hvis, hacc.1, hch, hacc.2, rfl, rfl⟩
  all_goals cases h; exact Or.inl rfl

/-! ## 4. acceptance tests (logic only; the numbers are `Float`-tied) -/

/-- **swapTetTrial_accepts**: a candidate of `ref_cavity_swap_tet_pass` enters the `best` competition only if its
    cavity formed ok, is not `INCONSISTENT`, `ref_cavity_check_visible` made it `VISIBLE`, `ref_cavity_ratio` allowed
    it and `ref_cavity_change` reported `min_add − min_del > 0.0001`; the value it competes with is `min_add`. -/
theorem swapTetTrial_accepts (g : Grid α) (nd : Refine.Model.Collapse.Nodes α) (a : Adapt α) (n0 n1 n2 : Int)
    (s : Refine.Model.Cavity.St) (q : α) (h : swapTetTrial g nd a n0 n1 n2 = (s, some q)) :
    s = .ok ∧ ∃ c0 c minDel, formEdgeSwap g Cav.create n0 n1 n2 = (.ok, c0) ∧ c0.state ≠ .inconsistent ∧
      checkVisible g c0 = (.ok, c) ∧ c.state = .visible ∧ cavRatio nd a.postMin a.postMax c = true ∧
      cavChange g nd minVolume c = (.ok, minDel, q) ∧ (Scalar.ofDec 1 (-4) <. (q -. minDel)) = true := by
  revert h
  fun_cases swapTetTrial g nd a n0 n1 n2 <;> intro h
  case case4 c0 hf hinc c hv hvis hr minDel minAdd hch hgt =>          -- the one exit with `some min_add`
    cases h
    exact ⟨rfl, c0, c, minDel, hf, hinc, hv, by simpa using hvis, by simpa using hr, hch, hgt⟩
  all_goals cases h

/-- the grid after the body of `ref_cavity_swap_tet_pass` for one tet is the input grid unless a best candidate was
    chosen, and then it is `ref_cavity_replace` of the re-formed, re-checked cavity of that candidate -/
theorem swapTetCell_no_trace (g g' : Grid α) (nd : Refine.Model.Collapse.Nodes α) (a : Adapt α)
    (gate : Int → Int → Bool) (t : Tet) (s : Refine.Model.Cavity.St) (h : swapTetCell g nd a gate t = (s, g')) :
    g' = g ∨ ∃ e0 e1 e2 c0 c, swapTetBest g nd a gate t = (.ok, some (e0, e1, e2)) ∧
      formEdgeSwap g Cav.create e0 e1 e2 = (.ok, c0) ∧ checkVisible g c0 = (.ok, c) ∧ g' = (replace g c).2.2 := by
  unfold swapTetCell at h
  split at h
  · simp only [Prod.mk.injEq] at h; exact Or.inl h.2.symm
  · next e0 e1 e2 hb =>
    split at h
    · next c0 hf =>
      split at h
      · next c hv =>
        simp only [Prod.mk.injEq] at h
        exact Or.inr ⟨e0, e1, e2, c0, c, hb, hf, hv, h.2.symm⟩
      · simp only [Prod.mk.injEq] at h; exact Or.inl h.2.symm
    · simp only [Prod.mk.injEq] at h; exact Or.inl h.2.symm
  · simp only [Prod.mk.injEq] at h; exact Or.inl h.2.symm

end callers

section ratioreal
open Refine.ScalarReal

/-- **cavRatio_band** (over ℝ): `ref_cavity_ratio` allows the cavity iff every edge from the cavity node to a node of
    a live, unattached face has its metric length inside `[post_min_ratio, post_max_ratio]` -/
theorem cavRatio_band (nd : Refine.Model.Collapse.Nodes ℝ) (lo hi : ℝ) (c : Cav) :
    cavRatio nd lo hi c = true ↔
      ∀ f ∈ c.validFaces, f.has c.node = false → ∀ v ∈ Face.nodes f,
        lo ≤ Refine.Model.Collapse.nodeRatio nd c.node.toNat v.toNat ∧
        Refine.Model.Collapse.nodeRatio nd c.node.toNat v.toNat ≤ hi := by
  unfold cavRatio
  simp only [List.all_eq_true, Bool.or_eq_true, Bool.not_eq_true', Bool.or_eq_false_iff, lt_false_iff,
    or_iff_not_imp_left, Bool.not_eq_true]

end ratioreal

end Refine.Props.C01Cavity2
