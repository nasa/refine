import Refine.Lemmas.ReconParAcc

/-!
  C19: L2-projection derivative reconstruction is exact on linear fields.
  `ref_node_tet_grad_nodes` returns exactly `g` for the field `α + g·x` on every non-flat tet; the
  volume-weighted nodal average of any collection of such cell gradients is again `g` (so the result
  does not depend on which tet decomposition of pyramids/prisms/hexes is used — positivity of the
  accumulated weight is the only hypothesis); the reconstructed Hessian of a linear field vanishes.
  Exact real arithmetic over the model that is bit-compared with the C (streams `geom_grad`,
  `geom_recon`).  The k-exact reconstruction is in `Props/C19Kexact.lean`; the distributed mesh (ghost exchange,
  boundary extrapolation) in `Props/C19Par.lean`.
-/
namespace Refine.Props.C19
open Refine Refine.Model.Geom Refine.Model.Recon Refine.ScalarReal Refine.GeomReal Refine.ReconReal Refine.ReconParAcc

/-- numerator identity: for a linear field the coded face-normal sum is `g × (-6·vol)` -/
theorem tetGrad_num (x0 x1 x2 x3 g : V3 ℝ) (α : ℝ) :
    let s := fun x : V3 ℝ => α + vdot g x
    let n1 := triNormal x0 x3 x2
    let n2 := triNormal x0 x1 x3
    let n3 := triNormal x0 x2 x1
    let V := tetVol x0 x1 x2 x3 * (-6)
    (s x1 - s x0) * n1.x + (s x2 - s x0) * n2.x + (s x3 - s x0) * n3.x = g.x * V ∧
    (s x1 - s x0) * n1.y + (s x2 - s x0) * n2.y + (s x3 - s x0) * n3.y = g.y * V ∧
    (s x1 - s x0) * n1.z + (s x2 - s x0) * n2.z + (s x3 - s x0) * n3.z = g.z * V := by
  simp only [tetVol, triNormal, cross, V3.sub, vdot, add_eq, sub_eq, mul_eq, div_eq, neg_eq, ofInt_eq]
  push_cast
  refine ⟨?_, ?_, ?_⟩ <;> ring

/-- `ref_node_tet_grad_nodes` on a linear field, before its guard is decided: the numerators are `g × V`,
    `V = -6·vol` -/
theorem tetGradNodes_linear (x0 x1 x2 x3 g : V3 ℝ) (α V : ℝ) (hV : V = tetVol x0 x1 x2 x3 * (-6)) :
    tetGradNodes x0 x1 x2 x3 (α + vdot g x0) (α + vdot g x1) (α + vdot g x2) (α + vdot g x3) =
      if Scalar.divisible (g.x * V) V && Scalar.divisible (g.y * V) V && Scalar.divisible (g.z * V) V then
        (St.ok, ⟨g.x * V / V, g.y * V / V, g.z * V / V⟩)
      else (St.divZero, V3.zero) := by
  obtain ⟨kx, ky, kz⟩ := tetGrad_num x0 x1 x2 x3 g α
  simp only [] at kx ky kz
  unfold tetGradNodes
  simp only [add_eq, sub_eq, mul_eq, div_eq, ofInt_eq, Int.reduceNeg, Int.cast_neg, Int.cast_ofNat]
  rw [kx, ky, kz, hV]

/-- `ref_node_tet_grad_nodes` recovers the gradient of a linear field exactly on every non-flat tet
    (the `ref_math_divisible` guard passes when `vol ≠ 0` and `|g| < 1e20`) -/
theorem tetGrad_linear (x0 x1 x2 x3 g : V3 ℝ) (α : ℝ) (hv : tetVol x0 x1 x2 x3 ≠ 0)
    (hx : |g.x| < (10 : ℝ) ^ (20 : ℤ)) (hy : |g.y| < (10 : ℝ) ^ (20 : ℤ)) (hz : |g.z| < (10 : ℝ) ^ (20 : ℤ)) :
    tetGradNodes x0 x1 x2 x3 (α + vdot g x0) (α + vdot g x1) (α + vdot g x2) (α + vdot g x3) = (St.ok, g) := by
  have hV : tetVol x0 x1 x2 x3 * (-6) ≠ 0 := mul_ne_zero hv (by norm_num)
  have dx := divisible_mul_self hV hx
  have dy := divisible_mul_self hV hy
  have dz := divisible_mul_self hV hz
  rw [tetGradNodes_linear x0 x1 x2 x3 g α _ rfl, dx, dy, dz]
  simp only [Bool.and_self, if_true, mul_div_of_divisible dx, mul_div_of_divisible dy, mul_div_of_divisible dz]

/-- whatever the guard decides: `ok` ⇒ exactly `g`; otherwise `div_zero` with the zero vector -/
theorem tetGrad_linear_cases (x0 x1 x2 x3 g : V3 ℝ) (α : ℝ) :
    let r := tetGradNodes x0 x1 x2 x3 (α + vdot g x0) (α + vdot g x1) (α + vdot g x2) (α + vdot g x3)
    (r.1 = St.ok ∧ r.2 = g) ∨ (r.1 = St.divZero ∧ r.2 = ⟨0, 0, 0⟩) := by
  intro r
  show (r.1 = St.ok ∧ r.2 = g) ∨ (r.1 = St.divZero ∧ r.2 = ⟨0, 0, 0⟩)
  simp only [r]
  rw [tetGradNodes_linear x0 x1 x2 x3 g α _ rfl]
  split
  · rename_i hg
    left
    simp only [Bool.and_eq_true] at hg
    have hV := divisible_ne_zero hg.2
    refine ⟨rfl, ?_⟩
    simp only []
    rw [mul_div_cancel_right₀ _ hV, mul_div_cancel_right₀ _ hV, mul_div_cancel_right₀ _ hV]
  · right
    exact ⟨rfl, by simp [V3.zero]⟩

/-- `ref_node_tri_grad_nodes` (square-root normalisations and all) returns, for a linear field on ANY
    non-degenerate triangle in space, exactly the component of `g` tangent to the triangle:
    `g - (g·n) n / (n·n)` with `n` the triangle normal -/
theorem triGrad_linear {x0 x1 x2 g G : V3 ℝ} (α : ℝ)
    (h : triGradNodes x0 x1 x2 (α + vdot g x0) (α + vdot g x1) (α + vdot g x2) = (St.ok, G)) :
    G = vadd g (vsmul (-(vdot g (triNormal x0 x1 x2) / vdot (triNormal x0 x1 x2) (triNormal x0 x1 x2)))
          (triNormal x0 x1 x2)) := by
  -- the success branch is rational in the edges (`triGradNodes_ok`); for a linear field the two nodal differences are
  -- `g·e1`, `g·e2`, and `tangent_identity` identifies the combination with the tangential part of `g`
  obtain ⟨hN, rfl⟩ := triGradNodes_ok h
  obtain ⟨tx, ty, tz⟩ := tangent_identity (V3.sub x1 x0) (V3.sub x2 x0) g
  have hd1 : α + vdot g x1 - (α + vdot g x0) = vdot g (V3.sub x1 x0) := by simp only [V3.sub, vdot, sub_eq]; ring
  have hd2 : α + vdot g x2 - (α + vdot g x0) = vdot g (V3.sub x2 x0) := by simp only [V3.sub, vdot, sub_eq]; ring
  have hD : vdot (V3.sub x2 x0) (V3.sub x1 x0) = vdot (V3.sub x1 x0) (V3.sub x2 x0) := by simp only [vdot]; ring
  have hn : triNormal x0 x1 x2 = cross (V3.sub x1 x0) (V3.sub x2 x0) := rfl
  rw [hn, hd1, hd2, hD]
  ext <;> simp only [vadd, vsmul]
  · rw [tx]; field_simp; ring
  · rw [ty]; field_simp; ring
  · rw [tz]; field_simp; ring

/-- 2-D / in-plane case: when `g` lies in the triangle's plane the coded gradient is exactly `g` -/
theorem triGrad_linear_inplane {x0 x1 x2 g G : V3 ℝ} (α : ℝ) (hn : vdot g (triNormal x0 x1 x2) = 0)
    (h : triGradNodes x0 x1 x2 (α + vdot g x0) (α + vdot g x1) (α + vdot g x2) = (St.ok, G)) : G = g := by
  rw [triGrad_linear α h, hn]
  ext <;> simp [vadd, vsmul]

/-- a weighted average of copies of one value is that value -/
theorem weightedAverage_const (ws : List ℝ) (c : ℝ) (h : ws.sum ≠ 0) :
    (ws.map (fun ω => ω * c)).sum / ws.sum = c := by
  rw [List.sum_map_mul_right, List.map_id', mul_div_cancel_left₀ _ h]

/-- the accumulation of `ref_recon_l2_projection_grad` over ANY finite list of simplices whose
    contributing (`REF_SUCCESS`) members all carry the gradient `g`: every node ends with `g`, or with the
    zero vector exactly when its `ref_math_divisible` guard fails (and then the status is `div_zero`) -/
theorem project_const (n : Nat) (cs : List (Contrib ℝ)) (g : V3 ℝ)
    (hg : ∀ c ∈ cs, c.st = St.ok → c.g = g) (i : Nat) (hi : i < n) :
    (project n cs).2[i]? = some g ∨
    ((project n cs).2[i]? = some ⟨0, 0, 0⟩ ∧ (project n cs).1 = St.divZero) := by
  rw [project_getElem? n cs i hi]
  rcases finishNode_lin (sums_lin cs i g hg) with h | h
  · left; rw [h]
  · right
    refine ⟨by rw [h], ?_⟩
    rw [project_flag, if_pos]
    exact List.any_eq_true.mpr ⟨i, List.mem_range.mpr hi, by rw [h]⟩

/-- positive weights: a node touched by at least one contributing simplex gets exactly `g` -/
theorem project_const_pos {τ : Type} (n : Nat) (c : τ → Contrib ℝ) (ts : List τ) (g : V3 ℝ)
    (hg : ∀ t ∈ ts, (c t).st = St.ok → (c t).g = g) (hw : ∀ t ∈ ts, (c t).st = St.ok → 0 < (c t).w)
    (hx : |g.x| < (10 : ℝ) ^ (20 : ℤ)) (hy : |g.y| < (10 : ℝ) ^ (20 : ℤ)) (hz : |g.z| < (10 : ℝ) ^ (20 : ℤ))
    (i : Nat) (hi : i < n) (ht : ∃ t ∈ ts, (c t).st = St.ok ∧ i ∈ (c t).nodes) :
    (project n (ts.map c)).2[i]? = some g := by
  rw [project_getElem? n _ i hi,
    finishNode_lin_ok (sums_lin _ i g (List.forall_mem_map.mpr hg))
      (ne_of_gt (sums_w_pos _ i (List.forall_mem_map.mpr hw)
        (ht.elim fun t h => ⟨c t, List.mem_map_of_mem h.1, h.2⟩))) hx hy hz]

theorem tetContrib_linear {xyz : List (V3 ℝ)} {s : List ℝ} {α : ℝ} {g : V3 ℝ} {t : Tet}
    (h : LinearOnTet xyz s α g t) (hok : (tetContrib xyz s t).st = St.ok) : (tetContrib xyz s t).g = g := by
  obtain ⟨h0, h1, h2, h3⟩ := h
  have := tetGrad_linear_cases (xyzAt xyz t.n0) (xyzAt xyz t.n1) (xyzAt xyz t.n2) (xyzAt xyz t.n3) g α
  simp only [tetContrib, h0, h1, h2, h3] at hok ⊢
  rcases this with ⟨_, hg⟩ | ⟨hst, _⟩
  · exact hg
  · rw [hst] at hok; exact absurd hok (by decide)

theorem tetContrib_linear_ok {xyz : List (V3 ℝ)} {s : List ℝ} {α : ℝ} {g : V3 ℝ} {t : Tet}
    (h : LinearOnTet xyz s α g t)
    (hv : tetVol (xyzAt xyz t.n0) (xyzAt xyz t.n1) (xyzAt xyz t.n2) (xyzAt xyz t.n3) ≠ 0)
    (hx : |g.x| < (10 : ℝ) ^ (20 : ℤ)) (hy : |g.y| < (10 : ℝ) ^ (20 : ℤ)) (hz : |g.z| < (10 : ℝ) ^ (20 : ℤ)) :
    tetContrib xyz s t = ⟨[t.n0, t.n1, t.n2, t.n3], St.ok,
      tetVol (xyzAt xyz t.n0) (xyzAt xyz t.n1) (xyzAt xyz t.n2) (xyzAt xyz t.n3), g⟩ := by
  obtain ⟨h0, h1, h2, h3⟩ := h
  simp only [tetContrib, h0, h1, h2, h3, tetGrad_linear _ _ _ _ g α hv hx hy hz]

/-- **L2-projected gradient of a linear field, any tet decomposition.**  For ANY finite list of tets
    (in particular the sub-tets the C makes of pyramids, prisms and hexes, or any other splitting),
    every node receives exactly `g`, or the zero vector when its total-weight guard fails -/
theorem l2gradTets_linear (xyz : List (V3 ℝ)) (s : List ℝ) (ts : List Tet) (α : ℝ) (g : V3 ℝ)
    (hlin : ∀ t ∈ ts, LinearOnTet xyz s α g t) (i : Nat) (hi : i < xyz.length) :
    (l2gradTets xyz s ts).2[i]? = some g ∨
    ((l2gradTets xyz s ts).2[i]? = some ⟨0, 0, 0⟩ ∧ (l2gradTets xyz s ts).1 = St.divZero) :=
  project_const _ _ g (List.forall_mem_map.mpr fun t ht => tetContrib_linear (hlin t ht)) i hi

/-- … and exactly `g` at every node that is a vertex of at least one non-flat tet, when all non-flat
    tets have positive volume (weights positivity is the ONLY hypothesis on the decomposition) -/
theorem l2gradTets_linear_pos (xyz : List (V3 ℝ)) (s : List ℝ) (ts : List Tet) (α : ℝ) (g : V3 ℝ)
    (hlin : ∀ t ∈ ts, LinearOnTet xyz s α g t)
    (hpos : ∀ t ∈ ts, (tetContrib xyz s t).st = St.ok → 0 < (tetContrib xyz s t).w)
    (hx : |g.x| < (10 : ℝ) ^ (20 : ℤ)) (hy : |g.y| < (10 : ℝ) ^ (20 : ℤ)) (hz : |g.z| < (10 : ℝ) ^ (20 : ℤ))
    (i : Nat) (hi : i < xyz.length)
    (ht : ∃ t ∈ ts, (tetContrib xyz s t).st = St.ok ∧ i ∈ [t.n0, t.n1, t.n2, t.n3]) :
    (l2gradTets xyz s ts).2[i]? = some g :=
  project_const_pos _ _ ts g (fun t ht => tetContrib_linear (hlin t ht)) hpos hx hy hz i hi ht

/-- the C's own decomposition (mixed tet/pyr/pri/hex meshes) is one instance -/
theorem l2grad_linear (xyz : List (V3 ℝ)) (s : List ℝ) (cells : List Cell) (α : ℝ) (g : V3 ℝ)
    (hlin : ∀ t ∈ allTets cells, LinearOnTet xyz s α g t) (i : Nat) (hi : i < xyz.length) :
    (l2grad false xyz s cells).2[i]? = some g ∨
    ((l2grad false xyz s cells).2[i]? = some ⟨0, 0, 0⟩ ∧ (l2grad false xyz s cells).1 = St.divZero) := by
  simp only [l2grad, Bool.false_eq_true, if_false]
  exact l2gradTets_linear xyz s (allTets cells) α g hlin i hi

/-- projecting a constant field gives the zero gradient at every node, unconditionally -/
theorem l2gradTets_const (xyz : List (V3 ℝ)) (ts : List Tet) (c : ℝ) (hwf : TetsWF xyz.length ts) :
    (l2gradTets xyz (List.replicate xyz.length c) ts).2 = List.replicate xyz.length ⟨0, 0, 0⟩ := by
  apply eq_replicate_of_getElem? _ _ _ (by unfold l2gradTets; exact length_project _ _)
  intro i hi
  have hlin : ∀ t ∈ ts, LinearOnTet xyz (List.replicate xyz.length c) c ⟨0, 0, 0⟩ t := by
    intro t ht
    obtain ⟨h0, h1, h2, h3⟩ := hwf t ht
    simp only [LinearOnTet, sAt, vdot, zero_mul, add_zero, List.getD_eq_getElem?_getD, List.getElem?_replicate,
      h0, h1, h2, h3, if_true, Option.getD_some, and_self]
  rcases l2gradTets_linear xyz _ ts c ⟨0, 0, 0⟩ hlin i hi with h | ⟨h, _⟩ <;> exact h

/-- **the L2-reconstructed Hessian of a linear field vanishes**: once the first projection returns `g`
    at every node (see `l2gradTets_linear_pos`), projecting each (constant) gradient component gives 0 -/
theorem l2hessian_linear (xyz : List (V3 ℝ)) (s : List ℝ) (ts : List Tet) (g : V3 ℝ)
    (hwf : TetsWF xyz.length ts)
    (hfirst : ∀ i, i < xyz.length → (l2gradTets xyz s ts).2[i]? = some g) :
    hessianOf (fun f => l2gradTets xyz f ts) s = List.replicate xyz.length ⟨0, 0, 0, 0, 0, 0⟩ := by
  apply hessianOf_zero _ _ g
  · exact eq_replicate_of_getElem? _ _ _ (by unfold l2gradTets; exact length_project _ _) hfirst
  · intro c; exact l2gradTets_const xyz ts c hwf

/-! ### 2-D meshes (triangles; quads are split into two triangles by the C) -/

theorem triContrib_linear {xyz : List (V3 ℝ)} {s : List ℝ} {α : ℝ} {g : V3 ℝ} {t : Tri}
    (h : LinearOnTri xyz s α g t)
    (hn : vdot g (triNormal (xyzAt xyz t.n0) (xyzAt xyz t.n1) (xyzAt xyz t.n2)) = 0)
    (hok : (triContrib xyz s t).st = St.ok) : (triContrib xyz s t).g = g := by
  obtain ⟨h0, h1, h2⟩ := h
  simp only [triContrib, h0, h1, h2] at hok ⊢
  exact triGrad_linear_inplane α hn (Prod.ext hok rfl)

/-- L2-projected gradient of a linear field on any list of triangles whose planes contain `g`
    (2-D meshes: `z` constant, `g.z = 0`): every node gets `g`, or zero when its guard fails -/
theorem l2gradTris_linear (xyz : List (V3 ℝ)) (s : List ℝ) (ts : List Tri) (α : ℝ) (g : V3 ℝ)
    (hlin : ∀ t ∈ ts, LinearOnTri xyz s α g t)
    (hplane : ∀ t ∈ ts, vdot g (triNormal (xyzAt xyz t.n0) (xyzAt xyz t.n1) (xyzAt xyz t.n2)) = 0)
    (i : Nat) (hi : i < xyz.length) :
    (l2gradTris xyz s ts).2[i]? = some g ∨
    ((l2gradTris xyz s ts).2[i]? = some ⟨0, 0, 0⟩ ∧ (l2gradTris xyz s ts).1 = St.divZero) :=
  project_const _ _ g (List.forall_mem_map.mpr fun t ht => triContrib_linear (hlin t ht) (hplane t ht)) i hi

/-- areas are non-negative by construction (`0.5·sqrt`), so in 2-D a node touched by a contributing
    triangle of non-zero area always gets exactly `g` -/
theorem l2gradTris_linear_pos (xyz : List (V3 ℝ)) (s : List ℝ) (ts : List Tri) (α : ℝ) (g : V3 ℝ)
    (hlin : ∀ t ∈ ts, LinearOnTri xyz s α g t)
    (hplane : ∀ t ∈ ts, vdot g (triNormal (xyzAt xyz t.n0) (xyzAt xyz t.n1) (xyzAt xyz t.n2)) = 0)
    (hpos : ∀ t ∈ ts, (triContrib xyz s t).st = St.ok → 0 < (triContrib xyz s t).w)
    (hx : |g.x| < (10 : ℝ) ^ (20 : ℤ)) (hy : |g.y| < (10 : ℝ) ^ (20 : ℤ)) (hz : |g.z| < (10 : ℝ) ^ (20 : ℤ))
    (i : Nat) (hi : i < xyz.length)
    (ht : ∃ t ∈ ts, (triContrib xyz s t).st = St.ok ∧ i ∈ [t.n0, t.n1, t.n2]) :
    (l2gradTris xyz s ts).2[i]? = some g :=
  project_const_pos _ _ ts g (fun t ht => triContrib_linear (hlin t ht) (hplane t ht)) hpos hx hy hz i hi ht

theorem l2gradTris_const (xyz : List (V3 ℝ)) (ts : List Tri) (c : ℝ) (hwf : TrisWF xyz.length ts) :
    (l2gradTris xyz (List.replicate xyz.length c) ts).2 = List.replicate xyz.length ⟨0, 0, 0⟩ := by
  apply eq_replicate_of_getElem? _ _ _ (by unfold l2gradTris; exact length_project _ _)
  intro i hi
  have hlin : ∀ t ∈ ts, LinearOnTri xyz (List.replicate xyz.length c) c ⟨0, 0, 0⟩ t := by
    intro t ht
    obtain ⟨h0, h1, h2⟩ := hwf t ht
    simp only [LinearOnTri, sAt, vdot, zero_mul, add_zero, List.getD_eq_getElem?_getD, List.getElem?_replicate,
      h0, h1, h2, if_true, Option.getD_some, and_self]
  rcases l2gradTris_linear xyz _ ts c ⟨0, 0, 0⟩ hlin (by intro t _; simp [vdot]) i hi with h | ⟨h, _⟩ <;> exact h

/-- projecting a constant field gives the zero gradient, on the C's entry point (3-D: `allTets cells`; 2-D:
    `allTris cells`) -/
theorem l2grad_const (twod : Bool) (xyz : List (V3 ℝ)) (cells : List Cell) (c : ℝ)
    (hwf : if twod then TrisWF xyz.length (allTris cells) else TetsWF xyz.length (allTets cells)) :
    (l2grad twod xyz (List.replicate xyz.length c) cells).2 = List.replicate xyz.length ⟨0, 0, 0⟩ := by
  cases twod
  · exact l2gradTets_const xyz _ c hwf
  · exact l2gradTris_const xyz _ c hwf

/-- the L2 Hessian of a linear field vanishes, on the C's entry point, 2-D or 3-D (at `twod = false` / `true` the
    hypothesis `hwf` is `TetsWF …` / `TrisWF …` itself) -/
theorem l2hessian_linear_cells (twod : Bool) (xyz : List (V3 ℝ)) (s : List ℝ) (cells : List Cell) (g : V3 ℝ)
    (hwf : if twod then TrisWF xyz.length (allTris cells) else TetsWF xyz.length (allTets cells))
    (hfirst : ∀ i, i < xyz.length → (l2grad twod xyz s cells).2[i]? = some g) :
    l2hessian twod xyz s cells = List.replicate xyz.length ⟨0, 0, 0, 0, 0, 0⟩ :=
  hessianOf_zero _ _ g _ (eq_replicate_of_getElem? _ _ _ (l2grad_length twod xyz s cells) hfirst)
    fun c => l2grad_const twod xyz cells c hwf

theorem l2grad2d_linear (xyz : List (V3 ℝ)) (s : List ℝ) (cells : List Cell) (α : ℝ) (g : V3 ℝ)
    (hlin : ∀ t ∈ allTris cells, LinearOnTri xyz s α g t)
    (hplane : ∀ t ∈ allTris cells, vdot g (triNormal (xyzAt xyz t.n0) (xyzAt xyz t.n1) (xyzAt xyz t.n2)) = 0)
    (i : Nat) (hi : i < xyz.length) :
    (l2grad true xyz s cells).2[i]? = some g ∨
    ((l2grad true xyz s cells).2[i]? = some ⟨0, 0, 0⟩ ∧ (l2grad true xyz s cells).1 = St.divZero) := by
  simp only [l2grad, if_true]
  exact l2gradTris_linear xyz s (allTris cells) α g hlin hplane i hi

theorem tetVol_unit : tetVol (⟨0, 0, 0⟩ : V3 ℝ) ⟨1, 0, 0⟩ ⟨0, 1, 0⟩ ⟨0, 0, 1⟩ = 1 / 6 := by
  simp only [tetVol, add_eq, sub_eq, mul_eq, div_eq, neg_eq, ofInt_eq]; norm_num

example : tetVol (⟨0, 0, 0⟩ : V3 ℝ) ⟨1, 0, 0⟩ ⟨0, 1, 0⟩ ⟨0, 0, 1⟩ ≠ 0 := by
  rw [tetVol_unit]; norm_num

/-- hypotheses of `l2gradTets_linear_pos` and `l2hessian_linear` are satisfiable: one unit tet,
    field `1 + 2x + 3y + 4z` — every node gets `(2,3,4)` and the Hessian is zero -/
theorem unitTet_linear :
    let xyz : List (V3 ℝ) := [⟨0, 0, 0⟩, ⟨1, 0, 0⟩, ⟨0, 1, 0⟩, ⟨0, 0, 1⟩]
    let s : List ℝ := [1, 3, 4, 5]
    (∀ i, i < xyz.length → (l2gradTets xyz s [⟨0, 1, 2, 3⟩]).2[i]? = some ⟨2, 3, 4⟩) ∧
    hessianOf (fun f => l2gradTets xyz f [⟨0, 1, 2, 3⟩]) s = List.replicate 4 ⟨0, 0, 0, 0, 0, 0⟩ := by
  intro xyz s
  have hlin : ∀ t ∈ [(⟨0, 1, 2, 3⟩ : Tet)], LinearOnTet xyz s 1 ⟨2, 3, 4⟩ t := by
    intro t ht
    simp only [List.mem_singleton] at ht
    subst ht
    simp only [LinearOnTet, sAt, xyzAt, xyz, s, vdot, List.getD_eq_getElem?_getD]
    norm_num
  have hok : (tetContrib xyz s ⟨0, 1, 2, 3⟩).st = St.ok ∧ 0 < (tetContrib xyz s ⟨0, 1, 2, 3⟩).w := by
    have hv' : tetVol (xyzAt xyz 0) (xyzAt xyz 1) (xyzAt xyz 2) (xyzAt xyz 3) = 1 / 6 := tetVol_unit
    rw [tetContrib_linear_ok (hlin _ (List.mem_singleton.mpr rfl)) (by rw [hv']; norm_num) (by norm_num)
      (by norm_num) (by norm_num), hv']
    exact ⟨rfl, by norm_num⟩
  have hfirst : ∀ i, i < xyz.length → (l2gradTets xyz s [⟨0, 1, 2, 3⟩]).2[i]? = some ⟨2, 3, 4⟩ := by
    intro i hi
    apply l2gradTets_linear_pos xyz s _ 1 ⟨2, 3, 4⟩ hlin
    · intro t ht _
      simp only [List.mem_singleton] at ht
      subst ht
      exact hok.2
    · norm_num
    · norm_num
    · norm_num
    · exact hi
    · refine ⟨⟨0, 1, 2, 3⟩, List.mem_singleton.mpr rfl, hok.1, ?_⟩
      simp only [xyz, List.length] at hi
      simp only [List.mem_cons, List.not_mem_nil, or_false]
      omega
  refine ⟨hfirst, ?_⟩
  have := l2hessian_linear xyz s [⟨0, 1, 2, 3⟩] ⟨2, 3, 4⟩
    (by intro t ht; simp only [List.mem_singleton] at ht; subst ht; simp [xyz]) hfirst
  simpa [xyz] using this

example :
    let xyz : List (V3 ℝ) := [⟨0, 0, 0⟩, ⟨1, 0, 0⟩, ⟨0, 1, 0⟩, ⟨0, 0, 1⟩]
    let s : List ℝ := [1, 3, 4, 5]
    (∀ i, i < xyz.length → (l2gradTets xyz s [⟨0, 1, 2, 3⟩]).2[i]? = some ⟨2, 3, 4⟩) ∧
    hessianOf (fun f => l2gradTets xyz f [⟨0, 1, 2, 3⟩]) s = List.replicate 4 ⟨0, 0, 0, 0, 0, 0⟩ :=
  unitTet_linear

/-- `triGrad_linear`'s hypothesis (status `ok`) holds on the unit right triangle, field `1 + 2x + 3y + 7z`:
    the result is the tangential part `(2,3,0)` -/
example : triGradNodes (⟨0, 0, 0⟩ : V3 ℝ) ⟨1, 0, 0⟩ ⟨0, 1, 0⟩ 1 3 4 = (St.ok, ⟨2, 3, 0⟩) := by
  have n1 : Refine.Model.Geom.normalize (⟨1, 0, 0⟩ : V3 ℝ) = (St.ok, ⟨1, 0, 0⟩) := by
    unfold Refine.Model.Geom.normalize
    simp only [dot, add_eq, sub_eq, mul_eq, div_eq, sqrt_eq, cabs_eq, lit1_eq]
    have e : (eps13 : ℝ) = 1 * (10 : ℝ) ^ (-13 : ℤ) := by simp [eps13]
    norm_num [divisible_iff', lt_iff, e]
  have n2 : Refine.Model.Geom.normalize (⟨0, 1, 0⟩ : V3 ℝ) = (St.ok, ⟨0, 1, 0⟩) := by
    unfold Refine.Model.Geom.normalize
    simp only [dot, add_eq, sub_eq, mul_eq, div_eq, sqrt_eq, cabs_eq, lit1_eq]
    have e : (eps13 : ℝ) = 1 * (10 : ℝ) ^ (-13 : ℤ) := by simp [eps13]
    norm_num [divisible_iff', lt_iff, e]
  unfold triGradNodes
  simp only [V3.sub, sub_eq, sub_zero]
  rw [n1, n2]
  simp only [dot, add_eq, mul_eq, mul_zero, mul_one, add_zero, zero_add, sub_zero]
  rw [n1, n2]
  simp only [triArea, triNormal, cross, V3.sub, dot, add_eq, sub_eq, mul_eq, div_eq, sqrt_eq, half_eq, lit2_eq]
  norm_num [divisible_iff']

end Refine.Props.C19
