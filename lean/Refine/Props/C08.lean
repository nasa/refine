import Refine.Lemmas.CodecRoundtrip

/-!
  C08 — mesh files round-trip (binary libMeshb `.meshb`, versions 2, 3, 4).

  Model: `Refine/Model/Meshb.lean` — `encodeMeshb` = `ref_export_meshb`, `decodeMeshb` =
  `ref_import_meshb_header` + `ref_import_meshb_jump` + `ref_import_meshb`; tied to the C by the streams
  `meshb_write` (C writer bytes = `encodeMeshb` bytes) and `meshb_read` (C reader dump = `decodeMeshb`).
  Cell kinds covered: all 16 groups of `ref_grid` (edg ed2 ed3 tri tr2 tr3 qua qu2 tet pyr pri hex te2 py2
  pr2 he2), keywords and node counts from the generated tables; vertex coordinates, cell vertices and
  ids, geometry-association records (types 0/1/2 with `gref` carried as a double) and the CAD byte blob.
  Elsewhere: ugrid (Props/C08Ugrid), su2/msh/fgrid and the text formats (Props/C08Formats), the parallel writer
  `ref_gather` (Props/C08Gather), the parallel reader `ref_part` (Props/C08Part).  Not covered: `ref_grid_inward_boundary_orientation` (applied by
  `ref_import_by_extension` after the reader).
-/
namespace Refine.Props.C08
open Refine.Model.Meshb Refine.Lemmas.Codec Refine.Gen

/-- **read(write(M)) = M**: the reader without the C20 checks (`Cfg.faithful`, /repo before the `fix:` commits named
    in Props/C20.lean; for the reader /repo runs now see `roundtrip_meshb_fixed`) recovers every well-formed mesh
    from the bytes the writer produces, for meshb versions 2, 3 and 4 (`WellFormed` lists the conditions; it includes
    `v ∈ {2,3,4}`).  Vertex coordinates are bit patterns, so "identical coordinates" is literal. -/
theorem roundtrip_meshb (v : Nat) (m : MeshFile) (wf : WellFormed Cfg.faithful v m) :
    decodeMeshb (encodeMeshb v m) = .ok m :=
  roundtrip_meshb_with wf

/-- the reader with the C20 checks, which is the one /repo runs now (`Cfg.current = Cfg.fixed`), accepts everything the
    writer produces (here `WellFormed` also asks for vertex indices below the vertex count) -/
theorem roundtrip_meshb_fixed (v : Nat) (m : MeshFile) (wf : WellFormed Cfg.fixed v m) :
    decodeMeshbFixed (encodeMeshb v m) = .ok m :=
  roundtrip_meshb_with wf

/-- the `next_position` the writer computes *by formula* for each keyword equals the true offset of
    the following keyword, wherever the section starts: the `REIS(next_position, ftell)` checks of
    `ref_export_meshb` and `ref_import_meshb` can never fire on writer output -/
theorem offsets_exact (cfg : Cfg) (v : Nat) (m : MeshFile) (wf : WellFormed cfg v m) (pos : Nat) :
    ∀ s ∈ sections v m, pos + s.declLen = pos + (s.bytes v pos).length := by
  intro s hs
  have := (master_exact wf _ (sections_mem.1 hs)).1
  rw [Sec.bytes_length, this]

/-- consequently the keyword chain of a written file starts at byte 8 and each link points at the next
    keyword: the header scan runs to `End` and returns the version (that it finds every section at its true offset
    is `Located`, Lemmas/CodecRoundtrip.lean, from the same `encodeMeshb_located`) -/
theorem header_finds_sections (cfg : Cfg) (v : Nat) (m : MeshFile) (wf : WellFormed cfg v m) :
    ∃ kp, header cfg (encodeMeshb v m) = .ok (v, kp) := by
  obtain ⟨kp, h, _⟩ := encodeMeshb_located wf
  exact ⟨kp, h⟩

/-- pyramid vertex shuffles (generated from the C): the import and export shuffles are mutually
    inverse, so are the parallel reader's and writer's, and serial and parallel sides agree -/
theorem pyrPerm_inverse :
    (∀ a b c d e : Int, permute PyrPerm.importMeshb (permute PyrPerm.exportMeshb [a, b, c, d, e]) = [a, b, c, d, e]) ∧
    (∀ a b c d e : Int, permute PyrPerm.exportMeshb (permute PyrPerm.importMeshb [a, b, c, d, e]) = [a, b, c, d, e]) ∧
    (∀ a b c d e : Int, permute PyrPerm.partMeshb (permute PyrPerm.gatherCell0 [a, b, c, d, e]) = [a, b, c, d, e]) ∧
    PyrPerm.exportMeshb = PyrPerm.gatherCell0 ∧ PyrPerm.gatherCell0 = PyrPerm.gatherCell1 ∧
    PyrPerm.importMeshb = PyrPerm.partMeshb := by
  refine ⟨?_, ?_, ?_, by decide, by decide, by decide⟩ <;> intros <;> rfl

/-- the file order of a pyramid is libMeshb's: base quadrilateral = refine's quad face (0,3,4,1), apex =
    refine's node 2 (the one node not on the quad face of the generated face table) -/
theorem pyr_file_order_is_libmeshb :
    PyrPerm.exportMeshb = [0, 3, 4, 1, 2] ∧
    (CellTables.pyr.f2n.filter fun f => f.getD 0 0 != f.getD 3 0).any
      (fun f => f == [0, 3, 4, 1] || f == [3, 4, 1, 0] || f == [4, 1, 0, 3] || f == [1, 0, 3, 4] ||
                f == [0, 1, 4, 3] || f == [1, 4, 3, 0] || f == [4, 3, 0, 1] || f == [3, 0, 1, 4]) = true := by
  decide

/-- the 16 cell keywords, the fixed keywords and `End` are pairwise distinct and below
    `REF_IMPORT_MESHB_LAST_KEYWORD`, so `key_pos[]` never confuses two sections -/
theorem keywords_distinct :
    ([3, 4] ++ cellInfos.map CellInfo.kw ++ [40, 41, 42] ++ [126] ++ [54]).Nodup ∧
    ∀ k ∈ [3, 4] ++ cellInfos.map CellInfo.kw ++ [40, 41, 42] ++ [126] ++ [54], k < CodecConsts.lastKeyword := by
  decide

/-! ### non-vacuity: a concrete mesh with a pyramid, a triangle with a negative id, geometry records of all
    three types and a CAD blob satisfies `WellFormed` for every version -/

def sampleMesh : MeshFile :=
  { twod := false
    nodes := [⟨0, 0, 0⟩, ⟨0x3ff0000000000000, 0, 0⟩, ⟨0, 0x3ff0000000000000, 0⟩,
              ⟨0, 0, 0x3ff0000000000000⟩, ⟨0x3ff0000000000000, 0x3ff0000000000000, 0xbff0000000000000⟩]
    cells := [[[0, 1, 7]], [], [], [[0, 1, 2, -3]], [], [], [], [], [[0, 1, 2, 3]], [[0, 1, 4, 2, 3]],
              [], [], [], [], [], []]
    geoms := [⟨0, 5, 5, 0, 0, 0⟩, ⟨1, 2, 9, 1, 0x3fe0000000000000, 0⟩,
              ⟨2, -4, 2147483647, 2, 0x3fd0000000000000, 0x3fe8000000000000⟩]
    cad := [0, 255, 16] }

example : WellFormed Cfg.faithful 2 sampleMesh ∧ WellFormed Cfg.fixed 3 sampleMesh ∧
    WellFormed Cfg.faithful 4 sampleMesh := by
  refine ⟨?_, ?_, ?_⟩ <;>
  exact
    { version := by decide, nodes_pos := by decide, nodes_lt := by decide, twod_z := by decide,
      cells_len := by decide, cells_lt := by decide,
      cell_ok := by unfold CellOK NodeOK int32; decide,
      geoms_sorted := by decide,
      geom_ok := by unfold GeomOK NodeOK int32; decide,
      geoms_nodup := by decide, geoms_lt := by decide, cad_lt := by decide, cad_cap := by decide,
      size_fits := by unfold posFits; decide +kernel }

example : decodeMeshb (encodeMeshb 3 sampleMesh) = .ok sampleMesh := by decide +kernel

end Refine.Props.C08
