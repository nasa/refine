import Refine.Props.C08Gather

/-!
  C07 — results do not depend on the number of ranks: the parallel libMeshb writer `ref_gather_meshb`
  (model `Refine.Model.GatherMeshb.gatherMeshb`, tie: stream `gathermeshb`, see Props/C08Gather.lean).

  `Stores part G GG d`: the distributed mesh `d` holds the global mesh (cells `G k` of group `k`, association records `GG`)
  under the partition `part` by the storage rule of the distributed invariant (a rank stores a cell iff it owns one of its
  vertices, knows the true part of the vertices of its cells, holds the association records of the vertices it stores).
-/
namespace Refine.Props.C07GatherMeshb
open Refine.Model.Meshb Refine.Model.Par Refine.Model.GatherMeshb Refine.Lemmas.Par Refine.Lemmas.GatherMeshb
open Refine.Lemmas.Codec Refine.Gen Refine.Props.C08Gather

/-- the file does not depend on the reduce byte limit (chunk size), as long as the chunk is ≥ 1 -/
theorem gatherMeshb_chunk_independent (add : UInt64 → UInt64 → UInt64) (rbl rbl' mv : Int) (d : Dist)
    (hnp : d.ranks ≠ []) (hN : 0 < d.nglobal) (hrbl : rbl ≤ 0 ∨ 32 ≤ rbl) (hrbl' : rbl' ≤ 0 ∨ 32 ≤ rbl')
    (honce : ∀ g, g < d.nglobal → ownerCount (d.ranks.map nodeView) g = 1)
    (hsum : SumExact add d) (hs : Shaped d) :
    gatherMeshb add rbl mv d = gatherMeshb add rbl' mv d := by
  rw [gatherMeshb_eq_encode add rbl mv d hnp hN hrbl honce hsum hs,
    gatherMeshb_eq_encode add rbl' mv d hnp hN hrbl' honce hsum hs]

/-- the distributed mesh `d` stores the global mesh (`G k` = cells of group `k`, `GG` = association records) under the
    partition `part` by the storage rule -/
structure Stores (part : Nat → Nat) (G : Nat → List GCell) (GG : List LGeom) (d : Dist) : Prop where
  cells : ∀ k, k < 16 → ∀ p ∈ d.ranks.zipIdx, Consistent part (G k) p.2 (cellView k p.1)
  cells_ne : ∀ k, k < 16 → ∀ c ∈ G k, c.nodes ≠ []
  cells_range : ∀ k, k < 16 → ∀ c ∈ G k, ∀ g ∈ c.nodes, part g < d.ranks.length
  geoms : ∀ p ∈ d.ranks.zipIdx, GeomConsistent part GG p.2 p.1
  geoms_range : ∀ g ∈ GG, part g.node < d.ranks.length

/-- per group: the gathered cells are the global cells up to order -/
theorem cells_perm (part : Nat → Nat) (G : Nat → List GCell) (GG : List LGeom) (d : Dist)
    (hst : Stores part G GG d) :
    ∀ p ∈ cellInfos.zipIdx, ((gatherCell (d.ranks.map (cellView p.2))).map (packCell p.1)).Perm
      ((G p.2).map (packCell p.1)) := by
  intro p hp
  have hk : p.2 < 16 := by
    have := List.snd_lt_of_mem_zipIdx hp
    rwa [show cellInfos.length = 16 from by decide] at this
  have hcons : ∀ r v, (d.ranks.map (cellView p.2))[r]? = some v → Consistent part (G p.2) r v := by
    intro r v hv
    rw [List.getElem?_map] at hv
    obtain ⟨rk, hr, rfl⟩ := Option.map_eq_some_iff.1 hv
    exact hst.cells p.2 hk (rk, r) (List.mem_zipIdx_iff_getElem?.2 hr)
  have h := Refine.Props.C07Gather.gather_cell_once part (G p.2) (d.ranks.map (cellView p.2)) hcons
    (hst.cells_ne p.2 hk) (by simpa using hst.cells_range p.2 hk)
  exact h.1.map _

/-- what is in the file, in terms of the GLOBAL mesh alone: every cell of every group exactly once
    (as a multiset of records with vertex order and id), every association record of every type exactly once with its own
    (vertex, id, gref, parameters), for every rank count and partition. -/
theorem gatherMeshb_content (part : Nat → Nat) (G : Nat → List GCell) (GG : List LGeom) (d : Dist)
    (hst : Stores part G GG d) :
    List.Forall₂ List.Perm (globalMesh d).cells (cellInfos.zipIdx.map fun p => (G p.2).map (packCell p.1)) ∧
    (∀ t, t ≤ 2 → (geomsOf t (globalMesh d).geoms).Perm ((GG.filter fun g => g.type == t).map toRec)) := by
  constructor
  · show List.Forall₂ List.Perm (gatheredCells d) _
    unfold gatheredCells
    rw [List.forall₂_map_left_iff, List.forall₂_map_right_iff, List.forall₂_same]
    exact cells_perm part G GG d hst
  · intro t ht
    show (geomsOf t (gatheredGeoms d)).Perm _
    rw [geomsOf_gathered d t ht]
    exact (ownedGeomsFrom_all part GG t d.ranks
      (fun r rk hr => hst.geoms (rk, r) (List.mem_zipIdx_iff_getElem?.2 hr)) hst.geoms_range).map _

/-- two distributions (different rank counts, partitions, ghost layers, local orders, reduce
    byte limits) of the same global mesh give files whose content is the same: the same ordered list of vertices bit for
    bit, the same multiset of cells per group, the same multiset of association records per type, the same CAD bytes
    (what C07 states for the writer). -/
theorem gatherMeshb_np_independent (part part' : Nat → Nat) (G : Nat → List GCell) (GG : List LGeom) (d d' : Dist)
    (hst : Stores part G GG d) (hst' : Stores part' G GG d')
    (htwod : d.twod = d'.twod) (hNN : d.nglobal = d'.nglobal)
    (hsame : ∀ g, g < d.nglobal →
      payloadAt vzero (d.ranks.map nodeView) g = payloadAt vzero (d'.ranks.map nodeView) g)
    (hcad : cadOf d.ranks = cadOf d'.ranks) :
    (globalMesh d).twod = (globalMesh d').twod ∧ (globalMesh d).nodes = (globalMesh d').nodes ∧
    List.Forall₂ List.Perm (globalMesh d).cells (globalMesh d').cells ∧
    (∀ t, t ≤ 2 → (geomsOf t (globalMesh d).geoms).Perm (geomsOf t (globalMesh d').geoms)) ∧
    (globalMesh d).cad = (globalMesh d').cad := by
  obtain ⟨_, g1⟩ := gatherMeshb_content part G GG d hst
  obtain ⟨_, g2⟩ := gatherMeshb_content part' G GG d' hst'
  refine ⟨htwod, ?_, ?_, fun t ht => (g1 t ht).trans (g2 t ht).symm, hcad⟩
  · show gatheredNodes d = gatheredNodes d'
    unfold gatheredNodes
    rw [← hNN, ← htwod]
    apply List.map_congr_left
    intro g hg
    rw [hsame g (List.mem_range.1 hg)]
  · show List.Forall₂ List.Perm (gatheredCells d) (gatheredCells d')
    unfold gatheredCells
    rw [List.forall₂_map_left_iff, List.forall₂_map_right_iff, List.forall₂_same]
    intro p hp
    exact (cells_perm part G GG d hst p hp).trans (cells_perm part' G GG d' hst' p hp).symm

/-! ### non-vacuity: the 3-rank world of Props/C08Gather.lean and the same global mesh on one rank -/

theorem stores_d3 : Stores part3 G3 GG3 d3 :=
  { cells := by decide, cells_ne := by decide, cells_range := by decide, geoms := by decide, geoms_range := by decide }

example : Stores part3 G3 GG3 d3 := stores_d3

/-- the same global mesh on ONE rank (what `ref` itself writes): same vertices, same cells and records up to order -/
def d1 : Dist :=
  { twod := false, nglobal := 7,
    ranks := [⟨(List.range 7).map fun g => ⟨g, 0, xyz3 g⟩, groups3 [edg3] [tri3] [pyr3], [gA, gB, gC, gD], [1, 2, 255]⟩] }

theorem stores_d1 : Stores (fun _ => 0) G3 GG3 d1 :=
  { cells := by decide, cells_ne := by decide, cells_range := by decide, geoms := by decide, geoms_range := by decide }

example : Stores (fun _ => 0) G3 GG3 d1 := stores_d1

example : (globalMesh d3).nodes = (globalMesh d1).nodes ∧
    List.Forall₂ List.Perm (globalMesh d3).cells (globalMesh d1).cells ∧
    (∀ t, t ≤ 2 → (geomsOf t (globalMesh d3).geoms).Perm (geomsOf t (globalMesh d1).geoms)) := by
  have h := gatherMeshb_np_independent part3 (fun _ => 0) G3 GG3 d3 d1 stores_d3 stores_d1 rfl rfl (by decide) (by decide)
  exact ⟨h.2.1, h.2.2.1, h.2.2.2.1⟩

end Refine.Props.C07GatherMeshb
