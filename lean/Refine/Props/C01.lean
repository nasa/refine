import Refine.Lemmas.CavityReplace
import Refine.Lemmas.CavityGrid
import Refine.Lemmas.Cavity2D
import Refine.Lemmas.CavityValid
import Refine.Lemmas.GeomReal
import Refine.Props.C15

/-!
  C01 — the cavity machine (`src/ref_cavity.c`, model `Refine/Model/Cavity.lean`) keeps the mesh conforming, at chain
  level: for every alternating `φ : Node³ → G` into an abelian group the signed boundary `Σ_tets ∂φ − Σ_tris φ` of the
  mesh is unchanged by `ref_cavity_replace`.  (a) The face list of a cavity built with `ref_cavity_add_tet` is the signed
  boundary of its `tet_list`, because `ref_cavity_insert_face` cancels reversed faces; (b) the tets `ref_cavity_replace`
  makes (live face + cavity node) have that boundary once `ref_cavity_verify_face_manifold` has passed.  Volume, the 2-D
  cavity and area are the same statements with a cone cochain for `φ`.
-/
namespace Refine.Props.C01
open Refine.Model.Cavity Refine.Lemmas.Cavity

variable {G : Type} [AddCommGroup G]

/-- `ref_cavity_insert_face` changes `Σ_{live faces} φ` by exactly `φ f`: appending adds it, cancelling the
    reversed face removes `φ(rev f) = −φ f`; the only other outcome is `REF_INVALID` with the cavity unchanged. -/
theorem insertFace_sum {φ : Int → Int → Int → G} (hφ : Alt φ) (c : Cav) (f : Face) (hinv : SlotsInv c.faces) :
    ((insertFace c f).1 = .ok ∧
      faceSum φ (insertFace c f).2.validFaces = faceSum φ c.validFaces + φF φ f ∧
      SlotsInv (insertFace c f).2.faces) ∨
    ((insertFace c f).1 = .invalid ∧ (insertFace c f).2 = c) :=
  (insertFace_cases c f).imp
    (fun ⟨h, p⟩ => ⟨h, by simpa [faceSum, Cav.validFaces] using p.sum hinv hφ, p.inv hinv⟩)
    fun e => by rw [e]; exact ⟨rfl, rfl⟩

/-- **insertFace_chain.**  Adding any list of cells with `ref_cavity_add_tet` (cells already listed are skipped, as
    in the C) either leaves a status ≠ ok / a state ≠ unknown (which blocks `replace`), or the new part `new` of
    `tet_list` satisfies `Σ_{live faces} φ = (old sum) + Σ_{t ∈ new} ∂φ t` for every alternating `φ`. -/
theorem insertFace_chain {α : Type} {φ : Int → Int → Int → G} (hφ : Alt φ) (g : Grid α) (cells : List Int)
    (c c' : Cav) (hinv : SlotsInv c.faces) (h : addTets g c cells = (.ok, c')) (hs : c'.state = .unknown) :
    ∃ new, c'.tetList = c.tetList ++ new ∧
      faceSum φ c'.validFaces = faceSum φ c.validFaces + (new.map (tetBd φ g)).sum := by
  obtain ⟨new, st⟩ := addTets_tetsListed g cells c c' h hs
  exact ⟨new, st.tets, st.sum_all hinv hφ⟩

/-- a cavity right after `ref_cavity_create` + `ref_cavity_form_empty` -/
def emptyCav (node : Int) : Cav := { Cav.create with node := node }

theorem emptyCav_inv (node : Int) : SlotsInv (emptyCav node).faces := SlotsInv.create 10

theorem emptyCav_validFaces (node : Int) : (emptyCav node).validFaces = [] := by
  simp [emptyCav, Cav.create, Cav.validFaces, Slots.valid, Slots.create, List.reduceOption]

theorem emptyCav_validSegs (node : Int) : (emptyCav node).validSegs = [] := by
  simp [emptyCav, Cav.create, Cav.validSegs, Slots.valid, Slots.create, List.reduceOption]

/-- from an empty cavity: the live faces are exactly the signed boundary of `tet_list` -/
theorem insertFace_chain_fresh {α : Type} {φ : Int → Int → Int → G} (hφ : Alt φ) (g : Grid α) (cells : List Int)
    (node : Int) (c' : Cav) (h : addTets g (emptyCav node) cells = (.ok, c')) (hs : c'.state = .unknown) :
    faceSum φ c'.validFaces = (c'.tetList.map (tetBd φ g)).sum := by
  obtain ⟨new, htl, hsum⟩ := insertFace_chain hφ g cells _ c' (emptyCav_inv node) h hs
  have h1 : (emptyCav node).tetList = [] := rfl
  rw [hsum, emptyCav_validFaces, htl, h1]; simp [faceSum]

/-- `ref_cavity_verify_face_manifold` returned `REF_SUCCESS` without flagging the cavity -/
def VerifyPassed (c : Cav) : Prop := verifyFaceManifold c = (.ok, c) ∧ c.state ≠ .inconsistent

theorem verifyPassed_loop {c : Cav} (h : VerifyPassed c) : verifyFacesLoop c.validFaces c.validFaces = .pass := by
  obtain ⟨hv, hs⟩ := h
  unfold verifyFaceManifold at hv
  rw [if_neg hs] at hv
  cases hl : verifyFacesLoop c.validFaces c.validFaces <;> rw [hl] at hv <;> simp only [] at hv
  · simp only [Prod.mk.injEq, true_and] at hv
    exact absurd (by rw [← hv]) hs
  · simp at hv

/-- **replace_conforming.**  If the manifold verification passed, the tets created by `ref_cavity_replace`
    (`face + node` for every live face not attached to the node) have as signed boundary exactly the live face
    list: the side faces `φ(a,n,b)` cancel pairwise because every directed side has exactly one reversed partner. -/
theorem replace_conforming {φ : Int → Int → Int → G} (hφ : Alt φ) (hd : Diag φ) (c : Cav)
    (hnd : ∀ f ∈ c.validFaces, Nondeg f) (hv : VerifyPassed c) :
    ((newTets c).map fun t => faceSum φ (tetFaces t)).sum = faceSum φ c.validFaces :=
  replace_chain_core hφ hd c.node c.validFaces hnd (verifyPassed_loop hv)

/-- the live faces of a cavity built with `add_tet` on a grid of non-degenerate tets are non-degenerate -/
theorem cavity_faces_nondeg {α : Type} (g : Grid α) (hg : ∀ cell t, g.tets.get? cell = some t → TetNondeg t)
    (cells : List Int) (node : Int) (c' : Cav)
    (h : addTets g (emptyCav node) cells = (.ok, c')) (hs : c'.state = .unknown) :
    ∀ f ∈ c'.validFaces, Nondeg f := by
  obtain ⟨new, st⟩ := addTets_tetsListed g cells _ c' h hs
  refine fun f hf => (st.puts.mem (emptyCav_inv node) f hf).elim (fun h0 => ?_)
    (Refine.Lemmas.Cavity2.cellFaces_eq_kept g new ▸ Refine.Lemmas.Cavity2.cellFaces_nondeg hg new f)
  rw [← Cav.validFaces, emptyCav_validFaces] at h0; cases h0

/-- **cavity_replace_conforming** = (a)+(b): build the cavity from an empty one with `add_tet`, let any later
    step (visibility check) change only the state, pass the verification: then for every alternating `φ`
    `Σ_{new tets} ∂φ = Σ_{listed (removed) tets} ∂φ` — the signed boundary chain of the mesh is unchanged. -/
theorem cavity_replace_conforming {α : Type} {φ : Int → Int → Int → G} (hφ : Alt φ) (hd : Diag φ) (g : Grid α)
    (hg : ∀ cell t, g.tets.get? cell = some t → TetNondeg t)
    (cells : List Int) (node : Int) (c' c'' : Cav)
    (h : addTets g (emptyCav node) cells = (.ok, c')) (hs : c'.state = .unknown)
    (hsame : c''.faces = c'.faces ∧ c''.tetList = c'.tetList) (hv : VerifyPassed c'') :
    ((newTets c'').map fun t => faceSum φ (tetFaces t)).sum = (c''.tetList.map (tetBd φ g)).sum := by
  have hnd : ∀ f ∈ c''.validFaces, Nondeg f := fun f hf =>
    cavity_faces_nondeg g hg cells node c' h hs f (by simpa [Cav.validFaces, hsame.1] using hf)
  rw [replace_conforming hφ hd c'' hnd hv]
  have := insertFace_chain_fresh hφ g cells node c' h hs
  simp only [Cav.validFaces, hsame.1, hsame.2] at this ⊢
  exact this

/-- unsigned conformity of the new star: after a passed verification every directed side of a live face occurs
    exactly once and its reverse exactly once among all live faces — the triangle `{a,b,node}` is a face of exactly
    two cone cells (two new tets, or one new tet and the slot of an attached face). -/
theorem replace_star_two_sided (c : Cav) (hnd : ∀ f ∈ c.validFaces, Nondeg f) (hv : VerifyPassed c) :
    ∀ d ∈ allSides c.validFaces,
      (allSides c.validFaces).count d = 1 ∧ (allSides c.validFaces).count (rev d) = 1 :=
  verify_two_sided c.validFaces hnd (verifyPassed_loop hv)

/-- the blank chains of the tet and tri stores are consistent (holds for `Grid.create`, preserved by every
    modelled operation) -/
structure GridInv {α : Type} (g : Grid α) : Prop where
  tets : SlotsInv g.tets.slots
  tris : SlotsInv g.tris.slots

theorem forall₂_imp_mem {A B : Type} {R S : A → B → Prop} {l1 : List A} {l2 : List B}
    (h : List.Forall₂ R l1 l2) (himp : ∀ a b, a ∈ l1 → R a b → S a b) : List.Forall₂ S l1 l2 := by
  rw [List.forall₂_iff_zip] at h ⊢
  exact ⟨h.1, fun hab => himp _ _ (List.of_mem_zip hab).1 (h.2 hab)⟩

/-- **replace_grid_multiset.**  A successful `ref_cavity_replace` whose listed cells are live turns the live tets
    into `before − listed + newTets` and the live tris into `before − listed + newTris` (as multisets: `rt`, `rs`
    are the removed cells, looked up in the grid before the call). -/
theorem replace_grid_multiset {α : Type} (g g' : Grid α) (c c' : Cav) (hinv : GridInv g)
    (h : replace g c = (.ok, c', g'))
    (hlt : ∀ cell ∈ c.tetList, ∃ t, g.tets.get? cell = some t)
    (hls : ∀ cell ∈ c.triList, ∃ t, g.tris.get? cell = some t) :
    GridInv g' ∧ ∃ rt rs,
      List.Forall₂ (fun cell t => g.tets.get? cell = some t) c.tetList rt ∧
      List.Forall₂ (fun cell t => g.tris.get? cell = some t) c.triList rs ∧
      (rt ++ g'.tets.valid).Perm (newTets c ++ g.tets.valid) ∧
      (rs ++ g'.tris.valid).Perm (newTris c ++ g.tris.valid) ∧
      (∀ cell t, g'.tets.get? cell = some t → g.tets.get? cell = some t ∨ t ∈ newTets c) := by
  obtain ⟨_, _, _, _, et, es⟩ := replace_ok g g' c c' h
  obtain ⟨i1, p1, k1, b1⟩ := Cells.addAll_spec g.tets (newTets c) hinv.tets
  obtain ⟨i2, p2, k2, _⟩ := Cells.addAll_spec g.tris (newTris c) hinv.tris
  obtain ⟨i3, ⟨rt, f3, p3⟩, b3⟩ := Cells.removeAll_spec _ _ c.tetList i1 et
  obtain ⟨i4, ⟨rs, f4, p4⟩, _⟩ := Cells.removeAll_spec _ _ c.triList i2 es
  refine ⟨⟨i3, i4⟩, rt, rs, ?_, ?_, p3.symm.trans p1, p4.symm.trans p2, fun cell t ht => b1 cell t (b3 cell t ht)⟩
  · -- a listed cell was live before the additions, and additions keep live cells where they are
    refine forall₂_imp_mem f3 fun cell t hc ht => ?_
    obtain ⟨t0, ht0⟩ := hlt cell hc
    exact ht0.trans ((k1 cell t0 ht0).symm.trans ht)
  · refine forall₂_imp_mem f4 fun cell t hc ht => ?_
    obtain ⟨t0, ht0⟩ := hls cell hc
    exact ht0.trans ((k2 cell t0 ht0).symm.trans ht)

/-- grid invariant carried along a history of cavity operations -/
structure GridOK {α : Type} (g : Grid α) : Prop where
  inv : GridInv g
  nondeg : ∀ cell t, g.tets.get? cell = some t → TetNondeg t

/-- a new tet is a live face, not attached to the cavity node, coned to it -/
theorem replace_gridOK {α : Type} (g g' : Grid α) (c c' : Cav) (hok : GridOK g)
    (hnd : ∀ f ∈ c.validFaces, Nondeg f)
    (hlt : ∀ cell ∈ c.tetList, ∃ t, g.tets.get? cell = some t)
    (hls : ∀ cell ∈ c.triList, ∃ t, g.tris.get? cell = some t)
    (hrep : replace g c = (.ok, c', g')) : GridOK g' := by
  obtain ⟨hinv', _, _, _, _, _, _, hback⟩ := replace_grid_multiset g g' c c' hok.inv hrep hlt hls
  refine ⟨hinv', fun cell t ht => ?_⟩
  rcases hback cell t ht with h0 | h0
  · exact hok.nondeg cell t h0
  · obtain ⟨f, hf, hhas, rfl⟩ := mem_newTets h0
    obtain ⟨h01, h12, h20⟩ := hnd f hf
    simp only [Face.has, Bool.or_eq_false_iff, beq_eq_false_iff_ne, ne_eq] at hhas
    exact ⟨h01, fun e => h20 e.symm, fun e => hhas.1.1 e.symm, h12, fun e => hhas.1.2 e.symm,
      fun e => hhas.2 e.symm⟩

theorem removed_sum {α : Type} (φ : Int → Int → Int → G) (g : Grid α) (cells : List Int) (rt : List Tet)
    (h : List.Forall₂ (fun cell t => g.tets.get? cell = some t) cells rt) :
    (rt.map fun t => faceSum φ (tetFaces t)).sum = (cells.map (tetBd φ g)).sum := by
  induction h with
  | nil => simp
  | cons hab _ ih => simp only [List.map_cons, List.sum_cons, ih, tetBd, hab]

/-- one cavity operation on tets: build with `add_tet` from an empty cavity, change nothing but the state
    (`check_visible`), `replace` succeeds -/
def CavStep {α : Type} (g g' : Grid α) : Prop :=
  ∃ cells node c1 c2 c2', addTets g (emptyCav node) cells = (.ok, c1) ∧ c1.state = .unknown ∧
    c2.faces = c1.faces ∧ c2.tetList = c1.tetList ∧ c2.triList = [] ∧ c2.validSegs = [] ∧
    replace g c2 = (.ok, c2', g')

/-- **replace_mesh_conforming.**  One cavity operation keeps the signed boundary of the tet group, keeps the
    tris, and keeps the grid invariant: `∂φ M' = ∂φ M` for every alternating `φ`. -/
theorem replace_mesh_conforming {α : Type} {φ : Int → Int → Int → G} (hφ : Alt φ) (hd : Diag φ)
    (g g' : Grid α) (hok : GridOK g) (hstep : CavStep g g') :
    GridOK g' ∧ tetsBd φ g' = tetsBd φ g ∧ g'.tris.valid.Perm g.tris.valid ∧ meshBd φ g' = meshBd φ g := by
  obtain ⟨cells, node, c1, c2, c2', hadd, hs, hfaces, htl, htri, hseg, hrep⟩ := hstep
  obtain ⟨hc2, hvis, hvf, _, _⟩ := replace_ok g g' c2 c2' hrep
  have hv : VerifyPassed c2 := ⟨hvf, by rw [hvis]; decide⟩
  have hlisted : ∀ cell ∈ c2.tetList, ∃ t, g.tets.get? cell = some t := by
    obtain ⟨new, st⟩ := addTets_tetsListed g cells _ c1 hadd hs
    intro cell hc
    rw [htl, st.tets] at hc
    simp only [emptyCav, Cav.create, List.nil_append] at hc
    exact st.live cell hc
  have hls : ∀ cell ∈ c2.triList, ∃ t, g.tris.get? cell = some t := by rw [htri]; simp
  obtain ⟨_, rt, rs, frt, frs, pt, ps, _⟩ := replace_grid_multiset g g' c2 c2' hok.inv hrep hlisted hls
  have hnd1 := cavity_faces_nondeg g hok.nondeg cells node c1 hadd hs
  have hnd2 : ∀ f ∈ c2.validFaces, Nondeg f := by
    intro f hf; exact hnd1 f (by simpa [Cav.validFaces, hfaces] using hf)
  have hconf := cavity_replace_conforming hφ hd g hok.nondeg cells node c1 c2 hadd hs ⟨hfaces, htl⟩ hv
  -- the removed tets are the listed cells
  have hrt := removed_sum φ g c2.tetList rt frt
  have hsum := (pt.map fun t => faceSum φ (tetFaces t)).sum_eq
  simp only [List.map_append, List.sum_append] at hsum
  have htets : tetsBd φ g' = tetsBd φ g := by
    unfold tetsBd
    rw [hrt, ← hconf] at hsum
    exact add_left_cancel hsum
  have hrs : rs = [] := by rw [htri] at frs; cases frs; rfl
  have hnt : newTris c2 = [] := by simp [newTris, hseg]
  have htris : g'.tris.valid.Perm g.tris.valid := by simpa [hrs, hnt] using ps
  refine ⟨replace_gridOK g g' c2 c2' hok hnd2 hlisted hls hrep, htets, htris, ?_⟩
  unfold meshBd
  rw [htets, (htris.map fun t => φ t.n0 t.n1 t.n2).sum_eq]

/-- a finite history of cavity operations -/
inductive CavHistory {α : Type} : Grid α → Grid α → Prop
  | nil (g : Grid α) : CavHistory g g
  | cons {g g1 g2 : Grid α} : CavStep g g1 → CavHistory g1 g2 → CavHistory g g2

/-- **cavity_history_conforming.**  Any chain of successful cavity replacements preserves the signed boundary
    chain of the mesh (and the grid invariant), for every alternating `φ` into every abelian group. -/
theorem cavity_history_conforming {α : Type} {φ : Int → Int → Int → G} (hφ : Alt φ) (hd : Diag φ)
    (g g' : Grid α) (hok : GridOK g) (hist : CavHistory g g') :
    GridOK g' ∧ meshBd φ g' = meshBd φ g ∧ g'.tris.valid.Perm g.tris.valid := by
  induction hist with
  | nil g => exact ⟨hok, rfl, List.Perm.refl _⟩
  | cons hstep _ ih =>
    obtain ⟨hok1, _, htris1, hm1⟩ := replace_mesh_conforming hφ hd _ _ hok hstep
    obtain ⟨hok2, hm2, htris2⟩ := ih hok1
    exact ⟨hok2, hm2.trans hm1, htris2.trans htris1⟩

section volume
open Refine Refine.Model.Geom Refine.ScalarReal

/-- `ref_node_tet_vol` of a cell for vertex coordinates `x` -/
noncomputable def volOf (x : Int → V3 ℝ) (t : Tet) : ℝ := tetVol (x t.n0) (x t.n1) (x t.n2) (x t.n3)

noncomputable def coneVol (x : Int → V3 ℝ) (p : V3 ℝ) (a b c : Int) : ℝ := tetVol (x a) (x b) (x c) p

theorem coneVol_alt (x : Int → V3 ℝ) (p : V3 ℝ) : Alt (coneVol x p) :=
  ⟨fun a b c => Refine.Props.C15.tetVol_cycle012 (x a) (x b) (x c) p,
   fun a b c => Refine.Props.C15.tetVol_swap01 (x a) (x b) (x c) p⟩

theorem coneVol_diag (x : Int → V3 ℝ) (p : V3 ℝ) : Diag (coneVol x p) :=
  fun a b => Refine.Props.C15.tetVol_degenerate (x a) (x b) p

/-- cone4 with the rows of the regenerated face table: a tet is the signed sum of the cones over its 4 faces -/
theorem tetBd_coneVol (x : Int → V3 ℝ) (p : V3 ℝ) (t : Tet) : faceSum (coneVol x p) (tetFaces t) = volOf x t := by
  rcases t with ⟨a, b, c, d⟩
  simp only [tetFaces_eq, faceSum, List.map_cons, List.map_nil, List.sum_cons, List.sum_nil, φF, coneVol, volOf,
    tetVol, add_eq, sub_eq, mul_eq, div_eq, neg_eq, ofInt_eq]
  push_cast; ring

/-- **replace_volume.**  Under the hypotheses of `cavity_replace_conforming`, the total volume of the new tets
    equals the total volume of the removed tets exactly (real arithmetic), wherever the cavity node lies. -/
theorem replace_volume {α : Type} (x : Int → V3 ℝ) (g : Grid α)
    (hg : ∀ cell t, g.tets.get? cell = some t → TetNondeg t)
    (cells : List Int) (node : Int) (c' c'' : Cav)
    (h : addTets g (emptyCav node) cells = (.ok, c')) (hs : c'.state = .unknown)
    (hsame : c''.faces = c'.faces ∧ c''.tetList = c'.tetList) (hv : VerifyPassed c'') :
    ((newTets c'').map (volOf x)).sum =
      (c''.tetList.map fun cell => match g.tets.get? cell with | some t => volOf x t | none => 0).sum := by
  -- any apex would do for the cone cochain (`∂∂ = 0`); `x 0` is one
  rw [show volOf x = fun t => faceSum (coneVol x (x 0)) (tetFaces t) from funext fun t => (tetBd_coneVol x _ t).symm]
  exact cavity_replace_conforming (coneVol_alt x _) (coneVol_diag x _) g hg cells node c' c'' h hs hsame hv

/-- the volume of a new tet is the quantity `ref_cavity_visible` compares with `min_volume` -/
theorem newTet_volume (x : Int → V3 ℝ) (node : Int) (f : Face) (t : Tet) (h : newTetOf node f = some t) :
    volOf x t = tetVol (x f.n0) (x f.n1) (x f.n2) (x node) := by
  unfold newTetOf at h
  split at h
  · cases h
  · simp only [Option.some.injEq] at h; subst h; rfl

/-- **visible_positive.**  If `ref_cavity_check_visible` moved the cavity from `unknown` to `visible`, every tet
    that `ref_cavity_replace` will create has all four nodes valid and its `ref_node_tet_vol` failed the test
    `volume <= min_volume` (any scalar type: this is the model function run by the driver at `Float`). -/
theorem visible_positive {α : Type} [Scalar α] (g : Grid α) (c c' : Cav) (s : Refine.Model.Cavity.St)
    (h : checkVisible g c = (s, c')) (h0 : c.state = .unknown) (h1 : c'.state = .visible) :
    ∀ t ∈ newTets c', ∃ v, tetVolAt g t.n0 t.n1 t.n2 t.n3 = some v ∧ (v <=. (minVolume : α)) = false := by
  obtain ⟨_, hc, hl⟩ := checkVisible_visible g c c' s h h0 h1
  subst hc
  intro t ht
  obtain ⟨f, hf, hhas, rfl⟩ := mem_newTets ht
  exact checkVisibleLoop_true g c.node _ hl f hf hhas

/-- over the reals: the volume of every new tet of a visible cavity is `> 1e-15 > 0` -/
theorem visible_positive_real (g : Grid ℝ) (c c' : Cav) (s : Refine.Model.Cavity.St)
    (h : checkVisible g c = (s, c')) (h0 : c.state = .unknown) (h1 : c'.state = .visible) :
    ∀ t ∈ newTets c', ∃ v, tetVolAt g t.n0 t.n1 t.n2 t.n3 = some v ∧ (1e-15 : ℝ) < v ∧ 0 < v := by
  intro t ht
  obtain ⟨v, hv, hle⟩ := visible_positive g c c' s h h0 h1 t ht
  refine ⟨v, hv, ?_⟩
  rw [le_false_iff] at hle
  have hm : (minVolume : ℝ) = 1e-15 := by
    simp only [minVolume, ofDec_eq]; norm_num
  rw [hm] at hle
  exact ⟨hle, lt_trans (by norm_num) hle⟩

end volume

/-! The 2-D cavity (tris are the cells, segs the cavity boundary).
`ref_cavity_verify_seg_manifold` only checks that the END node of every live seg is the START of exactly one live
seg (the segs `(0,9) (1,9) (9,0)` pass, see the example below), so — unlike 3-D — conformity is not derived from the
verification: it follows from the seg list being the signed boundary of the listed tris (`∂∂ = 0`). -/

/-- `ref_cavity_insert_seg` with an empty `tet_list` (2-D): either the face ids differ and the cavity is flagged
    `boundary_constrained`, or `Σ_{live segs} ψ` changes by exactly `ψ(s)` (append, or cancellation of the reversed
    seg). -/
theorem insertSeg_sum {α : Type} {ψ : Int → Int → G} (hψ : Alt2 ψ) (g : Grid α) (c c' : Cav) (s : Seg)
    (hinv : SlotsInv c.segs) (htl : c.tetList = []) (h : insertSeg g c s = (.ok, c')) :
    c'.state = .boundary_constrained ∨
    (segSum ψ c'.validSegs = segSum ψ c.validSegs + ψ s.n0 s.n1 ∧ SlotsInv c'.segs ∧ c'.state = c.state) := by
  rcases insertSeg_spec hψ g c c' s hinv htl h with h1 | st
  · exact Or.inl h1
  · exact Or.inr ⟨st.sum, st.inv, st.state⟩

/-- **insertSeg_chain.**  After `ref_cavity_add_tri` of any list of tris (status ok, state still unknown) the live
    segs are the old ones plus the signed boundary of the new part of `tri_list`. -/
theorem insertSeg_chain {α : Type} {ψ : Int → Int → G} (hψ : Alt2 ψ) (g : Grid α) (cells : List Int) (c c' : Cav)
    (hinv : SlotsInv c.segs) (htl : c.tetList = []) (h : addTris g c cells = (.ok, c'))
    (hs : c'.state = .unknown) :
    ∃ new, c'.triList = c.triList ++ new ∧
      segSum ψ c'.validSegs = segSum ψ c.validSegs + (new.map (triBdAt ψ g)).sum := by
  obtain ⟨new, h1, h2, _, _⟩ := addTris_spec hψ g cells c c' hinv htl h hs
  exact ⟨new, h1, h2⟩

/-- **replace_conforming_2d.**  If the live segs are the signed boundary of `tri_list` for every alternating
    cochain, the tris `ref_cavity_replace` creates (`seg + node`, attached segs skipped) have the same signed boundary
    as the tris it removes — for ANY cavity node; the seg verification is not needed. -/
theorem replace_conforming_2d {α : Type} {ψ : Int → Int → G} (hψ : Alt2 ψ) (g : Grid α) (c : Cav)
    (hchain : ∀ χ : Int → Int → G, Alt2 χ → segSum χ c.validSegs = (c.triList.map (triBdAt χ g)).sum) :
    ((newTris c).map (triBd ψ)).sum = (c.triList.map (triBdAt ψ g)).sum :=
  replace_chain_core_2d hψ g c.segNode c.validSegs c.triList hchain

/-- (a)+(b) in 2-D: cavity built with `add_tri` from an empty cavity, any later change of state / node only -/
theorem cavity_replace_conforming_2d {α : Type} {ψ : Int → Int → G} (hψ : Alt2 ψ) (g : Grid α)
    (cells : List Int) (node : Int) (c' c'' : Cav)
    (h : addTris g (emptyCav node) cells = (.ok, c')) (hs : c'.state = .unknown)
    (hsame : c''.segs = c'.segs ∧ c''.triList = c'.triList) :
    ((newTris c'').map (triBd ψ)).sum = (c''.triList.map (triBdAt ψ g)).sum := by
  apply replace_conforming_2d hψ g c''
  intro χ hχ
  obtain ⟨new, h1, h2⟩ := insertSeg_chain hχ g cells _ c' (SlotsInv.create 10) rfl h hs
  have h3 : (emptyCav node).triList = [] := rfl
  rw [emptyCav_validSegs, show segSum χ [] = 0 from rfl, zero_add] at h2
  rw [h3, List.nil_append] at h1
  simp only [Cav.validSegs, hsame.1, hsame.2] at h2 ⊢
  rw [h2, h1]

section area
open Refine Refine.Model.Geom Refine.ScalarReal

/-- twice the signed area of a 2-D cell: the z component of `ref_node_tri_normal`, the number
    `ref_node_tri_twod_orientation` tests -/
noncomputable def area2 (x : Int → V3 ℝ) (t : Tri) : ℝ := (triNormal (x t.n0) (x t.n1) (x t.n2)).z

/-- one component (`sel` is `V3.x`, `V3.y` or `V3.z`) of `ref_node_tri_normal` (twice the area vector) of the triangle
    `(x a, x b, p)` -/
noncomputable def coneN (sel : V3 ℝ → ℝ) (x : Int → V3 ℝ) (p : V3 ℝ) (a b : Int) : ℝ := sel (triNormal (x a) (x b) p)

theorem coneN_alt {sel : V3 ℝ → ℝ} (h : sel = V3.x ∨ sel = V3.y ∨ sel = V3.z) (x : Int → V3 ℝ) (p : V3 ℝ) :
    Alt2 (coneN sel x p) := by
  rcases h with rfl | rfl | rfl <;> refine ⟨fun a b => ?_, fun a => ?_⟩ <;>
  · simp only [coneN, triNormal, cross, V3.sub, sub_eq, mul_eq]; ring

theorem triBd_coneN {sel : V3 ℝ → ℝ} (h : sel = V3.x ∨ sel = V3.y ∨ sel = V3.z) (x : Int → V3 ℝ) (p : V3 ℝ)
    (t : Tri) : triBd (coneN sel x p) t = sel (triNormal (x t.n0) (x t.n1) (x t.n2)) := by
  rw [triBd_eq]
  rcases h with rfl | rfl | rfl <;>
  · simp only [coneN, triNormal, cross, V3.sub, sub_eq, mul_eq]; ring

/-- **replace_area.**  In 2-D the total signed area of the new tris equals the total signed area of the removed
    tris exactly (real arithmetic), wherever the cavity node lies. -/
theorem replace_area {α : Type} (x : Int → V3 ℝ) (g : Grid α) (cells : List Int) (node : Int) (c' c'' : Cav)
    (h : addTris g (emptyCav node) cells = (.ok, c')) (hs : c'.state = .unknown)
    (hsame : c''.segs = c'.segs ∧ c''.triList = c'.triList) :
    ((newTris c'').map (area2 x)).sum =
      (c''.triList.map fun cell => match g.tris.get? cell with | some t => area2 x t | none => 0).sum := by
  rw [show area2 x = triBd (coneN V3.z x (x 0)) from funext fun t => (triBd_coneN (.inr (.inr rfl)) x _ t).symm]
  exact cavity_replace_conforming_2d (coneN_alt (.inr (.inr rfl)) x _) g cells node c' c'' h hs hsame

end area

/-- chain-level conformity of a mesh: for every abelian group and every alternating `φ` the signed boundaries of
    the tets cancel against each other and against the boundary tris (tris carry the orientation of the tet face
    they close — the convention of refine's meshes, checked on the implementation's output by the stream oracle) -/
def SignedConforming {α : Type} (m : Mesh3 α) : Prop :=
  ∀ (G : Type) [AddCommGroup G] (φ : Int → Int → Int → G), Alt φ →
    (m.tets.map fun t => faceSum φ (tetFaces t)).sum - (m.tris.map fun t => φ t.n0 t.n1 t.n2).sum = 0

/-- the key used by the orientation clause is the unordered face of `valid3Face` -/
theorem sort3s_key (a b c : Int) : (sort3s a b c).1 = sort3 a b c := by
  unfold sort3s sort3
  simp only
  split_ifs <;> rfl

/-- **Valid3 → SignedConforming**, with the combinatorial orientation clause as an explicit hypothesis:
    `Valid3` as coded counts unordered faces (two tets, or one tet + one tri); that the two sides see the face with
    opposite orientation follows from positive volumes only geometrically, so it enters as `valid3Orient m = true`
    (executable: the signed multiplicity of every unordered face is zero).  `Valid3` itself is not needed for the
    chain identity — it is what makes the orientation clause mean "exactly two, opposite". -/
theorem valid3_signedConforming {α : Type} [Refine.Scalar α] (m : Mesh3 α) (_hv : Valid3 m = true)
    (ho : valid3Orient m = true) : SignedConforming m :=
  fun _ _ _ hφ => cancels_cells hφ m.tets m.tris ho

instance (t : Tet) : Decidable (TetNondeg t) := by unfold TetNondeg; infer_instance
instance (c : Cav) : Decidable (VerifyPassed c) := by unfold VerifyPassed; infer_instance

/-- 6 nodes, the three tets (0,1,2,3), (0,1,3,4), (0,1,4,2) around the edge 0-1; the cavities below take node 5 (an edge
    split) -/
def exGrid : Grid Int :=
  let g : Grid Int := (List.range 6).foldl (fun g _ => (g.addNode ⟨⟨0, 0, 0⟩, true⟩).1) Grid.create
  ([⟨0, 1, 2, 3⟩, ⟨0, 1, 3, 4⟩, ⟨0, 1, 4, 2⟩] : List Tet).foldl (fun g t => { g with tets := (g.tets.add t).1 }) g

def exCav : Cav := (addTets exGrid (emptyCav 5) [0, 1, 2]).2

/-- hypotheses of `insertFace_chain(_fresh)`, `cavity_replace_conforming`, `replace_volume`, `replace_star_two_sided`
    are met: 12 faces inserted, 6 cancelled against their reverses, 6 live; the verification passes; 6 new tets -/
example : addTets exGrid (emptyCav 5) [0, 1, 2] = (.ok, exCav) ∧ exCav.state = .unknown ∧
    exCav.tetList = [0, 1, 2] ∧ exCav.validFaces.length = 6 ∧
    VerifyPassed { exCav with state := .visible } ∧ (newTets { exCav with state := .visible }).length = 6 := by
  decide +kernel

instance {β : Type} [DecidableEq β] (s : Slots β) : Decidable (SlotsInv s) :=
  decidable_of_iff (s.blank.Nodup ∧ ∀ i ∈ s.blank, i < s.rows.length ∧ s.rows.getD i none = none)
    ⟨fun h => ⟨h.1, h.2⟩, fun h => ⟨h.nodup, h.blank⟩⟩

def exCavVisible : Cav := { exCav with state := .visible }

theorem exGrid_ok : GridOK exGrid := by
  have add (s : Slots Tet) (t : Tet) (h : SlotsInv s) : SlotsInv (s.add 5000 t).1 :=
    (Slots.add_spec s 5000 (by decide) t h).1
  refine ⟨⟨add _ _ (add _ _ (add _ _ (SlotsInv.create 100))), SlotsInv.create 100⟩, ?_⟩
  intro cell t h
  have hm := Cells.mem_valid_of_get? h
  have hall : ∀ t ∈ exGrid.tets.valid, TetNondeg t := by decide +kernel
  exact hall t hm

example : ∀ cell t, exGrid.tets.get? cell = some t → TetNondeg t := exGrid_ok.nondeg

theorem exCavStep : CavStep exGrid (replace exGrid exCavVisible).2.2 := by
  have h1 : (replace exGrid exCavVisible).1 = .ok := by decide
  refine ⟨[0, 1, 2], 5, exCav, exCavVisible, (replace exGrid exCavVisible).2.1, by decide, by decide,
    rfl, rfl, by decide, by decide, ?_⟩
  rw [← h1]

/-- hypotheses of `replace_grid_multiset`, `replace_mesh_conforming`, `cavity_history_conforming`: the edge-split
    cavity above is replaced successfully (3 tets out, 6 tets in) -/
example : CavStep exGrid (replace exGrid exCavVisible).2.2 ∧
    (replace exGrid exCavVisible).2.2.tets.valid.length = 6 :=
  ⟨exCavStep, by decide +kernel⟩

example : CavHistory exGrid (replace exGrid exCavVisible).2.2 := CavHistory.cons exCavStep (CavHistory.nil _)

/-- 2-D: the four tris around vertex 4 of a 3x3 point grid; cavity node 4 (a collapse-like cavity) and an
    interior-edge cavity -/
def exGrid2 : Grid Int :=
  let g : Grid Int := (List.range 9).foldl (fun g _ => (g.addNode ⟨⟨0, 0, 0⟩, true⟩).1) Grid.create
  ([⟨0, 1, 4, 1⟩, ⟨1, 2, 4, 1⟩, ⟨2, 5, 4, 1⟩, ⟨5, 0, 4, 1⟩] : List Tri).foldl
    (fun g t => { g with tris := (g.tris.add t).1 }) g

/-- hypotheses of `insertSeg_chain`, `cavity_replace_conforming_2d`, `replace_area`: 12 segs inserted, 8 cancelled,
    4 live; 4 new tris from node 7 -/
example : (addTris exGrid2 (emptyCav 7) [0, 1, 2, 3]).1 = .ok ∧
    (addTris exGrid2 (emptyCav 7) [0, 1, 2, 3]).2.state = .unknown ∧
    (addTris exGrid2 (emptyCav 7) [0, 1, 2, 3]).2.validSegs.length = 4 ∧
    (newTris (addTris exGrid2 (emptyCav 7) [0, 1, 2, 3]).2).length = 4 := by decide +kernel

/-- the seg verification is one-directional: an open seg set passes it -/
example : verifySegsLoop [⟨0, 9, 1⟩, ⟨1, 9, 1⟩, ⟨9, 0, 1⟩] [⟨0, 9, 1⟩, ⟨1, 9, 1⟩, ⟨9, 0, 1⟩] = .pass := by decide +kernel

/-- both outcomes of `insertSeg_sum`: cancellation, and a face-id mismatch -/
example : (insertSeg exGrid2 (addTris exGrid2 (emptyCav 7) [0]).2 ⟨1, 0, 1⟩).2.validSegs.length = 2 ∧
    (insertSeg exGrid2 (addTris exGrid2 (emptyCav 7) [0]).2 ⟨1, 0, 2⟩).2.state = .boundary_constrained := by decide +kernel

/-- two tets glued along the face {0,1,2} with their six boundary tris: the orientation clause holds; it fails when
    one tri is flipped, and when the second tet is given the same orientation of the shared face -/
example :
    valid3Orient (⟨[], [⟨0, 1, 2, 3⟩, ⟨1, 0, 2, 4⟩],
      [⟨1, 3, 2, 1⟩, ⟨0, 2, 3, 1⟩, ⟨0, 3, 1, 1⟩, ⟨0, 4, 2, 1⟩, ⟨1, 2, 4, 1⟩, ⟨1, 4, 0, 1⟩]⟩ : Mesh3 Int) = true ∧
    valid3Orient (⟨[], [⟨0, 1, 2, 3⟩, ⟨1, 0, 2, 4⟩],
      [⟨3, 1, 2, 1⟩, ⟨0, 2, 3, 1⟩, ⟨0, 3, 1, 1⟩, ⟨0, 4, 2, 1⟩, ⟨1, 2, 4, 1⟩, ⟨1, 4, 0, 1⟩]⟩ : Mesh3 Int) = false ∧
    valid3Orient (⟨[], [⟨0, 1, 2, 3⟩, ⟨0, 1, 2, 4⟩],
      [⟨1, 3, 2, 1⟩, ⟨0, 2, 3, 1⟩, ⟨0, 3, 1, 1⟩, ⟨1, 4, 2, 1⟩, ⟨0, 2, 4, 1⟩, ⟨0, 4, 1, 1⟩]⟩ : Mesh3 Int) = false := by
  decide +kernel

/-- an integer scalar used only to run `checkVisible` inside `decide` (volumes are `-det/6` with truncating
    division, `min_volume` rounds to 0) -/
@[instance_reducible] def intScalar : Refine.Scalar Int :=
  { add := (· + ·), sub := (· - ·), mul := (· * ·), div := Int.tdiv, neg := (- ·), abs := fun a => a.natAbs,
    sqrt := id, exp := id, log := id, pow := fun a _ => a, ofInt := id,
    ofDec := fun m e => if e < 0 then 0 else m * 10 ^ e.toNat,
    le := fun a b => decide (a ≤ b), lt := fun a b => decide (a < b), isFinite := fun _ => true }

/-- the edge 0-1 along z, ring 2,3,4 around it, node 5 on the edge -/
def exGridXyz (flip : Bool) : Grid Int :=
  let pts : List (Refine.Model.Geom.V3 Int) :=
    [⟨0, 0, 0⟩, ⟨0, 0, 12⟩, ⟨12, 0, 6⟩, ⟨-6, 10, 6⟩, ⟨-6, -10, 6⟩, ⟨0, 0, 6⟩]
  let g : Grid Int := pts.foldl (fun g p => (g.addNode ⟨p, true⟩).1) Grid.create
  ((if flip then [⟨0, 1, 3, 2⟩, ⟨0, 1, 4, 3⟩, ⟨0, 1, 2, 4⟩] else [⟨0, 1, 2, 3⟩, ⟨0, 1, 3, 4⟩, ⟨0, 1, 4, 2⟩]) :
    List Tet).foldl (fun g t => { g with tets := (g.tets.add t).1 }) g

/-- hypotheses of `visible_positive`: the split cavity is visible from the mid-edge node; with the
    ring orientation reversed (inverted tets) it is `boundary_constrained` -/
example :
    (@checkVisible Int intScalar (exGridXyz false) (addTets (exGridXyz false) (emptyCav 5) [0, 1, 2]).2).2.state = .visible ∧
    (addTets (exGridXyz false) (emptyCav 5) [0, 1, 2]).2.state = .unknown ∧
    (@checkVisible Int intScalar (exGridXyz true) (addTets (exGridXyz true) (emptyCav 5) [0, 1, 2]).2).2.state =
      .boundary_constrained := by
  decide +kernel

/-- both outcomes of `insertFace_sum` occur: the reversed face cancels (ok), a rotated copy is `REF_INVALID` -/
example : (insertFace exCav ⟨4, 3, 0⟩).1 = .ok ∧ (insertFace exCav ⟨4, 3, 0⟩).2.validFaces.length = 5 ∧
    (insertFace exCav ⟨3, 4, 0⟩).1 = .invalid ∧ (insertFace exCav ⟨7, 8, 9⟩).2.validFaces.length = 7 := by
  decide +kernel

/-- the verification is not vacuous: two tets sharing only the edge 0-1 are flagged `inconsistent`, an open face
    set fails with a missing side -/
example : (verifyFaceManifold (addTets exGrid (emptyCav 5) [0]).2).1 = .ok ∧
    VerifyPassed (addTets exGrid (emptyCav 5) [0]).2 ∧
    (verifyFaceManifold (insertFace (addTets exGrid (emptyCav 5) [0]).2 ⟨2, 3, 1⟩).2).1 = .failure ∧
    (verifyFaceManifold (insertFaces (emptyCav 5)
      ((tetFaces ⟨0, 1, 2, 3⟩) ++ (tetFaces ⟨1, 0, 4, 5⟩))).2).2.state = .inconsistent := by
  decide +kernel

end Refine.Props.C01
