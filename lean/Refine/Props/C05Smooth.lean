import Refine.Lemmas.SmoothInterpBetween
import Refine.Lemmas.SmoothInterpEx
import Refine.Lemmas.SmoothInterpReal
import Refine.Props.C05

/-!
  C05 (smoothers and split insertion) — "after adaptation every vertex carries the metric obtained by log-Euclidean
  interpolation of the INPUT metric at the vertex's CURRENT position", for the bookkeeping state machine of
  `Refine/Model/SmoothInterp.lean` (tied to the C by `refdrv smoothinterp` / `harness/h_smoothinterp.c`).

  `D x cell bary` is the donor relation ("`bary` are the weights of position `x` in background cell `cell`"),
  `Bg.interp cell bary` the interpolation kernel of `Props/C05.lean`; the search outcomes are arbitrary subject to
  `Sound` (what is found is a donor of the position asked for).  Every statement quantifies over all search outcomes
  per try, all acceptance tests, all numbers of tries.

  `Fresh s`  : located on this rank, weights are weights of the CURRENT position, metric = interpolation there.
  `MetricAtPosition s` : the same under the premise "located on this rank" (unlocated vertices claim nothing).
-/
namespace Refine.Props.C05Smooth
open Refine.Model.SmoothInterp Refine.Lemmas.SmoothInterp

variable {P B M : Type}

/-- **MetricAtPosition with the exact hypothesis of the C as coded.**  A vertex that enters located on this rank:
    accepted at try `j` ⇒ it sits at `trial j` with a fresh record (metric = interpolate(locate(trial j))); all tries
    rejected ⇒ the coordinates are the original ones and the record is fresh again, EXCEPT when the final re-location
    at the original position, started from some located guess, reports `REF_NOT_FOUND` (tolerated by the `RXS`): then
    the vertex is left unlocated with whatever metric the last located try wrote.  (The name is the property's; what
    is concluded is the strong predicate `Fresh`, of which the predicate `MetricAtPosition` is the weak form.) -/
theorem improve_metricAtPosition_partial {cfg : Cfg} (hl : Live cfg) {bg : Bg P B M} {D : P → Int → B → Prop}
    (hs : Sound bg D) (kind : Kind) (g : Guards P B M) (tries : Nat) (trial : Nat → P) (s0 : NodeSt P B M)
    (h0 : Local bg s0) :
    (∀ j, (improve kind cfg bg g tries trial s0).outcome = .accepted j →
      Fresh bg D (improve kind cfg bg g tries trial s0).st ∧ (improve kind cfg bg g tries trial s0).st.xyz = trial j ∧
      j < tries ∧ g.accept j (improve kind cfg bg g tries trial s0).st = true) ∧
    ((improve kind cfg bg g tries trial s0).outcome = .rolledBack →
      (improve kind cfg bg g tries trial s0).st.xyz = s0.xyz ∧
      (Fresh bg D (improve kind cfg bg g tries trial s0).st ∨
        ((improve kind cfg bg g tries trial s0).st.cell = EMPTY ∧
          ∃ s, Local bg s ∧ (metricInterpolateNode cfg bg { s with xyz := s0.xyz }).1 = .notFound))) := by
  have key := improve_local_rule hl hs kind g tries trial s0 h0
    (fun r => r.xyz = s0.xyz ∧ (Fresh bg D r ∨ (r.cell = EMPTY ∧
      ∃ s, Local bg s ∧ (metricInterpolateNode cfg bg { s with xyz := s0.xyz }).1 = .notFound))) ?_
  · refine ⟨fun j hj => ?_, key.2⟩
    obtain ⟨⟨hf, hx⟩, ha⟩ := key.1 j hj
    exact ⟨hf, hx, ha⟩
  intro s hinv hnf
  rcases interpolate_local hl hs { s with xyz := s0.xyz } hinv with ⟨_, hf⟩ | ⟨hst, he⟩ | hst
  · exact ⟨hf.2, Or.inl hf.1⟩
  · rw [he.1]
    exact ⟨rfl, Or.inr ⟨rfl, s, hinv, hst⟩⟩
  · exact absurd hst hnf

/-- **MetricAtPosition.**  Serial run with a complete sequential fall-back (`Total`): if on entry the vertex has a
    fresh record, then after any improver call that returns it has a fresh record for its final position — the
    accepted trial position, or the original coordinates.  (Concludes `Fresh`, not only the weak `MetricAtPosition`.) -/
theorem improve_metricAtPosition {cfg : Cfg} (hl : Live cfg) {bg : Bg P B M} {D : P → Int → B → Prop}
    (hs : Sound bg D) (ht : Total bg D) (kind : Kind) (g : Guards P B M) (tries : Nat) (trial : Nat → P)
    (s0 : NodeSt P B M) (h0 : Fresh bg D s0) (hna : (improve kind cfg bg g tries trial s0).outcome ≠ .aborted) :
    Fresh bg D (improve kind cfg bg g tries trial s0).st ∧
    ((∃ j, j < tries ∧ (improve kind cfg bg g tries trial s0).outcome = .accepted j ∧
        (improve kind cfg bg g tries trial s0).st.xyz = trial j) ∨
     ((improve kind cfg bg g tries trial s0).outcome = .rolledBack ∧
        (improve kind cfg bg g tries trial s0).st.xyz = s0.xyz)) := by
  have h := improve_metricAtPosition_partial hl hs kind g tries trial s0 ⟨h0.1, h0.2.1⟩
  cases ho : (improve kind cfg bg g tries trial s0).outcome with
  | aborted => exact absurd ho hna
  | accepted j =>
    obtain ⟨a, b, c, _⟩ := h.1 j ho
    exact ⟨a, Or.inl ⟨j, c, rfl, b⟩⟩
  | rolledBack =>
    obtain ⟨a, b⟩ := h.2 ho
    rcases b with b | ⟨_, s, hls, hnf⟩
    · exact ⟨b, Or.inr ⟨rfl, a⟩⟩
    · exact absurd hnf (interpolate_total hl hs ht { s with xyz := s0.xyz } ⟨hls.1, hls.2⟩ ⟨s0.cell, s0.bary, h0.2.2.1⟩)

/-- whatever the entry state and the run (serial or not): after an improver call that returns, a vertex that is
    located on this rank has a fresh record for its current position — the weak predicate `MetricAtPosition`
    ("located ⇒ fresh"), not `Fresh` -/
theorem improve_located_implies_fresh {cfg : Cfg} (hl : Live cfg) {bg : Bg P B M} {D : P → Int → B → Prop}
    (hs : Sound bg D) (kind : Kind) (g : Guards P B M) (tries : Nat) (trial : Nat → P) (s0 : NodeSt P B M)
    (hna : (improve kind cfg bg g tries trial s0).outcome ≠ .aborted) :
    MetricAtPosition bg D (improve kind cfg bg g tries trial s0).st := by
  have key := loop_rule kind.reinterp cfg bg g trial s0.xyz (interpGuess cfg s0) (fun _ => True)
    (fun _ s => MetricAtPosition bg D s) (MetricAtPosition bg D)
    (fun s x _ hnf => ⟨trivial, fun _ => interpolate_any hl hs _ hnf⟩)
    (fun s _ hnf => interpolate_any hl hs _ hnf)
    tries 0 s0 [] trivial
  cases ho : (improve kind cfg bg g tries trial s0).outcome with
  | aborted => exact absurd ho hna
  | accepted j => exact (key.1 j ho).1
  | rolledBack => exact key.2 ho

/-- **the hazard, unlocated entry.**  A vertex that enters with `cell = REF_EMPTY` is never re-located by the
    improver: every interpolation is skipped with `REF_SUCCESS`, so an ACCEPTED try moves the vertex and keeps the
    metric of the old position (this is the path the repaired defects of /repo 2d4e510, 7d5a551 opened; as the C
    stands it needs an unlocated vertex on entry) -/
theorem improve_unlocated_keeps_metric {cfg : Cfg} (hl : Live cfg) (bg : Bg P B M) (kind : Kind) (g : Guards P B M)
    (tries : Nat) (trial : Nat → P) (s0 : NodeSt P B M) (h0 : s0.cell = EMPTY) :
    (∀ j, (improve kind cfg bg g tries trial s0).outcome = .accepted j →
      (improve kind cfg bg g tries trial s0).st = { s0 with xyz := trial j }) ∧
    ((improve kind cfg bg g tries trial s0).outcome = .rolledBack → (improve kind cfg bg g tries trial s0).st = s0) := by
  exact improve_settle kind cfg bg g tries trial s0 s0 (fun x => interpolate_empty hl bg _ h0)
    (fun x => interpolate_empty hl bg _ h0)

/-- **the hazard, donor on another part** (`refmpi`): the first interpolation marks the vertex unlocated
    (/repo 2d4e510), the rest are skipped: the vertex moves or stays, keeps its metric, and waits for
    `ref_interp_locate_warm` + `ref_metric_interpolate` at the next `ref_metric_synchronize` -/
theorem improve_offpart_keeps_metric {cfg : Cfg} (hl : Live cfg) (bg : Bg P B M) (kind : Kind) (g : Guards P B M)
    (tries : Nat) (trial : Nat → P) (s0 : NodeSt P B M) (h0 : s0.cell ≠ EMPTY) (hp : s0.part ≠ bg.rank) :
    (∀ j, (improve kind cfg bg g tries trial s0).outcome = .accepted j →
      (improve kind cfg bg g tries trial s0).st = { s0 with xyz := trial j, cell := EMPTY }) ∧
    ((improve kind cfg bg g tries trial s0).outcome = .rolledBack →
      (improve kind cfg bg g tries trial s0).st = { s0 with cell := EMPTY }) := by
  exact improve_settle kind cfg bg g tries trial s0 { s0 with cell := EMPTY }
    (fun x => interpolate_offpart hl bg _ h0 hp) (fun x => interpolate_empty hl bg _ rfl)

/-- exactly when an accepted position carries a fresh metric: iff the vertex entered located on this rank -/
theorem accepted_fresh_iff_entry_local {cfg : Cfg} (hl : Live cfg) {bg : Bg P B M} {D : P → Int → B → Prop}
    (hs : Sound bg D) (kind : Kind) (g : Guards P B M) (tries : Nat) (trial : Nat → P) (s0 : NodeSt P B M) (j : Nat)
    (hj : (improve kind cfg bg g tries trial s0).outcome = .accepted j) :
    Fresh bg D (improve kind cfg bg g tries trial s0).st ↔ Local bg s0 := by
  constructor
  · intro hf
    by_cases hc : s0.cell = EMPTY
    · have := (improve_unlocated_keeps_metric hl bg kind g tries trial s0 hc).1 j hj
      rw [this] at hf
      exact absurd hc hf.1
    · by_cases hp : s0.part = bg.rank
      · exact ⟨hc, hp⟩
      · have := (improve_offpart_keeps_metric hl bg kind g tries trial s0 hc hp).1 j hj
        rw [this] at hf
        exact absurd rfl hf.1
  · intro hloc
    exact ((improve_metricAtPosition_partial hl hs kind g tries trial s0 hloc).1 j hj).1

/-- an inserted vertex that comes out located (walk from an end node's donor, or sequential fall-back) has a fresh
    record; otherwise it is unlocated and keeps the edge-interpolated metric `ref_node_interpolate_edge` gave it -/
theorem between_located_fresh {cfg : Cfg} (hl : Live cfg) {bg : Bg P B M} {D : P → Int → B → Prop} (hs : Sound bg D)
    (n0 n1 : Option (Int × Int)) (s : NodeSt P B M) (hok : (metricInterpolateBetween cfg bg n0 n1 s).1 = .ok) :
    (metricInterpolateBetween cfg bg n0 n1 s).2.xyz = s.xyz ∧
    (Fresh bg D (metricInterpolateBetween cfg bg n0 n1 s).2 ∨
     ((metricInterpolateBetween cfg bg n0 n1 s).2.cell = EMPTY ∧ (metricInterpolateBetween cfg bg n0 n1 s).2.met = s.met)) :=
  ⟨between_frame cfg hs n0 n1 s, (between_spec hl hs n0 n1 s hok).imp_right fun h => ⟨h.1, h.2.1⟩⟩

/-- serial, complete fall-back: an inserted vertex whose position has a donor comes out with a fresh record,
    whichever of the two walks or the sequential search found it (needs `part[new_node] = rank` on the fall-back
    path: /repo 7d5a551) -/
theorem between_fresh {cfg : Cfg} (hl : Live cfg) {bg : Bg P B M} {D : P → Int → B → Prop} (hs : Sound bg D)
    (ht : Total bg D) (n0 n1 : Option (Int × Int)) (s : NodeSt P B M) (hd : ∃ c b, D s.xyz c b)
    (hok : (metricInterpolateBetween cfg bg n0 n1 s).1 = .ok) :
    Fresh bg D (metricInterpolateBetween cfg bg n0 n1 s).2 ∧ (metricInterpolateBetween cfg bg n0 n1 s).2.xyz = s.xyz := by
  refine ⟨?_, between_frame cfg hs n0 n1 s⟩
  rcases between_spec hl hs n0 n1 s hok with h | h
  · exact h
  · exact absurd h.2.2.2 (locateBetween_total ht n0 n1 s hd h.2.2.1)

/-- **history, weak form**: along any sequence of improver calls (any kinds, any vertices, any acceptance tests that
    may look at the whole grid) and split insertions, every vertex that is located on this rank has a fresh record
    (`GridWeak`: `MetricAtPosition` at every vertex) -/
theorem history_located_implies_fresh {cfg : Cfg} (hl : Live cfg) {bg : Bg P B M} {D : P → Int → B → Prop}
    (hs : Sound bg D) (ops : List (Op P B M)) :
    ∀ (G G' : GridSt P B M), GridWeak bg D G → runOps cfg bg G ops = some G' → GridWeak bg D G' := by
  intro G G' hG h
  fun_induction runOps cfg bg G ops with
  | case1 G => cases h; exact hG
  | case2 G op rest hst => cases h
  | case3 G op rest G1 hst ih =>
    refine ih (fun n => ?_) h
    cases op with
    | improve kind node g tries trial =>
      obtain ⟨hna, rfl⟩ := stepOp_improve hst
      exact GridSt.set_all (A := fun _ => True) (fun n _ _ => hG n)
        (fun _ => improve_located_implies_fresh hl hs kind (g G) tries (trial G) (G node) hna) n trivial
    | between n0 n1 new xyz met =>
      obtain ⟨s, hr, rfl⟩ := stepOp_between hst
      have hb := between_located_fresh hl hs (endOf G n0) (endOf G n1) { (G new) with xyz := xyz, met := met }
        (by rw [hr])
      rw [hr] at hb
      exact GridSt.set_all (A := fun _ => True) (fun n _ _ => hG n)
        (fun _ => hb.2.elim Fresh.weak fun h => metricAtPosition_of_empty h.1) n trivial

/-- **history, strong form** (serial, complete fall-back): if every vertex of `A` starts with a fresh record and
    every inserted position has a donor, then after any sequence of improver calls and insertions that runs through,
    every vertex of `A` and every inserted vertex has a fresh record for its CURRENT position -/
theorem history_fresh {cfg : Cfg} (hl : Live cfg) {bg : Bg P B M} {D : P → Int → B → Prop}
    (hs : Sound bg D) (ht : Total bg D) (ops : List (Op P B M)) :
    ∀ (A : Nat → Prop) (G G' : GridSt P B M), GridFresh bg D A G → (∀ op ∈ ops, OpOk D op) →
      runOps cfg bg G ops = some G' → GridFresh bg D (opsDom A ops) G' := by
  intro A G G' hG hok h
  fun_induction runOps cfg bg G ops generalizing A with
  | case1 G => cases h; exact hG
  | case2 G op rest hst => cases h
  | case3 G op rest G1 hst ih =>
    refine ih (opDom A op) ?_ (fun o ho => hok o (List.mem_cons_of_mem _ ho)) h
    have hop := hok op (List.mem_cons_self ..)
    cases op with
    | improve kind node g tries trial =>
      obtain ⟨hna, rfl⟩ := stepOp_improve hst
      exact GridSt.set_all (fun n hn _ => hG n hn) fun hn =>
        (improve_metricAtPosition hl hs ht kind (g G) tries (trial G) (G node) (hG node hn) hna).1
    | between n0 n1 new xyz met =>
      obtain ⟨s, hr, rfl⟩ := stepOp_between hst
      have hb := between_fresh hl hs ht (endOf G n0) (endOf G n1) { (G new) with xyz := xyz, met := met } hop
        (by rw [hr])
      rw [hr] at hb
      exact GridSt.set_all (fun n hn hne => hG n (hn.resolve_right hne)) fun _ => hb.1

/-- the property's own sentence: if the interpolation kernel reproduces a field exactly at donors (`Props/C05`:
    `logCombine_loglinear` for a log-linear field and barycentric weights), a fresh vertex carries the field at its
    current position -/
theorem fresh_carries_field {bg : Bg P B M} {D : P → Int → B → Prop} (field : P → M)
    (hexact : ∀ x c b m, D x c b → bg.interp c b = some m → m = field x) (s : NodeSt P B M) (h : Fresh bg D s) :
    s.met = field s.xyz :=
  hexact s.xyz s.cell s.bary s.met h.2.2.1 h.2.2.2

/-- **C05 along a history** (serial, complete fall-back, exact kernel): every tracked vertex carries the background
    field evaluated at its current position after any sequence of smoothing calls and split insertions -/
theorem history_carries_field {cfg : Cfg} (hl : Live cfg) {bg : Bg P B M} {D : P → Int → B → Prop}
    (hs : Sound bg D) (ht : Total bg D) (field : P → M)
    (hexact : ∀ x c b m, D x c b → bg.interp c b = some m → m = field x)
    (ops : List (Op P B M)) (A : Nat → Prop) (G G' : GridSt P B M) (hG : GridFresh bg D A G)
    (hok : ∀ op ∈ ops, OpOk D op) (hrun : runOps cfg bg G ops = some G') :
    ∀ n, opsDom A ops n → (G' n).met = field (G' n).xyz :=
  fun n hn => fresh_carries_field field hexact (G' n) (history_fresh hl hs ht ops A G G' hG hok hrun n hn)

open Refine Refine.Model.Matrix Refine.Model.Metric in
open Refine.Model.Geom (V3 B4) in
/-- **metric(v) = exp(L(x_v))**: on a log-linear tetrahedral background a vertex with a fresh record stores exactly
    `L(x_v)` as its log metric and `exp_m(L(x_v))` as its metric (exact arithmetic) — the statement the stream
    oracles evaluate on the implementation's output -/
theorem fresh_loglinear (verts : Int → V3 ℝ × V3 ℝ × V3 ℝ × V3 ℝ) (L0 Lx Ly Lz : M6 ℝ)
    (bg : Bg (V3 ℝ) (B4 ℝ) (M6 ℝ × M6 ℝ)) (hbg : bg.interp = loglinInterp verts L0 Lx Ly Lz)
    (s : NodeSt (V3 ℝ) (B4 ℝ) (M6 ℝ × M6 ℝ)) (h : Fresh bg (BaryDonor verts) s) :
    s.met.2 = affM L0 Lx Ly Lz s.xyz ∧ expM (affM L0 Lx Ly Lz s.xyz) = .ok s.met.1 := by
  obtain ⟨_, _, ⟨h0, h1, h2, h3, hsum, hx, hy, hz⟩, hi⟩ := h
  rw [hbg] at hi
  rw [loglinInterp, interpolateNode_of_clip (C11.clipBary4_id h0 h1 h2 h3 hsum),
    C05.logCombine_loglinear s.bary L0 Lx Ly Lz _ _ _ _ s.xyz hsum hx hy hz] at hi
  cases hn : nodeMetricSetLog (affM L0 Lx Ly Lz s.xyz) with
  | error e => rw [hn] at hi; cases hi
  | ok p =>
    rw [hn] at hi
    simp only [Option.some.injEq] at hi
    subst hi
    exact C05.nodeMetricSetLog_pair _ s.met hn

open Refine.Lemmas.SmoothInterp.Ex in
/-- the hypotheses of `improve_metricAtPosition` are met by a concrete background and vertex, with a try sequence
    [not-found, located-and-rejected, located-and-accepted] -/
example : Live live ∧ Sound bg D ∧ Total bg D ∧ Fresh bg D s0 ∧
    (improve .tri live bg guards cTries trial s0).outcome = .accepted 2 ∧
    (improve .tri live bg guards cTries trial s0).calls.map (·.1) = [.notFound, .ok, .ok] :=
  ⟨live_live, sound, total, s0_fresh, by decide, by decide⟩

open Refine.Lemmas.SmoothInterp.Ex in
/-- ... and its conclusion, computed: position 3, donor cell 3, weights 21, metric 24 = interp(3, 21) -/
example : (improve .tri live bg guards cTries trial s0).st = { xyz := 3, cell := 3, part := 0, bary := 21, met := 24 } ∧
    Fresh bg D (improve .tri live bg guards cTries trial s0).st :=
  ⟨rfl, (improve_metricAtPosition live_live sound total .tri guards cTries trial s0 s0_fresh (by decide)).1⟩

open Refine.Lemmas.SmoothInterp.Ex in
/-- the hazard is real in the model: the same call on the same vertex entered UNLOCATED accepts the same try and
    keeps metric 16 (the fresh value at position 3 is 24) -/
example : (improve .tri live bg guards cTries trial { s0 with cell := EMPTY }).outcome = .accepted 2 ∧
    (improve .tri live bg guards cTries trial { s0 with cell := EMPTY }).st =
      { xyz := 3, cell := EMPTY, part := 0, bary := 14, met := 16 } :=
  ⟨by decide, rfl⟩

open Refine.Lemmas.SmoothInterp.Ex in
/-- split insertion: located by the walk from the first end node's donor; and, with both end nodes unlocated, by
    the sequential fall-back, which records the local rank as the donor's part -/
example : metricInterpolateBetween live bg (some (2, 0)) (some (5, 0)) { xyz := 4, cell := 7, part := 3, bary := 0, met := 99 } =
      (.ok, { xyz := 4, cell := 4, part := 0, bary := 28, met := 32 }) ∧
    metricInterpolateBetween live bg (some (EMPTY, 0)) none { xyz := 4, cell := 7, part := EMPTY, bary := 0, met := 99 } =
      (.ok, { xyz := 4, cell := 4, part := 0, bary := 28, met := 32 }) ∧
    metricInterpolateBetween live bg (some (2, 0)) none { xyz := 40, cell := 7, part := 3, bary := 0, met := 99 } =
      (.ok, { xyz := 40, cell := EMPTY, part := 3, bary := 0, met := 99 }) :=
  ⟨rfl, rfl, rfl⟩

end Refine.Props.C05Smooth
