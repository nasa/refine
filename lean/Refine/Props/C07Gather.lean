import Refine.Lemmas.ParGather
import Refine.Lemmas.ParCell

/-!
  C07 — rank-count independence, part (b): the gather (src/ref_gather.c).

  `ref_gather_node` writes the vertices in chunks of `chunk = MIN(n_global/np + 1, reduce_byte_limit/32)` globals:
  every rank fills the slots of the globals it OWNS (stored with `part == rank`) with payload and hit marker,
  `ref_mpi_sum` adds the slots on rank 0, rank 0 writes them and flags a hit count ≠ 1.
  `ref_gather_cell` lets the rank that owns a cell (part of its smallest global, `ref_cell_part`) emit it.

  Model: `Refine.Model.Par.gatherNodeChunked / gatherNode / gatherCell` (tied to the C by the diff streams
  `par_gather_node`, `par_gather_cell`).  The payload type `α` and its `add`/`zero` are arbitrary; the only facts used
  are `0 + x = x` and `x + 0 = x`.  (IEEE doubles satisfy them bit-for-bit except `-0.0 + 0.0 = +0.0`.)
-/
namespace Refine.Props.C07Gather
open Refine.Model.Comm Refine.Model.Par Refine.Lemmas.Par

variable {α : Type}

/-- if every global id in `[0,N)` is owned by exactly one rank, then for EVERY chunk size ≥ 1,
    every rank count ≥ 1 and every partition the gather never flags a slot (hit count exactly 1 everywhere) and what
    rank 0 writes, concatenated over all chunks, is the list of the owners' payloads in global-id order `0..N-1`. -/
theorem gather_node_once (add : α → α → α) (zero : α) (hz1 : ∀ x, add zero x = x) (hz2 : ∀ x, add x zero = x)
    (w : World (RankView α)) (hw : w ≠ []) (N chunk : Nat) (hchunk : 1 ≤ chunk)
    (honce : ∀ g, g < N → ownerCount w g = 1) :
    gatherNodeChunked add zero chunk N w = some ((List.range N).map (payloadAt zero w), false) :=
  gatherNodeChunked_once add zero (hz1 zero) w hw N chunk hchunk honce fun _ _ p _ => ⟨hz1 p, hz2 p⟩

/-- the output does not depend on the chunk size at all (no hypothesis on the world): same bytes for every
    `reduce_byte_limit` -/
theorem gather_node_chunk_independent (add : α → α → α) (zero : α) (w : World (RankView α)) (hw : w ≠ [])
    (N c1 c2 : Nat) (h1 : 1 ≤ c1) (h2 : 1 ≤ c2) :
    gatherNodeChunked add zero c1 N w = gatherNodeChunked add zero c2 N w := by
  rw [gatherNodeChunked_eq add zero w hw N c1 h1, gatherNodeChunked_eq add zero w hw N c2 h2]

/-- the gather reports "node used more or less than once" exactly when some global id
    in `[0,N)` has 0 or ≥ 2 owners -/
theorem gather_node_fails_iff (add : α → α → α) (zero : α) (w : World (RankView α)) (hw : w ≠ []) (N chunk : Nat)
    (hchunk : 1 ≤ chunk) :
    ∃ written bad, gatherNodeChunked add zero chunk N w = some (written, bad) ∧ written.length = N ∧
      (bad = true ↔ ∃ g, g < N ∧ ownerCount w g ≠ 1) := by
  refine ⟨_, _, gatherNodeChunked_eq add zero w hw N chunk hchunk, by simp, ?_⟩
  simp only [List.any_eq_true, List.mem_range, bne_iff_ne, ne_eq, colSum_snd]

/-- two distributions of the same vertex data (different rank counts, partitions,
    ghost layers, chunk sizes), each owning every global once, are gathered to the same output -/
theorem gather_node_np_independent (add : α → α → α) (zero : α) (hz1 : ∀ x, add zero x = x)
    (hz2 : ∀ x, add x zero = x) (w w' : World (RankView α)) (hw : w ≠ []) (hw' : w' ≠ []) (N c c' : Nat)
    (hc : 1 ≤ c) (hc' : 1 ≤ c') (h : ∀ g, g < N → ownerCount w g = 1) (h' : ∀ g, g < N → ownerCount w' g = 1)
    (hsame : ∀ g, g < N → payloadAt zero w g = payloadAt zero w' g) :
    gatherNodeChunked add zero c N w = gatherNodeChunked add zero c' N w' := by
  rw [gather_node_once add zero hz1 hz2 w hw N c hc h, gather_node_once add zero hz1 hz2 w' hw' N c' hc' h']
  congr 2
  apply List.map_congr_left
  intro g hg; exact hsame g (List.mem_range.mp hg)

/-- `chunk = MIN(N/np + 1, reduce_byte_limit > 0 ? reduce_byte_limit/32 : INT_MAX)` is ≥ 1
    exactly when `reduce_byte_limit ≤ 0` or `reduce_byte_limit ≥ 32` (one record).  For `0 < limit < 32` the C computes
    `chunk = 0` and its `while` loop never advances (`gather_node_hang`): the default 1 000 000 is fine. -/
theorem chunk_positive (N np : Nat) (rbl : Int) : 1 ≤ chunkOf N np rbl ↔ (rbl ≤ 0 ∨ 32 ≤ rbl) := by
  unfold chunkOf reduceChunkLimit INT_MAX
  have hq : (0 : Int) ≤ (N : Int) / (np : Int) := Int.ediv_nonneg (by omega) (by omega)
  by_cases h : rbl > 0
  · simp only [h, if_true]
    rw [Int.tdiv_eq_ediv_of_nonneg (by omega)]
    omega
  · simp only [h, if_false]
    omega

/-- with `0 < reduce_byte_limit < 32` and at least one vertex the loop never terminates (model: fuel runs out) -/
theorem gather_node_hang (add : α → α → α) (zero : α) (w : World (RankView α)) (N : Nat) (hN : 0 < N) (rbl : Int)
    (h1 : 0 < rbl) (h2 : rbl < 32) : ∃ r, gatherNode add zero rbl N w = r ∧ (match r with | .hang => True | _ => False) := by
  have hc : chunkOf N w.length rbl = 0 := by
    have := (chunk_positive N w.length rbl).not.mpr (by omega)
    omega
  have hloop : ∀ fuel acc bad, gatherLoop add zero w N 0 fuel 0 acc bad = none := by
    intro fuel
    induction fuel with
    | zero => intro acc bad; rfl
    | succ f ih =>
      intro acc bad
      unfold gatherLoop
      simp only [hN, if_true, Nat.zero_min, Nat.add_zero]
      exact ih _ _
  refine ⟨_, rfl, ?_⟩
  unfold gatherNode gatherNodeChunked
  rw [hc, hloop]
  trivial

/-- ref_gather_node as called (chunk from `reduce_byte_limit`): on a world that owns every
    global once it returns REF_SUCCESS and the payloads in global order, whatever np / partition / limit -/
theorem gather_node_spec (add : α → α → α) (zero : α) (hz1 : ∀ x, add zero x = x) (hz2 : ∀ x, add x zero = x)
    (w : World (RankView α)) (hw : w ≠ []) (N : Nat) (rbl : Int) (hrbl : rbl ≤ 0 ∨ 32 ≤ rbl)
    (honce : ∀ g, g < N → ownerCount w g = 1) :
    gatherNode add zero rbl N w = .done Status.ok ((List.range N).map (payloadAt zero w)) := by
  unfold gatherNode
  rw [gather_node_once add zero hz1 hz2 w hw N _ ((chunk_positive N w.length rbl).mpr hrbl) honce]
  rfl

/-- over a World that stores the global mesh `G` under the storage rule (rank `r` stores `c`
    iff some vertex of `c` has `part = r`, nodes of stored cells known with their true part), for every partition
    with parts in `[0,np)`: the emitted cells are a permutation of `G` (every cell exactly once: multiset equality,
    also of the written records `globals+1, tag`), `ref_cell_ncell` is `|G|`, and cell `c` is emitted by rank `r`
    iff `r` is the owner determined by `c` and the partition alone. -/
theorem gather_cell_once (part : Nat → Nat) (G : List GCell) (w : World (RankView α))
    (hcons : ∀ r v, w[r]? = some v → Consistent part G r v)
    (hne : ∀ c ∈ G, c.nodes ≠ []) (hrange : ∀ c ∈ G, ∀ g ∈ c.nodes, part g < w.length) :
    (gatherCell w).Perm G ∧ ((gatherCell w).map emit).Perm (G.map emit) ∧ ncell w = G.length ∧
    ∀ r v, w[r]? = some v → ∀ c, c ∈ emitted r v ↔ (c ∈ G ∧ cellOwner part c = some r) := by
  have hperm : (gatherCell w).Perm G := by
    refine perm_owned_all (cellOwner part) G emitted (fun r w => (emittedFrom r w).flatten) (fun _ => rfl)
      (fun _ _ _ => rfl) w (fun i v hi => emitted_perm part G i v (hcons i v hi)) fun c hc => ?_
    -- the owner of a non-empty cell is the part of its smallest vertex
    obtain ⟨g, gs, hn⟩ := List.exists_cons_of_ne_nil (hne c hc)
    have hm : minGlobal c.nodes = some (gs.foldl (fun m x => if x < m then x else m) g) := by rw [hn]; rfl
    exact ⟨_, by rw [cellOwner, hm]; rfl, hrange c hc _ (minGlobal_mem _ _ hm)⟩
  refine ⟨hperm, hperm.map emit, ?_, ?_⟩
  · unfold ncell
    rw [← List.length_flatten]
    exact hperm.length_eq
  · intro r v hv c
    have hp := emitted_perm part G r v (hcons r v hv)
    rw [hp.mem_iff]
    simp

/-- 5 vertices on 2 ranks (rank 0 owns 0,2,4 and keeps a ghost of 1; rank 1 owns 1,3 and keeps a ghost of 0) -/
def w2 : World (RankView Int) :=
  [⟨[⟨0, 0, 10⟩, ⟨2, 0, 12⟩, ⟨4, 0, 14⟩, ⟨1, 1, 11⟩], []⟩, ⟨[⟨1, 1, 11⟩, ⟨3, 1, 13⟩, ⟨0, 0, 10⟩], []⟩]

example : ∀ g, g < 5 → ownerCount w2 g = 1 := by decide
example : gatherNodeChunked (· + ·) 0 2 5 w2 = some ([10, 11, 12, 13, 14], false) := by
  rw [gather_node_once (· + ·) (0 : Int) (by simp) (by simp) w2 (by decide) 5 2 (by decide) (by decide)]
  decide
example : gatherNodeChunked (· + ·) 0 1 5 w2 = gatherNodeChunked (· + ·) 0 6 5 w2 := by decide

/-- vertex 1 owned twice, vertex 3 by nobody: the failure branch -/
def wBad : World (RankView Int) :=
  [⟨[⟨0, 0, 10⟩, ⟨1, 0, 11⟩, ⟨2, 0, 12⟩], []⟩, ⟨[⟨1, 1, 11⟩, ⟨3, 0, 13⟩], []⟩]
example : gatherNodeChunked (· + ·) 0 3 4 wBad = some ([10, 22, 12, 0], true) := by decide
example : ownerCount wBad 1 = 2 ∧ ownerCount wBad 3 = 0 := by decide

/-- two triangles (0,1,2), (1,2,3) on 3 ranks, parts 0,1,1,2 -/
def part3 : Nat → Nat := fun g => [0, 1, 1, 2].getD g 0
def G3 : List GCell := [⟨[0, 1, 2], 7⟩, ⟨[2, 1, 3], 9⟩]
def w3 : World (RankView Unit) :=
  [⟨[⟨0, 0, ()⟩, ⟨1, 1, ()⟩, ⟨2, 1, ()⟩], [⟨[0, 1, 2], 7⟩]⟩,
   ⟨[⟨0, 0, ()⟩, ⟨1, 1, ()⟩, ⟨2, 1, ()⟩, ⟨3, 2, ()⟩], [⟨[2, 1, 3], 9⟩, ⟨[0, 1, 2], 7⟩]⟩,
   ⟨[⟨1, 1, ()⟩, ⟨2, 1, ()⟩, ⟨3, 2, ()⟩], [⟨[2, 1, 3], 9⟩]⟩]
example : gatherCell w3 = [⟨[0, 1, 2], 7⟩, ⟨[2, 1, 3], 9⟩] := by decide
example : Consistent part3 G3 1 (w3.getD 1 ⟨[], []⟩) :=
  ⟨by decide, by decide⟩

end Refine.Props.C07Gather
