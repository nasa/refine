import Refine.Model.Rcb
import Refine.Lemmas.Rcb
import Refine.Lemmas.RcbReal
import Refine.Lemmas.RcbPart
import Refine.Lemmas.RcbDet

/-!
  C04 (and the precondition of the C06 migration step, and the data side of C18): the native load balancer
  `ref_migrate_to_balance → ref_migrate_new_part → ref_migrate_native_rcb_part →
   ref_migrate_native_rcb_direction` decides which rank owns which vertex.

  Every theorem is about the executable model `Refine.Model.Rcb` (tied to `ref_migrate.c` by the `rcb_fn` /
  `rcb_balance` streams: identical part arrays for the same vertices, npart, seed and `rand()` values) and holds for
  EVERY rank count `w.length ≥ 1`, every number of vertices per rank (empty ranks included), every `rand()`
  stream, every seed and direction.  Theorems that do not mention ℝ hold for every scalar type — they never look
  at a coordinate, so they hold for whatever `ref_search_selection` returns; the others are exact arithmetic
  (rounding is modelled, not verified).  The communication steps are discharged with `Lemmas.Comm.balance_spec`
  (`ref_mpi_balance`) and `Lemmas.Comm.blindsend_items` (`ref_mpi_blindsend`).

  Preconditions that appear: `npart ≤ ref_mpi_n` (`ref_migrate_to_balance` computes `MIN(ref_mpi_n, …)`) and fewer
  than `2^31` vertices in the communicator (`ref_mpi_alltoallv`'s `int` guards).
-/
namespace Refine.Props.C04Rcb
open Refine Refine.Model.Comm Refine.Model.Rcb Refine.Model.Geom Refine.Lemmas.Comm Refine.Lemmas.Rcb

/-! ## `ref_migrate_split_ratio` and termination of the recursion -/

/-- `ref_migrate_split_ratio(npart)` for `npart ≥ 2` answers `REF_SUCCESS` with `ratio = (npart/2) / npart`; the part
    counts handed to the two recursive calls, `npart0 = npart/2` and `npart1 = npart - npart0`, add up to `npart`,
    are both at least 1 and both smaller than `npart` — the measure of the (well-founded, fuel-free) recursion
    `rcbDirection`.  `npart = 0` is refused with `REF_DIV_ZERO`. -/
theorem rcb_ratio (npart : Nat) (h : 2 ≤ npart) :
    splitRatio (α := ℝ) (npart : Int) = (Status.ok, ((npart / 2 : Nat) : ℝ) / (npart : ℝ))
      ∧ npart / 2 + (npart - npart / 2) = npart
      ∧ 1 ≤ npart / 2 ∧ 1 ≤ npart - npart / 2
      ∧ npart / 2 < npart ∧ npart - npart / 2 < npart
      ∧ (splitRatio (α := ℝ) 0).1 = Status.div_zero := by
  refine ⟨splitRatio_real npart (by omega), ?_, ?_, ?_, ?_, ?_, splitRatio_zero⟩ <;> omega

/-! ## no point lost or duplicated -/

section Generic
variable {α : Type} [Scalar α] [RcbScalar α]

omit [RcbScalar α] in
/-- The copy loop of one level (`x[i] < value0 || value1 < x[i]` → half 0, else half 1), for ANY cut values
    (whatever `ref_search_selection` returned) and any scalar type: on every rank the two halves together are a
    permutation of the rank's records, and over the communicator the two halves together are a permutation of all
    records. -/
theorem rcb_partition_of_points (t : M9 α) (c : Cut α) (w : World (List (Rec α))) :
    (∀ l ∈ w, ((splitLocal t c l).1 ++ (splitLocal t c l).2).Perm l)
      ∧ (((w.map (splitLocal t c)).map (·.1)).flatten ++ ((w.map (splitLocal t c)).map (·.2)).flatten).Perm
          w.flatten :=
  ⟨fun l _ => splitLocal_perm t c l, halves_perm t c w⟩

/-- One level of `ref_migrate_native_rcb_direction` (`2 ≤ npart ≤ ref_mpi_n`): after the copy loop and the
    `ref_mpi_balance` calls the front `npart/2` ranks (`ref_mpi_front_comm` colour 0) hold exactly the records of
    half 0 and recurse with part ids `[offset, offset + npart/2)`; the other ranks hold exactly half 1 and recurse
    with the adjacent range starting at `offset + npart/2`; the result is the concatenation. -/
theorem rcb_level (hst : ∀ n : Nat, 2 ≤ n → (splitRatio (α := α) (n : Int)).1 = Status.ok)
    (t : M9 α) (seed : Int) (twod : Bool) (npart : Nat) (offset dir : Int) (w : World (List (Rec α)))
    (h2 : 2 ≤ npart) (hlen : npart ≤ w.length) (htot : (w.flatten.length : Int) ≤ INT_MAX) :
    ∃ s0 s1 : World (List (Rec α)),
      s0.length = npart / 2 ∧ s1.length = w.length - npart / 2
      ∧ s0.flatten = w.flatten.filter (inOuter t (cutOf t seed npart dir w))
      ∧ s1.flatten = w.flatten.filter (fun r => !inOuter t (cutOf t seed npart dir w) r)
      ∧ ∀ r0 r1,
          rcbDirection t seed twod (npart / 2) offset (nextDir (cutOf t seed npart dir w).dir twod) s0 = some r0 →
          rcbDirection t seed twod (npart - npart / 2) (offset + ((npart / 2 : Nat) : Int))
            (nextDir (cutOf t seed npart dir w).dir twod) s1 = some r1 →
          rcbDirection t seed twod npart offset dir w = some (r0 ++ r1) := by
  obtain ⟨s0, s1, L, e⟩ := rcbDirection_level hst t seed twod npart offset dir w h2 hlen htot
  exact ⟨s0, s1, L.len0, L.len1, L.flat0, L.flat1, e⟩

/-- The whole recursion, any scalar type whose `split_ratio` does not refuse `npart ≥ 2` (`hst`; for ℝ this is
    `rcb_ratio`): for `1 ≤ npart ≤ ref_mpi_n` the call returns on every rank; every rank ends in exactly one leaf;
    the records in the leaves are a permutation of the records handed in (each point gets exactly one part id);
    every part id lies in `[offset, offset + npart)`; every id of that range belongs to some rank. -/
theorem rcb_total_in_range (hst : ∀ n : Nat, 2 ≤ n → (splitRatio (α := α) (n : Int)).1 = Status.ok)
    (t : M9 α) (seed : Int) (twod : Bool) (npart : Nat) (offset dir : Int) (w : World (List (Rec α)))
    (h1 : 1 ≤ npart) (hlen : npart ≤ w.length) (htot : (w.flatten.length : Int) ≤ INT_MAX) :
    ∃ leaves, rcbDirection t seed twod npart offset dir w = some leaves
      ∧ leaves.length = w.length
      ∧ (leaves.flatMap (·.2)).Perm w.flatten
      ∧ (∀ l ∈ leaves, offset ≤ l.1 ∧ l.1 < offset + (npart : Int))
      ∧ (∀ k : Int, offset ≤ k → k < offset + (npart : Int) → ∃ l ∈ leaves, l.1 = k) :=
  rcbDirection_spec hst t seed twod npart offset dir w h1 hlen htot

/-- `ref_migrate_native_rcb_part` (rotation from the `rand()` stream, owned vertices only, recursion, leaf
    `ref_mpi_blindsend`s to the owners, store loop): for `1 ≤ npart ≤ ref_mpi_n` the call succeeds and in the
    `node_part` array of every rank every slot of an owned vertex holds a part id of `[0, npart)` — the id of the one
    and only assignment naming `(rank, slot)` — and every other slot still holds `REF_EMPTY`. -/
theorem rcb_part_total (hst : ∀ n : Nat, 2 ≤ n → (splitRatio (α := α) (n : Int)).1 = Status.ok)
    (npart : Nat) (seed : Int) (twod : Bool) (rands : List Nat) (w : World (List (PNode α)))
    (h1 : 1 ≤ npart) (hn : npart ≤ w.length) (htot : (w.flatten.length : Int) ≤ INT_MAX) :
    ∃ leaves parts,
      rcbDirection (transformOf twod rands) seed twod npart 0 (-1) (w.mapIdx fun r nodes => ownedRecs r nodes)
        = some leaves
      ∧ rcbPart npart seed twod rands w = some parts ∧ parts.length = w.length
      ∧ ∀ (r : Nat) (nodes : List (PNode α)), w[r]? = some nodes →
          ∃ pr : List Int, parts[r]? = some pr ∧ pr.length = nodes.length
          ∧ ∀ (i : Nat) (nd : PNode α), nodes[i]? = some nd →
              (nd.part = (r : Int) → ∃ k, pr[i]? = some k ∧ 0 ≤ k ∧ k < (npart : Int)
                  ∧ ((assignments leaves).map fun a => key a.1).count (r, i) = 1
                  ∧ ∃ a ∈ assignments leaves, key a.1 = (r, i) ∧ a.1.p = nd.p ∧ a.2 = k)
              ∧ (nd.part ≠ (r : Int) → pr[i]? = some (-1)) :=
  rcbPart_spec hst npart seed twod rands w h1 hn htot

/-- `ref_migrate_new_part` with a partitioner that reaches the native RCB (every method of this build except
    `REF_MIGRATE_SINGLE`), more than one rank and `2 ≤ npart ≤ ref_mpi_n`: the answer is `REF_SUCCESS` with exactly
    the part arrays of `rcbPart` — the `part out of range` check of `ref_migrate_report_load_balance` never fires. -/
theorem rcb_new_part_ok (hst : ∀ n : Nat, 2 ≤ n → (splitRatio (α := α) (n : Int)).1 = Status.ok)
    (method : Nat) (hm : method ≠ 1) (hm6 : method < 6) (npart : Nat) (seed : Int) (twod : Bool) (rands : List Nat)
    (w : World (List (PNode α))) (h2 : 2 ≤ npart) (hn : npart ≤ w.length)
    (htot : (w.flatten.length : Int) ≤ INT_MAX) :
    ∃ parts, rcbPart npart seed twod rands w = some parts
      ∧ newPart method (npart : Int) seed twod rands w = some (Status.ok, parts) := by
  obtain ⟨parts, hp, hrep⟩ := rcbPart_reportOk hst npart seed twod rands w (by omega) hn htot
  refine ⟨parts, hp, ?_⟩
  unfold newPart
  have hw : ¬ w.length ≤ 1 := by omega
  have hnp : ¬ ((npart : Int) < 2) := by omega
  have hm1 : (method == 1) = false := by simpa using hm
  have hm6' : ¬ method ≥ 6 := by omega
  simp only [hw, hnp, decide_false, Bool.or_false, Bool.false_eq_true, if_false, hm1, hm6', Int.toNat_natCast, hp,
    hrep, if_true]

/-- the single-part answers of `ref_migrate_new_part`: one rank, `npart < 2`, or `REF_MIGRATE_SINGLE` — every
    vertex goes to part 0; an unknown method (`≥ REF_MIGRATE_LAST`) is `REF_IMPLEMENT` -/
theorem rcb_single_cases (method : Nat) (npart : Int) (seed : Int) (twod : Bool) (rands : List Nat)
    (w : World (List (PNode α))) :
    ((w.length ≤ 1 ∨ npart < 2 ∨ method = 1) →
        newPart method npart seed twod rands w = some (Status.ok, singlePart w))
    ∧ (¬ w.length ≤ 1 → ¬ npart < 2 → 6 ≤ method →
        ∃ p, newPart method npart seed twod rands w = some (Status.implement, p)) := by
  unfold newPart
  constructor
  · rintro (h | h | h)
    · rw [if_pos (by rw [decide_eq_true h]; rfl)]
    · rw [if_pos (by rw [decide_eq_true h, Bool.or_true])]
    · rw [h, if_pos (beq_self_eq_true 1), ite_self]
  · intro h1 h2 h6
    rw [if_neg (by rw [decide_eq_false h1, decide_eq_false h2]; decide), if_neg (by rw [beq_iff_eq]; omega),
      if_pos h6]
    exact ⟨_, rfl⟩

/-- the `npart` of `ref_migrate_to_balance` never exceeds the number of ranks and is at least 1: the precondition
    `npart ≤ ref_mpi_n` of the theorems above is established by the caller -/
theorem rcb_npart_le (full : Bool) (np : Nat) (hnp : 1 ≤ np) (nGlobal maxAge : Int) :
    1 ≤ balanceNpart full np nGlobal maxAge ∧ balanceNpart full np nGlobal maxAge ≤ (np : Int) := by
  fun_cases balanceNpart full np nGlobal maxAge <;> omega

end Generic

/-- exact arithmetic instance of `rcb_total_in_range` (the hypothesis on `split_ratio` is `rcb_ratio`) -/
theorem rcb_total_in_range_real [RcbScalar ℝ] (t : M9 ℝ) (seed : Int) (twod : Bool) (npart : Nat)
    (offset dir : Int) (w : World (List (Rec ℝ)))
    (h1 : 1 ≤ npart) (hlen : npart ≤ w.length) (htot : (w.flatten.length : Int) ≤ INT_MAX) :
    ∃ leaves, rcbDirection t seed twod npart offset dir w = some leaves
      ∧ leaves.length = w.length
      ∧ (leaves.flatMap (·.2)).Perm w.flatten
      ∧ (∀ l ∈ leaves, offset ≤ l.1 ∧ l.1 < offset + (npart : Int))
      ∧ (∀ k : Int, offset ≤ k → k < offset + (npart : Int) → ∃ l ∈ leaves, l.1 = k) :=
  rcbDirection_spec splitRatio_ok_real t seed twod npart offset dir w h1 hlen htot

/-! ## balance of one cut (exact selection) -/

/-- Sizes of the two halves of one level when the two values returned by `ref_search_selection` are exact `k`-th
    elements (`IsKth`, the notion of C17 `selection_bracket`) for positions `p0 ≤ p1`: half 0 (outside the band) has
    at most `p0 + (N-1-p1)` records and misses that target by at most the surplus ties at the two cut values
    (`ties(value0) - 1 + ties(value1) - 1`); half 1 has the rest.  With all coordinates distinct the sizes are exactly
    `p0 + N-1-p1` and `p1 - p0 + 1` (both cut values go to half 1).
    NOT proved: that the 40-step bisection returns an exact `k`-th element (C17 gives the bracket
    `|value - kth| ≤ (max-min)/2^40`); at the ends (`position ≤ 0`, `≥ N-1`) it is exact (C17 `selection_ends`). -/
theorem rcb_balanced_partial (t : M9 ℝ) (c : Cut ℝ) (w : World (List (Rec ℝ))) (p0 p1 : Int)
    (h0 : IsKth (xsOf t c.dir w) p0 c.v0) (h1 : IsKth (xsOf t c.dir w) p1 c.v1) (hp : p0 ≤ p1) :
    let n0 : Int := (((w.map (splitLocal t c)).map (·.1)).flatten.length : Int)
    let n1 : Int := (((w.map (splitLocal t c)).map (·.2)).flatten.length : Int)
    let N : Int := (w.flatten.length : Int)
    p0 + (N - 1 - p1) - (ties c.v0 (xsOf t c.dir w) - 1) - (ties c.v1 (xsOf t c.dir w) - 1) ≤ n0
      ∧ n0 ≤ p0 + (N - 1 - p1)
      ∧ n0 + n1 = N := by
  intro n0 n1 N
  have hcount := outer_count (xsOf t c.dir w) p0 p1 c.v0 c.v1 h0 h1 hp
  have hN : ((xsOf t c.dir w).length : Int) = N := by
    unfold xsOf; rw [List.length_map]
  have hn0 : n0 = (((xsOf t c.dir w).filter (outerB c.v0 c.v1)).length : Int) := by
    show ((((w.map (splitLocal t c)).map (·.1)).flatten.length : Nat) : Int) = _
    rw [half0_length]
  rw [hN, ← hn0] at hcount
  refine ⟨hcount.1, hcount.2, ?_⟩
  have := (halves_perm t c w).length_eq
  rw [List.length_append] at this
  show ((_ : Nat) : Int) + ((_ : Nat) : Int) = ((_ : Nat) : Int)
  exact_mod_cast this

/-- `rcb_balanced_partial` with the positions the C computes (`(REF_LONG)` = truncation, seed ≥ 0, `npart ≥ 2`): if
    both `ref_search_selection` results are exact `k`-th elements then half 0 holds fewer than `N * npart0/npart`
    records and more than `N * npart0/npart - 2 - (ties(value0) - 1) - (ties(value1) - 1)`: the two halves differ from
    the target ratio by at most 2 plus the surplus ties at the cut values. -/
theorem rcb_balanced_target_partial (t : M9 ℝ) (seed : Int) (hs : 0 ≤ seed) (npart : Nat) (h2 : 2 ≤ npart)
    (dir : Int) (w : World (List (Rec ℝ))) :
    let c := @cutOf ℝ _ floorRcb t seed npart dir w
    let p := @cutPos ℝ _ floorRcb seed npart (w.flatten.length : Int)
    let n0 : Int := (((w.map (splitLocal t c)).map (·.1)).flatten.length : Int)
    let N : ℝ := (w.flatten.length : ℝ)
    let r : ℝ := ((npart / 2 : Nat) : ℝ) / (npart : ℝ)
    (c.v0 = selection (cutCoords t c.dir w) p.1 ∧ c.v1 = selection (cutCoords t c.dir w) p.2)
    ∧ (IsKth (xsOf t c.dir w) p.1 c.v0 → IsKth (xsOf t c.dir w) p.2 c.v1 →
        N * r - 2 - ((ties c.v0 (xsOf t c.dir w) - 1 : Int) : ℝ) - ((ties c.v1 (xsOf t c.dir w) - 1 : Int) : ℝ) < (n0 : ℝ)
          ∧ (n0 : ℝ) < N * r) := by
  intro c p n0 N r
  have htot : isum (w.map fun l => (l.length : Int)) = (w.flatten.length : Int) := isum_lengths w
  constructor
  · constructor
    · show (@cutOf ℝ _ floorRcb t seed npart dir w).v0 = _
      unfold cutOf
      simp only [htot]
      rfl
    · show (@cutOf ℝ _ floorRcb t seed npart dir w).v1 = _
      unfold cutOf
      simp only [htot]
      rfl
  · intro h0 h1
    obtain ⟨_, hp01, _, hlo, hhi⟩ :=
      cutPos_target seed hs npart h2 (w.flatten.length : Int) (Int.natCast_nonneg _)
    obtain ⟨hA, hB, _⟩ := rcb_balanced_partial t c w p.1 p.2 h0 h1 hp01
    have hA' := (Int.cast_le (R := ℝ)).mpr hA
    have hB' := (Int.cast_le (R := ℝ)).mpr hB
    simp only [n0, N]
    push_cast at hA' hB' hlo hhi ⊢
    exact ⟨by linarith only [hA', hlo], by linarith only [hB', hhi]⟩

/-! ## the partition is a function of the owned coordinates

  The function is `Lemmas.Rcb.serialPart`, the serial bisection of the gathered points; `rcbDirection_serial` and
  `rcbPart_serial` say that the parallel routine computes it — on any number of ranks `≥ npart`, so the equal sizes of
  the two communicators in `rcb_deterministic_in_data` are not needed —, `serialPart_perm` that it only sees the multiset. -/

section Data
variable [RcbScalar ℝ]

/-- What one level computes from the communicator — the direction (`ref_migrate_split_dir` with its
    `ref_mpi_min/max`), the record count, the two `ref_search_selection` values — is a function of the MULTISET of the
    coordinates held by its ranks (the two `≠ []` hypotheses are not used: it holds of empty communicators too;
    `Lemmas.Rcb.cutOf_perm` is the statement without them), of the transform, `seed`, `npart` and `dir`: not of how
    the points are distributed over the ranks, of their order on a rank, of their owner or slot. -/
theorem rcb_cut_data_only (t : M9 ℝ) (seed : Int) (npart : Nat) (dir : Int) (w w' : World (List (Rec ℝ)))
    (hw : w ≠ []) (hw' : w' ≠ []) (h : (w.flatten.map (·.p)).Perm (w'.flatten.map (·.p))) :
    cutOf t seed npart dir w = cutOf t seed npart dir w' :=
  cutOf_perm t seed npart dir w w' h

/-- Two runs of `ref_migrate_native_rcb_direction` on communicators of the same size
    that hold the same multiset of coordinates — however the points are distributed over the ranks, in whatever
    order a rank lists them (slot reuse history), whatever their owner / slot labels — give records with equal
    coordinates the same part id.  No tie condition is needed: the copy loop tests a coordinate against the cut
    values only, never a position, so tied or duplicated points always travel together. -/
theorem rcb_deterministic_in_data (t : M9 ℝ) (seed : Int) (twod : Bool) (npart : Nat) (offset dir : Int)
    (w w' : World (List (Rec ℝ)))
    (h1 : 1 ≤ npart) (hlen : npart ≤ w.length) (hlen' : w'.length = w.length)
    (htot : (w.flatten.length : Int) ≤ INT_MAX)
    (hperm : (w.flatten.map (·.p)).Perm (w'.flatten.map (·.p)))
    (leaves leaves' : World (Int × List (Rec ℝ)))
    (hl : rcbDirection t seed twod npart offset dir w = some leaves)
    (hl' : rcbDirection t seed twod npart offset dir w' = some leaves') :
    ∀ a ∈ assignments leaves, ∀ a' ∈ assignments leaves', a.1.p = a'.1.p → a.2 = a'.2 := by
  have htot' : (w'.flatten.length : Int) ≤ INT_MAX := by
    have := hperm.length_eq
    rw [List.length_map, List.length_map] at this
    omega
  obtain ⟨l, e, h⟩ := rcbDirection_serial t seed twod npart offset dir w h1 hlen htot
  obtain ⟨l', e', h'⟩ := rcbDirection_serial t seed twod npart offset dir w' h1 (hlen' ▸ hlen) htot'
  cases hl.symm.trans e
  cases hl'.symm.trans e'
  intro a ha a' ha' hp
  rw [h a ha, h' a' ha', hp, serialPart_perm t seed twod npart offset dir _ _ hperm]

/-- in one run, vertices with identical coordinates (duplicates, or exact ties in every direction) get the same
    part: the part is a function of the coordinates -/
theorem rcb_equal_points_same_part (t : M9 ℝ) (seed : Int) (twod : Bool) (npart : Nat) (offset dir : Int)
    (w : World (List (Rec ℝ))) (h1 : 1 ≤ npart) (hlen : npart ≤ w.length)
    (htot : (w.flatten.length : Int) ≤ INT_MAX) (leaves : World (Int × List (Rec ℝ)))
    (hl : rcbDirection t seed twod npart offset dir w = some leaves) :
    ∀ a ∈ assignments leaves, ∀ a' ∈ assignments leaves, a.1.p = a'.1.p → a.2 = a'.2 :=
  rcb_deterministic_in_data t seed twod npart offset dir w w h1 hlen rfl htot (List.Perm.refl _) leaves leaves hl hl

/-- `ref_migrate_native_rcb_part`: the new part of an owned vertex is a function of its coordinates, the multiset
    of all owned coordinates, `npart`, the seed, the 2-D flag and the `rand()` values — and of nothing else.  Two
    worlds with the same number of ranks that own the same coordinate multiset (vertices on other ranks, in other
    slots, listed in another order, other ghosts, other global ids) give owned vertices with equal coordinates the
    same entry of `node_part`. -/
theorem rcb_part_deterministic (npart : Nat) (seed : Int) (twod : Bool) (rands : List Nat)
    (w w' : World (List (PNode ℝ)))
    (h1 : 1 ≤ npart) (hn : npart ≤ w.length) (hlen : w'.length = w.length)
    (htot : (w.flatten.length : Int) ≤ INT_MAX) (htot' : (w'.flatten.length : Int) ≤ INT_MAX)
    (hperm : ((w.mapIdx fun r nodes => ownedRecs r nodes).flatten.map (·.p)).Perm
      ((w'.mapIdx fun r nodes => ownedRecs r nodes).flatten.map (·.p)))
    (parts parts' : World (List Int))
    (hp : rcbPart npart seed twod rands w = some parts) (hp' : rcbPart npart seed twod rands w' = some parts') :
    ∀ (r : Nat) (nodes : List (PNode ℝ)) (pr : List Int) (i : Nat) (nd : PNode ℝ),
      w[r]? = some nodes → parts[r]? = some pr → nodes[i]? = some nd → nd.part = (r : Int) →
    ∀ (r' : Nat) (nodes' : List (PNode ℝ)) (pr' : List Int) (j : Nat) (nd' : PNode ℝ),
      w'[r']? = some nodes' → parts'[r']? = some pr' → nodes'[j]? = some nd' → nd'.part = (r' : Int) →
      nd.p = nd'.p → pr[i]? = pr'[j]? :=
  Refine.Lemmas.Rcb.rcb_part_deterministic npart seed twod rands w w' h1 hn hlen htot htot' hperm parts parts' hp hp'

end Data

/-! ## non-vacuity -/

/-- the interpretation of libm and of the `(REF_LONG)` cast used in the examples -/
@[reducible] noncomputable def exRcbScalar : RcbScalar ℝ := floorRcb

/-- np = 3 with an empty rank, five points, npart = 3, 3-D: the hypotheses of `rcb_total_in_range_real` hold -/
example : ∃ leaves,
    @rcbDirection ℝ _ exRcbScalar ⟨1, 0, 0, 0, 1, 0, 0, 0, 1⟩ 0 false 3 0 (-1)
      [[⟨⟨0, 0, 0⟩, 0, 0⟩, ⟨⟨1, 2, 0⟩, 0, 1⟩], [], [⟨⟨3, 1, 1⟩, 2, 0⟩, ⟨⟨4, 0, 2⟩, 2, 1⟩, ⟨⟨5, 5, 5⟩, 2, 2⟩]]
      = some leaves ∧ leaves.length = 3 :=
  (@rcb_total_in_range_real exRcbScalar _ _ _ _ _ _ _ (by decide) (by decide) (by decide)).imp
    fun _ h => ⟨h.1, h.2.1⟩

/-- the same with stored vertices (owned and ghost), 2-D (`twod`, one `rand()` value), npart = 2 on 3 ranks:
    the hypotheses of `rcb_part_total` / `rcb_new_part_ok` hold -/
example : ∃ parts,
    @rcbPart ℝ _ exRcbScalar 2 1 true [12345]
      [[⟨0, 0, ⟨0, 0, 0⟩⟩, ⟨7, 2, ⟨2, 1, 0⟩⟩], [], [⟨7, 2, ⟨2, 1, 0⟩⟩, ⟨3, 2, ⟨1, 1, 0⟩⟩]] = some parts
    ∧ @newPart ℝ _ exRcbScalar 0 2 1 true [12345]
      [[⟨0, 0, ⟨0, 0, 0⟩⟩, ⟨7, 2, ⟨2, 1, 0⟩⟩], [], [⟨7, 2, ⟨2, 1, 0⟩⟩, ⟨3, 2, ⟨1, 1, 0⟩⟩]]
        = some (Status.ok, parts) :=
  @rcb_new_part_ok ℝ _ exRcbScalar splitRatio_ok_real 0 (by decide) (by decide) 2 _ _ _ _ (by decide) (by decide) (by decide)

/-- `IsKth` hypotheses of `rcb_balanced_partial` are satisfiable: coordinates {1, 2, 2, 3} ∪ {} ∪ {5}, cut values
    2 (position 1, a tie) and 3 (position 3) -/
example : IsKth [1, 2, 2, 3, 5] 1 2 ∧ IsKth [1, 2, 2, 3, 5] 3 3 ∧ ties 2 [1, 2, 2, 3, 5] = 2 := by
  unfold IsKth countLt countLeR ties
  norm_num [List.filter_cons]

/-- the tie behaviour as coded: two vertices with the same coordinates are never separated, so
    `npart = 2` on two identical points leaves one part empty (the balance claim is only up to ties) -/
example : (([(2 : ℝ), 2].filter (outerB 2 2)).length = 0) := by
  unfold outerB
  norm_num [List.filter_cons]

end Refine.Props.C04Rcb
