import Refine.Lemmas.InterpLocateStages
import Refine.Lemmas.InterpLocateGeom
import Refine.Lemmas.InterpLocateEx
import Refine.Lemmas.CommReduce
import Refine.Props.C11Search
import Refine.Props.C17

/-!
  C11 / C18, the staged donor search `ref_interp_locate` (`ref_interp.c`) with the walking agents of `ref_agents.c`, on any
  number of ranks.  Every theorem is about the executable SPMD model `Refine.Model.InterpLocate` — the functions
  `Drivers/InterpLocate.lean` runs and `harness/h_interplocate.c` bit-compares with the C at np = 1, 2, 3 — at `α := ℝ`
  (exact arithmetic; rounding is modelled, not verified).  The tolerances, comparison operators, loop bounds and pack
  orders the statements depend on are regenerated from the C text on every run (`Gen/InterpConsts.lean`): a change of one of
  them breaks the proof that uses it.

  * `locate_accepts_only_inside`   every receptor vertex located by stage 1 (geometry-node seeds) or stage 2 (walking
       agents, whatever ranks they crossed) has all four stored weights `≥ inside = -1e-12`.  This is what the seed
       acceptance test and `ref_interp_bary_inside` are for; it fails if the seed test reads the `bound` tolerance.
  * `locate_all_slots_written`     every located vertex (any stage) has all four slots of `ref_interp->bary` WRITTEN by the
       stage that located it, and for a 2-D donor the fourth one is `0.0` (C18: no result depends on uninitialised memory,
       for this structure).
  * `agent_migrate_roundtrip`, `agent_migrate_delivery`   `ref_agents_migrate` delivers every agent to its destination with
       mode, home, node, part, seed, global, step, target point and all four weights unchanged (via `blindsend_spec`).
  * `locate_stored_weights`, `locate_linear_exact`   what is stored for a located vertex are the weights of ITS OWN position in
       the stored cell of rank `part`'s donor, whatever ranks the agent crossed; hence `ref_interp_scalar` of a linear field is
       exact for an enclosed vertex and within `4·1e-12·M` (`clip_error_bound`) for one accepted by stage 1 or 2.
  * `arbitration_picks_global_best`, `arbitration_largest_min_weight`, `arbitration_partition_independent`   stage 3: the
       rank that sends the cell is the lowest rank among those whose best candidate has the largest min weight; the value
       does not depend on how the candidates are split over ranks.

  NOT proved: that `ref_interp_locate` succeeds, and that a successful run leaves every receptor vertex located — the
  `locate_*` statements are about a successful run and about the vertices it located (walk completeness is open as in
  `Props/C11Search.lean`; of the migration, `agent_migrate_total` gives success under its two guards).  The end-to-end
  statement "a vertex inside the donor domain ends in a cell that encloses it" is made for the serial tree path only
  (`C11Search.tree_linear_exact_inside`); here the arbitration theorems give its parallel step.
-/
namespace Refine.Props.C11Locate
open Refine Refine.Model.Geom Refine.Model.Search Refine.Model.Interp Refine.Model.InterpLocate Refine.Model.Comm
open Refine.Lemmas.InterpLocate Refine.Lemmas.Interp Refine.ScalarReal Refine.Gen Refine.GeomReal

/-- all four slots written, each `≥ t` -/
def SlotsGe (t : ℝ) (s : Slots ℝ) : Prop :=
  ∃ w0 w1 w2 w3, s = ⟨some w0, some w1, some w2, some w3⟩ ∧ t ≤ w0 ∧ t ≤ w1 ∧ t ≤ w2 ∧ t ≤ w3

/-- `ref_interp->inside` is `-1e-12` -/
theorem insideTol_eq : (insideTol : ℝ) = -(1e-12) := by
  simp only [insideTol, lit, InterpConsts.inside, ofDec_eq]
  norm_num

theorem insideTol_nonpos : (insideTol : ℝ) ≤ 0 := by rw [insideTol_eq]; norm_num

/-- all four slots written; for a 2-D donor the fourth is `0.0` -/
def Written (twod : Bool) (s : Slots ℝ) : Prop := s.written = true ∧ (twod = true → s.s3 = some (lit0 : ℝ))

theorem written_storeBary (twod : Bool) (b : B4 ℝ) : Written twod (storeBary twod Slots.unwritten b) := by
  cases twod with
  | true => rw [storeBary_twod]; exact ⟨rfl, fun _ => rfl⟩
  | false => rw [storeBary_3d]; exact ⟨rfl, fun h => by cases h⟩

theorem lt_fun_eq : (fun (a b : ℝ) => a <. b) = Refine.Lemmas.Comm.ltB := by
  funext a b
  rfl

/-- **The constants the model was validated with are the constants of the C text.**  `Gen/InterpConsts.lean` is rewritten
    from `ref_interp.c` / `ref_agents.c` on every run; the executable model reads every one of them, the theorems below
    depend on some.  This obligation pins them all: tolerances (`inside = -1e-12`, `bound = -0.1`, seeds tested with `>`
    against `inside`, `ref_interp_bary_inside` with `>=` against `inside`), `search_fuzz = 1e-12`, `donor_scale = 2`,
    the walk limit 215, 12 tree tries with `fuzz *= 10`, the four copy loops of 4 slots, `MAX_NODE_LIST = 200`, the agent
    array (10 slots, growth `MAX(5000, 1.5 max)`), and the migration record (6 integers in the order mode, home, node, part,
    seed, step; 1 global; 7 doubles = 3 coordinates + 4 weights at offset 3, send buffer initialised with 0.0).
    A change of any of them in the C text is a change of what was tied and proved: it is flagged here, whatever else it
    breaks. -/
theorem constants_of_the_c_text :
    InterpConsts.inside = (-1, -12) ∧ InterpConsts.bound = (-1, -1) ∧ InterpConsts.searchFuzz = (1, -12) ∧
    InterpConsts.donorScale = (2, 0) ∧ InterpConsts.insideMacroStrict = false ∧ InterpConsts.insideMacroUsesInside = true ∧
    InterpConsts.geomAcceptStrict = true ∧ InterpConsts.geomAcceptUsesInside = true ∧
    InterpConsts.bestDistInit = (1, 20) ∧ InterpConsts.bestBaryNone = (1, 20) ∧ InterpConsts.candidateInit = (-999, 0) ∧
    InterpConsts.geomCopy = 4 ∧ InterpConsts.walkCopy = 4 ∧ InterpConsts.processCopy = 4 ∧ InterpConsts.treeCopy = 4 ∧
    InterpConsts.walkLimit = 215 ∧ InterpConsts.locateTries = 12 ∧ InterpConsts.fuzzGrow = (1, 1) ∧
    InterpConsts.maxNodeList = 200 ∧ InterpConsts.agentsMax0 = 10 ∧ InterpConsts.agentsChunkMin = 5000 ∧
    InterpConsts.agentsGrowNum = 15 ∧ InterpConsts.agentsGrowDen = 10 ∧
    InterpConsts.nInts = 6 ∧ InterpConsts.nGlobs = 1 ∧ InterpConsts.nDbls = 7 ∧
    InterpConsts.packInts = ["mode", "home", "node", "part", "seed", "step"] ∧
    InterpConsts.unpackInts = ["mode", "home", "node", "part", "seed", "step"] ∧
    InterpConsts.packXyz = 3 ∧ InterpConsts.packBary = 4 ∧ InterpConsts.packBaryOffset = 3 ∧
    InterpConsts.unpackXyz = 3 ∧ InterpConsts.unpackBary = 4 ∧ InterpConsts.unpackBaryOffset = 3 ∧
    InterpConsts.sendDblInit = (0, 0) := by
  decide

/-- the seed acceptance test of `ref_interp_geom_nodes`, as the C text has it (`>` against the member `inside`) -/
theorem geomAccept_inside (s : Slots ℝ) (h : geomAccept s = true) : SlotsGe insideTol s := by
  obtain ⟨s0, s1, s2, s3⟩ := s
  simp only [geomAccept, InterpConsts.geomAcceptStrict, geomTol, InterpConsts.geomAcceptUsesInside, if_true, Slots.all,
    Bool.and_eq_true] at h
  obtain ⟨⟨⟨h0, h1⟩, h2⟩, h3⟩ := h
  cases s0 with
  | none => simp at h0
  | some w0 =>
  cases s1 with
  | none => simp at h1
  | some w1 =>
  cases s2 with
  | none => simp at h2
  | some w2 =>
  cases s3 with
  | none => simp at h3
  | some w3 =>
    simp only [Option.map_some, Option.getD_some, lt_iff] at h0 h1 h2 h3
    exact ⟨w0, w1, w2, w3, rfl, h0.le, h1.le, h2.le, h3.le⟩

/-- `ref_interp_bary_inside`, as the C text has it (`>=` against the member `inside`) -/
theorem walkInside_inside (b : B4 ℝ) (h : walkInside b = true) :
    insideTol ≤ b.b0 ∧ insideTol ≤ b.b1 ∧ insideTol ≤ b.b2 ∧ insideTol ≤ b.b3 := by
  simp only [walkInside, InterpConsts.insideMacroStrict, walkTol, InterpConsts.insideMacroUsesInside, if_true,
    Bool.false_eq_true, if_false, Bool.and_eq_true, le_iff] at h
  exact ⟨h.1.1.1, h.1.1.2, h.1.2, h.2⟩

/-- what an `ENCLOSING` agent carries -/
theorem walk_store_inside (twod : Bool) (b : B4 ℝ) (h : walkInside b = true) :
    SlotsGe insideTol (storeBary twod Slots.unwritten b) := by
  obtain ⟨h0, h1, h2, h3⟩ := walkInside_inside b h
  cases twod with
  | true =>
    rw [storeBary_twod]
    exact ⟨b.b0, b.b1, b.b2, lit0, rfl, h0, h1, h2, by simpa using insideTol_nonpos⟩
  | false =>
    rw [storeBary_3d]
    exact ⟨b.b0, b.b1, b.b2, b.b3, rfl, h0, h1, h2, h3⟩

/-- **`ref_interp_locate` accepts only inside.**  Start from what `ref_interp_create` leaves on every rank (nothing located,
    no agent; `seeds` = local receptor size and `rand` state per rank) and let `ref_interp_locate` succeed.  Then every
    receptor vertex that was located by stage 1 (a geometry-node seed: best cell around the NEAREST donor corner) or by
    stage 2 (a walking agent, on whatever rank it ended) has all four weight slots written and each weight `≥ inside`
    (`-1e-12`): its stored cell encloses it up to the `inside` tolerance.  Any number of ranks, any partition, any donor
    and receptor, any `rand()` sequence. -/
theorem locate_accepts_only_inside (dw : World (DonorR ℝ)) (ss : World (Search ℝ)) (rw : World (RecvR ℝ))
    (fuzz fuzz' : ℝ) (seeds : List (Nat × Nat)) (w' : World (RankSt ℝ))
    (h : locate dw ss rw fuzz (seeds.map fun q => RankSt.create q.1 q.2) = .ok (w', fuzz')) :
    ∀ st ∈ w', ∀ i, (st.stage.getD i 0 = 1 ∨ st.stage.getD i 0 = 2) → SlotsGe insideTol (st.baryOf i) := by
  have hg := goodWX_locate (clauses_good (P := SlotsGe insideTol) (P3 := fun _ => True)
    (fun dr _ b hacc => geomAccept_inside _ hacc) (fun dr _ b hin => walk_store_inside dr.d.twod b hin)
    (fun _ _ _ => trivial)) (goodWX_create seeds) h
  intro st hst i hi
  obtain ⟨r, hr⟩ := List.mem_iff_getElem?.mp hst
  exact ((hg r st hr).toGood.nodes i).1 hi

/-- the min of the four stored weights of such a vertex is `≥ inside` -/
theorem locate_min_weight_inside (dw : World (DonorR ℝ)) (ss : World (Search ℝ)) (rw : World (RecvR ℝ))
    (fuzz fuzz' : ℝ) (seeds : List (Nat × Nat)) (w' : World (RankSt ℝ))
    (h : locate dw ss rw fuzz (seeds.map fun q => RankSt.create q.1 q.2) = .ok (w', fuzz'))
    (st : RankSt ℝ) (hst : st ∈ w') (i : Nat) (hi : st.stage.getD i 0 = 1 ∨ st.stage.getD i 0 = 2) :
    ∃ b : B4 ℝ, st.baryOf i = ⟨some b.b0, some b.b1, some b.b2, some b.b3⟩ ∧ insideTol ≤ minBary4 b := by
  obtain ⟨w0, w1, w2, w3, hs, h0, h1, h2, h3⟩ := locate_accepts_only_inside dw ss rw fuzz fuzz' seeds w' h st hst i hi
  refine ⟨⟨w0, w1, w2, w3⟩, hs, ?_⟩
  simp only [minBary4, cmin_eq]
  exact le_min (le_min h0 h1) (le_min h2 h3)

/-- **No located vertex has an unwritten weight slot.**  After a successful `ref_interp_locate` from the state
    `ref_interp_create` leaves (every slot of `ref_interp->bary` never written), every receptor vertex that has been located
    — by a geometry seed, a walking agent or the tree fall-back — has all four slots written by the stage that located it;
    for a 2-D donor the fourth slot is `0.0`.  (`ref_interp_scalar` / `ref_metric_interpolate` read all four.) -/
theorem locate_all_slots_written (twod : Bool) (dw : World (DonorR ℝ)) (htw : ∀ dr ∈ dw, dr.d.twod = twod)
    (ss : World (Search ℝ)) (rw : World (RecvR ℝ)) (fuzz fuzz' : ℝ) (seeds : List (Nat × Nat)) (w' : World (RankSt ℝ))
    (h : locate dw ss rw fuzz (seeds.map fun q => RankSt.create q.1 q.2) = .ok (w', fuzz')) :
    ∀ st ∈ w', ∀ i, st.stage.getD i 0 = 1 ∨ st.stage.getD i 0 = 2 ∨ st.stage.getD i 0 = 3 →
      (st.baryOf i).written = true ∧ (twod = true → (st.baryOf i).s3 = some (lit0 : ℝ)) := by
  have hg := goodWX_locate (clauses_good (P := Written twod) (P3 := Written twod)
    (fun dr hdr b _ => by rw [htw dr hdr]; exact written_storeBary twod b)
    (fun dr hdr b _ => by rw [htw dr hdr]; exact written_storeBary twod b)
    (fun dr hdr b => by rw [htw dr hdr]; exact written_storeBary twod b)) (goodWX_create seeds) h
  intro st hst i hi
  obtain ⟨r, hr⟩ := List.mem_iff_getElem?.mp hst
  rcases hi with hi | hi | hi
  · exact ((hg r st hr).toGood.nodes i).1 (Or.inl hi)
  · exact ((hg r st hr).toGood.nodes i).1 (Or.inr hi)
  · exact ((hg r st hr).toGood.nodes i).2 hi

/-- **`ref_agents_migrate` round trip, one agent**: the three send records (`n_ints = 6` integers in the order of the C
    text, `n_globs = 1` global, `n_dbls = 7` doubles = xyz + four weights) unpack to the agent that was packed: node,
    cell seed, part, home, mode, global, step count, target point and ALL FOUR weights -/
theorem agent_migrate_roundtrip (a : AgentP ℝ) :
    unpackAgent (packAgent a).1 (packAgent a).2.1 (packAgent a).2.2 = some a := unpack_pack a

/-- **`ref_agents_migrate`, every rank** (through `blindsend_spec`, Props/C17, for the three blind sends): when the
    migration succeeds, rank `r` keeps its agents whose destination is `r` (the others are removed by increasing slot) and
    appends, in (source rank, slot) order, exactly the agents of the world whose destination is `r`, each unchanged -/
theorem agent_migrate_delivery (w w' : World (Agents ℝ)) (h : migrate w = .ok w') :
    w' = (staysOf w).zipIdx.map fun q => (deliveredG q.2 (outPairs w)).foldl (fun a ag => (a.push ag).2) q.1 :=
  migrate_spec w h

/-- in particular no agent is lost in the sense of altered: every agent after the migration is an agent from before -/
theorem agent_migrate_no_alteration (w w' : World (Agents ℝ)) (h : migrate w = .ok w') (a' : Agents ℝ) (ha : a' ∈ w')
    (p : Nat × AgentP ℝ) (hp : p ∈ a'.act) : ∃ a ∈ w, ∃ q ∈ a.act, q.2 = p.2 := migrate_mem h ha hp

/-- **`ref_agents_migrate` succeeds**: when the destination of every leaving agent is a rank and at most `INT_MAX / 7`
    agents leave in total, the three blind sends go through (`blindsend_spec`) and the result is the delivery above -/
theorem agent_migrate_total (w : World (Agents ℝ))
    (hdest : ∀ l ∈ (w.mapIdx fun r a => leaving r a), ∀ p ∈ l, 0 ≤ p.2.dest ∧ p.2.dest < (w.length : Int))
    (hsz : (7 : Int) * ((outPairs w).flatten.length : Nat) ≤ INT_MAX) :
    migrate w = .ok ((staysOf w).zipIdx.map fun q =>
      (deliveredG q.2 (outPairs w)).foldl (fun a ag => (a.push ag).2) q.1) := migrate_ok w hdest hsz

/-- **Arbitration picks the global best.**  Every rank proposes, for each of the `total` targets, the negated min weight
    of its best candidate (`1e20` if it has none).  `ref_mpi_allminwho` gives every rank the same `(vals, whos)`; for each
    target `k` the chosen rank `t = whos[k]` proposes the least value — i.e. its candidate has the LARGEST min weight among
    all ranks' candidates — and every lower rank proposes a strictly larger value (ties go to the lowest rank). -/
theorem arbitration_picks_global_best (p0 : List (ℝ × Int)) (ps : World (List (ℝ × Int))) (total : Nat)
    (hlen : ∀ l ∈ p0 :: ps, l.length = total) :
    ∃ vals whos, allminwho (fun (a b : ℝ) => a <. b) total ((p0 :: ps).map fun l => l.map (·.1)) =
        (p0 :: ps).map (fun _ => (vals, whos)) ∧
      ∀ k, k < total → ∃ t : Nat, whos.getD k 0 = (t : Int) ∧ t < (p0 :: ps).length ∧
        (((p0 :: ps).getD t []).map (·.1)).getD k 0 = vals.getD k 0 ∧
        (∀ l ∈ p0 :: ps, vals.getD k 0 ≤ (l.map (·.1)).getD k 0) ∧
        (∀ r, r < t → vals.getD k 0 < (((p0 :: ps).getD r []).map (·.1)).getD k 0) := by
  rw [lt_fun_eq]
  have hlen' : ∀ v ∈ (p0 :: ps).map (List.map (·.1)), v.length = total :=
    List.forall_mem_map.2 fun l hl => (List.length_map _).trans (hlen l hl)
  obtain ⟨vals, whos, heq, _, _, hall⟩ :=
    Refine.Props.C17.allminwho_spec (0 : ℝ) total (p0.map Prod.fst) (ps.map (List.map Prod.fst)) hlen'
  refine ⟨vals, whos, ?_, ?_⟩
  · simp only [List.map_cons] at heq ⊢
    rw [heq]
    simp only [List.map_map]
    rfl
  · intro k hk
    obtain ⟨hle, t, ht, htl, hval, hlow⟩ := hall k hk
    have hmapD : ∀ r, ((p0.map (·.1)) :: ps.map (fun l => l.map (·.1))).getD r [] =
        (((p0 :: ps).getD r []).map (·.1)) := fun r =>
      ListFacts.getD_map (l := p0 :: ps) (f := List.map (·.1)) (d := [])
    refine ⟨t, ht, by simpa using htl, ?_, ?_, ?_⟩
    · rw [← hmapD]; exact hval
    · exact fun l hl => hle _ (List.mem_map_of_mem (f := List.map (·.1)) hl)
    · intro r hr
      rw [← hmapD]; exact hlow r hr

/-- what one rank proposes: the negated `MIN(MIN(b0,b1),MIN(b2,b3))` of the candidate `ref_interp_enclosing_*_in_list`
    selects, and that candidate has the largest min weight among the rank's candidates -/
theorem propose_spec (dr : DonorR ℝ) (s : Search ℝ) (fuzz : ℝ) (x : V3 ℝ) (v : ℝ) (c : Int) (n : Nat)
    (hne : ∀ c ∈ s.touching x fuzz, c ≠ refEmpty) (h : propose dr s fuzz x = .ok ((v, c), n)) (hc : c ≠ refEmpty) :
    ∃ b, enclosingInList dr.d (s.touching x fuzz) x = (.ok, c, b) ∧ v = -(minBary4 b) ∧
      ∀ c' ∈ s.touching x fuzz, ∀ m, OkMin dr.d x c' m → m ≤ minBary dr.d.twod b := by
  revert h
  fun_cases propose dr s fuzz x <;> intro h
  -- no candidate touches the query: the proposal carries `REF_EMPTY`
  case case1 =>
    simp only [Except.ok.injEq, Prod.mk.injEq] at h
    exact absurd h.1.2.symm hc
  -- the selection among the candidates succeeds with `c0`
  case case2 l hl c0 b hsel =>
    simp only [Except.ok.injEq, Prod.mk.injEq] at h
    obtain ⟨⟨hv, rfl⟩, _⟩ := h
    rw [if_pos (by simpa using hc)] at hv
    exact ⟨b, hsel, hv ▸ rfl, (Refine.Props.C11Search.inList_max_min dr.d _ x c0 b hne hsel).2.2⟩
  case case3 => cases h

/-- **The winner's candidate has the largest min weight of all candidates of all ranks**: if rank `t` proposes a value no
    larger than rank `r`'s, and both proposals come from cells, then every candidate of rank `r` has a min weight (clamped
    at the 4th stored slot, which is `0` for a 2-D donor) no larger than that of the cell rank `t` sends -/
theorem arbitration_largest_min_weight (dt dr : DonorR ℝ) (st sr : Search ℝ) (fuzz : ℝ) (x : V3 ℝ)
    (vt vr : ℝ) (ct cr : Int) (nt nr : Nat)
    (hnet : ∀ c ∈ st.touching x fuzz, c ≠ refEmpty) (hner : ∀ c ∈ sr.touching x fuzz, c ≠ refEmpty)
    (ht : propose dt st fuzz x = .ok ((vt, ct), nt)) (hr : propose dr sr fuzz x = .ok ((vr, cr), nr))
    (hct : ct ≠ refEmpty) (hcr : cr ≠ refEmpty) (hle : vt ≤ vr) :
    ∃ bt br, enclosingInList dt.d (st.touching x fuzz) x = (.ok, ct, bt) ∧
      enclosingInList dr.d (sr.touching x fuzz) x = (.ok, cr, br) ∧ minBary4 br ≤ minBary4 bt := by
  obtain ⟨bt, h1, hvt, _⟩ := propose_spec dt st fuzz x vt ct nt hnet ht hct
  obtain ⟨br, h2, hvr, _⟩ := propose_spec dr sr fuzz x vr cr nr hner hr hcr
  refine ⟨bt, br, h1, h2, ?_⟩
  rw [hvt, hvr] at hle
  linarith

/-- **Independence of the number of ranks and of the partition.**  Two runs (any two rank counts, any two partitions of
    the donor) in which the SET of values proposed for target `k` is the same — e.g. the same candidate cells, split
    differently over the ranks — agree on the winning value: it is the least proposed value, whoever proposes it. -/
theorem arbitration_partition_independent (p0 q0 : List (ℝ × Int)) (ps qs : World (List (ℝ × Int))) (total : Nat)
    (hp : ∀ l ∈ p0 :: ps, l.length = total) (hq : ∀ l ∈ q0 :: qs, l.length = total)
    (vals vals' : List ℝ) (whos whos' : List Int)
    (h1 : allminwho (fun (a b : ℝ) => a <. b) total ((p0 :: ps).map fun l => l.map (·.1)) =
      (p0 :: ps).map (fun _ => (vals, whos)))
    (h2 : allminwho (fun (a b : ℝ) => a <. b) total ((q0 :: qs).map fun l => l.map (·.1)) =
      (q0 :: qs).map (fun _ => (vals', whos')))
    (k : Nat) (hk : k < total)
    (hsame : ∀ v : ℝ, (∃ l ∈ p0 :: ps, (l.map (·.1)).getD k 0 = v) ↔ (∃ l ∈ q0 :: qs, (l.map (·.1)).getD k 0 = v)) :
    vals.getD k 0 = vals'.getD k 0 := by
  obtain ⟨v1, w1, e1, hall1⟩ := arbitration_picks_global_best p0 ps total hp
  obtain ⟨v2, w2, e2, hall2⟩ := arbitration_picks_global_best q0 qs total hq
  rw [e1] at h1
  rw [e2] at h2
  simp only [List.map_cons, List.cons.injEq, Prod.mk.injEq] at h1 h2
  obtain ⟨⟨rfl, rfl⟩, _⟩ := h1
  obtain ⟨⟨rfl, rfl⟩, _⟩ := h2
  obtain ⟨t1, _, ht1, hv1, hle1, _⟩ := hall1 k hk
  obtain ⟨t2, _, ht2, hv2, hle2, _⟩ := hall2 k hk
  -- the winner of each run proposes a value that the other run also has
  have m1 : (p0 :: ps).getD t1 [] ∈ p0 :: ps := by
    rw [List.getD_eq_getElem?_getD, List.getElem?_eq_getElem ht1]
    exact List.getElem_mem _
  have m2 : (q0 :: qs).getD t2 [] ∈ q0 :: qs := by
    rw [List.getD_eq_getElem?_getD, List.getElem?_eq_getElem ht2]
    exact List.getElem_mem _
  obtain ⟨l2, hl2, hl2v⟩ := (hsame _).mp ⟨_, m1, hv1⟩
  obtain ⟨l1, hl1, hl1v⟩ := (hsame _).mpr ⟨_, m2, hv2⟩
  have a1 := hle2 l2 hl2
  have a2 := hle1 l1 hl1
  rw [hl2v] at a1
  rw [hl1v] at a2
  exact le_antisymm a2 a1

/-- **The stored weights belong to the vertex.**  Hypotheses on the input only: cell ids are not `REF_EMPTY`, a ghost copy
    of a receptor vertex has the coordinates of its owner's copy, and the four worlds have one entry per rank.  Then after a
    successful `ref_interp_locate`, for every receptor vertex `i` of every rank `r` that has been located (any stage):
    the stored cell is not `REF_EMPTY`, the stored part `p` is a rank, the stored cell is a cell of rank `p`'s donor, and
    the four stored slots are exactly what the C stores for the barycentric weights of THE VERTEX' OWN POSITION
    `rw[r].pt i` in that cell — whatever ranks the walking agent crossed, whichever rank proposed the tree candidate. -/
theorem locate_stored_weights (dw : World (DonorR ℝ)) (ss : World (Search ℝ)) (rw : World (RecvR ℝ))
    (fuzz fuzz' : ℝ) (seeds : List (Nat × Nat)) (w' : World (RankSt ℝ))
    (hid : CellIdsOK dw) (hgh : GhostOK rw) (hdl : dw.length = rw.length) (hsl : ss.length = rw.length)
    (hsd : seeds.length = rw.length)
    (h : locate dw ss rw fuzz (seeds.map fun q => RankSt.create q.1 q.2) = .ok (w', fuzz'))
    (r : Nat) (st : RankSt ℝ) (rc : RecvR ℝ) (hst : w'[r]? = some st) (hrc : rw[r]? = some rc)
    (i : Nat) (hi : st.stage.getD i 0 ≠ 0) :
    st.cellOf i ≠ refEmpty ∧ 0 ≤ st.part.getD i refEmpty ∧
      ∃ dr n, dw[(st.part.getD i refEmpty).toNat]? = some dr ∧ dr.d.cellAt (st.cellOf i) = some n ∧
        st.baryOf i = storeBary dr.d.twod Slots.unwritten (baryOf dr.d n (rc.pt i)).2 := by
  have hG := (goodWX_locate (clauses_geo hid hgh) (goodWX_create seeds) h r st hst).toGoodG
  obtain ⟨hp, dr, hdr, n, hn, hb⟩ := hG.nodes i hi rc hrc
  exact ⟨hG.located i hi, hp, dr, n, hdr, hn, hb⟩

/-- **Clipping costs at most `4 ε` of the spread.**  Weights that sum to one and are each `≥ -ε` (what stage 1 and stage 2
    accept with `ε = 1e-12`): the clipped, renormalised combination of any four values differs from the unclipped one by at
    most `4 ε M`, `M` a bound on the deviation of the four values from the unclipped combination. -/
theorem clip_error_bound (o w f : B4 ℝ) (ε M : ℝ) (hε : 0 ≤ ε) (hM : 0 ≤ M)
    (hsum : o.b0 + o.b1 + o.b2 + o.b3 = 1)
    (h0 : -ε ≤ o.b0) (h1 : -ε ≤ o.b1) (h2 : -ε ≤ o.b2) (h3 : -ε ≤ o.b3)
    (hc : clipBary4 o = (St.ok, w))
    (F : ℝ) (hF : o.b0 * f.b0 + o.b1 * f.b1 + o.b2 * f.b2 + o.b3 * f.b3 = F)
    (d0 : |f.b0 - F| ≤ M) (d1 : |f.b1 - F| ≤ M) (d2 : |f.b2 - F| ≤ M) (d3 : |f.b3 - F| ≤ M) :
    |w.b0 * f.b0 + w.b1 * f.b1 + w.b2 * f.b2 + w.b3 * f.b3 - F| ≤ 4 * ε * M := by
  obtain ⟨_, _, rfl, rfl⟩ := Refine.Props.C11.clipBary4_ok hc
  -- clipping moves each weight up by at most `ε`
  have clip : ∀ x : ℝ, -ε ≤ x → x ≤ max 0 x ∧ max 0 x - x ≤ ε := fun x hx =>
    ⟨le_max_right _ _, sub_le_iff_le_add'.mpr (max_le (neg_le_iff_add_nonneg.mp hx) (le_add_of_nonneg_right hε))⟩
  have term : ∀ n d : ℝ, 0 ≤ n → n ≤ ε → |d| ≤ M → |n * d| ≤ ε * M := fun n d hn hn' hd => by
    rw [abs_mul, abs_of_nonneg hn]; exact mul_le_mul hn' hd (abs_nonneg _) hε
  obtain ⟨l0, u0⟩ := clip _ h0
  obtain ⟨l1, u1⟩ := clip _ h1
  obtain ⟨l2, u2⟩ := clip _ h2
  obtain ⟨l3, u3⟩ := clip _ h3
  generalize max 0 o.b0 = m0 at *
  generalize max 0 o.b1 = m1 at *
  generalize max 0 o.b2 = m2 at *
  generalize max 0 o.b3 = m3 at *
  have hS1 : 1 ≤ m0 + m1 + m2 + m3 := hsum.symm.le.trans (add_le_add (add_le_add (add_le_add l0 l1) l2) l3)
  -- the difference is the clipped-off parts against the deviations, over the new sum
  have key : m0 / (m0 + m1 + m2 + m3) * f.b0 + m1 / (m0 + m1 + m2 + m3) * f.b1 + m2 / (m0 + m1 + m2 + m3) * f.b2 +
      m3 / (m0 + m1 + m2 + m3) * f.b3 - F =
      ((m0 - o.b0) * (f.b0 - F) + (m1 - o.b1) * (f.b1 - F) + (m2 - o.b2) * (f.b2 - F) + (m3 - o.b3) * (f.b3 - F)) /
        (m0 + m1 + m2 + m3) := by
    field_simp
    linear_combination hF - F * hsum
  rw [key, abs_div, abs_of_pos (zero_lt_one.trans_le hS1)]
  refine (div_le_self (abs_nonneg _) hS1).trans ?_
  have t0 := term _ _ (sub_nonneg.mpr l0) u0 d0
  have t1 := term _ _ (sub_nonneg.mpr l1) u1 d1
  have t2 := term _ _ (sub_nonneg.mpr l2) u2 d2
  have t3 := term _ _ (sub_nonneg.mpr l3) u3 d3
  have tri := (abs_add_le _ ((m3 - o.b3) * (f.b3 - F))).trans
    (add_le_add (abs_add_three ((m0 - o.b0) * (f.b0 - F)) ((m1 - o.b1) * (f.b1 - F)) ((m2 - o.b2) * (f.b2 - F))) le_rfl)
  linarith only [t0, t1, t2, t3, tri]

/-- **slightly outside, quantified** (the third sibling of `C11.interp_linear_inside` / `interp_linear_clipped`): weights of
    `ref_node_bary4` that are each `≥ -ε` give, after `ref_interp_scalar`'s clip, a value within `4 ε M` of the linear field at
    the query, `M` bounding the field's deviation at the four vertices -/
theorem interp_linear_near {a b c d p g : V3 ℝ} {w : B4 ℝ} (α : ℝ) {ε M v : ℝ} (hε : 0 ≤ ε) (hM : 0 ≤ M)
    (hb : bary4 a b c d p = (St.ok, w)) (h0 : -ε ≤ w.b0) (h1 : -ε ≤ w.b1) (h2 : -ε ≤ w.b2) (h3 : -ε ≤ w.b3)
    (m0 : |vdot g a - vdot g p| ≤ M) (m1 : |vdot g b - vdot g p| ≤ M) (m2 : |vdot g c - vdot g p| ≤ M)
    (m3 : |vdot g d - vdot g p| ≤ M)
    (hv : interpScalar 4 w ⟨α + vdot g a, α + vdot g b, α + vdot g c, α + vdot g d⟩ = (St.ok, v)) :
    |v - (α + vdot g p)| ≤ 4 * ε * M := by
  have hsum := Refine.Props.C15.bary4_sum hb
  obtain ⟨w', hc, rfl⟩ := Refine.Props.C11.interpScalar_ok hv
  have hbound := clip_error_bound w w' ⟨α + vdot g a, α + vdot g b, α + vdot g c, α + vdot g d⟩ ε M hε hM hsum h0 h1 h2 h3 hc
    (α + vdot g p) (Refine.Props.C11.convex_linear _ _ _ _ α g _ _ _ _ _ hsum (Refine.Props.C15.bary4_reproduce hb))
    (by simpa using m0) (by simpa using m1) (by simpa using m2) (by simpa using m3)
  simpa using hbound

/-- **`ref_interp_locate` + `ref_interp_scalar` is linearly exact, whichever stage located the vertex** (tetrahedral
    donors, exact arithmetic).  Under the input hypotheses of `locate_stored_weights`, take a located receptor vertex `i` of
    rank `r`, at position `x`; let `n` be its stored cell (a cell of rank `part`'s donor) and suppose `ref_node_bary4` of `x`
    in it succeeds with weights `b`.  Then the four stored slots are `b`, and for every field `α + g·p` linear in space:
    * if the stored cell encloses the vertex (all `b ≥ 0` — what the tree stage guarantees for a vertex inside the donor
      domain: `tree_linear_exact_inside`), `ref_interp_scalar` returns EXACTLY `α + g·x`;
    * if the vertex was located by a geometry seed or a walk (stage 1 / 2), every value `ref_interp_scalar` returns is
      within `4 · 1e-12 · M` of `α + g·x`, `M` bounding `|g·(pₖ - x)|` over the four cell vertices: round-off size. -/
theorem locate_linear_exact (dw : World (DonorR ℝ)) (ss : World (Search ℝ)) (rw : World (RecvR ℝ))
    (fuzz fuzz' : ℝ) (seeds : List (Nat × Nat)) (w' : World (RankSt ℝ))
    (hid : CellIdsOK dw) (hgh : GhostOK rw) (hdl : dw.length = rw.length) (hsl : ss.length = rw.length)
    (hsd : seeds.length = rw.length) (h3d : ∀ dr ∈ dw, dr.d.twod = false)
    (h : locate dw ss rw fuzz (seeds.map fun q => RankSt.create q.1 q.2) = .ok (w', fuzz'))
    (r : Nat) (st : RankSt ℝ) (rc : RecvR ℝ) (hst : w'[r]? = some st) (hrc : rw[r]? = some rc)
    (i : Nat) (hi : st.stage.getD i 0 ≠ 0) (α : ℝ) (g : V3 ℝ) :
    ∃ dr n, dw[(st.part.getD i refEmpty).toNat]? = some dr ∧ dr.d.cellAt (st.cellOf i) = some n ∧
      ∀ b : B4 ℝ, baryOf dr.d n (rc.pt i) = (St.ok, b) →
        st.baryOf i = ⟨some b.b0, some b.b1, some b.b2, some b.b3⟩ ∧
        (0 ≤ b.b0 → 0 ≤ b.b1 → 0 ≤ b.b2 → 0 ≤ b.b3 →
          interpScalar 4 b ⟨α + vdot g (dr.d.pt n.n0), α + vdot g (dr.d.pt n.n1), α + vdot g (dr.d.pt n.n2),
            α + vdot g (dr.d.pt n.n3)⟩ = (St.ok, α + vdot g (rc.pt i))) ∧
        ((st.stage.getD i 0 = 1 ∨ st.stage.getD i 0 = 2) → ∀ (M v : ℝ), 0 ≤ M →
          |vdot g (dr.d.pt n.n0) - vdot g (rc.pt i)| ≤ M → |vdot g (dr.d.pt n.n1) - vdot g (rc.pt i)| ≤ M →
          |vdot g (dr.d.pt n.n2) - vdot g (rc.pt i)| ≤ M → |vdot g (dr.d.pt n.n3) - vdot g (rc.pt i)| ≤ M →
          interpScalar 4 b ⟨α + vdot g (dr.d.pt n.n0), α + vdot g (dr.d.pt n.n1), α + vdot g (dr.d.pt n.n2),
            α + vdot g (dr.d.pt n.n3)⟩ = (St.ok, v) →
          |v - (α + vdot g (rc.pt i))| ≤ 4 * (1e-12) * M) := by
  obtain ⟨_, _, dr, n, hdr, hn, hb⟩ := locate_stored_weights dw ss rw fuzz fuzz' seeds w' hid hgh hdl hsl hsd h r st rc hst hrc i hi
  have h3 : dr.d.twod = false := h3d dr (List.mem_of_getElem? hdr)
  refine ⟨dr, n, hdr, hn, fun b hbo => ?_⟩
  have hslots : st.baryOf i = ⟨some b.b0, some b.b1, some b.b2, some b.b3⟩ := by rw [hb, hbo, h3, storeBary_3d]
  rw [baryOf_3d h3] at hbo
  refine ⟨hslots, Refine.Props.C11.interp_linear_inside α hbo, fun h12 M v hM m0 m1 m2 m3 hv => ?_⟩
  -- stages 1 and 2 store only weights `≥ inside`
  obtain ⟨w0, w1, w2, w3, hs, g0, g1, g2, g3⟩ :=
    locate_accepts_only_inside dw ss rw fuzz fuzz' seeds w' h st (List.mem_of_getElem? hst) i h12
  rw [hslots] at hs
  simp only [Slots.mk.injEq, Option.some.injEq] at hs
  obtain ⟨rfl, rfl, rfl, rfl⟩ := hs
  rw [insideTol_eq] at g0 g1 g2 g3
  exact interp_linear_near α (by norm_num) hM hbo g0 g1 g2 g3 m0 m1 m2 m3 hv

section NonVacuity
open Refine.Lemmas.InterpLocate.Ex

/-- the hypothesis of `locate_accepts_only_inside` / `locate_all_slots_written` is met by the 2-D world of
    `Lemmas/InterpLocateEx.lean` (one donor triangle, one receptor corner at (1/4, 1/4)): `ref_interp_locate` succeeds and
    the vertex is located by STAGE 1, so the conclusion speaks about an actual stored cell -/
example : locate [dr0] [s0] [rc0] (1e-12 : ℝ) ([(1, 1)].map fun q => RankSt.create q.1 q.2) = .ok ([st1], 1e-12) ∧
    st1.stage.getD 0 0 = 1 := ⟨locate1, rfl⟩

example : SlotsGe insideTol (st1.baryOf 0) :=
  locate_accepts_only_inside [dr0] [s0] [rc0] 1e-12 1e-12 [(1, 1)] [st1] locate1 st1 (by simp) 0 (Or.inl rfl)

/-- ... and the stored slots are the ones the model computes: (1/2, 1/4, 1/4) and the explicit 0 in the 4th slot -/
example : st1.baryOf 0 = ⟨some 2⁻¹, some 4⁻¹, some 4⁻¹, some 0⟩ := rfl

example : (st1.baryOf 0).written = true ∧ (st1.baryOf 0).s3 = some (lit0 : ℝ) := by
  have := locate_all_slots_written true [dr0] (by intro dr hdr; simp only [List.mem_singleton] at hdr; subst hdr; rfl)
    [s0] [rc0] 1e-12 1e-12 [(1, 1)] [st1] locate1 st1 (by simp) 0 (Or.inl rfl)
  exact ⟨this.1, this.2 rfl⟩

/-- the input hypotheses of `locate_stored_weights` hold for that world, so its conclusion is about a real run -/
example : ∃ dr n, [dr0][(st1.part.getD 0 refEmpty).toNat]? = some dr ∧ dr.d.cellAt (st1.cellOf 0) = some n ∧
    st1.baryOf 0 = storeBary dr.d.twod Slots.unwritten (baryOf dr.d n (rc0.pt 0)).2 := by
  obtain ⟨_, _, dr, n, h1, h2, h3⟩ := locate_stored_weights [dr0] [s0] [rc0] 1e-12 1e-12 [(1, 1)] [st1] cellIds1 ghost1
    rfl rfl rfl locate1 0 st1 rc0 rfl rfl 0 (by simp [st1])
  exact ⟨dr, n, h1, h2, h3⟩

/-- the 3-D world (unit tet, receptor corner at the centroid) meets every hypothesis of `locate_linear_exact`; the
    vertex is enclosed (weights 1/4 each), so every linear field is interpolated exactly there -/
example (α : ℝ) (g : V3 ℝ) :
    interpScalar 4 (⟨4⁻¹, 4⁻¹, 4⁻¹, 4⁻¹⟩ : B4 ℝ)
      ⟨α + vdot g (dr3.d.pt 0), α + vdot g (dr3.d.pt 1), α + vdot g (dr3.d.pt 2), α + vdot g (dr3.d.pt 3)⟩ =
      (St.ok, α + vdot g (rc3.pt 0)) := by
  obtain ⟨dr, n, hdr, hn, hall⟩ := locate_linear_exact [dr3] [s0] [rc3] 1e-12 1e-12 [(1, 1)] [st3] cellIds3 ghost3 rfl rfl rfl
    (by intro dr hdr; simp only [List.mem_singleton] at hdr; subst hdr; rfl) locate3 0 st3 rc3 rfl rfl 0 (by simp [st3]) α g
  have e1 : dr = dr3 := by simpa [st3, refEmpty] using hdr.symm
  subst e1
  have e2 : n = ⟨0, 1, 2, 3⟩ := by
    have : dr3.d.cellAt (st3.cellOf 0) = some ⟨0, 1, 2, 3⟩ := cell3
    rw [this] at hn
    exact (Option.some.inj hn).symm
  subst e2
  have hb : baryOf dr3.d ⟨0, 1, 2, 3⟩ (rc3.pt 0) = (St.ok, ⟨4⁻¹, 4⁻¹, 4⁻¹, 4⁻¹⟩) := bary_q3
  exact (hall _ hb).2.1 (by norm_num) (by norm_num) (by norm_num) (by norm_num)

/-- **A receptor corner just outside the one-ring of the nearest donor corner.**  The donor corner cell is the triangle
    (0,0) (1,0) (0,1); a receptor corner at (21/40, 21/40) has weights (-1/20, 21/40, 21/40) in it: 5 % past its far edge,
    although it may lie well inside the donor domain.  The seed test of the C text (`> inside`) REJECTS it — the vertex is
    left to the walk / tree stages — while every weight passes the `bound` tolerance (-0.1): a seed test reading `bound`
    would store this cell (the seeded change `C11_geom_nodes_seed_accepts_bound`). -/
example : geomAccept (storeBary true Slots.unwritten (⟨-(1 / 20), 21 / 40, 21 / 40, 0⟩ : B4 ℝ)) = false ∧
    (boundTol : ℝ) < -(1 / 20) ∧ (boundTol : ℝ) < 21 / 40 ∧ (boundTol : ℝ) < 0 := by
  refine ⟨?_, ?_, ?_, ?_⟩
  · rw [storeBary_twod]
    have h1 : ((insideTol : ℝ) <. -(1 / 20 : ℝ)) = false := by
      rw [lt_false_iff, insideTol_eq]; norm_num
    simp only [geomAccept_some, h1, Bool.false_and]
  all_goals
    simp only [boundTol, lit, InterpConsts.bound, ofDec_eq]
    norm_num

/-- ... while a receptor corner inside the corner cell, or ON its far edge (weight exactly 0), is accepted -/
example : geomAccept (storeBary true Slots.unwritten (⟨1 / 2, 1 / 4, 1 / 4, 0⟩ : B4 ℝ)) = true ∧
    geomAccept (storeBary true Slots.unwritten (⟨0, 1 / 4, 3 / 4, 0⟩ : B4 ℝ)) = true := by
  constructor <;>
  · rw [storeBary_twod]
    simp only [geomAccept_some, insideTol, lit, InterpConsts.inside, ofDec_eq, Bool.and_eq_true, lt_iff, lit0_eq]
    norm_num

/-- an `ENCLOSING` agent on rank 1 that has to go home to rank 0 with four non-trivial weights -/
noncomputable def agHome : AgentP ℝ :=
  ⟨.enclosing, 0, 3, 1, 7, refEmpty, 5, ⟨1, 2, 3⟩, ⟨some 4⁻¹, some 4⁻¹, some 4⁻¹, some 4⁻¹⟩⟩

/-- the hypotheses of `agent_migrate_total` hold on a two-rank world in which rank 1 ships that agent home: the migration
    succeeds, rank 0 ends up with the agent — all four weights included — and rank 1 with an empty slot 0 -/
example : migrate [Agents.create, (Agents.create.push agHome).2] =
    .ok [(Agents.create.push agHome).2, { (Agents.create : Agents ℝ) with freed := [0], fresh := 1 }] := by
  have hl : ∀ l ∈ ([Agents.create, (Agents.create.push agHome).2] : World (Agents ℝ)).mapIdx (fun r a => leaving r a),
      ∀ p ∈ l, 0 ≤ p.2.dest ∧ p.2.dest < ((2 : Nat) : Int) := by
    intro l hl p hp
    simp [List.mapIdx, List.mapIdx.go, leaving, Agents.create, Agents.push, Agents.alloc, Agents.insertSorted,
      InterpConsts.agentsMax0, AgentP.dest, agHome] at hl
    rcases hl with rfl | rfl
    · cases hp
    · simp only [List.mem_singleton] at hp
      subst hp
      simp [AgentP.dest]
  rw [agent_migrate_total _ hl (by
    simp [outPairs, List.mapIdx, List.mapIdx.go, leaving, Agents.create, Agents.push, Agents.alloc, Agents.insertSorted,
      InterpConsts.agentsMax0, AgentP.dest, agHome, INT_MAX])]
  simp [staysOf, outPairs, deliveredG, pick, List.mapIdx, List.mapIdx.go, leaving, Agents.create, Agents.push, Agents.alloc,
    Agents.insertSorted, Agents.remove, InterpConsts.agentsMax0, AgentP.dest, agHome, List.zipIdx]

/-- three ranks propose `-0.2`, `-0.5`, `-0.5` for one target (negated min weights 0.2, 0.5, 0.5): rank 1 — the lowest rank
    with the largest min weight — is chosen on every rank -/
example : allminwho (fun (a b : ℝ) => a <. b) 1 ([[(-(1/5 : ℝ), (3 : Int))], [(-(1/2), 4)], [(-(1/2), 9)]].map fun l => l.map (·.1)) =
    [([-(1/2)], [1]), ([-(1/2)], [1]), ([-(1/2)], [1])] := by
  simp [allminwho, mpiReduce, minloc, writeAt, List.mapIdx, List.mapIdx.go]
  norm_num

end NonVacuity

end Refine.Props.C11Locate
