import Refine.Model.Dist
import Refine.Lemmas.DistGhostFull

/-!
  C06 — ghost refresh (`ref_node_ghost_int / _glob / _dbl`), full strength.

  `ghostRefresh_spec` is about the executable model `Refine.Model.Dist.ghost` (the literal `alltoall` of the
  bucket sizes, `alltoallv` of the requested globals, owner-side `ref_node_local` lookup, reply `alltoallv`, store
  loop; tied to `ref_node.c` by the `dist_fn` ghost ops) and holds for EVERY rank count (0 and 1 included) and every
  `ldim` (0 included).  The two `ref_mpi_alltoallv` calls are discharged with `alltoallvMpi_spec` (Lemmas/CommA2A; C17's
  `alltoallv_spec` is that theorem for `alltoallv false`); what MPI itself
  does is the trusted specification of DESIGN.md section 4.  Proof: `Refine/Lemmas/DistGhostFull.lean`.

  Vocabulary (`Refine/Lemmas/DistGhostFull.lean`):
  * `ownerVals w nd = (lookupVals (w.getD nd.part.toNat []) nd.glob).getD []` — what rank `nd.part` holds for
    the global `nd.glob`;
  * `nGhosts r nodes = #{nd ∈ nodes ∣ nd.part ≠ r}` — `a_total` of rank `r`;
  * `nRequests w r = ∑ s, #{nd ∈ w[s] ∣ nd.part ≠ s ∧ nd.part = r}` — `b_total` of rank `r`.
  The hypotheses `hown` and `hsz` spelled out in the three statements are `GhostsOwned ldim w` and `SizesOk ldim w` there.
-/
namespace Refine.Props.C06Ghost
open Refine.Model.Dist Refine.Model.Comm Refine.Lemmas.DistGhostFull

/-- **ghost refresh**: `ref_node_ghost_*` completes on every rank and afterwards every ghost entry (`part ≠ rank`)
    carries the values its owner (rank `part`) holds for that global, while every owned entry, every global and every
    part is what it was.  Hypotheses:
    * `hty` — the type is one `ref_type_mpi_type` knows (else `ref_mpi_alltoallv` returns `REF_IMPLEMENT`);
    * `hnd` — a rank lists a global once (`ref_node_local` is a function);
    * `hown` — the part of every ghost is a rank in range that stores that global with `ldim` values (otherwise the
      owner's `ref_node_local` fails with `REF_NOT_FOUND` and the other ranks block: the model returns `none`; a part
      outside `[0, np)` indexes `a_size` out of bounds in the C);
    * `hsz` — `a_total` and `b_total` of every rank, times `max 1 ldim`, fit an `int`: the guards
      `ref_math_int_multipliable / _addable` of the two `ref_mpi_alltoallv` calls (the first moves one `REF_GLOB`
      per item, the second `ldim` scalars).  The C takes this path when `a_total, b_total < REF_INT_MAX / ldim`
      (which divides by `ldim`: `ldim ≥ 1` there; the model has no division and the theorem covers `ldim = 0`, where
      nothing is stored but empty lists).
    With `w.length ≤ 1` `ghost` returns the world as it is (`!ref_mpi_para`), and `hown` leaves no ghosts, so the
    right-hand side is `w`. -/
theorem ghostRefresh_spec {β : Type} [Inhabited β] (ty : RefType) (hty : ty.mpiOk = true) (ldim : Nat)
    (w : World (List (GNode β)))
    (hnd : ∀ nodes ∈ w, (nodes.map (·.glob)).Nodup)
    (hown : ∀ r (hr : r < w.length), ∀ nd ∈ w[r], nd.part ≠ (r : Int) →
        0 ≤ nd.part ∧ nd.part.toNat < w.length ∧
        ∃ od ∈ w.getD nd.part.toNat [], od.glob = nd.glob ∧ od.vals.length = ldim)
    (hsz : ∀ r (hr : r < w.length),
        ((max 1 ldim : Nat) : Int) * (nGhosts r w[r] : Int) ≤ INT_MAX ∧
        ((max 1 ldim : Nat) : Int) * (nRequests w r : Int) ≤ INT_MAX) :
    ghost ty ldim w = some (w.mapIdx fun r nodes =>
      nodes.map fun nd => if nd.part = (r : Int) then nd else { nd with vals := ownerVals w nd }) :=
  ghost_full ty hty ldim w hnd hown hsz

/-- the refresh touches nothing but ghost values: the world keeps its ranks, every rank keeps its `(global, part)`
    list position by position, and every owned entry (`part = rank`) is literally unchanged -/
theorem ghostRefresh_owned_unchanged {β : Type} [Inhabited β] (ty : RefType) (hty : ty.mpiOk = true) (ldim : Nat)
    (w : World (List (GNode β)))
    (hnd : ∀ nodes ∈ w, (nodes.map (·.glob)).Nodup)
    (hown : ∀ r (hr : r < w.length), ∀ nd ∈ w[r], nd.part ≠ (r : Int) →
        0 ≤ nd.part ∧ nd.part.toNat < w.length ∧
        ∃ od ∈ w.getD nd.part.toNat [], od.glob = nd.glob ∧ od.vals.length = ldim)
    (hsz : ∀ r (hr : r < w.length),
        ((max 1 ldim : Nat) : Int) * (nGhosts r w[r] : Int) ≤ INT_MAX ∧
        ((max 1 ldim : Nat) : Int) * (nRequests w r : Int) ≤ INT_MAX) :
    ∃ w', ghost ty ldim w = some w' ∧ w'.length = w.length ∧
      ∀ r (hr : r < w.length),
        ((w'.getD r []).map fun nd => (nd.glob, nd.part)) = (w[r].map fun nd => (nd.glob, nd.part)) ∧
        ∀ i (hi : i < w[r].length), w[r][i].part = (r : Int) → (w'.getD r [])[i]? = some w[r][i] := by
  refine ⟨refreshed w, ghost_full ty hty ldim w hnd hown hsz, refreshed_length w, fun r hr => ?_⟩
  rw [refreshed_getD w r hr]
  constructor
  · rw [List.map_map]
    apply List.map_congr_left
    intro nd _
    simp only [Function.comp, refreshNode_glob, refreshNode_part]
  · intro i hi hp
    rw [List.getElem?_map, List.getElem?_eq_getElem hi, Option.map_some, refreshNode_owned w r _ hp]

/-- clause (iv) of the distributed-mesh invariant holds after the refresh: when, in addition, the owner's copy of
    every ghost is an owned entry (`howned`: all copies agree on `part`), then in the RESULT world every ghost entry of
    every rank carries exactly the values of the entry with the same global on the rank its `part` names (which are
    also the values that rank held before the call) -/
theorem ghostRefresh_ghost_eq_owner {β : Type} [Inhabited β] (ty : RefType) (hty : ty.mpiOk = true) (ldim : Nat)
    (w : World (List (GNode β)))
    (hnd : ∀ nodes ∈ w, (nodes.map (·.glob)).Nodup)
    (hown : ∀ r (hr : r < w.length), ∀ nd ∈ w[r], nd.part ≠ (r : Int) →
        0 ≤ nd.part ∧ nd.part.toNat < w.length ∧
        ∃ od ∈ w.getD nd.part.toNat [], od.glob = nd.glob ∧ od.vals.length = ldim)
    (howned : ∀ r (hr : r < w.length), ∀ nd ∈ w[r], nd.part ≠ (r : Int) →
        ∀ od ∈ w.getD nd.part.toNat [], od.glob = nd.glob → od.part = nd.part)
    (hsz : ∀ r (hr : r < w.length),
        ((max 1 ldim : Nat) : Int) * (nGhosts r w[r] : Int) ≤ INT_MAX ∧
        ((max 1 ldim : Nat) : Int) * (nRequests w r : Int) ≤ INT_MAX) :
    ∃ w', ghost ty ldim w = some w' ∧
      ∀ r, r < w.length → ∀ nd ∈ w'.getD r [], nd.part ≠ (r : Int) →
        lookupVals (w'.getD nd.part.toNat []) nd.glob = some nd.vals ∧
        lookupVals (w.getD nd.part.toNat []) nd.glob = some nd.vals := by
  refine ⟨refreshed w, ghost_full ty hty ldim w hnd hown hsz, fun r hr nd hmem hp => ?_⟩
  rw [refreshed_getD w r hr] at hmem
  obtain ⟨nd0, hmem0, rfl⟩ := List.mem_map.mp hmem
  rw [refreshNode_part] at hp
  obtain ⟨h0, hlt, od, hod, hg, _⟩ := hown r hr nd0 hmem0 hp
  have hpart := howned r hr nd0 hmem0 hp od hod hg
  rw [refreshNode_part, refreshNode_glob, refreshed_getD w _ hlt]
  have hnd' := hnd _ (List.getElem_mem hlt)
  have hvals : (refreshNode w r nd0).vals = od.vals := by
    rw [refreshNode, if_neg hp]
    exact ownerVals_of_mem (by rw [ListFacts.getD_eq_getElem hlt]; exact hnd') hod hg
  rw [ListFacts.getD_eq_getElem hlt] at hod
  have hodp : od.part = ((nd0.part.toNat : Nat) : Int) := by rw [hpart]; omega
  rw [hvals, ListFacts.getD_eq_getElem hlt, ← hg]
  refine ⟨?_, lookupVals_of_mem hnd' hod⟩
  have hfix : refreshNode w nd0.part.toNat od = od := refreshNode_owned w _ od hodp
  have hin : od ∈ w[nd0.part.toNat].map (refreshNode w nd0.part.toNat) :=
    List.mem_map.mpr ⟨od, hod, hfix⟩
  refine lookupVals_of_mem ?_ hin
  rw [List.map_map]
  have : (fun nd => nd.glob) ∘ refreshNode w nd0.part.toNat = fun nd : GNode β => nd.glob := by
    funext x; exact refreshNode_glob w _ x
  rw [this]
  exact hnd'

/-! ## non-vacuity: the 3-rank world of `Props/C06.lean` -/

/-- the hypotheses of `ghostRefresh_spec` hold on a concrete 3-rank world with ghosts on every rank, and the
    equation evaluated in `Props/C06.lean` follows from the theorem (the last step evaluates the right-hand side of
    the theorem only, not `ghost`) -/
example : ghost RefType.int 2
    [[⟨1, 0, [10, 11]⟩, ⟨4, 1, [0, 0]⟩, ⟨7, 2, [0, 0]⟩], [⟨4, 1, [40, 41]⟩, ⟨1, 0, [5, 5]⟩],
     [⟨7, 2, [70, 71]⟩, ⟨4, 1, [9, 9]⟩]]
  = some [[⟨1, 0, [10, 11]⟩, ⟨4, 1, [40, 41]⟩, ⟨7, 2, [70, 71]⟩], [⟨4, 1, [40, 41]⟩, ⟨1, 0, [10, 11]⟩],
          [⟨7, 2, [70, 71]⟩, ⟨4, 1, [40, 41]⟩]] := by
  refine (ghostRefresh_spec (β := Nat) RefType.int rfl 2 _ ?_ ?_ ?_).trans ?_ <;> decide

/-- the extra hypothesis of `ghostRefresh_ghost_eq_owner` holds there too -/
example :
    let w : World (List (GNode Int)) :=
      [[⟨1, 0, [10, 11]⟩, ⟨4, 1, [0, 0]⟩, ⟨7, 2, [0, 0]⟩], [⟨4, 1, [40, 41]⟩, ⟨1, 0, [5, 5]⟩],
       [⟨7, 2, [70, 71]⟩, ⟨4, 1, [9, 9]⟩]]
    ∀ r (hr : r < w.length), ∀ nd ∈ w[r], nd.part ≠ (r : Int) →
      ∀ od ∈ w.getD nd.part.toNat [], od.glob = nd.glob → od.part = nd.part := by
  decide

/-- one rank, `ldim = 0`: the statement is not vacuous at the edges either -/
example : ghost RefType.dbl 0 [[(⟨3, 0, []⟩ : GNode Int), ⟨5, 0, []⟩]] = some [[⟨3, 0, []⟩, ⟨5, 0, []⟩]] := by
  refine (ghostRefresh_spec (β := Int) RefType.dbl rfl 0 _ ?_ ?_ ?_).trans ?_ <;> decide

end Refine.Props.C06Ghost
