import Refine.Lemmas.SolbRoundtrip

/-!
  C09 — solution and metric files (`.solb`) keep values, order and layout.

  Model: `Refine/Model/Solb.lean` — `encodeSolb`/`encodeMetricSolb` = `ref_gather_node_scalar_solb` /
  `ref_gather_node_metric_solb` (one rank), `decodeSolb`/`decodeMetricSolb` = `ref_part_scalar_solb` /
  `ref_part_metric_solb`; tied by the streams `solb_write` and `solb_read` (values are position-tagged bit
  patterns, so any permutation of vertices or components shows).  Row `g` of the file belongs to the vertex
  with global id `g`; the driver applies the local ↔ global map of the op, the model is about the file.
-/
namespace Refine.Props.C09
open Refine.Model.Meshb Refine.Model.Solb Refine.Lemmas.Codec Refine.Gen

/-- **scalar/vector fields, every `ldim`**: reading what the writer wrote gives back `ldim` and every value
    bit for bit, in vertex order, for meshb versions 2, 3, 4, in 2-D and 3-D -/
theorem roundtrip_solb (v : Nat) (s : SolFile) (ok : SolOK Cfg.faithful v s) :
    decodeSolb s.rows.length (encodeSolb v s) = .ok (s.ldim, s.rows) :=
  roundtrip_solb_with ok

/-- also with the C20 count check added to the reader -/
theorem roundtrip_solb_fixed (v : Nat) (s : SolFile) (ok : SolOK Cfg.fixed v s) :
    decodeSolbFixed s.rows.length (encodeSolb v s) = .ok (s.ldim, s.rows) :=
  roundtrip_solb_with ok

/-- **metric tensors**: the six (3-D) or three (2-D) stored components come back in the slots they were
    taken from -/
theorem roundtrip_metric (v : Nat) (twod : Bool) (ms : List (List UInt64)) (ok : MetricOK Cfg.faithful v twod ms) :
    decodeMetricSolb ms.length (encodeMetricSolb v twod ms) = .ok ms :=
  roundtrip_metric_with ok

/-- the slot permutation between memory (m11,m12,m13,m22,m23,m33) and file is an involution, and the
    reader uses the same table as the writer (both translated from the C) -/
theorem metricOrder_involutive :
    MetricOrder.write3.map (fun k => MetricOrder.write3.getD k 0) = [0, 1, 2, 3, 4, 5] ∧
    MetricOrder.read3 = MetricOrder.write3 ∧ MetricOrder.read2 = MetricOrder.write2 := by decide

/-- the file order is libMeshb's symmetric-matrix order (xx,xy,yy,xz,yz,zz) resp. (xx,xy,yy):
    with memory slots named (m11,m12,m13,m22,m23,m33) = (xx,xy,xz,yy,yz,zz) -/
theorem metricOrder_is_libmeshb :
    MetricOrder.write3.map (fun k => ["xx", "xy", "xz", "yy", "yz", "zz"].getD k "") =
      ["xx", "xy", "yy", "xz", "yz", "zz"] ∧
    MetricOrder.write2.map (fun k => ["xx", "xy", "xz", "yy", "yz", "zz"].getD k "") = ["xx", "xy", "yy"] ∧
    MetricOrder.fill2 = [(2, false), (4, false), (5, true)] := by decide

/-- the same on values: what the writer puts at each file position and what the reader stores in each slot -/
theorem metric_file_layout (a b c d e f : UInt64) :
    metricToFile false [a, b, c, d, e, f] = [a, b, d, c, e, f] ∧
    metricToFile true [a, b, c, d, e, f] = [a, b, d] ∧
    metricFromFile false [a, b, d, c, e, f] = [a, b, c, d, e, f] ∧
    metricFromFile true [a, b, d] = [a, b, 0, d, 0, 0x3ff0000000000000] := by
  exact ⟨rfl, rfl, rfl, rfl⟩

def sampleField : SolFile :=
  { twod := false, ldim := 3,
    rows := [[0x3ff0000000000000, 0x4000000000000000, 0x4008000000000000],
             [0x4010000000000000, 0x7ff0000000000000, 0x8000000000000000]] }

example : SolOK Cfg.faithful 2 sampleField ∧ SolOK Cfg.fixed 4 sampleField := by
  refine ⟨?_, ?_⟩ <;>
  exact { version := by decide, rows_len := by decide, count_lt := by decide, ldim_lt := by decide,
          prod_lt := by decide, cap := by decide, size_fits := by unfold posFits; decide +kernel }

def sampleMetric : List (List UInt64) :=
  [[0x3ff0000000000000, 0x3fb999999999999a, 0, 0x4000000000000000, 0, 0x3ff0000000000000]]

example : MetricOK Cfg.faithful 3 true sampleMetric ∧ MetricOK Cfg.faithful 3 false sampleMetric := by
  refine ⟨?_, ?_⟩ <;>
  exact { version := by decide, len6 := by decide, twod_fill := by decide, count_lt := by decide,
          cap := by decide, size_fits := by unfold posFits; decide +kernel }

example : decodeSolb 2 (encodeSolb 3 sampleField) = .ok (3, sampleField.rows) := by decide +kernel

end Refine.Props.C09
