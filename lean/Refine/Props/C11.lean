import Refine.Props.C15

/-!
  C11: field interpolation is a bounded, linearly exact transfer.
  The receptor value is `Σ wᵢ fᵢ` over the vertices of ONE donor cell with `w = clip(bary)`
  (`ref_interp_scalar` → `ref_node_clip_bary4`): always a convex combination (never an extrapolation),
  exact for linear fields when the receptor lies inside the donor cell, identity at donor vertices.
  Exact real arithmetic; the model functions are bit-compared with the C (stream `geom_interp`).
  Which cell and which weights reach it — the donor search, the staged `ref_interp_locate` on any number of ranks, the
  migration of the agents — is `Props/C11Search.lean` and `Props/C11Locate.lean`; what is left open is listed in the head
  of `Props/C11Search.lean`.
-/
namespace Refine.Props.C11
open Refine Refine.Model.Geom Refine.ScalarReal Refine.GeomReal

/-- `ref_node_clip_bary4`, success branch: the result is a point of the simplex -/
theorem clipBary4_simplex {o w : B4 ℝ} (h : clipBary4 o = (St.ok, w)) :
    0 ≤ w.b0 ∧ 0 ≤ w.b1 ∧ 0 ≤ w.b2 ∧ 0 ≤ w.b3 ∧ w.b0 + w.b1 + w.b2 + w.b3 = 1 := by
  obtain ⟨T, hT, rfl, rfl⟩ := clipBary4_ok h
  exact ⟨div_nonneg (le_max_left _ _) hT.le, div_nonneg (le_max_left _ _) hT.le, div_nonneg (le_max_left _ _) hT.le,
    div_nonneg (le_max_left _ _) hT.le, sum_div4 hT.ne'⟩

/-- `ref_node_clip_bary4`, `REF_DIV_ZERO` branch: the C returns a unit vector (a donor vertex):
    still a point of the simplex -/
theorem clipBary4_divZero {o w : B4 ℝ} (h : clipBary4 o = (St.divZero, w)) :
    w = ⟨1, 0, 0, 0⟩ ∨ w = ⟨0, 1, 0, 0⟩ ∨ w = ⟨0, 0, 1, 0⟩ ∨ w = ⟨0, 0, 0, 1⟩ := by
  rcases clipBary4_cases o with ⟨T, _, _, e⟩ | ⟨n, hn, e⟩ <;> rw [e] at h
  · exact absurd (Prod.mk.inj h).1 (by decide)
  · exact pick4 1 0 hn (Prod.mk.inj h).2.symm

/-- in exact arithmetic the `RAS` assertions of `ref_node_clip_bary4` cannot fire -/
theorem clipBary4_no_failure (o : B4 ℝ) : (clipBary4 o).1 = St.ok ∨ (clipBary4 o).1 = St.divZero := by
  rcases clipBary4_cases o with ⟨T, _, _, e⟩ | ⟨n, _, e⟩ <;> rw [e]
  · exact Or.inl rfl
  · exact Or.inr rfl

/-- clipping is the identity on points that already lie in the simplex -/
theorem clipBary4_id {w : B4 ℝ} (h0 : 0 ≤ w.b0) (h1 : 0 ≤ w.b1) (h2 : 0 ≤ w.b2) (h3 : 0 ≤ w.b3)
    (hs : w.b0 + w.b1 + w.b2 + w.b3 = 1) : clipBary4 w = (St.ok, w) := by
  unfold clipBary4
  simp only [isFinite_eq, Bool.not_true, Bool.or_false, Bool.false_eq_true, if_false, cmax_eq, lit0_eq,
    add_eq, div_eq, max_eq_right h0, max_eq_right h1, max_eq_right h2, max_eq_right h3, hs, div_one]
  have d : ∀ x : ℝ, 0 ≤ x → x ≤ 1 → Scalar.divisible x (1 : ℝ) = true := fun x hx hx1 =>
    divisible_of_le one_pos (by rwa [abs_of_nonneg hx])
  rw [d _ h0 (by linarith), d _ h1 (by linarith), d _ h2 (by linarith), d _ h3 (by linarith)]
  have e0 := (le_iff 0 _).mpr h0
  have e1 := (le_iff 0 _).mpr h1
  have e2 := (le_iff 0 _).mpr h2
  have e3 := (le_iff 0 _).mpr h3
  simp only [e0, e1, e2, e3, Bool.and_self, Bool.not_true, Bool.or_false, Bool.false_eq_true, if_false, if_true]

/-- `ref_node_clip_bary3`: success ⇒ simplex; `div_zero` ⇒ unit vector -/
theorem clipBary3_simplex {o w : B3 ℝ} (h : clipBary3 o = (St.ok, w)) :
    0 ≤ w.b0 ∧ 0 ≤ w.b1 ∧ 0 ≤ w.b2 ∧ w.b0 + w.b1 + w.b2 = 1 := by
  revert h
  fun_cases clipBary3 o
  case case1 | case3 => nofun
  case case2 b0 b1 b2 total hg r hr =>
    -- the weights passed the kernel's own sign test; they are the clipped ones over their sum, which is not zero
    intro h
    obtain rfl := (Prod.mk.inj h).2
    simp only [Bool.or_eq_true, Bool.not_eq_true', not_or, Bool.not_eq_false, le_iff, lit0_eq] at hr
    exact ⟨hr.1.1, hr.1.2, hr.2, sum_div3 (divisible_ne_zero (Bool.and_eq_true_iff.mp hg).2)⟩

theorem clipBary3_divZero {o w : B3 ℝ} (h : clipBary3 o = (St.divZero, w)) :
    w = ⟨1, 0, 0⟩ ∨ w = ⟨0, 1, 0⟩ ∨ w = ⟨0, 0, 1⟩ := by
  revert h
  fun_cases clipBary3 o
  case case1 | case2 => nofun
  case case3 =>
    intro h
    rw [← lit1_eq, ← lit0_eq]
    exact pick3 _ _ (ite_fst_lt (by decide) (ite_fst_lt (by decide) (Nat.zero_lt_succ 2))) (Prod.mk.inj h).2.symm

/-- `ref_node_clip_bary2` -/
theorem clipBary2_simplex {o w : B2 ℝ} (h : clipBary2 o = (St.ok, w)) :
    0 ≤ w.b0 ∧ 0 ≤ w.b1 ∧ w.b0 + w.b1 = 1 := by
  revert h
  fun_cases clipBary2 o
  case case1 | case3 => nofun
  case case2 b0 b1 total hg r hr =>
    intro h
    obtain rfl := (Prod.mk.inj h).2
    simp only [Bool.or_eq_true, Bool.not_eq_true', not_or, Bool.not_eq_false, le_iff, lit0_eq] at hr
    exact ⟨hr.1, hr.2, (add_div _ _ _).symm.trans (div_self (divisible_ne_zero (Bool.and_eq_true_iff.mp hg).2))⟩

theorem clipBary2_divZero {o w : B2 ℝ} (h : clipBary2 o = (St.divZero, w)) :
    w = ⟨1, 0⟩ ∨ w = ⟨0, 1⟩ := by
  revert h
  fun_cases clipBary2 o
  case case1 | case2 => nofun
  case case3 =>
    intro h
    rw [← lit1_eq, ← lit0_eq]
    exact pick2 _ _ (ite_fst_lt (by decide) (Nat.zero_lt_succ 1)) (Prod.mk.inj h).2.symm

/-- a convex combination never leaves the range of the combined values -/
theorem convex_range (w0 w1 w2 w3 f0 f1 f2 f3 : ℝ) (h0 : 0 ≤ w0) (h1 : 0 ≤ w1) (h2 : 0 ≤ w2) (h3 : 0 ≤ w3)
    (hs : w0 + w1 + w2 + w3 = 1) :
    min (min f0 f1) (min f2 f3) ≤ w0 * f0 + w1 * f1 + w2 * f2 + w3 * f3 ∧
    w0 * f0 + w1 * f1 + w2 * f2 + w3 * f3 ≤ max (max f0 f1) (max f2 f3) :=
  convex_between h0 h1 h2 h3 hs
    ((min_le_left _ _).trans (min_le_left _ _)) ((min_le_left _ _).trans (min_le_right _ _))
    ((min_le_right _ _).trans (min_le_left _ _)) ((min_le_right _ _).trans (min_le_right _ _))
    ((le_max_left _ _).trans (le_max_left _ _)) ((le_max_right _ _).trans (le_max_left _ _))
    ((le_max_left _ _).trans (le_max_right _ _)) ((le_max_right _ _).trans (le_max_right _ _))

/-- weights that reproduce a point reproduce every field that is linear in space -/
theorem convex_linear (w0 w1 w2 w3 α : ℝ) (g a b c d p : V3 ℝ) (hs : w0 + w1 + w2 + w3 = 1)
    (hp : vadd (vadd (vadd (vsmul w0 a) (vsmul w1 b)) (vsmul w2 c)) (vsmul w3 d) = p) :
    w0 * (α + vdot g a) + w1 * (α + vdot g b) + w2 * (α + vdot g c) + w3 * (α + vdot g d) = α + vdot g p := by
  subst hp
  simp only [vadd, vsmul, vdot]
  linear_combination α * hs

/-- bounded transfer: whatever barycentric weights are stored (inside, slightly outside, garbage),
    a successful evaluation is a convex combination of the four donor values — never an extrapolation -/
theorem interp_range {bary f : B4 ℝ} {v : ℝ} (h : interpScalar 4 bary f = (St.ok, v)) :
    min (min f.b0 f.b1) (min f.b2 f.b3) ≤ v ∧ v ≤ max (max f.b0 f.b1) (max f.b2 f.b3) := by
  obtain ⟨w, hc, rfl⟩ := interpScalar_ok h
  obtain ⟨h0, h1, h2, h3, hs⟩ := clipBary4_simplex hc
  exact convex_range _ _ _ _ _ _ _ _ h0 h1 h2 h3 hs

/-- 2-D donors (3 nodes summed, the 4th stored weight is zero or negative): same bound over the
    three donor values -/
theorem interp_range3 {bary f : B4 ℝ} {v : ℝ} (hb3 : bary.b3 ≤ 0) (h : interpScalar 3 bary f = (St.ok, v)) :
    min (min f.b0 f.b1) f.b2 ≤ v ∧ v ≤ max (max f.b0 f.b1) f.b2 := by
  obtain ⟨w, hc, rfl⟩ := interpScalar_ok h
  obtain ⟨h0, h1, h2, h3, hs⟩ := clipBary4_simplex hc
  -- the clipped 4th weight is zero, so it may be given any donor value
  have hw3 : w.b3 = 0 := by
    obtain ⟨T, -, -, rfl⟩ := clipBary4_ok hc
    exact (congrArg (· / T) (max_eq_left hb3)).trans (zero_div T)
  have := convex_between (lo := min (min f.b0 f.b1) f.b2) (hi := max (max f.b0 f.b1) f.b2) (f0 := f.b0) (f1 := f.b1)
    (f2 := f.b2) (f3 := f.b2) h0 h1 h2 h3 hs
    ((min_le_left _ _).trans (min_le_left _ _)) ((min_le_left _ _).trans (min_le_right _ _)) (min_le_right _ _)
    (min_le_right _ _) ((le_max_left _ _).trans (le_max_left _ _)) ((le_max_right _ _).trans (le_max_left _ _))
    (le_max_right _ _) (le_max_right _ _)
  rwa [hw3, zero_mul, add_zero] at this

/-- identity on the donor mesh: a receptor that coincides with donor vertex `k` (unit weight) receives
    exactly the donor value -/
theorem interp_identity (f : B4 ℝ) :
    interpScalar 4 ⟨1, 0, 0, 0⟩ f = (St.ok, f.b0) ∧ interpScalar 4 ⟨0, 1, 0, 0⟩ f = (St.ok, f.b1) ∧
    interpScalar 4 ⟨0, 0, 1, 0⟩ f = (St.ok, f.b2) ∧ interpScalar 4 ⟨0, 0, 0, 1⟩ f = (St.ok, f.b3) := by
  refine ⟨?_, ?_, ?_, ?_⟩ <;>
  · rw [interpScalar_of_clip 4 f (clipBary4_id (by norm_num) (by norm_num) (by norm_num) (by norm_num) (by norm_num))]
    norm_num

/-- linear exactness, composed as the code composes it: `ref_node_bary4` of a receptor point that lies
    inside the donor tet (all weights ≥ 0), then `ref_interp_scalar` (clip + weighted sum), reproduces
    every field that is linear in space exactly -/
theorem interp_linear_inside {a b c d p g : V3 ℝ} {w : B4 ℝ} (α : ℝ)
    (hb : bary4 a b c d p = (St.ok, w))
    (h0 : 0 ≤ w.b0) (h1 : 0 ≤ w.b1) (h2 : 0 ≤ w.b2) (h3 : 0 ≤ w.b3) :
    interpScalar 4 w ⟨α + vdot g a, α + vdot g b, α + vdot g c, α + vdot g d⟩ = (St.ok, α + vdot g p) := by
  have hs := Refine.Props.C15.bary4_sum hb
  rw [interpScalar_of_clip 4 _ (clipBary4_id h0 h1 h2 h3 hs)]
  exact congrArg _ (convex_linear w.b0 w.b1 w.b2 w.b3 α g a b c d p hs (Refine.Props.C15.bary4_reproduce hb))

/-- slightly outside the donor cell (some weight negative): the result is the linear field evaluated
    at the clipped point `Σ clip(w)ᵢ xᵢ` of the donor cell — a point of the cell, not an extrapolation -/
theorem interp_linear_clipped {a b c d g : V3 ℝ} {o w : B4 ℝ} (α : ℝ) (hc : clipBary4 o = (St.ok, w)) :
    interpScalar 4 o ⟨α + vdot g a, α + vdot g b, α + vdot g c, α + vdot g d⟩ =
      (St.ok, α + vdot g (vadd (vadd (vadd (vsmul w.b0 a) (vsmul w.b1 b)) (vsmul w.b2 c)) (vsmul w.b3 d))) := by
  rw [interpScalar_of_clip 4 _ hc]
  exact congrArg _ (convex_linear w.b0 w.b1 w.b2 w.b3 α g a b c d _ (clipBary4_simplex hc).2.2.2.2 rfl)

theorem clipBary4_outside : clipBary4 (⟨1/2, 3/4, -1/4, 0⟩ : B4 ℝ) = (St.ok, ⟨2/5, 3/5, 0, 0⟩) := by
  unfold clipBary4
  simp only [isFinite_eq, cmax_eq, lit0_eq, add_eq, div_eq]
  norm_num [divisible_iff', le_false_iff]

example : clipBary4 (⟨1/2, 3/4, -1/4, 0⟩ : B4 ℝ) = (St.ok, ⟨2/5, 3/5, 0, 0⟩) := clipBary4_outside

/-- the `div_zero` branch is reachable: every weight non-positive -/
example : clipBary4 (⟨-1, -2, 0, -1/2⟩ : B4 ℝ) = (St.divZero, ⟨1, 0, 0, 0⟩) := by
  unfold clipBary4
  simp only [isFinite_eq, cmax_eq, lit0_eq, lit1_eq, add_eq, div_eq]
  norm_num [divisible_iff']

/-- hypotheses of `interp_linear_inside` hold for the centroid of the unit tet -/
example : ∃ w : B4 ℝ, bary4 (⟨0, 0, 0⟩ : V3 ℝ) ⟨1, 0, 0⟩ ⟨0, 1, 0⟩ ⟨0, 0, 1⟩ ⟨1/4, 1/4, 1/4⟩ = (St.ok, w) ∧
    0 ≤ w.b0 ∧ 0 ≤ w.b1 ∧ 0 ≤ w.b2 ∧ 0 ≤ w.b3 := by
  exact ⟨_, Refine.Props.C15.bary4_unit_centroid, by norm_num, by norm_num, by norm_num, by norm_num⟩

example : interpScalar 4 (⟨1/2, 3/4, -1/4, 0⟩ : B4 ℝ) ⟨1, 2, 100, 3⟩ = (St.ok, 8/5) := by
  rw [interpScalar_of_clip 4 _ clipBary4_outside]
  norm_num

end Refine.Props.C11
