import Refine.Lemmas.InterpPack
import Refine.Lemmas.NodeIdsCompact
import Refine.Lemmas.SmoothInterpBetween

/-!
  C05 (pack) — the donor record `(cell, part, bary[4])` of `REF_INTERP` stays with its vertex when `ref_grid_pack` /
  `ref_grid_stable_pack` renumber the vertex slots (`ref_node_pack` + `ref_interp_pack`), for the executable model
  `Refine/Model/InterpPack.lean` (tied to the C by `refdrv interppack` / `harness/h_interppack.c`).

  `PackMap live n o2n n2o` is exactly what `ref_interp_pack` needs from the pair of maps it is handed: `o2n` sends the
  live slots ONTO `[0, n)` and `n2o` is its inverse there.  No monotonicity: `ref_interp_pack` copies through a scratch
  array (and `ref_node_compact` / `ref_edge_rcm` are not monotone).  `stableCompact_packMap` proves it for the map
  `ref_node_stable_compact` computes (model `NodeIds.stableCompact`); for the maps of `ref_node_compact` and
  `ref_edge_rcm` it is not proved here (tied for `compact`, oracled for `rcm`) — for `compact` only because no theorem
  was written: the numbering lemmas of `Lemmas/NodeIdsCompact.lean` are stated for any selector and starting number.
-/
namespace Refine.Props.C05Pack
open Refine.Model Refine.Model.InterpPack Refine.Model.NodeIds Refine.Lemmas.InterpPack
open Refine.Model.SmoothInterp Refine.Lemmas.SmoothInterp
open Refine.Model.Geom (B4)

/-- `o2n` maps the live slots onto `[0, n)`, `n2o` is its inverse -/
structure PackMap (live : Nat → Prop) (n : Nat) (o2n n2o : List Int) : Prop where
  fwd : ∀ i, live i → ∃ k, k < n ∧ o2n.getD i 0 = (k : Int) ∧ n2o.getD k 0 = (i : Int)
  bwd : ∀ k, k < n → ∃ i, live i ∧ n2o.getD k 0 = (i : Int) ∧ o2n.getD i 0 = (k : Int)

/-- `0 <= global[node]` as the compact functions test it -/
def liveSel : Int → Int → Bool := fun g _ => decide (g ≥ 0)

/-- a valid slot of `ref_node` -/
def LiveSlot (s : NodeIds) (i : Nat) : Prop := i < s.max ∧ s.liveAt i = true

theorem zip_getD_fst (s : NodeIds) (hp : s.part.length = s.global.length) (i : Nat) (hi : i < s.max) :
    ((s.global.zip s.part).getD i (0, 0)).1 = s.global.getD i (-1) := by
  have hi' : i < s.global.length := hi
  have hz : i < (s.global.zip s.part).length := by rw [List.length_zip, hp, Nat.min_self]; exact hi'
  rw [List.getD_eq_getElem?_getD, List.getD_eq_getElem?_getD, List.getElem?_eq_getElem hz, List.getElem?_eq_getElem hi']
  simp

/-- **the map of `ref_node_stable_compact` is a `PackMap`** (proved from the `NodeIds` model): every valid slot gets
    its rank among the valid slots, `n2o` lists the valid slots in order -/
theorem stableCompact_packMap (s : NodeIds) (hp : s.part.length = s.global.length) (o2n n2o : List Int)
    (h : s.stableCompact = (.ok, o2n, n2o)) : PackMap (LiveSlot s) s.n o2n n2o := by
  revert h
  fun_cases NodeIds.stableCompact s with
  | case1 => nofun
  | case2 sel hlen num =>
    intro h
    obtain ⟨ho, hn⟩ := Prod.mk.inj (Prod.mk.inj h).2
    -- `sel` is `s.selectSlots liveSel`, i.e. (`selectSlots_eq`) the selected indices of the zipped columns
    have hlen : (selIndices liveSel (s.global.zip s.part) 0).length = s.n := Decidable.not_not.mp hlen
    have hn : List.map (fun (v : Nat) => (v : Int)) (selIndices liveSel (s.global.zip s.part) 0) = n2o := hn
    have ho : NodeIds.numberSlots liveSel (s.global.zip s.part) (List.replicate s.max (-1)) 0 = o2n := ho
    have hzl : (s.global.zip s.part).length = s.max := by
      rw [List.length_zip, hp, Nat.min_self]; rfl
    have hbase : (s.global.zip s.part).length ≤ (List.replicate s.max (-1 : Int)).length := by
      rw [hzl, List.length_replicate]; exact Nat.le_refl _
    have hn2o : ∀ r, n2o.getD r 0 = (((selIndices liveSel (s.global.zip s.part) 0).getD r 0 : Nat) : Int) :=
      fun r => hn ▸ ListFacts.getD_map (d := 0)
    constructor
    · intro i ⟨hi, hlive⟩
      have hs : liveSel ((s.global.zip s.part).getD i (0, 0)).1 ((s.global.zip s.part).getD i (0, 0)).2 = true := by
        unfold liveSel; rw [zip_getD_fst s hp i hi]; exact hlive
      obtain ⟨r, hr, h1, h2⟩ :=
        numberSlots_rank liveSel _ (List.replicate s.max (-1)) 0 0 hbase i (by rw [hzl]; exact hi) hs
      rw [hlen] at hr
      refine ⟨r, hr, ?_, ?_⟩
      · rw [← ho, h1]; simp
      · rw [hn2o r, h2]; simp
    · intro k hk
      obtain ⟨i, hi, hs, h1, h2⟩ :=
        numberSlots_select liveSel _ (List.replicate s.max (-1)) 0 0 hbase k (by rw [hlen]; exact hk)
      rw [hzl] at hi
      refine ⟨i, ⟨hi, ?_⟩, ?_, ?_⟩
      · unfold liveSel at hs; rw [zip_getD_fst s hp i hi] at hs; exact hs
      · rw [hn2o k, h1]; simp
      · rw [← ho, h2]; simp

variable {α : Type}

theorem PackMap.old_new {live : Nat → Prop} {n : Nat} {o2n n2o : List Int} (hm : PackMap live n o2n n2o)
    {i : Nat} (hi : live i) : (o2n.getD i 0).toNat < n ∧ old n2o (o2n.getD i 0).toNat = i := by
  obtain ⟨k, hk, h1, h2⟩ := hm.fwd i hi
  have hko : (o2n.getD i 0).toNat = k := by rw [h1]; simp
  rw [hko]
  exact ⟨hk, by unfold old; rw [h2]; simp⟩

/-- `ref_node_pack`: new slot `k < n` holds what old slot `n2o[k]` held -/
theorem packSlots_read {X : Type} (n : Nat) (n2o : List Int) (xs : List X) (d : X) {k : Nat} (hk : k < n) :
    (packSlots n n2o xs d).getD k d = xs.getD (old n2o k) d :=
  getD_map_range_append n _ _ _ k hk

/-- `ref_interp_pack`: the record of new slot `k < n` is the record of old slot `n2o[k]`, for any `n2o` the call
    accepts (nothing is asked of the renumbering here) -/
theorem interpPack_read {junk : α} {n : Nat} {n2o : List Int} {it it' : Interp α}
    (h : interpPack junk n 0 n2o it = .ok it') {k : Nat} (hk : k < n) :
    cellAt it' k = cellAt it (old n2o k) ∧ partAt it' k = partAt it (old n2o k) ∧
    baryAt junk it' k = baryAt junk it (old n2o k) := by
  obtain ⟨_, _, he⟩ := interpPack_ok h
  subst he
  refine ⟨getD_map_range_append n _ _ _ k hk, getD_map_range_append n _ _ _ k hk, ?_⟩
  have hb : ∀ q, q < 4 →
      (((List.range n).flatMap fun node => (List.range 4).map fun i => it.bary.getD (i + 4 * old n2o node) junk)
        ++ it.bary.drop (4 * n)).getD (q + 4 * k) junk = it.bary.getD (q + 4 * old n2o k) junk := fun q hq => by
    rw [blocks_getD 4 n _ (fun _ => by simp) _ _ k q hk hq, ListFacts.getD_map_range hq]
  unfold baryAt
  rw [hb 0 (by omega), hb 1 (by omega), hb 2 (by omega), hb 3 (by omega)]

/-- **interpPack_aligned.**  For every pair of maps with the `PackMap` property: after `ref_interp_pack` the record of
    new slot `o2n i` is the record old slot `i` had, for every live `i` (all three arrays, the flat `bary` with stride
    4); the slots from `n` on are reset (`cell = part = REF_EMPTY`); `max` is unchanged. -/
theorem interpPack_aligned {live : Nat → Prop} {junk : α} {n : Nat} {o2n n2o : List Int} {it it' : Interp α}
    (hm : PackMap live n o2n n2o) (h : interpPack junk n 0 n2o it = .ok it') :
    (∀ i, live i →
      cellAt it' (o2n.getD i 0).toNat = cellAt it i ∧ partAt it' (o2n.getD i 0).toNat = partAt it i ∧
      baryAt junk it' (o2n.getD i 0).toNat = baryAt junk it i) ∧
    (∀ j, n ≤ j → cellAt it' j = EMPTY ∧ partAt it' j = EMPTY) ∧ it'.max = it.max := by
  refine ⟨fun i hi => ?_, ?_⟩
  · have := interpPack_read h (hm.old_new hi).1
    rwa [(hm.old_new hi).2] at this
  · obtain ⟨_, _, he⟩ := interpPack_ok h
    subst he
    exact ⟨fun j hj =>
      ⟨getD_map_range_replicate n _ _ EMPTY j hj, getD_map_range_replicate n _ _ EMPTY j hj⟩, rfl⟩

/-- `ref_node_pack` moves every per-slot array the same way: new slot `o2n i` holds what old slot `i` held -/
theorem packSlots_aligned {X : Type} {live : Nat → Prop} {n : Nat} {o2n n2o : List Int} (hm : PackMap live n o2n n2o)
    (xs : List X) (d : X) (i : Nat) (hi : live i) :
    (packSlots n n2o xs d).getD (o2n.getD i 0).toNat d = xs.getD i d := by
  rw [packSlots_read n n2o xs d (hm.old_new hi).1, (hm.old_new hi).2]

section grid
variable {P M : Type}

theorem gridOf_pack {junk : α} {n : Nat} {n2o : List Int} {it it' : Interp α} (dp : P) (dm : M) (nr : NodeReal P M)
    (h : interpPack junk n 0 n2o it = .ok it') {k : Nat} (hk : k < n) :
    gridOf dp dm junk (packReal dp dm n n2o nr) it' k = gridOf dp dm junk nr it (old n2o k) := by
  obtain ⟨hc, hp, hb⟩ := interpPack_read h hk
  unfold gridOf packReal
  simp only
  rw [hc, hp, hb, packSlots_read n n2o nr.xyz dp hk, packSlots_read n n2o nr.met dm hk]

/-- the whole vertex state `(xyz, cell, part, bary, met)` of new slot `o2n i` is that of old slot `i` -/
theorem pack_grid_aligned {live : Nat → Prop} {junk : α} {n : Nat} {o2n n2o : List Int} {it it' : Interp α}
    (dp : P) (dm : M) (nr : NodeReal P M) (hm : PackMap live n o2n n2o) (h : interpPack junk n 0 n2o it = .ok it')
    (i : Nat) (hi : live i) :
    gridOf dp dm junk (packReal dp dm n n2o nr) it' (o2n.getD i 0).toNat = gridOf dp dm junk nr it i := by
  rw [gridOf_pack dp dm nr h (hm.old_new hi).1, (hm.old_new hi).2]

/-- **pack_preserves_fresh.**  `ref_node_pack` + `ref_interp_pack` preserve the C05 invariant vertex by vertex: a live
    vertex with a fresh record (located on this rank, weights of its CURRENT position, metric = interpolation there)
    has a fresh record in its new slot; the weak form `MetricAtPosition` likewise. -/
theorem pack_preserves_fresh {live : Nat → Prop} {junk : α} {n : Nat} {o2n n2o : List Int} {it it' : Interp α}
    (bg : Bg P (B4 α) M) (D : P → Int → B4 α → Prop) (dp : P) (dm : M) (nr : NodeReal P M)
    (hm : PackMap live n o2n n2o) (h : interpPack junk n 0 n2o it = .ok it') (i : Nat) (hi : live i) :
    (Fresh bg D (gridOf dp dm junk nr it i) →
      Fresh bg D (gridOf dp dm junk (packReal dp dm n n2o nr) it' (o2n.getD i 0).toNat)) ∧
    (MetricAtPosition bg D (gridOf dp dm junk nr it i) →
      MetricAtPosition bg D (gridOf dp dm junk (packReal dp dm n n2o nr) it' (o2n.getD i 0).toNat)) := by
  rw [pack_grid_aligned dp dm nr hm h i hi]
  exact ⟨id, id⟩

/-- the grid-level invariant of the histories of `Props/C05Smooth` (`GridWeak`, `Lemmas/SmoothInterpBetween.lean`: every
    located vertex is fresh) survives the pack on
    EVERY slot: slots below `n` are images of live vertices, slots from `n` on are unlocated -/
theorem pack_preserves_gridWeak {live : Nat → Prop} {junk : α} {n : Nat} {o2n n2o : List Int} {it it' : Interp α}
    (bg : Bg P (B4 α) M) (D : P → Int → B4 α → Prop) (dp : P) (dm : M) (nr : NodeReal P M)
    (hm : PackMap live n o2n n2o) (h : interpPack junk n 0 n2o it = .ok it')
    (hG : ∀ i, live i → MetricAtPosition bg D (gridOf dp dm junk nr it i)) :
    GridWeak bg D (gridOf dp dm junk (packReal dp dm n n2o nr) it') := by
  intro j
  by_cases hj : j < n
  · obtain ⟨i, hi, _, h2⟩ := hm.bwd j hj
    have hji : (o2n.getD i 0).toNat = j := by rw [h2]; simp
    rw [← hji]
    exact (pack_preserves_fresh bg D dp dm nr hm h i hi).2 (hG i hi)
  · apply metricAtPosition_of_empty
    show cellAt it' j = EMPTY
    exact ((interpPack_aligned hm h).2.1 j (by omega)).1

end grid

/-- `ref_interp_pack` refuses hired agents and refuses (model: `.oob`) to index outside its arrays; in particular the
    `if (n > max) ref_interp_resize(ref_interp, max)` of the C text does not make `n > max` safe -/
theorem interpPack_guard {junk : α} {n : Nat} {n2o : List Int} {it it' : Interp α}
    (h : interpPack junk n 0 n2o it = .ok it') :
    n ≤ it.max ∧ ∀ v, v < n → 0 ≤ n2o.getD v 0 ∧ old n2o v < it.max :=
  ⟨(interpPack_ok h).1, (interpPack_ok h).2.1⟩

/-- five vertices added, slots 1 and 3 deleted -/
def exIds : NodeIds :=
  let s := [10, 11, 12, 13, 14].foldl (fun (s : NodeIds) g => (s.add g).2.2) NodeIds.create
  ((s.remove 1).2.remove 3).2

def exIt : Interp Int :=
  { max := 20, hired := List.replicate 20 false, cell := (List.range 20).map fun (i : Nat) => ((100 + i : Nat) : Int),
    part := List.replicate 20 0, bary := (List.range 80).map fun (q : Nat) => (q : Int) }

/-- the hypotheses of `interpPack_aligned` are met by the real `stableCompact` map of a state with holes, and the
    conclusion moves the record of old slot 4 (cell 104, bary 16..19) to new slot 2 -/
example : exIds.stableCompact = (.ok, exIds.stableCompact.2.1, exIds.stableCompact.2.2) ∧
    exIds.stableCompact.2.2 = [0, 2, 4] ∧ exIds.stableCompact.2.1.take 5 = [0, -1, 1, -1, 2] ∧
    (∃ it', interpPack 0 exIds.n 0 exIds.stableCompact.2.2 exIt = .ok it' ∧ cellAt it' 2 = 104 ∧
      (baryAt 0 it' 2).b0 = 16 ∧ (baryAt 0 it' 2).b3 = 19 ∧ cellAt it' 3 = EMPTY) := by
  refine ⟨by decide, by decide, by decide, ?_⟩
  exact ⟨_, rfl, by decide, by decide, by decide, by decide⟩

end Refine.Props.C05Pack
