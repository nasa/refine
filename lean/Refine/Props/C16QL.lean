import Refine.Props.C16
import Refine.Lemmas.MatrixQL4

/-!
  C16, `diagM_similarity`: the eigenvalue half of `ref_matrix_diag_m` (model `diagM`), over ℝ.

  A QL state `(d, e, f, Q)` in row `l` stands for the matrix `Q (T + f·P_{≥l}) Qᵀ` (`QL.reprMat l`, `T` = the
  symmetric tridiagonal `(d, e)` with the finished rows' sub-diagonal entries left out, `P_{≥l}` = the rows that still
  carry the accumulated shift).  Every inner step of the `ql transformation` loop is a Givens similarity of the
  full 3x3 matrix with the bulge stored explicitly; every sweep (shift + rotations + tql2's closing recurrence)
  keeps `reprMat`; the loop, the row and the routine follow by induction.  The convergence test is a threshold:
  an entry `e` that passes it is dropped although it is not 0, so in exact arithmetic
      `m = Q diag(d) Qᵀ + resid`,   `resid` = the (at most three) dropped entries, each of size ≤ the tolerance
  of the test (`QL.tol`: `1.0e-14 * tst1`, resp. `1.0e-14` for the absolute variant of `relativeConvergence`), each
  between the two vectors it coupled when it was dropped — and
  `m = Q diag(d) Qᵀ` when the dropped entries were exactly 0.
-/
namespace Refine.Props.C16QL
open Refine Refine.Model.Matrix Refine.ScalarReal
open _root_.Matrix

/-- every inner step `i` (the body of `for (ii = 0; ii < mml; ii++)`: g, h, r, `e[i+1] = s*r`, s, c, p, `d[i+1]`
    and the rotation of vectors i, i+1) is a plane rotation `G` with `c² + s² = 1` applied as `Q' = Q G` -/
theorem ql_rotation_is_givens (w : Sweep ℝ) :
    (w.st.e1 ≠ 0 → (innerStep 1 w).c * (innerStep 1 w).c + (innerStep 1 w).s * (innerStep 1 w).s = 1 ∧
      (innerStep 1 w).st.d.V = w.st.d.V * G12 (innerStep 1 w).c (innerStep 1 w).s) ∧
    (w.st.e0 ≠ 0 → (innerStep 0 w).c * (innerStep 0 w).c + (innerStep 0 w).s * (innerStep 0 w).s = 1 ∧
      (innerStep 0 w).st.d.V = w.st.d.V * G01 (innerStep 0 w).c (innerStep 0 w).s) :=
  ⟨fun he => ⟨(innerStep_rot 1 w he).1, innerStep1_V w⟩, fun he => ⟨(innerStep_rot 0 w he).1, innerStep0_V w⟩⟩

/-- … and a similarity `M' = Gᵀ M G` of the full symmetric 3x3 matrix `M` the loop locals stand for (bulge at
    (i-1, i+1) included: `Sweep.mat0` in row 0, `Sweep.mat1` in row 1), so `Q M Qᵀ` (`Sweep.W0/W1`) is kept -/
theorem ql_rotation_similarity (w : Sweep ℝ) :
    (w.st.e1 ≠ 0 → (innerStep 1 w).W0 1 = w.W0 2 ∧ (innerStep 1 w).W1 1 = w.W1 2) ∧
    (w.st.e0 ≠ 0 → (innerStep 0 w).W0 0 = w.W0 1) :=
  ⟨fun he => ⟨innerStep1_W0 w he, innerStep1_W1 w he⟩, fun he => innerStep0_W0 w he⟩

/-- tql2's closing recurrence `p = -s*s2*c3*el1*e[l]/dl1` is the `p` left by the loop, because the shift makes the
    leading 2x2 block singular (`a * b = e0²`): two rotations, and one rotation (where it is 0) -/
theorem ql_closing_recurrence (a b e0 e1 d2 r1 r2 : ℝ) (hab : a * b = e0 * e0) (hb : b ≠ 0) (hr1 : r1 ≠ 0)
    (hr2 : r2 ≠ 0) :
    -(e0 / r2) * (e1 / r1) * 1 * e1 * e0 / b =
      (d2 / r1 * b - e1 / r1 * (1 * e1)) / r2 * a - e0 / r2 * (d2 / r1 * e0) ∧
    b / r2 * a - e0 / r2 * (1 * e0) = 0 :=
  ⟨close_two a b e0 e1 d2 r1 r2 hab hb hr1 hr2, close_one a b e0 r2 hab hr2⟩

/-- every sweep (form shift, rotations, closing assignments) of a 3x3 problem is an exact orthogonal similarity:
    block 0..1 (once `e[1]`, which passed the test, is dropped; it is overwritten by 0), block 1..2, and the
    two-rotation sweep over the full block 0..2.  The one-rotation sweeps annihilate `e[l]` exactly. -/
theorem ql_sweep_similarity (st : QL ℝ) :
    (st.e0 ≠ 0 → (sweep 0 1 st).reprMat 0 = ({ st with e1 := 0 } : QL ℝ).reprMat 0 ∧
      (sweep 0 1 st).e0 = 0 ∧ (sweep 0 1 st).e1 = 0) ∧
    (st.e1 ≠ 0 → (sweep 1 2 st).reprMat 1 = st.reprMat 1 ∧ (sweep 1 2 st).e1 = 0 ∧ (sweep 1 2 st).e0 = st.e0) ∧
    (st.e0 ≠ 0 → st.e1 ≠ 0 → (sweep 0 2 st).reprMat 0 = st.reprMat 0) :=
  ⟨sweep01_repr st, sweep12_repr st, sweep02_repr st⟩

/-- the `do … while` loop of row l over the block l..mm, any number of sweeps (fuel = the 30-sweep cap): exact
    similarity, ends with an `e[l]` that passes the test, `tst1` untouched -/
theorem ql_loop_similarity (fuel l mm : Nat) (hl : l < mm) (hm : mm ≤ 2) (st st' : QL ℝ) (h : QLInv l mm st)
    (hq : qlLoop fuel l mm st = .ok st') :
    st'.reprMat l = (dropE mm st).reprMat l ∧ st'.isSmall l = true ∧ st'.tst1 = st.tst1 :=
  (qlLoop_repr fuel l mm hl hm st st' h hq).2

/-- one trip of the row loop: the represented matrix loses exactly the entries the convergence test dropped —
    `rowEps` when the block is chosen, `e[l]` when the row is finished — each bounded by the tolerance.  (`ht` is not
    read: `tstUpd_nonneg`.) -/
theorem ql_row_similarity (l : Nat) (hl : l ≤ 2) (st st' : QL ℝ) (ho : Orthonormal st.d) (ht : 0 ≤ st.tst1)
    (h : rowStep l st = .ok st') :
    st.reprMat l = st'.reprMat (l + 1) + dropMat st.d 0 (rowEps l st) +
        dropMat st'.d (if l = 0 then st'.e0 else 0) (if l = 1 then st'.e1 else 0) ∧
      |rowEps l st| ≤ st'.tol ∧ |st'.getE l| ≤ st'.tol ∧ st.tst1 ≤ st'.tst1 :=
  (rowStep_repr l hl st st' ho h).2

/-- `diagM_similarity`.  Whenever `ref_matrix_diag_m` returns REF_SUCCESS with the system `d` (values and vectors Q):
    `m = Q diag(d) Qᵀ + resid` entry by entry, where `resid` (`DiagRun.resid`) is the sum of the three dropped
    sub-diagonal entries `eps0` (e[1] when row 0 chose the block 0..1), `eps1` (e[0] when row 0 finished), `eps2`
    (e[1] when row 1 finished), each placed between the two vectors it coupled at that moment and each bounded by
    the tolerance of the convergence test at the end of the run (`QL.tol`: `1.0e-14 * tst1`, resp. `1.0e-14` for
    the absolute variant of the test) -/
theorem diagM_similarity (m : M6 ℝ) (d : Eig12 ℝ) (h : diagM m = .ok d) :
    ∃ r : DiagRun m d, m = formM d + r.resid ∧ |r.eps0| ≤ r.tol ∧ |r.eps1| ≤ r.tol ∧ |r.eps2| ≤ r.tol := by
  obtain ⟨r⟩ := diagM_run m d h
  exact ⟨r, r.eq_add_resid, r.facts.b0, r.facts.b1, r.facts.b2⟩

/-- the residual is small in the operator norm: the quadratic forms of `m` and of `Q diag(d) Qᵀ` differ by at most
    `3 · tol · |x|²` for every x -/
theorem diagM_residual_bound (m : M6 ℝ) (d : Eig12 ℝ) (r : DiagRun m d) (x : Vec3 ℝ) :
    |vtMv m x - vtMv (formM d) x| ≤ 3 * r.tol * (x.x * x.x + x.y * x.y + x.z * x.z) := by
  have he := r.eq_add_resid
  have F := r.facts
  have hv : vtMv m x - vtMv (formM d) x = vtMv r.resid x := by
    conv_lhs => rw [he, vtMv_add]
    ring
  rw [hv, DiagRun.resid, vtMv_add, vtMv_add]
  have n0 : 0 ≤ x.x * x.x + x.y * x.y + x.z * x.z := by
    linarith [mul_self_nonneg x.x, mul_self_nonneg x.y, mul_self_nonneg x.z]
  have l0 := vtMv_offDiag_le F.o0 0 r.eps0 x
  have l1 := vtMv_offDiag_le F.o1 r.eps1 0 x
  have l2 := vtMv_offDiag_le F.o2 0 r.eps2 x
  rw [abs_zero] at l0 l1 l2
  linarith [abs_add_three (vtMv (offDiag (rot0 m).d 0 r.eps0) x) (vtMv (offDiag r.st1.d r.eps1 0) x)
      (vtMv (offDiag r.st2.d 0 r.eps2) x),
    mul_le_mul_of_nonneg_right F.b0 n0, mul_le_mul_of_nonneg_right F.b1 n0, mul_le_mul_of_nonneg_right F.b2 n0]

/-- the clean corollary: when the entries the convergence test dropped were exactly zero, the decomposition is exact -/
theorem diagM_similarity_exact (m : M6 ℝ) (d : Eig12 ℝ) (r : DiagRun m d)
    (h0 : r.eps0 = 0) (h1 : r.eps1 = 0) (h2 : r.eps2 = 0) : formM d = m ∧ IsEigSys d m :=
  ⟨(r.isEigSys h0 h1 h2).2, r.isEigSys h0 h1 h2⟩

/-- which entries these are: `eps1`, `eps2` are what is left in `e[0]`, `e[1]` when the routine returns (rows 1, 2 do
    not touch `e[0]`, row 2 does not touch `e[1]`); `eps0` is 0 or the `e[1]` of the first rotation, which the first
    inner step of row 0 overwrites -/
theorem diagM_dropped_entries (m : M6 ℝ) (d : Eig12 ℝ) (r : DiagRun m d) :
    r.eps1 = r.st3.e0 ∧ r.eps2 = r.st3.e1 ∧ (r.eps0 = 0 ∨ r.eps0 = (rot0 m).e1) := by
  refine ⟨r.eps1_eq, r.eps2_eq, ?_⟩
  unfold DiagRun.eps0 rowEps
  split_ifs
  · right; rfl
  · left; rfl

/-- `e_final = 0 → Q diag(d) Qᵀ = m`: if the sub-diagonal entries left in `e[0]`, `e[1]` at return are exactly 0 (and
    the e[1] possibly dropped when row 0 chose its block was 0), the decomposition is exact -/
theorem diagM_similarity_efinal (m : M6 ℝ) (d : Eig12 ℝ) (r : DiagRun m d)
    (h0 : r.eps0 = 0) (he0 : r.st3.e0 = 0) (he1 : r.st3.e1 = 0) : formM d = m :=
  (r.isEigSys h0 (r.eps1_eq.trans he0) (r.eps2_eq.trans he1)).2

/-- `ZeroResidual m d` (= `diagM m` returned `d` and nothing non-zero was dropped) discharges the `IsEigSys`
    hypothesis of the theorems of `Props/C16.lean` -/
theorem zeroResidual_isEigSys {m : M6 ℝ} {d : Eig12 ℝ} (h : ZeroResidual m d) : diagM m = .ok d ∧ IsEigSys d m := by
  obtain ⟨r, h0, h1, h2⟩ := h
  exact ⟨r.diagM_eq, r.isEigSys h0 h1 h2⟩

/-- positive definiteness without any exactness hypothesis: if `ref_matrix_diag_m` returns eigenvalues that all exceed
    three times the tolerance of its convergence test, the input matrix is positive definite -/
theorem diagM_spd_of_margin (m : M6 ℝ) (d : Eig12 ℝ) (r : DiagRun m d)
    (h0 : 3 * r.tol < d.l0) (h1 : 3 * r.tol < d.l1) (h2 : 3 * r.tol < d.l2)
    (x : Vec3 ℝ) (hx : x.x ≠ 0 ∨ x.y ≠ 0 ∨ x.z ≠ 0) : 0 < vtMv m x := by
  have hb := (abs_le.mp (diagM_residual_bound m d r x)).1
  have hl := formM_lower d (diagM_orthonormal' m d r.diagM_eq) h0 h1 h2 x hx
  linarith

/-- `exp_m (log_m m) = m` for positive eigenvalues, when the two inner runs dropped nothing non-zero -/
theorem exp_log_zeroResidual (m lg : M6 ℝ) (d d' : Eig12 ℝ) (z1 : ZeroResidual m d)
    (hpos : 0 < d.l0 ∧ 0 < d.l1 ∧ 0 < d.l2) (hl : logM m = .ok lg) (z2 : ZeroResidual lg d') : expM lg = .ok m :=
  C16.exp_log m lg d d' (zeroResidual_isEigSys z1).1 (zeroResidual_isEigSys z1).2 hpos hl
    (zeroResidual_isEigSys z2).1 (zeroResidual_isEigSys z2).2

/-- `log_m (exp_m m) = m`, when the two inner runs dropped nothing non-zero -/
theorem log_exp_zeroResidual (m ex : M6 ℝ) (d d' : Eig12 ℝ) (z1 : ZeroResidual m d)
    (hx : expM m = .ok ex) (z2 : ZeroResidual ex d') : logM ex = .ok m :=
  C16.log_exp m ex d d' (zeroResidual_isEigSys z1).1 (zeroResidual_isEigSys z1).2 hx
    (zeroResidual_isEigSys z2).1 (zeroResidual_isEigSys z2).2

/-- `sqrt_m`: `s² = m`, `s · is = is · s = 1`, when the inner run dropped nothing non-zero -/
theorem sqrt_zeroResidual (m s is : M6 ℝ) (d : Eig12 ℝ) (z : ZeroResidual m d) (h : sqrtM m = .ok (s, is)) :
    s.toMat * s.toMat = m.toMat ∧ s.toMat * is.toMat = 1 ∧ is.toMat * s.toMat = 1 :=
  (C16.sqrtM_spec m s is d (zeroResidual_isEigSys z).1 (zeroResidual_isEigSys z).2 h).2

/-- the hypotheses of the intersect / bound theorems of `Props/C16.lean` (`InnerExact`), from the runs themselves -/
theorem innerExact_of_zeroResidual {m1 m2 s is : M6 ℝ} {d1 d2 : Eig12 ℝ} (z1 : ZeroResidual m1 d1)
    (hs : sqrtM m1 = .ok (s, is)) (z2 : ZeroResidual (multM0M1M0 is m2) d2) : C16.InnerExact m1 m2 s is d1 d2 :=
  ⟨(zeroResidual_isEigSys z1).1, (zeroResidual_isEigSys z1).2, hs, (zeroResidual_isEigSys z2).1,
    (zeroResidual_isEigSys z2).2⟩

/-- the class of inputs on which exactness is proved outright: tridiagonal form with e[1] = 0 (every 2-D embedded
    matrix `m13 = m23 = 0`, and e.g. every `m23 = 0, m22 = m33`) and an e[0] that does not pass the test at the start -/
theorem diagM_exact_block2 (m : M6 ℝ) (he1 : (rot0 m).e1 = 0) (hs : (tstUpd 0 (rot0 m)).isSmall 0 = false) :
    ∃ d, ZeroResidual m d ∧ diagM m = .ok d ∧ IsEigSys d m := by
  obtain ⟨d, _, z | ⟨_, s⟩⟩ := diagM_block2 m he1
  · exact ⟨d, z, zeroResidual_isEigSys z⟩
  · rw [hs] at s; cases s

/-- `ref_matrix_descending_eig` only permutes (value, vector) pairs: `form_m` of the result is `form_m` of the input
    (no hypothesis on `d`) -/
theorem descendingEig_formM (d : Eig12 ℝ) : formM (descendingEig d) = formM d := by
  unfold descendingEig
  dsimp only
  split_ifs <;> simp only [formM_swap01, formM_swap02, formM_swap12]

/-- `form_m` of an orthonormal system with positive values is positive definite: `xᵀ M x = Σ l_k (v_k·x)² > 0` -/
theorem formM_spd (d : Eig12 ℝ) (ho : Orthonormal d) (hpos : 0 < d.l0 ∧ 0 < d.l1 ∧ 0 < d.l2)
    (x : Vec3 ℝ) (hx : x.x ≠ 0 ∨ x.y ≠ 0 ∨ x.z ≠ 0) : 0 < vtMv (formM d) x :=
  vtMv_formM_pos d ho hpos x hx

/-- `diagM_similarity`, `diagM_similarity_exact`, `ZeroResidual`: the non-diagonal matrix [[1,3,4],[3,2,0],[4,0,2]]
    goes through the first rotation (L = 5) and one genuine QL sweep, nothing non-zero is dropped, and the returned
    system reconstructs it exactly -/
example : ∃ d, ZeroResidual (⟨1, 3, 4, 2, 0, 2⟩ : M6 ℝ) d ∧ diagM ⟨1, 3, 4, 2, 0, 2⟩ = .ok d ∧
    formM d = ⟨1, 3, 4, 2, 0, 2⟩ := by
  obtain ⟨d, z, h, e⟩ := diagM_exact_block2 (⟨1, 3, 4, 2, 0, 2⟩ : M6 ℝ) (by rw [rot0_example345]) example345_not_small
  exact ⟨d, z, h, e.2⟩

/-- `log_exp_zeroResidual`, `exp_log_zeroResidual`, `sqrt_zeroResidual`: the hypotheses hold for diagonal matrices -/
example : logM (⟨Real.exp (-1), 0, 0, Real.exp 0, 0, Real.exp 7⟩ : M6 ℝ) = .ok ⟨-1, 0, 0, 0, 0, 7⟩ :=
  log_exp_zeroResidual ⟨-1, 0, 0, 0, 0, 7⟩ _ _ _ (zeroResidual_diag (-1) 0 7) (C16.expM_diag (-1) 0 7)
    (zeroResidual_diag (Real.exp (-1)) (Real.exp 0) (Real.exp 7))

example : expM (⟨Real.log 2, 0, 0, Real.log 3, 0, Real.log 5⟩ : M6 ℝ) = .ok ⟨2, 0, 0, 3, 0, 5⟩ :=
  exp_log_zeroResidual ⟨2, 0, 0, 3, 0, 5⟩ _ _ _ (zeroResidual_diag 2 3 5) ⟨by norm_num, by norm_num, by norm_num⟩
    (C16.logM_diag 2 3 5) (zeroResidual_diag (Real.log 2) (Real.log 3) (Real.log 5))

/-- `innerExact_of_zeroResidual`: A = diag(4, 9, 1), B = diag(1, 36, 1/4) -/
example : C16.InnerExact (⟨4, 0, 0, 9, 0, 1⟩ : M6 ℝ) ⟨1, 0, 0, 36, 0, 1 / 4⟩ ⟨2, 0, 0, 3, 0, 1⟩ ⟨1 / 2, 0, 0, 1 / 3, 0, 1⟩
    ⟨4, 9, 1, 1, 0, 0, 0, 1, 0, 0, 0, 1⟩ ⟨1 / 2 * 1 * (1 / 2), 1 / 3 * 36 * (1 / 3), 1 * (1 / 4) * 1, 1, 0, 0, 0, 1, 0, 0, 0, 1⟩ :=
  innerExact_of_zeroResidual (zeroResidual_diag 4 9 1) C16.sqrtM_diag491
    (by rw [multM0M1M0_diag]; exact zeroResidual_diag _ _ _)

/-- `ql_sweep_similarity` / `ql_rotation_similarity`: the hypotheses `e[0] ≠ 0`, `e[1] ≠ 0` of the two-rotation sweep
    are met, e.g. by the tridiagonal state of [[2,1,0],[1,3,1],[0,1,4]] -/
example : (sweep 0 2 ({ d := ⟨2, 3, 4, 1, 0, 0, 0, 1, 0, 0, 0, 1⟩, e0 := 1, e1 := 1, e2 := 0, f := 0, tst1 := 3 } : QL ℝ)).reprMat 0 =
    ({ d := ⟨2, 3, 4, 1, 0, 0, 0, 1, 0, 0, 0, 1⟩, e0 := 1, e1 := 1, e2 := 0, f := 0, tst1 := 3 } : QL ℝ).reprMat 0 :=
  sweep02_repr _ one_ne_zero one_ne_zero

end Refine.Props.C16QL
