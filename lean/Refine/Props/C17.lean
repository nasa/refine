import Refine.Model.Comm
import Refine.Lemmas.Comm
import Refine.Lemmas.CommReduce
import Refine.Lemmas.CommSelect
import Refine.Lemmas.CommP2P
import Refine.Lemmas.CommExchange
import Mathlib.Data.Int.Order.Basic

/-!
  C17 — communication primitives deliver every item exactly once.

  Every theorem is about the executable model `Refine.Model.Comm` (tied to `ref_mpi.c` /
  `ref_search_selection` by the `comm_*` correspondence streams) and holds for EVERY rank count
  (`blocks.length`, `w.length`, `ws.length` are arbitrary, 1 and 0 included) and every count vector
  (zeros included).  What MPI itself does (`mpiAlltoallv`, the tagged point-to-point matcher, `MPI_Reduce`, …)
  is the trusted specification of DESIGN.md section 4.

  Vocabulary (defined in `Refine/Lemmas/Comm*.lean`):
  * `a2aWorld blocks recv0` — rank `s` sends the items `blocks[s][r]` (each `n` scalars) to rank `r`;
    `column r blocks` is what rank `r` is sent, by source rank.
  * `blindOf pairs` — the `ref_mpi_blindsend` arguments for `(destination, item)` pairs; `bucket q pairs` the items
    addressed to `q` in their original order; `delivered r w` the items addressed to `r` by source rank, then
    original index.
  * `balanceIn ws` — rank `r` holds the items `ws[r]`; `balanced first last ws r` the `r`-th run of the
    concatenation, runs as long as the shares `shareNat total first last r`.
-/
namespace Refine.Props.C17
open Refine Refine.Model.Comm Refine.Lemmas.Comm

variable {α : Type}

/-! ## all-to-all -/

/-- `ref_mpi_alltoallv` (MPI variant): rank `r` receives the blocks addressed to it, concatenated in source-rank
    order; the status is ok on every rank.  Hypotheses: the type is known to `ref_type_mpi_type`, every item has `n`
    scalars, the receive buffers have the size the counts say, the element totals fit an `int`. -/
theorem alltoallv_spec (ty : RefType) (hty : ty.mpiOk = true) (maxTag : Int) (n : Nat)
    (blocks : List (List (List (List α)))) (recv0 : Nat → List α)
    (hitem : ∀ b ∈ blocks, ∀ blk ∈ b, ∀ it ∈ blk, it.length = n)
    (hrecv : ∀ r, r < blocks.length → ((recv0 r).length : Int) = (n : Int) * (countsI (column r blocks)).sum)
    (hsend : ∀ b ∈ blocks, (n : Int) * (countsI b).sum ≤ INT_MAX)
    (hrcv : ∀ r, r < blocks.length → (n : Int) * (countsI (column r blocks)).sum ≤ INT_MAX) :
    alltoallv false ty maxTag (n : Int) (a2aWorld blocks recv0)
      = some ((List.range blocks.length).map fun r => (Status.ok, ((column r blocks).flatten).flatten)) := by
  rw [alltoallv_false]
  exact alltoallvMpi_spec ty hty n blocks recv0 hitem hrecv hsend hrcv

/-- `ref_mpi_alltoallv_native` (`MPI_Irecv`/`MPI_Isend` with tag `n*receiver+sender`): same result, for the three
    types its `switch` knows, whenever `np*np` does not exceed the tag bound. No overflow guard is needed. -/
theorem alltoallv_native_spec (ty : RefType) (hty : ty.nativeOk = true) (maxTag : Int) (n : Nat)
    (blocks : List (List (List (List α)))) (recv0 : Nat → List α)
    (hmax : (blocks.length : Int) * blocks.length ≤ maxTag)
    (hsq : ∀ b ∈ blocks, b.length = blocks.length)
    (hitem : ∀ b ∈ blocks, ∀ blk ∈ b, ∀ it ∈ blk, it.length = n)
    (hrecv : ∀ r, r < blocks.length → ((recv0 r).length : Int) = (n : Int) * (countsI (column r blocks)).sum) :
    alltoallv true ty maxTag (n : Int) (a2aWorld blocks recv0)
      = some ((List.range blocks.length).map fun r => (Status.ok, ((column r blocks).flatten).flatten)) := by
  rw [alltoallv_true]
  exact alltoallvNative_spec ty hty maxTag n blocks recv0 hmax hsq hitem hrecv

/-- both implementations give the same answer -/
theorem alltoallv_native_eq_mpi (ty : RefType) (hty : ty.nativeOk = true) (maxTag : Int) (n : Nat)
    (blocks : List (List (List (List α)))) (recv0 : Nat → List α)
    (hmax : (blocks.length : Int) * blocks.length ≤ maxTag)
    (hsq : ∀ b ∈ blocks, b.length = blocks.length)
    (hitem : ∀ b ∈ blocks, ∀ blk ∈ b, ∀ it ∈ blk, it.length = n)
    (hrecv : ∀ r, r < blocks.length → ((recv0 r).length : Int) = (n : Int) * (countsI (column r blocks)).sum)
    (hsend : ∀ b ∈ blocks, (n : Int) * (countsI b).sum ≤ INT_MAX)
    (hrcv : ∀ r, r < blocks.length → (n : Int) * (countsI (column r blocks)).sum ≤ INT_MAX) :
    alltoallv true ty maxTag (n : Int) (a2aWorld blocks recv0)
      = alltoallv false ty maxTag (n : Int) (a2aWorld blocks recv0) := by
  rw [alltoallv_native_spec ty hty maxTag n blocks recv0 hmax hsq hitem hrecv,
    alltoallv_spec ty (mpiOk_of_ild hty) maxTag n blocks recv0 hitem hrecv hsend hrcv]

/-- the size loops of `ref_mpi_alltoallv` fail exactly on a negative size or an `n*size` outside `int` -/
theorem alltoallv_size_guard (n : Int) (xs : List Int) :
    sizeN n xs = none ↔ ∃ x ∈ xs, x < 0 ∨ OutOfInt (n * x) := by
  fun_induction sizeN n xs
  case case1 => simp
  case case2 x xs hg ih =>
    -- this size passes both tests: the failure, if any, is further on
    simp only [Bool.and_eq_true, decide_eq_true_eq] at hg
    have hnot : ¬ OutOfInt (n * x) := fun h => by rw [← intMultipliable_false_iff, hg.2] at h; cases h
    simp only [Option.map_eq_none_iff, ih, List.mem_cons, exists_eq_or_imp]
    exact ⟨Or.inr, fun h => h.resolve_left fun h' => h'.elim (fun h0 => by omega) hnot⟩
  case case3 x xs hg =>
    refine iff_of_true rfl ⟨x, List.mem_cons_self, ?_⟩
    by_cases hx : 0 ≤ x
    · exact Or.inr ((intMultipliable_false_iff n x).mp (by simpa [hx] using hg))
    · exact Or.inl (by omega)

/-- the displacement loops fail exactly when one of the partial sums they form leaves `[INT_MIN, INT_MAX]`
    (the last size is never added; `0 + …`: the loop starts from displacement 0) -/
theorem alltoallv_disp_guard (xs : List Int) :
    dispGuard 0 xs = none ↔ ∃ k, k + 1 < xs.length ∧ OutOfInt (0 + (xs.take (k + 1)).sum) :=
  dispGuard_eq_none_iff 0 xs

/-- when the guards pass the displacement array is the running sum of the element counts -/
theorem alltoallv_disp_value (xs : List Int) (hx : ∀ x ∈ xs, 0 ≤ x) (hs : xs.sum ≤ INT_MAX) :
    dispGuard 0 xs = some (displs xs) :=
  dispGuard_ok 0 xs (by omega) hx (by omega)

/-- the native tag `np * receiver + sender` identifies the (receiver, sender) pair -/
theorem native_tag_scheme (np r s r' s' : Nat) (hs : s < np) (hs' : s' < np)
    (h : np * r + s = np * r' + s') : r = r' ∧ s = s' := by
  have hpos : 0 < np := by omega
  have h1 : (np * r + s) / np = r := by
    rw [Nat.mul_add_div hpos, Nat.div_eq_of_lt hs]; rfl
  have h2 : (np * r' + s') / np = r' := by
    rw [Nat.mul_add_div hpos, Nat.div_eq_of_lt hs']; rfl
  have h3 : (np * r + s) % np = s := by rw [Nat.mul_add_mod, Nat.mod_eq_of_lt hs]
  have h4 : (np * r' + s') % np = s' := by rw [Nat.mul_add_mod, Nat.mod_eq_of_lt hs']
  constructor
  · rw [← h1, ← h2, h]
  · rw [← h3, ← h4, h]

/-! ## blind send -/

/-- the bucket pack of `ref_mpi_blindsend`: from the `a_size` counts and `a_next` prefix sums the packed buffer is,
    destination by destination, the items addressed to it in their original order (stable) — for ANY initial
    contents `init` of `a_data`, so every slot is written (and, the number of writes being the number of slots,
    exactly once). -/
theorem bucket_pack_layout (ldim np : Nat) (pairs : List (Nat × List α)) (hd : ∀ x ∈ pairs, x.1 < np)
    (hi : ∀ x ∈ pairs, x.2.length = ldim) (init : List α) (hinit : init.length = ldim * pairs.length) :
    pack ldim (blindOf pairs).proc (blindOf pairs).send init (displs (countDest np (blindOf pairs).proc))
      = ((List.range np).map fun q => (bucket q pairs).flatten).flatten := by
  have := pack_init ldim np pairs hd hi init (by rw [bucket_total np pairs hd]; exact hinit)
  rw [List.flatMap_def] at this
  exact this

/-- the packed items are a permutation of the items handed in -/
theorem bucket_pack_perm (np : Nat) (pairs : List (Nat × List α)) (hd : ∀ x ∈ pairs, x.1 < np) :
    ((List.range np).flatMap fun q => bucket q pairs).Perm (pairs.map (·.2)) :=
  sentTo_perm np pairs hd

/-- `ref_mpi_blindsend`: rank `r` receives exactly the items addressed to it, each with its full payload, ordered by
    source rank and then by the source's order; `nrecv` is their number; the status is ok everywhere.  Both
    `ref_mpi_alltoallv` implementations.  (`np = 1` is the copy path.) -/
theorem blindsend_spec [Inhabited α] (native : Bool) (ty : RefType) (hty : ty.ild = true) (maxTag : Int)
    (ldim : Nat) (w : World (List (Nat × List α)))
    (hd : ∀ pairs ∈ w, ∀ x ∈ pairs, x.1 < w.length)
    (hi : ∀ pairs ∈ w, ∀ x ∈ pairs, x.2.length = ldim)
    (hnat : native = true → (w.length : Int) * w.length ≤ maxTag)
    (hsend : native = false → ∀ pairs ∈ w, (ldim : Int) * pairs.length ≤ INT_MAX)
    (hrecv : native = false → ∀ r, r < w.length → (ldim : Int) * (delivered r w).length ≤ INT_MAX) :
    blindsend native ty maxTag ldim (w.map blindOf)
      = some ((List.range w.length).map fun r =>
          (Status.ok, ((delivered r w).length : Int), (delivered r w).flatten)) :=
  Refine.Lemmas.Comm.blindsend_spec native ty hty maxTag ldim w hd hi hnat hsend hrecv

/-- nothing is lost, duplicated or misdelivered: what the ranks receive is, rank by rank, the sub-list of all
    `(destination, item)` pairs (source-rank order) with that destination -/
theorem blindsend_exactly_once (w : World (List (Nat × List α))) (r : Nat) :
    delivered r w = (w.flatten.filter fun x => x.1 == r).map (·.2) :=
  arrive_eq_filter r w

/-! ## balance -/

/-- `find_destination`: the item with global number `k` goes to the rank whose running share interval contains `k` -/
theorem find_destination_spec (cs : Nat → Nat) (np k r : Nat) (hk : k < prefSum cs np) (hr : r < np) :
    findDestination np (sharesI cs np) (k : Int) = (r : Int) ↔ prefSum cs r ≤ k ∧ k < prefSum cs (r + 1) :=
  findDestination_iff cs np k r hk hr

/-- `ref_mpi_balance` with `0 ≤ first ≤ last < np`: every rank returns ok with `nbalanced` items; the concatenation
    over the ranks is the original concatenation (same items, same order, same payload); ranks outside
    `[first, last]` get nothing; two active ranks differ by at most one item; the shares sum to the total. -/
theorem balance_spec [Inhabited α] (native : Bool) (ty : RefType) (hty : ty.ild = true) (maxTag : Int)
    (ldim : Nat) (first last : Nat) (ws : World (List (List α)))
    (hfl : first ≤ last) (hl : last < ws.length)
    (hi : ∀ its ∈ ws, ∀ it ∈ its, it.length = ldim)
    (hnat : native = true → (ws.length : Int) * ws.length ≤ maxTag)
    (hrange : native = false → (ldim : Int) * ws.flatten.length ≤ INT_MAX) :
    balance native ty maxTag ldim (first : Int) (last : Int) (balanceIn ws)
        = some ((List.range ws.length).map fun r =>
            (Status.ok, ((balanced first last ws r).length : Int), (balanced first last ws r).flatten))
      ∧ ((List.range ws.length).map (balanced first last ws)).flatten = ws.flatten
      ∧ (∀ r, r < ws.length → (r < first ∨ last < r) → balanced first last ws r = [])
      ∧ (∀ r q, first ≤ r → r ≤ last → first ≤ q → q ≤ last →
          (balanced first last ws r).length ≤ (balanced first last ws q).length + 1)
      ∧ ((List.range ws.length).map fun r => (balanced first last ws r).length).sum = ws.flatten.length :=
  Refine.Lemmas.Comm.balance_spec native ty hty maxTag ldim first last ws hfl hl hi hnat hrange

/-! ## gathers -/

/-- `ref_mpi_allgatherv`: every rank ends up with the concatenation of the local arrays in rank order -/
theorem allgatherv_spec (ty : RefType) (hty : ty.ild = true) (locals : World (List α)) (recv0 : Nat → List α)
    (hrecv : ∀ r, r < locals.length → (recv0 r).length = locals.flatten.length) :
    allgatherv ty (gathervWorld locals recv0) = some (locals.map fun _ => (Status.ok, locals.flatten)) :=
  allgatherv_eq ty hty locals recv0 hrecv

/-- `ref_mpi_allconcat`: every rank gets the total, the source rank of every item, and the concatenation -/
theorem allconcat_spec [Inhabited α] (ty : RefType) (hty : ty.id = true) (ldim : Nat)
    (ws : World (List (List α))) (hi : ∀ its ∈ ws, ∀ it ∈ its, it.length = ldim) :
    allconcat ty ldim (balanceIn ws)
      = some (ws.map fun _ =>
          (Status.ok, (ws.flatten.length : Int),
            (ws.mapIdx fun r its => List.replicate its.length (r : Int)).flatten, ws.flatten.flatten)) :=
  allconcat_eq ty hty ldim ws hi

/-- `ref_mpi_allgather`: every rank gets the vector of the ranks' scalars -/
theorem allgather_spec (ty : RefType) (hty : ty.ild = true) (w : World α) :
    allgather ty w = w.map fun _ => (Status.ok, w) :=
  allgather_eq ty hty w

/-- `ref_mpi_bcast` into buffers of exactly `n` elements: everybody holds rank 0's data -/
theorem bcast_spec (ty : RefType) (hmpi : ty.mpiOk = true) (n : Nat) (root : List α) (rest : World (List α))
    (hlen : ∀ d ∈ root :: rest, d.length = n) :
    bcast ty n (root :: rest) = (root :: rest).map fun _ => (Status.ok, root) :=
  bcast_full ty hmpi n root rest hlen

/-- the rank-0 scatter loop (`ref_mpi_scatter_send` to every worker, `ref_mpi_scatter_recv` on the workers):
    the tags match and worker `p` receives exactly `chunks[p]`; rank 0 keeps `chunks[0]` -/
theorem scatter_spec [Inhabited α] (ty : RefType) (hty : ty.mpiOk = true) (maxTag : Int) (chunks : List (List α))
    (hmax : (chunks.length : Int) ≤ maxTag + 1) :
    scatter ty maxTag chunks = some (chunks.map fun c => (Status.ok, c)) := by
  rw [scatter_eq_p2pExchange, scatterPosted_ok ty hty maxTag chunks hmax, p2pExchange_eq_p2pWith]
  refine p2pWith_ok _ _ chunks (by simp [scatterWorld]) ?_
  have hW : ∀ s, (hs : s < chunks.length) → s ≠ 0 → (scatterWorld chunks)[s]?
      = some ⟨Status.ok, [⟨0, (s : Int), 0, (chunks[s].length : Int)⟩], [], List.replicate chunks[s].length default⟩ := by
    intro s hs hs0
    simp [scatterWorld, hs, hs0]
  intro r p hp
  obtain ⟨hr, rfl⟩ := of_getElem?_mapIdx hp
  by_cases hr0 : r = 0
  · -- rank 0: the send to worker `p` meets the one receive worker `p` posted
    subst hr0
    refine ⟨rfl, ?_, by simp [recvPosted]⟩
    simp only [if_true]
    rw [List.all_eq_true]
    intro m hm
    simp only [List.mem_map] at hm
    obtain ⟨⟨c, p⟩, hcp, rfl⟩ := hm
    obtain ⟨i, hi, hget⟩ := List.mem_drop_iff_getElem.mp hcp
    rw [List.getElem_zipIdx] at hget
    have hp1 : 0 + (1 + i) = p := congrArg Prod.snd hget
    have hp : p < chunks.length := by simpa using (List.mem_zipIdx (List.mem_of_mem_drop hcp)).2.1
    rw [sendMatched_of _ _ p _ (hW p hp (by omega))]
    simp
  · -- worker `r`: its receive finds the `r`-th send of rank 0
    have h0 : 0 < chunks.length := by omega
    have hroot : (scatterWorld chunks)[0]? = some ⟨Status.ok, [],
        ((chunks.drop 1).zipIdx 1).map fun (cp : List α × Nat) => ⟨(cp.2 : Int), (cp.2 : Int), cp.1⟩, chunks[0]⟩ := by
      cases chunks with
      | nil => simp at h0
      | cons c cs => simp [scatterWorld, List.zipIdx_cons]
    have hget : (chunks.drop 1).getD (r - 1) [] = chunks[r] := by
      rw [List.getD_eq_getElem?_getD, List.getElem?_drop, show 1 + (r - 1) = r by omega,
        List.getElem?_eq_getElem hr]
      rfl
    have hfm := findMsg_of (scatterWorld chunks) (r : Int) 0 _ hroot (r : Int) 0 (chunks[r].length : Int)
    rw [Int.natCast_zero, find_scatter_msg (chunks.drop 1) 1 r (by omega) (by simp; omega), hget] at hfm
    simp only [hr0, if_false, List.all_nil, recvPosted, true_and, hfm, Int.le_refl, if_true, Int.toNat_zero,
      List.getElem?_eq_getElem hr]
    rw [writeAt_full _ _ (by simp)]

/-- the rank-0 gather loop (`ref_mpi_gather_send` on the workers, `ref_mpi_gather_recv` from every worker):
    rank 0 ends up with the concatenation in rank order -/
theorem gather_spec [Inhabited α] (ty : RefType) (hty : ty.mpiOk = true) (maxTag : Int) (c0 : List α)
    (cs : List (List α)) (hmax : ((c0 :: cs).length : Int) ≤ maxTag + 1) :
    gather ty maxTag (c0 :: cs)
      = some ((Status.ok, (c0 :: cs).flatten) :: cs.map fun _ => (Status.ok, [])) := by
  rw [gather_eq_p2pExchange, gatherPosted_ok ty hty maxTag c0 cs hmax, p2pExchange_eq_p2pWith]
  refine (p2pWith_ok _ _ ((c0 :: cs).flatten :: cs.map fun _ => []) (by simp [gatherWorld]) ?_).trans
    (by rw [List.map_cons, List.map_map]; rfl)
  have hworker : ∀ k, (hk : k < cs.length) →
      (gatherWorld c0 cs)[k + 1]? = some ⟨Status.ok, [], [⟨0, ((k + 1 : Nat) : Int), cs[k]⟩], []⟩ := by
    intro k hk
    simp [gatherWorld, hk]
  intro r p hp
  cases r with
  | zero =>
    -- rank 0: the receive from worker `k + 1` finds that worker's one send
    rw [gatherWorld, List.getElem?_cons_zero] at hp
    obtain rfl := Option.some.inj hp
    refine ⟨rfl, rfl, ?_⟩
    have hdep := gatherReqs_deposits (gatherWorld c0 cs) cs 1 c0.length
      (by
        intro k hk o c
        rw [show 1 + k = k + 1 by omega, findMsg_of _ _ (k + 1) _ (hworker k hk)]
        exact ⟨⟨0, ((k + 1 : Nat) : Int), cs[k]⟩, by simp, by simp [List.getD_eq_getElem?_getD, hk]⟩)
    rw [writeAt_replicate_head _ c0 (by simp), Int.natCast_zero, recvPosted_eq_deposit, hdep, allSome_map_some,
      Option.map_some, deposit_consec cs c0 _ (by simp)]
    simp
  | succ k =>
    -- worker `k + 1`: its send meets the receive rank 0 posted for it
    rw [gatherWorld, List.getElem?_cons_succ] at hp
    obtain ⟨hk, rfl⟩ := of_getElem?_mapIdx hp
    refine ⟨rfl, ?_, by simp [recvPosted, hk]⟩
    have hm := sendMatched_of (gatherWorld c0 cs) ((k + 1 : Nat) : Int) 0 _ rfl ((k + 1 : Nat) : Int) cs[k]
    rw [Int.natCast_zero] at hm
    have := gatherReqs_any cs 1 (c0.length : Int) k hk
    rw [show 1 + k = k + 1 by omega] at this
    rw [List.all_cons, hm, this]
    rfl

/-! ## reductions (exact for integers; floating-point sums are MPI's order and are not claimed) -/

/-- `ref_mpi_allsum` on integers: every rank gets the element-wise sum over the ranks -/
theorem allsum_spec (ty : RefType) (hty : ty.ild = true) (n : Nat) (w : World (List Int))
    (hlen : ∀ v ∈ w, v.length = n) :
    allsum (· + ·) ty n w = w.map fun _ => (Status.ok, vecSum n w) := by
  have htake : ∀ v ∈ w, v.take n = v := fun v hv => List.take_of_length_le (Nat.le_of_eq (hlen v hv))
  have hpairs : (w.map fun v => (v.take n, v)) = w.map fun v => (v, v) :=
    List.map_congr_left fun v hv => by rw [htake v hv]
  unfold allsum
  simp only [hty, Bool.not_true, Bool.false_eq_true, if_false, hpairs]
  match w, hlen with
  | [], _ => simp [sum, bcast]
  | v0 :: vs, hlen =>
    -- rank 0 reduces into its own vector, then broadcasts it over everybody's
    have hl0 : (vecSum n (v0 :: vs)).length = v0.length := by
      rw [length_vecSum, hlen v0 List.mem_cons_self]
    rw [List.map_cons, sum_eq _ ty hty]
    simp only [List.map_cons, List.map_map, Function.comp_def, List.map_id']
    rw [mpiReduce_add n v0 vs hlen, writeAt_full _ _ hl0.symm,
      bcast_full ty (mpiOk_of_ild hty) n _ _ fun dd hdd => by
        rcases List.mem_cons.mp hdd with rfl | hdd
        · exact length_vecSum n _
        · exact hlen dd (List.mem_cons_of_mem _ hdd)]
    simp

/-- `ref_mpi_min` on integers: rank 0 gets a least input -/
theorem min_spec (ty : RefType) (hty : ty.id = true) (x : Int × Int) (xs : List (Int × Int)) :
    ∃ m, (reduce1 (pickMin ltB) ty (x :: xs)).head? = some (Status.ok, m)
      ∧ m ∈ (x :: xs).map (·.1) ∧ ∀ v ∈ (x :: xs).map (·.1), m ≤ v := by
  obtain ⟨hm, hl⟩ := Refine.FoldMin.foldl_min_cons_isLeast x.1 (xs.map (·.1))
  exact ⟨_, (pickMin_eq (γ := Int)) ▸ reduce1_head _ ty hty x xs, hm, fun v hv => hl hv⟩

/-- `ref_mpi_max` on integers: rank 0 gets a greatest input -/
theorem max_spec (ty : RefType) (hty : ty.id = true) (x : Int × Int) (xs : List (Int × Int)) :
    ∃ m, (reduce1 (pickMax ltB) ty (x :: xs)).head? = some (Status.ok, m)
      ∧ m ∈ (x :: xs).map (·.1) ∧ ∀ v ∈ (x :: xs).map (·.1), v ≤ m := by
  obtain ⟨hm, hl⟩ := Refine.FoldMin.foldl_min_cons_isLeast (α := Intᵒᵈ) x.1 (xs.map (·.1))
  exact ⟨_, (pickMax_eq (γ := Int)) ▸ reduce1_head _ ty hty x xs, hm, fun v hv => hl hv⟩

/-- `ref_mpi_allminwho` (`MPI_MINLOC`) in any linear order: per component, every rank gets the least value over the
    ranks and the LOWEST rank holding it -/
theorem allminwho_spec {γ : Type} [LinearOrder γ] (d : γ) (n : Nat) (v0 : List γ) (vs : List (List γ))
    (hlen : ∀ v ∈ v0 :: vs, v.length = n) :
    ∃ vals whos, allminwho ltB n (v0 :: vs) = (v0 :: vs).map (fun _ => (vals, whos))
      ∧ vals.length = n ∧ whos.length = n
      ∧ ∀ i, i < n →
          (∀ v ∈ v0 :: vs, vals.getD i d ≤ v.getD i d)
          ∧ ∃ t : Nat, whos.getD i 0 = (t : Int) ∧ t < (v0 :: vs).length
              ∧ ((v0 :: vs).getD t []).getD i d = vals.getD i d
              ∧ ∀ r, r < t → vals.getD i d < ((v0 :: vs).getD r []).getD i d := by
  have hredlen : (mpiReduce (minloc ltB) n (tagged n (v0 :: vs))).length = n := by
    obtain ⟨p0, ps, hP⟩ : ∃ p0 ps, tagged n (v0 :: vs) = p0 :: ps := ⟨_, _, List.mapIdx_cons⟩
    rw [hP, mpiReduce_col (minloc ltB) n (d, (0 : Int)) p0 ps (hP ▸ tagged_row n _ hlen)]
    simp
  refine ⟨(mpiReduce (minloc ltB) n (tagged n (v0 :: vs))).map (·.1),
    (mpiReduce (minloc ltB) n (tagged n (v0 :: vs))).map (·.2), ?_, by simp [hredlen], by simp [hredlen], ?_⟩
  · cases vs with
    | nil =>
      -- one rank: the serial path returns what the reduction of a single vector would
      have hv0 : v0.length = n := hlen v0 List.mem_cons_self
      subst hv0
      simp [allminwho, tagged, mpiReduce, Function.comp_def, List.map_const', List.take_replicate]
    | cons v1 vs =>
      have hn : ¬ ((v0 :: v1 :: vs).length ≤ 1) := by simp
      unfold allminwho
      simp only [hn, if_false]
      apply List.map_congr_left
      intro v hv
      rw [writeAt_full _ _ (by rw [hlen v hv, List.length_map]; exact hredlen.symm)]
      rfl
  · intro i hi
    obtain ⟨t, ht, hm, hle⟩ := minloc_col d n v0 vs hlen i hi
    -- `vals[i]`, `whos[i]` are the two components of the minimum
    rw [ListFacts.getD_map_of_lt (d, (0 : Int)) (by omega), ListFacts.getD_map_of_lt (d, (0 : Int)) (by omega), hm]
    refine ⟨?_, t, rfl, ht, rfl, ?_⟩
    · intro v hv
      obtain ⟨r, hr, rfl⟩ := List.mem_iff_getElem.mp hv
      rw [← ListFacts.getD_eq_getElem (d := []) hr]
      rcases hle r hr with h | ⟨h, _⟩
      · exact le_of_lt h
      · exact le_of_eq h
    · intro r hr
      rcases hle r (by omega) with h | ⟨_, h⟩
      · exact h
      · simp only at h; omega

/-! ## distributed k-th element (exact arithmetic: `α := ℝ`; rounding is modelled, not verified) -/

/-- `ref_search_selection`, bisection branch: after the 40 steps `low ≤ kth ≤ high` for every value `v` that a
    sorted copy may hold at `position`; the returned mid-point is an end of the bracket; the bracket is `2^-40` of
    the initial `[min, max]`. -/
theorem selection_bracket (w : World (List ℝ)) (position : Int) (v : ℝ) (hv : v ∈ w.flatten)
    (hK : IsKth w.flatten position v) :
    let s := selectionState w position
    s.1 ≤ v ∧ v ≤ s.2.1 ∧ (s.2.2 = s.1 ∨ s.2.2 = s.2.1)
      ∧ s.2.1 - s.1 = (worldMax w - worldMin w) / 2 ^ 40 :=
  bisect_inv w position v hK 39 _ (worldMin_le w v hv) (le_worldMax w v hv)

/-- the value returned for `0 < position < N-1` is within `(max-min)/2^40` of the k-th element -/
theorem selection_value (w : World (List ℝ)) (position : Int) (v : ℝ) (hv : v ∈ w.flatten)
    (hK : IsKth w.flatten position v) (h0 : 0 < position)
    (h1 : position < isum (w.map fun xs => (xs.length : Int)) - 1) :
    |selection w position - v| ≤ (worldMax w - worldMin w) / 2 ^ 40 := by
  have hs := selection_bracket w position v hv hK
  simp only at hs
  obtain ⟨a1, a2, a3, a4⟩ := hs
  unfold selection
  have hn0 : ¬ position ≤ 0 := by omega
  have hn1 : ¬ position ≥ isum (w.map fun xs => (xs.length : Int)) - 1 := by omega
  simp only [hn0, hn1, if_false]
  rw [← a4, abs_le]
  rcases a3 with h | h <;> rw [h] <;> constructor <;> linarith

/-- the early returns: `position ≤ 0` gives a lower bound of all elements, `position ≥ N-1` an upper bound -/
theorem selection_ends (w : World (List ℝ)) (position : Int) :
    (position ≤ 0 → selection w position = worldMin w ∧ ∀ x ∈ w.flatten, worldMin w ≤ x)
    ∧ (0 < position → position ≥ isum (w.map fun xs => (xs.length : Int)) - 1 →
        selection w position = worldMax w ∧ ∀ x ∈ w.flatten, x ≤ worldMax w) := by
  constructor
  · intro h
    exact ⟨by unfold selection; simp only [h, if_true], fun x hx => worldMin_le w x hx⟩
  · intro h0 h1
    have hn0 : ¬ position ≤ 0 := by omega
    exact ⟨by unfold selection; simp only [hn0, if_false, h1, if_true], fun x hx => le_worldMax w x hx⟩

/-! ## non-vacuity: concrete 3-rank worlds with an empty rank -/

/-- three ranks, rank 1 sends and receives nothing, `ldim = 2` -/
example :
    alltoallv false .int 100 2
        (a2aWorld [[[[1, 2]], [], [[3, 4], [5, 6]]], [[], [], []], [[[7, 8]], [], []]]
          (fun r => List.replicate ([4, 0, 4].getD r 0) 0))
      = some [(Status.ok, [1, 2, 7, 8]), (Status.ok, []), (Status.ok, [3, 4, 5, 6])] := by
  refine (alltoallv_spec (α := Nat) .int rfl 100 2 _ _ ?_ ?_ ?_ ?_).trans ?_ <;> decide

/-- the same world through the native variant -/
example :
    alltoallv true .int 9 2
        (a2aWorld [[[[1, 2]], [], [[3, 4], [5, 6]]], [[], [], []], [[[7, 8]], [], []]]
          (fun r => List.replicate ([4, 0, 4].getD r 0) 0))
      = some [(Status.ok, [1, 2, 7, 8]), (Status.ok, []), (Status.ok, [3, 4, 5, 6])] := by
  refine (alltoallv_native_spec (α := Nat) .int rfl 9 2 _ _ ?_ ?_ ?_ ?_).trans ?_ <;> decide

/-- blind send, 3 ranks, rank 1 empty: items go to their addressees in (source, index) order -/
example :
    blindsend false .int 100 1 ([[(1, [7]), (2, [8]), (1, [9])], [], [(0, [5]), (1, [6])]].map blindOf)
      = some [(Status.ok, 1, [5]), (Status.ok, 3, [7, 9, 6]), (Status.ok, 1, [8])] := by
  refine (blindsend_spec (α := Nat) false .int rfl 100 1 _ ?_ ?_ nofun (fun _ => ?_) (fun _ => ?_)).trans ?_ <;>
    decide

/-- balance over ranks 1..2 of 3: 5 items become shares 0, 3, 2 and keep their order -/
example :
    balance true .int 9 1 1 2 (balanceIn [[[1], [2], [3], [4]], [], [[5]]])
      = some [(Status.ok, 0, []), (Status.ok, 3, [1, 2, 3]), (Status.ok, 2, [4, 5])] := by
  have := (balance_spec (α := Nat) true .int rfl 9 1 1 2 [[[1], [2], [3], [4]], [], [[5]]]
    (by decide) (by decide) (by decide) (by intro _; decide) (by intro h; cases h)).1
  exact this.trans (by decide)

/-- the guard trips on an overflowing product, on an overflowing partial sum, and not on the last block -/
example : sizeN 1073741824 [1, 2] = none ∧ dispGuard 0 [2147483647, 1, 5] = none
    ∧ dispGuard 0 [2147483646, 1, 5] = some [0, 2147483646, 2147483647] := by decide

/-- integer allsum on 3 ranks -/
example : allsum (· + ·) .long 2 [[1, 2], [0, 0], [-5, 7]]
    = [(Status.ok, [-4, 9]), (Status.ok, [-4, 9]), (Status.ok, [-4, 9])] := by
  have := allsum_spec .long rfl 2 [[1, 2], [0, 0], [-5, 7]] (by decide)
  exact this.trans (by decide)

/-- MINLOC keeps the lowest rank on a tie (ranks 1 and 2 both hold the minimum of component 0) -/
example : allminwho (ltB (γ := Int)) 1 [[3], [1], [1]] = [([1], [1]), ([1], [1]), ([1], [1])] := by decide

/-- scatter / gather on 3 ranks with an empty chunk -/
example : scatter .int 100 [[1], [], [2, 3]] = some [(Status.ok, [1]), (Status.ok, []), (Status.ok, [2, 3])]
    ∧ gather .int 100 [[1], [], [2, 3]] = some [(Status.ok, [1, 2, 3]), (Status.ok, []), (Status.ok, [])] := by
  decide

/-- `IsKth` is inhabited: 2 is the element at position 1 of {3, 1} ∪ {} ∪ {2} -/
example : IsKth ([[3, 1], [], [2]] : World (List ℝ)).flatten 1 2 := by
  unfold IsKth countLt countLeR
  norm_num [List.filter_cons]

end Refine.Props.C17
