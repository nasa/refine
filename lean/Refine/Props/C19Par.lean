import Refine.Lemmas.ReconParHess
import Refine.Lemmas.KexactCloud
import Refine.Lemmas.ReconParCounter
import Refine.Lemmas.ReconParCells
import Refine.Lemmas.ReconParExtrap
import Refine.Lemmas.ReconParCloud
import Refine.Props.C19
import Refine.Props.C19Kexact

/-!
  C19, parallel part: the reconstruction does not depend on the PARTITION.

  All theorems are about the SPMD model `Refine/Model/ReconPar.lean` — the functions `refdrv reconpar` executes and
  `harness/h_reconpar.c` compares bit for bit with the real `ref_recon.c` on np = 1..4 MPI ranks — instantiated at the
  real numbers, for EVERY number of ranks and EVERY distribution satisfying `DistOK` (`ReconParGhost.WorldOK`,
  `ReconParMesh.DistOK`): a hypothesis on `ReconPar.Rank` with the counterparts of clauses (i), (ii) of C06's `distInv`,
  a bound on the buffer sizes, index ranges and cells of the right arity.  It is NOT derived from `distInv` here (that
  invariant is on `Dist.RankState`; a bridge needs a synchronised world, the size bound and the cell arity besides).  The
  clause that matters is (ii), `complete`: every cell incident to an OWNED vertex is stored on the owner's rank.

  Exact arithmetic.  In floating point the ORDER in which the cells around a vertex are accumulated differs between
  ranks (each rank walks its own cell list), so the owned values agree with the serial ones only up to the rounding
  of a reordered sum (the tie compares the real code on np ranks with the model run on the SAME local orders bit for
  bit, and the real code on np ranks with the real code on one rank to 1e-10·scale); ghost copies are bitwise copies
  of the owner's value in floating point too (`ghostRows_spec` is about the data movement only).
-/
namespace Refine.Props.C19Par
open Refine Refine.Model.Geom Refine.Model.Recon Refine.Model.ReconPar Refine.ScalarReal Refine.GeomReal
open Refine.ReconReal Refine.ReconParGhost Refine.ReconParMesh Refine.ReconParHess Refine.KexactCloud
open Refine.ReconParCounter Refine.ReconParCells Refine.ReconParExtrap Refine.ReconParSigned Refine.ReconParCloud
open Refine.Model.Comm (World RefType)
open Refine.Model.Kexact (Item KSt grow kexactNode kexactWithAux layerLoop)

/-- **clause (ii) of the distributed invariant, at the cell level, gives `DistOK.complete`**: if the cells stored on a
    rank that are incident to the stored vertex `i`, renamed to global ids, are — as a multiset — the cells of the
    global mesh incident to that vertex (every cell around it is stored on this rank, once), then the stored
    sub-simplices around it (the C's tet decomposition of pyramids / prisms / hexes in 3-D, the triangle split of
    quads in 2-D) are the global ones.  `CellWF`: a cell has as many vertices as its kind says -/
theorem complete_of_cells_stored (twod : Bool) (gcells : List Cell) (r : Rank) (i : Nat)
    (hL : ∀ c ∈ r.cells, CellWF c) (hG : ∀ c ∈ gcells, CellWF c)
    (h : ((r.cells.map (globCell r.l2g)).filter (cellTouches (gOf r.l2g i))).Perm
      (gcells.filter (cellTouches (gOf r.l2g i)))) :
    CompleteAt twod gcells r i := by
  unfold CompleteAt
  cases twod with
  | true =>
    rw [if_pos rfl]
    exact (((allTris_perm r.cells).map _).filter _).trans <|
      (gather_complete subTris (globTri r.l2g) _ r.l2g _ (subTris_glob r.l2g) (subTris_touch _) _ _ hL hG h).trans
        ((allTris_perm gcells).filter _).symm
  | false =>
    rw [if_neg Bool.false_ne_true]
    exact (((allTets_perm r.cells).map _).filter _).trans <|
      (gather_complete subTets (globTet r.l2g) _ r.l2g _ (subTets_glob r.l2g) (subTets_touch _) _ _ hL hG h).trans
        ((allTets_perm gcells).filter _).symm

/-- **owned vertices, before any exchange**: on a rank whose stored cells include every cell around the stored
    vertex `i`, the local L2 projection at `i` is the serial L2 projection of the global mesh at that vertex — the
    same sums, for ANY scalar field -/
theorem l2grad_owned_eq_serial (twod : Bool) (gxyz : List (V3 ℝ)) (gs : List ℝ) (gcells : List Cell) (r : Rank)
    (hnd : r.l2g.Nodup)
    (hwf : if twod then TrisWF r.l2g.length (allTris r.cells) else TetsWF r.l2g.length (allTets r.cells))
    (i : Nat) (hi : i < r.l2g.length) (hg : gOf r.l2g i < gxyz.length) (hc : CompleteAt twod gcells r i) :
    (l2gradLocal twod gxyz r (r.restrict 0 gs)).2[i]? = (l2grad twod gxyz gs gcells).2[gOf r.l2g i]? :=
  l2gradLocal_owned twod gxyz gs gcells r hnd hwf i hi hg hc

/-- **`ref_recon_l2_projection_grad` is partition independent.**  For every rank count and every distribution
    satisfying `DistOK`, for every scalar field given consistently on the ranks: the call completes and every stored
    copy — owned or ghost — of every vertex holds the serial L2 gradient of the global mesh at that vertex; in
    particular the gathered field is the serial field -/
theorem l2grad_partition_independent (twod : Bool) (gxyz : List (V3 ℝ)) (gs : List ℝ) (gcells : List Cell)
    (w : World Rank) (hw : DistOK twod gxyz.length gcells w) (s : World (List ℝ)) (hs : Consistent 0 w s gs) :
    ∃ st, l2gradPar twod gxyz w s = some (st, w.map fun r => r.restrict V3.zero (l2grad twod gxyz gs gcells).2) :=
  l2gradPar_eq_serial twod gxyz gs gcells w hw s hs

/-- **`ref_recon_l2_projection_hessian` is partition independent** — BECAUSE the projected gradient is refreshed
    (`ref_node_ghost_dbl`) before each of its components is projected again: all four projections see fields that are
    consistent across the ranks.  (Without the intermediate refresh the statement is false:
    `l2hessian_single_exchange_differs`.) -/
theorem l2hessian_partition_independent (twod : Bool) (gxyz : List (V3 ℝ)) (gs : List ℝ) (gcells : List Cell)
    (w : World Rank) (hw : DistOK twod gxyz.length gcells w) (s : World (List ℝ)) (hs : Consistent 0 w s gs) :
    l2hessianPar twod gxyz w s = some (w.map fun r => r.restrict z6 (l2hessian twod gxyz gs gcells)) := by
  obtain ⟨st, h1⟩ := l2gradPar_eq_serial twod gxyz gs gcells w hw s hs
  set G := (l2grad twod gxyz gs gcells).2 with hG
  have comp : ∀ π : V3 ℝ → ℝ, π V3.zero = 0 →
      Consistent 0 w ((w.map fun r => r.restrict V3.zero G).map (·.map π)) (G.map π) := fun π h => by
    unfold Consistent; rw [world_restrict_map, h]
  obtain ⟨sx, hx⟩ := l2gradPar_eq_serial twod gxyz _ gcells w hw _ (comp (·.x) lit0_eq)
  obtain ⟨sy, hy⟩ := l2gradPar_eq_serial twod gxyz _ gcells w hw _ (comp (·.y) lit0_eq)
  obtain ⟨sz, hz⟩ := l2gradPar_eq_serial twod gxyz _ gcells w hw _ (comp (·.z) lit0_eq)
  unfold l2hessianPar
  rw [h1]
  simp only [hx, hy, hz]
  rw [assembleW_maps]
  congr 1
  apply List.map_congr_left
  intro r hr
  rw [assemble_restrict r gxyz.length (hw.inRange r hr)]
  congr 1
  unfold l2hessian
  rw [hessianOf_assemble]
  simp only [← hG]
  rw [hG, l2grad_length]

/-- linear fields on a distributed 3-D mesh: when the serial projection is exact at every vertex (see
    `C19.l2gradTets_linear_pos`: positive accumulated weights), every stored copy on every rank is exactly `g` -/
theorem l2grad_linear_exact_par (gxyz : List (V3 ℝ)) (gs : List ℝ) (gcells : List Cell) (w : World Rank)
    (hw : DistOK false gxyz.length gcells w) (s : World (List ℝ)) (hs : Consistent 0 w s gs) (α : ℝ) (g : V3 ℝ)
    (hlin : ∀ t ∈ allTets gcells, LinearOnTet gxyz gs α g t)
    (hpos : ∀ t ∈ allTets gcells, (tetContrib gxyz gs t).st = St.ok → 0 < (tetContrib gxyz gs t).w)
    (hx : |g.x| < (10 : ℝ) ^ (20 : ℤ)) (hy : |g.y| < (10 : ℝ) ^ (20 : ℤ)) (hz : |g.z| < (10 : ℝ) ^ (20 : ℤ))
    (htouch : ∀ i, i < gxyz.length →
      ∃ t ∈ allTets gcells, (tetContrib gxyz gs t).st = St.ok ∧ i ∈ [t.n0, t.n1, t.n2, t.n3]) :
    ∃ st, l2gradPar false gxyz w s = some (st, w.map fun r => r.l2g.map fun _ => g) := by
  obtain ⟨st, h⟩ := l2grad_partition_independent false gxyz gs gcells w hw s hs
  refine ⟨st, ?_⟩
  rw [h]
  refine congrArg (fun x => some (st, x)) (List.map_congr_left fun r hr => ?_)
  unfold Rank.restrict
  apply List.map_congr_left
  intro k hk
  have hk' : k < gxyz.length := hw.inRange r hr k hk
  have := Refine.Props.C19.l2gradTets_linear_pos gxyz gs (allTets gcells) α g hlin hpos hx hy hz k hk' (htouch k hk')
  simp only [l2grad, Bool.false_eq_true, if_false, List.getD_eq_getElem?_getD, this, Option.getD_some]

/-- the L2 Hessian of a linear field vanishes at every stored vertex of every rank (3-D; first projection exact) -/
theorem l2hessian_linear_zero_par (gxyz : List (V3 ℝ)) (gs : List ℝ) (gcells : List Cell) (w : World Rank)
    (hw : DistOK false gxyz.length gcells w) (s : World (List ℝ)) (hs : Consistent 0 w s gs) (g : V3 ℝ)
    (hwf : TetsWF gxyz.length (allTets gcells))
    (hfirst : ∀ i, i < gxyz.length → (l2grad false gxyz gs gcells).2[i]? = some g) :
    l2hessianPar false gxyz w s = some (w.map fun r => r.l2g.map fun _ => z6) := by
  rw [l2hessian_partition_independent false gxyz gs gcells w hw s hs,
    Refine.Props.C19.l2hessian_linear_cells false gxyz gs gcells g hwf hfirst]
  congr 1
  exact List.map_congr_left fun r _ => restrict_replicate r z6 _

/-- … and in 2-D -/
theorem l2hessian_linear_zero_par_2d (gxyz : List (V3 ℝ)) (gs : List ℝ) (gcells : List Cell) (w : World Rank)
    (hw : DistOK true gxyz.length gcells w) (s : World (List ℝ)) (hs : Consistent 0 w s gs) (g : V3 ℝ)
    (hwf : TrisWF gxyz.length (allTris gcells))
    (hfirst : ∀ i, i < gxyz.length → (l2grad true gxyz gs gcells).2[i]? = some g) :
    l2hessianPar true gxyz w s = some (w.map fun r => r.l2g.map fun _ => z6) := by
  rw [l2hessian_partition_independent true gxyz gs gcells w hw s hs,
    Refine.Props.C19.l2hessian_linear_cells true gxyz gs gcells g hwf hfirst]
  congr 1
  exact List.map_congr_left fun r _ => restrict_replicate r z6 _

/-- `ref_recon_extrapolate_zeroth` on a distributed mesh, any `ldim ≤ 6`, any input arrays of the right shape, any
    number of passes: the call completes (every refresh of `replace` and `recon` goes through) and a vertex that its
    OWNER does not flag (`Keep`: the owner's `replace` row at entry is all false) is never touched — every stored copy,
    owned or ghost, ends unflagged and with the owner's row at entry (`Good`) -/
theorem extrapolate_zeroth_keeps_unflagged (w : World Rank) (hw : WorldOK w) (ldim : Nat) (hl : ldim ≤ 6)
    (recon0 : World (List (List ℝ))) (replace0 : World (List (List Bool)))
    (hR0 : RowsOK ldim w recon0) (hP0 : RowsOK ldim w replace0) :
    ∃ R' P', extrapolateZeroth w ldim recon0 replace0 = some (R', P') ∧ Good w ldim recon0 replace0 R' P' :=
  extrapolateZeroth_keeps hw hl hR0 hP0

/-- **away from the boundary-extrapolation layer `ref_recon_signed_hessian(.., REF_RECON_L2PROJECTION)` is partition
    independent**: on every world satisfying `DistOK` the call completes, and every stored copy — owned or ghost — of
    every vertex that its owner does not flag for replacement (mask of the stored boundary faces / segments after the
    orphan filter, `replaceMask`) holds the serial L2 Hessian of the global mesh at that vertex.  (The flagged
    vertices — the boundary layer — receive in-place averages that depend on the local numbering and on the
    partition: tied bit for bit, excluded by the property.) -/
theorem signed_hessian_interior_partition_independent (twod : Bool) (gxyz : List (V3 ℝ)) (gs : List ℝ)
    (gcells : List Cell) (w : World Rank) (hw : DistOK twod gxyz.length gcells w) (s : World (List ℝ))
    (hs : Consistent 0 w s gs) :
    ∃ out, signedHessianL2Par twod gxyz w s = some out ∧
      ∀ (me : Nat) (r : Rank) (i p : Nat), w[me]? = some r → r.part[i]? = some p →
        Keep w (w.map (replaceMask twod 6)) 6 me i →
        (out.getD me []).getD i z6 = (l2hessian twod gxyz gs gcells).getD (gOf r.l2g i) z6 := by
  have hH := l2hessian_partition_independent twod gxyz gs gcells w hw s hs
  set SH := l2hessian twod gxyz gs gcells with hSH
  set H : World (List (M6 ℝ)) := w.map fun r => r.restrict z6 SH with hHdef
  set recon0 : World (List (List ℝ)) := H.map (·.map m6row) with hrecon0
  set replace0 : World (List (List Bool)) := w.map (replaceMask twod 6) with hreplace0
  have hR0 : RowsOK 6 w recon0 :=
    RowsOK.map m6row (fun _ => rfl) (Shaped.map _ fun r _ => restrict_length r z6 SH)
  have hP0 : RowsOK 6 w replace0 := by
    refine ⟨by simp [hreplace0], ?_⟩
    intro me r rw hr hrw
    simp only [hreplace0, List.getElem?_map, hr, Option.map_some, Option.some.injEq] at hrw
    subst hrw
    exact replaceMask_shape twod 6 r
  obtain ⟨R', P', hex, hgood⟩ :=
    extrapolateZeroth_keeps (α := ℝ) hw.toWorldOK (le_refl 6) hR0 hP0
  refine ⟨R'.map (·.map rowM6), ?_, ?_⟩
  · unfold signedHessianL2Par
    rw [hH]
    simp only [← hrecon0, ← hreplace0, hex, Option.map_some]
  · intro me r i p hr hp hk
    have hi := hw.lt_of_part hr hp
    -- the owner's row at entry is the serial Hessian at the vertex
    have rowAt : ∀ (k : Nat) (rk : Rank) (j : Nat), w[k]? = some rk → j < rk.l2g.length →
        rowOf recon0 k j = m6row (SH.getD (gOf rk.l2g j) z6) := by
      intro k rk j hrk hj
      simp only [rowOf, hrecon0, hHdef, List.getD_eq_getElem?_getD, List.getElem?_map, hrk, Option.map_some,
        Option.getD_some, restrict_getElem? rk z6 SH j hj]
    have g2 : rowOf R' me i = m6row (SH.getD (gOf r.l2g i) z6) :=
      (hgood.at hr hp hk (OwnerRowIs.of_global (fun g => m6row (SH.getD g z6)) rowAt hr hi)).2
    have hrd := wAt_map_map rowM6 [] R' me i
    rw [show rowM6 ([] : List ℝ) = z6 by simp [rowM6, z6, lit0_eq]] at hrd
    exact hrd.trans (by rw [show wAt [] R' me i = rowOf R' me i from rfl, g2, rowM6_m6row])

/-! ### k-exact clouds

  THE FULL STATEMENT (not a theorem here; proved in part): on a world satisfying `DistOK` (with
  clause (ii) for the tets / triangles `ref_recon_kexact_gradient_hessian` looks at), after
  `ref_recon_local_immediate_cloud` and `ref_recon_ghost_cloud` (`ghostCloud`) the one-layer cloud of EVERY stored
  vertex `v` (owned or ghost) is, as a list sorted by global id of `(global id, xyz, value)`, the serial one-layer cloud
  `(oneLayer gxyz gs (kxCells twod gcells))[v]`; hence for an owned vertex the cloud after one growth
  (`ref_recon_grow_cloud_one_layer`, the stencil of the first `ref_recon_kexact_with_aux` attempt) is the serial one,
  and the gradient / Hessian returned at every vertex whose first attempt is accepted are the serial ones.
  Clouds grown MORE than once are NOT partition independent in the C: a pivot that is not stored on the rank is
  skipped (`REF_NOT_FOUND` → `continue`), so a vertex that needs 3 or more layers may see a smaller stencil on a
  partitioned mesh (its result is then still exact on quadratic fields whenever the solve succeeds:
  `C19Kexact.kexact_quadratic_exact`).
  PROVED: (a) the owner's cloud (`kexact_one_layer_owned_eq_serial`): with every tet / triangle around an owned
  vertex stored on the rank, `ref_recon_local_immediate_cloud` on the local mesh, keyed by global id, gives literally
  the list the serial code builds on the global mesh (why: head of `Lemmas/KexactCloud.lean`); (b) the step from
  clouds to results (`kexact_cloud_partition_independent_partial`): if the rank's cloud table agrees with the serial
  table at the vertex and at every entry of the vertex's one-layer cloud, then the once-grown clouds are equal and,
  when the first attempt is accepted, so are gradient and Hessian — bit for bit the same stencil in the same
  (global-id) order, so this part holds in floating point as well; for clouds that hold the same points under
  different ids, `C19Kexact.kexact_perm` / `lsq_row_order_independent` give equality of the results in exact arithmetic.
  MISSING: that `ghostCloud` (the `alltoall` / `alltoallv` sequence of `ref_recon_ghost_cloud`, modelled literally)
  delivers to every GHOST vertex exactly its owner's cloud — needed for the entries of an owned vertex's cloud that
  are ghosts on its rank.  It is tied: op `cloud1` of stream `reconpar` prints the one-layer cloud of every stored
  vertex (owned and ghost) of every rank from the real code, compared with the model bit for bit and by the Python
  oracle with the vertices sharing a cell with it in the global mesh. -/

/-- **the one-layer cloud of an owned vertex does not depend on the partition**: as a list of
    `(global id, xyz, value)` sorted by global id it is the serial cloud of the global mesh.  `hcomp` is clause (ii)
    for the cells the k-exact path looks at (tets, or triangles in 2-D) -/
theorem kexact_one_layer_owned_eq_serial (twod : Bool) (gxyz : List (V3 ℝ)) (gs : List ℝ) (gcells : List Cell)
    (r : Rank) (me i : Nat) (hnd : r.l2g.Nodup) (hi : i < r.l2g.length) (hown : r.owned me i = true)
    (hwf : ∀ cell ∈ kxCells twod r.cells, ∀ v ∈ cell, v < r.l2g.length)
    (hgr : ∀ k, k < r.l2g.length → gOf r.l2g k < gxyz.length)
    (hcomp : (((kxCells twod r.cells).map (·.map (gOf r.l2g))).filter (·.contains (gOf r.l2g i))).Perm
      ((kxCells twod gcells).filter (·.contains (gOf r.l2g i)))) :
    (localClouds twod gxyz me r (r.restrict 0 gs))[i]? =
      (Refine.Model.Kexact.oneLayer gxyz gs (kxCells twod gcells))[gOf r.l2g i]? := by
  set lx := r.l2g.map (xyzAt gxyz) with hlx
  set ls := r.l2g.map (fun g => gs.getD g 0) with hls
  have hlxlen : lx.length = r.l2g.length := by simp [hlx]
  obtain ⟨L, hL, hLs, hLi, hLm⟩ := oneLayer_entry lx ls (kxCells twod r.cells) i (by rw [hlxlen]; exact hi)
  obtain ⟨S, hS, hSs, _, hSm⟩ := oneLayer_entry gxyz gs (kxCells twod gcells) (gOf r.l2g i) (hgr i hi)
  have hloc : (localClouds twod gxyz me r (r.restrict 0 gs))[i]? = some (relabel r.l2g L) := by
    unfold localClouds
    rw [List.getElem?_mapIdx]
    have : r.xyz gxyz = lx := rfl
    rw [this, restrict_eq, ← hls, hL]
    simp [hown]
  rw [hloc, hS]
  congr 1
  have hrange : ∀ x ∈ L, x.g.toNat < r.l2g.length := by
    intro x hx
    obtain ⟨k, ⟨cell, hc, _, hk⟩, rfl⟩ := (hLm x).mp hx
    simpa [C19Kexact.itemOf] using hwf cell hc k hk
  obtain ⟨r1, r2⟩ := relabel_items gxyz gs r.l2g L hLi hrange
  apply Refine.ListFacts.pairwise_ext (fun _ _ h1 h2 => lt_irrefl _ (lt_trans h1 h2)) r1 hSs
  intro x
  -- both clouds hold the items of a ring; the global ring is the image of the stored one (`inRing_glob`)
  rw [r2 x, hSm x]
  constructor
  · rintro ⟨k, hk, rfl⟩
    obtain ⟨k', hring, e⟩ := (hLm _).mp hk
    obtain rfl : k = k' := Int.ofNat.inj (congrArg Item.g e)
    exact ⟨_, (inRing_glob hnd hwf hi hcomp _).mpr ⟨k, hring, rfl⟩, rfl⟩
  · rintro ⟨n, hn, rfl⟩
    obtain ⟨k, hring, rfl⟩ := (inRing_glob hnd hwf hi hcomp n).mp hn
    exact ⟨k, (hLm _).mpr ⟨k, hring, rfl⟩, rfl⟩

/-- `ref_recon_grow_cloud_one_layer` asks the cloud table only at the ids in the cloud -/
theorem grow_partition_independent (layerW layerS : Int → List (Item ℝ)) (c : List (Item ℝ))
    (h : ∀ it ∈ c, layerW it.g = layerS it.g) : grow layerW c = grow layerS c :=
  grow_congr layerW layerS c h

/-- from clouds to results (see the block comment above): the cloud of the first attempt and, when that attempt is
    accepted (`REF_SUCCESS`, or `REF_NOT_FOUND` = isolated vertex), the gradient and Hessian at the vertex do not
    depend on the partition -/
theorem kexact_cloud_partition_independent_partial (twod : Bool) (layerW layerS : Int → List (Item ℝ)) (c : Int)
    (h0 : layerW c = layerS c) (h1 : ∀ it ∈ layerS c, layerW it.g = layerS it.g) :
    grow layerW (layerW c) = grow layerS (layerS c) ∧
    (((kexactWithAux c (grow layerS (layerS c)) twod).1 = KSt.ok ∨
      (kexactWithAux c (grow layerS (layerS c)) twod).1 = KSt.notFound) →
      kexactNode layerW c twod = kexactNode layerS c twod) :=
  ⟨grow_first layerW layerS c h0 h1, kexactNode_first twod layerW layerS c h0 h1⟩

/-! ### the counter-statement and non-vacuity: a 2-rank and a 3-rank world (one rank empty)

  Two tets sharing the face (v1,v2,v3): `A = (v0,v1,v2,v3)` the unit tet, `B = (v1,v2,v3,v4)`, `v4 = (1,1,1)`
  (`cxyz`, `cCells`); the quadratic field `1 + 2x + 3y + 4z + (xy + yz + zx)/3` (`cfld` = 1, 3, 4, 5, 11).
  `exWorld2`: rank 0 owns `v0` only and stores tet `A` with three ghosts, rank 1 owns `v1..v4` and stores both tets in a
  shuffled local numbering with `v0` as a ghost; `exWorld3` adds a rank that stores nothing. -/

/-- both worlds satisfy the distributed invariant `DistOK` -/
theorem exWorlds_ok : DistOK false cxyz.length cCells exWorld2 ∧ DistOK false cxyz.length cCells exWorld3 :=
  ReconParCounter.exWorlds_ok

/-- **the intermediate refresh is necessary** (the seeded change `C19_l2_hessian_single_ghost_exchange` is this slip):
    on the 2-rank world, for the quadratic field, at the vertex `v0` OWNED by rank 0 and adjacent to the partition
    boundary (all its neighbours belong to rank 1), the L2 Hessian as coded — gradient refreshed before it is
    projected again — is the serial one, every entry `1/3`; with the four projections local and one refresh of the
    assembled Hessian at the end (`l2hessianSingleExchange`) the same vertex gets the ZERO Hessian: an O(1) error in
    the interior of the domain that depends on the partition, although linear fields stay exact -/
theorem l2hessian_single_exchange_differs :
    (∃ H, l2hessianPar false cxyz exWorld2 (exWorld2.map fun r => r.restrict 0 cfld) = some H ∧
      (H.getD 0 []).getD 0 z6 = ⟨1 / 3, 1 / 3, 1 / 3, 1 / 3, 1 / 3, 1 / 3⟩) ∧
    (∃ H', l2hessianSingleExchange false cxyz exWorld2 (exWorld2.map fun r => r.restrict 0 cfld) = some H' ∧
      (H'.getD 0 []).getD 0 z6 = z6) := by
  refine ⟨⟨_, l2hessian_partition_independent false cxyz cfld cCells exWorld2 exWorld2_ok _ rfl, ?_⟩,
    single_exchange_v0⟩
  have h := serial_hessian_v0
  have hl : 0 < (l2hessian false cxyz cfld cCells).length := (List.getElem?_eq_some_iff.mp h).1
  rw [List.getElem?_eq_getElem hl, Option.some.injEq] at h
  simp [exWorld2, exRank0, Rank.restrict, List.getD_eq_getElem?_getD, List.getElem?_eq_getElem hl, h]

/-- the 3-rank world (rank 2 stores nothing) meets the hypotheses of the partition-independence theorems, for any
    coordinates and any field -/
example (gxyz : List (V3 ℝ)) (h : gxyz.length = 5) (gs : List ℝ) :
    l2hessianPar false gxyz exWorld3 (exWorld3.map fun r => r.restrict 0 gs) =
      some (exWorld3.map fun r => r.restrict z6 (l2hessian false gxyz gs cCells)) :=
  l2hessian_partition_independent false gxyz gs cCells exWorld3 (h ▸ exWorld3_ok) _ rfl

/-- `Keep` is met: the example worlds store no boundary triangle, so no vertex is flagged and every stored entry is
    kept (e.g. the ghost copy of `v1` on rank 0, owned by rank 1) -/
example : Keep exWorld3 (exWorld3.map (replaceMask false 6)) 6 0 1 := by
  intro r p hr hp
  obtain rfl : exRank0 = r := by simpa [exWorld3] using hr
  obtain rfl : 1 = p := by simpa [exRank0] using hp
  refine ⟨fun h => absurd h (by decide), fun _ ro j hro hj _ => ?_⟩
  obtain rfl : exRank1 = ro := by simpa [exWorld3] using hro
  have hj' : j = 0 := by
    match j, hj with
    | 0, _ => rfl
    | 1, hj => simp [exRank0, exRank1] at hj
    | 2, hj => simp [exRank0, exRank1] at hj
    | 3, hj => simp [exRank0, exRank1] at hj
    | 4, hj => simp [exRank0, exRank1] at hj
    | k + 5, hj => simp [exRank0, exRank1] at hj
  subst hj'
  decide

/-- the hypotheses of `kexact_one_layer_owned_eq_serial` hold at the vertex `v1` owned by rank 1 of the example world
    (stored there under local index 0, both tets around it stored in a shuffled numbering) -/
example (gxyz : List (V3 ℝ)) (h : gxyz.length = 5) (gs : List ℝ) :
    (localClouds false gxyz 1 exRank1 (exRank1.restrict 0 gs))[0]? =
      (Refine.Model.Kexact.oneLayer gxyz gs (kxCells false cCells))[1]? :=
  kexact_one_layer_owned_eq_serial false gxyz gs cCells exRank1 1 0 (by decide) (by decide) (by decide)
    (by decide) (by intro k hk; rw [h]; revert k; decide) (by decide)

end Refine.Props.C19Par
