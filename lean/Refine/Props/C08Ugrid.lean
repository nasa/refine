import Refine.Lemmas.UgridOwner

/-!
  C08 — mesh files round-trip: the binary AFLR3 UGRID family (`.lb8.ugrid`, `.b8.ugrid`, `.lb8l.ugrid`, `.b8l.ugrid`,
  `.lb8.ugrid64`, `.b8.ugrid64`), serial and parallel readers and writers (`Refine.Model.Ugrid`).

  All statements are for every flavour (byte order × integer width), every well-formed mesh (`WellFormed`: cells have
  their `size_per` entries, node indices in `[0, nnode)`, tags and counts within `REF_INT`, `nnode < 2^27`), every
  rank count ≥ 1 and every chunk size ≥ 1.  The generated files (`Refine.Gen.Endian`, `Refine.Gen.UgridOffsets`,
  `Refine.Gen.UgridFlavours`, `Refine.Gen.CellTables`, `Refine.Gen.PartMacros`) are re-read from /repo on every run, so
  the section offsets, seek positions, swap macros, `node_per` and dispatcher tables below are what the C says today.
-/
namespace Refine.Props.C08Ugrid
open Refine.Gen Refine.Model.Ugrid Refine.Lemmas.Ugrid
open Refine.Model.Meshb (Bytes Status Vertex Cfg int32 wrap32)

/-- **roundtrip_ugrid**: what `ref_export_bin_ugrid` writes, `ref_import_bin_ugrid` reads back as the same mesh with the
    boundary faces in the writer's order (increasing tag, file order inside a tag) -/
theorem roundtrip_ugrid (fl : Flavor) (m : UMesh) (hw : WellFormed m = true) :
    decodeUgrid fl (encodeUgrid fl m) = .ok (normalize m) := by
  have := decode_encodeRaw ugridCfg rfl UgridOffsets.import_chunk_c2n (by decide) fl (normalize m) (wf_normalize hw) []
  rwa [List.append_nil] at this

/-- … and exactly the same mesh when its boundary faces are already in tag order -/
theorem roundtrip_ugrid_sorted (fl : Flavor) (m : UMesh) (hw : WellFormed m = true) (hs : FacesSorted m) :
    decodeUgrid fl (encodeUgrid fl m) = .ok m := by
  rw [roundtrip_ugrid fl m hw, normalize_of_sorted m hs]

/-- the writer's reordering keeps every cell: vertices and volume cells untouched, triangles and quads permuted into
    non-decreasing tag order; writing again changes nothing -/
theorem normalize_spec (m : UMesh) :
    (normalize m).nodes = m.nodes ∧ (normalize m).tet = m.tet ∧ (normalize m).pyr = m.pyr ∧
    (normalize m).pri = m.pri ∧ (normalize m).hex = m.hex ∧
    (normalize m).tri.Perm m.tri ∧ (normalize m).qua.Perm m.qua ∧ FacesSorted (normalize m) ∧
    normalize (normalize m) = normalize m :=
  ⟨rfl, rfl, rfl, rfl, rfl, sortFaces_perm .tri m.tri, sortFaces_perm .qua m.qua,
    ⟨sortFaces_sorted .tri m.tri, sortFaces_sorted .qua m.qua⟩, normalize_idem m⟩

/-- the reader's block size (`MIN(1000000, ncell)` in the C) does not matter: any chunk size ≥ 1, and also the reader
    legacy variant without the index check of 6682479 (`ugridCfgLegacy`), returns the same mesh -/
theorem roundtrip_ugrid_any_chunk (cfg : Cfg) (hc : cfg.allocCap = 2 ^ 30) (chunk : Nat) (h1 : 1 ≤ chunk) (fl : Flavor)
    (m : UMesh) (hw : WellFormed m = true) :
    decodeUgridChunked cfg chunk fl (encodeUgrid fl m) = .ok (normalize m) := by
  have := decode_encodeRaw cfg hc chunk h1 fl (normalize m) (wf_normalize hw) []
  rwa [List.append_nil] at this

/-- **offsets_exact**: each section offset that `ref_part_bin_ugrid` computes (expressions regenerated from the C into
    `Refine.Gen.UgridOffsets`), evaluated on the seven counts of the file, is the byte position of that section in the
    writer's output — the sum of the sizes of the sections before it (2 tri connectivity, 3 quad connectivity, 4 tri
    tags, 5 quad tags, 6 tet, 7 pyramid, 8 prism, 9 hex) -/
theorem offsets_exact (fl : Flavor) (m : UMesh) (hw : WellFormed m = true) :
    offsetsOf .tri (UgridOffsets.ibyte fl.fat) (hdrOf m) =
      (((sectionStart fl m 2 : Nat) : Int), ((sectionStart fl m 4 : Nat) : Int)) ∧
    offsetsOf .qua (UgridOffsets.ibyte fl.fat) (hdrOf m) =
      (((sectionStart fl m 3 : Nat) : Int), ((sectionStart fl m 5 : Nat) : Int)) ∧
    (offsetsOf .tet (UgridOffsets.ibyte fl.fat) (hdrOf m)).1 = ((sectionStart fl m 6 : Nat) : Int) ∧
    (offsetsOf .pyr (UgridOffsets.ibyte fl.fat) (hdrOf m)).1 = ((sectionStart fl m 7 : Nat) : Int) ∧
    (offsetsOf .pri (UgridOffsets.ibyte fl.fat) (hdrOf m)).1 = ((sectionStart fl m 8 : Nat) : Int) ∧
    (offsetsOf .hex (UgridOffsets.ibyte fl.fat) (hdrOf m)).1 = ((sectionStart fl m 9 : Nat) : Int) := by
  have := offsets_raw fl (normalize m) (wf_normalize hw)
  rw [hdrOf_normalize] at this
  exact this

theorem header_and_size (fl : Flavor) (m : UMesh) (hw : WellFormed m = true) :
    rdHeaderPart fl (encodeUgrid fl m) = .ok (hdrOf m, (encodeUgrid fl m).drop (7 * fl.ibytes)) ∧
    (encodeUgrid fl m).length = sectionStart fl m 10 := by
  constructor
  · have hraw : encodeUgrid fl m = secHeader fl (normalize m) ++ (encodeUgrid fl m).drop (7 * fl.ibytes) := by
      have : encodeUgrid fl m = secHeader fl (normalize m) ++
          ((sectionsRaw fl (normalize m)).drop 1).flatten := rfl
      conv_rhs => rw [this, ← secHeader_length fl (normalize m), List.drop_left]
      exact this
    have := rdHeaderPart_secHeader fl (normalize m) (wf_normalize hw) ((encodeUgrid fl m).drop (7 * fl.ibytes))
    rw [← hraw, hdrOf_normalize] at this
    exact this
  · simp [sectionStart, sections, encodeUgrid, encodeRaw, sectionsRaw]

/-- the positions `ref_part_bin_ugrid_pack_cell` seeks to (both integer widths; expressions regenerated from the C):
    `ncell_read` cells into the connectivity block, `ncell_read` tags into the tag block -/
theorem seek_exact (fl : Flavor) (connOff faceOff : Int) (k : Kind) (ncellRead : Nat) :
    (if fl.fat then UgridOffsets.seek_conn_fat connOff faceOff (UgridOffsets.pack_ibyte fl.fat) k.nodePer ncellRead
     else UgridOffsets.seek_conn_thin connOff faceOff (UgridOffsets.pack_ibyte fl.fat) k.nodePer ncellRead) =
      connOff + ((ncellRead * (k.nodePer * fl.ibytes) : Nat) : Int) ∧
    (if fl.fat then UgridOffsets.seek_tag_fat connOff faceOff (UgridOffsets.pack_ibyte fl.fat) k.nodePer ncellRead
     else UgridOffsets.seek_tag_thin connOff faceOff (UgridOffsets.pack_ibyte fl.fat) k.nodePer ncellRead) =
      faceOff + ((ncellRead * fl.ibytes : Nat) : Int) :=
  ⟨seekC_eq .., seekT_eq ..⟩

/-- `ref_part_bin_ugrid` on the writer's output — seeking to the generated offsets, reading each
    section in chunks of ANY size ≥ 1 (up to what the 1 GiB allocator cap allows), on ANY number of ranks ≥ 1 (that an
    `int` holds) — holds
    the vertices of the file and, per kind, the cells of the file in file order, minus later cells over an already
    stored node set (`ref_cell_add_many_global`) -/
theorem part_read_chunk_independent (fl : Flavor) (m : UMesh) (hw : WellFormed m = true) (np : Nat) (hnp : 1 ≤ np)
    (hnp2 : np < 2 ^ 31) (chunk : Nat) (h1 : 1 ≤ chunk) (h2 : 72 * chunk ≤ 2 ^ 30) :
    partRead fl np (some chunk) (encodeUgrid fl m) =
      .ok { nnode := m.nodes.length, np := np, nodes := m.nodes,
            cells := Kind.all.map fun k => dedupCells k ((normalize m).get k) [] } :=
  partRead_encodeRaw ugridCfg rfl fl (normalize m) (wf_normalize hw) np hnp hnp2 (some chunk) fun _ => ⟨h1, h2⟩

/-- cells of one kind have pairwise different node sets (every valid mesh; a two-sided baffle is the exception) -/
def DistinctCells (m : UMesh) : Prop := ∀ k : Kind, ((m.get k).map (nodeSet k)).Nodup

theorem distinct_normalize {m : UMesh} (h : DistinctCells m) : DistinctCells (normalize m) :=
  fun k => ((get_normalize_perm m k).map _).nodup_iff.2 (h k)

/-- … so for such a mesh the parallel reader holds exactly the mesh the serial reader returns, for every rank count
    and chunk size -/
theorem part_read_eq_serial (fl : Flavor) (m : UMesh) (hw : WellFormed m = true) (hd : DistinctCells m) (np : Nat)
    (hnp : 1 ≤ np) (hnp2 : np < 2 ^ 31) (chunk : Nat) (h1 : 1 ≤ chunk) (h2 : 72 * chunk ≤ 2 ^ 30) :
    (partRead fl np (some chunk) (encodeUgrid fl m)).map PartMesh.toMesh = decodeUgrid fl (encodeUgrid fl m) := by
  rw [part_read_chunk_independent fl m hw np hnp hnp2 chunk h1 h2, roundtrip_ugrid fl m hw,
    List.map_congr_left fun k _ => dedupCells_of_nodup k _ (distinct_normalize hd k)]
  rfl

/-- the chunk the C actually uses, `MAX(1000000, (REF_INT)(ncell / nproc))` (regenerated), is covered for sections of
    up to 10^7 cells (72 bytes × 10^7 < 2^30; the cap admits chunks up to 14 913 080) -/
theorem part_chunk_in_range (ncell : Nat) (np : Nat) (hn : ncell ≤ 10 ^ 7) : ChunkOk (sectionChunk none ncell np) := by
  have hq : (ncell : Int) / (np : Int) ≤ ncell := Int.ediv_le_self _ (Int.natCast_nonneg _)
  simp only [ChunkOk, sectionChunk]
  rw [part_chunk_eq np (Int.natCast_nonneg _) (by omega)]
  omega

/-- with the C's own chunk size -/
theorem part_read_default_chunk (fl : Flavor) (m : UMesh) (hw : WellFormed m = true) (np : Nat) (hnp : 1 ≤ np)
    (hnp2 : np < 2 ^ 31) (hsz : ∀ k : Kind, (m.get k).length ≤ 10 ^ 7) :
    partRead fl np none (encodeUgrid fl m) =
      .ok { nnode := m.nodes.length, np := np, nodes := m.nodes,
            cells := Kind.all.map fun k => dedupCells k ((normalize m).get k) [] } :=
  partRead_encodeRaw ugridCfg rfl fl (normalize m) (wf_normalize hw) np hnp hnp2 none fun k =>
    part_chunk_in_range _ np ((get_normalize_perm m k).length_eq ▸ hsz k)

/-- for ANY partition data `pm` (node count, rank count) and ANY list of cells `cs` — the statement does not mention
    `partRead`; `storedOn` ("a rank stores the cell iff it owns one of its nodes") is the specified post-condition of
    `ref_migrate_shufflin_cell`, not something this model executes: every cell is owned (`ref_cell_part`: part of its
    smallest global) by exactly one rank — the owned lists of the ranks `0..np-1`, concatenated, are `cs` up to order;
    and both the rank that receives the cell first (implicit part of its first node) and the owner are ranks that,
    by that post-condition, store it -/
theorem part_read_ownership (pm : PartMesh) (hnp : 1 ≤ pm.np) (k : Kind) (cs : List (List Int)) :
    ((List.range pm.np).flatMap fun r => pm.ownedBy k cs r).Perm cs ∧
    ∀ c ∈ cs, c.take k.nodePer ≠ [] →
      pm.storedOn k (pm.firstDest c) c = true ∧ pm.storedOn k (pm.ownerOf k c) c = true ∧
      pm.firstDest c < pm.np ∧ pm.ownerOf k c < pm.np :=
  ⟨owned_partition pm k cs (fun c _ => ownerOf_lt pm hnp k c),
   fun c _ hne => ⟨firstDest_stores pm k c hne, owner_stores pm k c hne, partOf_lt pm hnp _, ownerOf_lt pm hnp k c⟩⟩

/-- UGRID keeps refine's node order for every kind: no pyramid or prism shuffle in any of the four binary UGRID
    functions (counted in the C text on every run), the pyramid shuffle of ref_gather_cell is switched off by the
    `always_id = 0` that ref_gather_bin_ugrid passes; so export∘import, part∘gather, … are the identity on node order.
    The four `*_by_extension` dispatchers map the six suffixes to the same (byte order, width). -/
theorem ugrid_keeps_node_order :
    UgridFlavours.importShuffles = 0 ∧ UgridFlavours.exportShuffles = 0 ∧ UgridFlavours.partShuffles = 0 ∧
    UgridFlavours.gatherShuffles = 0 ∧ UgridFlavours.gatherAlwaysId = false ∧
    UgridFlavours.gatherSelectsFaceid = false ∧ UgridFlavours.exportFaceidSweeps = 4 ∧
    UgridFlavours.importTable = UgridFlavours.exportTable ∧ UgridFlavours.partTable = UgridFlavours.exportTable ∧
    UgridFlavours.gatherTable = UgridFlavours.exportTable ∧
    UgridFlavours.exportTable = [(".lb8.ugrid", false, false), (".b8.ugrid", true, false), (".lb8l.ugrid", false, true),
      (".b8l.ugrid", true, true), (".lb8.ugrid64", false, true), (".b8.ugrid64", true, true)] ∧
    UgridOffsets.order = Kind.all.map Kind.name ∧ UgridOffsets.dest_node = 0 := by decide

/-- `node_per` and the tag column per kind, as regenerated from ref_cell_initialize -/
theorem kind_table :
    Kind.all.map (fun k => (k.name, k.nodePer, k.hasTag)) =
      [("tri", 3, true), ("qua", 4, true), ("tet", 4, false), ("pyr", 5, false), ("pri", 6, false),
       ("hex", 8, false)] := by decide

/-- **gather = export**: the parallel writer lays the gathered mesh out exactly as the serial writer lays out a mesh —
    same sections, widths, byte order, 1-based indices — except that it does not sort the boundary faces -/
theorem gather_eq_export (fl : Flavor) (m : UMesh) :
    gatherUgrid fl m = encodeRaw fl m ∧ encodeUgrid fl m = gatherUgrid fl (normalize m) ∧
    (FacesSorted m → gatherUgrid fl m = encodeUgrid fl m) := by
  -- the two switches of `gatherUgrid` are the generated constants `false`
  have h : ∀ m, gatherUgrid fl m = encodeRaw fl m := fun _ => rfl
  refine ⟨h m, by rw [h]; rfl, fun hs => ?_⟩
  rw [h]; unfold encodeUgrid; rw [normalize_of_sorted m hs]

/-- what the parallel writer writes, both readers read back as the gathered mesh (cell order kept) -/
theorem roundtrip_gather (fl : Flavor) (m : UMesh) (hw : WellFormed m = true) (np : Nat) (hnp : 1 ≤ np)
    (hnp2 : np < 2 ^ 31) (chunk : Nat) (h1 : 1 ≤ chunk) (h2 : 72 * chunk ≤ 2 ^ 30) :
    decodeUgrid fl (gatherUgrid fl m) = .ok m ∧
    partRead fl np (some chunk) (gatherUgrid fl m) =
      .ok { nnode := m.nodes.length, np := np, nodes := m.nodes,
            cells := Kind.all.map fun k => dedupCells k (m.get k) [] } := by
  rw [(gather_eq_export fl m).1]
  exact ⟨List.append_nil (encodeRaw fl m) ▸ decode_encodeRaw ugridCfg rfl _ (by decide) fl m hw [],
    partRead_encodeRaw ugridCfg rfl fl m hw np hnp hnp2 (some chunk) fun _ => ⟨h1, h2⟩⟩

/-- nine vertices; two triangles and one cell of every other kind, boundary faces NOT in tag order, a large and a
    negative tag -/
def sample : UMesh :=
  { nodes := (List.range 9).map fun i => ⟨UInt64.ofNat i, 0x3ff0000000000000, 0x8000000000000000⟩,
    tri := [[0, 1, 2, 20000001], [1, 2, 3, -7]], qua := [[0, 1, 2, 3, 5]], tet := [[4, 5, 6, 7]],
    pyr := [[4, 5, 6, 7, 8]], pri := [[3, 4, 5, 6, 7, 8]], hex := [[1, 2, 3, 4, 5, 6, 7, 8]] }

example : WellFormed sample = true ∧ DistinctCells sample ∧ ¬ FacesSorted sample := by
  refine ⟨by decide, ?_, ?_⟩
  · intro k; cases k <;> decide
  · unfold FacesSorted; decide

/-- the theorems apply to it, for every flavour, 5 ranks and chunks of 1 cell -/
example (fl : Flavor) :
    decodeUgrid fl (encodeUgrid fl sample) = .ok (normalize sample) ∧
    (partRead fl 5 (some 1) (encodeUgrid fl sample)).map PartMesh.toMesh = decodeUgrid fl (encodeUgrid fl sample) :=
  ⟨roundtrip_ugrid fl sample (by decide),
   part_read_eq_serial fl sample (by decide) (by intro k; cases k <;> decide) 5 (by decide) (by decide) 1 (by decide)
     (by decide)⟩

end Refine.Props.C08Ugrid
