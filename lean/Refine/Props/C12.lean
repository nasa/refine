import Refine.Lemmas.SearchWall
import Refine.Lemmas.SearchTri

/-!
  C12 — wall distance and the sphere tree (`ref_search.c`, `ref_node_bounding_sphere_xyz`, the tree loop of
  `ref_phys_wall_distance`).  All theorems are about the executable model `Refine.Model.Search`
  instantiated at `ℝ` (exact arithmetic); the same definitions at `Float` are bit-compared with the C by
  the `search_*` streams.  Rounding is modelled, not verified.

  Vocabulary (`Refine.Lemmas.Search`): `edist` Euclidean distance on `V3 ℝ`; `BallInv t` the
  children-ball invariant "for every node p and descendant q: dist c_p c_q + r_q ≤ children_ball_p";
  `OnSeg a b y` / `InTri a b c y` closed segment / closed triangle; `SegGuard p0 p1 x` the
  `ref_math_divisible(proj2,len2)` test of `ref_search_distance2`; `segSlack`/`triSlack` = 1 when those
  guards pass (or the edge has zero length) and `1 - 1e-20` otherwise; `insertAll` = any list of inserts.
-/
namespace Refine.Props.C12
open Refine Refine.Model.Geom Refine.Model.Search Refine.ScalarReal Refine.Lemmas.Search

/-- `ref_search_insert` (→ `ref_search_home`, ball update along the whole insertion path) preserves the
    invariant — any position, any radius, including the error branches that leave the tree untouched -/
theorem insert_BallInv (s : Search ℝ) (item : Int) (pos : V3 ℝ) (rad : ℝ) (h : BallInv s.root) :
    BallInv (s.insert item pos rad).2.root :=
  insert_BallInv' s item pos rad h

/-- every tree reachable from `ref_search_create` by inserts — every insertion order, duplicates, zero or
    negative radii — satisfies the invariant -/
theorem build_BallInv (n : Int) (s0 : Search ℝ) (h0 : Search.create n = .ok s0)
    (ins : List (Int × V3 ℝ × ℝ)) : BallInv (insertAll s0 ins).root :=
  insertAll_BallInv s0 ins (create_BallInv n s0 h0)

/-- `ref_search_touching` returns exactly the items whose sphere overlaps the query sphere
    (`dist x cᵢ ≤ rᵢ + ρ`), in pre-order — pruning with `children_ball` never drops an overlap -/
theorem touching_exact (s : Search ℝ) (h : BallInv s.root) (x : V3 ℝ) (rho : ℝ) :
    s.touching x rho =
      (s.root.pre.filter (fun e => decide (edist e.pos x ≤ e.rad + rho))).map (·.item) := by
  unfold Search.touching
  rw [touching_eq x rho s.root [] h, List.nil_append]

/-- superset form, for every tree built by inserts: an overlapping sphere is always reported -/
theorem touching_superset (n : Int) (s0 : Search ℝ) (h0 : Search.create n = .ok s0)
    (ins : List (Int × V3 ℝ × ℝ)) (x : V3 ℝ) (rho : ℝ) (e : Entry ℝ)
    (he : e ∈ (insertAll s0 ins).root.pre) (hov : edist e.pos x ≤ e.rad + rho) :
    e.item ∈ (insertAll s0 ins).touching x rho := by
  rw [touching_exact _ (build_BallInv n s0 h0 ins)]
  exact List.mem_map.mpr ⟨e, List.mem_filter.mpr ⟨he, by simpa using hov⟩, rfl⟩

/-- and nothing else is reported -/
theorem touching_only_overlaps (s : Search ℝ) (h : BallInv s.root) (x : V3 ℝ) (rho : ℝ) (i : Int)
    (hi : i ∈ s.touching x rho) : ∃ e ∈ s.root.pre, e.item = i ∧ edist e.pos x ≤ e.rad + rho := by
  rw [touching_exact s h] at hi
  obtain ⟨e, he, rfl⟩ := List.mem_map.mp hi
  obtain ⟨he1, he2⟩ := List.mem_filter.mp he
  exact ⟨e, he1, rfl, by simpa using he2⟩

/-- generic form: if every element distance is bounded below by the distance to its sphere, the
    branch-and-bound of `ref_search_gather_seg/_tri` returns the plain running minimum over all entries -/
theorem nearest_exact (ed : Int → ℝ) (x : V3 ℝ) (t : STree ℝ) (d0 : ℝ) (h : BallInv t)
    (hs : ∀ e ∈ t.pre, edist e.pos x - e.rad ≤ ed e.item) :
    t.nearestWith ed x d0 = (t.pre.map (fun e => ed e.item)).foldl min d0 :=
  nearestWith_eq ed x t d0 h hs

/-- segments (`node_per == 2`): if both end points of each element lie in its sphere then
    `ref_search_nearest_element` = min(d₀, minᵢ ref_search_distance2(elementᵢ, x)) -/
theorem nearestSeg_exact (s : Search ℝ) (h : BallInv s.root) (segs : Int → V3 ℝ × V3 ℝ)
    (hin : ∀ e ∈ s.root.pre, edist e.pos (segs e.item).1 ≤ e.rad ∧ edist e.pos (segs e.item).2 ≤ e.rad)
    (x : V3 ℝ) (d0 : ℝ) :
    s.nearestSeg segs x d0 =
      (s.root.pre.map (fun e => dist2seg (segs e.item).1 (segs e.item).2 x)).foldl min d0 := by
  unfold Search.nearestSeg
  apply nearestWith_eq _ x s.root d0 h
  intro e he
  obtain ⟨y, hy, hd⟩ := dist2seg_attained (segs e.item).1 (segs e.item).2 x
  exact sphere_lower_of_attained (onSeg_in_ball hy e.pos e.rad (by simpa using hin e he)) hd

/-- triangles: if the three vertices of each element lie in its sphere then
    `ref_search_nearest_element` = min(d₀, minᵢ ref_search_distance3(elementᵢ, x)) -/
theorem nearestTri_exact (s : Search ℝ) (h : BallInv s.root) (tris : Int → V3 ℝ × V3 ℝ × V3 ℝ)
    (hin : ∀ e ∈ s.root.pre, edist e.pos (tris e.item).1 ≤ e.rad ∧ edist e.pos (tris e.item).2.1 ≤ e.rad ∧
      edist e.pos (tris e.item).2.2 ≤ e.rad)
    (x : V3 ℝ) (d0 : ℝ) :
    s.nearestTri tris x d0 =
      (s.root.pre.map (fun e => dist2tri (tris e.item).1 (tris e.item).2.1 (tris e.item).2.2 x)).foldl min d0 := by
  unfold Search.nearestTri
  apply nearestWith_eq _ x s.root d0 h
  intro e he
  obtain ⟨y, hy, hd⟩ := dist2triWith_attained tri3FootRepo tri3FootRepo_along
    (tris e.item).1 (tris e.item).2.1 (tris e.item).2.2 x
  exact sphere_lower_of_attained (inTri_in_ball hy e.pos e.rad (by simpa using hin e he)) hd

/-- the `ref_phys_wall_distance` loop, 2-D walls: for EVERY insertion permutation `perm` (whatever
    `ref_sort_shuffle`/`rand` produced) the tree search returns the running minimum of `d₀` and the kernel distances of
    all wall segments in `perm` -/
theorem wallDistance_seg_fold (ncell : Int) (segs : Int → V3 ℝ × V3 ℝ) (perm : List Int) (s : Search ℝ)
    (hw : wallBuild ncell (fun c => [(segs c).1, (segs c).2]) perm = (.ok, some s)) (x : V3 ℝ) (d0 : ℝ) :
    s.nearestSeg segs x d0 = (perm.map fun c => dist2seg (segs c).1 (segs c).2 x).foldl min d0 :=
  wallNearest_eq_fold ncell _ perm s hw _ x d0 fun c _ => by
    obtain ⟨y, hy, hv⟩ := Refine.Lemmas.Search.dist2seg_attained (segs c).1 (segs c).2 x
    exact ⟨y, onSeg_in_ball hy, hv⟩

/-- the same, 3-D walls (triangles) -/
theorem wallDistance_tri_fold (ncell : Int) (tris : Int → V3 ℝ × V3 ℝ × V3 ℝ) (perm : List Int) (s : Search ℝ)
    (hw : wallBuild ncell (fun c => [(tris c).1, (tris c).2.1, (tris c).2.2]) perm = (.ok, some s))
    (x : V3 ℝ) (d0 : ℝ) :
    s.nearestTri tris x d0 = (perm.map fun c => dist2tri (tris c).1 (tris c).2.1 (tris c).2.2 x).foldl min d0 :=
  wallNearest_eq_fold ncell _ perm s hw _ x d0 fun c _ => by
    obtain ⟨y, hy, hv⟩ := dist2triWith_attained tri3FootRepo tri3FootRepo_along (tris c).1 (tris c).2.1 (tris c).2.2 x
    exact ⟨y, inTri_in_ball hy, hv⟩

/-- `wallDistance_seg_fold` stated order-free: the value is a lower bound of `d₀` and of the distances to all wall
    segments in `perm`, and equals one of them -/
theorem wallDistance_seg_exact (ncell : Int) (segs : Int → V3 ℝ × V3 ℝ) (perm : List Int) (s : Search ℝ)
    (hw : wallBuild ncell (fun c => [(segs c).1, (segs c).2]) perm = (.ok, some s)) (x : V3 ℝ) (d0 : ℝ) :
    s.nearestSeg segs x d0 ≤ d0 ∧
    (∀ c ∈ perm, s.nearestSeg segs x d0 ≤ dist2seg (segs c).1 (segs c).2 x) ∧
    (s.nearestSeg segs x d0 = d0 ∨ ∃ c ∈ perm, s.nearestSeg segs x d0 = dist2seg (segs c).1 (segs c).2 x) := by
  rw [wallDistance_seg_fold ncell segs perm s hw]
  exact FoldMin.foldl_min_map_spec _ perm d0

/-- the `ref_phys_wall_distance` loop, 3-D walls (triangles), every insertion permutation -/
theorem wallDistance_tri_exact (ncell : Int) (tris : Int → V3 ℝ × V3 ℝ × V3 ℝ) (perm : List Int)
    (s : Search ℝ)
    (hw : wallBuild ncell (fun c => [(tris c).1, (tris c).2.1, (tris c).2.2]) perm = (.ok, some s))
    (x : V3 ℝ) (d0 : ℝ) :
    s.nearestTri tris x d0 ≤ d0 ∧
    (∀ c ∈ perm, s.nearestTri tris x d0 ≤ dist2tri (tris c).1 (tris c).2.1 (tris c).2.2 x) ∧
    (s.nearestTri tris x d0 = d0 ∨
      ∃ c ∈ perm, s.nearestTri tris x d0 = dist2tri (tris c).1 (tris c).2.1 (tris c).2.2 x) := by
  rw [wallDistance_tri_fold ncell tris perm s hw]
  exact FoldMin.foldl_min_map_spec _ perm d0

/-- `ref_phys_local_wall` (3-D): the wall list contains every wall triangle and, for every wall quad, BOTH
    triangles `(0,1,2)` and `(0,2,3)` of its split (whose union is the quad), and nothing else -/
theorem localWall3_mem (tris : List (V3 ℝ × V3 ℝ × V3 ℝ)) (quads : List (V3 ℝ × V3 ℝ × V3 ℝ × V3 ℝ))
    (t : V3 ℝ × V3 ℝ × V3 ℝ) :
    t ∈ localWall3 tris quads ↔
      t ∈ tris ∨ ∃ q ∈ quads, t = (q.1, q.2.1, q.2.2.1) ∨ t = (q.1, q.2.2.1, q.2.2.2) := by
  simp only [localWall3, Prod.mk.eta, List.mem_append, List.mem_flatMap, List.mem_cons, List.not_mem_nil,
    or_false, Prod.exists]

theorem localWall3_length (tris : List (V3 ℝ × V3 ℝ × V3 ℝ)) (quads : List (V3 ℝ × V3 ℝ × V3 ℝ × V3 ℝ)) :
    (localWall3 tris quads).length = tris.length + 2 * quads.length := by
  induction quads with
  | nil => simp [localWall3]
  | cons q qs ih =>
    simp only [localWall3, List.flatMap_cons, List.length_append, List.length_cons, List.length_nil] at ih ⊢
    omega

/-- element `c` of a wall list (out-of-range indices give a zero triangle; never used below) -/
def wallAt (l : List (V3 ℝ × V3 ℝ × V3 ℝ)) (c : Int) : V3 ℝ × V3 ℝ × V3 ℝ :=
  l.getD c.toNat (⟨0, 0, 0⟩, ⟨0, 0, 0⟩, ⟨0, 0, 0⟩)

theorem wallAt_natCast (l : List (V3 ℝ × V3 ℝ × V3 ℝ)) (k : Nat) (hk : k < l.length) :
    wallAt l (k : Int) = l[k] := by
  simp [wallAt, List.getD, hk]

/-- wall distance with quad walls: the value returned for the wall list built by `ref_phys_local_wall` is a
    lower bound of the distance to both triangles of every wall quad and to every wall triangle
    (for every insertion order `perm` that inserts the whole list) -/
theorem wallDistance_quad_exact (tris : List (V3 ℝ × V3 ℝ × V3 ℝ)) (quads : List (V3 ℝ × V3 ℝ × V3 ℝ × V3 ℝ))
    (perm : List Int) (s : Search ℝ)
    (hperm : ∀ k : Nat, k < (localWall3 tris quads).length → (k : Int) ∈ perm)
    (hw : wallBuild ((localWall3 tris quads).length : Int)
      (fun c => [(wallAt (localWall3 tris quads) c).1, (wallAt (localWall3 tris quads) c).2.1,
                 (wallAt (localWall3 tris quads) c).2.2]) perm = (.ok, some s)) (x : V3 ℝ) (d0 : ℝ) :
    (∀ t ∈ tris, s.nearestTri (wallAt (localWall3 tris quads)) x d0 ≤ dist2tri t.1 t.2.1 t.2.2 x) ∧
    (∀ q ∈ quads, s.nearestTri (wallAt (localWall3 tris quads)) x d0 ≤ dist2tri q.1 q.2.1 q.2.2.1 x ∧
                  s.nearestTri (wallAt (localWall3 tris quads)) x d0 ≤ dist2tri q.1 q.2.2.1 q.2.2.2 x) := by
  obtain ⟨_, hle, _⟩ := wallDistance_tri_exact _ (wallAt (localWall3 tris quads)) perm s hw x d0
  have key : ∀ t ∈ localWall3 tris quads,
      s.nearestTri (wallAt (localWall3 tris quads)) x d0 ≤ dist2tri t.1 t.2.1 t.2.2 x := by
    intro t ht
    obtain ⟨k, hk, hget⟩ := List.getElem_of_mem ht
    have h1 := hle (k : Int) (hperm k hk)
    rw [wallAt_natCast _ k hk, hget] at h1
    exact h1
  refine ⟨fun t ht => key t ((localWall3_mem tris quads t).2 (.inl ht)), fun q hq => ⟨?_, ?_⟩⟩
  · have h := key (q.1, q.2.1, q.2.2.1) ((localWall3_mem tris quads _).2 (.inr ⟨q, hq, .inl rfl⟩))
    dsimp only at h
    exact h
  · have h := key (q.1, q.2.2.1, q.2.2.2) ((localWall3_mem tris quads _).2 (.inr ⟨q, hq, .inr rfl⟩))
    dsimp only at h
    exact h

/-- `ref_search_trim` returns `min(t₀, minᵢ (dist x cᵢ + rᵢ))` when no radius is negative -/
theorem trim_exact (s : Search ℝ) (h : BallInv s.root) (hr : ∀ e ∈ s.root.pre, 0 ≤ e.rad) (x : V3 ℝ) (t0 : ℝ) :
    s.root.trim x t0 = (s.root.pre.map (fun e => edist e.pos x + e.rad)).foldl min t0 :=
  trim_eq x s.root t0 h hr

/-- `ref_search_nearest_candidates`: every sphere that reaches within the trim radius is a candidate.  Membership only:
    that the minimum over the candidates is the minimum over the tree needs, in addition, `0 ≤ rad` for every entry
    (`trim_exact`) and an element distance `≤ dist + rad`; that statement is not made here -/
theorem nearestCandidates_sound (s : Search ℝ) (h : BallInv s.root) (x : V3 ℝ) (e : Entry ℝ)
    (he : e ∈ s.root.pre) (hov : edist e.pos x - e.rad ≤ s.trimRadius x) :
    e.item ∈ s.nearestCandidates x := by
  unfold Search.nearestCandidates
  rw [touching_exact s h]
  exact List.mem_map.mpr ⟨e, List.mem_filter.mpr ⟨he, by simp only [decide_eq_true_eq]; linarith⟩, rfl⟩

/-- the value is the distance to a point of the segment, in both branches (guard passed / "length zero") -/
theorem dist2seg_attained (p0 p1 x : V3 ℝ) : ∃ y, OnSeg p0 p1 y ∧ dist2seg p0 p1 x = edist x y :=
  Refine.Lemmas.Search.dist2seg_attained p0 p1 x

/-- the value is the true minimum distance to the segment whenever the divisible guard passes, and in the
    zero-length branch `p0 = p1` -/
theorem dist2seg_min (p0 p1 x : V3 ℝ) (hg : SegGuard p0 p1 x ∨ p0 = p1) (y : V3 ℝ) (hy : OnSeg p0 p1 y) :
    dist2seg p0 p1 x ≤ edist x y := by
  have := segSlack_mul_le p0 p1 x y hy
  rwa [segSlack_eq_one hg, one_mul] at this

/-- the guard passes unless the query is at least `1e20` segment lengths away … -/
theorem segGuard_of_close (p0 p1 x : V3 ℝ) (h : eps20 * edist x p0 < edist p0 p1) : SegGuard p0 p1 x :=
  Refine.Lemmas.Search.segGuard_of_close p0 p1 x h

/-- … and in that remaining branch (the C comment says "length zero", but it is also taken for a far query)
    the value is the distance to `p0`, within relative `1e-20` of the minimum: unconditionally
    `(1 - 1e-20) · value ≤ dist(x, y)` for every point `y` of the segment -/
theorem dist2seg_near_min (p0 p1 x y : V3 ℝ) (hy : OnSeg p0 p1 y) :
    (1 - eps20) * dist2seg p0 p1 x ≤ edist x y :=
  dist2seg_near p0 p1 x y hy

/-- the value is the distance to a point of the closed triangle (interior branch and edge fall-back) -/
theorem dist2tri_attained (p0 p1 p2 x : V3 ℝ) : ∃ y, InTri p0 p1 p2 y ∧ dist2tri p0 p1 p2 x = edist x y :=
  dist2triWith_attained tri3FootRepo tri3FootRepo_along p0 p1 p2 x

/-- FULL minimality over the closed triangle (interior included, degenerate triangles included):
    `triSlack · value ≤ dist(x, y)` for every `y` in the triangle, where `triSlack = 1` unless one of the
    three `ref_search_distance2` edge calls takes its far-field branch (then `1 - 1e-20`).
    This holds for any foot that moves the query along the normal: also for the un-normalised projection the C had
    until /repo cb0f67a, which is harmless in exact arithmetic. -/
theorem dist2tri_min (p0 p1 p2 x y : V3 ℝ) (hy : InTri p0 p1 p2 y) :
    triSlack p0 p1 p2 x * dist2tri p0 p1 p2 x ≤ edist x y :=
  dist2triWith_min tri3FootRepo tri3FootRepo_along p0 p1 p2 x y hy

/-- exact form: with the three edge guards passing (or zero-length edges) the value is the minimum -/
theorem dist2tri_min_exact (p0 p1 p2 x y : V3 ℝ) (h01 : SegGuard p0 p1 x ∨ p0 = p1)
    (h12 : SegGuard p1 p2 x ∨ p1 = p2) (h20 : SegGuard p2 p0 x ∨ p2 = p0) (hy : InTri p0 p1 p2 y) :
    dist2tri p0 p1 p2 x ≤ edist x y := by
  have := dist2tri_min p0 p1 p2 x y hy
  rwa [triSlack_eq_one h01 h12 h20, one_mul] at this

/-- unconditional form: never more than relative `1e-20` above the minimum -/
theorem dist2tri_near_min (p0 p1 p2 x y : V3 ℝ) (hy : InTri p0 p1 p2 y) :
    (1 - eps20) * dist2tri p0 p1 p2 x ≤ edist x y := by
  have h1 := dist2tri_min p0 p1 p2 x y hy
  have h2 := triSlack_ge p0 p1 p2 x
  have h3 := dist2triWith_nonneg tri3FootRepo tri3FootRepo_along p0 p1 p2 x
  unfold dist2tri at h1 ⊢
  nlinarith

/-- the same two facts with the projection spelt out: `dist2triFixed` is `ref_search_distance3` with the foot computed
    as the C text does, by `ref_node_bary3d`'s shift (`tri3FootFixed`), and `dist2tri` unfolds to it -/
theorem dist2triFixed_attained_min (p0 p1 p2 x : V3 ℝ) :
    (∃ y, InTri p0 p1 p2 y ∧ dist2triFixed p0 p1 p2 x = edist x y) ∧
    (∀ y, InTri p0 p1 p2 y → triSlack p0 p1 p2 x * dist2triFixed p0 p1 p2 x ≤ edist x y) :=
  ⟨dist2tri_attained p0 p1 p2 x, fun y hy => dist2tri_min p0 p1 p2 x y hy⟩

/-- `ref_node_bounding_sphere_xyz`: every vertex is within `radius` of `center` -/
theorem boundingSphere_contains (pts : List (V3 ℝ)) (p : V3 ℝ) (hp : p ∈ pts) :
    edist (boundingSphere pts).1 p ≤ (boundingSphere pts).2 :=
  sphereRadius_contains _ pts p hp

/-- hence (convexity of balls) every point of a segment / triangle element is inside its sphere, also
    after the `1 + 1e-8` inflation of `ref_phys_wall_distance` -/
theorem boundingSphere_contains_element (p0 p1 p2 : V3 ℝ) :
    (∀ y, OnSeg p0 p1 y →
      edist (boundingSphere [p0, p1]).1 y ≤ (inflate : ℝ) * (boundingSphere [p0, p1]).2) ∧
    (∀ y, InTri p0 p1 p2 y →
      edist (boundingSphere [p0, p1, p2]).1 y ≤ (inflate : ℝ) * (boundingSphere [p0, p1, p2]).2) := by
  have h2 := boundingSphere_scaled_contains inflate_ge_one [p0, p1]
  have h3 := boundingSphere_scaled_contains inflate_ge_one [p0, p1, p2]
  exact ⟨fun y hy => onSeg_in_ball hy _ _ h2, fun y hy => inTri_in_ball hy _ _ h3⟩

/-- three inserts after `ref_search_create(3)` give a three-node tree, and (`build_BallInv`) it satisfies the
    invariant that `touching_exact`, `nearest_exact`, `trim_exact` assume -/
example : ∃ s0 : Search ℝ, Search.create 3 = .ok s0 ∧
    (insertAll s0 [(7, ⟨0, 0, 0⟩, 1), (8, ⟨3, 0, 0⟩, 1), (9, ⟨0, 4, 0⟩, 2)]).root.pre.length = 3 ∧
    BallInv (insertAll s0 [(7, ⟨0, 0, 0⟩, 1), (8, ⟨3, 0, 0⟩, 1), (9, ⟨0, 4, 0⟩, 2)]).root := by
  refine ⟨⟨3, 0, .nil⟩, by simp [Search.create], ?_, build_BallInv 3 _ (by simp [Search.create]) _⟩
  simp [insertAll, Search.insert, STree.home, STree.pre, STree.leaf]

/-- the error branches are reachable too: a full tree answers `increase_limit`, a negative item `invalid` -/
example : ((⟨1, 1, STree.leaf ⟨0, 5, ⟨0, 0, 0⟩, 1⟩⟩ : Search ℝ).insert 6 ⟨1, 1, 1⟩ 1).1 = .increaseLimit ∧
    ((⟨2, 1, STree.leaf ⟨0, 5, ⟨0, 0, 0⟩, 1⟩⟩ : Search ℝ).insert (-6) ⟨1, 1, 1⟩ 1).1 = .invalid := by
  constructor <;> simp [Search.insert]

/-- the wall loop succeeds on a concrete two-segment wall inserted in the order 1,0: the hypothesis of
    `wallDistance_seg_exact` is met (and its conclusion then speaks about both segments) -/
example : ∃ s : Search ℝ,
    wallBuild 2 (fun c => if c = 0 then [⟨0, 0, 0⟩, ⟨1, 0, 0⟩] else [⟨1, 0, 0⟩, ⟨1, 2, 0⟩]) [1, 0] = (.ok, some s) := by
  simp [wallBuild, wallBuild.go, Search.create, Search.insert]

/-- likewise three wall triangles in the order 2,0,1 -/
example : ∃ s : Search ℝ,
    wallBuild 3 (fun c => [⟨(c : ℝ), 0, 0⟩, ⟨(c : ℝ) + 1, 0, 0⟩, ⟨(c : ℝ), 1, 0⟩]) [2, 0, 1] = (.ok, some s) := by
  simp [wallBuild, wallBuild.go, Search.create, Search.insert]

/-- the divisible guard of `ref_search_distance2` passes for an ordinary query … -/
example : SegGuard ⟨0, 0, 0⟩ ⟨1, 0, 0⟩ ⟨1 / 2, 1, 0⟩ := by
  unfold SegGuard
  rw [divisible_iff]
  norm_num [segP, segL]

/-- … and genuinely fails for a non-degenerate segment seen from `1e20` lengths away: the branch commented
    "length zero" in the C is also the far-field branch, which is why `dist2seg_near_min` carries `1 - 1e-20` -/
example : ¬ SegGuard ⟨0, 0, 0⟩ ⟨1, 0, 0⟩ ⟨10 ^ 20, 0, 0⟩ := by
  unfold SegGuard
  rw [divisible_iff]
  norm_num [segP, segL]

/-- the interior branch of `ref_search_distance3` is taken for a point above the unit right triangle -/
example : TriInterior ⟨0, 0, 0⟩ ⟨1, 0, 0⟩ ⟨0, 1, 0⟩ ⟨1 / 4, 1 / 4, 1⟩ := by
  unfold TriInterior
  simp only [Bool.and_eq_true, divisible_iff, le_iff]
  norm_num [baryR, nrm, Refine.GeomReal.vdot]

/-- and the edge fall-back for a point beyond the hypotenuse -/
example : ¬ TriInterior ⟨0, 0, 0⟩ ⟨1, 0, 0⟩ ⟨0, 1, 0⟩ ⟨1, 1, 1⟩ := by
  unfold TriInterior
  simp only [Bool.and_eq_true, divisible_iff, le_iff]
  norm_num [baryR, nrm, Refine.GeomReal.vdot]

/-- every vertex, edge point and convex combination is a legitimate `y` for `dist2tri_min` -/
example (p0 p1 p2 : V3 ℝ) : InTri p0 p1 p2 p0 ∧ InTri p0 p1 p2 (comb3 p0 p1 p2 (1 / 3) (1 / 3) (1 / 3)) :=
  ⟨inTri_of_onSeg01 (onSeg_left p0 p1), ⟨1 / 3, 1 / 3, 1 / 3, by norm_num, by norm_num, by norm_num, by norm_num, rfl⟩⟩

/-- `boundingSphere_contains` is about every listed vertex -/
example (a b c : V3 ℝ) : edist (boundingSphere [a, b, c]).1 c ≤ (boundingSphere [a, b, c]).2 :=
  boundingSphere_contains [a, b, c] c (by simp)

end Refine.Props.C12
