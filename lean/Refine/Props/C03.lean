import Refine.Lemmas.Unit

/-!
  C03 (the part that is logic).  The property says that `ref adapt` *reaches* a quasi-unit mesh; that is an
  empirical statement about a heuristic search and has no theorem here (it is oracled: stream `cli_quasiunit`).
  What is proved, about the executable model `Refine.Model.Unit` whose `Float` instance is compared with the C:

  * the parameters `ref_adapt_parameter` derives are ordered: `post_min ≤ min(measured min, collapse_ratio)`,
    `max(measured max, previous split_ratio) = post_max`, `collapse_ratio < split_ratio`, quality floors in
    `[1e-3, 0.1]`; the two natural relations that do NOT hold for all inputs are stated with their exact
    condition and a counter-example each (`split_ratio > 1` needs `max_ratio > 2 - √2`;
    `split_ratio ≤ post_max` needs the previous `split_ratio ≥ √2`);
  * every accepted local operation is guarded by the ratio band: if the guard says yes, every edge it creates or
    changes lies in the band (split, smoothing, swap, cavity) resp. in the band widened by the extremes of the
    edges that disappear (collapse fall-back) — and the guard measures *every* edge the operation changes;
  * hence, by induction over operation histories, "all edges in the band" and "all cells above the quality floor"
    are invariants of accepted splits, collapses and vertex moves under a fixed band;
  * selection soundness: only edges longer than `split_ratio` are scheduled for splitting, only vertices with an
    incident edge shorter than `collapse_ratio` for removal, and no edge is both.
  Exact real arithmetic; rounding is modelled (Float instance, bit-compared), not verified.
-/
namespace Refine.Props.C03
open Refine Refine.Model.Geom Refine.Model.Unit Refine.ScalarReal Refine.UnitReal

/-- one rescaling branch of `ref_adapt_parameter`: `p ↦ k p` under a condition that makes `k ≤ 1` -/
theorem ite_scale_le {c : Prop} [Decidable c] {k p : ℝ} (h : c → k ≤ 1 ∧ 0 ≤ p) : (if c then k * p else p) ≤ p := by
  split_ifs with hc
  · exact mul_le_of_le_one_left (h hc).2 (h hc).1
  · exact le_rfl

theorem ite_scale_pos {c : Prop} [Decidable c] {k p : ℝ} (h : c → 0 < k) (hp : 0 < p) :
    0 < if c then k * p else p := by
  split_ifs with hc
  · exact mul_pos (h hc) hp
  · exact hp

/-! the constants of the two rescaling branches of `post_min_ratio` (ref_adapt.c:317-330): `0.4`, `3.5`, `1.6`, `1.4`, `4.0` -/

theorem ofDec4_eq : (Scalar.ofDec 4 (-1) : ℝ) = 2 / 5 := by rw [ofDec_eq]; norm_num
theorem ofDec35_eq : (Scalar.ofDec 35 (-1) : ℝ) = 7 / 2 := by rw [ofDec_eq]; norm_num
theorem ofDec16_eq : (Scalar.ofDec 16 (-1) : ℝ) = 8 / 5 := by rw [ofDec_eq]; norm_num
theorem ofDec14_eq : (Scalar.ofDec 14 (-1) : ℝ) = 7 / 5 := by rw [ofDec_eq]; norm_num
theorem ofInt4_eq : (Scalar.ofInt 4 : ℝ) = 4 := by rw [ofInt_eq]; norm_num

theorem derivePostMin_le (cr pmax mr : ℝ) : derivePostMin cr pmax mr ≤ min mr cr := by
  unfold derivePostMin
  simp only [cmin_eq, Bool.and_eq_true, lt_iff, ofDec4_eq, ofDec35_eq, ofDec16_eq, ofDec14_eq, ofInt4_eq, mul_eq, div_eq]
  refine (ite_scale_le fun h => ?_).trans (ite_scale_le fun h => ?_)
  · exact ⟨(div_le_one (by linarith [h.1.2])).mpr (by linarith [h.1.2]), by linarith [h.2]⟩
  · exact ⟨(div_le_one (by linarith [h.1])).mpr h.1.le, by linarith [h.2]⟩

theorem derivePostMin_pos (cr pmax mr : ℝ) (h : 0 < min mr cr) : 0 < derivePostMin cr pmax mr := by
  unfold derivePostMin
  simp only [cmin_eq, Bool.and_eq_true, lt_iff, ofDec4_eq, ofDec35_eq, ofDec16_eq, ofDec14_eq, ofInt4_eq, mul_eq, div_eq]
  refine ite_scale_pos (fun hc => ?_) (ite_scale_pos (fun hc => ?_) h)
  · exact div_pos (by norm_num) (by linarith [hc.1.2])
  · exact div_pos (by norm_num) (by linarith [hc.1])

theorem clampTarget_range (x : ℝ) : (1 : ℝ) / 1000 ≤ clampTarget x ∧ clampTarget x ≤ 1 / 10 := by
  unfold clampTarget
  simp only [cmin_eq, cmax_eq, ofDec_eq]
  norm_num

theorem sqrt2_eq : (sqrt2 : ℝ) = Real.sqrt 2 := by
  unfold sqrt2
  simp only [sqrt_eq, ofInt_eq]
  norm_num

theorem sqrt2_bounds : (1.4 : ℝ) < Real.sqrt 2 ∧ Real.sqrt 2 < 1.5 := by
  constructor
  · rw [show (1.4 : ℝ) = Real.sqrt (1.4 ^ 2) by rw [Real.sqrt_sq (by norm_num)]]
    exact Real.sqrt_lt_sqrt (by norm_num) (by norm_num)
  · rw [show (1.5 : ℝ) = Real.sqrt (1.5 ^ 2) by rw [Real.sqrt_sq (by norm_num)]]
    exact Real.sqrt_lt_sqrt (by norm_num) (by norm_num)

theorem deriveSplit_cases (m : Measured ℝ) :
    deriveSplit m = Real.sqrt 2 ∨ deriveSplit m = (Real.sqrt 2 + m.maxRatio) / 2 := by
  fun_cases deriveSplit m
  · right
    simp only [sqrt2_eq, half, ofDec_eq, mul_eq, add_eq]
    norm_num
    ring
  · exact .inl sqrt2_eq

/-- the relations of `adaptParameter_band`, by name; `a'` are the parameters derived from `a` and the measured `m` -/
structure ParameterBand (a : Adapt ℝ) (m : Measured ℝ) (a' : Adapt ℝ) : Prop where
  postMin_le_minRatio : a'.postMin ≤ m.minRatio
  postMin_le_collapse : a'.postMin ≤ a'.collapseRatio
  collapse_kept : a'.collapseRatio = a.collapseRatio
  maxRatio_le_postMax : m.maxRatio ≤ a'.postMax
  prevSplit_le_postMax : a.splitRatio ≤ a'.postMax
  split_ge : min (Real.sqrt 2) m.maxRatio ≤ a'.splitRatio
  split_le : a'.splitRatio ≤ max (Real.sqrt 2) m.maxRatio
  floor_ge : (1 : ℝ) / 1000 ≤ a'.collapseQualityAbs
  floor_le : a'.collapseQualityAbs ≤ 1 / 10
  smooth_eq : a'.smoothMinQuality = a'.collapseQualityAbs
  splitQuality_kept : a'.splitQualityAbs = a.splitQualityAbs
  lastMin_eq : a'.lastMin = a'.postMin
  lastMax_eq : a'.lastMax = a'.postMax

theorem adaptParameter_fields (a : Adapt ℝ) (m : Measured ℝ) : ParameterBand a m (adaptParameter a m).1 := by
  have hle := derivePostMin_le a.collapseRatio (Scalar.cmax m.maxRatio a.splitRatio) m.minRatio
  have hq := clampTarget_range m.minQuality
  refine ⟨hle.trans (min_le_left _ _), hle.trans (min_le_right _ _), rfl, ?_, ?_, ?_, ?_, hq.1, hq.2, rfl, rfl,
    rfl, rfl⟩
  · show m.maxRatio ≤ Scalar.cmax m.maxRatio a.splitRatio
    rw [cmax_eq]; exact le_max_left _ _
  · show a.splitRatio ≤ Scalar.cmax m.maxRatio a.splitRatio
    rw [cmax_eq]; exact le_max_right _ _
  · show min (Real.sqrt 2) m.maxRatio ≤ deriveSplit m
    rcases deriveSplit_cases m with h | h <;> rw [h]
    · exact min_le_left _ _
    · rcases le_total (Real.sqrt 2) m.maxRatio with h2 | h2
      · rw [min_eq_left h2]; linarith
      · rw [min_eq_right h2]; linarith
  · show deriveSplit m ≤ max (Real.sqrt 2) m.maxRatio
    rcases deriveSplit_cases m with h | h <;> rw [h]
    · exact le_max_left _ _
    · rcases le_total (Real.sqrt 2) m.maxRatio with h2 | h2
      · rw [max_eq_right h2]; linarith
      · rw [max_eq_left h2]; linarith

/-- **Order relations of the derived parameters, for all inputs.**  With `a' = ref_adapt_parameter(a, measured)`:
    the band contains the measured range and the selection thresholds it was built from
    (`post_min ≤ min_ratio`, `post_min ≤ collapse_ratio`, `max_ratio ≤ post_max`, previous `split_ratio ≤ post_max`),
    `collapse_ratio` is not touched, the quality floors lie in `[1e-3, 0.1]`, the new `split_ratio` lies between
    `min(√2, max_ratio)` and `max(√2, max_ratio)`, and `last_*` record the band. -/
theorem adaptParameter_band (a : Adapt ℝ) (m : Measured ℝ) :
    let a' := (adaptParameter a m).1
    a'.postMin ≤ m.minRatio ∧ a'.postMin ≤ a'.collapseRatio ∧ a'.collapseRatio = a.collapseRatio ∧
    m.maxRatio ≤ a'.postMax ∧ a.splitRatio ≤ a'.postMax ∧
    min (Real.sqrt 2) m.maxRatio ≤ a'.splitRatio ∧ a'.splitRatio ≤ max (Real.sqrt 2) m.maxRatio ∧
    (1 : ℝ) / 1000 ≤ a'.collapseQualityAbs ∧ a'.collapseQualityAbs ≤ 1 / 10 ∧
    a'.smoothMinQuality = a'.collapseQualityAbs ∧ a'.splitQualityAbs = a.splitQualityAbs ∧
    a'.lastMin = a'.postMin ∧ a'.lastMax = a'.postMax :=
  have h := adaptParameter_fields a m
  ⟨h.postMin_le_minRatio, h.postMin_le_collapse, h.collapse_kept, h.maxRatio_le_postMax, h.prevSplit_le_postMax,
    h.split_ge, h.split_le, h.floor_ge, h.floor_le, h.smooth_eq, h.splitQuality_kept, h.lastMin_eq, h.lastMax_eq⟩

/-- the band is positive and non-empty whenever the measured range is -/
theorem adaptParameter_band_pos (a : Adapt ℝ) (m : Measured ℝ) (hc : 0 < a.collapseRatio) (hm : 0 < m.minRatio)
    (hmm : m.minRatio ≤ m.maxRatio) :
    0 < (adaptParameter a m).1.postMin ∧ (adaptParameter a m).1.postMin ≤ (adaptParameter a m).1.postMax := by
  constructor
  · exact derivePostMin_pos _ _ _ (lt_min hm hc)
  · have h := adaptParameter_fields a m
    exact h.postMin_le_minRatio.trans (hmm.trans h.maxRatio_le_postMax)

/-- the two selection thresholds never meet: with `collapse_ratio = 1/√2` (never changed after `ref_adapt_create`)
    and a positive measured `max_ratio`, `collapse_ratio < split_ratio` -/
theorem collapse_lt_split (a : Adapt ℝ) (m : Measured ℝ) (hc : a.collapseRatio = 1 / Real.sqrt 2)
    (hm : 0 < m.maxRatio) : (adaptParameter a m).1.collapseRatio < (adaptParameter a m).1.splitRatio := by
  show a.collapseRatio < deriveSplit m
  have hs := sqrt2_bounds
  have hpos : (0 : ℝ) < Real.sqrt 2 := by linarith [hs.1]
  have hhalf : 1 / Real.sqrt 2 = Real.sqrt 2 / 2 := by
    rw [div_eq_div_iff (ne_of_gt hpos) (by norm_num)]
    have := Real.mul_self_sqrt (show (0 : ℝ) ≤ 2 by norm_num)
    linarith
  rw [hc, hhalf]
  rcases deriveSplit_cases m with h | h <;> rw [h] <;> linarith

/-- `1 < split_ratio` exactly when the measured `max_ratio` exceeds `2 - √2 ≈ 0.586` (or the rescaling is off) -/
theorem one_lt_split (m : Measured ℝ) (hm : 2 - Real.sqrt 2 < m.maxRatio) : 1 < deriveSplit m := by
  have hs := sqrt2_bounds
  rcases deriveSplit_cases m with h | h <;> rw [h] <;> linarith [hs.1]

/-- `split_ratio ≤ post_max_ratio` holds when the *previous* `split_ratio` was at least `√2` (in particular on the
    first call); it is not an invariant, see `split_above_postMax_example` -/
theorem split_le_postMax (a : Adapt ℝ) (m : Measured ℝ) (h : Real.sqrt 2 ≤ a.splitRatio) :
    (adaptParameter a m).1.splitRatio ≤ (adaptParameter a m).1.postMax := by
  have f := adaptParameter_fields a m
  exact f.split_le.trans (max_le (h.trans f.prevSplit_le_postMax) f.maxRatio_le_postMax)

/-- the measured values of a too-fine mesh (all edges short, more than 3 vertices per unit complexity) -/
noncomputable def fineMeasured (mx : ℝ) : Measured ℝ :=
  { minRatio := mx / 2, maxRatio := mx, minQuality := 1 / 2, minNormdev := 2, nodesPerComplexity := 10,
    mixed := false, maxAge := 0 }

theorem deriveSplit_fine (mx : ℝ) : deriveSplit (fineMeasured mx) = (Real.sqrt 2 + mx) / 2 := by
  unfold deriveSplit fineMeasured
  simp only [Bool.not_false, Bool.true_and, lt_iff, ofInt_eq, sqrt2_eq, half, ofDec_eq, mul_eq, add_eq]
  norm_num
  ring

/-- **input where `1 < split_ratio` fails**: measured `max_ratio = 1/2` with `nnode/complexity > 3` gives
    `split_ratio = (√2 + 1/2)/2 < 1`: edges *shorter* than the unit length become split candidates (as soon as a
    collapse of the same pass lengthens one beyond 0.957) -/
theorem split_below_one_example :
    (adaptParameter (adaptCreate : Adapt ℝ) (fineMeasured (1 / 2))).1.splitRatio < 1 := by
  show deriveSplit (fineMeasured (1 / 2)) < 1
  rw [deriveSplit_fine]
  linarith [sqrt2_bounds.2]

/-- **input where `split_ratio ≤ post_max_ratio` fails**: two successive calls on a too-fine mesh whose longest
    edge grew from 0.5 to 1.0: the band ends at `post_max = max(1.0, 0.957) = 1`, the split threshold is 1.207 -/
theorem split_above_postMax_example :
    let a1 := (adaptParameter (adaptCreate : Adapt ℝ) (fineMeasured (1 / 2))).1
    let a2 := (adaptParameter a1 (fineMeasured 1)).1
    a2.postMax < a2.splitRatio := by
  intro a1 a2
  show Scalar.cmax (fineMeasured 1).maxRatio (deriveSplit (fineMeasured (1 / 2))) < deriveSplit (fineMeasured 1)
  rw [cmax_eq, deriveSplit_fine, deriveSplit_fine]
  have hs := sqrt2_bounds
  show max (1 : ℝ) _ < _
  rw [max_lt_iff]
  constructor <;> linarith

/-- the decision of `ref_split_edge_ratio` is exactly the band test on every measured edge (so it refuses as soon as
    one of them is outside) -/
theorem split_reject_iff (a : Adapt ℝ) (rat : Nat → Nat → ℝ) (cells : List Cell) (n0 n1 nw : Nat) :
    splitEdgeRatio a rat cells n0 n1 nw = true ↔
      ∀ e ∈ splitTested cells n0 n1 nw, a.postMin ≤ rat e.1 e.2 ∧ rat e.1 e.2 ≤ a.postMax := by
  unfold splitEdgeRatio
  rw [List.all_eq_true]
  exact forall₂_congr fun e _ => inBand_iff a _

/-- `ref_split_edge_ratio` says yes ⇒ every measured edge (all edges at the new vertex, `splitTested_complete`)
    has its length in `[post_min_ratio, post_max_ratio]` -/
theorem split_accept_band (a : Adapt ℝ) (rat : Nat → Nat → ℝ) (cells : List Cell) (n0 n1 nw : Nat)
    (h : splitEdgeRatio a rat cells n0 n1 nw = true) :
    ∀ e ∈ splitTested cells n0 n1 nw, a.postMin ≤ rat e.1 e.2 ∧ rat e.1 e.2 ≤ a.postMax :=
  (split_reject_iff a rat cells n0 n1 nw).mp h

/-- "the split changes only the edges it measures": in the cells after the split, a pair of distinct vertices
    either contains the new vertex — then it is a measured edge — or is a pair of an old cell -/
theorem splitTested_complete (cells : List Cell) (n0 n1 nw : Nat) (hfresh : ∀ c ∈ cells, nw ∉ c)
    {c' : Cell} (hc' : c' ∈ splitCells cells n0 n1 nw) {x y : Nat} (hx : x ∈ c') (hy : y ∈ c') (hxy : x ≠ y) :
    (x = nw ∧ (nw, y) ∈ splitTested cells n0 n1 nw) ∨ (y = nw ∧ (nw, x) ∈ splitTested cells n0 n1 nw) ∨
    (x ≠ nw ∧ y ≠ nw ∧ ∃ c ∈ cells, x ∈ c ∧ y ∈ c) := by
  obtain ⟨c, hc, hin⟩ := mem_splitCells.mp hc'
  by_cases hon : n0 ∈ c ∧ n1 ∈ c
  · rw [if_pos hon] at hin
    obtain ⟨h0, h1⟩ := hon
    -- `c'` is the half of `c` in which one end `o` of the edge was replaced by the new vertex
    obtain ⟨o, ho, rfl⟩ : ∃ o, (o = n0 ∨ o = n1) ∧ c' = subst o nw c :=
      hin.elim (fun h => ⟨n0, Or.inl rfl, h⟩) fun h => ⟨n1, Or.inr rfl, h⟩
    have tested : ∀ z, z ∈ subst o nw c → z ≠ nw → (nw, z) ∈ splitTested cells n0 n1 nw := by
      intro z hz hne
      refine mem_splitTested.mpr ⟨c, hc, h0, h1, ?_⟩
      rcases ho with rfl | rfl
      · left; exact mem_edgesAt.mpr ⟨rfl, hz, hne⟩
      · right; exact mem_edgesAt.mpr ⟨rfl, hz, hne⟩
    by_cases hxn : x = nw
    · left; exact ⟨hxn, tested y hy (fun h => hxy (hxn.trans h.symm))⟩
    · by_cases hyn : y = nw
      · right; left; exact ⟨hyn, tested x hx hxn⟩
      · right; right
        refine ⟨hxn, hyn, c, hc, ?_, ?_⟩
        · rcases mem_subst.mp hx with ⟨h, _⟩ | ⟨h, _⟩
          · exact absurd h hxn
          · exact h
        · rcases mem_subst.mp hy with ⟨h, _⟩ | ⟨h, _⟩
          · exact absurd h hyn
          · exact h
  · rw [if_neg hon] at hin
    subst hin
    right; right
    exact ⟨fun h => hfresh _ hc (h ▸ hx), fun h => hfresh _ hc (h ▸ hy), _, hc, hx, hy⟩

/-- `ref_collapse_edge_ratio` says yes ⇒ every edge `node0–x` it measures (all new edges, see
    `collapseNew_complete`) lies in the band **widened by the extremes of the edges at the removed vertex**:
    the second clause of the guard ("not worse than before") can accept an edge outside `[post_min, post_max]` -/
theorem collapse_accept_band (a : Adapt ℝ) (rat : Nat → Nat → ℝ) (cells : List Cell) (n0 n1 : Nat)
    (h : collapseEdgeRatio a rat cells n0 n1 = true) :
    ∀ e ∈ collapseNew cells n0 n1,
      min a.postMin (foldMin dblMax ((collapseOld cells n1).map fun e => rat e.1 e.2)) ≤ rat e.1 e.2 ∧
      rat e.1 e.2 ≤ max a.postMax (foldMax (-. lit1) ((collapseOld cells n1).map fun e => rat e.1 e.2)) := by
  intro e he
  unfold collapseEdgeRatio at h
  simp only [Bool.or_eq_true, Bool.and_eq_true, le_iff] at h
  have hmem : rat e.1 e.2 ∈ (collapseNew cells n0 n1).map fun e => rat e.1 e.2 := List.mem_map.mpr ⟨e, he, rfl⟩
  have hlo : foldMin dblMax ((collapseNew cells n0 n1).map fun e => rat e.1 e.2) ≤ rat e.1 e.2 := by
    rw [foldMin_eq]; exact FoldMin.foldl_min_le_mem _ _ hmem
  have hhi : rat e.1 e.2 ≤ foldMax (-. lit1) ((collapseNew cells n0 n1).map fun e => rat e.1 e.2) := by
    rw [foldMax_eq]; exact mem_le_foldl_max _ _ hmem
  rcases h with ⟨h1, h2⟩ | ⟨h1, h2⟩
  · exact ⟨(min_le_left _ _).trans (h1.trans hlo), (hhi.trans h2).trans (le_max_left _ _)⟩
  · exact ⟨(min_le_right _ _).trans (h1.trans hlo), (hhi.trans h2).trans (le_max_right _ _)⟩

/-- sanity of the band limits used with the `REF_DBL_MAX` / `-1.0` initial values of the collapse guard -/
def SaneBand (a : Adapt ℝ) : Prop := a.postMin ≤ (dblMax : ℝ) ∧ (-. lit1 : ℝ) ≤ a.postMax

/-- if the edges at the removed vertex were inside the band, an accepted collapse creates only edges inside it -/
theorem collapse_accept_band_inv (a : Adapt ℝ) (hs : SaneBand a) (rat : Nat → Nat → ℝ) (cells : List Cell)
    (n0 n1 : Nat) (h : collapseEdgeRatio a rat cells n0 n1 = true)
    (hold : ∀ e ∈ collapseOld cells n1, a.postMin ≤ rat e.1 e.2 ∧ rat e.1 e.2 ≤ a.postMax) :
    ∀ e ∈ collapseNew cells n0 n1, a.postMin ≤ rat e.1 e.2 ∧ rat e.1 e.2 ≤ a.postMax := by
  intro e he
  obtain ⟨h1, h2⟩ := collapse_accept_band a rat cells n0 n1 h e he
  have hmin : a.postMin ≤ foldMin dblMax ((collapseOld cells n1).map fun e => rat e.1 e.2) := by
    rw [foldMin_eq]
    rcases FoldMin.foldl_min_mem ((collapseOld cells n1).map fun e => rat e.1 e.2) dblMax with hh | hh
    · rw [hh]; exact hs.1
    · obtain ⟨e', he', hr⟩ := List.mem_map.mp hh
      rw [← hr]; exact (hold e' he').1
  have hmax : foldMax (-. lit1) ((collapseOld cells n1).map fun e => rat e.1 e.2) ≤ a.postMax := by
    rw [foldMax_eq]
    rcases foldl_max_mem_or (-. lit1) ((collapseOld cells n1).map fun e => rat e.1 e.2) with hh | hh
    · rw [hh]; exact hs.2
    · obtain ⟨e', he', hr⟩ := List.mem_map.mp hh
      rw [← hr]; exact (hold e' he').2
  rw [min_eq_left hmin] at h1
  rw [max_eq_left hmax] at h2
  exact ⟨h1, h2⟩

/-- "the collapse changes only the edges it measures": a pair of distinct vertices of a cell after the collapse
    is either `node0–x` with `(node0, x)` measured, or a pair of an old cell -/
theorem collapseNew_complete (cells : List Cell) (n0 n1 : Nat) {c' : Cell} (hc' : c' ∈ collapseCells cells n0 n1)
    {x y : Nat} (hx : x ∈ c') (hy : y ∈ c') (hxy : x ≠ y) :
    (x = n0 ∧ (n0, y) ∈ collapseNew cells n0 n1) ∨ (y = n0 ∧ (n0, x) ∈ collapseNew cells n0 n1) ∨
    (∃ c ∈ cells, x ∈ c ∧ y ∈ c) := by
  obtain ⟨c, hc, hoff', rfl⟩ := mem_collapseCells.mp hc'
  rcases mem_subst.mp hx with ⟨hx0, h1c⟩ | ⟨hxc, hx1⟩
  · rcases mem_subst.mp hy with ⟨hy0, _⟩ | ⟨hyc, hy1⟩
    · exact absurd (hx0.trans hy0.symm) hxy
    · left
      refine ⟨hx0, mem_collapseNew.mpr ⟨c, hc, h1c, fun h0c => hoff' ⟨h0c, h1c⟩, rfl, hyc, hy1⟩⟩
  · rcases mem_subst.mp hy with ⟨hy0, h1c⟩ | ⟨hyc, hy1⟩
    · right; left
      refine ⟨hy0, mem_collapseNew.mpr ⟨c, hc, h1c, fun h0c => hoff' ⟨h0c, h1c⟩, rfl, hxc, hx1⟩⟩
    · right; right; exact ⟨c, hc, hxc, hyc⟩

/-- the smoothers' ratio test says yes ⇒ every edge at the moved vertex is inside the band (the C measures all of
    them: every other vertex of every cell at the vertex) -/
theorem smooth_accept_band (a : Adapt ℝ) (rat : Nat → Nat → ℝ) (cells : List Cell) (n : Nat)
    (h : smoothRatioOk a rat cells n = true) :
    ∀ e ∈ aroundEdges cells n, a.postMin ≤ rat e.1 e.2 ∧ rat e.1 e.2 ≤ a.postMax := by
  intro e he
  unfold smoothRatioOk ratioAround at h
  split at h
  · cases h
  · rename_i mn mx heq
    obtain ⟨h1, h2⟩ := (bandOk_iff a mn mx).mp h
    obtain ⟨b1, b2⟩ := minMax_bounds heq (List.mem_map.mpr ⟨e, he, rfl⟩)
    exact ⟨h1.trans b1, b2.trans h2⟩

/-- `ref_swap_ratio`: the one new edge is *strictly* inside the band -/
theorem swap_accept_band (a : Adapt ℝ) (r : ℝ) (h : swapRatio a r = true) : a.postMin < r ∧ r < a.postMax := by
  unfold swapRatio at h
  simpa only [Bool.and_eq_true, lt_iff] using h

/-- `ref_cavity_ratio`: every edge from the cavity vertex to a face vertex is inside the band -/
theorem cavity_accept_band (a : Adapt ℝ) (rs : List ℝ) (h : cavityRatio a rs = true) :
    ∀ r ∈ rs, a.postMin ≤ r ∧ r ≤ a.postMax := by
  intro r hr
  unfold cavityRatio at h
  exact (inBand_iff a r).mp (List.all_eq_true.mp h r hr)

/-- every mesh edge — every pair of distinct vertices of a common cell, in both orientations — has its length
    (`ref_node_ratio` with the per-vertex metrics) in the band -/
def AllEdgesInBand (a : Adapt ℝ) (M : Mesh ℝ) : Prop :=
  ∀ c ∈ M.cells, ∀ x ∈ c, ∀ y ∈ c, x ≠ y →
    a.postMin ≤ nodeRatio M.verts x y ∧ nodeRatio M.verts x y ≤ a.postMax

/-- the ratio guard of the operation, evaluated on the state it is applied to -/
def AcceptedRatio (a : Adapt ℝ) (M : Mesh ℝ) : Op ℝ → Prop
  | .split n0 n1 nw v =>
      (∀ c ∈ M.cells, nw ∉ c) ∧ splitEdgeRatio a (nodeRatio (setVert M.verts nw v)) M.cells n0 n1 nw = true
  | .collapse n0 n1 => collapseEdgeRatio a (nodeRatio M.verts) M.cells n0 n1 = true
  | .smooth n v _ _ => smoothRatioOk a (nodeRatio (setVert M.verts n v)) M.cells n = true

/-- each operation of the history is accepted in the state it meets -/
def AcceptedAll (acc : Mesh ℝ → Op ℝ → Prop) : Mesh ℝ → List (Op ℝ) → Prop
  | _, [] => True
  | M, op :: rest => acc M op ∧ AcceptedAll acc (step M op) rest

theorem acceptedAll_invariant {acc : Mesh ℝ → Op ℝ → Prop} {I : Mesh ℝ → Prop}
    (hstep : ∀ M op, I M → acc M op → I (step M op)) (ops : List (Op ℝ)) :
    ∀ M : Mesh ℝ, I M → AcceptedAll acc M ops → I (ops.foldl step M) := by
  induction ops with
  | nil => intro M hM _; exact hM
  | cons op rest ih => intro M hM hacc; exact ih (step M op) (hstep M op hM hacc.1) hacc.2

/-- an operation that touches the vertex `t`: every edge of the new mesh is an edge at `t` that the guard measured
    (`tested`, found inside the band), or an edge of the old mesh between two vertices that kept their data.  This is what
    split, collapse and vertex move have in common; their completeness theorems are the second hypothesis. -/
theorem band_of_tested (a : Adapt ℝ) {M M' : Mesh ℝ} (t : Nat) (tested : List (Nat × Nat))
    (hb : ∀ e ∈ tested, a.postMin ≤ nodeRatio M'.verts e.1 e.2 ∧ nodeRatio M'.verts e.1 e.2 ≤ a.postMax)
    (hc : ∀ c' ∈ M'.cells, ∀ x ∈ c', ∀ y ∈ c', x ≠ y → (x = t ∧ (t, y) ∈ tested) ∨ (y = t ∧ (t, x) ∈ tested) ∨
      (M'.verts x = M.verts x ∧ M'.verts y = M.verts y ∧ ∃ c ∈ M.cells, x ∈ c ∧ y ∈ c))
    (hM : AllEdgesInBand a M) : AllEdgesInBand a M' := by
  intro c' hc' x hx y hy hxy
  rcases hc c' hc' x hx y hy hxy with ⟨rfl, ht⟩ | ⟨rfl, ht⟩ | ⟨ex, ey, c, hc, hxc, hyc⟩
  · -- `have` before `exact`: against the goal the unifier would unfold `nodeRatio` to see `(t, y).1` as `t`
    have h' := hb _ ht
    exact h'
  · rw [nodeRatio_symm]
    have h' := hb _ ht
    exact h'
  · rw [nodeRatio_local ex ey]
    exact hM c hc x hxc y hyc hxy

theorem step_band (a : Adapt ℝ) (hs : SaneBand a) (M : Mesh ℝ) (op : Op ℝ) (hM : AllEdgesInBand a M)
    (hop : AcceptedRatio a M op) : AllEdgesInBand a (step M op) := by
  cases op with
  | split n0 n1 nw v =>
    refine band_of_tested a nw _ (split_accept_band a _ _ _ _ _ hop.2) (fun c' hc' x hx y hy hxy => ?_) hM
    exact (splitTested_complete M.cells n0 n1 nw hop.1 hc' hx hy hxy).imp id
      (Or.imp id fun ⟨hxn, hyn, h⟩ => ⟨setVert_ne hxn, setVert_ne hyn, h⟩)
  | collapse n0 n1 =>
    -- the edges at the removed vertex were edges of the mesh
    have hold : ∀ e ∈ collapseOld M.cells n1,
        a.postMin ≤ nodeRatio M.verts e.1 e.2 ∧ nodeRatio M.verts e.1 e.2 ≤ a.postMax := by
      rintro ⟨p, q⟩ he
      obtain ⟨c, hc, h1c, hin⟩ := mem_collapseOld.mp he
      obtain ⟨rfl, hq, hne⟩ := mem_edgesAt.mp hin
      exact hM c hc _ h1c q hq (Ne.symm hne)
    refine band_of_tested a n0 _ (collapse_accept_band_inv a hs _ _ _ _ hop hold) (fun c' hc' x hx y hy hxy => ?_) hM
    exact (collapseNew_complete M.cells n0 n1 hc' hx hy hxy).imp id (Or.imp id fun h => ⟨rfl, rfl, h⟩)
  | smooth n v mode q0 =>
    refine band_of_tested a n _ (smooth_accept_band a _ _ _ hop) (fun c hc x hx y hy hxy => ?_) hM
    by_cases hxn : x = n
    · exact Or.inl ⟨hxn, mem_aroundEdges.mpr
        ⟨c, hc, hxn ▸ hx, mem_edgesAt.mpr ⟨rfl, hy, fun h => hxy (hxn.trans h.symm)⟩⟩⟩
    · by_cases hyn : y = n
      · exact Or.inr (Or.inl ⟨hyn, mem_aroundEdges.mpr ⟨c, hc, hyn ▸ hy, mem_edgesAt.mpr ⟨rfl, hx, hxn⟩⟩⟩)
      · exact Or.inr (Or.inr ⟨setVert_ne hxn, setVert_ne hyn, c, hc, hx, hy⟩)

/-- **Band invariant over histories** ("adapting again keeps it inside the band", for a fixed band): if every edge
    is inside `[post_min_ratio, post_max_ratio]` and every split / collapse / vertex move of the history passed the
    modelled ratio guard in the state it met, every edge is still inside after the whole history.
    (Swap and cavity operations are not part of `Op`; their guards are `swap_accept_band`, `cavity_accept_band`.
    `ref_adapt_pass` also *narrows* `post_max_ratio` to `√2` around two collapse passes: an invariant for the wide
    band says nothing about the narrow one, and the theorem does not claim it.) -/
theorem ops_preserve_band (a : Adapt ℝ) (hs : SaneBand a) (ops : List (Op ℝ)) :
    ∀ M : Mesh ℝ, AllEdgesInBand a M → AcceptedAll (AcceptedRatio a) M ops → AllEdgesInBand a (ops.foldl step M) :=
  acceptedAll_invariant (step_band a hs) ops

/-- widening the band keeps the invariant (the two rescaling branches of `ref_adapt_parameter` only lower
    `post_min_ratio`; `post_max_ratio = max(measured, previous split_ratio)` only contains more) -/
theorem band_mono (a b : Adapt ℝ) (M : Mesh ℝ) (h1 : b.postMin ≤ a.postMin) (h2 : a.postMax ≤ b.postMax)
    (hM : AllEdgesInBand a M) : AllEdgesInBand b M := by
  intro c hc x hx y hy hxy
  obtain ⟨l, u⟩ := hM c hc x hx y hy hxy
  exact ⟨h1.trans l, u.trans h2⟩

/-- a cell quality that depends on the cell's own vertices only (as `ref_node_tet_quality` / `_tri_quality` do) -/
def QLocal (q : (Nat → Vert ℝ) → Cell → ℝ) : Prop :=
  ∀ vs vs' c, (∀ x ∈ c, vs x = vs' x) → q vs c = q vs' c

def AllCellsAbove (q : (Nat → Vert ℝ) → Cell → ℝ) (floor : ℝ) (M : Mesh ℝ) : Prop :=
  ∀ c ∈ M.cells, floor ≤ q M.verts c

/-- the quality guard of the operation on the state it is applied to: `ref_split_edge_tet/tri_quality` on both
    halves of every cell on the edge, `ref_collapse_edge_tet/tri_quality` on every re-connected cell, the
    smoother's rule (`SmoothMode`) on every cell at the moved vertex, `q0` being `1.0` or the quality of a cell
    at the vertex before the move -/
def AcceptedQuality (a : Adapt ℝ) (q : (Nat → Vert ℝ) → Cell → ℝ) (M : Mesh ℝ) : Op ℝ → Prop
  | .split n0 n1 nw v =>
      (∀ c ∈ M.cells, nw ∉ c) ∧ ∀ c ∈ M.cells, onEdge n0 n1 c = true → ∃ me v0 v1 mv,
        splitQualityOk a me (q (setVert M.verts nw v) (subst n0 nw c)) (q (setVert M.verts nw v) (subst n1 nw c))
          v0 v1 mv = true
  | .collapse n0 n1 =>
      ∀ c ∈ M.cells, n1 ∈ c → onEdge n0 n1 c = false → collapseQualityOk a (q M.verts (subst n1 n0 c)) = true
  | .smooth n v mode q0 =>
      (q0 = 1 ∨ ∃ c ∈ M.cells, n ∈ c ∧ q0 = q M.verts c) ∧
      ∀ c ∈ M.cells, n ∈ c → smoothQualityOk a mode q0 (q (setVert M.verts n v) c) = true

/-- the thresholds of all three guards are at least `floor`; `2 / 5` is the `0.4` of the smoother's pliant rule
    `q > 0.9 q0 ∧ q > 0.4` (`smoothQualityOk`, `.improve true`) -/
def FloorBelow (a : Adapt ℝ) (floor : ℝ) : Prop :=
  floor ≤ a.splitQualityAbs ∧ floor ≤ a.collapseQualityAbs ∧ floor ≤ a.smoothMinQuality ∧ floor ≤ 2 / 5

theorem split_quality_accept (a : Adapt ℝ) (me q0 q1 v0 v1 mv : ℝ) (h : splitQualityOk a me q0 q1 v0 v1 mv = true) :
    a.splitQualityAbs ≤ q0 ∧ a.splitQualityAbs ≤ q1 ∧ a.splitQualityRel * me ≤ q0 ∧ a.splitQualityRel * me ≤ q1 ∧
    mv ≤ v0 ∧ mv ≤ v1 := by
  unfold splitQualityOk at h
  simp only [Bool.not_eq_true', Bool.or_eq_false_iff, lt_false_iff, mul_eq] at h
  obtain ⟨⟨⟨⟨⟨h1, h2⟩, h3⟩, h4⟩, h5⟩, h6⟩ := h
  exact ⟨h1, h2, h3, h4, h5, h6⟩

theorem collapse_quality_accept (a : Adapt ℝ) (q : ℝ) (h : collapseQualityOk a q = true) : a.collapseQualityAbs ≤ q := by
  unfold collapseQualityOk at h
  simpa only [Bool.not_eq_true', lt_false_iff] using h

/-- whichever rule the smoother applies (`q > smooth_min_quality`, `q > 0.9 q0 ∧ q > 0.4`, `q > q0`), an accepted move
    leaves the cell above every floor that `q0` and the thresholds are above -/
theorem smooth_quality_accept {a : Adapt ℝ} {floor : ℝ} (hf : FloorBelow a floor) (mode : SmoothMode) {q0 q : ℝ}
    (h0 : floor ≤ q0) (h : smoothQualityOk a mode q0 q = true) : floor ≤ q := by
  obtain ⟨-, -, fm, f4⟩ := hf
  revert h
  fun_cases smoothQualityOk a mode q0 q
  · exact fun h => (fm.trans_lt ((lt_iff _ _).mp h)).le                                              -- `.floor`
  · exact fun h => (f4.trans_lt (ofDec4_eq ▸ (lt_iff _ _).mp (Bool.and_eq_true_iff.mp h).2)).le    -- `.improve true`
  · exact fun h => (h0.trans_lt ((lt_iff _ _).mp h)).le                                              -- `.improve false`

theorem step_quality (a : Adapt ℝ) (q : (Nat → Vert ℝ) → Cell → ℝ) (hq : QLocal q) (floor : ℝ)
    (hf : FloorBelow a floor) (M : Mesh ℝ) (op : Op ℝ) (hM : AllCellsAbove q floor M)
    (hop : AcceptedQuality a q M op) : AllCellsAbove q floor (step M op) := by
  obtain ⟨fs, fc, -, f4⟩ := id hf
  cases op with
  | split n0 n1 nw v =>
    obtain ⟨hfresh, hg⟩ := hop
    intro c' hc'
    show floor ≤ q (setVert M.verts nw v) c'
    obtain ⟨c, hc, hin⟩ := mem_splitCells.mp hc'
    by_cases hon : n0 ∈ c ∧ n1 ∈ c
    · rw [if_pos hon] at hin
      obtain ⟨me, v0, v1, mv, hok⟩ := hg c hc (onEdge_iff.mpr hon)
      obtain ⟨h1, h2, _⟩ := split_quality_accept a _ _ _ _ _ _ hok
      rcases hin with rfl | rfl
      · exact fs.trans h1
      · exact fs.trans h2
    · rw [if_neg hon] at hin
      subst hin
      rw [hq (setVert M.verts nw v) M.verts c' (fun x hx => setVert_ne (fun h => hfresh _ hc (h ▸ hx)))]
      exact hM _ hc
  | collapse n0 n1 =>
    intro c' hc'
    show floor ≤ q M.verts c'
    obtain ⟨c, hc, hoff, rfl⟩ := mem_collapseCells.mp hc'
    by_cases h1 : n1 ∈ c
    · exact fc.trans (collapse_quality_accept a _ (hop c hc h1 (by rw [← Bool.not_eq_true, onEdge_iff]; exact hoff)))
    · rw [subst_of_not_mem h1]; exact hM _ hc
  | smooth n v mode q0 =>
    obtain ⟨hq0, hg⟩ := hop
    have hq0f : floor ≤ q0 := by
      rcases hq0 with rfl | ⟨c, hc, _, rfl⟩
      · exact f4.trans (by norm_num)   -- `q0 = 1.0`
      · exact hM _ hc
    intro c hc
    show floor ≤ q (setVert M.verts n v) c
    by_cases hn : n ∈ c
    · exact smooth_quality_accept hf mode hq0f (hg c hc hn)
    · rw [hq (setVert M.verts n v) M.verts c (fun x hx => setVert_ne (fun h => hn (h ▸ hx)))]
      exact hM _ hc

/-- **Quality-floor invariant over histories**: with `floor` below the thresholds of the three quality guards
    (after `ref_adapt_parameter`: `floor = 1e-3` works, `adaptParameter_band`), accepted splits, collapses and
    vertex moves never produce a cell below `floor` -/
theorem quality_floor_preserved (a : Adapt ℝ) (q : (Nat → Vert ℝ) → Cell → ℝ) (hq : QLocal q) (floor : ℝ)
    (hf : FloorBelow a floor) (ops : List (Op ℝ)) :
    ∀ M : Mesh ℝ, AllCellsAbove q floor M → AcceptedAll (AcceptedQuality a q) M ops →
      AllCellsAbove q floor (ops.foldl step M) :=
  acceptedAll_invariant (step_quality a q hq floor hf) ops

/-- the floor `1e-3` is below every quality threshold after `ref_adapt_create` + `ref_adapt_parameter` -/
theorem floor_after_parameter (m : Measured ℝ) :
    FloorBelow (adaptParameter (adaptCreate : Adapt ℝ) m).1 (1 / 1000) := by
  have f := adaptParameter_fields (adaptCreate : Adapt ℝ) m
  refine ⟨?_, f.floor_ge, ?_, by norm_num⟩
  · show (1 : ℝ) / 1000 ≤ (adaptCreate : Adapt ℝ).splitQualityAbs
    simp only [adaptCreate, ofDec_eq]; norm_num
  · rw [f.smooth_eq]; exact f.floor_ge

/-- an edge is on the work list of `ref_split_pass` only if it is longer than `split_ratio`; a vertex is a target of
    `ref_collapse_pass` only if one of its edges is shorter than `collapse_ratio` (the pass then tries *all* edges
    of that vertex, shortest first — the edge finally collapsed need not be the short one) -/
theorem selection_sound (a : Adapt ℝ) (rat : Nat → Nat → ℝ) (edges : List (Nat × Nat)) (hc : 0 ≤ a.collapseRatio) :
    (∀ e ∈ splitCandidates a rat edges, e ∈ edges ∧ a.splitRatio < rat e.1 e.2) ∧
    (∀ nodes n, n ∈ collapseCandidates a rat edges nodes →
      ∃ e ∈ edges, (e.1 = n ∨ e.2 = n) ∧ rat e.1 e.2 < a.collapseRatio) := by
  constructor
  · intro e he
    unfold splitCandidates splitSelected at he
    rw [List.mem_filter, lt_iff] at he
    exact he
  · intro nodes n hn
    unfold collapseCandidates collapseSelected nodeMinRatio at hn
    rw [List.mem_filter, lt_iff, foldMin_eq] at hn
    obtain ⟨_, hlt⟩ := hn
    rcases FoldMin.foldl_min_mem ((edges.filter fun e => e.1 = n || e.2 = n).map fun e => rat e.1 e.2)
        (lit2 *. a.collapseRatio) with hh | hh
    · rw [hh] at hlt
      simp only [lit2, mul_eq, ofInt_eq] at hlt
      norm_num at hlt
      linarith
    · obtain ⟨e, he, hr⟩ := List.mem_map.mp hh
      rw [List.mem_filter] at he
      refine ⟨e, he.1, by simpa using he.2, ?_⟩
      rw [hr]; exact hlt

/-- completeness of the split work list: every edge longer than `split_ratio` is on it -/
theorem selection_complete (a : Adapt ℝ) (rat : Nat → Nat → ℝ) (edges : List (Nat × Nat)) (e : Nat × Nat)
    (he : e ∈ edges) (h : a.splitRatio < rat e.1 e.2) : e ∈ splitCandidates a rat edges := by
  unfold splitCandidates splitSelected
  rw [List.mem_filter, lt_iff]
  exact ⟨he, h⟩

/-- with `collapse_ratio < split_ratio` (`collapse_lt_split`) no edge is both too long and too short -/
theorem selection_disjoint (a : Adapt ℝ) (h : a.collapseRatio < a.splitRatio) (r : ℝ) :
    ¬(splitSelected a r = true ∧ collapseSelected a r = true) := by
  unfold splitSelected collapseSelected
  simp only [lt_iff]
  intro ⟨h1, h2⟩
  linarith

theorem dblMax_ge : (4 : ℝ) ≤ (dblMax : ℝ) := by
  unfold dblMax
  simp only [ofDec_eq]
  have h : (1 : ℝ) ≤ (10 : ℝ) ^ (292 : ℤ) := one_le_zpow₀ (by norm_num) (by norm_num)
  calc (4 : ℝ) ≤ ((17976931348623157 : ℤ) : ℝ) * 1 := by norm_num
    _ ≤ _ := mul_le_mul_of_nonneg_left h (by norm_num)

/-- a band, and two unit-metric vertices one unit apart: length 1 is inside `[0.5, 2]` -/
noncomputable def exBand : Adapt ℝ := { (adaptCreate : Adapt ℝ) with postMin := 1 / 2, postMax := 2 }

example : inBand exBand 1 = true := by
  rw [inBand_iff]; simp only [exBand]; norm_num

theorem exBand_sane : SaneBand exBand := by
  unfold SaneBand exBand
  simp only [lit1, neg_eq, ofInt_eq]
  constructor
  · linarith [dblMax_ge]
  · norm_num

/-- `split_accept_band` / `split_reject_iff` are not vacuous: on the triangle pair `(0,1,2),(1,0,3)` with the new
    vertex 4 and a ratio function that is 1 on every pair, the guard accepts and measures 8 list entries
    (each of the two cells on the edge is cut in two, and each half has two edges at the new vertex) -/
example : splitEdgeRatio exBand (fun _ _ => 1) [[0, 1, 2], [1, 0, 3]] 0 1 4 = true ∧
    (splitTested [[0, 1, 2], [1, 0, 3]] 0 1 4).length = 8 := by
  constructor
  · rw [split_reject_iff]
    intro e _
    simp only [exBand]; norm_num
  · decide

/-- the collapse guard accepts through its fall-back although the band refuses: new edge 3 > post_max = 2, old 4 -/
example : collapseEdgeRatio exBand (fun p q => if p = 1 then (if q = 2 then 2 else 4) else 3) [[1, 2, 3]] 0 1 = true ∧
    ¬ (∀ e ∈ collapseNew [[1, 2, 3]] 0 1,
        (fun p q => if p = 1 then (if q = 2 then (2 : ℝ) else 4) else 3) e.1 e.2 ≤ exBand.postMax) := by
  constructor
  · unfold collapseEdgeRatio
    simp only [Bool.or_eq_true, Bool.and_eq_true, le_iff]
    right
    have hd := dblMax_ge
    have e1 : collapseOld [[1, 2, 3]] 1 = [(1, 2), (1, 3)] := by decide
    have e2 : collapseNew [[1, 2, 3]] 0 1 = [(0, 2), (0, 3)] := by decide
    rw [e1, e2, foldMin_eq, foldMin_eq, foldMax_eq, foldMax_eq]
    simp only [List.map_cons, List.map_nil, List.foldl_cons, List.foldl_nil, lit1, neg_eq, ofInt_eq]
    norm_num
  · intro h
    have := h (0, 2) (by decide)
    simp only [exBand] at this
    norm_num at this

/-- `adaptParameter_band`'s hypotheses-free statement has content: the default parameters on a converged mesh -/
example : (adaptParameter (adaptCreate : Adapt ℝ) (fineMeasured 1)).1.postMin ≤ 1 / 2 :=
  (adaptParameter_band (adaptCreate : Adapt ℝ) (fineMeasured 1)).1

/-- how `ops_preserve_band` is applied to a one-step history: `AcceptedAll` of a single vertex move is the smoother's
    ratio guard (the mesh and the guard's answer stay hypotheses: this exhibits no mesh) -/
example (M : Mesh ℝ) (hM : AllEdgesInBand exBand M) (n : Nat) (v : Vert ℝ)
    (h : smoothRatioOk exBand (nodeRatio (setVert M.verts n v)) M.cells n = true) :
    AllEdgesInBand exBand (step M (.smooth n v .floor 1)) :=
  ops_preserve_band exBand exBand_sane [.smooth n v .floor 1] M hM ⟨h, trivial⟩

end Refine.Props.C03
