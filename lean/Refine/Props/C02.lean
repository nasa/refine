import Refine.Lemmas.GuardsReal
import Refine.Lemmas.Mixed
import Refine.Props.C15

/-!
  C02: adaptation without a CAD model never changes the computational domain.

  Theorems about the executable guard models of `Refine/Model/Guards.lean`; the same definitions, at the
  `Float` instance, are compared line by line with the real C functions by the streams `guards_*`
  (`checks/streams_guards.py`, `harness/h_guards.c`, `Drivers/Guards.lean`).  Numeric statements are over ℝ:
  they hold in exact arithmetic; IEEE rounding is modelled (bit-compared), not verified.

  (a) the face-id decision rule of `ref_collapse_edge_geometry`   (corner / ridge / patch / interior)
  (b) the mixed-element frames                                    (non-simplex cells are carried through)
  (c) exact conservation identities                               (split on the chord, volume, area, swap)
  (d) what the same-normal guard gives                            (bound, planarity, fan vector area)
-/
namespace Refine.Props.C02
open Refine Refine.Model Refine.Model.Guards Refine.GuardsRules

/-- `degree1 > 1` after `ref_cell_id_list_around(ref_edg, node1, 2, ..)`: two different edg ids meet at node1
    (fix 285dd96) -/
def edgSeparator (g : Grid) (n1 : Nat) : Bool := (idListAround g.edg n1 2).2.length > 1

theorem collapseGeometry_separated {g : Grid} {n0 n1 : Nat} (h : edgSeparator g n1 = true) :
    collapseEdgeGeometry g false false n0 n1 = (.ok, false) := by
  unfold collapseEdgeGeometry
  exact if_pos (of_decide_eq_true h)

theorem collapseGeometry_three {g : Grid} {n0 n1 : Nat} (h : (idListAround g.tri n1 3).2.length = 3) :
    collapseEdgeGeometry g false false n0 n1 = (.ok, false) := by
  unfold collapseEdgeGeometry
  obtain ⟨x, y, z, hx⟩ := List.length_eq_three.mp h
  simp only [Bool.false_eq_true, if_false, hx, ite_self]

theorem collapseGeometry_one {g : Grid} {n0 n1 : Nat} (hedg : edgSeparator g n1 = false)
    (h : (idListAround g.tri n1 3).2.length = 1) :
    collapseEdgeGeometry g false false n0 n1 = (.ok, hasSide e2nTri g.tri n0 n1) := by
  unfold collapseEdgeGeometry
  obtain ⟨x, hx⟩ := List.length_eq_one_iff.mp h
  simp only [Bool.false_eq_true, if_false, of_decide_eq_false hedg, hx]

theorem collapseGeometry_zero {g : Grid} {n0 n1 : Nat} (hedg : edgSeparator g n1 = false)
    (h : (idListAround g.tri n1 3).2.length = 0) :
    collapseEdgeGeometry g false false n0 n1 = (.ok, true) := by
  unfold collapseEdgeGeometry
  simp only [Bool.false_eq_true, if_false, of_decide_eq_false hedg, List.length_eq_zero_iff.mp h]

theorem separator_of_allowed {g : Grid} {n0 n1 : Nat} (h : collapseEdgeGeometry g false false n0 n1 = (.ok, true)) :
    edgSeparator g n1 = false :=
  Bool.eq_false_iff.mpr fun hs => nomatch (collapseGeometry_separated hs).symm.trans h

/-- **a vertex where two boundary-edge ids meet is never removed** (the 2-D analogue of the corner rule;
    fix 285dd96).  If two `edg` cells around node1 carry different ids the collapse is refused for every
    node0, whatever the triangles say. -/
theorem edg_separator_preserved (g : Grid) (n0 n1 : Nat) (e1 e2 : Cell)
    (h1 : e1 ∈ g.edg) (h2 : e2 ∈ g.edg) (m1 : n1 ∈ e1.nodes) (m2 : n1 ∈ e2.nodes) (d : e1.id ≠ e2.id) :
    collapseEdgeGeometry g false false n0 n1 = (.ok, false) :=
  collapseGeometry_separated (decide_eq_true (idListAround_two h1 h2 m1 m2 d))

/-- **k ≥ 3: a corner is never removed.**  If three boundary triangles around node1 carry three pairwise
    different patch ids (this includes the case where `ref_cell_id_list_around` hits `REF_INCREASE_LIMIT`
    because there are more than three), the collapse is refused, for every node0. -/
theorem corner_preserved (g : Grid) (n0 n1 : Nat) (c1 c2 c3 : Cell)
    (h1 : c1 ∈ g.tri) (h2 : c2 ∈ g.tri) (h3 : c3 ∈ g.tri)
    (m1 : n1 ∈ c1.nodes) (m2 : n1 ∈ c2.nodes) (m3 : n1 ∈ c3.nodes)
    (d12 : c1.id ≠ c2.id) (d13 : c1.id ≠ c3.id) (d23 : c2.id ≠ c3.id) :
    collapseEdgeGeometry g false false n0 n1 = (.ok, false) :=
  collapseGeometry_three (le_antisymm (idListAround_spec g.tri n1 3).2.2.2
    (idListAround_length_ge (cells := g.tri) (n := n1) (cs := [c1, c2, c3])
      (by simp [d12, d13, d23]) (by simp [h1, h2, h3, m1, m2, m3]) le_rfl))

/-- **k = 2: a ridge vertex moves only along the ridge.**  If node1 carries (at least) two different patch
    ids and the collapse is allowed, then exactly two boundary triangles contain the edge node0–node1
    (`ref_cell_list_with2` returns two entries), they carry two *different* ids, and every boundary triangle
    around node1 carries one of these two ids: the edge is the ridge between the two patches. -/
theorem ridge_rule (g : Grid) (n0 n1 : Nat) (a b : Cell)
    (ha : a ∈ g.tri) (hb : b ∈ g.tri) (ma : n1 ∈ a.nodes) (mb : n1 ∈ b.nodes) (hab : a.id ≠ b.id)
    (h : collapseEdgeGeometry g false false n0 n1 = (.ok, true)) :
    ∃ c0 c1, having2 g.tri n0 n1 = [c0, c1] ∧ c0.id ≠ c1.id ∧
      ∀ c ∈ g.tri, n1 ∈ c.nodes → c.id = c0.id ∨ c.id = c1.id := by
  obtain ⟨hnd, _, hall, hle⟩ := idListAround_spec g.tri n1 3
  -- at least the ids of `a` and `b` are collected
  have h2 : 2 ≤ (idListAround g.tri n1 3).2.length :=
    idListAround_length_ge (cells := g.tri) (n := n1) (cs := [a, b]) (by simp [hab]) (by simp [ha, hb, ma, mb])
      (Nat.le_add_left 2 1)
  revert h
  fun_cases collapseEdgeGeometry g false false n0 n1
  case case5 i0 i1 hr c0 c1 heq id0 id1 =>
    -- exactly two ids, and the two triangles on the edge carry them
    intro h
    rw [show (idListAround g.tri n1 3).2 = _ from hr] at hnd hall
    have hne : i0 ≠ i1 := by simpa using hnd
    have hall' : ∀ c ∈ g.tri, n1 ∈ c.nodes → c.id = i0 ∨ c.id = i1 := fun c hc hn => by
      rcases hall with h' | h'
      · simpa using h' c hc hn
      · simp at h'
    simp only [id0, id1, Prod.mk.injEq, true_and, Bool.or_eq_true, Bool.and_eq_true, beq_iff_eq] at h
    rcases h with ⟨e0, e1⟩ | ⟨e1, e0⟩
    · exact ⟨c0, c1, listWith2_ok heq, by rw [e0, e1]; exact hne, fun c hc hn => by rw [e0, e1]; exact hall' c hc hn⟩
    · exact ⟨c0, c1, listWith2_ok heq, by rw [e0, e1]; exact hne.symm,
        fun c hc hn => by rw [e0, e1]; exact (hall' c hc hn).symm⟩
  case case1 | case3 | case4 | case6 | case7 | case10 => nofun
  case case2 hf => exact absurd hf (by decide)
  case case8 hr | case9 hr => rw [show (idListAround g.tri n1 3).2 = _ from hr] at h2; exact absurd h2 (by simp)

/-- **k = 1: a patch-interior vertex stays in its patch.**  If all boundary triangles around node1 carry the
    same id (and there is one), the answer is exactly `ref_cell_has_side(tri, node0, node1)`. -/
theorem patch_rule (g : Grid) (n0 n1 : Nat) (a : Cell) (ha : a ∈ g.tri) (ma : n1 ∈ a.nodes)
    (hsame : ∀ c ∈ g.tri, n1 ∈ c.nodes → c.id = a.id) (hedg : edgSeparator g n1 = false) :
    collapseEdgeGeometry g false false n0 n1 = (.ok, hasSide e2nTri g.tri n0 n1) :=
  collapseGeometry_one hedg (le_antisymm
    (idListAround_length_le (ids := [a.id]) fun c hc hn => List.mem_singleton.mpr (hsame c hc hn))
    (idListAround_length_ge (cells := g.tri) (n := n1) (maxIds := 3) (cs := [a])
      (by simp) (by simp [ha, ma]) (Nat.le_add_left 1 2)))

/-- … and for well-formed triangles that is: some boundary triangle contains both ends of the edge -/
theorem patch_rule' (g : Grid) (n0 n1 : Nat) (a : Cell) (ha : a ∈ g.tri) (ma : n1 ∈ a.nodes)
    (hsame : ∀ c ∈ g.tri, n1 ∈ c.nodes → c.id = a.id) (hedg : edgSeparator g n1 = false)
    (hw : ∀ c ∈ g.tri, c.nodes.length = 3) (hne : n0 ≠ n1) :
    collapseEdgeGeometry g false false n0 n1 = (.ok, true) ↔ ∃ c ∈ g.tri, n0 ∈ c.nodes ∧ n1 ∈ c.nodes := by
  rw [patch_rule g n0 n1 a ha ma hsame hedg, ← hasSide_tri_iff hw hne]
  simp

/-- **k = 0: a vertex that is on no boundary triangle is free** (as far as this guard goes) -/
theorem interior_free (g : Grid) (n0 n1 : Nat) (h : ∀ c ∈ g.tri, n1 ∉ c.nodes)
    (hedg : edgSeparator g n1 = false) :
    collapseEdgeGeometry g false false n0 n1 = (.ok, true) :=
  collapseGeometry_zero hedg
    (Nat.le_zero.mp (idListAround_length_le (ids := []) fun c hc hn => absurd hn (h c hc)))

/-- with CAD records: a CAD node never moves; a CAD-edge vertex moves only along an `edg` cell -/
theorem cad_rule (g : Grid) (ge : Bool) (n0 n1 : Nat) :
    collapseEdgeGeometry g true ge n0 n1 = (.ok, false) ∧
    collapseEdgeGeometry g false true n0 n1 = (.ok, hasSide e2nEdg g.edg n0 n1) := by
  simp [collapseEdgeGeometry]

/-- **`collapseGeometry_rule`**: the decision logic in one statement.  With `A` the boundary triangles
    around node1 (no CAD association):
    * three pairwise different ids in `A`  ⇒ refused;
    * two different ids in `A` and allowed ⇒ the triangles containing the edge are exactly two, with the
      two different ids, which are all the ids of `A`;
    * one id in `A` ⇒ allowed iff the edge is a side of a boundary triangle;
    * `A` empty ⇒ allowed;
    the last two when node1 does not separate two `edg` ids; if it does (two `edg` cells with different ids
    around node1) ⇒ refused. -/
theorem collapseGeometry_rule (g : Grid) (n0 n1 : Nat) :
    ((∃ c1 ∈ g.tri, ∃ c2 ∈ g.tri, ∃ c3 ∈ g.tri, n1 ∈ c1.nodes ∧ n1 ∈ c2.nodes ∧ n1 ∈ c3.nodes ∧
        c1.id ≠ c2.id ∧ c1.id ≠ c3.id ∧ c2.id ≠ c3.id) →
      collapseEdgeGeometry g false false n0 n1 = (.ok, false)) ∧
    ((∃ a ∈ g.tri, ∃ b ∈ g.tri, n1 ∈ a.nodes ∧ n1 ∈ b.nodes ∧ a.id ≠ b.id) →
      collapseEdgeGeometry g false false n0 n1 = (.ok, true) →
      ∃ c0 c1, having2 g.tri n0 n1 = [c0, c1] ∧ c0.id ≠ c1.id ∧
        ∀ c ∈ g.tri, n1 ∈ c.nodes → c.id = c0.id ∨ c.id = c1.id) ∧
    (∀ a ∈ g.tri, n1 ∈ a.nodes → (∀ c ∈ g.tri, n1 ∈ c.nodes → c.id = a.id) → edgSeparator g n1 = false →
      collapseEdgeGeometry g false false n0 n1 = (.ok, hasSide e2nTri g.tri n0 n1)) ∧
    ((∀ c ∈ g.tri, n1 ∉ c.nodes) → edgSeparator g n1 = false →
      collapseEdgeGeometry g false false n0 n1 = (.ok, true)) ∧
    ((∃ e1 ∈ g.edg, ∃ e2 ∈ g.edg, n1 ∈ e1.nodes ∧ n1 ∈ e2.nodes ∧ e1.id ≠ e2.id) →
      collapseEdgeGeometry g false false n0 n1 = (.ok, false)) := by
  refine ⟨?_, ?_, ?_, interior_free g n0 n1, ?_⟩
  · rintro ⟨c1, h1, c2, h2, c3, h3, m1, m2, m3, d12, d13, d23⟩
    exact corner_preserved g n0 n1 c1 c2 c3 h1 h2 h3 m1 m2 m3 d12 d13 d23
  · rintro ⟨a, ha, b, hb, ma, mb, hab⟩ h
    exact ridge_rule g n0 n1 a b ha hb ma mb hab h
  · intro a ha ma hsame hedg
    exact patch_rule g n0 n1 a ha ma hsame hedg
  · rintro ⟨e1, h1, e2, h2, m1, m2, d⟩
    exact edg_separator_preserved g n0 n1 e1 e2 h1 h2 m1 m2 d

/-- non-vacuity: a fan of four triangles around node 0 with ids 5,5,7,7 (ridge through nodes 1–0–3):
    collapsing 0 onto 1 or 3 (along the ridge) is allowed, onto 2 or 4 (into a patch) is refused; with a
    third id the vertex is a corner and nothing is allowed; with one id every fan edge is allowed -/
def fan (i0 i1 i2 i3 : Int) : Grid :=
  { tri := [⟨[0, 1, 2], i0⟩, ⟨[0, 2, 3], i1⟩, ⟨[0, 3, 4], i2⟩, ⟨[0, 4, 1], i3⟩] }

example : collapseEdgeGeometry (fan 5 5 7 7) false false 1 0 = (.ok, true) := by decide
example : collapseEdgeGeometry (fan 5 5 7 7) false false 3 0 = (.ok, true) := by decide
example : collapseEdgeGeometry (fan 5 5 7 7) false false 2 0 = (.ok, false) := by decide
example : collapseEdgeGeometry (fan 5 5 7 7) false false 4 0 = (.ok, false) := by decide
example : collapseEdgeGeometry (fan 5 6 7 7) false false 1 0 = (.ok, false) := by decide
example : collapseEdgeGeometry (fan 5 6 7 8) false false 1 0 = (.ok, false) := by decide
example : collapseEdgeGeometry (fan 5 5 5 5) false false 2 0 = (.ok, true) := by decide
example : collapseEdgeGeometry (fan 5 5 5 5) false false 9 0 = (.ok, false) := by decide
example : collapseEdgeGeometry (fan 5 5 7 7) false false 0 9 = (.ok, true) := by decide
/-- non-vacuity of `edg_separator_preserved`: a 2-D boundary vertex 0 on a straight side, one triangle id,
    edg ids 1 and 5 meeting at 0: refused in both directions along the side; with equal edg ids the collapse
    along the side is allowed (patch rule), into the interior node 2 as well (it is a triangle side) -/
def side2d (ia ib : Int) : Grid :=
  { tri := [⟨[0, 1, 2], 9⟩, ⟨[0, 2, 3], 9⟩], edg := [⟨[3, 0], ia⟩, ⟨[0, 1], ib⟩] }

example : collapseEdgeGeometry (side2d 1 5) false false 1 0 = (.ok, false) := by decide
example : collapseEdgeGeometry (side2d 1 5) false false 3 0 = (.ok, false) := by decide
example : collapseEdgeGeometry (side2d 1 1) false false 1 0 = (.ok, true) := by decide
example : edgSeparator (side2d 1 1) 0 = false := by decide
example : edgSeparator (side2d 1 5) 0 = true := by decide
/-- the hypotheses of `ridge_rule` are met by the fan -/
example : ∃ c0 c1, having2 (fan 5 5 7 7).tri 1 0 = [c0, c1] ∧ c0.id ≠ c1.id ∧
    ∀ c ∈ (fan 5 5 7 7).tri, 0 ∈ c.nodes → c.id = c0.id ∨ c.id = c1.id :=
  ridge_rule (fan 5 5 7 7) 1 0 ⟨[0, 1, 2], 5⟩ ⟨[0, 3, 4], 7⟩ (by decide) (by decide) (by decide) (by decide)
    (by decide) (by decide)

/-- **an allowed collapse gives node0 no new patch id**: every id around node1 is already an id around
    node0 (so a patch vertex cannot become a ridge vertex, a ridge vertex cannot become a corner) -/
theorem allowed_collapse_ids_subset (g : Grid) (n0 n1 : Nat) (hw : ∀ c ∈ g.tri, c.nodes.length = 3)
    (h : collapseEdgeGeometry g false false n0 n1 = (.ok, true)) :
    ∀ c ∈ g.tri, n1 ∈ c.nodes → ∃ c' ∈ g.tri, n0 ∈ c'.nodes ∧ c'.id = c.id := by
  intro c hc hn
  by_cases hall : ∀ d ∈ g.tri, n1 ∈ d.nodes → d.id = c.id
  · -- one id
    have hp := patch_rule g n0 n1 c hc hn hall (separator_of_allowed h)
    rw [hp] at h
    simp only [Prod.mk.injEq, true_and] at h
    obtain ⟨c', hc', hn0, hn1'⟩ := hasSide_true_mem hw e2nTri_bound h
    exact ⟨c', hc', hn0, hall c' hc' hn1'⟩
  · -- at least two ids
    obtain ⟨d, hd, hdn, hne⟩ : ∃ d ∈ g.tri, n1 ∈ d.nodes ∧ d.id ≠ c.id := by
      simpa only [not_forall, exists_prop] using hall
    obtain ⟨c0, c1, hl, _, hids⟩ := ridge_rule g n0 n1 d c hd hc hdn hn hne h
    have m0 := mem_having2.mp (hl ▸ List.mem_cons_self : c0 ∈ having2 g.tri n0 n1)
    have m1 := mem_having2.mp (hl ▸ List.mem_cons_of_mem _ List.mem_cons_self : c1 ∈ having2 g.tri n0 n1)
    rcases hids c hc hn with e | e
    · exact ⟨c0, m0.1, m0.2.1, e.symm⟩
    · exact ⟨c1, m1.1, m1.2.1, e.symm⟩

/-- no id appears that was not there (no hypothesis at all) -/
theorem collapse_creates_no_id (tris : List Cell) (n0 n1 : Nat) :
    ∀ i ∈ idsOf (collapseGroup tris n0 n1), i ∈ idsOf tris := by
  intro i hi
  unfold idsOf at *
  simp only [List.mem_map] at *
  obtain ⟨d, hd, rfl⟩ := hi
  obtain ⟨c, hc, _, rfl⟩ := mem_collapseGroup.mp hd
  exact ⟨c, hc, rfl⟩

/-- **`ids_preserved_by_allowed_collapse`**: under the kernel "remove the cells containing both nodes,
    substitute node1 ↦ node0 elsewhere" the set of patch ids present on the boundary triangles is unchanged,
    provided every id keeps a witness: a triangle that is not one of the removed ones (contains not both
    ends of the edge).  No new id can appear (unconditionally). -/
theorem ids_preserved_by_allowed_collapse (tris : List Cell) (n0 n1 : Nat)
    (hkeep : ∀ c ∈ tris, ∃ c' ∈ tris, c'.id = c.id ∧ ¬ (n0 ∈ c'.nodes ∧ n1 ∈ c'.nodes)) :
    ∀ i, i ∈ idsOf (collapseGroup tris n0 n1) ↔ i ∈ idsOf tris := by
  intro i
  refine ⟨collapse_creates_no_id tris n0 n1 i, ?_⟩
  unfold idsOf
  simp only [List.mem_map]
  rintro ⟨c, hc, rfl⟩
  obtain ⟨c', hc', hid, hk⟩ := hkeep c hc
  exact ⟨Cell.subst n1 n0 c', mem_collapseGroup.mpr ⟨c', hc', hk, rfl⟩, by rw [subst_id, hid]⟩

example : idsOf (collapseGroup (fan 5 5 7 7).tri 1 0) = [5, 7] := by decide

/-- a split keeps the ids: both copies of a split triangle carry the id it had -/
theorem split_ids (tris : List Cell) (n0 n1 new : Nat) :
    ∀ i, i ∈ idsOf (splitGroup tris n0 n1 new) ↔ i ∈ idsOf tris := by
  intro i
  unfold idsOf
  simp only [List.mem_map]
  constructor
  · rintro ⟨d, hd, rfl⟩
    obtain ⟨c, hc, hd⟩ := mem_splitGroup.mp hd
    refine ⟨c, hc, ?_⟩
    split_ifs at hd
    · rcases hd with rfl | rfl
      · rfl
      · rfl
    · rw [hd]
  · rintro ⟨c, hc, rfl⟩
    by_cases hb : n0 ∈ c.nodes ∧ n1 ∈ c.nodes
    · exact ⟨Cell.subst n0 new c, mem_splitGroup.mpr ⟨c, hc, by rw [if_pos hb]; exact Or.inl rfl⟩, rfl⟩
    · exact ⟨c, mem_splitGroup.mpr ⟨c, hc, by rw [if_neg hb]⟩, rfl⟩

/-- `ref_swap_same_faceid`: an allowed swap of a boundary edge joins two triangles of the *same* patch and
    never crosses an `edg` (ridge) cell -/
theorem swap_same_faceid_rule (g : Grid) (n0 n1 : Nat) (h : swapSameFaceid g n0 n1 = (.ok, true)) :
    hasSide e2nEdg g.edg n0 n1 = false ∧
    (having2 g.tri n0 n1 = [] ∨ ∃ c0 c1, having2 g.tri n0 n1 = [c0, c1] ∧ c0.id = c1.id) := by
  revert h
  fun_cases swapSameFaceid g n0 n1
  case case1 => nofun
  case case2 hcond heq =>
    exact fun _ => ⟨(Bool.or_eq_false_iff.mp (Bool.eq_false_iff.mpr hcond)).1, .inl (listWith2_ok heq)⟩
  case case3 hcond c0 c1 heq =>
    exact fun h => ⟨(Bool.or_eq_false_iff.mp (Bool.eq_false_iff.mpr hcond)).1,
      .inr ⟨c0, c1, listWith2_ok heq, beq_iff_eq.mp (Prod.mk.inj h).2⟩⟩
  case case4 => nofun
  case case5 => nofun

example : swapSameFaceid (fan 5 5 7 7) 0 2 = (.ok, true) := by decide
example : swapSameFaceid (fan 5 5 7 7) 0 1 = (.ok, false) := by decide
example : swapSameFaceid { (fan 5 5 5 5) with edg := [⟨[0, 2], 1⟩] } 0 2 = (.ok, false) := by decide

section SmoothSep
open Refine.Model.Geom Refine.ScalarReal Refine.GeomReal Refine.GuardsReal

/-- **the no-geometry edge smoother never moves a vertex that separates two boundary-edge ids** (fix 36d5222):
    if two `edg` cells around the node carry different ids, `ref_smooth_no_geom_edge_improve` returns before it
    touches the coordinates (frozen), whatever the tangents are.  (`qua`/`pyr`/`pri`/`hex`/CAD exits come
    first and freeze as well.) -/
theorem smoothEdge_separator_frozen (g : Grid) (ge : Bool) (xyz : List (V3 ℝ)) (node : Nat) (e1 e2 : Cell)
    (h1 : e1 ∈ g.edg) (h2 : e2 ∈ g.edg) (m1 : node ∈ e1.nodes) (m2 : node ∈ e2.nodes) (d : e1.id ≠ e2.id) :
    smoothEdgeFrozen g ge xyz node = (.ok, true) := by
  unfold smoothEdgeFrozen
  refine ite_eq_left_iff.mpr fun _ => ?_  -- no `edg` at the node
  refine ite_eq_left_iff.mpr fun _ => ?_  -- a `qua` at the node
  refine ite_eq_left_iff.mpr fun _ => ?_  -- a `pyr` / `pri` / `hex` at the node
  refine ite_eq_left_iff.mpr fun _ => ?_  -- CAD edge association
  exact if_pos (idListAround_two h1 h2 m1 m2 d)

/-- the triangle smoother: two patch ids around the node ⇒ frozen (the rule the edge smoother mirrors) -/
theorem smoothTri_separator_frozen (g : Grid) (gf : Bool) (xyz : List (V3 ℝ)) (node : Nat) (c1 c2 : Cell)
    (h1 : c1 ∈ g.tri) (h2 : c2 ∈ g.tri) (m1 : node ∈ c1.nodes) (m2 : node ∈ c2.nodes) (d : c1.id ≠ c2.id) :
    smoothTriFrozen g gf xyz node = (.ok, true) := by
  unfold smoothTriFrozen
  refine ite_eq_left_iff.mpr fun _ => ?_  -- a `qua` at the node
  refine ite_eq_left_iff.mpr fun _ => ?_  -- a `pyr` / `pri` / `hex` at the node
  refine ite_eq_left_iff.mpr fun _ => ?_  -- an `edg` at the node
  exact if_pos (idListAround_two h1 h2 m1 m2 d)

end SmoothSep

/-- `ref_collapse_edge_mixed` passed ⇒ no qua/pyr/pri/hex references the removed node, and the collapse
    kernel (were it applied to those groups) is the identity on them.  (Not `C02Mixed.mixed_frame_collapse/_split/_swap`,
    which are about the guarded operator.) -/
theorem mixed_frame_collapse (g : Grid) (n0 n1 : Nat) (h : collapseEdgeMixed g n0 n1 = true) :
    (∀ c, c ∈ g.qua ∨ c ∈ g.pyr ∨ c ∈ g.pri ∨ c ∈ g.hex → n1 ∉ c.nodes) ∧
    collapseGroup g.qua n0 n1 = g.qua ∧ collapseGroup g.pyr n0 n1 = g.pyr ∧
    collapseGroup g.pri n0 n1 = g.pri ∧ collapseGroup g.hex n0 n1 = g.hex :=
  have hf := (MixedLemmas.collapseEdgeMixed_true_iff g n0 n1).1 h
  ⟨fun c hc hn => hf ⟨c, hc, hn⟩, MixedLemmas.collapseGroup_frozen hf⟩

/-- `ref_cavity_mixed` passed ⇒ no non-simplex cell touches either end: node substitution, removal and
    edge split restricted to cells around the two nodes leave all four groups unchanged -/
theorem mixed_frame_cavity (g : Grid) (n0 n1 new : Nat) (h : cavityMixed g n0 n1 = true) :
    (∀ c, c ∈ g.qua ∨ c ∈ g.pyr ∨ c ∈ g.pri ∨ c ∈ g.hex → n0 ∉ c.nodes ∧ n1 ∉ c.nodes) ∧
    (collapseGroup g.qua n0 n1 = g.qua ∧ collapseGroup g.pyr n0 n1 = g.pyr ∧
      collapseGroup g.pri n0 n1 = g.pri ∧ collapseGroup g.hex n0 n1 = g.hex) ∧
    (splitGroup g.qua n0 n1 new = g.qua ∧ splitGroup g.pyr n0 n1 new = g.pyr ∧
      splitGroup g.pri n0 n1 new = g.pri ∧ splitGroup g.hex n0 n1 new = g.hex) := by
  obtain ⟨h0, h1⟩ := (MixedLemmas.cavityMixed_true_iff g n0 n1).1 h
  exact ⟨fun c hc => ⟨fun hn => h0 ⟨c, hc, hn⟩, fun hn => h1 ⟨c, hc, hn⟩⟩, MixedLemmas.collapseGroup_frozen h1,
    splitGroup_eq_self fun c hc hh => h1 ⟨c, .inl hc, hh.2⟩,
    splitGroup_eq_self fun c hc hh => h1 ⟨c, .inr (.inl hc), hh.2⟩,
    splitGroup_eq_self fun c hc hh => h1 ⟨c, .inr (.inr (.inl hc)), hh.2⟩,
    splitGroup_eq_self fun c hc hh => h1 ⟨c, .inr (.inr (.inr hc)), hh.2⟩⟩

/-- the side predicate of `ref_cell_has_side` for one cell (verbatim `MixedLemmas.IsEdgeOf`, which the lemmas use) -/
def IsSide (e2n : List (Nat × Nat)) (c : Cell) (n0 n1 : Nat) : Prop :=
  ∃ p ∈ e2n, (n0 = c.nd p.1 ∧ n1 = c.nd p.2) ∨ (n0 = c.nd p.2 ∧ n1 = c.nd p.1)

/-- `ref_split_edge_mixed` / `ref_swap_edge_mixed` passed ⇒ the edge is not a side (table `e2n`) of any
    qua/pyr/pri/hex containing node0: every cell that has the edge as a side is a simplex, so splitting or
    swapping it leaves no hanging node on a non-simplex cell; the non-simplex groups are not among the cells
    the kernels rewrite (`ref_split_edge`, `ref_swap_*` only visit tet/tri/edg).
    (`C02Mixed.splitEdgeMixed_allowed` is the same statement with `IsEdgeOf` and the groups in another order.) -/
theorem mixed_frame_split (g : Grid) (n0 n1 : Nat) (h : splitEdgeMixed g n0 n1 = true) :
    (∀ c ∈ g.qua, n0 ∈ c.nodes → ¬ IsSide e2nQua c n0 n1) ∧ (∀ c ∈ g.pyr, n0 ∈ c.nodes → ¬ IsSide e2nPyr c n0 n1) ∧
    (∀ c ∈ g.pri, n0 ∈ c.nodes → ¬ IsSide e2nPri c n0 n1) ∧ (∀ c ∈ g.hex, n0 ∈ c.nodes → ¬ IsSide e2nHex c n0 n1) := by
  obtain ⟨hpyr, hpri, hhex, hqua⟩ := MixedLemmas.not_isEdgeOf_of_splitEdgeMixed h
  exact ⟨hqua, hpyr, hpri, hhex⟩

theorem mixed_frame_swap (g : Grid) (n0 n1 : Nat) (h : swapEdgeMixed g n0 n1 = true) :
    (∀ c ∈ g.qua, n0 ∈ c.nodes → ¬ IsSide e2nQua c n0 n1) ∧ (∀ c ∈ g.pyr, n0 ∈ c.nodes → ¬ IsSide e2nPyr c n0 n1) ∧
    (∀ c ∈ g.pri, n0 ∈ c.nodes → ¬ IsSide e2nPri c n0 n1) ∧ (∀ c ∈ g.hex, n0 ∈ c.nodes → ¬ IsSide e2nHex c n0 n1) :=
  -- `ref_swap_edge_mixed` asks the same four tests in another order
  mixed_frame_split g n0 n1 (MixedLemmas.swapEdgeMixed_eq_split g n0 n1 ▸ h)

/-- non-vacuity: a prism on nodes 0..5 next to the tet edge (0,6): the collapse of 6 onto 0 passes the mixed
    guard, the collapse of 0 onto 6 does not; the prism edge (0,1) may not be split, its quad-face diagonal
    (0,4) may (it is not a side) -/
def prismGrid : Grid := { pri := [⟨[0, 1, 2, 3, 4, 5], 0⟩], tet := [⟨[0, 1, 2, 6], 0⟩] }
example : collapseEdgeMixed prismGrid 0 6 = true ∧ collapseEdgeMixed prismGrid 6 0 = false := by decide
example : splitEdgeMixed prismGrid 0 1 = false ∧ splitEdgeMixed prismGrid 0 4 = true ∧
    splitEdgeMixed prismGrid 0 6 = true := by decide
example : swapEdgeMixed prismGrid 0 3 = false ∧ cavityMixed prismGrid 6 0 = false ∧
    cavityMixed prismGrid 6 7 = true := by decide

section Conservation
open Refine.Model.Geom Refine.ScalarReal Refine.GeomReal Refine.GuardsReal

/-- **`interpolateEdge_on_segment`**: the trial vertex of `ref_split_pass` is `(1-t)·a + t·b` with
    `t = MIN(0.95, MAX(0.05, w)) ∈ [0.05, 0.95]`, whatever raw weight `w` the metric produced -/
theorem interpolateEdge_on_segment (xyz : List (V3 ℝ)) (n0 n1 : Nat) (w : ℝ) :
    splitPoint xyz n0 n1 w = vadd (vsmul (1 - clampWeight w) (pt xyz n0)) (vsmul (clampWeight w) (pt xyz n1)) ∧
    (0.05 : ℝ) ≤ clampWeight w ∧ clampWeight w ≤ 0.95 := by
  refine ⟨?_, clampWeight_mem w⟩
  unfold splitPoint interpolateEdge
  rw [Refine.Props.C15.interpolateEdge_eq]

/-- a weight that already lies in `[0.05, 0.95]` is used unchanged -/
theorem clamp_identity {w : ℝ} (h0 : 0.05 ≤ w) (h1 : w ≤ 0.95) : clampWeight w = w := by
  rw [clampWeight_eq, max_eq_right h0, min_eq_right h1]

/-- **planar meshes stay in their plane**: if both ends of the edge satisfy the plane equation
    `ν·p = d` so does the inserted vertex (any weight); in particular `z` is kept when both ends share `z` -/
theorem interpolateEdge_in_plane (a b ν : V3 ℝ) (d w : ℝ) (ha : vdot ν a = d) (hb : vdot ν b = d) :
    vdot ν (interpolateEdgeXyz a b w) = d := by
  rw [Refine.Props.C15.interpolateEdge_eq]
  simp only [vdot, vadd, vsmul] at *
  have : ν.x * ((1 - w) * a.x + w * b.x) + ν.y * ((1 - w) * a.y + w * b.y) + ν.z * ((1 - w) * a.z + w * b.z)
      = (1 - w) * (ν.x * a.x + ν.y * a.y + ν.z * a.z) + w * (ν.x * b.x + ν.y * b.y + ν.z * b.z) := by ring
  rw [this, ha, hb]; ring

theorem interpolateEdge_keeps_z (a b : V3 ℝ) (w : ℝ) (h : a.z = b.z) : (interpolateEdgeXyz a b w).z = a.z := by
  have := interpolateEdge_in_plane a b ⟨0, 0, 1⟩ a.z w (by simp [vdot]) (by simp [vdot, h])
  simpa [vdot] using this

/-- **`split_volume`**: splitting the edge `a–b` of a tet at `m = (1-t)a + t b` replaces it by two tets whose
    volumes add up to the original exactly, and for `0 < t < 1` both keep the sign of the original -/
theorem split_volume (a b c d : V3 ℝ) (t : ℝ) :
    tetVol (interpolateEdgeXyz a b t) b c d + tetVol a (interpolateEdgeXyz a b t) c d = tetVol a b c d ∧
    (0 < t → t < 1 → 0 < tetVol a b c d →
      0 < tetVol (interpolateEdgeXyz a b t) b c d ∧ 0 < tetVol a (interpolateEdgeXyz a b t) c d) := by
  rw [Refine.Props.C15.interpolateEdge_eq]
  obtain ⟨h1, h2⟩ := Refine.Props.C15.tetVol_split a b c d t
  rw [h1, h2]
  refine ⟨by ring, fun h0 h1' hv => ⟨?_, ?_⟩⟩
  · exact mul_pos (by linarith) hv
  · exact mul_pos h0 hv

/-- the two boundary triangles created by a split have normals `(1-t)·N` and `t·N` -/
theorem split_tri_normal (a b c : V3 ℝ) (t : ℝ) :
    triNormal (interpolateEdgeXyz a b t) b c = vsmul (1 - t) (triNormal a b c) ∧
    triNormal a (interpolateEdgeXyz a b t) c = vsmul t (triNormal a b c) := by
  rw [Refine.Props.C15.interpolateEdge_eq]
  constructor <;>
  · simp only [triNormal_def, vadd, vsmul]
    apply V3.ext' <;> simp only [] <;> ring

theorem sqrt_vdot_vsmul (s : ℝ) (hs : 0 ≤ s) (n : V3 ℝ) :
    Real.sqrt (vdot (vsmul s n) (vsmul s n)) = s * Real.sqrt (vdot n n) := by
  have : vdot (vsmul s n) (vsmul s n) = s ^ 2 * vdot n n := by simp only [vdot, vsmul]; ring
  rw [this, Real.sqrt_mul (sq_nonneg s), Real.sqrt_sq hs]

/-- **`split_tri_area`**: the patch area is conserved exactly by a split — the two new triangles have areas
    `(1-t)·A` and `t·A` (same plane, same orientation: their normals are positive multiples of the old one) -/
theorem split_tri_area (a b c : V3 ℝ) (t : ℝ) (h0 : 0 ≤ t) (h1 : t ≤ 1) :
    triArea (interpolateEdgeXyz a b t) b c = (1 - t) * triArea a b c ∧
    triArea a (interpolateEdgeXyz a b t) c = t * triArea a b c ∧
    triArea (interpolateEdgeXyz a b t) b c + triArea a (interpolateEdgeXyz a b t) c = triArea a b c := by
  obtain ⟨n1, n2⟩ := split_tri_normal a b c t
  have e1 : triArea (interpolateEdgeXyz a b t) b c = (1 - t) * triArea a b c := by
    rw [Refine.Props.C15.triArea_eq, Refine.Props.C15.triArea_eq, n1, sqrt_vdot_vsmul _ (by linarith)]; ring
  have e2 : triArea a (interpolateEdgeXyz a b t) c = t * triArea a b c := by
    rw [Refine.Props.C15.triArea_eq, Refine.Props.C15.triArea_eq, n2, sqrt_vdot_vsmul _ h0]; ring
  refine ⟨e1, e2, ?_⟩
  rw [e1, e2]; ring

/-- length of a boundary segment (2-D patch measure) -/
noncomputable def segLen (a b : V3 ℝ) : ℝ := Real.sqrt (vdot (V3.sub b a) (V3.sub b a))

/-- 2-D: a split conserves the length of the boundary segment it cuts -/
theorem split_edg_length (a b : V3 ℝ) (t : ℝ) (h0 : 0 ≤ t) (h1 : t ≤ 1) :
    segLen a (interpolateEdgeXyz a b t) + segLen (interpolateEdgeXyz a b t) b = segLen a b := by
  rw [Refine.Props.C15.interpolateEdge_eq]
  have e1 : V3.sub (vadd (vsmul (1 - t) a) (vsmul t b)) a = vsmul t (V3.sub b a) := by
    simp only [sub_def, vadd, vsmul]; apply V3.ext' <;> simp only [] <;> ring
  have e2 : V3.sub b (vadd (vsmul (1 - t) a) (vsmul t b)) = vsmul (1 - t) (V3.sub b a) := by
    simp only [sub_def, vadd, vsmul]; apply V3.ext' <;> simp only [] <;> ring
  unfold segLen
  rw [e1, e2, sqrt_vdot_vsmul _ h0, sqrt_vdot_vsmul _ (by linarith)]; ring

/-- **`swap_area`** (vector form, any four points): the two triangles before the swap of edge `a–b` with
    third nodes `c`, `d` and the two triangles after it have the same total vector area -/
theorem swap_vector_area (a b c d : V3 ℝ) :
    vadd (triNormal a b c) (triNormal b a d) = vadd (triNormal a d c) (triNormal b c d) := by
  simp only [triNormal_def, vadd]
  apply V3.ext' <;> simp only [] <;> ring

/-- the area of a triangle in a plane `z = const`, counter-clockwise: half the z-component of its normal -/
theorem triArea_planar (a b c : V3 ℝ) (hx : (triNormal a b c).x = 0) (hy : (triNormal a b c).y = 0)
    (hz : 0 ≤ (triNormal a b c).z) : triArea a b c = (triNormal a b c).z / 2 := by
  rw [Refine.Props.C15.triArea_eq]
  have : vdot (triNormal a b c) (triNormal a b c) = (triNormal a b c).z ^ 2 := by
    simp only [vdot]; rw [hx, hy]; ring
  rw [this, Real.sqrt_sq hz]

/-- **`swap_area`**: for a planar quad (all four points share `z`) whose old and new triangles are all
    counter-clockwise, the swap leaves the area sum unchanged -/
theorem swap_area (a b c d : V3 ℝ) (hab : a.z = b.z) (hac : a.z = c.z) (had : a.z = d.z)
    (o1 : 0 ≤ (triNormal a b c).z) (o2 : 0 ≤ (triNormal b a d).z)
    (o3 : 0 ≤ (triNormal a d c).z) (o4 : 0 ≤ (triNormal b c d).z) :
    triArea a b c + triArea b a d = triArea a d c + triArea b c d := by
  have hv := swap_vector_area a b c d
  have hz : (triNormal a b c).z + (triNormal b a d).z = (triNormal a d c).z + (triNormal b c d).z := by
    have := congrArg V3.z hv
    simpa [vadd] using this
  have px : ∀ p q r : V3 ℝ, p.z = q.z → p.z = r.z → (triNormal p q r).x = 0 ∧ (triNormal p q r).y = 0 := by
    intro p q r h1 h2
    simp only [triNormal_def]
    rw [← h1, ← h2]; constructor <;> ring
  rw [triArea_planar a b c (px a b c hab hac).1 (px a b c hab hac).2 o1,
    triArea_planar b a d (px b a d hab.symm (hab.symm.trans had)).1 (px b a d hab.symm (hab.symm.trans had)).2 o2,
    triArea_planar a d c (px a d c had hac).1 (px a d c had hac).2 o3,
    triArea_planar b c d (px b c d (hab.symm.trans hac) (hab.symm.trans had)).1
      (px b c d (hab.symm.trans hac) (hab.symm.trans had)).2 o4]
  linarith

/-- non-vacuity: the unit square split along one diagonal, swapped to the other -/
example : (triNormal (⟨0, 0, 0⟩ : V3 ℝ) ⟨1, 1, 0⟩ ⟨0, 1, 0⟩).z = 1 ∧
    (triNormal (⟨1, 1, 0⟩ : V3 ℝ) ⟨0, 0, 0⟩ ⟨1, 0, 0⟩).z = 1 ∧
    (triNormal (⟨0, 0, 0⟩ : V3 ℝ) ⟨1, 0, 0⟩ ⟨0, 1, 0⟩).z = 1 ∧
    (triNormal (⟨1, 1, 0⟩ : V3 ℝ) ⟨0, 1, 0⟩ ⟨1, 0, 0⟩).z = 1 := by
  simp only [triNormal_def]; norm_num

example : (0.05 : ℝ) ≤ clampWeight (7 : ℝ) ∧ clampWeight (7 : ℝ) = 0.95 ∧ clampWeight (-3 : ℝ) = 0.05 ∧
    clampWeight (0.3 : ℝ) = 0.3 := by
  refine ⟨(clampWeight_mem 7).1, ?_, ?_, clamp_identity (by norm_num) (by norm_num)⟩
  · rw [clampWeight_eq]; norm_num
  · rw [clampWeight_eq]; norm_num

end Conservation

section SameNormal
open Refine.Model.Geom Refine.ScalarReal Refine.GeomReal Refine.GuardsReal

/-- **`sameNormal_bound`**: when `ref_collapse_edge_same_normal` passes, every boundary triangle around
    node1 that survives the collapse (does not contain node0) has a unit normal before (`u`) and after
    (`u'`) the substitution node1 ↦ node0, and `u·u' ≥ same_normal_tol = 1 - 1e-8` -/
theorem sameNormal_bound (g : Grid) (xyz : List (V3 ℝ)) (n0 n1 : Nat)
    (h : collapseEdgeSameNormal g xyz n0 n1 = (.ok, true)) :
    ∀ c ∈ g.tri, n1 ∈ c.nodes →
      (n0 = c.nd 0 ∨ n0 = c.nd 1 ∨ n0 = c.nd 2) ∨
      ∃ u u', normalize (cellNormal xyz c.nodes) = (St.ok, u) ∧
        normalize (cellNormal xyz (Guards.subst n1 n0 c.nodes)) = (St.ok, u') ∧
        (sameNormalTol : ℝ) ≤ vdot u u' := by
  intro c hc hn
  unfold collapseEdgeSameNormal at h
  have hall := firstSome_all_none _ _ _ (sameNormalStep_ne xyz n0 n1) h
  exact sameNormalStep_none (hall c (mem_having.mpr ⟨hc, hn⟩))

/-- … hence no surviving boundary triangle is inverted or flattened: the un-normalised normals before and
    after have a strictly positive dot product -/
theorem sameNormal_no_flip (g : Grid) (xyz : List (V3 ℝ)) (n0 n1 : Nat)
    (h : collapseEdgeSameNormal g xyz n0 n1 = (.ok, true)) (c : Cell) (hc : c ∈ g.tri) (hn : n1 ∈ c.nodes)
    (hs : ¬ (n0 = c.nd 0 ∨ n0 = c.nd 1 ∨ n0 = c.nd 2)) :
    0 < vdot (cellNormal xyz c.nodes) (cellNormal xyz (Guards.subst n1 n0 c.nodes)) := by
  rcases sameNormal_bound g xyz n0 n1 h c hc hn with h' | ⟨u, u', hu, hu', hb⟩
  · exact absurd h' hs
  · obtain ⟨L, pL, -, rfl⟩ := normalize_ok hu
    obtain ⟨L', pL', -, rfl⟩ := normalize_ok hu'
    have hpos := lt_of_lt_of_le sameNormalTol_pos hb
    rw [vdot_div] at hpos
    exact (div_pos_iff_of_pos_right (mul_pos pL pL')).mp hpos

/-- **`planar_collapse_stays_planar`**: if every vertex of the boundary triangles of a patch lies in the
    plane `ν·p = d`, and node0 is a vertex of one of them (which is what the face-id rule demands of an
    allowed collapse of a patch vertex: `patch_rule'`), then every vertex of every triangle after the
    substitution node1 ↦ node0 lies in that plane: the patch is not lifted off its plane.
    (That the triangles also keep their orientation is `sameNormal_no_flip`, which speaks of the same substituted
    triangle: `GuardsRules.subst_nodes_eq`.) -/
theorem planar_collapse_stays_planar (tris : List Cell) (xyz : List (V3 ℝ)) (ν : V3 ℝ) (d : ℝ) (n0 n1 : Nat)
    (hplane : ∀ c ∈ tris, ∀ n ∈ c.nodes, vdot ν (pt xyz n) = d)
    (h0 : ∃ c ∈ tris, n0 ∈ c.nodes) :
    ∀ c ∈ collapseGroup tris n0 n1, ∀ n ∈ c.nodes, vdot ν (pt xyz n) = d := by
  intro c hc n hn
  obtain ⟨c', hc', _, rfl⟩ := mem_collapseGroup.mp hc
  rcases mem_subst.mp hn with ⟨rfl, _⟩ | ⟨hm, _⟩
  · obtain ⟨c0, hc0, hn0⟩ := h0
    exact hplane c0 hc0 n hn0
  · exact hplane c' hc' n hm

/-- moving the apex of a fan from `q` to `p` changes its vector area by `(p - q) × (first - last)` -/
theorem fan_vector_area_open (p q a : V3 ℝ) (l : List (V3 ℝ)) :
    fanSum p (a :: l) = vadd (fanSum q (a :: l)) (cross (V3.sub p q) (V3.sub a ((a :: l).getLast (by simp)))) := by
  induction l generalizing a with
  | nil =>
    simp only [fanSum, List.getLast_singleton, vadd, cross_def, sub_def]
    apply V3.ext' <;> simp
  | cons b rest ih =>
    have hl : (a :: b :: rest).getLast (by simp) = (b :: rest).getLast (by simp) := by
      simp [List.getLast_cons]
    simp only [fanSum]
    rw [ih b, hl]
    generalize (b :: rest).getLast (by simp) = z
    generalize fanSum q (b :: rest) = s
    simp only [triNormal_def, vadd, cross_def, sub_def]
    apply V3.ext' <;> simp only [] <;> ring

/-- **vector area of a fan does not depend on its apex** when the ring is closed (`last = first`): the sum of
    the triangle normals over the star of an interior patch vertex is the same with apex node1 (before the
    collapse) and apex node0 (after it; the triangles that had node0 as ring node are the removed ones and
    contribute the zero vector).  With `sameNormal_no_flip` (all new normals on the old side) this is the arithmetic
    behind the conservation of the planar patch area under collapse; the step from a list of ring points to the
    triangles of a `Grid` around node1 is not formalised.  For an open fan (ridge vertex) the difference is
    `(p - q) × (first - last)`, which vanishes iff node0, node1 and the far ridge neighbour are collinear. -/
theorem fan_vector_area_apex (p q a : V3 ℝ) (l : List (V3 ℝ)) (hclosed : (a :: l).getLast (by simp) = a) :
    fanSum p (a :: l) = fanSum q (a :: l) := by
  rw [fan_vector_area_open p q a l, hclosed]
  simp only [vadd, cross_def, sub_def]
  apply V3.ext' <;> simp only [] <;> ring

/-- the normal of one triangle of a flat fan in `z = 0`.  (No example instantiates the hypothesis
    `collapseEdgeSameNormal g xyz n0 n1 = (.ok, true)` of `sameNormal_bound`.) -/
example : (triNormal (⟨0, 0, 0⟩ : V3 ℝ) ⟨1, 0, 0⟩ ⟨0, 1, 0⟩).z = 1 := by
  simp only [triNormal_def]; norm_num

end SameNormal

end Refine.Props.C02
