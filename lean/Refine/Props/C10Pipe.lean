import Refine.Lemmas.MetricPipe
import Refine.Props.C10Gradation

/-!
  C10, the pipeline part — `ref_metric_lp`, `hessian_multiscale`, `ref_metric_buffer_at_complexity` and the option
  plumbing of the `multiscale` subcommand (model `Refine/Model/MetricPipe.lean`, bit-compared with the C through
  `refdrv metricpipe` / `harness/h_metricpipe.c`), at the real instance.  The stage theorems are `Props/C10.lean` /
  `Props/C10Gradation.lean`; what is proved here is about the COMPOSITION.

  In every modelled driver — and in the subcommand for every option combination — the LAST operation is the exact
  rescale `ref_metric_set_complexity` applied to a field that is embedded on a 2-D grid (`EndsWithRescale`, declared in
  `Lemmas/MetricPipe.lean`); complexity, embedding and the reported complexity are one line each from that shape.  A
  refactor that lets anything follow the rescale makes these false.  (`metricLp_` and
  `bufferAtComplexity_ends_with_rescale` spell the whole chain out; every other `ends_with_rescale` name returns the
  shape.)
  The hypothesis `hc` of the `*_complexity` results asks a positive complexity of EVERY field whose rescale is the
  output (all that the shape knows); who holds the rescaled field itself uses
  `Props/C10Gradation.gradation_at_complexity_final`, whose `hc` is about that field.

  The option scan is one test (`dangling`) and one record (`optionsOf argv`): `multiscaleOptions_eq`.
-/
namespace Refine.Props.C10Pipe
open Refine Refine.Scalar Refine.ScalarReal Refine.Model.Matrix Refine.Model.Metric Refine.Model.Gradation
open Refine.Model.MetricPipe Refine.Lemmas.MetricPipe
open Refine.Model.Recon (Cell)
open Refine.Model.Geom (V3)
open Refine.Props.C10 Refine.Props.C10Gradation
open Refine.Gen

/-- what `tools/translate_more_metricpipe.py` read from `ref_subcommand.c` / `ref_metric.c` is what the model was
    written against: a changed default, a renamed flag, a flag that no longer takes a value, a reordered or
    re-plumbed stage call, a changed buffer constant or relaxation count makes this theorem fail to compile -/
theorem constants_of_the_c_text :
    MultiscaleOpts.minArgc = 6 ∧ MultiscaleOpts.posMesh = 2 ∧ MultiscaleOpts.posScalar = 3 ∧
    MultiscaleOpts.posComplexity = 4 ∧ MultiscaleOpts.posOut = 5 ∧
    MultiscaleOpts.defaultP = 2 ∧ MultiscaleOpts.defaultGradation = (-1, 0) ∧
    MultiscaleOpts.defaultAspectRatio = (-1, 0) ∧
    MultiscaleOpts.strictFlags = [("--norm-power", "p", "atoi"), ("--gradation", "gradation", "atof"),
      ("--aspect-ratio", "aspect_ratio", "atof")] ∧
    MultiscaleOpts.lenientFlags = ["--fun3d-mapbc", "--viscous-tags", "--pcd"] ∧
    MultiscaleOpts.presenceFlags = ["--hessian", "--fixed-point", "--strong-sensor-bc", "--buffer", "--uniform"] ∧
    MultiscaleOpts.complexityFloor = (1, -20) ∧
    MultiscaleOpts.reconstruction = "REF_RECON_L2PROJECTION" ∧
    MultiscaleOpts.lpStages =
      [("ref_recon_hessian", ["ref_grid", "scalar", "metric", "reconstruction"]),
       ("ref_recon_roundoff_limit", ["metric", "ref_grid"]),
       ("ref_metric_local_scale", ["metric", "ref_grid", "p_norm"]),
       ("ref_metric_limit_aspect_ratio", ["metric", "ref_grid", "aspect_ratio"]),
       ("ref_metric_gradation_at_complexity", ["metric", "ref_grid", "gradation", "target_complexity"])] ∧
    MultiscaleOpts.hessianStages =
      [("ref_metric_from_node", ["metric", "ref_grid_node(ref_grid)"]),
       ("ref_recon_abs_value_hessian", ["ref_grid", "metric"]),
       ("ref_recon_roundoff_limit", ["metric", "ref_grid"]),
       ("ref_metric_local_scale", ["metric", "ref_grid", "p"]),
       ("ref_metric_gradation_at_complexity", ["metric", "ref_grid", "gradation", "complexity"])] ∧
    MultiscaleOpts.multiscaleCalls.map (·.1) =
      ["fixed_point_metric", "hessian_multiscale", "ref_metric_lp", "ref_metric_buffer_at_complexity",
       "ref_metric_parse", "ref_metric_complexity", "ref_metric_to_node", "ref_metric_isotropic", "ref_gather_metric"] ∧
    MultiscaleOpts.multiscaleCalls.lookup "ref_metric_lp" =
      some ["metric", "ref_grid", "scalar", "reconstruction", "p", "gradation", "aspect_ratio", "complexity"] ∧
    MultiscaleOpts.multiscaleCalls.lookup "hessian_multiscale" =
      some ["ref_mpi", "ref_grid", "in_scalar", "metric", "p", "gradation", "complexity"] ∧
    MultiscaleOpts.multiscaleCalls.lookup "ref_metric_buffer_at_complexity" = some ["metric", "ref_grid", "complexity"] ∧
    MultiscaleOpts.bufSmin = (5, -1) ∧ MultiscaleOpts.bufSmax = (9, -1) ∧ MultiscaleOpts.bufEmin = (-4, 0) ∧
    MultiscaleOpts.bufEmax = (-1, 0) ∧ MultiscaleOpts.bufInner = (-15, 0) ∧ MultiscaleOpts.bufBase = (1, 1) ∧
    MultiscaleOpts.bufXmax0 = (-1, -100) ∧ MultiscaleOpts.bufRmax0 = (0, 0) ∧
    MultiscaleOpts.bufMidStrict = (true, true) ∧ MultiscaleOpts.bufTopStrict = false ∧
    MultiscaleOpts.bufRelaxations = 10 ∧ MultiscaleOpts.bufScale3 = ((2, 0), (3, 0)) ∧ MultiscaleOpts.bufScale2 = (1, 0) ∧
    MultiscaleOpts.bufLoopSteps = ["buffer", "embed", "complexity", "divisible", "scale", "embed"] :=
  ⟨rfl, rfl, rfl, rfl, rfl, rfl, rfl, rfl, rfl, rfl, rfl, rfl, rfl, rfl, rfl, rfl, rfl, rfl, rfl, rfl, rfl, rfl, rfl, rfl, rfl,
    rfl, rfl, rfl, rfl, rfl, rfl, rfl, rfl⟩

/-- `ref_metric_lp` after the reconstruction is transcribed twice, once with the gradation model
    (`Model/Gradation.lpChain`, run by the gradation driver) and once with the pipeline (`Model/MetricPipe.metricLp`,
    run by `refdrv metricpipe`): the two are the same function, so `lpChain_complexity` and `metricLp_complexity`
    speak of one run (the first asks `hc` of the relaxed field, the second of any field whose rescale is the output) -/
theorem metricLp_eq_lpChain (twod : Bool) (owned : Nat → Bool) (xyz : List (V3 ℝ)) (cells : List Cell) (p : Int)
    (gradation ar target : ℝ) (hessian : List (M6 ℝ)) :
    metricLp twod owned xyz cells p gradation ar target hessian =
      lpChain twod owned xyz cells p gradation ar target hessian := rfl

/-- **the last operation of `ref_metric_lp` is the exact rescale**: a successful run is the floor, the Lp scale with
    `p_norm`, the limiter with `aspect_ratio`, 20 relaxations with `gradation` at `target`, and then
    `ref_metric_set_complexity`'s block on the field `g` the relaxations left, embedded on a 2-D grid -/
theorem metricLp_ends_with_rescale (twod : Bool) (owned : Nat → Bool) (xyz : List (V3 ℝ)) (cells : List Cell) (p : Int)
    (gradation ar target : ℝ) (hessian out : List (M6 ℝ))
    (h : metricLp twod owned xyz cells p gradation ar target hessian = .ok out) :
    ∃ floored limited g, roundoffLimit xyz cells hessian = .ok floored ∧
      limitAspectRatio twod ar (localScale twod p floored) = .ok limited ∧
      gacLoop twod owned xyz cells (edgeList cells) gradation target 20 limited = .ok g ∧
      setComplexity twod owned xyz g cells target = .ok out ∧
      (twod = true → ∀ m ∈ g, IsEmbedded m) := by
  rw [metricLp_eq_lpChain] at h
  obtain ⟨floored, limited, h1, h2, h3⟩ := lpChain_split h
  obtain ⟨g, hg, hs⟩ := gradationAtComplexity_split h3
  refine ⟨floored, limited, g, h1, h2, hg, hs, ?_⟩
  intro htw
  subst htw
  exact gacLoop_embedded owned xyz cells _ gradation target 20 limited g hg
    (limitAspectRatio2_field_embedded ar _ limited h2)

theorem endsWithRescale_of_metricLp {twod : Bool} {owned : Nat → Bool} {xyz : List (V3 ℝ)} {cells : List Cell} {p : Int}
    {gradation ar target : ℝ} {hessian out : List (M6 ℝ)}
    (h : metricLp twod owned xyz cells p gradation ar target hessian = .ok out) :
    EndsWithRescale twod owned xyz cells target out := by
  obtain ⟨_, _, g, _, _, _, hs, he⟩ := metricLp_ends_with_rescale twod owned xyz cells p gradation ar target hessian out h
  exact ⟨g, hs, he⟩

/-- **`ref_metric_lp` meets the requested complexity**, for every mesh, Hessian field, norm power, gradation and
    aspect-ratio limit, in 2-D and 3-D.  `hc`: the field the final rescale was applied to has positive complexity. -/
theorem metricLp_complexity (twod : Bool) (owned : Nat → Bool) (xyz : List (V3 ℝ)) (cells : List Cell) (p : Int)
    (gradation ar target : ℝ) (hessian out : List (M6 ℝ))
    (h : metricLp twod owned xyz cells p gradation ar target hessian = .ok out) (ht : 0 < target)
    (hc : ∀ g, setComplexity twod owned xyz g cells target = .ok out → 0 < complexity owned xyz g cells)
    (hdim : twod = !(haveVolCells owned cells)) :
    complexity owned xyz out cells = target :=
  (endsWithRescale_of_metricLp h).complexity ht hc hdim

/-- **planar embedding**: on a 2-D grid every tensor `ref_metric_lp` returns has `m13 = m23 = 0`, `m33 = 1` -/
theorem metricLp_twod_embedding (owned : Nat → Bool) (xyz : List (V3 ℝ)) (cells : List Cell) (p : Int)
    (gradation ar target : ℝ) (hessian out : List (M6 ℝ))
    (h : metricLp true owned xyz cells p gradation ar target hessian = .ok out) : ∀ m ∈ out, IsEmbedded m :=
  (endsWithRescale_of_metricLp h).embedded

/-- **SPD at every vertex** for ANY Hessian field (the floor makes it definite, `roundoffLimit_spd`; the Lp scale keeps
    it, `localScale_spd`).  Hypotheses, in the convention of the stage theorems: the limiter's output is SPD
    (`hAR`: per vertex this is `limitAspectRatio_spd` / `limitAspectRatio2_spd_embedded` under a positive largest
    returned eigenvalue), the write-back decompositions of the relaxations are exact and the complexities at the
    rescales positive (`GacLoopOk`, `hc`). -/
theorem metricLp_spd (twod : Bool) (owned : Nat → Bool) (xyz : List (V3 ℝ)) (cells : List Cell) (p : Int)
    (gradation ar target : ℝ) (hessian out : List (M6 ℝ))
    (h : metricLp twod owned xyz cells p gradation ar target hessian = .ok out) (ht : 0 < target)
    (hAR : ∀ floored limited, roundoffLimit xyz cells hessian = .ok floored →
      (∀ m ∈ localScale twod p floored, SPD m) →
      limitAspectRatio twod ar (localScale twod p floored) = .ok limited → ∀ m ∈ limited, SPD m)
    (H : ∀ limited, GacLoopOk twod owned xyz cells (edgeList cells) gradation target 20 limited)
    (hc : ∀ limited g, gacLoop twod owned xyz cells (edgeList cells) gradation target 20 limited = .ok g →
      0 < complexity owned xyz g cells) :
    ∀ m ∈ out, SPD m := by
  rw [metricLp_eq_lpChain] at h
  obtain ⟨floored, limited, h1, h2, h3⟩ := lpChain_split h
  have s2 := lp_front_spd twod p xyz cells hessian floored h1
  exact gradation_at_complexity_spd twod owned xyz cells (edgeList cells) 20 gradation target limited out h3 ht
    (H limited) (hc limited) (hAR floored limited h1 s2 h2)

/-- the `--hessian` path ends with the exact rescale too: 20 relaxations on the Lp-scaled field (embedded on a 2-D
    grid by `localScale_embedded`), then `ref_metric_set_complexity`'s block -/
theorem endsWithRescale_of_hessianMultiscale {twod : Bool} {owned : Nat → Bool} {xyz : List (V3 ℝ)} {cells : List Cell}
    {p : Int} {gradation target : ℝ} {hessian out : List (M6 ℝ)}
    (h : hessianMultiscale twod owned xyz cells p gradation target hessian = .ok out) :
    EndsWithRescale twod owned xyz cells target out := by
  revert h
  fun_cases hessianMultiscale twod owned xyz cells p gradation target hessian with
  | case1 => nofun
  | case2 => nofun
  | case3 absd h0 floored h1 =>
    intro h
    obtain ⟨g, hg, hs⟩ := gradationAtComplexity_split h
    refine ⟨g, hs, ?_⟩
    intro htw
    subst htw
    exact gacLoop_embedded owned xyz cells _ gradation target 20 _ g hg (localScale_embedded p floored)

/-- the `--hessian` path meets the requested complexity and keeps the embedding -/
theorem hessianMultiscale_complexity (twod : Bool) (owned : Nat → Bool) (xyz : List (V3 ℝ)) (cells : List Cell) (p : Int)
    (gradation target : ℝ) (hessian out : List (M6 ℝ))
    (h : hessianMultiscale twod owned xyz cells p gradation target hessian = .ok out) (ht : 0 < target)
    (hc : ∀ g, setComplexity twod owned xyz g cells target = .ok out → 0 < complexity owned xyz g cells)
    (hdim : twod = !(haveVolCells owned cells)) :
    complexity owned xyz out cells = target ∧ (twod = true → ∀ m ∈ out, IsEmbedded m) := by
  refine ⟨(endsWithRescale_of_hessianMultiscale h).complexity ht hc hdim, ?_⟩
  intro htw
  subst htw
  exact (endsWithRescale_of_hessianMultiscale h).embedded

/-- **the last operation of `ref_metric_buffer_at_complexity` is the exact rescale** (as repaired in /repo cef0178):
    nine relaxations, `ref_metric_buffer`, the embedding block, then `ref_metric_set_complexity`'s block -/
theorem bufferAtComplexity_ends_with_rescale (twod : Bool) (owned : Nat → Bool) (xyz : List (V3 ℝ)) (cells : List Cell)
    (target : ℝ) (metric out : List (M6 ℝ))
    (h : bufferAtComplexity twod owned xyz cells target metric = .ok out) :
    ∃ prev buffered, bufLoop twod owned xyz cells target 9 metric = .ok prev ∧ buffer xyz prev = .ok buffered ∧
      setComplexity twod owned xyz (reEmbed twod buffered) cells target = .ok out := by
  unfold bufferAtComplexity at h
  have hn : MultiscaleOpts.bufRelaxations = 9 + 1 := by decide
  rw [hn] at h
  obtain ⟨prev, hp, hr⟩ := (bufLoop_isLoop twod owned xyz cells target).succ_last 9 metric out h
  obtain ⟨buffered, hb, hs⟩ := bufRelax_split hr
  exact ⟨prev, buffered, hp, hb, hs⟩

/-- the same as `EndsWithRescale`: the field the last rescale is applied to has just passed the embedding block -/
theorem endsWithRescale_of_bufferAtComplexity {twod : Bool} {owned : Nat → Bool} {xyz : List (V3 ℝ)} {cells : List Cell}
    {target : ℝ} {metric out : List (M6 ℝ)}
    (h : bufferAtComplexity twod owned xyz cells target metric = .ok out) :
    EndsWithRescale twod owned xyz cells target out := by
  obtain ⟨_, buffered, _, _, hs⟩ := bufferAtComplexity_ends_with_rescale twod owned xyz cells target metric out h
  refine ⟨reEmbed twod buffered, hs, ?_⟩
  intro htw
  subst htw
  exact reEmbed_true_embedded buffered

/-- **`--buffer` meets the requested complexity** in 2-D and 3-D (the 2-D case is what was false before cef0178:
    see `bufRelaxLegacy_not_embedded`) -/
theorem bufferAtComplexity_complexity (twod : Bool) (owned : Nat → Bool) (xyz : List (V3 ℝ)) (cells : List Cell)
    (target : ℝ) (metric out : List (M6 ℝ))
    (h : bufferAtComplexity twod owned xyz cells target metric = .ok out) (ht : 0 < target)
    (hc : ∀ g, setComplexity twod owned xyz g cells target = .ok out → 0 < complexity owned xyz g cells)
    (hdim : twod = !(haveVolCells owned cells)) :
    complexity owned xyz out cells = target :=
  (endsWithRescale_of_bufferAtComplexity h).complexity ht hc hdim

/-- **`--buffer` keeps the planar embedding** on a 2-D grid -/
theorem bufferAtComplexity_twod_embedding (owned : Nat → Bool) (xyz : List (V3 ℝ)) (cells : List Cell)
    (target : ℝ) (metric out : List (M6 ℝ))
    (h : bufferAtComplexity true owned xyz cells target metric = .ok out) : ∀ m ∈ out, IsEmbedded m :=
  (endsWithRescale_of_bufferAtComplexity h).embedded

/-- the hypotheses along `n` relaxations of the buffer loop (walking the same loop as `bufLoop`): the decompositions
    `ref_metric_buffer` takes return positive eigenvalues, and the complexity at the rescale is positive -/
def BufLoopOk (twod : Bool) (owned : Nat → Bool) (xyz : List (V3 ℝ)) (cells : List Cell) (target : ℝ) :
    Nat → List (M6 ℝ) → Prop
  | 0, _ => True
  | n + 1, metric =>
    EigPos metric ∧
    (∀ buffered, buffer xyz metric = .ok buffered → 0 < complexity owned xyz (reEmbed twod buffered) cells) ∧
    (∀ metric1, bufRelax twod owned xyz cells target metric = .ok metric1 → BufLoopOk twod owned xyz cells target n metric1)

theorem bufLoop_spd (twod : Bool) (owned : Nat → Bool) (xyz : List (V3 ℝ)) (cells : List Cell) (target : ℝ) (n : Nat)
    (metric out : List (M6 ℝ)) (ht : 0 < target) (H : BufLoopOk twod owned xyz cells target n metric)
    (h : bufLoop twod owned xyz cells target n metric = .ok out) (hspd : ∀ m ∈ metric, SPD m) : ∀ m ∈ out, SPD m :=
  ((bufLoop_isLoop twod owned xyz cells target).rule
    (fun n f => BufLoopOk twod owned xyz cells target n f ∧ ∀ m ∈ f, SPD m)
    (fun _ s s1 ⟨⟨heig, hcx, hnext⟩, _⟩ h1 => by
      -- one relaxation: `ref_metric_buffer`, the embedding block, the rescale
      obtain ⟨buffered, hb, hs⟩ := bufRelax_split h1
      have s2 := buffer_spd xyz s buffered heig hb
      have s3 := reEmbed_spd twod s2
      exact ⟨hnext s1 h1, setComplexity_spd twod owned xyz _ s1 cells target hs (hcx buffered hb) ht s3⟩)
    n metric out ⟨H, hspd⟩ h).2

/-- **`--buffer` returns SPD tensors** from an SPD field -/
theorem bufferAtComplexity_spd (twod : Bool) (owned : Nat → Bool) (xyz : List (V3 ℝ)) (cells : List Cell)
    (target : ℝ) (metric out : List (M6 ℝ)) (ht : 0 < target)
    (H : BufLoopOk twod owned xyz cells target MultiscaleOpts.bufRelaxations metric)
    (h : bufferAtComplexity twod owned xyz cells target metric = .ok out) (hspd : ∀ m ∈ metric, SPD m) :
    ∀ m ∈ out, SPD m :=
  bufLoop_spd twod owned xyz cells target _ metric out ht H h hspd

/-- history (/repo before cef0178): the loop body rescaled every grid with `rescaleNode false`, i.e. all six entries
    multiplied and no embedding block — so on a 2-D grid `m33` left the value 1 whenever the factor was not 1: the
    tensor (1,0,0,1,0,1) scaled by 4 is (4,0,0,4,0,4), not embedded, while the repaired body returns (4,0,0,4,0,1) -/
theorem bufRelaxLegacy_not_embedded :
    ¬ IsEmbedded (rescaleNode false (4 : ℝ) ⟨1, 0, 0, 1, 0, 1⟩) ∧ IsEmbedded (rescaleNode true (4 : ℝ) ⟨1, 0, 0, 1, 0, 1⟩) := by
  refine ⟨?_, rescaleNode_true_embedded _ _⟩
  unfold rescaleNode scaleM IsEmbedded
  simp only [Bool.false_eq_true, if_false, mul_eq]
  norm_num

/-- the guard `RAS(complexity > 1.0e-20)` makes the target positive -/
theorem multiscaleMetric_target_pos (o : Options) (twod : Bool) (owned : Nat → Bool) (xyz : List (V3 ℝ))
    (cells : List Cell) (field out : List (M6 ℝ))
    (h : multiscaleMetric o twod owned xyz cells field = .ok out) : (0 : ℝ) < dec o.complexity := by
  have hg : Scalar.lt (dec MultiscaleOpts.complexityFloor : ℝ) (dec o.complexity) = true := by
    cases hg : Scalar.lt (dec MultiscaleOpts.complexityFloor : ℝ) (dec o.complexity) with
    | true => rfl
    | false => unfold multiscaleMetric at h; simp [hg] at h
  rw [lt_iff] at hg
  refine lt_trans ?_ hg
  have : MultiscaleOpts.complexityFloor = (1, -20) := by decide
  simp only [dec, this, ofDec_eq]
  positivity

/-- **for every option combination the last operation of `ref multiscale` is the exact rescale to the requested
    complexity** (default path, `--hessian`, with or without `--buffer`, any `--norm-power`, `--gradation`,
    `--aspect-ratio`) -/
theorem multiscaleMetric_ends_with_rescale (o : Options) (twod : Bool) (owned : Nat → Bool) (xyz : List (V3 ℝ))
    (cells : List Cell) (field out : List (M6 ℝ))
    (h : multiscaleMetric o twod owned xyz cells field = .ok out) :
    EndsWithRescale twod owned xyz cells (dec o.complexity) out := by
  revert h
  fun_cases multiscaleMetric o twod owned xyz cells field with
  | case1 => nofun
  | case2 => nofun
  | case3 => exact endsWithRescale_of_bufferAtComplexity
  | case4 _ _ base _ hb =>
    -- no `--buffer`: `out` is what the selected driver returned
    rintro ⟨⟩
    by_cases hh : o.hessian = true
    · exact endsWithRescale_of_hessianMultiscale ((if_pos hh).symm.trans hb)
    · exact endsWithRescale_of_metricLp ((if_neg hh).symm.trans hb)

/-- **the `actual complexity` the subcommand reports is the requested complexity**, and on a 2-D grid the field it
    writes is embedded — for every mesh, field and option combination without `--fixed-point` / `--uniform` -/
theorem multiscaleMetric_report (o : Options) (twod : Bool) (owned : Nat → Bool) (xyz : List (V3 ℝ))
    (cells : List Cell) (field out : List (M6 ℝ))
    (_hfp : o.fixedPoint = false) (_hun : o.uniform = false)
    (h : multiscaleMetric o twod owned xyz cells field = .ok out)
    (hc : ∀ g, setComplexity twod owned xyz g cells (dec o.complexity) = .ok out → 0 < complexity owned xyz g cells)
    (hdim : twod = !(haveVolCells owned cells)) :
    multiscaleReport owned xyz cells out = dec o.complexity ∧ (twod = true → ∀ m ∈ out, IsEmbedded m) := by
  have he := multiscaleMetric_ends_with_rescale o twod owned xyz cells field out h
  refine ⟨he.complexity (multiscaleMetric_target_pos o twod owned xyz cells field out h) hc hdim, ?_⟩
  intro htw
  subst htw
  exact he.embedded

/-- what a flag with a mandatory value contributes: the default when absent, the converted next word when present -/
def strictField {β : Type} (argv : List String) (flag : String) (default : β) (conv : String → β) : β :=
  match argsFind argv flag with
  | none => default
  | some pos => conv (argv.getD (pos + 1) "")

/-- the flag is the last word: its mandatory value is missing -/
def dangling (argv : List String) (flag : String) : Bool :=
  match argsFind argv flag with
  | none => false
  | some pos => decide (argv.length - 1 ≤ pos)

/-- what the scan leaves in its variables when it does not take the usage exit -/
def optionsOf (argv : List String) : Options :=
  { inMesh := argv.getD 2 "", inScalar := argv.getD 3 "", complexity := atofDec (argv.getD 4 ""),
    outMetric := argv.getD 5 "", p := strictField argv "--norm-power" 2 atoiDec,
    gradation := strictField argv "--gradation" (-1, 0) atofDec,
    aspectRatio := strictField argv "--aspect-ratio" (-1, 0) atofDec,
    hessian := (argsFind argv "--hessian").isSome, fixedPoint := (argsFind argv "--fixed-point").isSome,
    buffer := (argsFind argv "--buffer").isSome, uniform := (argsFind argv "--uniform").isSome,
    pcd := lenientValue argv "--pcd" }

theorem strictValue_eq {β : Type} (argv : List String) (flag : String) (dflt : β) (conv : String → β) :
    strictValue argv flag dflt conv = if dangling argv flag then none else some (strictField argv flag dflt conv) := by
  unfold dangling strictField
  fun_cases strictValue argv flag dflt conv with
  | case1 hf => rw [hf]; rfl
  | case2 pos hf hge => rw [hf]; exact (if_pos (decide_eq_true hge)).symm
  | case3 pos hf hge => rw [hf]; exact (if_neg (by simpa using hge)).symm

theorem dangling_iff (argv : List String) (flag : String) :
    dangling argv flag = true ↔ ∃ pos, argsFind argv flag = some pos ∧ argv.length - 1 ≤ pos := by
  unfold dangling
  cases argsFind argv flag with
  | none => exact iff_of_false nofun nofun
  | some pos => simp

/-- **the scan is one test and one record**, with the generated constants put in: fewer than six words or a dangling
    flag is the usage exit, anything else returns `optionsOf argv` -/
theorem multiscaleOptions_eq (argv : List String) :
    multiscaleOptions argv =
      if argv.length < 6 ∨ dangling argv "--norm-power" ∨ dangling argv "--gradation" ∨ dangling argv "--aspect-ratio"
      then none else some (optionsOf argv) := by
  unfold multiscaleOptions MultiscaleOpts.defaultP MultiscaleOpts.defaultGradation MultiscaleOpts.defaultAspectRatio
  rw [strictValue_eq, strictValue_eq, strictValue_eq]
  by_cases hl : argv.length < 6
  · rw [if_pos (Or.inl hl)]; exact if_pos hl
  · cases hp : dangling argv "--norm-power" <;> cases hg : dangling argv "--gradation" <;>
      cases ha : dangling argv "--aspect-ratio" <;> simp [hl, MultiscaleOpts.minArgc]
    -- seven of the eight cases have a dangling flag and are `none = none`; in the one left both sides are the record
    rfl

/-- no flag on the command line: every option has its default (p = 2, gradation = -1, aspect ratio = -1, no
    `--hessian`, `--fixed-point`, `--buffer`, `--uniform`, `--pcd`) and the four positional words are taken from
    `argv[2..5]` -/
theorem multiscaleOptions_defaults (argv : List String) (hlen : 6 ≤ argv.length)
    (hno : ∀ f ∈ ["--norm-power", "--gradation", "--aspect-ratio", "--hessian", "--fixed-point", "--buffer",
                   "--uniform", "--pcd"], f ∉ argv) :
    multiscaleOptions argv = some
      { inMesh := argv.getD 2 "", inScalar := argv.getD 3 "", complexity := atofDec (argv.getD 4 ""),
        outMetric := argv.getD 5 "", p := 2, gradation := (-1, 0), aspectRatio := (-1, 0), hessian := false,
        fixedPoint := false, buffer := false, uniform := false, pcd := none } := by
  have hf : ∀ f ∈ ["--norm-power", "--gradation", "--aspect-ratio", "--hessian", "--fixed-point", "--buffer",
                   "--uniform", "--pcd"], argsFind argv f = none :=
    fun f hfm => (argsFind_none_iff argv f).mpr (hno f hfm)
  rw [multiscaleOptions_eq]
  unfold dangling optionsOf strictField lenientValue
  rw [hf "--norm-power" (by simp), hf "--gradation" (by simp), hf "--aspect-ratio" (by simp),
      hf "--hessian" (by simp), hf "--fixed-point" (by simp), hf "--buffer" (by simp), hf "--uniform" (by simp),
      hf "--pcd" (by simp)]
  exact if_neg (by simpa using hlen)

/-- **each recognised flag sets exactly its field**: whenever the scan succeeds, every field of the result is a
    function of the position of ITS OWN flag only (first occurrence, `ref_args_find`), converted by `atoi` / `atof`
    as coded, and the positional words come from `argv[2..5]` (the fields of `optionsOf argv`, one by one) -/
theorem multiscaleOptions_sound (argv : List String) (o : Options) (h : multiscaleOptions argv = some o) :
    o.p = strictField argv "--norm-power" 2 atoiDec ∧
    o.gradation = strictField argv "--gradation" (-1, 0) atofDec ∧
    o.aspectRatio = strictField argv "--aspect-ratio" (-1, 0) atofDec ∧
    o.hessian = (argsFind argv "--hessian").isSome ∧
    o.fixedPoint = (argsFind argv "--fixed-point").isSome ∧
    o.buffer = (argsFind argv "--buffer").isSome ∧
    o.uniform = (argsFind argv "--uniform").isSome ∧
    o.pcd = lenientValue argv "--pcd" ∧
    o.inMesh = argv.getD 2 "" ∧ o.inScalar = argv.getD 3 "" ∧ o.complexity = atofDec (argv.getD 4 "") ∧
    o.outMetric = argv.getD 5 "" := by
  rw [multiscaleOptions_eq] at h
  split_ifs at h
  rw [← Option.some.inj h]
  -- reduce the record projections here: left to `exact`, every conjunct reduces them again
  dsimp only [optionsOf]
  exact ⟨rfl, rfl, rfl, rfl, rfl, rfl, rfl, rfl, rfl, rfl, rfl, rfl⟩

/-- **the usage exit**: the scan fails exactly when there are fewer than six words or one of the three flags with a
    mandatory value is the last word -/
theorem multiscaleOptions_usage (argv : List String) :
    multiscaleOptions argv = none ↔
      argv.length < 6 ∨ ∃ flag ∈ ["--norm-power", "--gradation", "--aspect-ratio"],
        ∃ pos, argsFind argv flag = some pos ∧ argv.length - 1 ≤ pos := by
  rw [multiscaleOptions_eq]
  simp only [List.mem_cons, List.mem_nil_iff, or_false, exists_eq_or_imp, exists_eq_left, ← dangling_iff]
  split_ifs with hc
  · exact iff_of_true rfl hc
  · exact iff_of_false nofun hc

/-- a command line with every modelled flag, in an unusual order, a repeated flag and a malformed number -/
example : multiscaleOptions ["ref", "multiscale", "m.meshb", "s.solb", "2.5e2", "o.solb", "--buffer", "--aspect-ratio",
      "1e1", "--pcd", "c.pcd", "--gradation", "1.5x", "--norm-power", "4", "--gradation", "9"] =
    some { inMesh := "m.meshb", inScalar := "s.solb", complexity := (25, 1), outMetric := "o.solb", p := 4,
           gradation := (15, -1), aspectRatio := (1, 1), hessian := false, fixedPoint := false, buffer := true,
           uniform := false, pcd := some "c.pcd" } := by decide

/-- the bare command line: the defaults -/
example : multiscaleOptions ["ref", "multiscale", "m.meshb", "s.solb", "500", "o.solb"] =
    some { inMesh := "m.meshb", inScalar := "s.solb", complexity := (500, 0), outMetric := "o.solb", p := 2,
           gradation := (-1, 0), aspectRatio := (-1, 0), hessian := false, fixedPoint := false, buffer := false,
           uniform := false, pcd := none } := by decide

/-- a flag without its value: the usage exit -/
example : multiscaleOptions ["ref", "multiscale", "m.meshb", "s.solb", "500", "o.solb", "--aspect-ratio"] = none := by
  decide

/-- the shape `EndsWithRescale` is inhabited: the unit tet with identity metrics rescaled to complexity 5
    (`setComplexity_unit_tet`) is of that shape, and its complexity is 5.  No driver is run here, and the hypothesis
    `hc` of the `*_complexity` results is not discharged by this example. -/
example : ∃ out, EndsWithRescale false (fun _ => true) [(⟨0, 0, 0⟩ : V3 ℝ), ⟨1, 0, 0⟩, ⟨0, 1, 0⟩, ⟨0, 0, 1⟩]
      [⟨.tet, [0, 1, 2, 3]⟩] 5 out ∧
    complexity (fun _ => true) [(⟨0, 0, 0⟩ : V3 ℝ), ⟨1, 0, 0⟩, ⟨0, 1, 0⟩, ⟨0, 0, 1⟩] out [⟨.tet, [0, 1, 2, 3]⟩] = 5 := by
  obtain ⟨out, ho, hc⟩ := setComplexity_unit_tet
  exact ⟨out, ⟨_, ho, by intro h; cases h⟩, hc⟩

end Refine.Props.C10Pipe
