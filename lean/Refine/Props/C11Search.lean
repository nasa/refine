import Refine.Lemmas.InterpSearch
import Refine.Props.C11
import Refine.Props.C12

/-!
  C11, donor-cell search (`ref_interp.c`: `ref_interp_create_search`, `ref_interp_enclosing_tet/tri_in_list`,
  `ref_interp_tree`, `ref_interp_walk_agent`).  All theorems are about the executable model
  `Refine.Model.Interp` at `ℝ` (exact arithmetic); the same definitions at `Float` are bit-compared with the C by the
  stream `interp_search`.

  Vocabulary (`Refine.Lemmas.Interp`): `Encloses d n x` — `x` lies in the closed donor cell with node ids `n` (triangle for
  a 2-D donor, tetrahedron otherwise); `OkMin d x c m` — candidate `c` is a valid cell whose weights at `x` were computed
  with `REF_SUCCESS` and have minimum `m`; `CellSphere` — a tree entry carries the scaled bounding sphere of a cell.

  Proved: the search sphere of a cell (all `node_per` vertices, radius times `donor_scale ≥ 1`) contains the closed cell;
  the candidate list of `ref_search_touching` contains every cell that encloses the query; the selected candidate has the
  largest min weight, so if a candidate encloses the query the selected one does too, and then the interpolant of a
  linear field is exact (end to end for the tree path, tets); a walk that ends `ENCLOSING` holds a cell whose weights are
  all `≥ inside`.
  NOT proved: walk completeness (that the walk reaches the enclosing cell of a point of the domain: it may stop at the
  boundary of a non-convex domain or after 215 steps — then the tree path takes over, which IS covered); the 2-D
  end-to-end statement needs the query in the donor plane (`ref_node_bary3` ignores z, the search sphere does not).
  Not in this file: the staged `ref_interp_locate` on any number of ranks (geometry-node seeds, the agent queue and its
  migration, the arbitration between ranks) — `Props/C11Locate.lean`.
-/
namespace Refine.Props.C11Search
open Refine Refine.Model.Geom Refine.Model.Search Refine.Model.Interp Refine.ScalarReal Refine.Lemmas.Search
open Refine.Lemmas.Interp Refine.GeomReal

/-- `ref_interp_create_search`, one cell: the sphere computed by `ref_node_bounding_sphere` from ALL `node_per` vertices
    (3 for a 2-D donor, 4 for a tet), radius multiplied by `donor_scale ≥ 1`, contains every vertex and hence (convexity
    of balls) every point of the closed cell -/
theorem boundingSphere_contains_all (d : Donor ℝ) (scale : ℝ) (hs : 1 ≤ scale) (n : CellN) :
    (∀ p ∈ d.cellPts n, edist (cellSphere d scale n).1 p ≤ (cellSphere d scale n).2) ∧
    (∀ x, Encloses d n x → edist (cellSphere d scale n).1 x ≤ (cellSphere d scale n).2) := by
  have hv : ∀ p ∈ d.cellPts n, edist (cellSphere d scale n).1 p ≤ (cellSphere d scale n).2 := by
    simp only [cellSphere, mul_eq]
    exact boundingSphere_scaled_contains hs _
  exact ⟨hv, fun x hx => encloses_in_ball hx _ _ hv⟩

/-- weights from `ref_node_bary4` that are all non-negative put the query in the closed tet -/
theorem bary4_nonneg_encloses (d : Donor ℝ) (h3 : d.twod = false) (n : CellN) (x : V3 ℝ) (w : B4 ℝ)
    (hb : baryOf d n x = (St.ok, w)) (h0 : 0 ≤ w.b0) (h1 : 0 ≤ w.b1) (h2 : 0 ≤ w.b2) (h3' : 0 ≤ w.b3) :
    Encloses d n x := by
  rw [baryOf_3d h3] at hb
  have hsum := Refine.Props.C15.bary4_sum hb
  have hrep := Refine.Props.C15.bary4_reproduce hb
  unfold Encloses
  simp only [h3, Bool.false_eq_true, if_false]
  refine ⟨w.b0, w.b1, w.b2, w.b3, h0, h1, h2, h3', hsum, ?_⟩
  rw [← hrep]
  simp only [comb4, vadd, vsmul]

/-- 2-D: `ref_node_bary3` only looks at x and y; for a query in the donor plane (its z is the same combination of the
    vertices' z, e.g. everything at z = 0) non-negative weights put the query in the closed triangle -/
theorem bary3_nonneg_encloses (d : Donor ℝ) (h2d : d.twod = true) (n : CellN) (x : V3 ℝ) (w : B4 ℝ)
    (hb : baryOf d n x = (St.ok, w)) (h0 : 0 ≤ w.b0) (h1 : 0 ≤ w.b1) (h2 : 0 ≤ w.b2)
    (hz : w.b0 * (d.pt n.n0).z + w.b1 * (d.pt n.n1).z + w.b2 * (d.pt n.n2).z = x.z) :
    Encloses d n x := by
  obtain ⟨w3, hb3, rfl⟩ := baryOf_twod_ok h2d hb
  obtain ⟨hx, hy⟩ := Refine.Props.C15.bary3_reproduce hb3
  unfold Encloses
  rw [if_pos h2d]
  exact ⟨_, _, _, h0, h1, h2, Refine.Props.C15.bary3_sum hb3, GeomReal.V3.ext' hx.symm hy.symm hz.symm⟩

/-- `ref_search_touching` on the tree of `ref_interp_create_search`: if the query lies in the closed donor cell `c` then
    `c` is in the candidate list — for every `donor_scale ≥ 1` and every `search_fuzz ≥ 0`, whatever the tree shape -/
theorem tree_candidates_complete (d : Donor ℝ) (scale fuzz : ℝ) (hs : 1 ≤ scale) (hf : 0 ≤ fuzz) (s : Search ℝ)
    (hc : createSearch d scale = (.ok, some s)) (c : Int) (n : CellN) (hmem : (c, n) ∈ d.cells) (x : V3 ℝ)
    (hx : Encloses d n x) : c ∈ s.touching x fuzz := by
  obtain ⟨hinv, _, hall⟩ := createSearch_spec d scale .ok s hc
  obtain ⟨e, he, hsp⟩ := hall rfl (c, n) hmem
  rw [Refine.Props.C12.touching_exact s hinv]
  have hin := cellSphere_contains hsp hs x hx
  refine List.mem_map.mpr ⟨e, List.mem_filter.mpr ⟨he, ?_⟩, hsp.1⟩
  simp only [decide_eq_true_eq]
  linarith

/-- and every candidate is a valid donor cell id -/
theorem tree_candidates_valid (d : Donor ℝ) (scale fuzz : ℝ) (s : Search ℝ) (st : Refine.Model.Search.Status)
    (hc : createSearch d scale = (st, some s)) (x : V3 ℝ) (c : Int) (hcand : c ∈ s.touching x fuzz) :
    d.cellAt c ≠ none := by
  obtain ⟨hinv, hent, _⟩ := createSearch_spec d scale st s hc
  obtain ⟨e, he, hitem, _⟩ := Refine.Props.C12.touching_only_overlaps s hinv x fuzz c hcand
  obtain ⟨p, hp, hsp⟩ := hent e he
  have := cellAt_ne_none_of_mem hp
  rw [← hsp.1, hitem] at this
  exact this

/-- `ref_interp_enclosing_tet_in_list` / `_tri_in_list`, success: the returned cell is a member of the list, the returned
    weights are its weights at the query, and its min weight is the maximum over all candidates whose weights could be
    computed (`REF_DIV_ZERO` candidates are skipped) -/
theorem inList_max_min (d : Donor ℝ) (l : List Int) (x : V3 ℝ) (c : Int) (b : B4 ℝ)
    (hne : ∀ c ∈ l, c ≠ refEmpty) (h : enclosingInList d l x = (.ok, c, b)) :
    c ∈ l ∧ (∃ n, d.cellAt c = some n ∧ baryOf d n x = (St.ok, b)) ∧
    ∀ c' ∈ l, ∀ m, OkMin d x c' m → m ≤ minBary d.twod b := by
  obtain ⟨⟨m, hfold⟩, hc, n, hca, hb⟩ := enclosingInList_ok h
  obtain ⟨a1, _, a3⟩ := inListFold_spec d x l bestInit _ hfold hne
  rcases a1 with hbest | ⟨hm, hok⟩
  · exact absurd (congrArg Prod.fst hbest) hc
  · refine ⟨hm, ⟨n, hca, hb⟩, fun c' hc' m' hm' => ?_⟩
    rw [← okMin_unique hok ⟨n, b, hca, hb, rfl⟩]
    exact (a3 c' hc' m' hm').2

/-- if some candidate encloses the query (all its weights `≥ 0`), the selected cell has min weight `≥ 0`: it encloses the
    query too, every returned weight is non-negative -/
theorem inList_picks_enclosing (d : Donor ℝ) (l : List Int) (x : V3 ℝ) (c : Int) (b : B4 ℝ)
    (hne : ∀ c ∈ l, c ≠ refEmpty) (h : enclosingInList d l x = (.ok, c, b))
    (c' : Int) (hc' : c' ∈ l) (n' : CellN) (w' : B4 ℝ) (hcell : d.cellAt c' = some n')
    (hw : baryOf d n' x = (St.ok, w')) (h0 : 0 ≤ w'.b0) (h1 : 0 ≤ w'.b1) (h2 : 0 ≤ w'.b2) (h3 : 0 ≤ w'.b3) :
    0 ≤ minBary d.twod b ∧ 0 ≤ b.b0 ∧ 0 ≤ b.b1 ∧ 0 ≤ b.b2 ∧ (d.twod = false → 0 ≤ b.b3) := by
  obtain ⟨_, _, hmax⟩ := inList_max_min d l x c b hne h
  have hb := ((le_minBary_iff d.twod w' 0).2 ⟨h0, h1, h2, fun _ => h3⟩).trans
    (hmax c' hc' _ ⟨n', w', hcell, hw, rfl⟩)
  exact ⟨hb, (le_minBary_iff d.twod b 0).1 hb⟩

/-- the selection cannot fail when every candidate is a valid cell and at least one has computable weights -/
theorem inList_succeeds (d : Donor ℝ) (l : List Int) (x : V3 ℝ) (hne : ∀ c ∈ l, c ≠ refEmpty)
    (hv : ∀ c ∈ l, d.cellAt c ≠ none) (c' : Int) (hc' : c' ∈ l) (m : ℝ) (hok : OkMin d x c' m) :
    ∃ c b, enclosingInList d l x = (.ok, c, b) := by
  obtain ⟨r, hfold⟩ := inListFold_noerr d x l bestInit hv
  obtain ⟨a1, _, a3⟩ := inListFold_spec d x l bestInit r hfold hne
  have hr := (a3 c' hc' m hok).1
  rcases a1 with hbest | ⟨_, n, b, hca, hb, _⟩
  · exact absurd (by rw [hbest]; rfl) hr
  · refine ⟨r.1, b, ?_⟩
    unfold enclosingInList
    simp only [hfold]
    have : (r.1 == refEmpty) = false := by simpa using hr
    simp only [this, Bool.false_eq_true, if_false, hca, hb]

/-- `ref_interp_tree` for one receptor vertex of a tet donor, followed by `ref_interp_scalar`: if the vertex lies in some
    donor tet `c₀` (all weights of `ref_node_bary4` non-negative) then, for every `donor_scale ≥ 1` and `search_fuzz ≥ 0`,
    the tree path succeeds, stores a cell whose weights are all non-negative, and the interpolant of every field that is
    linear in space is EXACT at the vertex -/
theorem tree_linear_exact_inside (d : Donor ℝ) (h3d : d.twod = false) (hid : ∀ p ∈ d.cells, 0 ≤ p.1)
    (scale fuzz : ℝ) (hs : 1 ≤ scale) (hf : 0 ≤ fuzz) (s : Search ℝ) (hc : createSearch d scale = (.ok, some s))
    (x : V3 ℝ) (c0 : Int) (n0 : CellN) (w0 : B4 ℝ) (hcell : d.cellAt c0 = some n0)
    (hw : baryOf d n0 x = (St.ok, w0)) (h0 : 0 ≤ w0.b0) (h1 : 0 ≤ w0.b1) (h2 : 0 ≤ w0.b2) (h3 : 0 ≤ w0.b3)
    (α : ℝ) (g : V3 ℝ) :
    ∃ c n b, treeOne d s fuzz x = (.ok, c, b) ∧ d.cellAt c = some n ∧
      0 ≤ b.b0 ∧ 0 ≤ b.b1 ∧ 0 ≤ b.b2 ∧ 0 ≤ b.b3 ∧
      interpScalar 4 b ⟨α + vdot g (d.pt n.n0), α + vdot g (d.pt n.n1), α + vdot g (d.pt n.n2), α + vdot g (d.pt n.n3)⟩ =
        (St.ok, α + vdot g x) := by
  have henc := bary4_nonneg_encloses d h3d n0 x w0 hw h0 h1 h2 h3
  have hcand := tree_candidates_complete d scale fuzz hs hf s hc c0 n0 (cellAt_mem hcell) x henc
  have hvalid : ∀ c ∈ s.touching x fuzz, d.cellAt c ≠ none :=
    fun c hcd => tree_candidates_valid d scale fuzz s .ok hc x c hcd
  have hne : ∀ c ∈ s.touching x fuzz, c ≠ refEmpty := by
    intro c hcd hce
    cases hca : d.cellAt c with
    | none => exact hvalid c hcd hca
    | some n =>
      have := hid _ (cellAt_mem hca)
      rw [hce] at this
      simp [refEmpty] at this
  obtain ⟨c, b, hsel⟩ := inList_succeeds d _ x hne hvalid c0 hcand _ ⟨n0, w0, hcell, hw, rfl⟩
  obtain ⟨_, ⟨n, hca, hb⟩, _⟩ := inList_max_min d _ x c b hne hsel
  obtain ⟨_, p0, p1, p2, p3⟩ := inList_picks_enclosing d _ x c b hne hsel c0 hcand n0 w0 hcell hw h0 h1 h2 h3
  refine ⟨c, n, b, ?_, hca, p0, p1, p2, p3 h3d, ?_⟩
  · unfold treeOne
    rwa [if_neg (by simpa using List.ne_nil_of_mem hcand)]
  · rw [baryOf_3d h3d] at hb
    exact Refine.Props.C11.interp_linear_inside α hb p0 p1 p2 (p3 h3d)

/-- `ref_interp_walk_agent` is sound: whenever a walking agent comes back `ENCLOSING` (the only mode in which the callers
    use its cell), the status is `REF_SUCCESS`, the seed is a valid donor cell, the stored weights are that cell's weights
    at the query, and each of the four is `≥ inside` (-1e-12).  Every other outcome (boundary, step limit, error) claims no
    cell: the loop has at most `215 - step` iterations (it is structurally recursive on that number) and leaving it by
    the bound sets `TERMINATED`. -/
theorem walk_sound (d : Donor ℝ) (inside : ℝ) (x : V3 ℝ) (a a' : Agent ℝ) (st : ISt) (hw : a.mode = .walking)
    (h : walkAgent d inside x a = (st, a')) (he : a'.mode = .enclosing) :
    st = .ok ∧ ∃ n, d.cellAt a'.seed = some n ∧ a'.bary = (baryOf d n x).2 ∧
      inside ≤ a'.bary.b0 ∧ inside ≤ a'.bary.b1 ∧ inside ≤ a'.bary.b2 ∧ inside ≤ a'.bary.b3 := by
  unfold walkAgent at h
  obtain ⟨h1, n, h2, h3, h4⟩ := walkLoop_sound d inside x _ a a' st h (by rw [hw]; simp) he
  refine ⟨h1, n, h2, h3, ?_⟩
  simp only [baryInside, Scalar.bge, Bool.and_eq_true, le_iff] at h4
  exact ⟨h4.1.1.1, h4.1.1.2, h4.1.2, h4.2⟩

/-- an agent past the step limit is terminated at once, without looking at any cell -/
theorem walk_limit (d : Donor ℝ) (inside : ℝ) (x : V3 ℝ) (a : Agent ℝ) (h : walkLimit ≤ a.step) :
    walkAgent d inside x a = (.ok, { a with mode := .terminated }) := by
  unfold walkAgent
  have : walkLimit - a.step = 0 := by omega
  rw [this]
  rfl

/-- `ref_interp_locate_node` (serial): a located node either comes from the walk (weights `≥ inside`) or from the tree
    candidates (largest min weight among the candidates) -/
theorem locateNode_sound (d : Donor ℝ) (s : Search ℝ) (inside fuzz : ℝ) (seed : Int) (x : V3 ℝ) (c : Int) (b : B4 ℝ)
    (hne : ∀ c ∈ s.touching x fuzz, c ≠ refEmpty) (h : locateNode d s inside fuzz seed x = (.ok, c, b)) :
    (∃ n, d.cellAt c = some n ∧ b = (baryOf d n x).2 ∧
        inside ≤ b.b0 ∧ inside ≤ b.b1 ∧ inside ≤ b.b2 ∧ inside ≤ b.b3) ∨
    (c ∈ s.touching x fuzz ∧ (∃ n, d.cellAt c = some n ∧ baryOf d n x = (St.ok, b)) ∧
        ∀ c' ∈ s.touching x fuzz, ∀ m, OkMin d x c' m → m ≤ minBary d.twod b) := by
  revert h
  fun_cases locateNode d s inside fuzz seed x <;> intro h
  -- the walk from the seed comes back `ENCLOSING`
  case case1 a hwalk hm =>
    cases h
    exact .inl (walk_sound d inside x _ a .ok rfl hwalk (by simpa using hm)).2
  -- it does not: the tree candidates, and the selection among them succeeds
  case case3 a hwalk hm l hl c' b' hsel =>
    cases h
    exact .inr (inList_max_min d _ x _ _ hne hsel)
  all_goals exact absurd (Prod.mk.inj h).1 (by simp_all)

/-- the unit tet as a one-cell donor grid -/
def unitDonor : Donor ℝ := ⟨false, [⟨0, 0, 0⟩, ⟨1, 0, 0⟩, ⟨0, 1, 0⟩, ⟨0, 0, 1⟩], [(0, ⟨0, 1, 2, 3⟩)], []⟩

example : unitDonor.cellAt 0 = some ⟨0, 1, 2, 3⟩ := by simp [Donor.cellAt, unitDonor]

/-- `ref_interp_create_search` succeeds on it with the default `donor_scale = 2` -/
example : ∃ s : Search ℝ, createSearch unitDonor 2 = (.ok, some s) := by
  simp [createSearch, createSearchGo, Search.create, Search.insert, unitDonor]

theorem unitDonor_centroid :
    baryOf unitDonor ⟨0, 1, 2, 3⟩ ⟨1 / 4, 1 / 4, 1 / 4⟩ = (St.ok, ⟨1 / 4, 1 / 4, 1 / 4, 1 / 4⟩) := by
  rw [baryOf_3d rfl]
  exact Refine.Props.C15.bary4_unit_centroid

/-- every hypothesis of `tree_linear_exact_inside` holds for the centroid of the unit tet: the conclusion is then a
    statement about a concrete successful tree search -/
example (s : Search ℝ) (hc : createSearch unitDonor 2 = (.ok, some s)) (α : ℝ) (g : V3 ℝ) :
    ∃ c n b, treeOne unitDonor s (fuzzDefault : ℝ) ⟨1 / 4, 1 / 4, 1 / 4⟩ = (.ok, c, b) ∧ unitDonor.cellAt c = some n ∧
      0 ≤ b.b0 ∧ 0 ≤ b.b1 ∧ 0 ≤ b.b2 ∧ 0 ≤ b.b3 ∧
      interpScalar 4 b ⟨α + vdot g (unitDonor.pt n.n0), α + vdot g (unitDonor.pt n.n1), α + vdot g (unitDonor.pt n.n2),
        α + vdot g (unitDonor.pt n.n3)⟩ = (St.ok, α + vdot g ⟨1 / 4, 1 / 4, 1 / 4⟩) := by
  refine tree_linear_exact_inside unitDonor rfl ?_ 2 fuzzDefault (by norm_num) ?_ s hc _ 0 ⟨0, 1, 2, 3⟩ _ ?_
    unitDonor_centroid (by norm_num) (by norm_num) (by norm_num) (by norm_num) α g
  · intro p hp
    simp only [unitDonor, List.mem_singleton] at hp
    subst hp
    simp
  · simp only [fuzzDefault, ofDec_eq]
    positivity
  · simp [Donor.cellAt, unitDonor]

/-- the walk started in that cell for the centroid comes back `ENCLOSING` at once: the hypothesis of `walk_sound` is met -/
example : (walkAgent unitDonor (insideDefault : ℝ) ⟨1 / 4, 1 / 4, 1 / 4⟩ ⟨.walking, 0, 0, zeroB4⟩).2.mode = .enclosing := by
  have hca : unitDonor.cellAt 0 = some ⟨0, 1, 2, 3⟩ := by simp [Donor.cellAt, unitDonor]
  have hin : baryInside (insideDefault : ℝ) (⟨1 / 4, 1 / 4, 1 / 4, 1 / 4⟩ : B4 ℝ) = true := by
    simp only [baryInside, Scalar.bge, Bool.and_eq_true, le_iff, insideDefault, ofDec_eq]
    norm_num
  have hit : walkIter unitDonor (insideDefault : ℝ) ⟨1 / 4, 1 / 4, 1 / 4⟩ ⟨.walking, 0, 0, zeroB4⟩ =
      .done ⟨.enclosing, 0, 0, ⟨1 / 4, 1 / 4, 1 / 4, 1 / 4⟩⟩ := by
    unfold walkIter
    simp only [hca, unitDonor_centroid, hin, if_true]
  show (walkLoop unitDonor _ _ (214 + 1) _).2.mode = _
  simp only [walkLoop, hit]
  simp

/-- the enclosure hypothesis `0 ≤ minBary` separates: it holds for the weights of the centroid and fails for weights with a
    negative entry (a point beyond the face opposite vertex 0) -/
example : (0 : ℝ) ≤ minBary false (⟨1 / 4, 1 / 4, 1 / 4, 1 / 4⟩ : B4 ℝ) ∧
    ¬ (0 : ℝ) ≤ minBary false (⟨-1 / 2, 1 / 2, 1 / 2, 1 / 2⟩ : B4 ℝ) := by
  simp only [minBary, Bool.false_eq_true, if_false, cmin_eq]
  constructor <;> norm_num

end Refine.Props.C11Search
