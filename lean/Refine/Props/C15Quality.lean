import Refine.Lemmas.QualityExample

/-!
  C15, quality part: theorems about the executable model of `ref_node_{tet,tri}_{epic,jac}_quality` and
  `..._dquality_dnode0` (`Model/Quality.lean`, bit-compared with the C by stream `quality`), at `α := ℝ`.
-/
namespace Refine.Props.C15Quality
open Refine Refine.Model.Geom Refine.Model.Quality Refine.ScalarReal Refine.GeomReal Refine.QualityReal
open Refine.QualityDeriv Refine.Props.C15 Refine.QualityExample
open Filter Topology

/-! Value consistency: the quality returned together with the derivative IS the plain quality
    (the C keeps two copies of each formula; the tie binds each copy to its model, these theorems bind the models) -/

/-- `ref_node_tet_epic_dquality_dnode0` returns the quality of `ref_node_tet_epic_quality` -/
theorem tet_epic_dquality_value (minVol : ℝ) (n0 n1 n2 n3 : QNode ℝ) :
    (tetEpicDquality minVol n0 n1 n2 n3).1 = tetEpicQuality minVol n0 n1 n2 n3 := by
  unfold tetEpicDquality tetEpicQuality
  simp only [dratio_value, Refine.Props.C15.tetDvol_value]
  split
  · rfl
  · split <;> rfl

/-- `ref_node_tet_jac_dquality_dnode0` returns the quality (and the status) of `ref_node_tet_jac_quality` -/
theorem tet_jac_dquality_value (minVol : ℝ) (n0 n1 n2 n3 : QNode ℝ) :
    (tetJacDquality minVol n0 n1 n2 n3).map Prod.fst = tetJacQuality minVol n0 n1 n2 n3 := by
  unfold tetJacDquality tetJacQuality
  simp only [Refine.Props.C15.tetDvol_value]
  by_cases hv : (tetVol n0.x n1.x n2.x n3.x <=. minVol) = true
  · simp only [hv, if_true]
    rfl
  · simp only [hv, Bool.false_eq_true, if_false]
    cases Model.Matrix.expM (toMx (avg4 n0.l n1.l n2.l n3.l)) with
    | error e => rfl
    | ok mx =>
      simp only []
      cases Model.Matrix.jacobM mx with
      | error e => rfl
      | ok j =>
        simp only []
        exact map_fst_ite _ _ _ _ _

/-- `ref_node_tet_dquality_dnode0` agrees with `ref_node_tet_quality` for every selector value -/
theorem tet_dquality_value (sel : QSel) (minVol : ℝ) (n0 n1 n2 n3 : QNode ℝ) :
    (tetDquality sel minVol n0 n1 n2 n3).map Prod.fst = tetQuality sel minVol n0 n1 n2 n3 := by
  cases sel
  · simp only [tetDquality, tetQuality, Except.map, tet_epic_dquality_value]
  · exact tet_jac_dquality_value minVol n0 n1 n2 n3
  · rfl

/-- `ref_node_tri_epic_dquality_dnode0` returns the quality of `ref_node_tri_epic_quality` -/
theorem tri_epic_dquality_value (n0 n1 n2 : QNode ℝ) :
    (triEpicDquality n0 n1 n2).1 = triEpicQuality n0 n1 n2 := by
  unfold triEpicDquality triEpicQuality
  simp only [dratio_value, triDarea_value]
  split <;> rfl

/-- `ref_node_tri_jac_dquality_dnode0` returns the quality (and the status) of `ref_node_tri_jac_quality`,
    whatever the caller's `d_quality` array held -/
theorem tri_jac_dquality_value (dq0 : V3 ℝ) (n0 n1 n2 : QNode ℝ) :
    (triJacDquality dq0 n0 n1 n2).map Prod.fst = triJacQuality n0 n1 n2 := by
  unfold triJacDquality triJacQuality
  dsimp only []
  cases Model.Matrix.expM (toMx (avg3 n0.l n1.l n2.l)) with
  | error e => rfl
  | ok mx =>
    simp only []
    cases Model.Matrix.jacobM mx with
    | error e => rfl
    | ok j =>
      simp only []
      exact map_fst_ite _ _ _ _ _

/-- `ref_node_tri_dquality_dnode0` agrees with `ref_node_tri_quality` for every selector value -/
theorem tri_dquality_value (sel : QSel) (dq0 : V3 ℝ) (n0 n1 n2 : QNode ℝ) :
    (triDquality sel dq0 n0 n1 n2).map Prod.fst = triQuality sel n0 n1 n2 := by
  cases sel
  · simp only [triDquality, triQuality, Except.map, tri_epic_dquality_value]
  · exact tri_jac_dquality_value dq0 n0 n1 n2
  · rfl

/-! Derivative exactness (jac tet): the pieces are exact polynomials, the combination is the derivative -/

/-- `Σ eᵀ M e` over the six edges is an exact quadratic in the position of node 0: the coded `d_l2`
    (`-d_e0 - d_e1 - d_e2` of `ref_matrix_vt_m_v_deriv`) is its linear term, the remainder is `3 δᵀMδ`
    (three edges move).  Together with `tetVol_affine0` (Props/C15: the volume is affine, `d_volume` exact)
    every ingredient of the coded gradient is exact, for every displacement `δ`. -/
theorem tetJacL2_expand (m : M6 ℝ) (x0 x1 x2 x3 δ : V3 ℝ) :
    tetJacL2 m (vadd x0 δ) x1 x2 x3 =
      tetJacL2 m x0 x1 x2 x3 + vdot (tetJacDL2 m x0 x1 x2 x3) δ + 3 * vtMv m δ := by
  simp only [tetJacL2, tetJacDL2, vtMv_sub_vadd, vdot, add_eq, sub_eq, neg_eq]; ring

theorem tetJacL2_line (m : M6 ℝ) (x0 x1 x2 x3 δ : V3 ℝ) :
    HasDerivAt (fun t => tetJacL2 m (line x0 δ t) x1 x2 x3) (vdot (tetJacDL2 m x0 x1 x2 x3) δ) 0 :=
  hasDerivAt_of_expand (fun p => tetJacL2 m p x1 x2 x3) (fun ε => 3 * vtMv m ε) x0 _ δ
    (fun t => by rw [vtMv_smul]; ring) (tetJacL2_expand m x0 x1 x2 x3)

/-- on its smooth branch (`volume > min_volume`, `exp_m`/`jacob_m` succeed, `num/l2` divisible)
    `ref_node_tet_jac_quality` returns `tetJacSmooth`: `36/3^(1/3) · (√det M̄ · vol)^(2/3) / Σ eᵀM̄e` -/
theorem tetJacQuality_smooth (minVol : ℝ) (n0 n1 n2 n3 : QNode ℝ) (mx : Model.Matrix.M6 ℝ)
    (j : Model.Matrix.M33 ℝ)
    (hexp : Model.Matrix.expM (toMx (avg4 n0.l n1.l n2.l n3.l)) = .ok mx)
    (hjac : Model.Matrix.jacobM mx = .ok j)
    (hvol : minVol < tetVol n0.x n1.x n2.x n3.x)
    (hdiv : Scalar.divisible ((Real.sqrt (Model.Matrix.detM mx) * tetVol n0.x n1.x n2.x n3.x) ^ ((2 : ℝ) / 3))
              (tetJacL2 (ofMx mx) n0.x n1.x n2.x n3.x) = true) :
    tetJacQuality minVol n0 n1 n2 n3 = .ok (tetJacSmooth mx n0.x n1.x n2.x n3.x) := by
  have hv : (tetVol n0.x n1.x n2.x n3.x <=. minVol) = false := (le_false_iff _ _).mpr hvol
  unfold tetJacQuality
  simp only [hv, hexp, hjac, Bool.false_eq_true, if_false, sqrt_eq, mul_eq, pow_eq, twoThirds_eq, hdiv, if_true,
    div_eq, tetJacSmooth]

/-- the gradient `d` returned by `ref_node_tet_jac_dquality_dnode0` on the smooth branch IS the derivative, with respect
    to the position of node 0 (vertex metrics fixed), of the MODEL FUNCTION `tetJacQuality` (the transcription of
    `ref_node_tet_jac_quality` that the tie compares with the C): for every direction `δ`, `t ↦ quality(node 0 at x0 + t δ)`
    has derivative `d · δ` at `0` (Mathlib `HasDerivAt`).
    `hvim` (`√det · vol ≠ 0`) speaks of the CODED determinant `detM`, which is the determinant or `0`
    (`C16.detM_det_or_zero`: a failed `ref_math_divisible` guard in the elimination gives `0`, also for a positive
    definite matrix such as `⟨1, 1e20, 0, 1e40 + 1, 0, 1⟩`); where it is the determinant, positive definiteness and
    `vol > min_volume ≥ 0` give `hvim`.
    This is the statement "the analytic derivative used by the smoother agrees with finite differences" in the limit. -/
theorem tetJacQuality_hasDerivAt (minVol : ℝ) (n0 n1 n2 n3 : QNode ℝ) (mx : Model.Matrix.M6 ℝ)
    (j : Model.Matrix.M33 ℝ) (q : ℝ) (d δ : V3 ℝ)
    (hexp : Model.Matrix.expM (toMx (avg4 n0.l n1.l n2.l n3.l)) = .ok mx)
    (hjac : Model.Matrix.jacobM mx = .ok j)
    (hvol : minVol < tetVol n0.x n1.x n2.x n3.x)
    (hdiv : Scalar.divisible ((Real.sqrt (Model.Matrix.detM mx) * tetVol n0.x n1.x n2.x n3.x) ^ ((2 : ℝ) / 3))
              (tetJacL2 (ofMx mx) n0.x n1.x n2.x n3.x) = true)
    (hvim : Real.sqrt (Model.Matrix.detM mx) * tetVol n0.x n1.x n2.x n3.x ≠ 0)
    (h : tetJacDquality minVol n0 n1 n2 n3 = .ok (q, d)) :
    HasDerivAt (fun t => qval (tetJacQuality minVol (n0.moved δ t) n1 n2 n3)) (vdot d δ) 0 := by
  have hV := tetVol_line n0.x n1.x n2.x n3.x δ
  have hL := tetJacL2_line (ofMx mx) n0.x n1.x n2.x n3.x δ
  -- the smooth formula has the coded derivative
  have hsm : HasDerivAt (fun t => tetJacSmooth mx (line n0.x δ t) n1.x n2.x n3.x) (vdot d δ) 0 := by
    have hv : (tetVol n0.x n1.x n2.x n3.x <=. minVol) = false := (le_false_iff _ _).mpr hvol
    have hl2 : tetJacL2 (ofMx mx) n0.x n1.x n2.x n3.x ≠ 0 := divisible_ne_zero hdiv
    unfold tetJacDquality at h
    simp only [Refine.Props.C15.tetDvol_value, hv, hexp, hjac, Bool.false_eq_true, if_false, sqrt_eq, mul_eq, pow_eq,
      twoThirds_eq, hdiv, if_true, div_eq, Except.ok.injEq, Prod.mk.injEq] at h
    obtain ⟨_, hd⟩ := h
    subst hd
    have key := hasDerivAt_meanRatio (c36 : ℝ) (Real.sqrt (Model.Matrix.detM mx))
      (fun t => tetVol (line n0.x δ t) n1.x n2.x n3.x) (fun t => tetJacL2 (ofMx mx) (line n0.x δ t) n1.x n2.x n3.x)
      _ _ 0 hV hL (by simpa only [line_zero] using hvim) (by simpa only [line_zero] using hl2)
    simp only [line_zero] at key
    refine HasDerivAt.congr_deriv key ?_
    simp only [vdot, tetJacDL2, negThird_eq, sub_eq, neg_eq]
    ring
  refine hsm.congr_of_eventuallyEq ?_
  -- both branch conditions are open, so near `t = 0` the model function is the smooth formula
  have e1 : ∀ᶠ t in 𝓝 (0 : ℝ), minVol < tetVol (line n0.x δ t) n1.x n2.x n3.x :=
    continuousAt_const.eventually_lt hV.continuousAt (by rw [line_zero]; exact hvol)
  have e2 := eventually_divisible
    (num := fun t => (Real.sqrt (Model.Matrix.detM mx) * tetVol (line n0.x δ t) n1.x n2.x n3.x) ^ ((2 : ℝ) / 3))
    (den := fun t => tetJacL2 (ofMx mx) (line n0.x δ t) n1.x n2.x n3.x)
    ((continuousAt_const.mul hV.continuousAt).rpow_const (Or.inr (by norm_num))) hL.continuousAt
    (by simpa only [line_zero] using hdiv)
  filter_upwards [e1, e2] with t ht1 ht2
  have := tetJacQuality_smooth minVol (n0.moved δ t) n1 n2 n3 mx j hexp hjac ht1 ht2
  rw [this]
  rfl

/-- non-vacuity of `tetJacQuality_smooth` / `tetJacQuality_hasDerivAt`: a tet with four different vertex
    metrics (and four different stored log-metrics) on which the smooth branch is taken -/
example : ∃ q d, tetJacDquality (0 : ℝ) ex0 ex1 ex2 ex3 = .ok (q, d) ∧
    ∀ δ, HasDerivAt (fun t => qval (tetJacQuality 0 (ex0.moved δ t) ex1 ex2 ex3)) (vdot d δ) 0 := by
  obtain ⟨j, hj⟩ := ex_jac
  have hvim : Real.sqrt (Model.Matrix.detM (⟨1, 0, 0, 1, 0, 1⟩ : Model.Matrix.M6 ℝ)) *
      tetVol ex0.x ex1.x ex2.x ex3.x ≠ 0 := by
    rw [ex_det, ex_vol]; simp
  have hvol : (0 : ℝ) < tetVol ex0.x ex1.x ex2.x ex3.x := by rw [ex_vol]; norm_num
  have hdiv : Scalar.divisible ((Real.sqrt (Model.Matrix.detM (⟨1, 0, 0, 1, 0, 1⟩ : Model.Matrix.M6 ℝ)) *
      tetVol ex0.x ex1.x ex2.x ex3.x) ^ ((2 : ℝ) / 3))
      (tetJacL2 (ofMx (⟨1, 0, 0, 1, 0, 1⟩ : Model.Matrix.M6 ℝ)) ex0.x ex1.x ex2.x ex3.x) = true := by
    rw [ex_det, ex_vol, ex_l2, divisible_iff']
    have h1 : ((Real.sqrt 1 * (1 / 6 : ℝ)) ^ ((2 : ℝ) / 3)) ≤ 1 := by
      rw [Real.sqrt_one, one_mul]
      exact Real.rpow_le_one (by norm_num) (by norm_num) (by norm_num)
    have h0 : 0 ≤ ((Real.sqrt 1 * (1 / 6 : ℝ)) ^ ((2 : ℝ) / 3)) := by positivity
    rw [abs_of_nonneg h0]
    have : (1 : ℝ) < (10 : ℝ) ^ (20 : ℤ) * |(9 : ℝ)| := by
      rw [abs_of_pos (by norm_num : (0 : ℝ) < 9)]
      have : (1 : ℝ) ≤ (10 : ℝ) ^ (20 : ℤ) := one_le_zpow₀ (by norm_num) (by norm_num)
      linarith
    linarith
  have hval := tet_jac_dquality_value (0 : ℝ) ex0 ex1 ex2 ex3
  rw [tetJacQuality_smooth 0 ex0 ex1 ex2 ex3 _ j ex_exp hj hvol hdiv] at hval
  cases hq : tetJacDquality (0 : ℝ) ex0 ex1 ex2 ex3 with
  | error e => rw [hq] at hval; simp [Except.map] at hval
  | ok qd =>
    obtain ⟨q, d⟩ := qd
    exact ⟨q, d, rfl, fun δ =>
      tetJacQuality_hasDerivAt 0 ex0 ex1 ex2 ex3 _ j q d δ ex_exp hj hvol hdiv hvim hq⟩

/-! Symmetry: even permutations of the vertices (the smoother passes the smoothed node first) -/

/-- EPIC tet quality is unchanged by the 3-cycle (0 1 2) … -/
theorem tet_epic_quality_cycle012 (mv : ℝ) (n0 n1 n2 n3 : QNode ℝ) :
    tetEpicQuality mv n1 n2 n0 n3 = tetEpicQuality mv n0 n1 n2 n3 := by
  rw [tetEpicQuality_eq, tetEpicQuality_eq, tetVol_cycle012,
    ratio_symm n1.x n0.x n1.m n0.m, ratio_symm n2.x n0.x n2.m n0.m]
  congr 1
  · simp only [min_assoc, min_comm]
  · ring

/-- … and by the 3-cycle (1 2 3); the two generate all twelve even permutations -/
theorem tet_epic_quality_cycle123 (mv : ℝ) (n0 n1 n2 n3 : QNode ℝ) :
    tetEpicQuality mv n0 n2 n3 n1 = tetEpicQuality mv n0 n1 n2 n3 := by
  rw [tetEpicQuality_eq, tetEpicQuality_eq, tetVol_cycle123,
    ratio_symm n2.x n1.x n2.m n1.m, ratio_symm n3.x n1.x n3.m n1.m]
  congr 1
  · simp only [min_assoc, min_left_comm, min_comm]
  · ring

/-- JAC tet quality (status included) is unchanged by the 3-cycle (0 1 2) … -/
theorem tet_jac_quality_cycle012 (mv : ℝ) (n0 n1 n2 n3 : QNode ℝ) :
    tetJacQuality mv n1 n2 n0 n3 = tetJacQuality mv n0 n1 n2 n3 := by
  unfold tetJacQuality
  simp only [tetVol_cycle012, avg4_cycle012, tetJacL2_cycle012]

/-- … and by (1 2 3): all even permutations (the mean of the four log-metrics, the volume and `Σ eᵀMe` are symmetric) -/
theorem tet_jac_quality_cycle123 (mv : ℝ) (n0 n1 n2 n3 : QNode ℝ) :
    tetJacQuality mv n0 n2 n3 n1 = tetJacQuality mv n0 n1 n2 n3 := by
  unfold tetJacQuality
  simp only [tetVol_cycle123, avg4_cycle123, tetJacL2_cycle123]

/-- EPIC triangle quality is unchanged by cyclic (= even) permutations of the vertices -/
theorem tri_epic_quality_cycle (n0 n1 n2 : QNode ℝ) :
    triEpicQuality n1 n2 n0 = triEpicQuality n0 n1 n2 := by
  unfold triEpicQuality
  simp only [triArea_cycle, cmin_eq, ratio_symm n1.x n0.x n1.m n0.m, ratio_symm n2.x n0.x n2.m n0.m, mul_eq, add_eq]
  have hm : min (min (detOf n1.m) (detOf n2.m)) (detOf n0.m) = min (min (detOf n0.m) (detOf n1.m)) (detOf n2.m) := by
    simp only [min_assoc, min_comm]
  have hs : ratioGeometric n1.x n2.x n1.m n2.m * ratioGeometric n1.x n2.x n1.m n2.m +
      ratioGeometric n0.x n1.x n0.m n1.m * ratioGeometric n0.x n1.x n0.m n1.m +
      ratioGeometric n0.x n2.x n0.m n2.m * ratioGeometric n0.x n2.x n0.m n2.m =
      ratioGeometric n0.x n1.x n0.m n1.m * ratioGeometric n0.x n1.x n0.m n1.m +
      ratioGeometric n0.x n2.x n0.m n2.m * ratioGeometric n0.x n2.x n0.m n2.m +
      ratioGeometric n1.x n2.x n1.m n2.m * ratioGeometric n1.x n2.x n1.m n2.m := by ring
  rw [hm, hs]

/-- JAC triangle quality (status included) is unchanged by cyclic permutations of the vertices -/
theorem tri_jac_quality_cycle (n0 n1 n2 : QNode ℝ) : triJacQuality n1 n2 n0 = triJacQuality n0 n1 n2 := by
  rw [triJacQuality_eq, triJacQuality_eq]
  simp only [avg3_cycle, triJacNN_cycle, triJacL2_cycle]

/-- `n·n` (squared normal of the mapped triangle) is an exact quadratic in the position of node 0 with the coded
    bracket `2 n·dn` as linear term -/
theorem triJacNN_expand (J : J9 ℝ) (x0 x1 x2 δ : V3 ℝ) :
    triJacNN J (vadd x0 δ) x1 x2 = triJacNN J x0 x1 x2 + vdot (triJacDNN J x0 x1 x2) δ + triJacNNq J x1 x2 δ := by
  -- `|n + ν|² = |n|² + 2 n·ν + |ν|²` with `ν = (-J δ) × e0`
  rw [triJacDNN_dot]
  simp only [triJacNN, triJacNNq, vectMult_vadd, cross_sub_vadd, dot_vadd_self]

/-- the sum of squared mapped edge lengths is an exact quadratic in node 0 with the coded `dl2` as linear term -/
theorem triJacL2_expand (J : J9 ℝ) (x0 x1 x2 δ : V3 ℝ) :
    triJacL2 J (vadd x0 δ) x1 x2 =
      triJacL2 J x0 x1 x2 + vdot (triJacDL2 J x0 x1 x2) δ + 2 * vdot (vectMult J δ) (vectMult J δ) := by
  simp only [triJacL2, triJacDL2, vectMult_vadd]
  generalize vectMult J x0 = y0
  generalize vectMult J x1 = y1
  generalize vectMult J x2 = y2
  simp only [vectMult, dot, V3.sub, vadd, vdot, add_eq, sub_eq, mul_eq, neg_eq, lit2_eq]
  ring

theorem triJacNN_line (J : J9 ℝ) (x0 x1 x2 δ : V3 ℝ) :
    HasDerivAt (fun t => triJacNN J (line x0 δ t) x1 x2) (vdot (triJacDNN J x0 x1 x2) δ) 0 :=
  hasDerivAt_of_expand (fun p => triJacNN J p x1 x2) (triJacNNq J x1 x2) x0 _ δ (triJacNNq_smul J x1 x2 δ)
    (triJacNN_expand J x0 x1 x2)

theorem triJacL2_line (J : J9 ℝ) (x0 x1 x2 δ : V3 ℝ) :
    HasDerivAt (fun t => triJacL2 J (line x0 δ t) x1 x2) (vdot (triJacDL2 J x0 x1 x2) δ) 0 :=
  hasDerivAt_of_expand (fun p => triJacL2 J p x1 x2) (fun ε => 2 * vdot (vectMult J ε) (vectMult J ε)) x0 _ δ
    (fun t => by rw [vectMult_vsmul]; simp only [vdot, vsmul]; ring) (triJacL2_expand J x0 x1 x2)

/-- on its smooth branch `ref_node_tri_jac_quality` returns `4√3 · (½|n|) / Σ|e|²` of the triangle mapped by `jac` -/
theorem triJacQuality_smooth (n0 n1 n2 : QNode ℝ) (mx : Model.Matrix.M6 ℝ) (jm : Model.Matrix.M33 ℝ)
    (hexp : Model.Matrix.expM (toMx (avg3 n0.l n1.l n2.l)) = .ok mx)
    (hjac : Model.Matrix.jacobM mx = .ok jm)
    (hdiv : Scalar.divisible ((1 / 2 : ℝ) * Real.sqrt (triJacNN (J9.ofM33 jm) n0.x n1.x n2.x))
              (triJacL2 (J9.ofM33 jm) n0.x n1.x n2.x) = true) :
    triJacQuality n0 n1 n2 =
      .ok ((cTriJac : ℝ) * ((1 / 2 : ℝ) * Real.sqrt (triJacNN (J9.ofM33 jm) n0.x n1.x n2.x) /
        triJacL2 (J9.ofM33 jm) n0.x n1.x n2.x)) := by
  rw [triJacQuality_eq, hexp]
  simp only [hjac, triJacTail, half_eq, mul_eq, sqrt_eq, div_eq, hdiv, if_true]

/-- the gradient returned by `ref_node_tri_jac_dquality_dnode0` is the derivative of the MODEL FUNCTION `triJacQuality`
    with respect to the position of node 0 (`HasDerivAt` along every line), on the smooth branch (non-degenerate mapped
    triangle, divisible quotient).  In the other branch the C leaves `d_quality` untouched (`dq0`), see Model/Quality. -/
theorem triJacQuality_hasDerivAt (dq0 : V3 ℝ) (n0 n1 n2 : QNode ℝ) (mx : Model.Matrix.M6 ℝ)
    (jm : Model.Matrix.M33 ℝ) (q : ℝ) (d δ : V3 ℝ)
    (hexp : Model.Matrix.expM (toMx (avg3 n0.l n1.l n2.l)) = .ok mx)
    (hjac : Model.Matrix.jacobM mx = .ok jm)
    (hnn : 0 < triJacNN (J9.ofM33 jm) n0.x n1.x n2.x)
    (hdiv : Scalar.divisible ((1 / 2 : ℝ) * Real.sqrt (triJacNN (J9.ofM33 jm) n0.x n1.x n2.x))
              (triJacL2 (J9.ofM33 jm) n0.x n1.x n2.x) = true)
    (h : triJacDquality dq0 n0 n1 n2 = .ok (q, d)) :
    HasDerivAt (fun t => qval (triJacQuality (n0.moved δ t) n1 n2)) (vdot d δ) 0 := by
  set J := J9.ofM33 jm with hJ
  have hl2 : triJacL2 J n0.x n1.x n2.x ≠ 0 := divisible_ne_zero hdiv
  have hN := triJacNN_line J n0.x n1.x n2.x δ
  have hL := triJacL2_line J n0.x n1.x n2.x δ
  -- the smooth formula has the coded derivative
  have key := hasDerivAt_triRatio (cTriJac : ℝ) (fun t => triJacNN J (line n0.x δ t) n1.x n2.x)
    (fun t => triJacL2 J (line n0.x δ t) n1.x n2.x) _ _ 0 hN hL (by simpa only [line_zero] using hnn)
    (by simpa only [line_zero] using hl2)
  simp only [line_zero] at key
  refine (key.congr_deriv ?_).congr_of_eventuallyEq ?_
  · -- the coded gradient, components folded back into `triJacDNN`, `triJacDL2`
    have hdivm : Scalar.divisible (half *. Scalar.sqrt (triJacNN J n0.x n1.x n2.x)) (triJacL2 J n0.x n1.x n2.x) = true := by
      simpa only [half_eq, mul_eq, sqrt_eq] using hdiv
    have hform : triJacDquality dq0 n0 n1 n2 = .ok
        (cTriJac *. ((half *. Scalar.sqrt (triJacNN J n0.x n1.x n2.x)) /. triJacL2 J n0.x n1.x n2.x),
        let g (a b : ℝ) : ℝ := cTriJac *. ((half *. half /. Scalar.sqrt (triJacNN J n0.x n1.x n2.x) *. a) *.
          triJacL2 J n0.x n1.x n2.x -. (half *. Scalar.sqrt (triJacNN J n0.x n1.x n2.x)) *. b) /.
          triJacL2 J n0.x n1.x n2.x /. triJacL2 J n0.x n1.x n2.x
        (⟨g (triJacDNN J n0.x n1.x n2.x).x (triJacDL2 J n0.x n1.x n2.x).x,
          g (triJacDNN J n0.x n1.x n2.x).y (triJacDL2 J n0.x n1.x n2.x).y,
          g (triJacDNN J n0.x n1.x n2.x).z (triJacDL2 J n0.x n1.x n2.x).z⟩ : V3 ℝ)) := by
      unfold triJacDquality
      simp only [hexp, hjac]
      change (if Scalar.divisible (half *. Scalar.sqrt (triJacNN J n0.x n1.x n2.x)) (triJacL2 J n0.x n1.x n2.x) = true
        then _ else _) = _
      rw [if_pos hdivm]
      rfl
    rw [hform] at h
    simp only [Except.ok.injEq, Prod.mk.injEq] at h
    obtain ⟨_, hdd⟩ := h
    subst hdd
    simp only [vdot, half_eq, sqrt_eq, mul_eq, div_eq, sub_eq]
    ring
  · have e2 := eventually_divisible (num := fun t => (1 / 2 : ℝ) * Real.sqrt (triJacNN J (line n0.x δ t) n1.x n2.x))
      (den := fun t => triJacL2 J (line n0.x δ t) n1.x n2.x)
      (continuousAt_const.mul (Real.continuous_sqrt.continuousAt.comp hN.continuousAt)) hL.continuousAt
      (by simpa only [line_zero] using hdiv)
    filter_upwards [e2] with t ht
    have := triJacQuality_smooth (n0.moved δ t) n1 n2 mx jm hexp hjac ht
    rw [this]
    rfl

/-- on its smooth branch `ref_node_tet_epic_quality` returns `tetEpicSmooth` at the position of node 0 -/
theorem tetEpicQuality_smooth (minVol : ℝ) (n0 n1 n2 n3 : QNode ℝ)
    (hvol : minVol < tetVol n0.x n1.x n2.x n3.x)
    (hdiv : Scalar.divisible
      ((Real.sqrt (min (min (min (detOf n0.m) (detOf n1.m)) (detOf n2.m)) (detOf n3.m)) *
          tetVol n0.x n1.x n2.x n3.x) ^ ((2 : ℝ) / 3))
      (ratioGeometric n0.x n1.x n0.m n1.m ^ 2 + ratioGeometric n0.x n2.x n0.m n2.m ^ 2 +
       ratioGeometric n0.x n3.x n0.m n3.m ^ 2 + ratioGeometric n1.x n2.x n1.m n2.m ^ 2 +
       ratioGeometric n1.x n3.x n1.m n3.m ^ 2 + ratioGeometric n2.x n3.x n2.m n3.m ^ 2) = true) :
    tetEpicQuality minVol n0 n1 n2 n3 = tetEpicSmooth n0 n1 n2 n3 n0.x := by
  have hv : (tetVol n0.x n1.x n2.x n3.x <=. minVol) = false := (le_false_iff _ _).mpr hvol
  rw [tetEpicQuality_eq]
  unfold epicTail tetEpicSmooth
  simp only [hv, Bool.false_eq_true, if_false, sqrt_eq, mul_eq, pow_eq, twoThirds_eq, div_eq, hdiv, if_true]

/-- the coded gradient of the epic tet quality dotted with `δ`, with every routine's value a variable: the quotient /
    power / sum-of-squares combination is linear in the three ingredient gradients -/
theorem epic_grad_combine (c s A B D r1 r2 r3 : ℝ) (g d1 d2 d3 δ : V3 ℝ) :
    c * (2 / 3 * A * s * vdot g δ * D - B * (2 * r1 * vdot d1 δ + 2 * r2 * vdot d2 δ + 2 * r3 * vdot d3 δ)) / (D * D) =
      vdot ⟨c * (2 / 3 * A * (s * g.x) * D - B * (2 * r1 * d1.x + 2 * r2 * d2.x + 2 * r3 * d3.x)) / D / D,
            c * (2 / 3 * A * (s * g.y) * D - B * (2 * r1 * d1.y + 2 * r2 * d2.y + 2 * r3 * d3.y)) / D / D,
            c * (2 / 3 * A * (s * g.z) * D - B * (2 * r1 * d1.z + 2 * r2 * d2.z + 2 * r3 * d3.z)) / D / D⟩ δ := by
  simp only [vdot]
  ring

/-- PARTIAL.  Full statement: the gradient returned by `ref_node_tet_epic_dquality_dnode0` is the derivative of
    `tetEpicQuality` with respect to node 0.  Proved here: the volume part is exact (`tetVol_affine0`) and the
    power / sum-of-squares / quotient combination coded in the C is the formal derivative, GIVEN that the three
    edge-length gradients returned by `ref_node_dratio_dnode0` are the derivatives of `ref_node_ratio` along the line
    (hypotheses `H1 H2 H3`).  Missing: `HasDerivAt` for `ratioGeometric` itself (logarithmic mean of the two end-point
    lengths with its `< 1e-12` and `|r-1| < 1e-12` branches); that routine is tied bit for bit and its gradient is
    compared with finite differences by stream `geom_kernels`. -/
theorem tet_epic_dquality_hasDerivAt_partial (minVol : ℝ) (n0 n1 n2 n3 : QNode ℝ) (δ : V3 ℝ)
    (hvol : minVol < tetVol n0.x n1.x n2.x n3.x)
    (hdiv : Scalar.divisible
      ((Real.sqrt (min (min (min (detOf n0.m) (detOf n1.m)) (detOf n2.m)) (detOf n3.m)) *
          tetVol n0.x n1.x n2.x n3.x) ^ ((2 : ℝ) / 3))
      (ratioGeometric n0.x n1.x n0.m n1.m ^ 2 + ratioGeometric n0.x n2.x n0.m n2.m ^ 2 +
       ratioGeometric n0.x n3.x n0.m n3.m ^ 2 + ratioGeometric n1.x n2.x n1.m n2.m ^ 2 +
       ratioGeometric n1.x n3.x n1.m n3.m ^ 2 + ratioGeometric n2.x n3.x n2.m n3.m ^ 2) = true)
    (hvim : Real.sqrt (min (min (min (detOf n0.m) (detOf n1.m)) (detOf n2.m)) (detOf n3.m)) *
          tetVol n0.x n1.x n2.x n3.x ≠ 0)
    (H1 : HasDerivAt (fun t => ratioGeometric (line n0.x δ t) n1.x n0.m n1.m)
            (vdot (dratioGeometric n0.x n1.x n0.m n1.m).2 δ) 0)
    (H2 : HasDerivAt (fun t => ratioGeometric (line n0.x δ t) n2.x n0.m n2.m)
            (vdot (dratioGeometric n0.x n2.x n0.m n2.m).2 δ) 0)
    (H3 : HasDerivAt (fun t => ratioGeometric (line n0.x δ t) n3.x n0.m n3.m)
            (vdot (dratioGeometric n0.x n3.x n0.m n3.m).2 δ) 0) :
    HasDerivAt (fun t => tetEpicSmooth n0 n1 n2 n3 (line n0.x δ t))
      (vdot (tetEpicDquality minVol n0 n1 n2 n3).2 δ) 0 := by
  have hv : (tetVol n0.x n1.x n2.x n3.x <=. minVol) = false := (le_false_iff _ _).mpr hvol
  have hden := divisible_ne_zero hdiv
  have hV := tetVol_line n0.x n1.x n2.x n3.x δ
  have hD := hasDerivAt_sumsq _ _ _ _ _ _ (ratioGeometric n1.x n2.x n1.m n2.m ^ 2)
      (ratioGeometric n1.x n3.x n1.m n3.m ^ 2) (ratioGeometric n2.x n3.x n2.m n3.m ^ 2) 0 H1 H2 H3
  have key := hasDerivAt_meanRatio (c36 : ℝ)
    (Real.sqrt (min (min (min (detOf n0.m) (detOf n1.m)) (detOf n2.m)) (detOf n3.m)))
    (fun t => tetVol (line n0.x δ t) n1.x n2.x n3.x) _ _ _ 0 hV hD (by simpa only [line_zero] using hvim)
    (by simpa only [line_zero] using hden)
  simp only [line_zero] at key
  unfold tetEpicDquality
  simp only [dratio_value, tetDvol_value, hv, Bool.false_eq_true, if_false, cmin_eq, sqrt_eq, mul_eq, pow_eq,
    twoThirds_eq, negThird_eq, add_eq, div_eq, sub_eq, lit2_eq]
  have hdiv' := hdiv
  simp only [pow_two] at hdiv'
  rw [if_pos hdiv']
  refine HasDerivAt.congr_deriv key ?_
  simp only [pow_two]
  exact epic_grad_combine _ _ _ _ _ _ _ _ _ _ _ _ _

end Refine.Props.C15Quality
