import Refine.Lemmas.ParGuards
import Refine.Props.C07Gather
import Refine.Gen.SideConds

/-!
  C04 — parallel adaptation is as safe as serial: the two mechanisms that are proved here.

  (a) Operators act only where all touched cells are fully owned.  The four guards of the C
      (ref_cell_local_gem, ref_swap_local_cell, ref_smooth_local_cell_about, ref_collapse_edge_local_cell; model
      `Refine.Model.Par`, tied by the diff stream `par_guards`) answer `true` exactly when every cell of the set the
      kernel touches has all its nodes owned by the calling rank; hence, with a partition `part` on which the ranks
      agree, what two different ranks modify in one sweep is disjoint, nothing a rank modifies is stored on another
      rank (no ghost copy goes stale) and no modified cell has a ghost vertex.
  (b) The gathered output contains every vertex and every cell exactly once (`Refine.Props.C07Gather`, restated).
  (c) Side condition generated from the sources: no wildcard / probing receive.

  Not proved here (see checks/c04.py ASSUMPTIONS): ref_subdiv's consistent split of edges spanning parts, the cavity
  PARTITION_CONSTRAINED transitions, ref_migrate_to_balance / ref_grid_pack (package "dist"), real deadlock freedom.
-/
namespace Refine.Props.C04
open Refine.Model.Comm Refine.Model.Par Refine.Lemmas.Par

/-- ref_cell_local_gem (split, cavity seed): `true` iff every cell containing both edge nodes is fully owned -/
theorem local_gem_sound (cells : List Cell) (part : Nat → Nat) (me n0 n1 : Nat) :
    cellLocalGem cells part me n0 n1 = true ↔ ∀ c ∈ cells, n0 ∈ c → n1 ∈ c → FullyOwned part me c := by
  simp only [cellLocalGem, gemLoop_iff, mem_having]
  constructor
  · intro h c hc h0 h1; exact h c ⟨hc, h0⟩ h1
  · intro h c hc h1; exact h c hc.1 hc.2 h1

/-- ref_swap_local_cell: `true` iff every triangle containing both edge nodes is fully owned -/
theorem swap_local_sound (tris : List Cell) (part : Nat → Nat) (me n0 n1 : Nat) :
    swapLocalCell tris part me n0 n1 = true ↔ ∀ c ∈ tris, n0 ∈ c → n1 ∈ c → FullyOwned part me c :=
  local_gem_sound tris part me n0 n1

/-- ref_smooth_local_cell_about: `true` iff every cell of the node's ball is fully owned -/
theorem smooth_local_sound (cells : List Cell) (part : Nat → Nat) (me n : Nat) :
    smoothLocalCellAbout cells part me n = true ↔ ∀ c ∈ cells, n ∈ c → FullyOwned part me c := by
  simp only [smoothLocalCellAbout, aboutLoop_iff, mem_having]
  constructor
  · intro h c hc h0; exact h c ⟨hc, h0⟩
  · intro h c hc; exact h c hc.1 hc.2

/-- ref_collapse_edge_local_cell: `true` iff every tet and every triangle around the removed node `node1` AND around
    the kept node `node0` is fully owned (the C tests both balls; the `edg` group is not tested) -/
theorem collapse_local_sound (tets tris : List Cell) (part : Nat → Nat) (me n0 n1 : Nat) :
    collapseEdgeLocalCell tets tris part me n0 n1 = true ↔
      ∀ c, (c ∈ tets ∨ c ∈ tris) → (n0 ∈ c ∨ n1 ∈ c) → FullyOwned part me c := by
  have key : ∀ cs n, aboutLoop part me (having cs n) = true ↔ ∀ c ∈ cs, n ∈ c → FullyOwned part me c :=
    fun cs n => smooth_local_sound cs part me n
  -- the four early returns are a conjunction of the four ball tests
  have hand : collapseEdgeLocalCell tets tris part me n0 n1 = true ↔
      ((aboutLoop part me (having tets n1) = true ∧ aboutLoop part me (having tets n0) = true) ∧
       aboutLoop part me (having tris n1) = true) ∧ aboutLoop part me (having tris n0) = true := by
    unfold collapseEdgeLocalCell
    cases aboutLoop part me (having tets n1) <;> cases aboutLoop part me (having tets n0) <;>
      cases aboutLoop part me (having tris n1) <;> cases aboutLoop part me (having tris n0) <;> decide
  rw [hand, key, key, key, key]
  constructor
  · rintro ⟨⟨⟨h1, h2⟩, h3⟩, h4⟩ c (hc | hc) (hn | hn)
    · exact h2 c hc hn
    · exact h1 c hc hn
    · exact h4 c hc hn
    · exact h3 c hc hn
  · intro h
    exact ⟨⟨⟨fun c hc hn => h c (.inl hc) (.inr hn), fun c hc hn => h c (.inl hc) (.inl hn)⟩,
      fun c hc hn => h c (.inr hc) (.inr hn)⟩, fun c hc hn => h c (.inr hc) (.inl hn)⟩

/-- if every rank `r` modifies only (non-empty) cells all of whose vertices have
    `part = r`, then for `r ≠ q`: no cell is modified by both, no cell modified by `r` is stored on `q` at all under
    the storage rule "rank q stores c ⇔ some vertex of c has part q", and a modified cell has no ghost vertex. -/
theorem ownership_disjoint (part : Nat → Nat) (modified : Nat → List Cell)
    (hown : ∀ r, ∀ c ∈ modified r, FullyOwned part r c) (hne : ∀ r, ∀ c ∈ modified r, c ≠ [])
    (r q : Nat) (hrq : r ≠ q) :
    (∀ c ∈ modified r, c ∉ modified q) ∧ (∀ c ∈ modified r, ¬ StoredOn part q c) ∧
    (∀ c ∈ modified r, ∀ v ∈ c, part v = r) := by
  refine ⟨?_, ?_, fun c hc => hown r c hc⟩
  · intro c hc hcq
    have h1 := (fullyOwned_stored_iff part r r c (hne r c hc) (hown r c hc)).mpr rfl
    have h2 := (fullyOwned_stored_iff part q r c (hne q c hcq) (hown q c hcq)).mp h1
    exact hrq h2
  · intro c hc hs
    exact hrq ((fullyOwned_stored_iff part r q c (hne r c hc) (hown r c hc)).mp hs).symm

/-- the cells a rank may modify in one sweep, as selected by the guards: cells (named by global node ids, `part`
    agreed between the ranks) containing both nodes of an edge whose gem guard passed (split / swap), cells around
    either node of an edge whose collapse guard passed, cells around a node whose smoothing guard passed -/
def sweepModified (part : Nat → Nat) (cells : Nat → List Cell) (edges collapses : Nat → List (Nat × Nat))
    (smooths : Nat → List Nat) (r : Nat) (c : Cell) : Prop :=
  c ∈ cells r ∧
  ((∃ e ∈ edges r, cellLocalGem (cells r) part r e.1 e.2 = true ∧ e.1 ∈ c ∧ e.2 ∈ c) ∨
   (∃ e ∈ collapses r, collapseEdgeLocalCell (cells r) [] part r e.1 e.2 = true ∧ (e.1 ∈ c ∨ e.2 ∈ c)) ∨
   (∃ n ∈ smooths r, smoothLocalCellAbout (cells r) part r n = true ∧ n ∈ c))

/-- guards ⇒ disjointness: whatever edges / nodes the ranks try, a cell selected on rank `r`
    through a passed guard is fully owned by `r`, is not stored on any other rank `q`, and is not selected there -/
theorem sweep_disjoint (part : Nat → Nat) (cells : Nat → List Cell) (edges collapses : Nat → List (Nat × Nat))
    (smooths : Nat → List Nat) (r q : Nat) (hrq : r ≠ q) (c : Cell)
    (hr : sweepModified part cells edges collapses smooths r c) :
    FullyOwned part r c ∧ ¬ StoredOn part q c ∧ ¬ sweepModified part cells edges collapses smooths q c := by
  have owned_of : ∀ s, sweepModified part cells edges collapses smooths s c → FullyOwned part s c ∧ c ≠ [] := by
    intro s hs
    obtain ⟨hc, h⟩ := hs
    rcases h with ⟨e, _, hg, h0, h1⟩ | ⟨e, _, hg, h01⟩ | ⟨n, _, hg, hn⟩
    · exact ⟨(local_gem_sound _ _ _ _ _).mp hg c hc h0 h1, List.ne_nil_of_mem h0⟩
    · refine ⟨(collapse_local_sound _ _ _ _ _ _).mp hg c (Or.inl hc) h01, ?_⟩
      rcases h01 with h | h <;> exact List.ne_nil_of_mem h
    · exact ⟨(smooth_local_sound _ _ _ _).mp hg c hc hn, List.ne_nil_of_mem hn⟩
  obtain ⟨ho, hne⟩ := owned_of r hr
  refine ⟨ho, ?_, ?_⟩
  · intro hs; exact hrq ((fullyOwned_stored_iff part r q c hne ho).mp hs).symm
  · intro hq
    obtain ⟨hoq, _⟩ := owned_of q hq
    have h1 := (fullyOwned_stored_iff part r r c hne ho).mpr rfl
    exact hrq ((fullyOwned_stored_iff part q r c hne hoq).mp h1)

/-- C04 "every vertex exactly once": restatement of `C07Gather.gather_node_spec` -/
theorem gathered_vertices_once {α : Type} (add : α → α → α) (zero : α) (hz1 : ∀ x, add zero x = x)
    (hz2 : ∀ x, add x zero = x) (w : World (RankView α)) (hw : w ≠ []) (N : Nat) (rbl : Int)
    (hrbl : rbl ≤ 0 ∨ 32 ≤ rbl) (honce : ∀ g, g < N → ownerCount w g = 1) :
    gatherNode add zero rbl N w = .done Status.ok ((List.range N).map (payloadAt zero w)) :=
  Refine.Props.C07Gather.gather_node_spec add zero hz1 hz2 w hw N rbl hrbl honce

/-- a vertex owned twice or by nobody makes the gather fail ("node used more or less than once") -/
theorem gathered_vertices_checked {α : Type} (add : α → α → α) (zero : α) (w : World (RankView α)) (hw : w ≠ [])
    (N chunk : Nat) (hchunk : 1 ≤ chunk) :
    ∃ written bad, gatherNodeChunked add zero chunk N w = some (written, bad) ∧ written.length = N ∧
      (bad = true ↔ ∃ g, g < N ∧ ownerCount w g ≠ 1) :=
  Refine.Props.C07Gather.gather_node_fails_iff add zero w hw N chunk hchunk

/-- C04 "every cell exactly once": restatement of `C07Gather.gather_cell_once` -/
theorem gathered_cells_once {α : Type} (part : Nat → Nat) (G : List GCell) (w : World (RankView α))
    (hcons : ∀ r v, w[r]? = some v → Consistent part G r v)
    (hne : ∀ c ∈ G, c.nodes ≠ []) (hrange : ∀ c ∈ G, ∀ g ∈ c.nodes, part g < w.length) :
    (gatherCell w).Perm G ∧ ncell w = G.length :=
  let h := Refine.Props.C07Gather.gather_cell_once part G w hcons hne hrange
  ⟨h.1, h.2.2.1⟩

/-- the sources (src/*.c, src/*.h without *_test.c, comments stripped; counted by the
    translator on every run) contain no `MPI_ANY_SOURCE`, `MPI_ANY_TAG`, `MPI_Probe`, `MPI_Iprobe`, `MPI_Waitany`.
    This is what makes the L2 collective specifications (`Refine.Props.C17`) schedule-independent: every receive
    names its source and tag, MPI matches messages of one (source, tag, communicator) in order, so the data a rank
    receives is a function of what the ranks sent and not of the arrival order — there is no message race. -/
theorem no_wildcard_receive : Refine.Gen.SideConds.wildcardReceives = 0 := by decide

/-- the scan behind `no_wildcard_receive` did see the MPI layer (tagged sends/receives exist, > 50 files) -/
theorem scan_saw_mpi_layer :
    0 < Refine.Gen.SideConds.pointToPointCalls ∧ 50 < Refine.Gen.SideConds.filesScanned := by decide

/-- two tets sharing the face (1,2,3); vertex 4 belongs to rank 1 -/
def partEx : Nat → Nat := fun v => if v = 4 then 1 else 0
def cellsEx : List Cell := [[0, 1, 2, 3], [1, 2, 3, 4]]

example : cellLocalGem cellsEx partEx 0 0 1 = true := by decide      -- edge (0,1): only the owned tet
example : cellLocalGem cellsEx partEx 0 1 2 = false := by decide     -- edge (1,2): the second tet has a ghost
example : collapseEdgeLocalCell cellsEx [] partEx 0 0 1 = false := by decide  -- node 1's ball has the ghost tet
example : smoothLocalCellAbout cellsEx partEx 0 0 = true := by decide

example : sweepModified partEx (fun _ => cellsEx) (fun r => if r = 0 then [(0, 1)] else []) (fun _ => [])
    (fun _ => []) 0 [0, 1, 2, 3] :=
  ⟨by decide, Or.inl ⟨(0, 1), by decide, by decide, by decide, by decide⟩⟩

/-- hypotheses of `ownership_disjoint` on a 2-rank example: rank 0 modifies the tet it fully owns, rank 1 its own -/
example : let part : Nat → Nat := fun v => if v < 4 then 0 else 1
    let modified : Nat → List Cell := fun r => if r = 0 then [[0, 1, 2, 3]] else if r = 1 then [[4, 5, 6, 7]] else []
    (∀ r, ∀ c ∈ modified r, FullyOwned part r c) ∧ (∀ r, ∀ c ∈ modified r, c ≠ []) := by
  intro part modified
  have hmod : ∀ r, ∀ c ∈ modified r, (r = 0 ∧ c = [0, 1, 2, 3]) ∨ (r = 1 ∧ c = [4, 5, 6, 7]) := by
    intro r c hc
    by_cases h0 : r = 0
    · simp [modified, h0] at hc; exact .inl ⟨h0, hc⟩
    · by_cases h1 : r = 1
      · simp [modified, h1] at hc; exact .inr ⟨h1, hc⟩
      · simp [modified, h0, h1] at hc
  constructor
  · intro r c hc
    rcases hmod r c hc with ⟨rfl, rfl⟩ | ⟨rfl, rfl⟩
    · simp [FullyOwned, part]
    · simp [FullyOwned, part]
  · intro r c hc
    rcases hmod r c hc with ⟨_, rfl⟩ | ⟨_, rfl⟩
    · simp
    · simp

end Refine.Props.C04
