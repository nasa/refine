import Refine.Lemmas.KexactReal
import Refine.Lemmas.KexactPerm
import Refine.Lemmas.KexactCloud

/-!
  C19, k-exact part: the least-squares quadratic reconstruction of `ref_recon.c` (`ref_recon_kexact_with_aux` →
  `ref_matrix_qr` → `ref_matrix_solve_ab`), in exact real arithmetic over the executable model `Model/Kexact.lean` that is
  bit-compared with the C (streams `kexact_linalg`, `kexact_cloud`, `kexact_mesh`).  Taylor is exact, so the coefficient
  vector `(H, ∇f(centre))` of a quadratic field satisfies every row the C builds (`kexact_rows_quadratic`); the coded chain
  returns THE least-squares solution whenever it reports `REF_SUCCESS` (its guards force full column rank:
  `KexactPerm.lsq_unique`); hence exactness at every vertex through the cloud-growth loop (`kexactGradHess_quadratic`)
  and, for ANY field, independence of the row order, i.e. of the vertex numbering (`kexact_perm`).
  Not proved: that `REF_SUCCESS` itself is invariant under the permutation (both runs are assumed to succeed);
  renumbering at the mesh level (cloud growth commutes with renumbering) — tie + oracle; rounding (modelled,
  not verified).
-/
namespace Refine.Props.C19Kexact
open Refine Refine.Model.Geom Refine.Model.Kexact Refine.ScalarReal Refine.GeomReal Refine.KexactReal

/-- `f(p) = a + g·p + ½ pᵀHp` -/
noncomputable def quad (a : ℝ) (g : V3 ℝ) (H : M6 ℝ) (x y z : ℝ) : ℝ :=
  a + (g.x * x + g.y * y + g.z * z) +
    (1 / 2) * (H.m0 * x * x + 2 * H.m1 * x * y + 2 * H.m2 * x * z + H.m3 * y * y + 2 * H.m4 * y * z +
      H.m5 * z * z)

def gradAt (g : V3 ℝ) (H : M6 ℝ) (x y z : ℝ) : V3 ℝ :=
  ⟨g.x + H.m0 * x + H.m1 * y + H.m2 * z, g.y + H.m1 * x + H.m3 * y + H.m4 * z,
   g.z + H.m2 * x + H.m4 * y + H.m5 * z⟩

/-- the exact unknown vector in the C's column order -/
def coef (g : V3 ℝ) (H : M6 ℝ) (x y z : ℝ) : List ℝ :=
  [H.m0, H.m1, H.m2, H.m3, H.m4, H.m5, (gradAt g H x y z).x, (gradAt g H x y z).y, (gradAt g H x y z).z]

def OnField (a : ℝ) (g : V3 ℝ) (H : M6 ℝ) (it : Item ℝ) : Prop := it.s = quad a g H it.x it.y it.z

theorem ipl_geomRow (dx dy dz z0 z1 z2 z3 z4 z5 z6 z7 z8 : ℝ) :
    ipl (geomRow dx dy dz) [z0, z1, z2, z3, z4, z5, z6, z7, z8] =
      1 / 2 * dx * dx * z0 + dx * dy * z1 + dx * dz * z2 + 1 / 2 * dy * dy * z3 + dy * dz * z4 +
        1 / 2 * dz * dz * z5 + dx * z6 + dy * z7 + dz * z8 := by
  simp only [geomRow, ipl_cons, ipl_nil_left, half_eq, mul_eq]
  ring

/-- every neighbour row is satisfied exactly by the Taylor coefficients at the centre -/
theorem kexact_rows_quadratic (a : ℝ) (g : V3 ℝ) (H : M6 ℝ) (c it : Item ℝ)
    (hc : OnField a g H c) (hit : OnField a g H it) :
    ipl (itemRow c it).1 (coef g H c.x c.y c.z) = (itemRow c it).2 := by
  unfold OnField at hc hit
  simp only [itemRow, coef, gradAt, ipl_geomRow, sub_eq, hc, hit, quad]
  ring

/-- the vector the 2-D system (phantom rows included) is consistent with: the two unknowns multiplying
    `dx·dz`, `dy·dz` absorb the phantom rows; the C zeroes those entries afterwards -/
noncomputable def coefTwod (g : V3 ℝ) (H : M6 ℝ) (x y z : ℝ) : List ℝ :=
  let gx := (gradAt g H x y z).x
  let gy := (gradAt g H x y z).y
  [H.m0, H.m1, -(1 / 2 * H.m0 + gx), H.m3, -(1 / 2 * H.m3 + gy), 0, gx, gy, 0]

/-- 2-D: a field quadratic in x, y on a cloud of constant z satisfies every row, phantom rows included -/
theorem kexact_rows_quadratic_twod (a : ℝ) (g : V3 ℝ) (H : M6 ℝ) (c it : Item ℝ)
    (hg : g.z = 0) (h2 : H.m2 = 0) (h4 : H.m4 = 0) (h5 : H.m5 = 0)
    (hc : OnField a g H c) (hit : OnField a g H it) (hz : it.z = c.z) :
    ipl (itemRow c it).1 (coefTwod g H c.x c.y c.z) = (itemRow c it).2 ∧
    ∀ p ∈ (twodRows : List (List ℝ × ℝ)), ipl p.1 (coefTwod g H c.x c.y c.z) = p.2 := by
  unfold OnField at hc hit
  refine ⟨?_, ?_⟩
  · simp only [itemRow, coefTwod, gradAt, ipl_geomRow, sub_eq, hc, hit, quad, hg, h2, h4, h5, hz]
    ring
  · intro p hp
    simp only [twodRows, List.mem_cons, List.not_mem_nil, or_false] at hp
    rcases hp with rfl | rfl | rfl | rfl <;>
      simp only [coefTwod, gradAt, ipl_geomRow, lit0_eq, lit1_eq, lit2_eq, hg, h2, h4, h5] <;> ring

/-- the coded QR + elimination solves every consistent system it accepts: if `A z = b` row by row and the
    model of `ref_matrix_qr`/`ref_matrix_solve_ab` reports success (not `div_zero`, not `ill_conditioned`),
    the returned vector IS `z` -/
theorem qr_solves_consistent (n : ℕ) (rows : List (List ℝ)) (b z x : List ℝ)
    (hrows : rows ≠ []) (hb : b.length = rows.length) (hz : z.length = n)
    (hcons : ∀ i, i < rows.length →
      ∑ j ∈ Finset.range n, z.getD j 0 * (rows.getD i []).getD j 0 = b.getD i 0)
    (h : lsq n rows b = (KSt.ok, x)) : x = z := by
  have e1 : (rows.zip b).map (·.1) = rows := List.map_fst_zip (le_of_eq hb.symm)
  have e2 : (rows.zip b).map (·.2) = b := List.map_snd_zip (le_of_eq hb)
  have hne : rows.zip b ≠ [] := fun h0 => hrows (by rw [← e1, h0]; rfl)
  refine KexactPerm.lsq_consistent n (rows.zip b) z x hne hz ?_ (by rw [e1, e2]; exact h)
  intro p hp
  obtain ⟨i, hi, rfl⟩ := List.getElem_of_mem hp
  have hir : i < rows.length := by rw [List.length_zip, hb, min_self] at hi; exact hi
  have := hcons i hir
  rw [List.getD_eq_getElem?_getD, List.getD_eq_getElem?_getD, List.getElem?_eq_getElem hir,
    List.getElem?_eq_getElem (hb ▸ hir)] at this
  rw [List.getElem_zip]
  exact this

/-- the structural fact behind it, for the Gram–Schmidt exactly as coded (`r[k,j]` from the ORIGINAL column,
    update of the working column): on success `Qᵀ A = R`, upper triangular, rows stored from the diagonal -/
theorem qr_QtA (rows : List (List ℝ)) (n : ℕ) (Q R : List (List ℝ)) (hrows : rows ≠ [])
    (h : qr (columns n rows) = some (Q, R)) : QtA rows.length Q R (columns n rows) :=
  (qr_columns_spec n rows hrows Q R h).2.1

theorem geomRow_length (dx dy dz : ℝ) : (geomRow dx dy dz).length = 9 := rfl

/-- a `REF_SUCCESS` return of `ref_recon_kexact_with_aux` is a successful least-squares solve on the (non-empty)
    rows of the cloud, and the outputs are the entries of its solution -/
theorem kexactWithAux_ok (center : Int) (cloud : List (Item ℝ)) (twod : Bool) (c : Item ℝ) (gr : V3 ℝ) (he : M6 ℝ)
    (hfind : cloud.find? (fun it => it.g == center) = some c)
    (h : kexactWithAux center cloud twod = (KSt.ok, gr, he)) :
    ∃ x, rowsOf c cloud twod ≠ [] ∧
      lsq 9 ((rowsOf c cloud twod).map (·.1)) ((rowsOf c cloud twod).map (·.2)) = (KSt.ok, x) ∧
      gr = ⟨x.getD 6 0, x.getD 7 0, x.getD 8 0⟩ ∧
      he = ⟨x.getD 0 0, x.getD 1 0, x.getD 2 0, x.getD 3 0, x.getD 4 0, x.getD 5 0⟩ := by
  revert h
  fun_cases kexactWithAux center cloud twod
  next hf => rw [hfind] at hf; cases hf
  next => exact nofun
  next c' hf rws hlen9 x hl e =>
    obtain rfl := Option.some.inj (hfind.symm.trans hf)
    intro h
    simp only [Prod.mk.injEq, true_and] at h
    obtain ⟨rfl, rfl⟩ := h
    exact ⟨x, fun h0 => hlen9 (by rw [show rws = [] from h0]; decide), hl, by simp [e], by simp [e]⟩
  next st _ hst _ => exact fun h => (hst (congrArg Prod.fst h)).elim

/-- the shared core of the exactness theorems: if every row the C builds is satisfied by a 9-vector `z`
    and `ref_recon_kexact_with_aux` returns `REF_SUCCESS`, its outputs are the entries of `z` -/
theorem kexactWithAux_consistent (center : Int) (cloud : List (Item ℝ)) (twod : Bool) (c : Item ℝ)
    (z : List ℝ) (gr : V3 ℝ) (he : M6 ℝ) (hz : z.length = 9)
    (hfind : cloud.find? (fun it => it.g == center) = some c)
    (hrows : ∀ p ∈ rowsOf c cloud twod, p.1.length = 9 ∧ ipl p.1 z = p.2)
    (h : kexactWithAux center cloud twod = (KSt.ok, gr, he)) :
    gr = ⟨z.getD 6 0, z.getD 7 0, z.getD 8 0⟩ ∧
    he = ⟨z.getD 0 0, z.getD 1 0, z.getD 2 0, z.getD 3 0, z.getD 4 0, z.getD 5 0⟩ := by
  obtain ⟨x, hne, hl, rfl, rfl⟩ := kexactWithAux_ok center cloud twod c gr he hfind h
  rw [KexactPerm.lsq_consistent 9 _ z x hne hz
    (fun p hp => (KexactPerm.rowDot_eq_ipl 9 p.1 z (hrows p hp).1 hz).trans (hrows p hp).2) hl]
  exact ⟨rfl, rfl⟩

/-- `ref_recon_kexact_with_aux`, 3-D: on any cloud whose entries carry a quadratic field, a `REF_SUCCESS`
    return delivers the exact gradient at the centre and the exact Hessian -/
theorem kexact_quadratic_exact (a : ℝ) (g : V3 ℝ) (H : M6 ℝ) (center : Int) (cloud : List (Item ℝ))
    (c : Item ℝ) (gr : V3 ℝ) (he : M6 ℝ)
    (hfield : ∀ it ∈ cloud, OnField a g H it)
    (hfind : cloud.find? (fun it => it.g == center) = some c)
    (h : kexactWithAux center cloud false = (KSt.ok, gr, he)) :
    gr = gradAt g H c.x c.y c.z ∧ he = H := by
  have hcmem : c ∈ cloud := List.mem_of_find?_eq_some hfind
  have hrows : ∀ p ∈ rowsOf c cloud false, p.1.length = 9 ∧ ipl p.1 (coef g H c.x c.y c.z) = p.2 := by
    intro p hp
    simp only [rowsOf, Bool.false_eq_true, if_false, List.nil_append, List.mem_map, List.mem_filter] at hp
    obtain ⟨it, ⟨hit, _⟩, rfl⟩ := hp
    exact ⟨rfl, kexact_rows_quadratic a g H c it (hfield c hcmem) (hfield it hit)⟩
  obtain ⟨h1, h2⟩ := kexactWithAux_consistent center cloud false c _ gr he rfl hfind hrows h
  rw [h1, h2]
  simp [coef]

/-- `ref_recon_kexact_with_aux`, 2-D (four phantom rows): for a field quadratic in x, y on a planar cloud the
    in-plane entries are exact (the z entries are overwritten with zero by the caller, see `kexactNode`) -/
theorem kexact_quadratic_exact_twod (a : ℝ) (g : V3 ℝ) (H : M6 ℝ) (center : Int) (cloud : List (Item ℝ))
    (c : Item ℝ) (gr : V3 ℝ) (he : M6 ℝ)
    (hg : g.z = 0) (h2 : H.m2 = 0) (h4 : H.m4 = 0) (h5 : H.m5 = 0)
    (hfield : ∀ it ∈ cloud, OnField a g H it)
    (hfind : cloud.find? (fun it => it.g == center) = some c)
    (hplane : ∀ it ∈ cloud, it.z = c.z)
    (h : kexactWithAux center cloud true = (KSt.ok, gr, he)) :
    gr.x = (gradAt g H c.x c.y c.z).x ∧ gr.y = (gradAt g H c.x c.y c.z).y ∧
    he.m0 = H.m0 ∧ he.m1 = H.m1 ∧ he.m3 = H.m3 := by
  have hcmem : c ∈ cloud := List.mem_of_find?_eq_some hfind
  have hrows : ∀ p ∈ rowsOf c cloud true, p.1.length = 9 ∧ ipl p.1 (coefTwod g H c.x c.y c.z) = p.2 := by
    intro p hp
    simp only [rowsOf, if_true, List.mem_append, List.mem_map, List.mem_filter] at hp
    rcases hp with hp | ⟨it, ⟨hit, _⟩, rfl⟩
    · refine ⟨?_, (kexact_rows_quadratic_twod a g H c c hg h2 h4 h5 (hfield c hcmem) (hfield c hcmem) rfl).2 p hp⟩
      simp only [twodRows, List.mem_cons, List.not_mem_nil, or_false] at hp
      rcases hp with rfl | rfl | rfl | rfl <;> rfl
    · exact ⟨rfl, (kexact_rows_quadratic_twod a g H c it hg h2 h4 h5 (hfield c hcmem) (hfield it hit)
        (hplane it hit)).1⟩
  obtain ⟨h1, h2'⟩ := kexactWithAux_consistent center cloud true c _ gr he rfl hfind hrows h
  rw [h1, h2']
  simp [coefTwod]

theorem kexactWithAux_zero_unless_ok (center : Int) (cloud : List (Item ℝ)) (twod : Bool)
    (h : (kexactWithAux center cloud twod).1 ≠ KSt.ok) :
    (kexactWithAux center cloud twod).2 = (V3.zero, zero6) := by
  revert h
  fun_cases kexactWithAux center cloud twod
  next => exact fun _ => rfl
  next => exact fun _ => rfl
  next => exact fun h => absurd rfl h
  next => exact fun _ => rfl

/-- the layer loop of `ref_recon_kexact_gradient_hessian` at one vertex: whatever number of layers it takes,
    the result is either what a successful attempt produced on a cloud of admissible entries (`P`), or — when no
    layer up to 8 gave an acceptable system, or the vertex has no cell — the zeros the C silently leaves -/
theorem layerLoop_cases (P : Item ℝ → Prop) (E : V3 ℝ × M6 ℝ → Item ℝ → Prop)
    (layerOf : Int → List (Item ℝ)) (center : Int) (twod : Bool)
    (hl : ∀ k, ∀ x ∈ layerOf k, P x)
    (hatt : ∀ (cloud : List (Item ℝ)) (c : Item ℝ) (gr : V3 ℝ) (he : M6 ℝ), (∀ x ∈ cloud, P x) →
      cloud.find? (fun it => it.g == center) = some c →
      kexactWithAux center cloud twod = (KSt.ok, gr, he) → E (gr, he) c) :
    ∀ (fuel : ℕ) (cloud : List (Item ℝ)), (∀ x ∈ cloud, P x) →
      (layerLoop layerOf center twod fuel cloud = (V3.zero, zero6)) ∨
      ∃ c : Item ℝ, c.g = center ∧ P c ∧ E (layerLoop layerOf center twod fuel cloud) c := by
  intro fuel cloud
  fun_induction layerLoop layerOf center twod fuel cloud with
  | case1 => exact fun _ => Or.inl rfl
  | case2 fuel cloud cloud' gr he hk =>
    -- accepted: the centre is in the grown cloud, and `hatt` speaks of this attempt
    intro hc
    have hg := KexactCloud.grow_all layerOf hl cloud hc
    cases hf : cloud'.find? (fun it => it.g == center) with
    | none => unfold kexactWithAux at hk; rw [hf] at hk; cases hk
    | some c =>
      exact Or.inr ⟨c, by simpa using List.find?_some hf, hg c (List.mem_of_find?_eq_some hf), hatt _ c gr he hg hf hk⟩
  | case3 fuel cloud cloud' gr he hk =>
    have := kexactWithAux_zero_unless_ok center cloud' twod (by rw [hk]; simp)
    rw [hk] at this
    exact fun _ => Or.inl this
  | case4 fuel cloud cloud' _ _ ih => exact fun hc => ih (KexactCloud.grow_all layerOf hl cloud hc)

/-- one vertex, 3-D: exact gradient/Hessian of the quadratic field at an admissible entry carrying the id of
    the vertex, or zeros -/
theorem kexactNode_quadratic (a : ℝ) (g : V3 ℝ) (H : M6 ℝ) (P : Item ℝ → Prop)
    (layerOf : Int → List (Item ℝ)) (center : Int)
    (hP : ∀ x, P x → OnField a g H x) (hl : ∀ k, ∀ x ∈ layerOf k, P x) :
    (kexactNode layerOf center false = (V3.zero, zero6)) ∨
    ∃ c : Item ℝ, c.g = center ∧ P c ∧
      kexactNode layerOf center false = (gradAt g H c.x c.y c.z, H) := by
  unfold kexactNode
  rcases layerLoop_cases P (fun r c => r = (gradAt g H c.x c.y c.z, H)) layerOf center false hl
      (fun cloud c gr he hc hf hk => by
        obtain ⟨h1, h2⟩ := kexact_quadratic_exact a g H center cloud c gr he (fun it hi => hP it (hc it hi)) hf hk
        rw [h1, h2])
      7 (layerOf center) (hl center) with h | ⟨c, h1, h2, h3⟩
  · left; rw [h]; rfl
  · right; exact ⟨c, h1, h2, by rw [h3]; rfl⟩

/-- one vertex, 2-D (phantom rows, z entries overwritten with zero): exact for fields quadratic in x, y on a
    planar cloud, or zeros -/
theorem kexactNode_quadratic_twod (a : ℝ) (g : V3 ℝ) (H : M6 ℝ) (z0 : ℝ) (P : Item ℝ → Prop)
    (layerOf : Int → List (Item ℝ)) (center : Int)
    (hg : g.z = 0) (h2 : H.m2 = 0) (h4 : H.m4 = 0) (h5 : H.m5 = 0)
    (hP : ∀ x, P x → OnField a g H x ∧ x.z = z0) (hl : ∀ k, ∀ x ∈ layerOf k, P x) :
    (kexactNode layerOf center true = (V3.zero, zero6)) ∨
    ∃ c : Item ℝ, c.g = center ∧ P c ∧
      kexactNode layerOf center true = (gradAt g H c.x c.y c.z, H) := by
  unfold kexactNode
  rcases layerLoop_cases P (fun r c => r.1.x = (gradAt g H c.x c.y c.z).x ∧ r.1.y = (gradAt g H c.x c.y c.z).y ∧
        r.2.m0 = H.m0 ∧ r.2.m1 = H.m1 ∧ r.2.m3 = H.m3) layerOf center true hl
      (fun cloud c gr he hc hf hk =>
        kexact_quadratic_exact_twod a g H center cloud c gr he hg h2 h4 h5 (fun it hi => (hP it (hc it hi)).1) hf
          (fun it hi => by
            rw [(hP it (hc it hi)).2, (hP c (hc c (List.mem_of_find?_eq_some hf))).2]) hk)
      7 (layerOf center) (hl center) with h | ⟨c, h1, hc, e1, e2, e3, e4, e5⟩
  · left; rw [h]; simp [V3.zero, zero6]
  · right
    refine ⟨c, h1, hc, ?_⟩
    generalize layerLoop layerOf center true 7 (layerOf center) = r at e1 e2 e3 e4 e5 ⊢
    obtain ⟨⟨rx, ry, rz⟩, ⟨m0, m1, m2, m3, m4, m5⟩⟩ := r
    obtain ⟨H0, H1, H2, H3, H4, H5⟩ := H
    simp only [gradAt] at e1 e2 e3 e4 e5 h2 h4 h5
    subst h2 h4 h5 e1 e2 e3 e4 e5
    simp [gradAt, hg, lit0_eq]

/-- `ref_recon_kexact_gradient_hessian` (hence `ref_recon_gradient`/`ref_recon_signed_hessian` with
    `REF_RECON_KEXACT`, serial): on a mesh whose nodal values are a quadratic function of the coordinates, every
    vertex — interior or boundary — receives the exact gradient and Hessian at its own position, or (no
    acceptable stencil within 8 layers / no cell) zero.  2-D: field quadratic in x, y, planar mesh. -/
theorem kexactGradHess_quadratic (a : ℝ) (g : V3 ℝ) (H : M6 ℝ) (twod : Bool) (z0 : ℝ)
    (xyz : List (V3 ℝ)) (s : List ℝ) (cells : List (List ℕ))
    (hcells : ∀ cell ∈ cells, ∀ v ∈ cell, v < xyz.length)
    (hfield : ∀ i, i < xyz.length →
      s.getD i 0 = quad a g H (xyz.getD i V3.zero).x (xyz.getD i V3.zero).y (xyz.getD i V3.zero).z)
    (h2d : twod = true → g.z = 0 ∧ H.m2 = 0 ∧ H.m4 = 0 ∧ H.m5 = 0 ∧
      ∀ i, i < xyz.length → (xyz.getD i V3.zero).z = z0)
    (i : ℕ) (hi : i < xyz.length) :
    (kexactGradHess twod xyz s cells).getD i (V3.zero, zero6) = (V3.zero, zero6) ∨
    (kexactGradHess twod xyz s cells).getD i (V3.zero, zero6) =
      (gradAt g H (xyz.getD i V3.zero).x (xyz.getD i V3.zero).y (xyz.getD i V3.zero).z, H) := by
  unfold kexactGradHess
  dsimp only
  rw [List.getD_eq_getElem?_getD, List.getElem?_map, List.getElem?_range hi]
  simp only [Option.map_some, Option.getD_some]
  set layerOf : Int → List (Item ℝ) :=
    fun k => if k < 0 then [] else (oneLayer xyz s cells).getD k.toNat [] with hlo
  let P : Item ℝ → Prop := fun it => ∃ j, j < xyz.length ∧ it = itemOf xyz s j
  have hl : ∀ k, ∀ x ∈ layerOf k, P x := KexactCloud.layerTable_items xyz s cells hcells
  have hPf : ∀ x, P x → OnField a g H x := by
    rintro x ⟨j, hj, rfl⟩
    exact hfield j hj
  have hpos : ∀ c : Item ℝ, c.g = Int.ofNat i → P c → c = itemOf xyz s i := by
    rintro c hc ⟨j, _, rfl⟩
    have : j = i := by simpa [itemOf] using hc
    rw [this]
  cases twod with
  | false =>
    rcases kexactNode_quadratic a g H P layerOf (Int.ofNat i) hPf hl with h | ⟨c, h1, h2, h3⟩
    · exact Or.inl h
    · right; rw [h3, hpos c h1 h2]; rfl
  | true =>
    obtain ⟨hg, k2, k4, k5, hz⟩ := h2d rfl
    have hPz : ∀ x, P x → OnField a g H x ∧ x.z = z0 := by
      rintro x ⟨j, hj, rfl⟩
      exact ⟨hfield j hj, hz j hj⟩
    rcases kexactNode_quadratic_twod a g H z0 P layerOf (Int.ofNat i) hg k2 k4 k5 hPz hl with h | ⟨c, h1, h2, h3⟩
    · exact Or.inl h
    · right; rw [h3, hpos c h1 h2]; rfl

/-- numbering independence on quadratic fields: two clouds (any ids, any order, any extent) carrying the same
    quadratic field, centres at the same point — if both solves succeed the answers coincide -/
theorem kexact_numbering_independent_quadratic (a : ℝ) (g : V3 ℝ) (H : M6 ℝ)
    (center center' : Int) (cloud cloud' : List (Item ℝ)) (c c' : Item ℝ) (gr gr' : V3 ℝ) (he he' : M6 ℝ)
    (hfield : ∀ it ∈ cloud, OnField a g H it) (hfield' : ∀ it ∈ cloud', OnField a g H it)
    (hfind : cloud.find? (fun it => it.g == center) = some c)
    (hfind' : cloud'.find? (fun it => it.g == center') = some c')
    (hpos : c.x = c'.x ∧ c.y = c'.y ∧ c.z = c'.z)
    (h : kexactWithAux center cloud false = (KSt.ok, gr, he))
    (h' : kexactWithAux center' cloud' false = (KSt.ok, gr', he')) :
    gr = gr' ∧ he = he' := by
  obtain ⟨h1, h2⟩ := kexact_quadratic_exact a g H center cloud c gr he hfield hfind h
  obtain ⟨h1', h2'⟩ := kexact_quadratic_exact a g H center' cloud' c' gr' he' hfield' hfind' h'
  rw [h1, h2, h1', h2', hpos.1, hpos.2.1, hpos.2.2]
  exact ⟨rfl, rfl⟩

/-- the coded QR + elimination returns the least-squares solution, which does not depend on the order of the
    rows: any right-hand side, consistent or not -/
theorem lsq_row_order_independent (n : ℕ) (rws rws' : List (List ℝ × ℝ)) (hp : rws.Perm rws') (x x' : List ℝ)
    (h : lsq n (rws.map (·.1)) (rws.map (·.2)) = (KSt.ok, x))
    (h' : lsq n (rws'.map (·.1)) (rws'.map (·.2)) = (KSt.ok, x')) : x = x' := by
  by_cases hne : rws = []
  · subst hne
    have : rws' = [] := by simpa using hp.symm.eq_nil
    subst this
    rw [h] at h'
    simpa using h'
  have hne' : rws' ≠ [] := fun h0 => hne (by rw [h0] at hp; exact hp.eq_nil)
  obtain ⟨hxn', hN', _⟩ := KexactPerm.lsq_unique n rws' x' hne' h'
  exact (KexactPerm.lsq_unique n rws x hne h).2.2 x' hxn' (hN'.perm hp)

/-- what a cloud entry contributes besides its id -/
def payload (it : Item ℝ) : ℝ × ℝ × ℝ × ℝ := (it.x, it.y, it.z, it.s)

theorem itemRow_payload (c c' it it' : Item ℝ) (hc : payload c = payload c') (hi : payload it = payload it') :
    itemRow c it = itemRow c' it' := by
  simp only [payload, Prod.mk.injEq] at hc hi
  obtain ⟨h1, h2, h3, h4⟩ := hc
  obtain ⟨k1, k2, k3, k4⟩ := hi
  simp only [itemRow, h1, h2, h3, h4, k1, k2, k3, k4]

/-- `ref_recon_kexact_with_aux` on two clouds that hold the same points and values under different ids (hence
    in a different order, the cloud being sorted by id), same centre: when both return `REF_SUCCESS` the
    gradients and Hessians are equal — for any field, 3-D or 2-D -/
theorem kexact_perm (center center' : Int) (cloud cloud' : List (Item ℝ)) (twod : Bool) (c c' : Item ℝ)
    (gr gr' : V3 ℝ) (he he' : M6 ℝ)
    (hfind : cloud.find? (fun it => it.g == center) = some c)
    (hfind' : cloud'.find? (fun it => it.g == center') = some c')
    (hc : payload c = payload c')
    (hp : ((cloud.filter (fun it => it.g != c.g)).map payload).Perm
          ((cloud'.filter (fun it => it.g != c'.g)).map payload))
    (h : kexactWithAux center cloud twod = (KSt.ok, gr, he))
    (h' : kexactWithAux center' cloud' twod = (KSt.ok, gr', he')) : gr = gr' ∧ he = he' := by
  -- rows are a function of the payloads only
  let rowOf : ℝ × ℝ × ℝ × ℝ → List ℝ × ℝ := fun q => itemRow c ⟨0, q.1, q.2.1, q.2.2.1, q.2.2.2⟩
  have hrow : ∀ (d it : Item ℝ), payload d = payload c → itemRow d it = rowOf (payload it) := fun d it hd =>
    itemRow_payload d c it _ hd rfl
  have hrows : (rowsOf c cloud twod).Perm (rowsOf c' cloud' twod) := by
    unfold rowsOf
    refine List.Perm.append_left _ ?_
    have e1 : (cloud.filter (fun it => it.g != c.g)).map (itemRow c) =
        ((cloud.filter (fun it => it.g != c.g)).map payload).map rowOf := by
      rw [List.map_map]; exact List.map_congr_left (fun it _ => hrow c it rfl)
    have e2 : (cloud'.filter (fun it => it.g != c'.g)).map (itemRow c') =
        ((cloud'.filter (fun it => it.g != c'.g)).map payload).map rowOf := by
      rw [List.map_map]; exact List.map_congr_left (fun it _ => hrow c' it hc.symm)
    rw [e1, e2]
    exact hp.map _
  obtain ⟨x, _, hx, rfl, rfl⟩ := kexactWithAux_ok center cloud twod c gr he hfind h
  obtain ⟨x', _, hx', rfl, rfl⟩ := kexactWithAux_ok center' cloud' twod c' gr' he' hfind' h'
  have := lsq_row_order_independent 9 _ _ hrows x x' hx hx'
  subst this
  exact ⟨rfl, rfl⟩

/-- a concrete 10-point cloud (centre at the origin, nine neighbours `±e_x, ±e_y, ±e_z, (1,1,0), (1,0,1), (0,1,1)`)
    has full column rank: the nine row equations determine the nine unknowns, so the hypotheses of
    `kexact_rows_quadratic` / `qr_solves_consistent` single out exactly one coefficient vector -/
example (z0 z1 z2 z3 z4 z5 z6 z7 z8 : ℝ)
    (h : ∀ p ∈ ([(1, 0, 0), (-1, 0, 0), (0, 1, 0), (0, -1, 0), (0, 0, 1), (0, 0, -1), (1, 1, 0), (1, 0, 1),
        (0, 1, 1)] : List (ℝ × ℝ × ℝ)),
      ipl (geomRow p.1 p.2.1 p.2.2) [z0, z1, z2, z3, z4, z5, z6, z7, z8] = 0) :
    [z0, z1, z2, z3, z4, z5, z6, z7, z8] = [0, 0, 0, 0, 0, 0, 0, 0, 0] := by
  simp only [List.mem_cons, List.not_mem_nil, or_false, forall_eq_or_imp, forall_eq, ipl_geomRow] at h
  obtain ⟨h1, h2, h3, h4, h5, h6, h7, h8, h9⟩ := h
  -- opposite offsets give the pure second derivative and the gradient; the diagonal ones the mixed terms
  have e0 : z0 = 0 := by linear_combination h1 + h2
  have e6 : z6 = 0 := by linear_combination (h1 - h2) / 2
  have e3 : z3 = 0 := by linear_combination h3 + h4
  have e7 : z7 = 0 := by linear_combination (h3 - h4) / 2
  have e5 : z5 = 0 := by linear_combination h5 + h6
  have e8 : z8 = 0 := by linear_combination (h5 - h6) / 2
  have e1 : z1 = 0 := by linear_combination h7 - h1 - h3
  have e2 : z2 = 0 := by linear_combination h8 - h1 - h5
  have e4 : z4 = 0 := by linear_combination h9 - h3 - h5
  rw [e0, e1, e2, e3, e4, e5, e6, e7, e8]

/-- the success hypothesis of `qr_solves_consistent` is satisfiable: the model, evaluated in exact real
    arithmetic on a 2×2 system whose Gram–Schmidt norms are rational, returns `ok` and the solution.
    (For 9-column clouds the norms are irrational; there the executable `Float` instance, bit-compared with
    the C in stream `kexact_cloud`, is the witness that `ok` occurs.) -/
example : lsq 2 [[3, -8], [4, 6]] [-13, 16] = (KSt.ok, ([1, 2] : List ℝ)) := by
  -- QR: the columns (3,4), (-8,6) are orthogonal with norms 5, 10, so `Q = [(3/5,4/5), (-4/5,3/5)]`, `R = [[5, 0], [10]]`
  simp [lsq, qr, qrLoop, columns, column, dotl, axmy, List.range, List.range.loop, lit0_eq]
  norm_num [sqrt25, sqrt100, divisible_iff]
  -- elimination on `[R | Qᵀb] = [[5, 0 | 5], [10 | 20]]`: no exchange, rows divided by their heads
  simp [solveAb, augment, elim, pivotRow, pivotScan, swap0, cabs_eq, lit0_eq, eps13]
  norm_num [divisible_iff, abs_of_pos]
  have hb : backSub ([[1, 0, 1], [1, 2]] : List (List ℝ)) = some [1, 2] := by
    simp [backSub, lit0_eq, divisible_iff]
    norm_num
  rw [hb]
  simp
  norm_num

/-- and `qr_solves_consistent` applies to it -/
example (x : List ℝ) (h : lsq 2 [[3, -8], [4, 6]] [-13, 16] = (KSt.ok, x)) : x = [1, 2] :=
  qr_solves_consistent 2 _ _ [1, 2] x (by simp) rfl rfl (by
    intro i hi
    have : i = 0 ∨ i = 1 := by simp at hi; omega
    rcases this with rfl | rfl <;> simp [Finset.sum_range_succ] <;> norm_num) h

end Refine.Props.C19Kexact
