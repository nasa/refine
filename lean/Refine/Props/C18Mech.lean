import Refine.Lemmas.ReproEdge
import Refine.Lemmas.ReproSchedNative
import Refine.Lemmas.ReproSchedSpec
import Refine.Gen.SideConds
import Refine.Gen.ReproConds

/-!
  C18 — reproducibility, the MECHANISMS that are logic (PARTIAL claim; see `checks/c18.py`).

  (a) `ref_edge_create`: the edge numbering is a function of the ordered list of live cells — nothing else of the
      cell stores (free-list threading, adjacency chains, stale rows, add/remove history) is read.
  (b) tagged point-to-point exchanges (`ref_mpi_alltoallv_native`, the rank-0 scatter / gather loops): the
      receive buffers do not depend on the order in which messages are DELIVERED nor on the order in which
      `MPI_Waitall` COMPLETES the receives.  Every receive names (source, tag): generated side condition below.
  (c) the generated side conditions the argument rests on: no wildcard receive, no seeding of the libc random
      stream, the known consumers of `rand()`, no pointer value used as an integer.

  NOT here (runtime clause, only exercised by streams `cli_repro` / `cli_memcheck`): uninitialised memory,
  address-space layout, the actual libc `rand()` sequence, MPI's own progress engine.

  The native RCB partitioner (`ref_migrate_native_rcb_part`), the remaining consumer of the `rand()` stream, is not
  modelled here: `Refine.Props.C04Rcb` has it with the stream as an explicit argument (`rcb_part_deterministic`,
  `rcb_part_total`).
-/
namespace Refine.Props.C18Mech
open Refine.Model.CellStore Refine.Model.ReproEdge Refine.Model.ReproEdge.EdgeSt
open Refine.Model.NodeIds (Status)

/-! ## (a) `ref_edge_create` -/

/-- every node the edge loop reads is a real node (true of every store satisfying `CellInv`: `gridOk_of_inv`) -/
def GridOk (groups : List CellStore) : Prop := ∀ p ∈ gridPairs groups, 0 ≤ p.1 ∧ 0 ≤ p.2

/-- the adjacency-chain lookup of `ref_edge_with` is equivalent to list membership: `ref_edge_create` never
    fails and its `e2n` is the specification fold "append the pair unless already listed in either orientation"
    over the pairs in loop order -/
theorem edgeCreate_eq_spec (groups : List CellStore) (h : GridOk groups) :
    (edgeCreate groups).1 = .ok ∧ (edgeCreate groups).2.e2n = specEdges (gridPairs groups) := by
  obtain ⟨h1, _, h3⟩ := uniqAll_spec (gridPairs groups) empty_inv h
  exact ⟨h1, h3⟩

/-- **every undirected cell edge is numbered exactly once** -/
theorem edgeCreate_each_cell_edge_once (groups : List CellStore) (h : GridOk groups) {p : Int × Int}
    (hp : p ∈ gridPairs groups) :
    (edgeCreate groups).2.e2n.countP (fun q => edgeMatch q p.1 p.2) = 1 := by
  rw [(edgeCreate_eq_spec groups h).2]
  exact specEdges_count_one _ hp

/-- the numbering is the order of first appearance in the loop nest (a subsequence of the visited pairs, so every
    listed edge is a cell edge, oriented as first seen) -/
theorem edgeCreate_first_seen_order (groups : List CellStore) (h : GridOk groups) :
    (edgeCreate groups).2.e2n.Sublist (gridPairs groups) := by
  rw [(edgeCreate_eq_spec groups h).2]
  exact specEdges_sublist _

/-- **the edge numbering depends only on the ordered list of live cells**: two grids whose cell stores have the
    same `e2n` tables and the same live-cell sequences (slot order, node lists) get the same `ref_edge` — whatever
    their free lists, adjacency chains, stale rows, capacities or add/remove histories are.  No invariant is
    assumed (error statuses included). -/
theorem edgeCreate_depends_only_on_live_sequence (g1 g2 : List CellStore)
    (h1 : ∀ s ∈ g1, E2nInRange s) (h2 : ∀ s ∈ g2, E2nInRange s)
    (hk : g1.map liveKey = g2.map liveKey) : edgeCreate g1 = edgeCreate g2 := by
  unfold edgeCreate
  rw [gridPairs_eq g1 h1, gridPairs_eq g2 h2, hk]

/-- the `e2n` tables generated from `ref_cell_initialize` address real cell nodes, for all 16 cell types -/
theorem tables_in_range : ∀ t ∈ Refine.Gen.CellTables.all, E2nInRange (CellStore.create t) := by
  have h : ∀ t ∈ Refine.Gen.CellTables.all, ∀ ab ∈ (CellStore.create t).e2n,
      ab.1 < (CellStore.create t).nodePer ∧ ab.2 < (CellStore.create t).nodePer := by decide +kernel
  exact h

/-- `GridOk` holds for stores satisfying the cell-store invariant of C14 (`CellInv`: preserved by every
    `ref_cell_add` / `ref_cell_remove` / `replace`, `Props/C14NodeCell`) -/
theorem gridOk_of_inv (groups : List CellStore) (h : ∀ s ∈ groups, CellStore.CellInv s ∧ E2nInRange s) : GridOk groups := by
  intro p hp
  unfold gridPairs at hp
  rw [List.mem_flatMap] at hp
  obtain ⟨s, hs, hps⟩ := hp
  have hmem : s ∈ groups := by
    rw [List.mem_append] at hs
    rcases hs with hs | hs
    · exact List.mem_of_mem_drop (List.mem_of_mem_take hs)
    · exact List.mem_of_mem_drop (List.mem_of_mem_take hs)
  obtain ⟨hinv, hrange⟩ := h s hmem
  unfold cellEdgePairs at hps
  rw [List.mem_flatMap] at hps
  obtain ⟨c, hc, hpc⟩ := hps
  rw [List.mem_filter] at hc
  rw [List.mem_map] at hpc
  obtain ⟨ab, hab, rfl⟩ := hpc
  obtain ⟨ra, rb⟩ := hrange ab hab
  have key : ∀ k, k < s.nodePer → 0 ≤ s.c2nAt k c := by
    intro k hk
    obtain ⟨hk', e⟩ := CellStore.cellNodes_getElem hinv hc.2 hk
    exact e ▸ hinv.nonneg (c : Int) hc.2 _ (List.getElem_mem hk')
  exact ⟨key _ ra, key _ rb⟩

/-! ### non-vacuity: concrete histories (a 4-row triangle store; groups 0..2 are not visited) -/

def smallTri : CellStore :=
  { nodePer := 3, sizePer := 4, e2n := [(0, 1), (1, 2), (2, 0)], n := 0, blank := 0,
    c2n := CellStore.freeRows 4 0 4, adj := Adj.create }
def dummy : CellStore := { nodePer := 2, sizePer := 3, e2n := [], n := 0, blank := -1, c2n := [], adj := Adj.create }
def grid (s : CellStore) : List CellStore := [dummy, dummy, dummy, s]

/-- history 1: add two triangles -/
def hist1 : CellStore := ((smallTri.add [0, 1, 2, 7]).2.2.add [2, 1, 3, 7]).2.2
/-- history 2: add a junk cell first, remove it, add the two triangles (the first lands in the freed slot), add
    another junk cell and remove it: different adjacency chains and free list, same live sequence -/
def hist2 : CellStore :=
  (((((((smallTri.add [5, 6, 4, 9]).2.2.remove 0).2.add [0, 1, 2, 7]).2.2.add [2, 1, 3, 7]).2.2.add [9, 8, 7, 1]).2.2).remove 2).2
/-- history 3: the same two triangles added in the other order -/
def hist3 : CellStore := ((smallTri.add [2, 1, 3, 7]).2.2.add [0, 1, 2, 7]).2.2

example : (edgeCreate (grid hist1)).2.e2n = [(0, 1), (1, 2), (2, 0), (1, 3), (3, 2)] := by decide +kernel
example : hist1 ≠ hist2 ∧ liveKey hist1 = liveKey hist2 ∧ edgeCreate (grid hist1) = edgeCreate (grid hist2) := by decide +kernel
/-- a different live ORDER gives a different numbering (same undirected edge set): the order is what matters -/
example : (edgeCreate (grid hist3)).2.e2n = [(2, 1), (1, 3), (3, 2), (0, 1), (2, 0)] := by decide +kernel
/-- the error branch is modelled: a live cell with a negative node makes `ref_edge_create` return REF_INVALID -/
example : (edgeCreate (grid (smallTri.add [0, -2, 2, 7]).2.2)).1 = .invalid := by decide +kernel

/-! ## (b) delivery order and completion order of tagged point-to-point exchanges -/

section Sched
open Refine.Model.Comm Refine.Model.ReproSched
variable {α : Type}

/-- every receive in refine's sources names its source and its tag: no `MPI_ANY_SOURCE`, `MPI_ANY_TAG`,
    `MPI_Probe`, `MPI_Iprobe`, `MPI_Waitany` (generated from the current sources on every run).  This is what
    entitles the model's `Rcv` to carry an explicit (source, tag). -/
theorem receives_name_source_and_tag :
    Refine.Gen.SideConds.wildcardReceives = 0 ∧ 0 < Refine.Gen.SideConds.pointToPointCalls := by decide

/-- MPI matching on a rank (receives in posted order, each taking the earliest-arrived unmatched message of its
    (source, tag)) depends only on the per-(source, tag) subsequences of its mailbox -/
theorem matching_depends_only_on_fifo_subsequences (rqs : List Rcv) (mb1 mb2 : List (Env α))
    (h : ∀ s t, mb1.filter (hasKey s t) = mb2.filter (hasKey s t)) : matchRecvs mb1 rqs = matchRecvs mb2 rqs :=
  matchRecvs_congr rqs mb1 mb2 h

/-- when at most one message per (source, dest, tag) is in flight, ANY two delivery orders of the same messages
    are FIFO-equal: no ordering guarantee of the network is needed at all -/
theorem any_order_is_fifo_equal_when_triples_distinct {a1 a2 : List (Env α)} (hp : a1.Perm a2)
    (hn : (a2.map key3).Nodup) : FifoEq a1 a2 :=
  fifoEq_of_perm_nodup hp hn

/-- `MPI_Waitall`: deposits into pairwise disjoint, in-bounds regions leave the same buffer in any completion order -/
theorem disjoint_deposits_commute {N : Nat} (pairs : List (Rcv × Env α)) (hin : ∀ pr ∈ pairs, InBounds N pr)
    (hdis : ∀ (i j : Nat) (p q : Rcv × Env α), i ≠ j → pairs[i]? = some p → pairs[j]? = some q → Disjoint p q)
    {o1 o2 : List Nat} (hp : o1.Perm o2) (buf : List α) (hb : buf.length = N) :
    complete pairs o1 buf = complete pairs o2 buf :=
  complete_perm pairs hin hdis hp buf hb

/-- **schedule independence of a tagged point-to-point exchange**: FIFO-equal delivery orders and arbitrary
    completion orders (permutations of each other) give the same status and receive buffer on every rank, when
    every rank's posted receives address pairwise disjoint regions inside its buffer -/
theorem p2p_schedule_independent (w : World (Posted α)) (a1 a2 : List (Env α)) (c1 c2 : Nat → List Nat)
    (hf : FifoEq a1 a2) (hc : ∀ r, (c1 r).Perm (c2 r)) (hok : ∀ p ∈ w, RecvsOk p.buf.length p.rcvs) :
    p2pSched a1 c1 w = p2pSched a2 c2 w :=
  p2pSched_congr w a1 a2 c1 c2 hf hc hok

/-- the posted world of `ref_mpi_alltoallv_native` (exactly the one `Refine.Model.Comm.alltoallvNative` exchanges) -/
def nativeWorld (ty : RefType) (maxTag n : Int) (w : World (A2A α)) : World (Posted α) :=
  w.mapIdx fun r a => nativePost ty (w.length : Int) maxTag (r : Int) n a

theorem alltoallvNative_is_exchange_of_nativeWorld (ty : RefType) (maxTag n : Int) (w : World (A2A α)) :
    alltoallvNative ty maxTag n w = p2pExchange (nativeWorld ty maxTag n w) := rfl

theorem nativeWorld_msgs_nodup (ty : RefType) (maxTag n : Int) (w : World (A2A α)) :
    ∀ p ∈ nativeWorld ty maxTag n w, (p.msgs.map fun m => (m.dest, m.tag)).Nodup :=
  Refine.Lemmas.Comm.forall_mem_mapIdx fun _ _ => nativePost_msgs_nodup ty _ maxTag _ n _

/-- in the native all-to-all at most one message per (source, dest, tag) is in flight -/
theorem nativeWorld_triples_distinct (ty : RefType) (maxTag n : Int) (w : World (A2A α)) :
    ((allMsgs (nativeWorld ty maxTag n w)).map key3).Nodup :=
  allMsgs_nodup _ (nativeWorld_msgs_nodup ty maxTag n w)

theorem nativeWorld_recvsOk (ty : RefType) (maxTag n : Int) (w : World (A2A α)) (hn : 0 ≤ n)
    (hw : ∀ a ∈ w, (∀ s ∈ a.recvSize, 0 ≤ s) ∧ n * a.recvSize.sum ≤ (a.recv.length : Int)) :
    ∀ p ∈ nativeWorld ty maxTag n w, RecvsOk p.buf.length p.rcvs :=
  Refine.Lemmas.Comm.forall_mem_mapIdx fun i hi =>
    nativePost_recvsOk ty _ maxTag _ n hn _ (hw w[i] (List.getElem_mem hi)).1 (hw w[i] (List.getElem_mem hi)).2

/-- **`ref_mpi_alltoallv_native` is independent of message delivery order and of `MPI_Waitall` completion order**:
    for ANY two delivery orders of the posted messages (arbitrary permutations — no FIFO assumption is needed:
    a rank sends at most one message to each destination, so the triples are distinct) and ANY two completion
    orders on every rank, the statuses and
    receive buffers agree.  Hypotheses: item size and counts non-negative, receive buffers as large as the
    counts say (the C's own requirement). -/
theorem alltoallv_native_schedule_independent (ty : RefType) (maxTag n : Int) (w : World (A2A α)) (hn : 0 ≤ n)
    (hw : ∀ a ∈ w, (∀ s ∈ a.recvSize, 0 ≤ s) ∧ n * a.recvSize.sum ≤ (a.recv.length : Int))
    (a1 a2 : List (Env α)) (h1 : a1.Perm (allMsgs (nativeWorld ty maxTag n w)))
    (h2 : a2.Perm (allMsgs (nativeWorld ty maxTag n w)))
    (c1 c2 : Nat → List Nat) (hc : ∀ r, (c1 r).Perm (c2 r)) :
    p2pSched a1 c1 (nativeWorld ty maxTag n w) = p2pSched a2 c2 (nativeWorld ty maxTag n w) :=
  p2pSched_congr _ _ _ _ _ (fifoEq_of_perm_allMsgs h1 h2 (nativeWorld_msgs_nodup ty maxTag n w)) hc
    (nativeWorld_recvsOk ty maxTag n w hn hw)

/-- the function the driver `repro` executes against the real `ref_mpi.c` (pseudo-random delivery and completion
    orders derived from `seed`) does not depend on `seed` -/
theorem alltoallvNativeSched_seed_independent (seed1 seed2 : Nat) (ty : RefType) (maxTag n : Int)
    (w : World (A2A α)) (hn : 0 ≤ n)
    (hw : ∀ a ∈ w, (∀ s ∈ a.recvSize, 0 ≤ s) ∧ n * a.recvSize.sum ≤ (a.recv.length : Int)) :
    alltoallvNativeSched seed1 ty maxTag n w = alltoallvNativeSched seed2 ty maxTag n w := by
  unfold alltoallvNativeSched
  exact alltoallv_native_schedule_independent ty maxTag n w hn hw _ _ (shuffled_perm _ _) (shuffled_perm _ _) _ _
    (fun r => (permOf_perm _ _).trans (permOf_perm _ _).symm)

/-! rank-0 loops: blocking `MPI_Send` / `MPI_Recv`, the receives complete in posted order -/

theorem scatter_is_exchange_of_scatterPosted [Inhabited α] (ty : RefType) (maxTag : Int) (chunks : List (List α)) :
    scatter ty maxTag chunks = p2pExchange (scatterPosted ty maxTag chunks) := rfl

theorem gather_is_exchange_of_gatherPosted [Inhabited α] (ty : RefType) (maxTag : Int) (w : World (List α)) :
    gather ty maxTag w = p2pExchange (gatherPosted ty maxTag w) := rfl

/-- the rank-0 gather loop (`ref_mpi_gather_send` on the workers, `ref_mpi_gather_recv` from worker 1, 2, … on
    rank 0): whatever order the workers' messages arrive in, rank 0 ends with the same buffer -/
theorem gather_schedule_independent [Inhabited α] (ty : RefType) (maxTag : Int) (w : World (List α))
    (a1 a2 : List (Env α)) (h1 : a1.Perm (allMsgs (gatherPosted ty maxTag w)))
    (h2 : a2.Perm (allMsgs (gatherPosted ty maxTag w))) (c : Nat → List Nat) :
    p2pSched a1 c (gatherPosted ty maxTag w) = p2pSched a2 c (gatherPosted ty maxTag w) := by
  exact p2pSched_congr_arrival _ _ _ _ (fifoEq_of_perm_allMsgs h1 h2 (gatherPosted_msgs_nodup ty maxTag w))

/-- the rank-0 scatter loop (`ref_mpi_scatter_send` to worker 1, 2, …; one `ref_mpi_scatter_recv` per worker) -/
theorem scatter_schedule_independent [Inhabited α] (ty : RefType) (maxTag : Int) (chunks : List (List α))
    (a1 a2 : List (Env α)) (h1 : a1.Perm (allMsgs (scatterPosted ty maxTag chunks)))
    (h2 : a2.Perm (allMsgs (scatterPosted ty maxTag chunks))) (c : Nat → List Nat) :
    p2pSched a1 c (scatterPosted ty maxTag chunks) = p2pSched a2 c (scatterPosted ty maxTag chunks) := by
  exact p2pSched_congr_arrival _ _ _ _ (fifoEq_of_perm_allMsgs h1 h2 (scatterPosted_msgs_nodup ty maxTag chunks))

theorem scatterSched_seed_independent [Inhabited α] (seed1 seed2 : Nat) (ty : RefType) (maxTag : Int)
    (chunks : List (List α)) : scatterSched seed1 ty maxTag chunks = scatterSched seed2 ty maxTag chunks := by
  unfold scatterSched
  exact scatter_schedule_independent ty maxTag chunks _ _ (shuffled_perm _ _) (shuffled_perm _ _) _

theorem gatherSched_seed_independent [Inhabited α] (seed1 seed2 : Nat) (ty : RefType) (maxTag : Int)
    (w : World (List α)) : gatherSched seed1 ty maxTag w = gatherSched seed2 ty maxTag w := by
  unfold gatherSched
  exact gather_schedule_independent ty maxTag w _ _ (shuffled_perm _ _) (shuffled_perm _ _) _

/-! the common value of all schedules is the order-free matcher `p2pExchange` that C17's theorems are about -/

/-- **every schedule computes `p2pExchange`**: any delivery permutation of the posted messages, any completion
    permutation on every rank, when every rank sends to pairwise distinct (dest, tag), receives from pairwise
    distinct (source, tag) and its receives address disjoint in-bounds regions -/
theorem p2p_every_schedule_is_the_exchange (w : World (Posted α)) (a : List (Env α)) (c : Nat → List Nat)
    (ha : a.Perm (allMsgs w)) (hc : ∀ r, (c r).Perm (canonOrder w r))
    (hmsg : ∀ p ∈ w, (p.msgs.map fun m => (m.dest, m.tag)).Nodup)
    (hr : ∀ p ∈ w, (p.rcvs.map fun rq => (rq.source, rq.tag)).Nodup)
    (hok : ∀ p ∈ w, RecvsOk p.buf.length p.rcvs) :
    p2pSched a c w = p2pExchange w :=
  p2pSched_eq_p2pExchange w a c ha hc hmsg hr hok

/-- the scheduled native all-to-all the driver `repro` runs IS `Refine.Model.Comm.alltoallvNative` (the function of
    C17's `alltoallv_native_spec`), for every seed -/
theorem alltoallvNativeSched_eq_alltoallvNative (seed : Nat) (ty : RefType) (maxTag n : Int) (w : World (A2A α))
    (hn : 0 ≤ n) (hw : ∀ a ∈ w, (∀ s ∈ a.recvSize, 0 ≤ s) ∧ n * a.recvSize.sum ≤ (a.recv.length : Int)) :
    alltoallvNativeSched seed ty maxTag n w = alltoallvNative ty maxTag n w := by
  rw [alltoallvNative_is_exchange_of_nativeWorld]
  unfold alltoallvNativeSched
  show p2pSched _ _ (nativeWorld ty maxTag n w) = _
  apply p2pSched_eq_p2pExchange
  · exact shuffled_perm _ _
  · intro r
    rw [canonOrder_eq_getD]
    exact permOf_perm _ _
  · exact nativeWorld_msgs_nodup ty maxTag n w
  · exact Refine.Lemmas.Comm.forall_mem_mapIdx fun _ _ => nativePost_rcvs_nodup ty _ maxTag _ n _
  · exact nativeWorld_recvsOk ty maxTag n w hn hw

/-- the scheduled rank-0 gather loop IS `Refine.Model.Comm.gather` (C17's `gather_spec`), for every seed -/
theorem gatherSched_eq_gather [Inhabited α] (seed : Nat) (ty : RefType) (maxTag : Int) (w : World (List α)) :
    gatherSched seed ty maxTag w = gather ty maxTag w := by
  rw [gather_is_exchange_of_gatherPosted]
  unfold gatherSched
  simp only [← canonOrder_eq_getD]
  exact p2pSched_eq_p2pExchange_blocking _ _ (shuffled_perm _ _) (gatherPosted_msgs_nodup ty maxTag w)
    (gatherPosted_rcvs_nodup ty maxTag w)

/-- the scheduled rank-0 scatter loop IS `Refine.Model.Comm.scatter` (C17's `scatter_spec`), for every seed -/
theorem scatterSched_eq_scatter [Inhabited α] (seed : Nat) (ty : RefType) (maxTag : Int) (chunks : List (List α)) :
    scatterSched seed ty maxTag chunks = scatter ty maxTag chunks := by
  rw [scatter_is_exchange_of_scatterPosted]
  unfold scatterSched
  simp only [← canonOrder_eq_getD]
  exact p2pSched_eq_p2pExchange_blocking _ _ (shuffled_perm _ _) (scatterPosted_msgs_nodup ty maxTag chunks)
    (scatterPosted_rcvs_nodup ty maxTag chunks)

/-! ### non-vacuity: a 3-rank exchange; two seeds give different schedules and the answer is C17's -/

def exA2A : World (A2A Int) :=
  [⟨[10, 11, 12, 13], [1, 2, 1], [0, 0, 0], [1, 1, 1]⟩,
   ⟨[20, 21], [1, 0, 1], [0, 0, 0], [2, 0, 1]⟩,
   ⟨[30, 31, 32], [1, 1, 1], [0, 0, 0], [1, 1, 1]⟩]

example : (shuffled 5 (allMsgs (nativeWorld .int 1000 1 exA2A))).map key3
    ≠ (shuffled 6 (allMsgs (nativeWorld .int 1000 1 exA2A))).map key3 := by decide +kernel
example : alltoallvNativeSched 5 .int 1000 1 exA2A = alltoallvNative .int 1000 1 exA2A := by decide +kernel
example : alltoallvNativeSched 6 .int 1000 1 exA2A
    = some [(.ok, [10, 20, 30]), (.ok, [11, 12, 31]), (.ok, [13, 21, 32])] := by decide +kernel
example : gatherSched 3 .int 1000 [[1], [2, 3], [], [4]] = gather .int 1000 [[1], [2, 3], [], [4]] := by decide +kernel
example : scatterSched 9 .int 1000 [[1], [2, 3], [], [4]] = scatter .int 1000 [[1], [2, 3], [], [4]] := by decide +kernel
/-- overlapping receive regions DO make the result depend on the completion order (the hypothesis is needed) -/
example : complete [(⟨0, 0, 0, 2⟩, ⟨0, 0, 0, [1, 1]⟩), (⟨1, 1, 1, 2⟩, ⟨1, 0, 1, [2, 2]⟩)] [0, 1] [0, 0, 0]
    ≠ complete [(⟨0, 0, 0, 2⟩, (⟨0, 0, 0, [1, 1]⟩ : Env Int)), (⟨1, 1, 1, 2⟩, ⟨1, 0, 1, [2, 2]⟩)] [1, 0] [0, 0, 0] := by
  decide +kernel

end Sched

/-! ## (c) generated side conditions -/

/-- no call seeds a libc random stream anywhere in the sources (`srand`, `srandom`, `srand48`, `seed48`,
    `initstate`, `setstate`, `lcong48`): `rand()` therefore yields the same sequence in every run of the same
    binary (the libc fact itself is an ASSUMPTION) -/
theorem rand_stream_never_seeded :
    Refine.Gen.ReproConds.seedCalls = 0 ∧ 50 < Refine.Gen.ReproConds.filesScanned := by decide

/-- the only consumers of the `rand()` stream are `ref_sort.c` (shuffle / rand_in_range: the search-tree insertion
    order, proved irrelevant for the wall distance in `Props/C18`), `ref_migrate.c` (RCB rotation on rank 0) and
    `ref_interp.c` (two tie-breaking picks of the donor walk); a new consumer breaks this obligation -/
theorem rand_consumers_are_known :
    Refine.Gen.ReproConds.randFiles = ["ref_interp.c", "ref_migrate.c", "ref_sort.c"] := by decide +kernel

/-- no pointer value is used as an integer (`uintptr_t` / `intptr_t`) and libc `qsort` (whose comparator is where an
    address order would enter) is not called -/
theorem no_address_as_integer :
    Refine.Gen.ReproConds.addrIntUses = 0 ∧ Refine.Gen.ReproConds.qsortCalls = 0 := by decide

end Refine.Props.C18Mech
