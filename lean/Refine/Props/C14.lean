import Refine.Lemmas.ContainersSort
import Refine.Lemmas.ContainersHeap
import Refine.Lemmas.ContainersAdj
import Refine.Lemmas.ContainersAdjSeq
import Refine.Lemmas.ContainersSortDbl
import Refine.Lemmas.ContainersListDict
import Refine.Lemmas.ContainersAdjCheck
import Refine.Lemmas.ContainersCheck
import Mathlib.Data.Int.Order.Basic

/-!
  C14, part A: the integer list, dictionary, adjacency and sort/search helpers of refine behave like
  their abstract models — for all inputs, no size bound.

  The models (`Refine/Model/Containers*.lean`) mirror `ref_sort.c`, `ref_list.c`, `ref_dict.c`,
  `ref_adj.c` function by function — the sort, search, scan, chain-walk and `ref_list` copy loops literally, the
  element shifts of `ref_dict_store` / `ref_dict_remove` as `take ++ x :: drop` / `eraseIdx` and the scans of
  `ref_dict_has_key` / `_has_value` as `List.any` — and are tied to the compiled C by the `containers` correspondence
  streams.  Every `theorem` below is an obligation audited on each run.
-/
namespace Refine.Props.C14
open Refine.Model Refine.Model.Sort

/-! ## ref_sort.c -/

/-- `ref_sort_insertion_int`: the output is the sorted permutation of the input -/
theorem sortInsertion_spec (a : List Int) :
    (sortInsertion a).Perm a ∧ (sortInsertion a).Pairwise (· ≤ ·) :=
  ⟨sortInsertion_perm a, sortInsertion_sorted a⟩

/-- the literal single `for (;;)` loop of `ref_sort_heap_*` (what the driver executes and the correspondence
    stream compares) computes exactly its two phases (heapify, then extraction) -/
theorem sortHeapLoop_is_two_phase {α : Type} [Inhabited α] (lt : α → α → Bool) (a : List α) :
    sortHeapLoop lt a = sortHeap lt a := sortHeapLoop_eq lt a

/-- `ref_sort_heap_*` (literal loop, `n < 2` early return), generic statement: for ANY Boolean
    comparison — in particular `<` on `REF_DBL` with NaNs — `sorted_index` is a permutation of `0..n-1` -/
theorem sortHeap_perm_any {α : Type} [Inhabited α] (lt : α → α → Bool) (a : List α) :
    (sortHeapLoop lt a).Perm (List.range a.length) ∧ (applyIdx a (sortHeapLoop lt a)).Perm a := by
  rw [sortHeapLoop_eq]
  exact ⟨sortHeap_perm lt a, applyIdx_perm a _ (sortHeap_perm lt a)⟩

/-- `ref_sort_heap_*` over any linear order: `original[sorted_index[·]]` is non-decreasing -/
theorem sortHeap_sorted_linear {α : Type} [Inhabited α] [LinearOrder α] (a : List α) :
    (applyIdx a (sortHeapLoop (fun x y => decide (x < y)) a)).Pairwise (· ≤ ·) := by
  rw [sortHeapLoop_eq]
  exact sortHeap_sorted a

/-- `ref_sort_heap_int`: a permutation of `0..n-1` under which the keys are non-decreasing -/
theorem sortHeapInt_spec (a : List Int) :
    (sortHeapInt a).Perm (List.range a.length) ∧ (applyIdx a (sortHeapInt a)).Perm a ∧
      (applyIdx a (sortHeapInt a)).Pairwise (· ≤ ·) := by
  unfold sortHeapInt
  rw [sortHeapLoop_eq]
  refine ⟨sortHeap_perm _ a, applyIdx_perm a _ (sortHeap_perm _ a), ?_⟩
  have hlt : ltInt = ltOf (α := Int) := by funext x y; simp [ltInt, ltOf]
  rw [hlt]; exact sortHeap_sorted a

/-- `ref_sort_heap_glob` (same text with `REF_GLOB` keys) -/
theorem sortHeapGlob_spec (a : List Int) :
    (sortHeapGlob a).Perm (List.range a.length) ∧ (applyIdx a (sortHeapGlob a)).Perm a ∧
      (applyIdx a (sortHeapGlob a)).Pairwise (· ≤ ·) := sortHeapInt_spec a

/-- `ref_sort_heap_dbl` on IEEE doubles, NaNs included: always a permutation of `0..n-1`
    (the ordering statement for NaN-free keys is `sortHeap_sorted_linear`) -/
theorem sortHeapDbl_perm (a : List Float) :
    (sortHeapDbl a).Perm (List.range a.length) ∧ (applyIdx a (sortHeapDbl a)).Perm a :=
  sortHeap_perm_any ltFloat a

/-- `ref_sort_in_place_glob`: the array is replaced by its sorted permutation (`n < 2`: unchanged) -/
theorem sortInPlaceGlob_spec (a : List Int) :
    (sortInPlaceGlob a).Perm a ∧ (sortInPlaceGlob a).Pairwise (· ≤ ·) := by
  unfold sortInPlaceGlob
  split_ifs with h
  · exact ⟨List.Perm.refl _, List.pairwise_iff_getElem.2 fun i j hi hj hij => by omega⟩
  · exact (sortHeapGlob_spec a).2

/-- `ref_sort_unique_int`, every `n` (0 included): `nunique` counts the strictly increasing list of the distinct
    inputs -/
theorem uniqueInt_sorted_dedup (a : List Int) :
    (uniqueInt a).1 = (uniqueList a).length ∧ (uniqueList a).Pairwise (· < ·) ∧
      ∀ x, x ∈ uniqueList a ↔ x ∈ a := uniqueInt_spec a

/-- `ref_sort_unique_int`, `n = 0`: the early return, no unique entry (without it `nunique` would be 1 and
    `ref_sort_same(0, ..)` would compare `unique[0]` of two zero-length allocations) -/
theorem uniqueInt_empty : uniqueInt [] = (0, []) := rfl

/-- `ref_sort_same` decides equality of the element sets, for every `n` -/
theorem sortSame_iff_same_set (l0 l1 : List Int) :
    sortSame l0 l1 = true ↔ ∀ x, x ∈ l0 ↔ x ∈ l1 := by
  rw [sortSame_iff l0 l1]
  obtain ⟨-, hs0, hm0⟩ := uniqueInt_spec l0
  obtain ⟨-, hs1, hm1⟩ := uniqueInt_spec l1
  constructor
  · intro h x; rw [← hm0, ← hm1, h]
  · intro h; exact ListFacts.pairwise_ext (fun _ _ h1 h2 => Int.lt_irrefl _ (Int.lt_trans h1 h2)) hs0 hs1
      (fun x => by rw [hm0, hm1, h])

/-- `ref_sort_search_int` on a non-decreasing list (literal `mid = n>>1` start and `lower<mid<upper` loop):
    `ok` with a position holding the target if it is present, else `not_found` and `REF_EMPTY` -/
theorem searchInt_correct (a : List Int) (hsorted : a.Pairwise (· ≤ ·)) (t : Int) :
    (t ∈ a → ∃ p : Nat, searchInt a t = (Status.ok, (p : Int)) ∧ p < a.length ∧ a.getD p 0 = t) ∧
    (t ∉ a → searchInt a t = (Status.not_found, EMPTY)) :=
  (searchInt_spec a hsorted t).of_mem

/-- the status alone: found iff present -/
theorem searchInt_ok_iff_mem (a : List Int) (hsorted : a.Pairwise (· ≤ ·)) (t : Int) :
    (searchInt a t).1 = Status.ok ↔ t ∈ a := by
  rcases searchInt_spec a hsorted t with ⟨p, hr, hp, hx⟩ | ⟨hr, hx⟩
  · rw [hr]; simp only [true_iff]; rw [ListFacts.mem_iff_getD (d := 0)]; exact ⟨p, hp, hx⟩
  · rw [hr]; simp [hx]

/-- `ref_sort_search_glob` is the same text on `REF_GLOB` -/
theorem searchGlob_correct (a : List Int) (hsorted : a.Pairwise (· ≤ ·)) (t : Int) :
    (t ∈ a → ∃ p : Nat, searchGlob a t = (Status.ok, (p : Int)) ∧ p < a.length ∧ a.getD p 0 = t) ∧
    (t ∉ a → searchGlob a t = (Status.not_found, EMPTY)) := searchInt_correct a hsorted t

/-- on ANY list (sorted or not) a reported position holds the target, every other outcome is
    `not_found`/`REF_EMPTY` -/
theorem searchInt_sound_any (a : List Int) (t : Int) :
    (∃ p : Nat, searchInt a t = (Status.ok, (p : Int)) ∧ p < a.length ∧ a.getD p 0 = t) ∨
      searchInt a t = (Status.not_found, EMPTY) := (searchInt_any a t).imp_right And.left


/-- the `while ((lower < mid) && (mid < upper))` loop ends within `upper - lower` iterations on ANY list:
    the model's fuel `n` is never exhausted, more fuel changes nothing -/
theorem searchInt_loop_terminates (a : List Int) (t : Int) (extra : Nat) :
    searchLoop a t (a.length + extra) 0 (a.length - 1) (a.length >>> 1) =
      searchLoop a t a.length 0 (a.length - 1) (a.length >>> 1) :=
  searchLoop_fuel a t a.length 0 (a.length - 1) _ (by omega) extra

/-- `ref_sort_search_dbl` over any linear order (no NaN), for ANY list: the documented clamps, otherwise an
    interval `[a[p], a[p+1])` that contains the target.  In particular the loop terminates (the result is
    never the model's `none`, which stands for exhausted fuel) and `REF_FAILURE` is never returned. -/
theorem searchDbl_correct {α : Type} [LinearOrder α] [Inhabited α] (a : List α) (t : α) :
    (a.length = 0 → searchDbl (fun x y : α => decide (x ≤ y)) (fun x y : α => decide (x < y)) a t
        = some (Status.not_found, EMPTY)) ∧
    (a.length = 1 → searchDbl (fun x y : α => decide (x ≤ y)) (fun x y : α => decide (x < y)) a t
        = some (Status.ok, 0)) ∧
    (2 ≤ a.length → t ≤ a.getD 0 default →
        searchDbl (fun x y : α => decide (x ≤ y)) (fun x y : α => decide (x < y)) a t
        = some (Status.ok, 0)) ∧
    (2 ≤ a.length → ¬ t ≤ a.getD 0 default → a.getD (a.length - 1) default ≤ t →
        searchDbl (fun x y : α => decide (x ≤ y)) (fun x y : α => decide (x < y)) a t
        = some (Status.ok, ((a.length - 2 : Nat) : Int))) ∧
    (2 ≤ a.length → a.getD 0 default < t → t < a.getD (a.length - 1) default →
        ∃ p : Nat, searchDbl (fun x y : α => decide (x ≤ y)) (fun x y : α => decide (x < y)) a t
          = some (Status.ok, (p : Int)) ∧ p + 1 < a.length ∧
          a.getD p default ≤ t ∧ t < a.getD (p + 1) default) :=
  searchDbl_spec_any a t

/-- on a non-decreasing list the bracketing interval is unique, so the result is THE interval -/
theorem searchDbl_unique {α : Type} [LinearOrder α] [Inhabited α] (a : List α) (hs : a.Pairwise (· ≤ ·))
    (t : α) (p : Nat) (hp : p + 1 < a.length) (hp1 : a.getD p default ≤ t) (hp2 : t < a.getD (p + 1) default)
    (h0 : a.getD 0 default < t) :
    searchDbl (fun x y : α => decide (x ≤ y)) (fun x y : α => decide (x < y)) a t = some (Status.ok, (p : Int)) := by
  have hlast : t < a.getD (a.length - 1) default :=
    lt_of_lt_of_le hp2 (getD_rel_of_pairwise hs le_refl default (by omega) (by omega))
  obtain ⟨q, hq, hq0, hq1, hq2⟩ := (searchDbl_spec_any a t).2.2.2.2 (by omega) h0 hlast
  exact hq.trans (by rw [bracket_unique a hs t p q hp hq0 hp1 hp2 hq1 hq2])

/-- `ref_sort_shuffle`: a permutation of `0..n-1` for every `rand()` stream -/
theorem shuffle_is_perm (n : Nat) (rands : List Nat) : (shuffle n rands).Perm (List.range n) :=
  shuffle_perm n rands

/-- `ref_sort_rand_in_range(min, max)` lies in `[min, max]` for every `rand()` value -/
theorem randInRange_in_range (min max : Int) (r : Nat) (h : min ≤ max) :
    min ≤ randInRange min max r ∧ randInRange min max r ≤ max := by
  unfold randInRange
  have h1 : 0 ≤ Int.tmod (r : Int) (max - min + 1) := Int.tmod_nonneg _ (Int.natCast_nonneg r)
  have h2 : Int.tmod (r : Int) (max - min + 1) < max - min + 1 := Int.tmod_lt_of_pos _ (by omega)
  omega

-- non-vacuity: concrete runs of the literal loops
example : sortInsertion [3, 1, 2, 1] = [1, 1, 2, 3] := by decide +kernel
example : sortHeapInt [3, 1, 2, 1, 5, 0] = [5, 1, 3, 2, 0, 4] := by decide +kernel
example : applyIdx [3, 1, 2, 1, 5, 0] (sortHeapInt [3, 1, 2, 1, 5, 0]) = [0, 1, 1, 2, 3, 5] := by decide +kernel
example : uniqueInt [3, 1, 2, 1] = (3, [1, 2, 3, 3]) := by decide +kernel
example : sortSame [1, 2, 2] [2, 1, 1] = true ∧ sortSame [1, 2, 2] [2, 1, 3] = false := by decide +kernel
example : ([1, 3, 5, 7] : List Int).Pairwise (· ≤ ·) ∧ searchInt [1, 3, 5, 7] 5 = (Status.ok, 2) ∧
    searchInt [1, 3, 5, 7] 4 = (Status.not_found, EMPTY) := by decide +kernel

example : shuffle 5 [3, 7, 100, 2] = [3, 4, 0, 2, 1] := by decide +kernel
example : searchDbl (fun x y : Int => decide (x ≤ y)) (fun x y : Int => decide (x < y)) [0, 10, 20] 15 =
    some (Status.ok, 1) := by decide +kernel

/-! ## ref_list.c -/

/-- `ref_list_delete` (literal two-index compaction loop) removes EVERY occurrence of a present item -/
theorem list_delete_present (l : RList) (item : Int) (h : item ∈ l.value) :
    l.delete item = ({ l with value := l.value.filter (· ≠ item) }, Status.ok) := by
  rw [RList.delete_eq, if_pos h]

/-- … and reports `REF_NOT_FOUND`, leaving the list unchanged, iff there is none -/
theorem list_delete_absent (l : RList) (item : Int) (h : item ∉ l.value) :
    l.delete item = (l, Status.not_found) := by
  rw [RList.delete_eq, if_neg h]

/-- `ref_list_contains` is membership -/
theorem list_contains_iff_mem (l : RList) (item : Int) :
    l.contains item = (Status.ok, decide (item ∈ l.value)) := RList.contains_spec l item

/-- `ref_list_shift` (literal copy loop) pops the front; `ref_list_pop` the back; both fail with
    `REF_EMPTY` on an empty list -/
theorem list_shift_pop (l : RList) :
    (l.value = [] → l.shift = (l, Status.failure, EMPTY) ∧ l.pop = (l, Status.failure, EMPTY)) ∧
    (∀ x xs, l.value = x :: xs → l.shift = ({ l with value := xs }, Status.ok, x)) ∧
    (∀ xs x, l.value = xs ++ [x] → l.pop = ({ l with value := xs }, Status.ok, x)) :=
  ⟨fun h => ⟨RList.shift_nil l h, RList.pop_nil l h⟩, fun x xs h => RList.shift_spec l x xs h,
   fun xs x h => RList.pop_spec l xs x h⟩

/-- `RList ⊑ List Int`: for EVERY sequence of push / pop / shift / delete / erase / contains / deep-copy
    starting from `ref_list_create`, the stored values, every returned status and every output value agree
    with the abstract list (so `n` is exact), and `n ≤ max`, `max ∈ 10 + 1000·ℕ` -/
theorem list_refines_List (ops : List RList.Op) :
    (RList.run ops RList.create).1.value = (RList.specRun ops []).1 ∧
    (RList.run ops RList.create).2 = (RList.specRun ops []).2 ∧
    RList.Inv (RList.run ops RList.create).1 :=
  let ⟨hI, hv, ho⟩ := RList.run_refines_from ops RList.create RList.inv_create
  ⟨hv, ho, hI⟩

example : (RList.run [.push 5, .push 7, .push 5, .contains 7, .delete 5, .shift, .pop, .push 3] RList.create)
    = ({ max := 10, value := [3] },
       [(.ok, 0), (.ok, 0), (.ok, 0), (.ok, 1), (.ok, 0), (.ok, 7), (.failure, -1), (.ok, 0)]) := by decide +kernel

/-! ## ref_dict.c -/

/-- `ref_dict_create` satisfies the invariant: keys strictly increasing, values aligned, `n ≤ max` -/
theorem dict_inv_create : RDict.Inv RDict.create := RDict.inv_create

/-- `ref_dict_store` (downward scan + shift) keeps the invariant, overwrites or inserts, counts exactly -/
theorem dict_store_spec (d : RDict) (h : RDict.Inv d) (k v : Int) :
    (d.store k v).2 = Status.ok ∧ RDict.Inv (d.store k v).1 ∧
    (∀ k', RDict.lookup (d.store k v).1 k' = if k' = k then some v else RDict.lookup d k') ∧
    (d.store k v).1.n = if k ∈ d.key then d.n else d.n + 1 := RDict.store_spec h k v

/-- `ref_dict_location` is total and correct on both branches (linear scan for `n ≤ 10`, else
    `ref_sort_search_int`): the index of the key, or `REF_NOT_FOUND` with `REF_EMPTY` -/
theorem dict_location_spec (d : RDict) (h : RDict.Inv d) (k : Int) :
    (k ∈ d.key → ∃ p : Nat, d.location k = (Status.ok, (p : Int)) ∧ p < d.n ∧ d.key.getD p 0 = k) ∧
    (k ∉ d.key → d.location k = (Status.not_found, EMPTY)) := RDict.location_spec h k

/-- `ref_dict_value` returns the mapped value, or `REF_NOT_FOUND` leaving `*value` untouched -/
theorem dict_value_spec (d : RDict) (h : RDict.Inv d) (k : Int) :
    d.valueOf k = match RDict.lookup d k with
      | some v => (Status.ok, some v)
      | none => (Status.not_found, none) := RDict.valueOf_spec h k

/-- `ref_dict_remove` of a present key: invariant kept, exactly that key unmapped, `n` decremented -/
theorem dict_remove_present (d : RDict) (h : RDict.Inv d) (k : Int) (hk : k ∈ d.key) :
    (d.remove k).2 = Status.ok ∧ RDict.Inv (d.remove k).1 ∧
    (∀ k', RDict.lookup (d.remove k).1 k' = if k' = k then none else RDict.lookup d k') ∧
    (d.remove k).1.n + 1 = d.n := RDict.remove_present h k hk

/-- `ref_dict_remove` of an absent key: `REF_NOT_FOUND`, state unchanged -/
theorem dict_remove_absent (d : RDict) (h : RDict.Inv d) (k : Int) (hk : k ∉ d.key) :
    d.remove k = (d, Status.not_found) := RDict.remove_absent h k hk

/-- the key array is the domain of the map; `ref_dict_has_key` / `ref_dict_has_value` are membership -/
theorem dict_keys_are_domain (d : RDict) (h : RDict.Inv d) (k v : Int) :
    (k ∈ d.key ↔ (RDict.lookup d k).isSome) ∧ d.hasKey k = decide (k ∈ d.key) ∧
      d.hasValue v = decide (v ∈ d.value) :=
  ⟨RDict.mem_key_iff_lookup h k, by rw [RDict.hasKey, ← List.contains_eq_any_beq, List.contains_eq_mem],
    by rw [RDict.hasValue, ← List.contains_eq_any_beq, List.contains_eq_mem]⟩

/-- `RDict ⊑ (Int → Option Int)`: for EVERY sequence of store / remove / deep-copy from `ref_dict_create`
    the invariant holds, the represented map is the abstract one, and every status agrees
    (remove is `REF_NOT_FOUND` exactly when the abstract map has no entry) -/
theorem dict_refines_map (ops : List RDict.Op) :
    RDict.Inv (RDict.run ops RDict.create) ∧
    (∀ k, RDict.lookup (RDict.run ops RDict.create) k = RDict.specRun ops (fun _ => none) k) ∧
    RDict.runStatus ops RDict.create = RDict.specRunStatus ops (fun _ => none) :=
  RDict.run_refines_from ops RDict.create RDict.inv_create _ (fun _ => rfl)

example : RDict.run [.store 5 50, .store 2 20, .store 9 90, .store 5 55, .remove 2, .remove 7] RDict.create
    = { max := 10, key := [5, 9], value := [55, 90] } := by decide +kernel
-- the binary-search branch (`n > 10`)
example : (RDict.run ((List.range 12).map fun i => RDict.Op.store (2 * i) i) RDict.create).location 14 =
    (Status.ok, 7) := by decide +kernel

/-! ## ref_adj.c -/

/-- the state made by `ref_adj_create` satisfies the invariant: free list and per-node chains are
    duplicate-free, pairwise disjoint, cover all items; free items carry `REF_EMPTY` -/
theorem adj_inv_create : RAdj.Inv RAdj.create := RAdj.inv_create

/-- `ref_adj_add` with `node < 0`: `REF_INVALID`, state unchanged -/
theorem adj_add_negative (s : RAdj) (node reference : Int) (hn : node < 0) :
    s.add node reference = (s, Status.invalid) := RAdj.add_negative s node reference hn

/-- `ref_adj_add` (both growth paths included) keeps the invariant; it succeeds unless all `REF_INT_MAX`
    items are in use; on success the reference is consed onto the node's list and no other list changes -/
theorem adj_add_spec (s : RAdj) (h : RAdj.Inv s) (node reference : Int) (hn : 0 ≤ node)
    (hlt : node < (INT_MAX : Int)) :
    RAdj.Inv (s.add node reference).1 ∧
    ((s.add node reference).2 = Status.ok ∨
      ((s.add node reference).2 = Status.failure ∧ s.blank = EMPTY ∧ s.nitem = INT_MAX)) ∧
    ((s.add node reference).2 = Status.ok →
      (s.add node reference).1.refsOf node = reference :: s.refsOf node ∧
      ∀ m : Int, m ≠ node → (s.add node reference).1.refsOf m = s.refsOf m) :=
  RAdj.add_spec h node reference hn hlt

/-- `ref_adj_remove` of a present reference: `REF_SUCCESS`, invariant kept, the first occurrence (in
    iteration order) is erased from the node's list, no other list changes -/
theorem adj_remove_present (s : RAdj) (h : RAdj.Inv s) (node reference : Int)
    (hm : reference ∈ s.refsOf node) :
    (s.remove node reference).2 = Status.ok ∧ RAdj.Inv (s.remove node reference).1 ∧
    (s.remove node reference).1.refsOf node = (s.refsOf node).erase reference ∧
    ∀ m : Int, m ≠ node → (s.remove node reference).1.refsOf m = s.refsOf m :=
  RAdj.remove_spec_present h node reference hm

/-- `ref_adj_remove` of an absent reference (or of an invalid / empty node): `REF_INVALID`, state unchanged;
    the `parent empty` failure exit is unreachable under the invariant -/
theorem adj_remove_absent (s : RAdj) (h : RAdj.Inv s) (node reference : Int)
    (hm : reference ∉ s.refsOf node) : s.remove node reference = (s, Status.invalid) :=
  RAdj.remove_spec_absent h node reference hm

set_option linter.unusedVariables false in
/-- `ref_adj_add_uniquely` (the equation holds in every state) -/
theorem adj_addUniquely_spec (s : RAdj) (h : RAdj.Inv s) (node reference : Int) :
    s.addUniquely node reference =
      if reference ∈ s.refsOf node then (s, Status.ok) else s.add node reference :=
  RAdj.addUniquely_spec s node reference

/-- `ref_adj_degree` counts the node's list; `ref_adj_empty` tests it for emptiness -/
theorem adj_degree_spec (s : RAdj) (h : RAdj.Inv s) (node : Int) :
    s.degree node = (Status.ok, (s.refsOf node).length) ∧
      (s.isEmpty node = true ↔ s.refsOf node = []) := by
  obtain ⟨B, C, w⟩ := h
  refine ⟨by simp [RAdj.degree, RAdj.refsOf], ?_⟩
  rw [RAdj.isEmpty, beq_iff_eq]
  constructor
  · intro hfe
    rw [RAdj.refsOf, RAdj.itemsOf, hfe, RAdj.walk_empty]; rfl
  · intro hnil
    rcases (by omega : node < 0 ∨ 0 ≤ node) with hneg | hnn
    · exact RAdj.firstOf_neg _ _ hneg
    · obtain ⟨n, rfl⟩ := Int.eq_ofNat_of_zero_le hnn
      rw [w.refsOf_nat n, List.map_eq_nil_iff] at hnil
      exact (hnil ▸ w.chain_firstOf n).of_nil

/-- chain walks terminate: with `fuel = nitem` the walk of any node list and of the free list has
    reached `REF_EMPTY` — more fuel does not lengthen it -/
theorem adj_walks_terminate (s : RAdj) (h : RAdj.Inv s) (node : Int) (extra : Nat) :
    RAdj.walk s.next (s.nitem + extra) (s.firstOf node) = RAdj.walk s.next s.nitem (s.firstOf node) ∧
    RAdj.walk s.next (s.nitem + extra) s.blank = RAdj.walk s.next s.nitem s.blank := by
  obtain ⟨B, C, w⟩ := h
  constructor
  · rcases (by omega : node < 0 ∨ 0 ≤ node) with hneg | hnn
    · rw [RAdj.firstOf_neg _ _ hneg, RAdj.walk_empty, RAdj.walk_empty]
    · obtain ⟨n, rfl⟩ := Int.eq_ofNat_of_zero_le hnn
      rw [w.walk_firstOf n _ (Nat.le_add_right _ _), w.walk_firstOf n _ (Nat.le_refl _)]
  · rw [w.chainB.walk_eq _ (Nat.le_trans w.B_length (Nat.le_add_right _ _)), w.chainB.walk_eq _ w.B_length]

/-- counts are exact: every item is free (and then carries `REF_EMPTY`) or in exactly one node list -/
theorem adj_counts_exact (s : RAdj) (h : RAdj.Inv s) :
    (∀ k ∈ s.blankItems, s.refOf k = EMPTY) ∧
    s.blankItems.length + ((List.range s.nnode).map (fun v : Nat => (s.refsOf (v : Int)).length)).sum =
      s.nitem := by
  obtain ⟨B, C, w⟩ := h
  simp only [w.blankItems_eq, w.refsOf_nat, List.length_map, List.forall_mem_map, RAdj.refOf_nat]
  refine ⟨w.blank_ref, ?_⟩
  have hperm := w.perm_range.length_eq
  rw [List.length_append, List.length_flatten, List.length_range, List.map_map] at hperm
  exact hperm

/-- `ref_adj_min_degree_node`: `(REF_EMPTY, REF_EMPTY)` when every node list is empty, else the FIRST node
    whose list has the minimal positive length, together with that length -/
theorem adj_minDegreeNode_spec (s : RAdj) :
    (s.minDegreeNode).1 = Status.ok ∧
    RAdj.MinSpec (fun v => (((s.refsOf (v : Int)).length : Nat) : Int)) s.nnode
      ((s.minDegreeNode).2.1, (s.minDegreeNode).2.2) := by
  refine ⟨rfl, ?_⟩
  have h := RAdj.minFold_spec (fun v => (((s.refsOf (v : Int)).length : Nat) : Int)) s.nnode
  have e : (s.minDegreeNode).2 = (List.range s.nnode).foldl
      (RAdj.minFold (fun v => (((s.refsOf (v : Int)).length : Nat) : Int))) (EMPTY, EMPTY) := by
    unfold RAdj.minDegreeNode
    simp only [RAdj.degree, RAdj.refsOf, List.length_map]
    rfl
  rw [← e] at h
  exact h

/-- every operation sequence from `ref_adj_create` (nodes below `REF_INT_MAX`, no `REF_FAILURE` from a full
    `REF_INT_MAX`-item table): the invariant holds at the end, every node's list and every returned status agree
    with the abstract map `node ↦ List ref` (add = cons, remove = erase first occurrence, invalid when absent) -/
theorem adj_refines_map (ops : List RAdj.Op) (hnode : ∀ op ∈ ops, op.node < (INT_MAX : Int))
    (hnf : Status.failure ∉ (RAdj.run ops RAdj.create).2) :
    RAdj.Inv (RAdj.run ops RAdj.create).1 ∧
    (∀ n, (RAdj.run ops RAdj.create).1.refsOf n = (RAdj.specRun ops (fun _ => [])).1 n) ∧
    (RAdj.run ops RAdj.create).2 = (RAdj.specRun ops (fun _ => [])).2 :=
  RAdj.run_refines_from ops RAdj.create RAdj.inv_create (fun _ => []) RAdj.create_refsOf hnode hnf

-- non-vacuity: a growth-crossing concrete run satisfies the hypotheses and the walk is the abstract list
example : ((RAdj.create.add 3 7).1.add 3 8).1.refsOf 3 = [8, 7] := by decide +kernel
example : (RAdj.run [.add 3 7, .add 3 8, .add 12 1, .remove 3 7, .addUniquely 3 8, .remove 4 1] RAdj.create).2 =
    [.ok, .ok, .ok, .ok, .ok, .invalid] := by decide +kernel
example : Status.failure ∉ (RAdj.run [.add 3 7, .add 3 8, .add 12 1, .remove 3 7] RAdj.create).2 := by decide +kernel

/-! ## the invariants are evaluated on real implementation states

The `cont_state_invariants` stream feeds full state dumps of the C containers to the driver, which runs these
executable checkers; they decide exactly the invariants the theorems above are about. -/

theorem adj_invCheck_iff_Inv (s : RAdj) : s.invCheck = true ↔ RAdj.Inv s := RAdj.invCheck_iff s

theorem dict_invCheck_iff_Inv (d : RDict) : d.invCheck = true ↔ RDict.Inv d := RDict.invCheck_iff d

theorem list_invCheck_iff_Inv (l : RList) : l.invCheck = true ↔ RList.Inv l := RList.invCheck_iff l

example : (((RAdj.create.add 3 7).1.add 3 8).1.remove 3 7).1.invCheck = true := (RAdj.invCheck_iff _).2 RAdj.inv_example
example : ({ RAdj.create with first := (0 : Int) :: RAdj.create.first.tail } : RAdj).invCheck = false :=
  RAdj.invCheck_rejects_corrupt

end Refine.Props.C14
