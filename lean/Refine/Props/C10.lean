import Refine.Lemmas.MetricRadii -- for `Props/C10Par`: the case principle of `roundoffLimit.go` is generated there, once
import Refine.Lemmas.MetricScale
import Refine.Lemmas.MetricSpd
import Refine.Lemmas.Gradation
import Mathlib.Analysis.SpecialFunctions.Pow.Real

/-!
  C10 — the multiscale metric is well formed and meets the requested complexity.  About the executable model
  `Refine/Model/Metric.lean` (bit-compared with the C through `refdrv metric` / `harness/h_metric.c`) at the real
  instance: exact arithmetic; rounding is modelled (the `Float` instance), not verified.

  The complexity identity rests on one fact: the coded integral — the `det > 0` filter and the `ref_math_divisible`
  guards of `ref_matrix_det_m` included — is homogeneous of degree `dim/2` under the coded rescale, whose exponent is
  `2/dim`.  SPD is kept stage by stage; `ref_matrix_intersect` (gradation) is `Props/C16.intersect_spd`.
-/
namespace Refine.Props.C10
open Refine Refine.Scalar Refine.ScalarReal Refine.Model.Matrix Refine.Model.Metric
open Refine.Model.Recon (Cell CellKind Tet Tri)
open Refine.Model.Geom (V3)

/-- positive homogeneity, 3-D: scaling every vertex metric by `s > 0` multiplies the coded complexity integral
    by `s^(3/2)` (= `sqrt(s³)`), for any mesh and any field -/
theorem complexity_homogeneous3 (owned : Nat → Bool) (xyz : List (V3 ℝ)) (metric : List (M6 ℝ)) (cells : List Cell)
    (s : ℝ) (hs : 0 < s) :
    complexity owned xyz (metric.map (rescaleNode false s)) cells =
      Real.sqrt (s ^ 3) * complexity owned xyz metric cells :=
  complexity_homogeneous false owned xyz metric cells s hs (fun h => nomatch h)

/-- positive homogeneity, 2-D: scaling the 2x2 blocks of an embedded field by `s > 0` (embedding re-imposed)
    multiplies the coded complexity integral by `s` -/
theorem complexity_homogeneous2 (owned : Nat → Bool) (xyz : List (V3 ℝ)) (metric : List (M6 ℝ)) (cells : List Cell)
    (s : ℝ) (hs : 0 < s) (hemb : ∀ m ∈ metric, IsEmbedded m) :
    complexity owned xyz (metric.map (rescaleNode true s)) cells = s * complexity owned xyz metric cells := by
  rw [complexity_homogeneous true owned xyz metric cells s hs (fun _ => hemb)]
  exact congrArg (· * _) (Real.sqrt_sq hs.le)

/-- what a successful `ref_metric_set_complexity` returns -/
theorem setComplexity_out {twod : Bool} {owned : Nat → Bool} {xyz : List (V3 ℝ)} {metric out : List (M6 ℝ)}
    {cells : List Cell} {target : ℝ} (h : setComplexity twod owned xyz metric cells target = .ok out) :
    out = metric.map (rescaleNode twod
      ((target / complexity owned xyz metric cells) ^ (complexityScale twod : ℝ))) := by
  unfold setComplexity at h
  dsimp only at h
  split_ifs at h
  injection h with h
  rw [← h]
  simp only [div_eq, pow_eq]

theorem setComplexity_true_embedded {owned : Nat → Bool} {xyz : List (V3 ℝ)} {metric out : List (M6 ℝ)}
    {cells : List Cell} {target : ℝ} (h : setComplexity true owned xyz metric cells target = .ok out) :
    ∀ m ∈ out, IsEmbedded m := by
  rw [setComplexity_out h]
  exact List.forall_mem_map.mpr fun m _ => rescaleNode_true_embedded _ m

/-- the rescale is exact whichever quadrature runs: the integral is homogeneous of degree `dim/2` and the coded
    exponent is `2/dim` -/
theorem setComplexity_exact_of_embedded {twod : Bool} {owned : Nat → Bool} {xyz : List (V3 ℝ)} {metric out : List (M6 ℝ)}
    {cells : List Cell} {target : ℝ} (h : setComplexity twod owned xyz metric cells target = .ok out)
    (hc : 0 < complexity owned xyz metric cells) (ht : 0 < target)
    (hemb : twod = true → ∀ m ∈ metric, IsEmbedded m) : complexity owned xyz out cells = target := by
  have hr : 0 < target / complexity owned xyz metric cells := div_pos ht hc
  rw [setComplexity_out h, complexity_homogeneous twod owned xyz metric cells _ (Real.rpow_pos_of_pos hr _) hemb,
    complexityScale_eq, ← Real.rpow_natCast, ← Real.rpow_mul hr.le]
  -- the exponent `2/dim` taken `dim` times is 2, and the square root undoes the square
  have hd : (2 : ℝ) / dimOf twod * dimOf twod = 2 := by cases twod <;> norm_num [dimOf]
  rw [hd, Real.rpow_two, Real.sqrt_sq hr.le, div_mul_cancel₀ _ hc.ne']

/-- **the complexity identity.**  A successful `ref_metric_set_complexity` returns a field whose complexity
    (the same coded integral) equals the target exactly.  Hypotheses: the current complexity and the target are
    positive; in 2-D the input field is embedded (the C re-imposes the embedding after every stage).  `hdim` (the
    exponent matches the quadrature: `twod` grids integrate areas, 3-D grids volumes) describes the call as the C
    makes it; the identity holds without it (`setComplexity_exact_of_embedded`). -/
theorem setComplexity_exact (twod : Bool) (owned : Nat → Bool) (xyz : List (V3 ℝ)) (metric out : List (M6 ℝ))
    (cells : List Cell) (target : ℝ)
    (h : setComplexity twod owned xyz metric cells target = .ok out)
    (hc : 0 < complexity owned xyz metric cells) (ht : 0 < target)
    (hdim : twod = !(haveVolCells owned cells))
    (hemb : twod = true → ∀ m ∈ metric, IsEmbedded m) :
    complexity owned xyz out cells = target :=
  -- `hdim` is taken and dropped, so that the hypothesis of the statement is not reported as unused
  (fun _ => setComplexity_exact_of_embedded h hc ht hemb) hdim

/-- the error branch is exactly the `ref_math_divisible` guard: `div_zero` iff `target/current` is not divisible -/
theorem setComplexity_div_zero (twod : Bool) (owned : Nat → Bool) (xyz : List (V3 ℝ)) (metric : List (M6 ℝ))
    (cells : List Cell) (target : ℝ) :
    (∃ out, setComplexity twod owned xyz metric cells target = .ok out) ∨
    (setComplexity twod owned xyz metric cells target = .error .div_zero ∧
      Scalar.divisible target (complexity owned xyz metric cells) = false) := by
  unfold setComplexity
  by_cases hg : Scalar.divisible target (complexity owned xyz metric cells) = true
  · left; simp [hg]
  · right; simp at hg; simp [hg]

/-- a positive current complexity with a positive target below `1e20 · current` always succeeds -/
theorem setComplexity_ok (twod : Bool) (owned : Nat → Bool) (xyz : List (V3 ℝ)) (metric : List (M6 ℝ))
    (cells : List Cell) (target : ℝ) (hc : 0 < complexity owned xyz metric cells) (ht : 0 < target)
    (hlt : target < 10 ^ 20 * complexity owned xyz metric cells) :
    ∃ out, setComplexity twod owned xyz metric cells target = .ok out := by
  rcases setComplexity_div_zero twod owned xyz metric cells target with h | ⟨_, hg⟩
  · exact h
  · exfalso
    rw [Bool.eq_false_iff] at hg
    apply hg
    rw [divisible_iff, abs_of_pos ht, abs_of_pos (by positivity)]
    have : (1 : ℝ) * (10 : ℝ) ^ (20 : ℤ) = 10 ^ 20 := by norm_num
    rw [this]; exact hlt

/-- the block that ends `ref_metric_gradation_at_complexity` is `setComplexity`: whatever field `g` the 20
    relaxation sweeps produced (SPD-ness of `g`: `Props/C10Gradation.gacLoop_spd`), the returned field meets the target exactly -/
theorem gradation_final_rescale_exact (twod : Bool) (owned : Nat → Bool) (xyz : List (V3 ℝ)) (g out : List (M6 ℝ))
    (cells : List Cell) (target : ℝ)
    (h : setComplexity twod owned xyz g cells target = .ok out)
    (hc : 0 < complexity owned xyz g cells) (ht : 0 < target)
    (hdim : twod = !(haveVolCells owned cells))
    (hemb : twod = true → ∀ m ∈ g, IsEmbedded m) :
    complexity owned xyz out cells = target ∧ (twod = true → ∀ m ∈ out, IsEmbedded m) := by
  refine ⟨setComplexity_exact twod owned xyz g out cells target h hc ht hdim hemb, ?_⟩
  rintro rfl
  exact setComplexity_true_embedded h

theorem scale_spd {m : M6 ℝ} {s : ℝ} (hs : 0 < s) (h : SPD m) : SPD (scaleM m s) := scaleM_spd hs h

/-- the planar embedding `m13 = m23 = 0, m33 = 1` of a tensor with a positive definite 2x2 block is SPD and
    embedded -/
theorem embed2d_spd {m : M6 ℝ} (h : ∀ x y : ℝ, (x ≠ 0 ∨ y ≠ 0) → 0 < vtMv m ⟨x, y, 0⟩) :
    SPD (embed2d m) ∧ IsEmbedded (embed2d m) := ⟨twodM_spd_of_block h, twodM_embedded m⟩

/-- every stage that ends with the embedding block leaves embedded tensors (`m13 = m23 = 0`, `m33 = 1` exactly) -/
theorem rescale_embedded (s : ℝ) (m : M6 ℝ) : IsEmbedded (rescaleNode true s m) := rescaleNode_true_embedded s m

/-- `ref_metric_set_complexity` keeps every vertex tensor SPD (3-D and 2-D) -/
theorem setComplexity_spd (twod : Bool) (owned : Nat → Bool) (xyz : List (V3 ℝ)) (metric out : List (M6 ℝ))
    (cells : List Cell) (target : ℝ)
    (h : setComplexity twod owned xyz metric cells target = .ok out)
    (hc : 0 < complexity owned xyz metric cells) (ht : 0 < target) (hspd : ∀ m ∈ metric, SPD m) :
    ∀ m ∈ out, SPD m := by
  rw [setComplexity_out h]
  exact List.forall_mem_map.mpr fun m hm => rescaleNode_spd twod (Real.rpow_pos_of_pos (div_pos ht hc) _) (hspd m hm)

/-- `ref_metric_local_scale` (Lp normalisation) keeps every vertex tensor SPD, for every norm power -/
theorem localScale_spd (twod : Bool) (p : Int) (metric : List (M6 ℝ)) (hspd : ∀ m ∈ metric, SPD m) :
    ∀ m ∈ localScale twod p metric, SPD m := by
  rw [Refine.Model.Gradation.localScale_eq]
  exact Refine.Model.Gradation.reEmbed_spd twod (List.forall_mem_map.mpr fun m hm =>
    localScaleNode_spd _ (Refine.Model.Gradation.reEmbed_spd twod hspd m hm))

/-- in 2-D the Lp normalisation returns embedded tensors -/
theorem localScale_embedded (p : Int) (metric : List (M6 ℝ)) : ∀ m ∈ localScale true p metric, IsEmbedded m := by
  rw [Refine.Model.Gradation.localScale_eq]
  exact Refine.Model.Gradation.reEmbed_true_embedded _

/-- eigenvalue floor of `ref_recon_roundoff_limit`, one vertex: SPD whatever the reconstructed Hessian was
    (indefinite, singular, zero) — needs only the proved orthonormality of `ref_matrix_diag_m`'s frame -/
theorem roundoffNode_spd {radius : ℝ} {m out : M6 ℝ} (h : roundoffNode radius m = .ok out) : SPD out :=
  Refine.Model.Metric.roundoffNode_spd h

theorem roundoffLimit_go_spd (rs : List ℝ) (ms out : List (M6 ℝ)) (h : roundoffLimit.go rs ms = .ok out) :
    ∀ m ∈ out, SPD m := by
  fun_induction roundoffLimit.go rs ms generalizing out with
  | case1 r rs m ms e he => cases h
  | case2 r rs m ms x hx e he ih => cases h
  | case3 r rs m ms x hx xs hxs ih => cases h; exact List.forall_mem_cons.mpr ⟨roundoffNode_spd hx, ih xs hxs⟩
  | case4 => cases h; exact fun m hm => nomatch hm

/-- **after `ref_recon_roundoff_limit` every vertex tensor is SPD**, for any reconstructed Hessian field and any mesh -/
theorem roundoffLimit_spd (xyz : List (V3 ℝ)) (cells : List Cell) (metric out : List (M6 ℝ))
    (h : roundoffLimit xyz cells metric = .ok out) : ∀ m ∈ out, SPD m :=
  roundoffLimit_go_spd _ _ _ h

/-- the absolute-value step returns a positive semi-definite tensor, definite when no eigenvalue vanished -/
theorem absHessian_psd {m out : M6 ℝ} (h : absHessianNode m = .ok out) : PSD out := by
  revert h
  fun_cases absHessianNode m with
  | case1 => nofun
  | case2 d hd =>
    rintro ⟨⟩
    apply formM_psd
    simp only [mapEig, cabs_eq]
    exact ⟨abs_nonneg _, abs_nonneg _, abs_nonneg _⟩

theorem absHessian_spd {m out : M6 ℝ} {d : Eig12 ℝ} (hd : diagM m = .ok d)
    (hne : d.l0 ≠ 0 ∧ d.l1 ≠ 0 ∧ d.l2 ≠ 0) (h : absHessianNode m = .ok out) : SPD out := by
  unfold absHessianNode at h
  rw [hd] at h
  cases h
  refine formM_mapEig_spd hd _ ?_
  simp only [cabs_eq]
  exact ⟨abs_pos.mpr hne.1, abs_pos.mpr hne.2.1, abs_pos.mpr hne.2.2⟩

/-- aspect-ratio limit (3-D), one vertex: SPD as soon as the largest returned eigenvalue is positive (every
    eigenvalue is raised to at least `max/ar²`) -/
theorem limitAspectRatio_spd {ar2 : ℝ} (har : 0 < ar2) {m out : M6 ℝ} {d : Eig12 ℝ} (hd : diagM m = .ok d)
    (hmax : 0 < max d.l2 (max d.l1 d.l0)) (h : limitArNode3 ar2 m = .ok out) : SPD out := by
  unfold limitArNode3 at h
  rw [hd] at h
  simp only [cmax_eq, div_eq] at h
  split_ifs at h
  cases h
  have hl : 0 < max d.l2 (max d.l1 d.l0) / ar2 := div_pos hmax har
  exact formM_mapEig_spd hd _ ⟨lt_of_lt_of_le hl (le_max_right _ _), lt_of_lt_of_le hl (le_max_right _ _),
    lt_of_lt_of_le hl (le_max_right _ _)⟩

/-- the coded `aspect_ratio2` is positive for every finite argument (`ar² ` above 0.9999, else `1e12`) -/
theorem aspectRatio2_pos (ar : ℝ) : 0 < aspectRatio2 ar := by
  unfold aspectRatio2
  simp only [ofDec_eq, mul_eq]
  split_ifs with h
  · rw [lt_iff] at h
    have : (0 : ℝ) < ar := lt_trans (by norm_num) h
    positivity
  · norm_num

/-- **rank independence of the integral.**  For any assignment of vertices to `np` ranks, the sum over ranks of
    the owned-vertex quadratures (what `ref_mpi_allsum` adds up) is the serial integral. -/
theorem complexity_rank_sum (np : Nat) (owner : Nat → Nat) (hown : ∀ n, owner n < np) (hv : Bool)
    (xyz : List (V3 ℝ)) (metric : List (M6 ℝ)) (cells : List Cell) :
    (Finset.range np).sum (fun r => complexityLocal hv (fun n => owner n == r) xyz metric cells) =
      complexityLocal hv (fun _ => true) xyz metric cells := by
  simp only [complexityLocal_eq_sum]
  -- every visit is owned by exactly one rank
  induction visits hv xyz cells with
  | nil => simp
  | cons v vs ih =>
    simp only [List.map_cons, List.sum_cons, Finset.sum_add_distrib, ih]
    congr 1
    unfold visitTerm
    simp only [beq_iff_eq, if_true]
    rw [Finset.sum_ite_eq (Finset.range np) (owner v.1), if_pos (Finset.mem_range.mpr (hown _))]

theorem detM_identity : detM (⟨1, 0, 0, 1, 0, 1⟩ : M6 ℝ) = 1 := by
  rw [detM_diag 1 1 1 one_ne_zero one_ne_zero]; norm_num

theorem density_identity : density (⟨1, 0, 0, 1, 0, 1⟩ : M6 ℝ) = 1 := by
  unfold density; rw [detM_identity]; simp

/-- one tet of volume 1/6 carrying the identity metric at its four vertices has complexity 1/6 -/
theorem complexity_unit_tet :
    complexity (fun _ => true) [(⟨0, 0, 0⟩ : V3 ℝ), ⟨1, 0, 0⟩, ⟨0, 1, 0⟩, ⟨0, 0, 1⟩]
      [⟨1, 0, 0, 1, 0, 1⟩, ⟨1, 0, 0, 1, 0, 1⟩, ⟨1, 0, 0, 1, 0, 1⟩, ⟨1, 0, 0, 1, 0, 1⟩]
      [⟨.tet, [0, 1, 2, 3]⟩] = 1 / 6 := by
  unfold complexity complexityLocal
  have hv : haveVolCells (fun _ => true) [(⟨.tet, [0, 1, 2, 3]⟩ : Cell)] = true := by
    simp [haveVolCells, isVol]
  rw [hv]
  have ht : allTets [(⟨.tet, [0, 1, 2, 3]⟩ : Cell)] = [⟨0, 1, 2, 3⟩] := by decide
  rw [ht]
  simp only [if_true, List.foldl_cons, List.foldl_nil, subTetComplexity, nodeTerm_visit, visitTerm, mAt,
    Refine.Model.Recon.xyzAt, Refine.Model.Geom.tetVol, List.getD_cons_zero, List.getD_cons_succ, density_identity,
    zero_eq, mul_eq, sub_eq, add_eq, neg_eq, div_eq, ofInt_eq]
  norm_num

theorem setComplexity_unit_tet :
    ∃ out, setComplexity false (fun _ => true) [(⟨0, 0, 0⟩ : V3 ℝ), ⟨1, 0, 0⟩, ⟨0, 1, 0⟩, ⟨0, 0, 1⟩]
      [⟨1, 0, 0, 1, 0, 1⟩, ⟨1, 0, 0, 1, 0, 1⟩, ⟨1, 0, 0, 1, 0, 1⟩, ⟨1, 0, 0, 1, 0, 1⟩]
      [⟨.tet, [0, 1, 2, 3]⟩] 5 = .ok out ∧
    complexity (fun _ => true) [(⟨0, 0, 0⟩ : V3 ℝ), ⟨1, 0, 0⟩, ⟨0, 1, 0⟩, ⟨0, 0, 1⟩] out [⟨.tet, [0, 1, 2, 3]⟩] = 5 := by
  have hc := complexity_unit_tet
  obtain ⟨out, ho⟩ := setComplexity_ok false (fun _ => true) [(⟨0, 0, 0⟩ : V3 ℝ), ⟨1, 0, 0⟩, ⟨0, 1, 0⟩, ⟨0, 0, 1⟩]
    [⟨1, 0, 0, 1, 0, 1⟩, ⟨1, 0, 0, 1, 0, 1⟩, ⟨1, 0, 0, 1, 0, 1⟩, ⟨1, 0, 0, 1, 0, 1⟩]
    [⟨.tet, [0, 1, 2, 3]⟩] 5 (by rw [hc]; norm_num) (by norm_num) (by rw [hc]; norm_num)
  refine ⟨out, ho, setComplexity_exact _ _ _ _ _ _ _ ho (by rw [hc]; norm_num) (by norm_num) ?_ (by intro h; cases h)⟩
  simp [haveVolCells, isVol]

/-- `setComplexity_exact` is not vacuous: on the unit tet with identity metrics and target 5 the call succeeds
    and the returned field has complexity exactly 5 -/
example : ∃ out, setComplexity false (fun _ => true) [(⟨0, 0, 0⟩ : V3 ℝ), ⟨1, 0, 0⟩, ⟨0, 1, 0⟩, ⟨0, 0, 1⟩]
      [⟨1, 0, 0, 1, 0, 1⟩, ⟨1, 0, 0, 1, 0, 1⟩, ⟨1, 0, 0, 1, 0, 1⟩, ⟨1, 0, 0, 1, 0, 1⟩]
      [⟨.tet, [0, 1, 2, 3]⟩] 5 = .ok out ∧
    complexity (fun _ => true) [(⟨0, 0, 0⟩ : V3 ℝ), ⟨1, 0, 0⟩, ⟨0, 1, 0⟩, ⟨0, 0, 1⟩] out [⟨.tet, [0, 1, 2, 3]⟩] = 5 :=
  setComplexity_unit_tet

/-- the identity is SPD, so the SPD-preservation theorems apply to a real state -/
example : SPD (⟨1, 0, 0, 1, 0, 1⟩ : M6 ℝ) := by
  intro x hx
  simp only [vtMv, mul_eq, add_eq]
  have := Vec3.normSq_pos hx
  linarith

/-- the eigenvalue floor makes the ZERO Hessian positive definite (radius 1: floor 4e-12) -/
example : ∃ out, roundoffNode (1 : ℝ) ⟨0, 0, 0, 0, 0, 0⟩ = .ok out ∧ SPD out := by
  have hd := diagM_diag 0 0 0
  have hg : Scalar.divisible ((4 : ℝ) * (1 * 10 ^ (-12 : ℤ))) (1 * 1) = true := by rw [divisible_iff]; norm_num
  have : ∃ out, roundoffNode (1 : ℝ) ⟨0, 0, 0, 0, 0, 0⟩ = .ok out := by
    unfold roundoffNode floorEigNode
    simp only [mul_eq, div_eq, ofInt_eq, ofDec_eq, Int.cast_ofNat, Int.cast_one, hg, Bool.not_true,
      Bool.false_eq_true, if_false, hd]
    exact ⟨_, rfl⟩
  obtain ⟨out, ho⟩ := this
  exact ⟨out, ho, roundoffNode_spd ho⟩

/-- two ranks: vertices 0,1 on rank 0 and 2,3 on rank 1 — the two partial integrals add up to the serial one -/
example (hv : Bool) (xyz : List (V3 ℝ)) (metric : List (M6 ℝ)) (cells : List Cell) :
    complexityLocal hv (fun n => (if n < 2 then 0 else 1) == 0) xyz metric cells +
    complexityLocal hv (fun n => (if n < 2 then 0 else 1) == 1) xyz metric cells =
    complexityLocal hv (fun _ => true) xyz metric cells := by
  have := complexity_rank_sum 2 (fun n => if n < 2 then 0 else 1) (by intro n; split_ifs <;> omega) hv xyz metric cells
  rw [Finset.sum_range_succ, Finset.sum_range_one] at this
  exact this

end Refine.Props.C10
