import Refine.Lemmas.PartMeshbSerial
import Refine.Lemmas.PartMeshbGather
import Refine.Props.C06Part

/-!
  C08 for the PARALLEL libMeshb reader (`ref_part_by_extension` → `ref_part_meshb`, model
  `Refine.Model.PartMeshb`): reading a file on any number of ranks and gathering gives exactly the mesh the serial
  reader `decodeMeshbWith` (`ref_import_meshb`, `Refine.Model.Meshb`, proved inverse to the writer in `Props/C08.lean`)
  takes from the same bytes.

  `gatherNodes` / `gatherGroup` (spec-level, `Model/PartMeshb.lean`) are what `ref_gather_node` / `ref_gather_cell`
  assemble: vertices from their owners in rank (= global) order; of every cell the copy on the rank that owns it
  (`ref_cell_part`), rank 0 first, local order.  Cells therefore come back as a permutation of the file order.
-/
namespace Refine.Props.C08Part
open Refine.Model.Meshb Refine.Model.PartMeshb Refine.Lemmas.PartMeshb
open Refine.Gen.PartMacros

/- FULL STATEMENT (`partRead_eq_serial`), of which the theorem below is the proved part: under the same hypotheses,
   additionally the gathered geometry-association records (every record from the rank that owns its vertex; the model
   defines no such view, `gatherNodes` and `gatherGroup` only) are a permutation of `m.geoms`.  Missing: the per-rank
   `ref_geom_add` upsert of `addGeoms` / `geomGhost` against the serial `rdGeoms` (same upsert, but over all vertices,
   and with the index check the parallel reader does not have).
   The geometry records are compared by the streams (per-rank dump == model, python oracle against the file). -/

/-- **partRead_eq_serial**, proved part (vertices, cells, CAD bytes, dimension flag; the geometry-association records
    are tied by the streams only): for every rank count `np ≥ 1` and chunk constant `cm`, if rank 0 accepts the file
    under them (`parseWith cfg np cm … = ok p`; the buffer sizes it tests depend on both), the serial reader accepts it
    (`decodeMeshbWith … = ok m`), coordinates are `double`s (version ≥ 2), `1 ≤ nnode < 2^31` and no two cells of a
    group have the same vertex set, then the parallel read succeeds and gathering it gives `m`: the vertices in order
    with their coordinates bit for bit, per cell group a permutation of `m`'s cells (vertices, order inside the cell,
    id), the CAD bytes on every rank, the 2-D flag. -/
theorem partRead_eq_serial_partial (cfg : Cfg) (np cm : Nat) (hnp : 1 ≤ np) (bs : Bytes) (p : Parsed) (m : MeshFile)
    (h1 : parseWith cfg np cm bs = .ok p) (h2 : decodeMeshbWith cfg bs = .ok m)
    (hv : ∀ v kp, header cfg bs = .ok (v, kp) → 2 ≤ v)
    (hN : 1 ≤ p.nnode) (hN31 : p.nnode < 2 ^ 31)
    (hd : ∀ g ∈ cellInfos.zip p.groups, Distinct g.1 g.2.flatten) :
    ∃ w, partReadWith cfg np cm bs = .ok w ∧ w.length = np ∧
      gatherNodes w = m.nodes ∧
      (∀ k ci, cellInfos[k]? = some ci → (gatherGroup w k ci.nodePer).Perm (m.cells.getD k [])) ∧
      (∀ st ∈ w, st.cad = m.cad) ∧ p.twod = m.twod := by
  obtain ⟨hp, w, hw, hF⟩ := Refine.Props.C06Part.partRead_closed_form cfg np cm hnp bs p h1 hN hN31 hd
  obtain ⟨e1, e2, e3, e4⟩ := parse_eq_serial hnp h1 h2 hN hN31 hv
  refine ⟨w, hw, hF.len, ?_, ?_, ?_, e1⟩
  · rw [gatherNodes_eq hnp hp hF, e2]
  · intro k ci hci
    rw [e4 k ci hci]
    exact gatherGroup_perm hnp hp hF k ci hci
  · intro st hst
    rw [cad_eq hF st hst, e3]

/-! ### non-vacuity: the 3-rank file of `Props/C06Part.lean` (tet + triangles + edges, rank 2 without a cell) -/

/-- both readers accept it and the gather of the 3-rank read is the serial mesh (here by evaluation) -/
example : (match partRead 3 Refine.Props.C06Part.threeRankFile, decodeMeshbWith Cfg.current Refine.Props.C06Part.threeRankFile with
    | .ok w, .ok m => gatherNodes w == m.nodes &&
        (gatherGroup w 0 2 == m.cells.getD 0 [] && gatherGroup w 3 3 == m.cells.getD 3 [] &&
         gatherGroup w 8 4 == m.cells.getD 8 []) && w.all (fun st => st.cad == m.cad) && m.nodes.length == 7
    | _, _ => false) = true := by decide +kernel

end Refine.Props.C08Part
