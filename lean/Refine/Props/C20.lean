import Refine.Lemmas.CodecC20

/-!
  C20 — malformed input is rejected cleanly: obligations on the reader models.

  `Cfg.faithful` (`decodeMeshb`, `decodeSolb`, `decodeMetricSolb`) models the readers without the four checks below,
  as they were in /repo before the `fix:` commits 084384d, 92cf05c, ee7a30e, 54a1e7c.  `Cfg.fixed`
  (`decodeMeshbFixed` …) sets all four flags and is what /repo runs (`Cfg.current = Cfg.fixed`; tied by the
  `c20_*_mut` streams: C status and grid dump = model status and dump on every mutant):
    * `checkProgress` — header scan: a hop is accepted only if `next_position > position` or `next_position = 0`;
    * `checkIndex` — cell / geometry records: `0 ≤ vertex index < nnode`, else `REF_INVALID`;
    * `checkCount` — .solb: `0 ≤ count < 2^31` and `count · ldim · 8` bytes left in the file, else `REF_FAILURE`;
    * `checkFields` — scalar .solb: a section that declares no field (`ldim = 0`) skips the per-vertex loop.
  Where the faithful reader lacks the check the obligation is false of it: the `*_counterexample`
  theorems prove the negation on a concrete small file (the same bytes are replayed against the real
  reader by `./check C20`, streams `c20_hang`, `c20_index`, `c20_count`).  The positive statements are
  proved for the fixed variants; after a fix in /repo only `Cfg.current` (Model/Meshb.lean) changes.
-/
namespace Refine.Props.C20
open Refine.Model.Meshb Refine.Model.Solb Refine.Lemmas.Codec

/-- code 1, version 2; keyword 3 whose `next_position` is 8, its own offset; dim 3 (20 bytes) -/
def hangFile : Bytes := ofHex "0100000002000000030000000800000003000000"

/-- one vertex, one edge (1,3): vertex index 2 of 1 (92 bytes) -/
def indexFile : Bytes := ofHex
  "0100000002000000030000001400000003000000040000003c00000001000000000000000000000000000000000000000000000000000000010000000500000054000000010000000100000003000000010000003600000000000000"

/-- the replay file: the same with edge (1, 50000002) -/
def indexCrashFile : Bytes := ofHex
  "0100000002000000030000001400000003000000040000003c00000001000000000000000000000000000000000000000000000000000000010000000500000054000000010000000100000082f0fa02010000003600000000000000"

/-- edge (1, 2^31-1): `100 + MAX(0, node - orig)` overflows `int` in `ref_adj_add` -/
def indexUbFile : Bytes := ofHex
  "0100000002000000030000001400000003000000040000003c000000010000000000000000000000000000000000000000000000000000000100000005000000540000000100000001000000ffffff7f010000003600000000000000"

/-- .solb version 2 declaring 60 000 000 vertices, one value present (56 bytes) -/
def solbAllocFile : Bytes := ofHex
  "01000000020000000300000014000000030000003e00000030000000008793030100000001000000000000000000f03f3600000000000000"

/-- .solb version 4 declaring 2^32 vertices (72 bytes) -/
def solbLoopFile : Bytes := ofHex
  "0100000004000000030000001800000000000000030000003e0000003c0000000000000000000000010000000100000001000000000000000000f03f360000000000000000000000"

/-- the reader models are total functions (explicit fuel, structural recursion): every byte string is
    either accepted or mapped to a status; `diverge`/`undefined` mark the inputs on which the C itself
    does not return / has undefined behaviour -/
theorem decode_total (cfg : Cfg) (bs : Bytes) :
    (∃ m, decodeMeshbWith cfg bs = .ok m) ∨ (∃ e, decodeMeshbWith cfg bs = .error e) :=
  Refine.Lemmas.except_total _

/-- FAITHFUL reader: the header scan of `ref_import_meshb_header` does **not** make progress on every
    hop — on `hangFile` it revisits offset 8 forever; the model exhausts its `length + 1` hops. -/
theorem header_progress_counterexample :
    decodeMeshb hangFile = .error .diverge ∧
    headerHops Cfg.faithful 2 hangFile 4 8 = [8, 8, 8, 8] := by
  rw [hangFile, ofHex_ofList]; decide +kernel

/-- the same scan serves the .solb readers -/
theorem header_progress_counterexample_solb :
    decodeSolb 1 hangFile = .error .diverge ∧ decodeMetricSolb 1 hangFile = .error .diverge := by
  rw [hangFile, ofHex_ofList]; decide +kernel

/-- FIXED reader: every hop of the header scan moves strictly forward -/
theorem header_progress (v : Nat) (bs : Bytes) (fuel : Nat) (start : Int) :
    (headerHops Cfg.fixed v bs fuel start).Pairwise (· < ·) :=
  (headerHops_ge rfl v bs fuel start).1

/-- FIXED reader: the `length + 1` hops always suffice — the scan returns on every input -/
theorem header_scan_returns (bs : Bytes) : header Cfg.fixed bs ≠ .error .diverge :=
  header_fixed_ne_diverge bs

example : decodeMeshbFixed hangFile = .error .failure := by
  rw [hangFile, ofHex_ofList]; decide +kernel

/-- FAITHFUL reader: a file is accepted although an edge refers to vertex 2 of 1 (`ref_adj_add` only
    rejects negative vertices) -/
theorem accepted_indices_in_range_counterexample :
    ∃ m, decodeMeshb indexFile = .ok m ∧ indicesInRange m = false := by
  rw [indexFile, ofHex_ofList]
  refine Refine.Lemmas.exists_ok_of_decide ?_
  decide +kernel

/-- … with any size of index: the replay file (vertex 50 000 001 of 1) is accepted too, and for a
    vertex within 100 of `INT_MAX` the C has undefined behaviour in `ref_adj_add` -/
theorem accepted_indices_in_range_counterexample_replay :
    (∃ m, decodeMeshb indexCrashFile = .ok m ∧ indicesInRange m = false) ∧
    decodeMeshb indexUbFile = .error .undefined := by
  rw [indexCrashFile, indexUbFile, ofHex_ofList, ofHex_ofList]
  refine ⟨Refine.Lemmas.exists_ok_of_decide ?_, ?_⟩
  · decide +kernel
  · decide +kernel

/-- FIXED reader: every vertex index of every accepted cell and geometry record is in `[0, nnode)` -/
theorem accepted_indices_in_range (bs : Bytes) (m : MeshFile)
    (h : decodeMeshbFixed bs = .ok m) : indicesInRange m = true := by
  obtain ⟨v, kp, next, s0, nnode, s, s', d⟩ := decode_inv h
  obtain ⟨hl, _⟩ := rdVerts_len d.verts
  have conv : ∀ x : Int, 0 ≤ x ∧ x < nnode → 0 ≤ x ∧ x < (m.nodes.length : Int) := by
    intro x hx; rw [hl]; omega
  refine (indicesInRange_iff m).2 ⟨fun p hp c hc' x hx => conv x ?_,
    fun g hg' => conv _ (rdGeomTypes_range rfl (by simp) d.geoms g hg')⟩
  rcases rdCellGroups_group d.cells hp with h0 | ⟨n, s, r, hr, _⟩
  · rw [h0] at hc'; cases hc'
  · exact rdCells_range rfl (cellInfos_pyr _ (List.of_mem_zip hp).1) hr c hc' x hx

example : decodeMeshbFixed indexFile = .error .invalid := by
  rw [indexFile, ofHex_ofList]; decide +kernel

/-- FAITHFUL and FIXED meshb reader: an accepted file contains every record it declares — the decoded
    vertex, cell and CAD-byte counts times a lower bound of the record size over all versions fit in the file
    (12 = three version-1 floats of a vertex, `4 · (node_per + 1)` = the 4-byte integers of a cell record; all
    `fread`s of `ref_import_meshb` are checked, so a short file is `REF_FAILURE`) -/
theorem accepted_counts_fit (cfg : Cfg) (bs : Bytes) (m : MeshFile)
    (h : decodeMeshbWith cfg bs = .ok m) :
    m.nodes.length * 12 ≤ bs.length ∧
    (∀ p ∈ cellInfos.zip m.cells, p.2.length * (4 * (p.1.nodePer + 1)) ≤ bs.length) ∧
    m.cad.length ≤ bs.length := by
  obtain ⟨v, kp, next, s0, nnode, s, s', d⟩ := decode_inv h
  have l0 := jump_len d.jump
  have l1 := rdInt_len d.count
  obtain ⟨hl, hcons⟩ := rdVerts_len d.verts
  refine ⟨by rw [hl]; omega, fun p hp => ?_, rdCad_length_le d.cad⟩
  rcases rdCellGroups_group d.cells hp with h0 | ⟨n, s, r, hr, hs⟩
  · rw [h0, List.length_nil, Nat.zero_mul]; exact Nat.zero_le _
  · obtain ⟨hl, hcons⟩ := rdCells_len hr
    rw [hl]; omega

/-- FAITHFUL .solb reader: the data block is sized and initialised from the declared count *before*
    any value is read: a 56-byte file makes `ref_part_scalar_solb` request 480 000 000 bytes
    (and then fail on the first short `fread`) -/
theorem solb_alloc_bounded_counterexample :
    solbAllocFile.length = 56 ∧ scalarAlloc Cfg.faithful 1 solbAllocFile = 480000000 ∧
    decodeSolb 1 solbAllocFile = .error .failure := by
  rw [solbAllocFile, ofHex_ofList]; decide +kernel

/-- FAITHFUL .solb reader: a declared count of 2^32 (version 4) truncates to `chunk = 0`;
    the `while (nnode_read < nnode)` loop never advances -/
theorem solb_loop_progress_counterexample : decodeSolb 1 solbLoopFile = .error .diverge := by
  rw [solbLoopFile, ofHex_ofList]; decide +kernel

/-- FIXED .solb reader: whatever is allocated for the data block is covered by bytes present in the file -/
theorem solb_alloc_bounded (n : Nat) (bs : Bytes) : scalarAlloc Cfg.fixed n bs ≤ (bs.length : Int) := by
  unfold scalarAlloc
  split
  · omega
  next nnode ldim _ hp =>
    obtain ⟨c0, c1, c2, l⟩ := scalarPlan_ok rfl hp
    dsimp only [scalarAllocRequest]
    rw [chunkOf_small c0 c1]
    split
    · omega
    · have := Int.mul_comm (ldim : Int) nnode; omega

/-- a 60-byte version-4 .solb: `SolAtVertices` with 2^31-1 vertices and zero solution types -/
def solbIdleFile : Bytes :=
  [0x01,0,0,0, 0x04,0,0,0, 0x03,0,0,0, 0x18,0,0,0,0,0,0,0, 0x03,0,0,0,
   0x3e,0,0,0, 0x30,0,0,0,0,0,0,0, 0xff,0xff,0xff,0x7f,0,0,0,0, 0,0,0,0,
   0x36,0,0,0, 0,0,0,0,0,0,0,0]

/-- `Cfg.fixed` without `checkFields` (the reader as of ee7a30e, before 54a1e7c): with zero solution types the
    stride is 0, every count up to INT_MAX passes `checkCount`, and the per-vertex loop runs 2^31-1 times on a
    60-byte file without reading anything (stream `c20_count`) -/
theorem solb_idle_loop_counterexample :
    solbIdleFile.length = 60 ∧
    scalarIdleIterations { Cfg.fixed with checkFields := false } 1 solbIdleFile = 2147483647 := by
  decide +kernel

/-- FIXED .solb reader (as /repo runs now): the per-vertex loop never runs without data behind it (for a
    section that declares no field it is skipped) ... -/
theorem solb_idle_bounded (n : Nat) (bs : Bytes) : scalarIdleIterations Cfg.fixed n bs = 0 := by
  unfold scalarIdleIterations
  split
  · rfl
  · exact if_neg (fun h => h.2 rfl)

/-- ... and when it runs (`ldim ≥ 1`) the declared count, i.e. the number of loop iterations, is at most
    `file size / 8` -/
theorem solb_loop_bounded (n : Nat) (bs : Bytes) (dim : Nat) (next nnode : Int) (ldim : Nat) (s : Bytes)
    (hp : scalarPlan Cfg.fixed n bs = .ok (dim, next, nnode, ldim, s)) (hl : 0 < ldim) :
    nnode * 8 ≤ (bs.length : Int) := by
  obtain ⟨c0, _, c2, l⟩ := scalarPlan_ok rfl hp
  have : nnode * 1 ≤ nnode * ldim := Int.mul_le_mul_of_nonneg_left (by omega) c0
  omega

/-- the zero-field file is still accepted (refine reads back what it writes for `ldim = 0`) -/
example : decodeSolbFixed 1 solbIdleFile = .ok (0, [[]]) := by decide +kernel

example : decodeSolbFixed 1 solbAllocFile = .error .failure ∧ decodeSolbFixed 1 solbLoopFile = .error .failure := by
  rw [solbAllocFile, solbLoopFile, ofHex_ofList, ofHex_ofList]; decide +kernel

end Refine.Props.C20
