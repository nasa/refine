import Refine.Props.C06Shufflin
import Refine.Lemmas.ShufflinPre

/-!
  C06 — the layout returned by `ref_migrate_shufflin` satisfies the distributed-mesh invariant.

  `shufflin_spec` (`Refine/Props/C06Shufflin.lean`) says the model of `ref_migrate_shufflin` returns THE layout
  `IsLayout w w'` of the mesh of `w` for the new partition.  Here: every world `w'` with `IsLayout w w'` (for a `w`
  satisfying `ShufHyp`) satisfies the executable invariant `distInv` of `Refine/Model/Dist.lean`, clause by clause.
  Vocabulary as in `C06Shufflin.lean` (`Vw`, `partW`, `payW`, `AllC`, `ShufHyp`, `IsLayout`).
-/
namespace Refine.Props.C06ShufflinInv
open Refine.Model.Dist Refine.Model.Shufflin Refine.Lemmas.Shufflin Refine.Lemmas.ShufflinWorld
open Refine.Lemmas.ShufflinSpec Refine.Lemmas.DistLayout Refine.Props.C06Shufflin Refine.Lemmas.ShufflinPre
open Refine.Model.Comm (World INT_MAX)

/-- **layout_clauses**: clauses (o)–(v) of `distInv` hold of the layout.  (o) globals and cells distinct per rank,
    globals non-negative, parts in `[0, np)` (`ShufHyp.range` through `vw_facts`); (i) the rank named by `part` stores
    the canonical copy; (ii) a stored cell has all its vertices stored, touches a vertex of the rank, and is stored by
    the rank of each of its vertices; (iii) a stored vertex is owned or a vertex of a stored cell; (iv) every copy
    carries `payW`, so a ghost equals its owner's copy; (v) `ref_cell_part` reads the same `(global, part)` list on
    every rank that stores the cell, its value is the part of a vertex of the cell, and that rank stores the cell.
    No side conditions beyond `ShufHyp` (needed for: all copies agree, parts in range, cell vertices are vertices). -/
theorem layout_clauses (ldim N : Nat) (w w' : World RankState) (H : ShufHyp ldim N w) (hL : IsLayout w w') :
    clauseLocal w' = true ∧ clauseOwner w' = true ∧ clauseCells w' = true ∧ clauseVerts w' = true ∧
    clauseGhost w' = true ∧ clauseCellOwner w' = true :=
  (layout_of_isLayout H hL).clauses

/-- the part of the counting clause that needs no side condition: in the layout the owned globals of the ranks are
    pairwise distinct (a global is owned only on rank `partW w g`), the cells attributed to the ranks by
    `ref_cell_part` are pairwise distinct and as many as there are distinct stored cells (each is owned exactly on
    the rank of its smallest-global vertex, which stores it) -/
theorem layout_counts_distinct (ldim N : Nat) (w w' : World RankState) (H : ShufHyp ldim N w) (hL : IsLayout w w') :
    (ownedGlobals w').Nodup ∧ (ownedCellsAll w').Nodup ∧ (ownedCellsAll w').length = (allCells w').length :=
  (layout_of_isLayout H hL).counts_distinct

/-- **layout_counts**: the counting clause.  Side conditions (both about the INPUT world, neither follows from
    `ShufHyp`, which only bounds the ids by `N` and says nothing about `n_global`):
    * `hids`: the vertices of the mesh are exactly the ids `0 … N-1` (`ShufHyp.range` gives `⊆` only; a mesh with a
      hole in its id range is a legal `ShufHyp` world and fails the "owned globals are `0 … n-1`" part of the clause);
    * `hN`: every rank enters with `n_global = N` (the layout leaves the counters untouched, and the clause compares
      them with the number of owned vertices once `synced`, which `ShufHyp.synced` makes true). -/
theorem layout_counts (ldim N : Nat) (w w' : World RankState) (H : ShufHyp ldim N w) (hL : IsLayout w w')
    (hids : ∀ g : Int, Vw w g ↔ 0 ≤ g ∧ g < (N : Int)) (hN : ∀ s ∈ w, s.newN = (N : Int)) :
    clauseCounts w' = true :=
  (layout_of_isLayout H hL).counts fun _ => ⟨N, hids, newN_of_isLayout hL hN⟩

/-- **layout_distInv**: the layout of a mesh whose ids are `0 … N-1`, with `n_global = N` on every rank, satisfies the
    executable distributed-mesh invariant (side conditions as in `layout_counts`) -/
theorem layout_distInv (ldim N : Nat) (w w' : World RankState) (H : ShufHyp ldim N w) (hL : IsLayout w w')
    (hids : ∀ g : Int, Vw w g ↔ 0 ≤ g ∧ g < (N : Int)) (hN : ∀ s ∈ w, s.newN = (N : Int)) :
    distInv w' = true :=
  (layout_of_isLayout H hL).distInv fun _ => ⟨N, hids, newN_of_isLayout hL hN⟩

/-- **shufflin_distInv**: on at least two ranks the model of `ref_migrate_shufflin` completes, returns the layout of
    the mesh for the new partition, and that world satisfies `distInv` — from `ShufHyp` on the input, which does NOT
    ask the input to satisfy `distInv` (cells may sit on any ranks as long as their vertices sit with them). -/
theorem shufflin_distInv (ldim N : Nat) (w : World RankState) (H : ShufHyp ldim N w) (hnp : 2 ≤ w.length)
    (hids : ∀ g : Int, Vw w g ↔ 0 ≤ g ∧ g < (N : Int)) (hN : ∀ s ∈ w, s.newN = (N : Int)) :
    ∃ w', shufflin ldim w = some w' ∧ IsLayout w w' ∧ distInv w' = true := by
  obtain ⟨w', h1, h2⟩ := shufflin_spec ldim N w H hnp
  exact ⟨w', h1, h2, layout_distInv ldim N w w' H h2 hids hN⟩

/-! ## non-vacuity: the 2-rank world `exW` of `C06Shufflin.lean` (two tets and a triangle, every vertex moving to the
    other rank; `N = 5`, `ldim = 1`) meets every hypothesis; note that `exW` itself violates `distInv` (its `part`
    fields already hold the new partition while the cells still sit in the old layout) -/

open Refine.Lemmas.DistClauses in
/-- the vertex ids stored in `exW`, rank by rank, are `0 … 4` -/
theorem ex_ids (g : Int) : g ∈ [(0 : Int), 1, 2, 3, 4, 2, 3, 4, 0, 1] ↔ 0 ≤ g ∧ g < ((5 : Nat) : Int) := by
  have h1 : [(0 : Int), 1, 2, 3, 4, 2, 3, 4, 0, 1] ⊆ idsUpTo 5 := by decide
  have h2 : idsUpTo 5 ⊆ [(0 : Int), 1, 2, 3, 4, 2, 3, 4, 0, 1] := by decide
  exact ⟨fun h => (mem_idsUpTo 5 g).mp (h1 h), fun h => h2 ((mem_idsUpTo 5 g).mpr h)⟩

example : ∃ w', shufflin 1 exW = some w' ∧ IsLayout exW w' ∧ distInv w' = true :=
  shufflin_distInv 1 5 exW exW_hyp (by decide) ex_ids (by decide +kernel)

example : distInv exW = false := by decide +kernel

/-- migration keeps the invariant: from any synchronised world satisfying `distInv` for the old partition and any new
    partition `f` into `[0, np)` written on every stored copy, `ref_migrate_shufflin` completes and the result satisfies
    `distInv` again.  What `distInv` and `synced` already say about the ids is not asked: the counting clause makes the
    stored globals exactly `0 … n-1` and `n_global = n` on every rank, `n` the number of owned vertices
    (`ids_of_distInv`).  This is the form to apply; `shufflin_reestablishes_distInv` below has the same conclusion and
    asks in addition for an id bound `N` with `hids`, `hn`, `hN'`, which by the above can only be `n`. -/
theorem shufflin_keeps_distInv (ldim : Nat) (w0 : World RankState) (f : Int → Int)
    (h0 : distInv w0 = true) (hs : synced w0 = true) (hnp : 2 ≤ w0.length)
    (hf : ∀ s ∈ w0, ∀ nd ∈ s.nodes, 0 ≤ f nd.glob ∧ f nd.glob < (w0.length : Int))
    (hlen : ∀ s ∈ w0, ∀ nd ∈ s.nodes, nd.payload.length = ldim)
    (hgrp : ∀ s ∈ w0, ∀ c ∈ s.cells, c.group < NGROUP)
    (hU : ∀ s ∈ w0, ∀ t ∈ w0, ∀ c ∈ s.cells, ∀ c' ∈ t.cells, c.group = c'.group → sameVerts c c' = true → c = c')
    (hsize : ((max 1 ldim : Nat) : Int) * ((w0.length : Int) * ((ownedGlobals w0).length : Int)) ≤ INT_MAX) :
    ∃ w', shufflin ldim (setParts f w0) = some w' ∧ IsLayout (setParts f w0) w' ∧ distInv w' = true := by
  obtain ⟨hids, hn⟩ := ids_of_distInv h0 hs
  obtain ⟨w', h1, h2, L⟩ := shufflin_layout h0 hs hnp
    ⟨hf, fun s hs' nd hnd => ⟨((hids nd.glob).mp (vw_of_mem hs' hnd)).2, hlen s hs' nd hnd⟩, hgrp, hU, hsize⟩
  exact ⟨w', h1, h2, L.distInv fun _ => ⟨_, hids, newN_of_isLayout h2 ((forall_mem_setParts f w0 _).mpr hn)⟩⟩

/-- **migration re-establishes the invariant** (the C06 sentence for the sync point "after `ref_migrate_shufflin`"):
    from any world satisfying `distInv` for the old partition (ids synchronised, exactly `0..N-1`, `n_global = N`) and
    any new partition `f` into `[0, np)` written on every stored copy, `ref_migrate_shufflin` completes and the result
    satisfies `distInv` again.  Side hypotheses as in `shufflin_spec_distInv` (`hgrp`, `hU`, `hsize`, and `hN'` = its
    `hN`). -/
theorem shufflin_reestablishes_distInv (ldim N : Nat) (w0 : World RankState) (f : Int → Int)
    (h0 : distInv w0 = true) (hs : synced w0 = true) (hnp : 2 ≤ w0.length)
    (hf : ∀ s ∈ w0, ∀ nd ∈ s.nodes, 0 ≤ f nd.glob ∧ f nd.glob < (w0.length : Int))
    (hN' : ∀ s ∈ w0, ∀ nd ∈ s.nodes, nd.glob < (N : Int) ∧ nd.payload.length = ldim)
    (hgrp : ∀ s ∈ w0, ∀ c ∈ s.cells, c.group < NGROUP)
    (hU : ∀ s ∈ w0, ∀ t ∈ w0, ∀ c ∈ s.cells, ∀ c' ∈ t.cells, c.group = c'.group → sameVerts c c' = true → c = c')
    (hsize : ((max 1 ldim : Nat) : Int) * ((w0.length : Int) * (N : Int)) ≤ INT_MAX)
    (hids : ∀ g : Int, (∃ s ∈ w0, g ∈ s.nodes.map (·.glob)) ↔ 0 ≤ g ∧ g < (N : Int))
    (hn : ∀ s ∈ w0, s.newN = (N : Int)) :
    ∃ w', shufflin ldim (setParts f w0) = some w' ∧ IsLayout (setParts f w0) w' ∧ distInv w' = true := by
  obtain ⟨w', h1, h2, L⟩ := shufflin_layout h0 hs hnp ⟨hf, hN', hgrp, hU, hsize⟩
  exact ⟨w', h1, h2, L.distInv fun _ =>
    ⟨N, fun g => (vw_iff w0 g).trans (hids g), newN_of_isLayout h2 ((forall_mem_setParts f w0 _).mpr hn)⟩⟩

-- `List.decidableBAll` first, as for `exW_hyp`
attribute [local instance 1100] List.decidableBAll

/-- non-vacuity: the hypotheses are met by the 2-rank world `exDist` of `Props/C06.lean` (which satisfies `distInv`)
    and the partition that moves every vertex to the other rank -/
example : ∃ w', shufflin 1 (setParts (fun g => if g ≤ 1 then 1 else 0) Refine.Props.C06.exDist) = some w' ∧
    IsLayout (setParts (fun g => if g ≤ 1 then 1 else 0) Refine.Props.C06.exDist) w' ∧ distInv w' = true := by
  exact shufflin_keeps_distInv 1 Refine.Props.C06.exDist _ (by decide +kernel) (by decide) (by decide)
    (by decide +kernel) (by decide +kernel) (by decide +kernel) (by decide +kernel) (by decide +kernel)

end Refine.Props.C06ShufflinInv
