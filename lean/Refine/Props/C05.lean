import Refine.Lemmas.MetricInterp
import Refine.Props.C11
import Refine.Props.C16

/-!
  C05 — every vertex carries the log-Euclidean interpolation of the background metric.

  The model (`Refine/Model/Metric.lean`, bit-compared with the C through `refdrv metric` / `h_metric.c`) of what
  `ref_metric_interpolate_node` / `_between` / `ref_metric_interpolate` do once the donor cell is known:
  clip the stored barycentric weights, `log = Σ wᵢ · log_i` over the donors' *stored* logs, store `log` and
  `exp_m(log)` (`ref_node_metric_set_log`).  Theorems at the real instance (exact arithmetic; rounding is
  modelled, not verified).  Where `exp_m` / `log_m` enter, the inner eigen decompositions are assumed exact
  (`IsEigSys`, the hypothesis convention of `Props/C16`; `Props/C16QL.zeroResidual_isEigSys` derives it for a run of
  `ref_matrix_diag_m` that drops no non-zero off-diagonal entry).

  Proved of the kernel: a uniform field is reproduced; a field whose logarithm is affine in position is reproduced
  exactly; the spectrum of the result lies between the smallest and largest eigenvalues of the donors.
-/
namespace Refine.Props.C05
open Refine Refine.Scalar Refine.ScalarReal Refine.Model.Matrix Refine.Model.Metric
open Refine.Model.Geom (V3 B4 clipBary4)

/-- `ref_node_metric_set` stores the argument itself and its matrix logarithm -/
theorem nodeMetricSet_pair (m : M6 ℝ) (p : M6 ℝ × M6 ℝ) (h : nodeMetricSet m = .ok p) :
    p.1 = m ∧ logM m = .ok p.2 := by
  revert h
  fun_cases nodeMetricSet m with
  | case1 => nofun
  | case2 lg hl => rintro ⟨⟩; exact ⟨rfl, hl⟩

/-- `ref_node_metric_set_log` stores the argument itself and its matrix exponential -/
theorem nodeMetricSetLog_pair (lg : M6 ℝ) (p : M6 ℝ × M6 ℝ) (h : nodeMetricSetLog lg = .ok p) :
    p.2 = lg ∧ expM lg = .ok p.1 := by
  revert h
  fun_cases nodeMetricSetLog lg with
  | case1 => nofun
  | case2 m hl => rintro ⟨⟩; exact ⟨rfl, hl⟩

/-- the invariant of the pair after `ref_node_metric_set`: the stored metric is the exponential of the stored
    logarithm (given exact inner decompositions and positive eigenvalues) — so the two setters agree -/
theorem nodeMetricSet_consistent (m : M6 ℝ) (p : M6 ℝ × M6 ℝ) (d d' : Eig12 ℝ)
    (h : nodeMetricSet m = .ok p)
    (h1 : diagM m = .ok d) (he : IsEigSys d m) (hpos : 0 < d.l0 ∧ 0 < d.l1 ∧ 0 < d.l2)
    (h2 : diagM p.2 = .ok d') (he' : IsEigSys d' p.2) :
    nodeMetricSetLog p.2 = .ok p := by
  obtain ⟨hm, hl⟩ := nodeMetricSet_pair m p h
  have := C16.exp_log m p.2 d d' h1 he hpos hl h2 he'
  unfold nodeMetricSetLog
  rw [this, ← hm]

/-- the combination of four equal logs with weights summing to one is that log — componentwise identity -/
theorem logCombine_uniform (w : B4 ℝ) (L : M6 ℝ) (hs : w.b0 + w.b1 + w.b2 + w.b3 = 1) :
    logCombine 4 w L L L L = L := by
  rw [logCombine4_eq]
  have k : ∀ a : ℝ, w.b0 * a + w.b1 * a + w.b2 * a + w.b3 * a = a := fun a => by linear_combination a * hs
  cases L
  simp only [M6.mk.injEq]
  exact ⟨k _, k _, k _, k _, k _, k _⟩

/-- three donors (2-D background), fourth slot unused -/
theorem logCombine_uniform3 (w : B4 ℝ) (L X : M6 ℝ) (hs : w.b0 + w.b1 + w.b2 = 1) :
    logCombine 3 w L L L X = L := by
  rw [logCombine3_eq_4 w L L L X L]
  exact logCombine_uniform _ L (by linear_combination hs)

/-- **uniform reproduction.**  If the four donors carry the same SPD metric `m` (stored log `lg = log_m m`) and
    the weights sum to one, the log-Euclidean interpolant is `m` itself. -/
theorem logEuclid_uniform (m lg : M6 ℝ) (w : B4 ℝ) (d d' : Eig12 ℝ)
    (hs : w.b0 + w.b1 + w.b2 + w.b3 = 1)
    (h1 : diagM m = .ok d) (he : IsEigSys d m) (hpos : 0 < d.l0 ∧ 0 < d.l1 ∧ 0 < d.l2)
    (hl : logM m = .ok lg) (h2 : diagM lg = .ok d') (he' : IsEigSys d' lg) :
    logEuclidInterp 4 w lg lg lg lg = .ok m := by
  unfold logEuclidInterp
  rw [logCombine_uniform w lg hs]
  exact C16.exp_log m lg d d' h1 he hpos hl h2 he'

/-- the same through the code path of `ref_metric_interpolate_node`: whatever barycentric weights are stored
    (inside, slightly outside — they are clipped and renormalised), a successful clip reproduces a uniform field
    and stores the pair `(m, log m)` -/
theorem interpolateNode_uniform (m lg : M6 ℝ) (bary w : B4 ℝ) (d d' : Eig12 ℝ)
    (hc : clipBary4 bary = (Refine.Model.Geom.St.ok, w))
    (h1 : diagM m = .ok d) (he : IsEigSys d m) (hpos : 0 < d.l0 ∧ 0 < d.l1 ∧ 0 < d.l2)
    (hl : logM m = .ok lg) (h2 : diagM lg = .ok d') (he' : IsEigSys d' lg) :
    interpolateNode 4 bary lg lg lg lg = .ok (m, lg) := by
  obtain ⟨_, _, _, _, hs⟩ := C11.clipBary4_simplex hc
  rw [interpolateNode_of_clip hc, logCombine_uniform w lg hs]
  unfold nodeMetricSetLog
  rw [C16.exp_log m lg d d' h1 he hpos hl h2 he']

theorem affine_combine (w : B4 ℝ) (a b c d p : V3 ℝ) (hs : w.b0 + w.b1 + w.b2 + w.b3 = 1)
    (hx : w.b0 * a.x + w.b1 * b.x + w.b2 * c.x + w.b3 * d.x = p.x)
    (hy : w.b0 * a.y + w.b1 * b.y + w.b2 * c.y + w.b3 * d.y = p.y)
    (hz : w.b0 * a.z + w.b1 * b.z + w.b2 * c.z + w.b3 * d.z = p.z) (k0 kx ky kz : ℝ) :
    w.b0 * (k0 + kx * a.x + ky * a.y + kz * a.z) + w.b1 * (k0 + kx * b.x + ky * b.y + kz * b.z) +
      w.b2 * (k0 + kx * c.x + ky * c.y + kz * c.z) + w.b3 * (k0 + kx * d.x + ky * d.y + kz * d.z) =
    k0 + kx * p.x + ky * p.y + kz * p.z := by
  linear_combination k0 * hs + kx * hx + ky * hy + kz * hz

/-- **log-linear exactness**, the linear-algebra core: if the donors' logs are an affine function of position,
    `log_i = L0 + Lx·x_i + Ly·y_i + Lz·z_i` (all six components), the weights sum to one and reproduce the
    point `p = Σ wᵢ x_i` (barycentric coordinates of `p`), then the combined log is the affine function at `p` -/
theorem logCombine_loglinear (w : B4 ℝ) (L0 Lx Ly Lz : M6 ℝ) (a b c d p : V3 ℝ)
    (hs : w.b0 + w.b1 + w.b2 + w.b3 = 1)
    (hx : w.b0 * a.x + w.b1 * b.x + w.b2 * c.x + w.b3 * d.x = p.x)
    (hy : w.b0 * a.y + w.b1 * b.y + w.b2 * c.y + w.b3 * d.y = p.y)
    (hz : w.b0 * a.z + w.b1 * b.z + w.b2 * c.z + w.b3 * d.z = p.z) :
    logCombine 4 w (affM L0 Lx Ly Lz a) (affM L0 Lx Ly Lz b) (affM L0 Lx Ly Lz c) (affM L0 Lx Ly Lz d) =
      affM L0 Lx Ly Lz p := by
  rw [logCombine4_eq]
  unfold affM
  have k := affine_combine w a b c d p hs hx hy hz
  simp only [M6.mk.injEq]
  exact ⟨k _ _ _ _, k _ _ _ _, k _ _ _ _, k _ _ _ _, k _ _ _ _, k _ _ _ _⟩

/-- 2-D background (three donors) -/
theorem logCombine_loglinear3 (w : B4 ℝ) (L0 Lx Ly Lz X : M6 ℝ) (a b c p : V3 ℝ)
    (hs : w.b0 + w.b1 + w.b2 = 1)
    (hx : w.b0 * a.x + w.b1 * b.x + w.b2 * c.x = p.x)
    (hy : w.b0 * a.y + w.b1 * b.y + w.b2 * c.y = p.y)
    (hz : w.b0 * a.z + w.b1 * b.z + w.b2 * c.z = p.z) :
    logCombine 3 w (affM L0 Lx Ly Lz a) (affM L0 Lx Ly Lz b) (affM L0 Lx Ly Lz c) X = affM L0 Lx Ly Lz p := by
  rw [logCombine3_eq_4 _ _ _ _ X (affM L0 Lx Ly Lz a)]
  exact logCombine_loglinear _ L0 Lx Ly Lz a b c a p (by linear_combination hs) (by linear_combination hx)
    (by linear_combination hy) (by linear_combination hz)

/-- **log-linear exactness.**  Under the hypotheses of `logCombine_loglinear` the interpolated metric is the
    exponential of the exact logarithm at `p`: the stored pair is `(exp_m(L(p)), L(p))`. -/
theorem logEuclid_loglinear (w : B4 ℝ) (L0 Lx Ly Lz : M6 ℝ) (a b c d p : V3 ℝ)
    (hs : w.b0 + w.b1 + w.b2 + w.b3 = 1)
    (hx : w.b0 * a.x + w.b1 * b.x + w.b2 * c.x + w.b3 * d.x = p.x)
    (hy : w.b0 * a.y + w.b1 * b.y + w.b2 * c.y + w.b3 * d.y = p.y)
    (hz : w.b0 * a.z + w.b1 * b.z + w.b2 * c.z + w.b3 * d.z = p.z) :
    logEuclidInterp 4 w (affM L0 Lx Ly Lz a) (affM L0 Lx Ly Lz b) (affM L0 Lx Ly Lz c) (affM L0 Lx Ly Lz d) =
      expM (affM L0 Lx Ly Lz p) ∧
    nodeMetricSetLog (logCombine 4 w (affM L0 Lx Ly Lz a) (affM L0 Lx Ly Lz b) (affM L0 Lx Ly Lz c)
      (affM L0 Lx Ly Lz d)) = nodeMetricSetLog (affM L0 Lx Ly Lz p) := by
  unfold logEuclidInterp
  rw [logCombine_loglinear w L0 Lx Ly Lz a b c d p hs hx hy hz]
  exact ⟨rfl, rfl⟩

/-- the quadratic form of the combined log is the same convex combination of the donors' quadratic forms, hence
    lies between their minimum and maximum (Rayleigh-quotient statement, any `v`) -/
theorem interp_quadratic_form_range (w : B4 ℝ) (l0 l1 l2 l3 : M6 ℝ) (v : Vec3 ℝ)
    (h0 : 0 ≤ w.b0) (h1 : 0 ≤ w.b1) (h2 : 0 ≤ w.b2) (h3 : 0 ≤ w.b3) (hs : w.b0 + w.b1 + w.b2 + w.b3 = 1) :
    min (min (vtMv l0 v) (vtMv l1 v)) (min (vtMv l2 v) (vtMv l3 v)) ≤ vtMv (logCombine 4 w l0 l1 l2 l3) v ∧
    vtMv (logCombine 4 w l0 l1 l2 l3) v ≤ max (max (vtMv l0 v) (vtMv l1 v)) (max (vtMv l2 v) (vtMv l3 v)) := by
  rw [vtMv_logCombine4]
  exact C11.convex_range _ _ _ _ _ _ _ _ h0 h1 h2 h3 hs

/-- Loewner form: if every donor log has its spectrum in `[lo, hi]` so has the combination -/
theorem logCombine_between (w : B4 ℝ) (l0 l1 l2 l3 : M6 ℝ) (lo hi : ℝ)
    (h0 : 0 ≤ w.b0) (h1 : 0 ≤ w.b1) (h2 : 0 ≤ w.b2) (h3 : 0 ≤ w.b3) (hs : w.b0 + w.b1 + w.b2 + w.b3 = 1)
    (b0 : Between lo hi l0) (b1 : Between lo hi l1) (b2 : Between lo hi l2) (b3 : Between lo hi l3) :
    Between lo hi (logCombine 4 w l0 l1 l2 l3) := by
  intro x
  have r := interp_quadratic_form_range w l0 l1 l2 l3 x h0 h1 h2 h3 hs
  exact ⟨le_trans (le_min (le_min (b0 x).1 (b1 x).1) (le_min (b2 x).1 (b3 x).1)) r.1,
    le_trans r.2 (max_le (max_le (b0 x).2 (b1 x).2) (max_le (b2 x).2 (b3 x).2))⟩

/-- three donors (2-D background) -/
theorem logCombine_between3 (w : B4 ℝ) (l0 l1 l2 X : M6 ℝ) (lo hi : ℝ)
    (h0 : 0 ≤ w.b0) (h1 : 0 ≤ w.b1) (h2 : 0 ≤ w.b2) (hs : w.b0 + w.b1 + w.b2 = 1)
    (b0 : Between lo hi l0) (b1 : Between lo hi l1) (b2 : Between lo hi l2) :
    Between lo hi (logCombine 3 w l0 l1 l2 X) := by
  rw [logCombine3_eq_4 w l0 l1 l2 X l0]
  exact logCombine_between _ l0 l1 l2 l0 lo hi h0 h1 h2 le_rfl (by linear_combination hs) b0 b1 b2 b0

/-- Rayleigh quotient at the first eigenvector -/
theorem eig0_of_between {d : Eig12 ℝ} {m : M6 ℝ} (he : IsEigSys d m) {lo hi : ℝ} (hb : Between lo hi m) :
    lo ≤ d.l0 ∧ d.l0 ≤ hi := by
  have n0 : normSq ⟨d.x0, d.y0, d.z0⟩ = 1 := he.1.n0
  have b0 := hb ⟨d.x0, d.y0, d.z0⟩
  rwa [he.vtMv_vec0, n0, mul_one, mul_one] at b0

/-- so do the other two: any eigen pair can be put first -/
theorem eig_of_between {d : Eig12 ℝ} {m : M6 ℝ} (he : IsEigSys d m) {lo hi : ℝ} (hb : Between lo hi m) :
    (lo ≤ d.l0 ∧ d.l0 ≤ hi) ∧ (lo ≤ d.l1 ∧ d.l1 ≤ hi) ∧ (lo ≤ d.l2 ∧ d.l2 ≤ hi) :=
  ⟨eig0_of_between he hb, eig0_of_between he.swap01 hb, eig0_of_between he.swap02 hb⟩

/-- a function that is monotone on `[lo, hi]` carries Loewner bounds through an exact eigen system:
    `lo·I ≼ m ≼ hi·I ⇒ f(lo)·I ≼ f(m) ≼ f(hi)·I` -/
theorem between_fun {d : Eig12 ℝ} {m : M6 ℝ} (he : IsEigSys d m) {lo hi : ℝ} (hb : Between lo hi m)
    (f : ℝ → ℝ) (hmono : ∀ a b, lo ≤ a → a ≤ b → b ≤ hi → f a ≤ f b) :
    Between (f lo) (f hi) (formM (mapEig f d)) := by
  obtain ⟨e0, e1, e2⟩ := eig_of_between he hb
  have hlh : lo ≤ hi := le_trans e0.1 e0.2
  apply between_of_eig (orthonormal_mapEig f he.1)
  · exact ⟨hmono lo d.l0 le_rfl e0.1 e0.2, hmono d.l0 hi e0.1 e0.2 le_rfl⟩
  · exact ⟨hmono lo d.l1 le_rfl e1.1 e1.2, hmono d.l1 hi e1.1 e1.2 le_rfl⟩
  · exact ⟨hmono lo d.l2 le_rfl e2.1 e2.2, hmono d.l2 hi e2.1 e2.2 le_rfl⟩

/-- passage through the exponential: if the combined log has its spectrum in `[lo, hi]` (and its eigen
    decomposition inside `exp_m` is exact) the interpolated metric has its spectrum in `[exp lo, exp hi]` -/
theorem expM_between (lg m : M6 ℝ) (d : Eig12 ℝ) (lo hi : ℝ)
    (h1 : diagM lg = .ok d) (he : IsEigSys d lg) (hb : Between lo hi lg) (hx : expM lg = .ok m) :
    Between (Real.exp lo) (Real.exp hi) m := by
  rw [expM_of h1] at hx
  cases hx
  exact between_fun he hb Real.exp (fun a b _ hab _ => Real.exp_le_exp.mpr hab)

/-- the donors' side: a metric with an exact eigen system whose eigenvalues lie in `[λlo, λhi]`, `λlo > 0`, has a
    stored logarithm with spectrum in `[log λlo, log λhi]` -/
theorem logM_between (m lg : M6 ℝ) (d : Eig12 ℝ) (llo lhi : ℝ) (hlo : 0 < llo)
    (h1 : diagM m = .ok d) (he : IsEigSys d m) (hb : Between llo lhi m) (hl : logM m = .ok lg) :
    Between (Real.log llo) (Real.log lhi) lg := by
  rw [logM_of h1] at hl
  cases hl
  exact between_fun he hb Real.log (fun a b ha hab _ => Real.log_le_log (lt_of_lt_of_le hlo ha) hab)

/-- **spectrum bound.**  Four donors whose metrics have their eigenvalues in `[λlo, λhi]` (`λlo > 0`), convex
    weights: every eigenvalue of the interpolated metric lies in `[λlo, λhi]`, stated as
    `λlo |x|² ≤ xᵀ M x ≤ λhi |x|²` for all x.  Exact arithmetic; the inner eigen decompositions of the four
    `log_m` calls and of the final `exp_m` are assumed exact (`IsEigSys`). -/
theorem interp_spectrum (w : B4 ℝ) (m0 m1 m2 m3 l0 l1 l2 l3 out : M6 ℝ) (d0 d1 d2 d3 dl : Eig12 ℝ)
    (llo lhi : ℝ) (hlo : 0 < llo) (hlh : llo ≤ lhi)
    (w0 : 0 ≤ w.b0) (w1 : 0 ≤ w.b1) (w2 : 0 ≤ w.b2) (w3 : 0 ≤ w.b3) (hs : w.b0 + w.b1 + w.b2 + w.b3 = 1)
    (hd0 : diagM m0 = .ok d0) (he0 : IsEigSys d0 m0) (hb0 : Between llo lhi m0) (hl0 : logM m0 = .ok l0)
    (hd1 : diagM m1 = .ok d1) (he1 : IsEigSys d1 m1) (hb1 : Between llo lhi m1) (hl1 : logM m1 = .ok l1)
    (hd2 : diagM m2 = .ok d2) (he2 : IsEigSys d2 m2) (hb2 : Between llo lhi m2) (hl2 : logM m2 = .ok l2)
    (hd3 : diagM m3 = .ok d3) (he3 : IsEigSys d3 m3) (hb3 : Between llo lhi m3) (hl3 : logM m3 = .ok l3)
    (hdl : diagM (logCombine 4 w l0 l1 l2 l3) = .ok dl) (hel : IsEigSys dl (logCombine 4 w l0 l1 l2 l3))
    (hout : logEuclidInterp 4 w l0 l1 l2 l3 = .ok out) :
    Between llo lhi out := by
  have c := logCombine_between w l0 l1 l2 l3 (Real.log llo) (Real.log lhi) w0 w1 w2 w3 hs
    (logM_between m0 l0 d0 llo lhi hlo hd0 he0 hb0 hl0) (logM_between m1 l1 d1 llo lhi hlo hd1 he1 hb1 hl1)
    (logM_between m2 l2 d2 llo lhi hlo hd2 he2 hb2 hl2) (logM_between m3 l3 d3 llo lhi hlo hd3 he3 hb3 hl3)
  have := expM_between _ out dl _ _ hdl hel c hout
  rwa [Real.exp_log hlo, Real.exp_log (lt_of_lt_of_le hlo hlh)] at this

/-- the interpolated metric is positive definite (lower bound of `interp_spectrum` with `λlo > 0`) -/
theorem between_pos_spd {m : M6 ℝ} {lo hi : ℝ} (hlo : 0 < lo) (hb : Between lo hi m) (x : Vec3 ℝ)
    (hx : x.x ≠ 0 ∨ x.y ≠ 0 ∨ x.z ≠ 0) : 0 < vtMv m x := by
  exact lt_of_lt_of_le (mul_pos hlo (Vec3.normSq_pos hx)) (hb x).1

/-- whatever barycentric weights the search left behind, a successful `ref_metric_interpolate_node` stores
    `log = Σ wᵢ log_i` for weights `w ≥ 0`, `Σ w = 1` (never an extrapolation), and `m = exp_m(log)` -/
theorem interpolateNode_convex (bary : B4 ℝ) (l0 l1 l2 l3 : M6 ℝ) (p : M6 ℝ × M6 ℝ)
    (h : interpolateNode 4 bary l0 l1 l2 l3 = .ok p) :
    ∃ w : B4 ℝ, 0 ≤ w.b0 ∧ 0 ≤ w.b1 ∧ 0 ≤ w.b2 ∧ 0 ≤ w.b3 ∧ w.b0 + w.b1 + w.b2 + w.b3 = 1 ∧
      p.2 = logCombine 4 w l0 l1 l2 l3 ∧ expM p.2 = .ok p.1 := by
  unfold interpolateNode at h
  split at h
  · rename_i w hc
    obtain ⟨a0, a1, a2, a3, hs⟩ := C11.clipBary4_simplex hc
    obtain ⟨e1, e2⟩ := nodeMetricSetLog_pair _ p h
    exact ⟨w, a0, a1, a2, a3, hs, e1, by rw [e1]; exact e2⟩
  · cases h

/-- edge split (`ref_node_interpolate_edge`): the metric of the new vertex is the same log-Euclidean kernel
    with weights `(1 - t, t, 0, 0)` -/
theorem interpolateEdge_is_interp (l0 l1 X Y : M6 ℝ) (t : ℝ) :
    interpolateEdgeMetric l0 l1 t = nodeMetricSetLog (logCombine 4 ⟨1 - t, t, 0, 0⟩ l0 l1 X Y) := by
  unfold interpolateEdgeMetric
  congr 1
  rw [logCombine4_eq]
  unfold weightM
  simp only [one_eq, sub_eq, mul_eq, add_eq, M6.mk.injEq]
  refine ⟨?_, ?_, ?_, ?_, ?_, ?_⟩ <;> ring

/-- **serial and parallel paths agree.**  The donor-side loop of `ref_metric_interpolate` (whole-field transfer used
    by `refmpi`: four zero-initialised rows, always four weights) computes exactly the interpolant of
    `ref_metric_interpolate_node` (per-vertex path: `node_per` donors), for tet (4) and triangle (3) backgrounds -/
theorem interpolateDonor_eq_node (bary : B4 ℝ) (l0 l1 l2 l3 : M6 ℝ) :
    interpolateDonor 4 bary l0 l1 l2 l3 = interpolateNode 4 bary l0 l1 l2 l3 ∧
    interpolateDonor 3 bary l0 l1 l2 l3 = interpolateNode 3 bary l0 l1 l2 l3 := by
  constructor
  · unfold interpolateDonor interpolateNode
    split <;> simp
  · unfold interpolateDonor interpolateNode
    split
    · rename_i w hc
      simp only [beq_self_eq_true, if_true]
      rw [logCombine4_eq, logCombine3_eq]
      simp only [zero_eq, mul_zero, add_zero]
    · rfl

theorem logEuclid_diag235 : logEuclidInterp 4 (⟨1 / 2, 1 / 4, 1 / 8, 1 / 8⟩ : B4 ℝ)
    ⟨Real.log 2, 0, 0, Real.log 3, 0, Real.log 5⟩ ⟨Real.log 2, 0, 0, Real.log 3, 0, Real.log 5⟩
    ⟨Real.log 2, 0, 0, Real.log 3, 0, Real.log 5⟩ ⟨Real.log 2, 0, 0, Real.log 3, 0, Real.log 5⟩ =
    .ok ⟨2, 0, 0, 3, 0, 5⟩ :=
  logEuclid_uniform ⟨2, 0, 0, 3, 0, 5⟩ _ _ _ _ (by norm_num)
    (C16.diagM_diagonal 2 3 5).1 (C16.diagM_diagonal 2 3 5).2 ⟨by norm_num, by norm_num, by norm_num⟩
    (C16.logM_diag 2 3 5)
    (C16.diagM_diagonal (Real.log 2) (Real.log 3) (Real.log 5)).1
    (C16.diagM_diagonal (Real.log 2) (Real.log 3) (Real.log 5)).2

/-- `logEuclid_uniform` on a concrete SPD metric diag(2,3,5) with weights (1/2, 1/4, 1/8, 1/8) -/
example : logEuclidInterp 4 (⟨1 / 2, 1 / 4, 1 / 8, 1 / 8⟩ : B4 ℝ)
    ⟨Real.log 2, 0, 0, Real.log 3, 0, Real.log 5⟩ ⟨Real.log 2, 0, 0, Real.log 3, 0, Real.log 5⟩
    ⟨Real.log 2, 0, 0, Real.log 3, 0, Real.log 5⟩ ⟨Real.log 2, 0, 0, Real.log 3, 0, Real.log 5⟩ =
    .ok ⟨2, 0, 0, 3, 0, 5⟩ := logEuclid_diag235

/-- `logCombine_loglinear` on the unit tet at the centroid: `L(x) = diag(x, 2y, 1+z)` -/
example : logCombine 4 (⟨1 / 4, 1 / 4, 1 / 4, 1 / 4⟩ : B4 ℝ)
    (affM ⟨0, 0, 0, 0, 0, 1⟩ ⟨1, 0, 0, 0, 0, 0⟩ ⟨0, 0, 0, 2, 0, 0⟩ ⟨0, 0, 0, 0, 0, 1⟩ ⟨0, 0, 0⟩)
    (affM ⟨0, 0, 0, 0, 0, 1⟩ ⟨1, 0, 0, 0, 0, 0⟩ ⟨0, 0, 0, 2, 0, 0⟩ ⟨0, 0, 0, 0, 0, 1⟩ ⟨1, 0, 0⟩)
    (affM ⟨0, 0, 0, 0, 0, 1⟩ ⟨1, 0, 0, 0, 0, 0⟩ ⟨0, 0, 0, 2, 0, 0⟩ ⟨0, 0, 0, 0, 0, 1⟩ ⟨0, 1, 0⟩)
    (affM ⟨0, 0, 0, 0, 0, 1⟩ ⟨1, 0, 0, 0, 0, 0⟩ ⟨0, 0, 0, 2, 0, 0⟩ ⟨0, 0, 0, 0, 0, 1⟩ ⟨0, 0, 1⟩) =
    affM ⟨0, 0, 0, 0, 0, 1⟩ ⟨1, 0, 0, 0, 0, 0⟩ ⟨0, 0, 0, 2, 0, 0⟩ ⟨0, 0, 0, 0, 0, 1⟩ ⟨1 / 4, 1 / 4, 1 / 4⟩ :=
  logCombine_loglinear _ _ _ _ _ _ _ _ _ _ (by norm_num) (by norm_num) (by norm_num) (by norm_num)

theorem between_diag235 : Between 2 5 (⟨2, 0, 0, 3, 0, 5⟩ : M6 ℝ) := by
  rw [← formM_diag]
  exact between_of_eig (isEigSys_diag 2 3 5).1 ⟨le_rfl, by norm_num⟩ ⟨by norm_num, by norm_num⟩ ⟨by norm_num, le_rfl⟩

/-- `Between` is inhabited non-trivially: diag(2,3,5) has its spectrum in [2, 5] -/
example : Between 2 5 (⟨2, 0, 0, 3, 0, 5⟩ : M6 ℝ) := between_diag235

/-- `interp_spectrum` is not vacuous: four donors carrying diag(2,3,5), weights (1/2,1/4,1/8,1/8), bounds [2,5] —
    every hypothesis (exact decompositions of the four `log_m` calls and of the final `exp_m`) holds -/
example : ∃ out, logEuclidInterp 4 (⟨1 / 2, 1 / 4, 1 / 8, 1 / 8⟩ : B4 ℝ)
    ⟨Real.log 2, 0, 0, Real.log 3, 0, Real.log 5⟩ ⟨Real.log 2, 0, 0, Real.log 3, 0, Real.log 5⟩
    ⟨Real.log 2, 0, 0, Real.log 3, 0, Real.log 5⟩ ⟨Real.log 2, 0, 0, Real.log 3, 0, Real.log 5⟩ = .ok out ∧
    Between 2 5 out := by
  have hw : (1 / 2 : ℝ) + 1 / 4 + 1 / 8 + 1 / 8 = 1 := by norm_num
  have hu := logCombine_uniform (⟨1 / 2, 1 / 4, 1 / 8, 1 / 8⟩ : B4 ℝ) ⟨Real.log 2, 0, 0, Real.log 3, 0, Real.log 5⟩ hw
  refine ⟨_, logEuclid_diag235, ?_⟩
  have hD := C16.diagM_diagonal 2 3 5
  have hL := C16.diagM_diagonal (Real.log 2) (Real.log 3) (Real.log 5)
  exact interp_spectrum (⟨1 / 2, 1 / 4, 1 / 8, 1 / 8⟩ : B4 ℝ) ⟨2, 0, 0, 3, 0, 5⟩ ⟨2, 0, 0, 3, 0, 5⟩ ⟨2, 0, 0, 3, 0, 5⟩
    ⟨2, 0, 0, 3, 0, 5⟩ _ _ _ _ _ _ _ _ _ _ 2 5 (by norm_num) (by norm_num) (by norm_num) (by norm_num) (by norm_num)
    (by norm_num) hw
    hD.1 hD.2 between_diag235 (C16.logM_diag 2 3 5) hD.1 hD.2 between_diag235 (C16.logM_diag 2 3 5)
    hD.1 hD.2 between_diag235 (C16.logM_diag 2 3 5) hD.1 hD.2 between_diag235 (C16.logM_diag 2 3 5)
    (by rw [hu]; exact hL.1) (by rw [hu]; exact hL.2) logEuclid_diag235

/-- `interp_quadratic_form_range` at a concrete point -/
example (v : Vec3 ℝ) :
    vtMv (logCombine 4 (⟨1 / 2, 1 / 2, 0, 0⟩ : B4 ℝ) ⟨1, 0, 0, 1, 0, 1⟩ ⟨3, 0, 0, 3, 0, 3⟩ ⟨0, 0, 0, 0, 0, 0⟩
      ⟨0, 0, 0, 0, 0, 0⟩) v = 2 * normSq v := by
  rw [vtMv_logCombine4]
  simp only [vtMv, normSq, mul_eq, add_eq]; ring

end Refine.Props.C05
