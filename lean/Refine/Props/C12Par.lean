import Refine.Lemmas.PhysDistTree
import Refine.Lemmas.PhysDistGlobal
import Refine.Lemmas.PhysDistBc
import Refine.Lemmas.FoldSet

/-!
  C12 / C07 — the PARALLEL wall distance (`ref_phys_wall_distance` on any number of ranks), the selection of wall
  elements (`ref_phys_local_wall`, bc dict, `--fun3d-mapbc`, `--viscous-tags`).

  All theorems are about the executable model `Refine.Model.PhysDist` (tied to `ref_phys.c` by the `physdist_*`
  streams: Float instance bit-compared with the C for 1..5 ranks).  What the C does, as modelled: every rank spreads
  ITS OWNED vertices evenly over all ranks (`ref_part_implicit`), `ref_mpi_alltoallv` moves the coordinates, EVERY
  rank receives EVERY wall element (`ref_phys_bcast_parts`, in chunks of at most 10^6), builds a sphere tree per chunk
  in `rand()` order and answers the queries it was sent, a second `ref_mpi_alltoallv` returns the answers, which are
  read back through a second `a_next` prefix sum, and `ref_node_ghost_dbl` fills the ghosts.

  Vocabulary: `worldWalls twod dict w` all ranks' wall lists concatenated (`Model/PhysDist`); `elemDist twod x e` the
  kernel value `ref_search_distance2/3` (element, point); `wallMin twod dict w x` the fold of `MIN` over
  `worldWalls` from `REF_DBL_MAX`; `WorldOk w` (`Lemmas/PhysDistWorld`): per-rank distinct globals, every ghost's part
  is a rank that stores the vertex as its own, `nowned <= REF_INT_MAX / n`, three times the vertex count fits an int;
  `PermsOk perms chunks`: every insertion order is a permutation of its chunk; `SearchFolds search op kv chunks`:
  on every rank and chunk the search succeeds and folds `op` over the kernel values of the chunk;
  `Represents w G` (`Lemmas/PhysDistGlobal`): the ranks' cells are cells of the global mesh `G` and every cell of `G`
  is stored by at least one rank.

  Over `ℝ` the wall lists are `@localWall ℝ Scalar.instInhabited` (why: `treeSearch_searchFolds`); the selection
  theorems are applied there as `@localWall_spec ℝ Scalar.instInhabited …`.
-/
namespace Refine.Props.C12Par
open Refine Refine.Model Refine.Model.Geom Refine.Model.Search Refine.Model.PhysDist Refine.ScalarReal
open Refine.Lemmas.PhysDist Refine.Lemmas.Search
open Refine.Model.Comm (World)

/-! ### the parallel routine, exact arithmetic -/

/-- the brute-force minimum: below `REF_DBL_MAX`, below the kernel distance of EVERY wall element of EVERY rank, and
    equal to one of them (or to `REF_DBL_MAX` when there is no wall) -/
theorem wallMin_spec (twod : Bool) (dict : RDict) (w : World (PRank ℝ)) (x : V3 ℝ) :
    wallMin twod dict w x ≤ dblMax ∧
    (∀ e ∈ worldWalls twod dict w, wallMin twod dict w x ≤ elemDist twod x e) ∧
    (wallMin twod dict w x = dblMax ∨ ∃ e ∈ worldWalls twod dict w, wallMin twod dict w x = elemDist twod x e) := by
  rw [wallMin_eq_foldl_min]
  exact FoldMin.foldl_min_map_spec (elemDist twod x) _ dblMax

/-- for every rank count, every distribution of vertices and wall cells over the ranks
    (ranks without wall elements or without vertices included), the generated `max_ncell` and EVERY insertion order
    on every rank and chunk, `ref_phys_wall_distance` completes and stores at every vertex the minimum over ALL wall
    elements of ALL ranks of the exact kernel distance: at an owned vertex for its own coordinates, at a ghost for
    the coordinates of its owner's copy (the same when ghosts carry their owner's coordinates, next theorem). -/
theorem wallDistance_par_exact (perms : Nat → Nat → List Int) (twod : Bool) (dict : RDict) (w : World (PRank ℝ))
    (hw : WorldOk w)
    (hp : PermsOk perms (wallChunks Refine.Gen.PhysBc.maxNcell (w.map (@localWall ℝ Scalar.instInhabited twod dict)))) :
    ∃ res : World (List ℝ), wallDistPar perms twod dict w = some res ∧ res.length = w.length ∧
      ∀ r (hr : r < w.length), (res.getD r []).length = w[r].nodes.length ∧
        ∀ i (hi : i < w[r].nodes.length),
          (w[r].nodes[i].part = (r : Int) → (res.getD r [])[i]? = some (wallMin twod dict w w[r].nodes[i].xyz)) ∧
          (w[r].nodes[i].part ≠ (r : Int) →
            ∀ od ∈ (w.getD w[r].nodes[i].part.toNat ⟨[], [], [], []⟩).nodes, od.glob = w[r].nodes[i].glob →
              (res.getD r [])[i]? = some (wallMin twod dict w od.xyz)) := by
  have h := wallDistParWith_spec dblMax Refine.Gen.PhysBc.maxNcell twod dict w
    (treeSearch_searchFolds perms _ twod dict w hp) hw
  simp only [wallFold_eq_wallMin] at h
  exact h

/-- with consistent ghosts (a ghost copy has its owner's coordinates: clause (iv) of the distributed-mesh invariant,
    C06) EVERY stored vertex, owned or ghost, holds the brute-force minimum at its own coordinates -/
theorem wallDistance_par_exact_all (perms : Nat → Nat → List Int) (twod : Bool) (dict : RDict)
    (w : World (PRank ℝ)) (hw : WorldOk w)
    (hp : PermsOk perms (wallChunks Refine.Gen.PhysBc.maxNcell (w.map (@localWall ℝ Scalar.instInhabited twod dict))))
    (hg : ∀ r (hr : r < w.length), ∀ nd ∈ w[r].nodes, nd.part ≠ (r : Int) →
      ∀ od ∈ (w.getD nd.part.toNat ⟨[], [], [], []⟩).nodes, od.glob = nd.glob → od.xyz = nd.xyz) :
    ∃ res : World (List ℝ), wallDistPar perms twod dict w = some res ∧
      ∀ r (hr : r < w.length), ∀ i (hi : i < w[r].nodes.length),
        (res.getD r [])[i]? = some (wallMin twod dict w w[r].nodes[i].xyz) := by
  obtain ⟨res, h1, _, h3⟩ := wallDistance_par_exact perms twod dict w hw hp
  refine ⟨res, h1, ?_⟩
  intro r hr i hi
  obtain ⟨_, h4⟩ := h3 r hr
  obtain ⟨ho, hgh⟩ := h4 i hi
  by_cases hp' : w[r].nodes[i].part = (r : Int)
  · exact ho hp'
  · obtain ⟨_, _, od, hod, hgl, _⟩ := hw.ghost r hr _ (List.getElem_mem hi) hp'
    rw [hgh hp' od hod hgl, hg r hr _ (List.getElem_mem hi) hp' od hod hgl]

/-- **rank-count independence, exact arithmetic** (C07's clause): two distributions — any two rank counts, any
    partitions, any ghost layers, any multiplicities of the wall cells — with the same SET of wall elements give the
    same minimum at every point -/
theorem wallMin_np_independent (twod : Bool) (dict1 dict2 : RDict) (w1 w2 : World (PRank ℝ))
    (hs : ∀ e, e ∈ worldWalls twod dict1 w1 ↔ e ∈ worldWalls twod dict2 w2) (x : V3 ℝ) :
    wallMin twod dict1 w1 x = wallMin twod dict2 w2 x := by
  rw [wallMin_eq_foldl_min, wallMin_eq_foldl_min]
  exact Refine.FoldMin.foldl_min_map_congr_set (elemDist twod x) dblMax hs

/-! ### bit-identity for every rank count (C07), any value type -/

/-- **the named hypothesis**: on every rank and for every chunk the tree search (a) succeeds and (b) returns the
    fold of `op` (the C's `MIN`) over the kernel values `kv x e` of the chunk's elements, started from the value it is
    handed.  In exact arithmetic this is `treeSearch_searchFolds` (from `C12.nearest_exact`, every insertion order).
    In floating point it says that the sphere pruning (radius inflated by `1 + 1e-8`) never drops an element whose
    kernel value would lower the running minimum; it is NOT proved for `Float` (no float-level analogue of
    `nearest_exact` exists) — the `physdist_par` stream checks its consequence, bit-identity across rank counts and
    with the index-order model, on every generated input. -/
abbrev TreeReturnsMinOfKernelValues {α : Type} (search : Nat → Nat → List (Elem α) → Option (V3 α → α → α))
    (op : α → α → α) (kv : V3 α → Elem α → α) (chunks : List (List (Elem α))) : Prop :=
  SearchFolds search op kv chunks

/-- let the values live in any type (the 64-bit patterns of IEEE doubles), let `op` be
    commutative, associative and idempotent on a set `S` of values that is closed under it and contains
    `REF_DBL_MAX` and every kernel value (for `MIN(a,b) = a < b ? a : b` on doubles: everything except NaN and `-0.0`;
    the kernels return `sqrt` of a sum of squares), and let the kernel value be a function of (point, element) only.
    Then for ANY two runs — different rank counts, partitions, ghost layers, cell multiplicities, chunk limits,
    insertion orders — whose searches satisfy `TreeReturnsMinOfKernelValues` and whose wall elements form the same
    set, two owned vertices with the same coordinates receive the SAME value, bit for bit. -/
theorem wallDistance_par_bits {α : Type} [Inhabited α] (S : α → Prop) (op : α → α → α) (kv : V3 α → Elem α → α)
    (big : α) (hop : SemiLatOn S op) (hbig : S big) (hkv : ∀ x e, S (kv x e))
    (search1 search2 : Nat → Nat → List (Elem α) → Option (V3 α → α → α)) (maxN1 maxN2 : Int) (twod : Bool)
    (dict1 dict2 : RDict) (w1 w2 : World (PRank α)) (hw1 : WorldOk w1) (hw2 : WorldOk w2)
    (ht1 : TreeReturnsMinOfKernelValues search1 op kv (wallChunks maxN1 (w1.map (localWall twod dict1))))
    (ht2 : TreeReturnsMinOfKernelValues search2 op kv (wallChunks maxN2 (w2.map (localWall twod dict2))))
    (hs : ∀ e, e ∈ (w1.map (localWall twod dict1)).flatten ↔ e ∈ (w2.map (localWall twod dict2)).flatten) :
    ∃ res1 res2, wallDistParWith search1 big maxN1 twod dict1 w1 = some res1 ∧
      wallDistParWith search2 big maxN2 twod dict2 w2 = some res2 ∧
      ∀ r1 (h1 : r1 < w1.length) r2 (h2 : r2 < w2.length) i1 (hi1 : i1 < w1[r1].nodes.length)
        i2 (hi2 : i2 < w2[r2].nodes.length),
        w1[r1].nodes[i1].part = (r1 : Int) → w2[r2].nodes[i2].part = (r2 : Int) →
        w1[r1].nodes[i1].xyz = w2[r2].nodes[i2].xyz →
        (res1.getD r1 [])[i1]? = (res2.getD r2 [])[i2]? ∧ ((res1.getD r1 [])[i1]?).isSome = true := by
  obtain ⟨res1, e1, _, p1⟩ := wallDistParWith_spec big maxN1 twod dict1 w1 ht1 hw1
  obtain ⟨res2, e2, _, p2⟩ := wallDistParWith_spec big maxN2 twod dict2 w2 ht2 hw2
  refine ⟨res1, res2, e1, e2, ?_⟩
  intro r1 h1 r2 h2 i1 hi1 i2 hi2 o1 o2 hx
  rw [((p1 r1 h1).2 i1 hi1).1 o1, ((p2 r2 h2).2 i2 hi2).1 o2, hx]
  refine ⟨?_, rfl⟩
  congr 1
  unfold wallFold
  exact foldl_map_eq_of_same_set hop (kv _) _ _ big hbig (hkv _) hs

/-- the exact-arithmetic tree satisfies the named hypothesis for every permutation (so `wallDistance_par_bits` is
    not vacuous, and in exact arithmetic it needs no hypothesis on the search at all) -/
theorem tree_returns_min_exact (perms : Nat → Nat → List Int) (maxN : Int) (twod : Bool) (dict : RDict)
    (w : World (PRank ℝ))
    (hp : PermsOk perms (wallChunks maxN (w.map (@localWall ℝ Scalar.instInhabited twod dict)))) :
    TreeReturnsMinOfKernelValues (fun me c el => treeSearch twod (perms me c) el) min (elemDist twod)
      (wallChunks maxN (w.map (@localWall ℝ Scalar.instInhabited twod dict))) :=
  treeSearch_searchFolds perms maxN twod dict w hp

/-- every wall element of every part is in exactly one chunk of `ref_phys_bcast_parts`, for every `max_ncell` -/
theorem bcast_parts_partition {β : Type} (maxN : Int) (locals : List (List β)) :
    (wallChunks maxN locals).flatten = locals.flatten :=
  wallChunks_flatten maxN locals

/-! ### the selection of wall elements -/

/-- an element is listed iff it comes from a stored edg cell (2-D) or a stored tri / qua cell
    (3-D) whose id the dict maps to a viscous code; a quad contributes the triangles `(0,1,2)` and `(0,2,3)` -/
theorem localWall_spec {α : Type} [Inhabited α] (twod : Bool) (dict : RDict) (r : PRank α) (e : Elem α) :
    e ∈ localWall twod dict r ↔
      if twod then ∃ c ∈ r.edg, isWallId dict c.id = true ∧ e = [cellXyz r.nodes c 0, cellXyz r.nodes c 1]
      else (∃ c ∈ r.tri, isWallId dict c.id = true ∧
              e = [cellXyz r.nodes c 0, cellXyz r.nodes c 1, cellXyz r.nodes c 2]) ∨
           (∃ c ∈ r.qua, isWallId dict c.id = true ∧
              (e = [cellXyz r.nodes c 0, cellXyz r.nodes c 1, cellXyz r.nodes c 2] ∨
               e = [cellXyz r.nodes c 0, cellXyz r.nodes c 2, cellXyz r.nodes c 3])) := by
  unfold localWall
  cases twod with
  | true =>
    simp only [if_true, List.mem_map, List.mem_filter]
    constructor
    · rintro ⟨c, ⟨hc, hw⟩, rfl⟩; exact ⟨c, hc, hw, rfl⟩
    · rintro ⟨c, hc, hw, rfl⟩; exact ⟨c, ⟨hc, hw⟩, rfl⟩
  | false =>
    simp only [Bool.false_eq_true, if_false, List.mem_append, List.mem_map, List.mem_filter, List.mem_flatMap,
      quadTris, List.mem_cons, List.not_mem_nil, or_false]
    constructor
    · rintro (⟨c, ⟨hc, hw⟩, rfl⟩ | ⟨c, ⟨hc, hw⟩, he⟩)
      · exact Or.inl ⟨c, hc, hw, rfl⟩
      · exact Or.inr ⟨c, hc, hw, he⟩
    · rintro (⟨c, hc, hw, rfl⟩ | ⟨c, hc, hw, he⟩)
      · exact Or.inl ⟨c, ⟨hc, hw⟩, rfl⟩
      · exact Or.inr ⟨c, ⟨hc, hw⟩, he⟩

/-- one element per wall edg / tri, exactly two per wall quad -/
theorem localWall_count {α : Type} [Inhabited α] (twod : Bool) (dict : RDict) (r : PRank α) :
    (localWall twod dict r).length =
      if twod then (r.edg.filter fun c => isWallId dict c.id).length
      else (r.tri.filter fun c => isWallId dict c.id).length
            + 2 * (r.qua.filter fun c => isWallId dict c.id).length := by
  unfold localWall
  cases twod with
  | true => simp
  | false =>
    simp only [Bool.false_eq_true, if_false, List.length_append, List.length_map, List.length_flatMap, quadTris,
      List.length_cons, List.length_nil, List.map_const', List.sum_replicate_nat, Nat.mul_comm]

/-- the two triangles of a wall quad share the diagonal `0–2` and together have exactly the quad's four vertices -/
theorem quad_two_triangles {α : Type} [Inhabited α] (nodes : List (PNode α)) (c : PCell) :
    ∃ t1 t2, quadTris nodes c = [t1, t2] ∧
      cellXyz nodes c 0 ∈ t1 ∧ cellXyz nodes c 2 ∈ t1 ∧ cellXyz nodes c 0 ∈ t2 ∧ cellXyz nodes c 2 ∈ t2 ∧
      cellXyz nodes c 1 ∈ t1 ∧ cellXyz nodes c 3 ∈ t2 ∧
      (∀ v, v ∈ t1 ∨ v ∈ t2 ↔ ∃ k, k < 4 ∧ v = cellXyz nodes c k) := by
  refine ⟨_, _, rfl, by simp, by simp, by simp, by simp, by simp, by simp, ?_⟩
  intro v
  simp only [List.mem_cons, List.not_mem_nil, or_false]
  constructor
  · rintro ((rfl | rfl | rfl) | (rfl | rfl | rfl))
    · exact ⟨0, by omega, rfl⟩
    · exact ⟨1, by omega, rfl⟩
    · exact ⟨2, by omega, rfl⟩
    · exact ⟨0, by omega, rfl⟩
    · exact ⟨2, by omega, rfl⟩
    · exact ⟨3, by omega, rfl⟩
  · rintro ⟨k, hk, rfl⟩
    have : k = 0 ∨ k = 1 ∨ k = 2 ∨ k = 3 := by omega
    rcases this with rfl | rfl | rfl | rfl
    · exact Or.inl (Or.inl rfl)
    · exact Or.inl (Or.inr (Or.inl rfl))
    · exact Or.inl (Or.inr (Or.inr rfl))
    · exact Or.inr (Or.inr (Or.inr rfl))

/-- **every global wall element is listed, and only those**: when the world is a distribution of a global mesh in
    which every cell is stored by at least one rank, the union of the ranks' lists is the set of selected elements of
    the global mesh.  (`ref_phys_local_wall` has no ownership test: a cell stored by k ranks is listed k times — by
    `C06.cellOwner_unique` exactly one of them is its owner — and `wallMin_np_independent` shows the multiplicity is
    irrelevant.) -/
theorem localWall_covers_global {α : Type} [Inhabited α] (twod : Bool) (dict : RDict) (w : World (PRank α))
    (G : GMesh α) (h : Represents w G) (e : Elem α) :
    e ∈ (w.map (localWall twod dict)).flatten ↔ e ∈ globalWalls twod dict G := by
  obtain ⟨ct, cq, ce⟩ := h.complete
  simp only [List.mem_flatten, List.mem_map, exists_exists_and_eq_and]
  unfold localWall globalWalls
  cases twod with
  | true =>
    simp only [if_true, List.mem_map, List.mem_filter]
    exact exists_cell_iff dict w G h.coords (·.edg) G.edg 2 (fun r hr => (h.valid r hr).2.2)
      (fun r hr => (h.sound r hr).2.2) ce (fun f => [f 0, f 1] = e)
      (fun f g hfg => by simp only [hfg 0 (by omega), hfg 1 (by omega)])
  | false =>
    simp only [Bool.false_eq_true, if_false, List.mem_append, List.mem_map, List.mem_filter, List.mem_flatMap,
      and_or_left, exists_or]
    exact or_congr
      (exists_cell_iff dict w G h.coords (·.tri) G.tri 3 (fun r hr => (h.valid r hr).1)
        (fun r hr => (h.sound r hr).1) ct (fun f => [f 0, f 1, f 2] = e)
        (fun f g hfg => by simp only [hfg 0 (by omega), hfg 1 (by omega), hfg 2 (by omega)]))
      (exists_cell_iff dict w G h.coords (·.qua) G.qua 4 (fun r hr => (h.valid r hr).2.1)
        (fun r hr => (h.sound r hr).2.1) cq (fun f => e ∈ [[f 0, f 1, f 2], [f 0, f 2, f 3]])
        (fun f g hfg => by simp only [hfg 0 (by omega), hfg 1 (by omega), hfg 2 (by omega), hfg 3 (by omega)]))

/-- hence the distance of every distribution of `G` is the minimum over the selected elements of `G` itself -/
theorem wallMin_global (twod : Bool) (dict : RDict) (w : World (PRank ℝ)) (G : GMesh ℝ)
    (h : Represents w G) (x : V3 ℝ) :
    wallMin twod dict w x = ((globalWalls twod dict G).map (elemDist twod x)).foldl min dblMax := by
  rw [wallMin_eq_foldl_min]
  exact Refine.FoldMin.foldl_min_map_congr_set (elemDist twod x) dblMax
    (fun e => @localWall_covers_global ℝ Scalar.instInhabited twod dict w G h e)

/-! ### bc codes, `--fun3d-mapbc`, `--viscous-tags` -/

/-- the codes `ref_phys_wall_distance_bc` accepts (GENERATED from the C on every run) are FUN3D's viscous-wall
    codes: viscous_solid, its trs twin, rough wall, wall function, weak wall, their trs twins, block interface, filter -/
theorem viscous_codes_fun3d :
    Refine.Gen.PhysBc.viscousCodes = [4000, -4000, 4075, 4100, 4110, -4110, -4100, 6200, 6210] := rfl

/-- the type `--viscous-tags` gives every listed id is one of them; `REF_EMPTY` (id absent from the dict) is not -/
theorem tags_type_viscous : Refine.Gen.PhysBc.tagsType ∈ Refine.Gen.PhysBc.viscousCodes ∧
    EMPTY ∉ Refine.Gen.PhysBc.viscousCodes := by decide

/-- an id selects wall cells iff the dict maps it to a viscous code -/
theorem isWall_iff_viscous {d : RDict} (h : RDict.Inv d) (id : Int) :
    isWallId d id = true ↔ ∃ bc, RDict.lookup d id = some bc ∧ bc ∈ Refine.Gen.PhysBc.viscousCodes := by
  unfold isWallId
  rw [RDict.valueOf_spec h id]
  cases hl : RDict.lookup d id with
  | none =>
    simp only [reduceCtorEq, false_and, exists_false, iff_false]
    rw [wallDistanceBc_iff]
    decide
  | some bc =>
    simp only [Option.some.injEq, exists_eq_left']
    exact wallDistanceBc_iff bc

theorem isWallId_storeAll {β : Type} (key val : β → Int) (d : RDict) (h : RDict.Inv d) (l : List β) (id : Int) :
    isWallId (l.foldl (fun d r => (d.store (key r) (val r)).1) d) id = true ↔
      match l.reverse.find? fun r => key r == id with
      | some r => val r ∈ Refine.Gen.PhysBc.viscousCodes
      | none => isWallId d id = true := by
  obtain ⟨hinv, hl⟩ := lookup_storeAll key val d h l
  rw [isWall_iff_viscous hinv, hl, isWall_iff_viscous h]
  cases l.reverse.find? fun r => key r == id with
  | none => rfl
  | some r => simp

/-- `ref_phys_read_mapbc` on a well-formed file (a first line that starts with the count
    `n`, then `n` lines that start with `id` and `type` in the sense of `fscanf("%d")`, each shorter than the
    1023-character buffer; anything may follow) returns `REF_SUCCESS`, and afterwards an id selects wall cells iff the
    LAST record with that id carries a viscous code -/
theorem mapbc_selects_viscous (header : List Char) (recs : List MapbcRec) (tail : List Char)
    (hnl : '\n' ∉ header) (hlen : header.length < 1023)
    (hn : ∃ r, scanInt header = some ((recs.length : Int), r)) (hr : ∀ r ∈ recs, RecOk r) :
    (readMapbc RDict.create (some (mapbcText header recs ++ tail))).2 = Model.Status.ok ∧
    ∀ id, isWallId (readMapbc RDict.create (some (mapbcText header recs ++ tail))).1 id = true ↔
      ∃ rc, recs.reverse.find? (fun rc => rc.id == id) = some rc ∧ rc.ty ∈ Refine.Gen.PhysBc.viscousCodes := by
  rw [readMapbc_wellformed RDict.create header recs tail hnl hlen hn hr]
  refine ⟨rfl, fun id => ?_⟩
  dsimp only
  rw [isWallId_storeAll MapbcRec.id MapbcRec.ty _ RDict.inv_create]
  cases recs.reverse.find? fun rc => rc.id == id with
  | none => exact iff_of_false (Bool.eq_false_iff.mp (rfl : isWallId RDict.create id = false)) nofun
  | some rc => exact ⟨fun h => ⟨rc, rfl, h⟩, fun ⟨_, e, h⟩ => Option.some.inj e ▸ h⟩

/-- the parser is total and safe on ANY input (any characters, any announced count, a missing file): it answers
    `REF_SUCCESS`, `REF_FAILURE` or `REF_NULL`, and the dict stays a well-formed dict (sorted distinct keys) -/
theorem mapbc_total (d : RDict) (h : RDict.Inv d) (file : Option (List Char)) :
    ((readMapbc d file).2 = Model.Status.ok ∨ (readMapbc d file).2 = Model.Status.failure ∨ (readMapbc d file).2 = Model.Status.null) ∧
    RDict.Inv (readMapbc d file).1 := by
  fun_cases readMapbc d file with
  | case1 => exact ⟨Or.inr (Or.inr rfl), h⟩
  | case2 => exact ⟨Or.inr (Or.inl rfl), h⟩
  | case3 => exact ⟨Or.inr (Or.inl rfl), h⟩
  | case4 _ _ rest _ n =>
    obtain ⟨h1, h2⟩ := mapbcLoop_total n.toNat rest d h
    exact ⟨h1.elim Or.inl (fun x => Or.inr (Or.inl x)), h2⟩

/-- a comma-separated list of non-empty pieces is stored piece by piece as
    `atoi(piece) -> 4000`, and every listed id then selects wall cells -/
theorem viscousTags_parse (d : RDict) (h : RDict.Inv d) (pieces : List (List Char))
    (hp : ∀ p ∈ pieces, ',' ∉ p ∧ p ≠ []) :
    parseTags d (joinComma pieces)
      = (pieces.foldl (fun d p => (d.store (atoi p) Refine.Gen.PhysBc.tagsType).1) d, Model.Status.ok) ∧
    ∀ p ∈ pieces, isWallId (parseTags d (joinComma pieces)).1 (atoi p) = true := by
  refine ⟨parseTags_join d pieces hp, fun p hpm => ?_⟩
  rw [parseTags_join d pieces hp]
  refine (isWallId_storeAll atoi (fun _ => Refine.Gen.PhysBc.tagsType) d h pieces (atoi p)).mpr ?_
  cases hf : pieces.reverse.find? fun q => atoi q == atoi p with
  | none => simpa using List.find?_eq_none.mp hf p (List.mem_reverse.mpr hpm)
  | some q => exact tags_type_viscous.1

/-! ### non-vacuity -/

/-- the dict of the examples: id 7 is a viscous wall, id 8 a far field -/
def exDict : RDict := ((RDict.create.store 7 4000).1.store 8 5000).1

example : isWallId exDict 7 = true ∧ isWallId exDict 8 = false ∧ isWallId exDict 9 = false := by decide

/-- three ranks, 3-D: rank 0 owns two vertices and stores a wall QUAD (two of its vertices are ghosts owned by rank 1),
    rank 1 owns three vertices and stores a wall triangle and a non-wall triangle (one vertex is a ghost owned by
    rank 0), rank 2 has NOTHING (no vertex, no wall) -/
noncomputable def exW : World (PRank ℝ) :=
  [ { nodes := [⟨0, 0, ⟨0, 0, 0⟩⟩, ⟨1, 0, ⟨1, 0, 0⟩⟩, ⟨2, 1, ⟨1, 1, 0⟩⟩, ⟨3, 1, ⟨0, 1, 0⟩⟩],
      tri := [], qua := [⟨[0, 1, 2, 3], 7⟩], edg := [] },
    { nodes := [⟨2, 1, ⟨1, 1, 0⟩⟩, ⟨3, 1, ⟨0, 1, 0⟩⟩, ⟨4, 1, ⟨1 / 2, 1 / 2, 2⟩⟩, ⟨0, 0, ⟨0, 0, 0⟩⟩],
      tri := [⟨[0, 1, 3], 7⟩, ⟨[0, 1, 2], 8⟩], qua := [], edg := [] },
    { nodes := [], tri := [], qua := [], edg := [] } ]

theorem exW_ok : WorldOk exW :=
  ⟨by decide, by decide, by decide, by decide⟩

/-- the wall lists of the three ranks: the quad as two triangles, one selected triangle (the id-8 one is not
    selected), nothing -/
example : exW.map (@localWall ℝ Scalar.instInhabited false exDict)
    = [ [[⟨0, 0, 0⟩, ⟨1, 0, 0⟩, ⟨1, 1, 0⟩], [⟨0, 0, 0⟩, ⟨1, 1, 0⟩, ⟨0, 1, 0⟩]],
        [[⟨1, 1, 0⟩, ⟨0, 1, 0⟩, ⟨0, 0, 0⟩]], [] ] := rfl

/-- all three elements end up in one chunk, and `[2, 0, 1]` is a legitimate insertion order for it on every rank -/
theorem exW_perms : PermsOk (fun _ _ => [2, 0, 1])
    (wallChunks Refine.Gen.PhysBc.maxNcell (exW.map (@localWall ℝ Scalar.instInhabited false exDict))) := by
  intro me c h
  have hc : c = 0 := Nat.lt_one_iff.mp h
  subst hc
  show List.Perm [2, 0, 1] ((List.range 3).map Int.ofNat)
  decide

/-- **non-vacuity of `wallDistance_par_exact`**: on this 3-rank world (one rank empty, a wall quad, ghosts in both
    directions) the hypotheses hold, so the routine completes and e.g. vertex 4 = (1/2, 1/2, 2), owned by rank 1,
    receives the minimum over the three wall triangles of ALL ranks -/
example : ∃ res : World (List ℝ), wallDistPar (fun _ _ => [2, 0, 1]) false exDict exW = some res ∧
    (res.getD 1 [])[2]? = some (wallMin false exDict exW ⟨1 / 2, 1 / 2, 2⟩) ∧
    (res.getD 2 []) = [] := by
  obtain ⟨res, h1, h2, h3⟩ := wallDistance_par_exact (fun _ _ => [2, 0, 1]) false exDict exW exW_ok exW_perms
  refine ⟨res, h1, ?_, ?_⟩
  · exact ((h3 1 (by decide)).2 2 (by decide)).1 rfl
  · exact List.eq_nil_of_length_eq_zero (h3 2 (by decide)).1

/-- 2-D: one rank, two wall edges and a non-wall edge; ranks = 1 is the serial run -/
noncomputable def exW2 : World (PRank ℝ) :=
  [ { nodes := [⟨0, 0, ⟨0, 0, 0⟩⟩, ⟨1, 0, ⟨1, 0, 0⟩⟩, ⟨2, 0, ⟨1, 1, 0⟩⟩, ⟨3, 0, ⟨0, 3, 0⟩⟩],
      tri := [⟨[0, 1, 2], 7⟩], qua := [], edg := [⟨[0, 1], 7⟩, ⟨[1, 2], 7⟩, ⟨[2, 0], 8⟩] } ]

example : exW2.map (@localWall ℝ Scalar.instInhabited true exDict)
    = [[[⟨0, 0, 0⟩, ⟨1, 0, 0⟩], [⟨1, 0, 0⟩, ⟨1, 1, 0⟩]]] := rfl

/-- the hypotheses of `wallDistance_par_bits` about `op` are satisfiable beyond `ℝ`: `min` on `Nat` -/
example : SemiLatOn (fun _ : Nat => True) (min : Nat → Nat → Nat) := Refine.FoldMin.semiLat_min

/-- a well-formed mapbc file: 3 records, the second with leading blanks and a tab, the id 7 re-declared last -/
def exRecs : List MapbcRec :=
  [⟨"7 5000 farfield_riem".toList, 7, 5000⟩, ⟨"  8\t3000 tangency".toList, 8, 3000⟩,
   ⟨"7 4000 viscous_solid".toList, 7, 4000⟩]

/-- `RecOk` without the two remainders, which only the comparison of character lists would need: decidable -/
theorem recOk_iff (r : MapbcRec) : RecOk r ↔ '\n' ∉ r.line ∧ r.line.length < 1023 ∧
    ((scanInt r.line).bind fun x => (scanInt x.2).map fun y => (x.1, y.1)) = some (r.id, r.ty) := by
  refine and_congr_right fun _ => and_congr_right fun _ => ⟨?_, fun h => ?_⟩
  · rintro ⟨r1, r2, h1, h2⟩
    rw [h1, Option.bind_some, h2]
    rfl
  · obtain ⟨x, h1, h⟩ := Option.bind_eq_some_iff.mp h
    obtain ⟨y, h2, h⟩ := Option.map_eq_some_iff.mp h
    obtain ⟨hi, ht⟩ := Prod.mk.inj h
    exact ⟨x.2, y.2, hi ▸ h1, ht ▸ h2⟩

example : ∀ r ∈ exRecs, RecOk r := by
  simp only [recOk_iff]
  decide

/-- the model evaluated on that text: id 7 ends up a wall (the LAST record wins), id 8 not -/
example : (readMapbc RDict.create (some (mapbcText "3 patches".toList exRecs))).2 = Model.Status.ok ∧
    isWallId (readMapbc RDict.create (some (mapbcText "3 patches".toList exRecs))).1 7 = true ∧
    isWallId (readMapbc RDict.create (some (mapbcText "3 patches".toList exRecs))).1 8 = false := by decide

/-- malformed inputs are answered, not crashed on: empty file, no count, a count larger than the file -/
example : (readMapbc RDict.create (some [])).2 = Model.Status.failure ∧
    (readMapbc RDict.create (some "abc\n1 4000 w\n".toList)).2 = Model.Status.failure ∧
    (readMapbc RDict.create (some "2\n1 4000 w\n".toList)).2 = Model.Status.failure ∧
    (readMapbc RDict.create none).2 = Model.Status.null := by decide

/-- `--viscous-tags 3,12,5` -/
example : parseTags RDict.create (joinComma ["3".toList, "12".toList, "5".toList])
    = ({ max := 10, key := [3, 5, 12], value := [4000, 4000, 4000] }, Model.Status.ok) := by decide

end Refine.Props.C12Par
