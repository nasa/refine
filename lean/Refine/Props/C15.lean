import Refine.Model.CellTopo
import Refine.Lemmas.GeomReal

/-!
  C15.  Table part: the per-cell-type edge and face tables describe a closed, consistently oriented cell boundary
  (the tables are *generated* from `ref_cell_initialize` on every run; these theorems are re-checked against them).
  Measure part (section `Measures`, most of the file): the geometric kernels of `Model/Geom.lean` over ℝ: volume and its
  permutations, area, the quadratic form `vᵀMv`, barycentric coordinates, edge length in the metric.
-/
namespace Refine.Props.C15
open Refine.Gen.CellTables Refine.Model.CellTopo

/-- every one of the 16 cell types has tables of the declared shape, entries in range -/
theorem tables_shapes : all.all shapesOk = true := by decide

/-- 3-D cells (linear and quadratic share the tables): each directed face side occurs once,
    its reverse occurs once — the face cycle boundary is closed and coherently oriented -/
theorem faces_close : volumeTypes.all closedOriented = true := by decide

/-- every edge of a 3-D cell lies in exactly two faces -/
theorem each_edge_two_faces : volumeTypes.all eachEdgeTwoFaces = true := by decide

/-- every face side of a 3-D cell is one of its table edges, and edges are pairwise distinct -/
theorem sides_are_edges : volumeTypes.all (fun c => sidesAreEdges c && edgesDistinct c) = true := by decide

/-- Euler characteristic 2 for every 3-D cell -/
theorem euler_two : volumeTypes.all euler2 = true := by decide

/-- 2-D elements: the edge table is one closed cycle consistent with the face row -/
theorem surface_edge_cycle : surfaceTypes.all (fun c => edgeCycle c && sidesAreEdges c) = true := by decide

/-- quadratic types share the linear tables -/
theorem quadratic_share_linear :
    te2.e2n = tet.e2n ∧ te2.f2n = tet.f2n ∧ py2.e2n = pyr.e2n ∧ py2.f2n = pyr.f2n ∧
    pr2.e2n = pri.e2n ∧ pr2.f2n = pri.f2n ∧ he2.e2n = hex.e2n ∧ he2.f2n = hex.f2n := by decide

/-- the tet face opposite node `i` is face `i` (used by the cavity and validation code) -/
theorem tet_face_opposite :
    (List.range 4).all (fun i => match tet.f2n[i]? with
      | some f => !(faceNodes f).contains i && (faceNodes f).length == 3
      | none => false) = true := by decide

/-! The geometric measures, in exact real arithmetic.
    The model functions are the ones bit-compared with the C (`Drivers/Geom.lean`, stream `geom_*`);
    rounding is modelled, not verified. -/
section Measures
open Refine Refine.Model.Geom Refine.ScalarReal Refine.GeomReal

/-- the coded formula is the signed determinant `det[b-a, c-a, d-a] / 6` -/
theorem tetVol_eq_det (a b c d : V3 ℝ) :
    tetVol a b c d =
      ((b.x - a.x) * ((c.y - a.y) * (d.z - a.z) - (c.z - a.z) * (d.y - a.y))
     - (b.y - a.y) * ((c.x - a.x) * (d.z - a.z) - (c.z - a.z) * (d.x - a.x))
     + (b.z - a.z) * ((c.x - a.x) * (d.y - a.y) - (c.y - a.y) * (d.x - a.x))) / 6 := by
  simp only [tetVol_def, tetDet_def]; ring

/-- `ref_node_bary4`'s sub-determinant is `-6 ×` the volume -/
theorem tetDet_eq (a b c d : V3 ℝ) : tetDet a b c d = -6 * tetVol a b c d := by
  rw [tetVol_def]; ring

/-- odd permutations of the vertices negate the volume -/
theorem tetVol_swap01 (a b c d : V3 ℝ) : tetVol b a c d = - tetVol a b c d := by
  simp only [tetVol_def, tetDet_def]; ring
theorem tetVol_swap12 (a b c d : V3 ℝ) : tetVol a c b d = - tetVol a b c d := by
  simp only [tetVol_def, tetDet_def]; ring
theorem tetVol_swap23 (a b c d : V3 ℝ) : tetVol a b d c = - tetVol a b c d := by
  simp only [tetVol_def, tetDet_def]; ring
theorem tetVol_swap02 (a b c d : V3 ℝ) : tetVol c b a d = - tetVol a b c d := by
  rw [tetVol_swap01 b c a d, tetVol_swap12 b a c d, tetVol_swap01 a b c d, neg_neg]
theorem tetVol_swap13 (a b c d : V3 ℝ) : tetVol a d c b = - tetVol a b c d := by
  rw [tetVol_swap12 a c d b, tetVol_swap23 a c b d, tetVol_swap12 a b c d, neg_neg]
theorem tetVol_swap03 (a b c d : V3 ℝ) : tetVol d b c a = - tetVol a b c d := by
  rw [tetVol_swap01 b d c a, tetVol_swap13 b a c d, tetVol_swap01 a b c d, neg_neg]

/-- even permutations (the 3-cycles generate them) fix the volume -/
theorem tetVol_cycle012 (a b c d : V3 ℝ) : tetVol b c a d = tetVol a b c d := by
  rw [tetVol_swap12 b a c d, tetVol_swap01 a b c d, neg_neg]
theorem tetVol_cycle123 (a b c d : V3 ℝ) : tetVol a c d b = tetVol a b c d := by
  rw [tetVol_swap23 a c b d, tetVol_swap12 a b c d, neg_neg]
theorem tetVol_double_swap (a b c d : V3 ℝ) : tetVol b a d c = tetVol a b c d := by
  rw [tetVol_swap23 b a c d, tetVol_swap01 a b c d, neg_neg]

/-- a repeated vertex gives zero volume (flat cell) -/
theorem tetVol_degenerate (a c d : V3 ℝ) : tetVol a a c d = 0 := by
  linarith [tetVol_swap01 a a c d]

/-- the cone identity behind cavity volume conservation: for every apex `p` the four faces of the
    tet (rows of `tet.f2n`) coned to `p` sum to the tet -/
theorem tetVol_cone4 (a b c d p : V3 ℝ) :
    tetVol a b c d = tetVol p b c d + tetVol a p c d + tetVol a b p d + tetVol a b c p := by
  simp only [tetVol_def, tetDet_def]; ring

/-- volume is affine in vertex 0: the coded derivative `ref_node_tet_dvol_dnode0` is EXACTLY the
    finite difference, for every displacement `δ` (no limit involved) -/
theorem tetVol_affine0 (a b c d δ : V3 ℝ) :
    tetVol (vadd a δ) b c d = tetVol a b c d + vdot (tetDvolDnode0 a b c d).2 δ := by
  simp only [tetDvolDnode0, tetVol_def, tetDet_def, vadd, vdot, sub_eq, mul_eq, div_eq, neg_eq, lit6_eq]; ring

/-- … and its value component is the volume -/
theorem tetDvol_value (a b c d : V3 ℝ) : (tetDvolDnode0 a b c d).1 = tetVol a b c d := rfl

/-- triangle normal: swapping two vertices negates it, cyclic shifts fix it -/
theorem triNormal_swap12 (a b c : V3 ℝ) : triNormal a c b = vsmul (-1) (triNormal a b c) := by
  simp only [triNormal_def, vsmul]
  ext <;> ring
theorem triNormal_swap01 (a b c : V3 ℝ) : triNormal b a c = vsmul (-1) (triNormal a b c) := by
  simp only [triNormal_def, vsmul]
  ext <;> ring
theorem triNormal_cycle (a b c : V3 ℝ) : triNormal b c a = triNormal a b c := by
  simp only [triNormal_def]
  ext <;> ring

/-- the area is `|n|/2`, non-negative and invariant under every permutation of the vertices -/
theorem triArea_eq (a b c : V3 ℝ) :
    triArea a b c = Real.sqrt (vdot (triNormal a b c) (triNormal a b c)) / 2 := by
  simp only [triArea, dot_eq, mul_eq, sqrt_eq, half_eq]; ring
theorem triArea_nonneg (a b c : V3 ℝ) : 0 ≤ triArea a b c := by
  rw [triArea_eq]; positivity
theorem triArea_swap12 (a b c : V3 ℝ) : triArea a c b = triArea a b c := by
  rw [triArea_eq, triArea_eq, triNormal_swap12]; simp only [vdot, vsmul]; ring_nf
theorem triArea_swap01 (a b c : V3 ℝ) : triArea b a c = triArea a b c := by
  rw [triArea_eq, triArea_eq, triNormal_swap01]; simp only [vdot, vsmul]; ring_nf
theorem triArea_cycle (a b c : V3 ℝ) : triArea b c a = triArea a b c := by
  rw [triArea_eq, triArea_eq, triNormal_cycle]

/-- 2-D orientation flips with the vertex order (strictly: not both orders are valid) -/
theorem triTwodOrientation_swap (a b c : V3 ℝ) :
    triTwodOrientation a b c = true → triTwodOrientation a c b = false := by
  unfold triTwodOrientation
  rw [triNormal_swap12 a b c]
  simp only [lit0_eq, lt_iff, vsmul]
  intro h
  rw [Bool.eq_false_iff]; simp only [ne_eq, lt_iff]; linarith

/-- exact second-order expansion: the coded derivative `ref_matrix_vt_m_v_deriv` is the linear term -/
theorem vtMv_expand (M : M6 ℝ) (v δ : V3 ℝ) :
    vtMv M (vadd v δ) = vtMv M v + vdot (vtMvDeriv M v).2 δ + vtMv M δ := by
  simp only [vtMv_def, vtMvDeriv, vadd, vdot, add_eq, mul_eq]; ring

theorem vtMvDeriv_value (M : M6 ℝ) (v : V3 ℝ) : (vtMvDeriv M v).1 = vtMv M v := rfl
theorem sqrtVtMvDeriv_value (M : M6 ℝ) (v : V3 ℝ) : (sqrtVtMvDeriv M v).1 = sqrtVtMv M v := rfl

/-- `sqrtVtMv² = vtMv` on the non-negative cone -/
theorem sqrtVtMv_sq (M : M6 ℝ) (v : V3 ℝ) (h : 0 ≤ vtMv M v) : sqrtVtMv M v * sqrtVtMv M v = vtMv M v := by
  simp only [sqrtVtMv, sqrt_eq]; exact Real.mul_self_sqrt h

/-- chain rule, exactly as coded: `2·√(vᵀMv) · d(√(vᵀMv)) = d(vᵀMv)` whenever the length is non-zero -/
theorem sqrtVtMv_chain (M : M6 ℝ) (v : V3 ℝ) (h : sqrtVtMv M v ≠ 0) :
    vsmul (2 * sqrtVtMv M v) (sqrtVtMvDeriv M v).2 = (vtMvDeriv M v).2 := by
  simp only [sqrtVtMv, sqrt_eq] at h
  simp only [sqrtVtMvDeriv, vtMvDeriv, sqrtVtMv, vsmul, add_eq, mul_eq, div_eq, sqrt_eq, half_eq]
  ext <;> (simp only []; field_simp; ring)

/-- `ref_node_bary4`, success branch: the weights sum to one … -/
theorem bary4_sum {a b c d p : V3 ℝ} {w : B4 ℝ} (h : bary4 a b c d p = (St.ok, w)) :
    w.b0 + w.b1 + w.b2 + w.b3 = 1 := by
  obtain ⟨T, hT, rfl, rfl⟩ := bary4_ok h
  exact sum_div4 hT

/-- … and reproduce the query point: `Σ wᵢ xᵢ = p` (inside or outside the tet) -/
theorem bary4_reproduce {a b c d p : V3 ℝ} {w : B4 ℝ} (h : bary4 a b c d p = (St.ok, w)) :
    vadd (vadd (vadd (vsmul w.b0 a) (vsmul w.b1 b)) (vsmul w.b2 c)) (vsmul w.b3 d) = p := by
  obtain ⟨T, hT, rfl, rfl⟩ := bary4_ok h
  obtain ⟨kx, ky, kz⟩ := bary4_mom a b c d p
  ext
  · exact wsum4 _ _ _ _ _ _ _ _ _ _ hT kx
  · exact wsum4 _ _ _ _ _ _ _ _ _ _ hT ky
  · exact wsum4 _ _ _ _ _ _ _ _ _ _ hT kz

/-- the success guard implies a non-flat tet -/
theorem bary4_ok_vol_ne_zero {a b c d p : V3 ℝ} {w : B4 ℝ} (h : bary4 a b c d p = (St.ok, w)) :
    tetVol a b c d ≠ 0 := by
  obtain ⟨T, hT, rfl, -⟩ := bary4_ok h
  intro hv
  apply hT
  have := tetVol_cone4 a b c d p
  simp only [tetDet_eq]
  linarith

/-- `ref_node_bary4`, `REF_DIV_ZERO` branch: what the C returns is `-1` at one vertex, `0` elsewhere
    (a walking direction, NOT a point of the simplex) -/
theorem bary4_divZero {a b c d p : V3 ℝ} {w : B4 ℝ} (h : bary4 a b c d p = (St.divZero, w)) :
    w = ⟨-1, 0, 0, 0⟩ ∨ w = ⟨0, -1, 0, 0⟩ ∨ w = ⟨0, 0, -1, 0⟩ ∨ w = ⟨0, 0, 0, -1⟩ := by
  obtain ⟨-, e⟩ := of_ite_right St.noConfusion h
  have m1 : (Scalar.ofInt (-1) : ℝ) = -1 := by simp
  rw [← m1, ← lit0_eq]
  exact pick4 _ _ (ite_fst_lt (by decide) (ite_fst_lt (by decide) (ite_fst_lt (by decide) (Nat.zero_lt_succ 3))))
    (Prod.mk.inj e).2.symm

/-- `ref_node_bary3`: weights sum to one … -/
theorem bary3_sum {x0 x1 x2 p : V3 ℝ} {w : B3 ℝ} (h : bary3 x0 x1 x2 p = (St.ok, w)) :
    w.b0 + w.b1 + w.b2 = 1 := by
  obtain ⟨T, hT, rfl, rfl⟩ := bary3_ok h
  exact sum_div3 hT

/-- … and reproduce the query point in the plane (its z is ignored by the C) -/
theorem bary3_reproduce {x0 x1 x2 p : V3 ℝ} {w : B3 ℝ} (h : bary3 x0 x1 x2 p = (St.ok, w)) :
    w.b0 * x0.x + w.b1 * x1.x + w.b2 * x2.x = p.x ∧ w.b0 * x0.y + w.b1 * x1.y + w.b2 * x2.y = p.y := by
  obtain ⟨T, hT, rfl, rfl⟩ := bary3_ok h
  constructor
  · apply wsum3 _ _ _ _ _ _ _ _ hT
    simp only [triNormal_def]; ring
  · apply wsum3 _ _ _ _ _ _ _ _ hT
    simp only [triNormal_def]; ring

/-- `ref_node_bary3` / `bary3d`, `REF_DIV_ZERO` branch: all-zero weights -/
theorem bary3_divZero {x0 x1 x2 p : V3 ℝ} {w : B3 ℝ} (h : bary3 x0 x1 x2 p = (St.divZero, w)) :
    w = ⟨0, 0, 0⟩ := by
  obtain ⟨-, e⟩ := of_ite_right St.noConfusion h
  rw [← (Prod.mk.inj e).2, lit0_eq]

theorem bary3d_sum {x0 x1 x2 p : V3 ℝ} {w : B3 ℝ} (h : bary3d x0 x1 x2 p = (St.ok, w)) :
    w.b0 + w.b1 + w.b2 = 1 := by
  obtain ⟨hT, rfl⟩ := bary3d_ok h
  rw [← add_div, ← add_div, bary3dRaw_total, div_self hT]

/-- `ref_node_bary3d` reproduces the ORTHOGONAL projection of the query point onto the triangle's plane -/
theorem bary3d_reproduce {x0 x1 x2 p : V3 ℝ} {w : B3 ℝ} (h : bary3d x0 x1 x2 p = (St.ok, w)) :
    vadd (vadd (vsmul w.b0 x0) (vsmul w.b1 x1)) (vsmul w.b2 x2) =
      vadd p (vsmul (-(vdot (V3.sub p x0) (triNormal x0 x1 x2) /
                       vdot (triNormal x0 x1 x2) (triNormal x0 x1 x2))) (triNormal x0 x1 x2)) := by
  obtain ⟨hT, rfl⟩ := bary3d_ok h
  obtain ⟨kx, ky, kz⟩ := bary3dRaw_mom x0 x1 x2 p
  ext
  · exact wsum3 _ _ _ _ _ _ _ _ hT (kx.trans (proj_aux _ _ _ _ hT))
  · exact wsum3 _ _ _ _ _ _ _ _ hT (ky.trans (proj_aux _ _ _ _ hT))
  · exact wsum3 _ _ _ _ _ _ _ _ hT (kz.trans (proj_aux _ _ _ _ hT))

/-- edge length in the metric is symmetric in its end points -/
theorem ratio_symm (x0 x1 : V3 ℝ) (m0 m1 : M6 ℝ) :
    ratioGeometric x0 x1 m0 m1 = ratioGeometric x1 x0 m1 m0 := by
  rw [ratioGeometric_eq, ratioGeometric_eq, ratioDegenerate_sub_comm x1 x0, sqrtVtMv_sub_comm m0 x1 x0,
    sqrtVtMv_sub_comm m1 x1 x0, ratioCore_comm]

/-- edge length scales linearly with metric size (`M ↦ s²M`), as long as the scaled and unscaled
    end-point lengths stay on the same side of the C's `1.0e-12` cut-off (here: `s ≥ 1`, lengths ≥ 1e-12).
    Full statement (all `s > 0`) is FALSE for the code as written: below the cut-off the C returns
    `MIN(ratio0, ratio1)` instead of the logarithmic mean. -/
theorem ratio_scale (s : ℝ) (hs : 1 ≤ s) (x0 x1 : V3 ℝ) (m0 m1 : M6 ℝ)
    (h0 : (eps12 : ℝ) ≤ sqrtVtMv m0 (V3.sub x1 x0)) (h1 : (eps12 : ℝ) ≤ sqrtVtMv m1 (V3.sub x1 x0)) :
    ratioGeometric x0 x1 (scaleM (s ^ 2) m0) (scaleM (s ^ 2) m1) = s * ratioGeometric x0 x1 m0 m1 := by
  have hs0 : 0 ≤ s := by linarith
  rw [ratioGeometric_eq, ratioGeometric_eq, sqrtVtMv_scale s hs0, sqrtVtMv_scale s hs0, ratioCore_scale hs h0 h1]
  split
  · exact (mul_zero s).symm
  · rfl

/-- a zero-length edge has length zero in every metric (the `ref_math_divisible` guard) -/
theorem ratio_same_point (x : V3 ℝ) (m0 m1 : M6 ℝ) : ratioGeometric x x m0 m1 = 0 := by
  have : ratioDegenerate (V3.sub x x) = true := by
    simp only [ratioDegenerate, V3.sub, sub_eq, sub_self, Bool.or_eq_true, Bool.not_eq_true']
    left; left
    rw [Bool.eq_false_iff, ne_eq, divisible_iff']
    simp only [dot, add_eq, mul_eq, mul_zero, add_zero, sqrt_eq, Real.sqrt_zero, abs_zero, lt_self_iff_false,
      not_false_eq_true]
  rw [ratioGeometric_eq, if_pos this]

/-- coordinate part of `ref_node_interpolate_edge`: the new node is the convex combination -/
theorem interpolateEdge_eq (x0 x1 : V3 ℝ) (w : ℝ) :
    interpolateEdgeXyz x0 x1 w = vadd (vsmul (1 - w) x0) (vsmul w x1) := by
  simp only [interpolateEdgeXyz, vadd, vsmul, add_eq, sub_eq, mul_eq, lit1_eq]

/-- `tetVol` is affine in its first vertex (`ref_node_interpolate_edge` is the affine combination) ... -/
theorem tetVol_interp0 (b c d p q : V3 ℝ) (w : ℝ) :
    tetVol (interpolateEdgeXyz p q w) b c d = (1 - w) * tetVol p b c d + w * tetVol q b c d := by
  simp only [interpolateEdge_eq, tetVol_def, tetDet_def, vadd, vsmul]; ring

/-- ... and, being alternating, in the others -/
theorem tetVol_interp1 (a c d p q : V3 ℝ) (w : ℝ) :
    tetVol a (interpolateEdgeXyz p q w) c d = (1 - w) * tetVol a p c d + w * tetVol a q c d := by
  rw [← neg_neg (tetVol a _ c d), ← tetVol_swap01, tetVol_interp0, tetVol_swap01 a p, tetVol_swap01 a q]; ring

theorem tetVol_interp2 (a b d p q : V3 ℝ) (w : ℝ) :
    tetVol a b (interpolateEdgeXyz p q w) d = (1 - w) * tetVol a b p d + w * tetVol a b q d := by
  rw [← neg_neg (tetVol a b _ d), ← tetVol_swap02, tetVol_interp0, tetVol_swap02 a b p, tetVol_swap02 a b q]; ring

theorem tetVol_interp3 (a b c p q : V3 ℝ) (w : ℝ) :
    tetVol a b c (interpolateEdgeXyz p q w) = (1 - w) * tetVol a b c p + w * tetVol a b c q := by
  rw [← neg_neg (tetVol a b c _), ← tetVol_swap03, tetVol_interp0, tetVol_swap03 a b c p, tetVol_swap03 a b c q]; ring

/-- zero on a repeated vertex, the positions other than 0,1 (`tetVol_degenerate`) -/
theorem tetVol_same02 (a b d : V3 ℝ) : tetVol a b a d = 0 := by rw [tetVol_swap12, tetVol_degenerate, neg_zero]
theorem tetVol_same03 (a b c : V3 ℝ) : tetVol a b c a = 0 := by rw [tetVol_swap13, tetVol_degenerate, neg_zero]
theorem tetVol_same12 (a b d : V3 ℝ) : tetVol a b b d = 0 := by rw [tetVol_swap02, tetVol_degenerate, neg_zero]
theorem tetVol_same13 (a b c : V3 ℝ) : tetVol a b c b = 0 := by rw [tetVol_swap03, tetVol_degenerate, neg_zero]
theorem tetVol_same23 (a b c : V3 ℝ) : tetVol a b c c = 0 := by rw [tetVol_swap02, tetVol_same03, neg_zero]

/-- splitting an edge `a–b` at `m = (1-t)a + t b` splits the volume in the same ratio: affine in the slot, zero on a
    repeated vertex -/
theorem tetVol_split (a b c d : V3 ℝ) (t : ℝ) :
    tetVol (vadd (vsmul (1 - t) a) (vsmul t b)) b c d = (1 - t) * tetVol a b c d ∧
    tetVol a (vadd (vsmul (1 - t) a) (vsmul t b)) c d = t * tetVol a b c d := by
  rw [← interpolateEdge_eq, tetVol_interp0, tetVol_interp1, tetVol_degenerate, tetVol_degenerate, mul_zero, mul_zero,
    add_zero, zero_add]
  exact ⟨rfl, rfl⟩

example : tetVol (⟨0, 0, 0⟩ : V3 ℝ) ⟨1, 0, 0⟩ ⟨0, 1, 0⟩ ⟨0, 0, 1⟩ = 1 / 6 := by
  simp only [tetVol_def, tetDet_def]; norm_num

/-- barycentric coordinates in the unit tet are `(1 - x - y - z, x, y, z)`, for every point whose coordinates pass
    the `ref_math_divisible` guard (the total is `-1`) -/
theorem bary4_unitTet (p : V3 ℝ) (h0 : |1 - p.x - p.y - p.z| < 10 ^ (20 : ℤ)) (hx : |p.x| < 10 ^ (20 : ℤ))
    (hy : |p.y| < 10 ^ (20 : ℤ)) (hz : |p.z| < 10 ^ (20 : ℤ)) :
    bary4 (⟨0, 0, 0⟩ : V3 ℝ) ⟨1, 0, 0⟩ ⟨0, 1, 0⟩ ⟨0, 0, 1⟩ p = (St.ok, ⟨1 - p.x - p.y - p.z, p.x, p.y, p.z⟩) := by
  have e0 : tetDet p ⟨1, 0, 0⟩ ⟨0, 1, 0⟩ ⟨0, 0, 1⟩ = -(1 - p.x - p.y - p.z) := by rw [tetDet_def]; ring
  have e1 : tetDet (⟨0, 0, 0⟩ : V3 ℝ) p ⟨0, 1, 0⟩ ⟨0, 0, 1⟩ = -p.x := by rw [tetDet_def]; ring
  have e2 : tetDet (⟨0, 0, 0⟩ : V3 ℝ) ⟨1, 0, 0⟩ p ⟨0, 0, 1⟩ = -p.y := by rw [tetDet_def]; ring
  have e3 : tetDet (⟨0, 0, 0⟩ : V3 ℝ) ⟨1, 0, 0⟩ ⟨0, 1, 0⟩ p = -p.z := by rw [tetDet_def]; ring
  have eT : -(1 - p.x - p.y - p.z) + -p.x + -p.y + -p.z = -1 := by ring
  have d : ∀ x : ℝ, |x| < 10 ^ (20 : ℤ) → Scalar.divisible (-x) (-1 : ℝ) = true := fun x hx => by
    rw [divisible_iff', abs_neg, abs_neg, abs_one, mul_one]; exact hx
  unfold bary4
  simp only [e0, e1, e2, e3, add_eq, div_eq, eT, d _ h0, d _ hx, d _ hy, d _ hz, Bool.and_self, if_true, neg_div_neg_eq,
    div_one]

theorem bary4_unit_centroid :
    bary4 (⟨0, 0, 0⟩ : V3 ℝ) ⟨1, 0, 0⟩ ⟨0, 1, 0⟩ ⟨0, 0, 1⟩ ⟨1/4, 1/4, 1/4⟩ = (St.ok, ⟨1/4, 1/4, 1/4, 1/4⟩) := by
  rw [bary4_unitTet _ (by norm_num) (by norm_num) (by norm_num) (by norm_num)]; norm_num

example : bary4 (⟨0, 0, 0⟩ : V3 ℝ) ⟨1, 0, 0⟩ ⟨0, 1, 0⟩ ⟨0, 0, 1⟩ ⟨1/4, 1/4, 1/4⟩ = (St.ok, ⟨1/4, 1/4, 1/4, 1/4⟩) :=
  bary4_unit_centroid

/-- a point outside the tet: still reproduced, with a negative weight -/
example : bary4 (⟨0, 0, 0⟩ : V3 ℝ) ⟨1, 0, 0⟩ ⟨0, 1, 0⟩ ⟨0, 0, 1⟩ ⟨2, 0, 0⟩ = (St.ok, ⟨-1, 2, 0, 0⟩) := by
  rw [bary4_unitTet _ (by norm_num) (by norm_num) (by norm_num) (by norm_num)]; norm_num

/-- the `div_zero` branch is reachable: a flat tet -/
example : (bary4 (⟨0, 0, 0⟩ : V3 ℝ) ⟨1, 0, 0⟩ ⟨2, 0, 0⟩ ⟨3, 0, 0⟩ ⟨1, 1, 1⟩).1 = St.divZero := by
  unfold bary4
  simp only [tetDet, add_eq, sub_eq, mul_eq, div_eq]
  norm_num [divisible_iff']

/-- … and in the unit triangle `(1 - x - y, x, y)`, whatever `z` is (the total is `1`) -/
theorem bary3_unitTri (p : V3 ℝ) (h0 : |1 - p.x - p.y| < 10 ^ (20 : ℤ)) (hx : |p.x| < 10 ^ (20 : ℤ))
    (hy : |p.y| < 10 ^ (20 : ℤ)) :
    bary3 (⟨0, 0, 0⟩ : V3 ℝ) ⟨1, 0, 0⟩ ⟨0, 1, 0⟩ p = (St.ok, ⟨1 - p.x - p.y, p.x, p.y⟩) := by
  have e0 : (triNormal p ⟨1, 0, 0⟩ ⟨0, 1, 0⟩).z = 1 - p.x - p.y := by rw [triNormal_def]; ring
  have e1 : (triNormal (⟨0, 0, 0⟩ : V3 ℝ) p ⟨0, 1, 0⟩).z = p.x := by rw [triNormal_def]; ring
  have e2 : (triNormal (⟨0, 0, 0⟩ : V3 ℝ) ⟨1, 0, 0⟩ p).z = p.y := by rw [triNormal_def]; ring
  have eT : 1 - p.x - p.y + p.x + p.y = 1 := by ring
  have d : ∀ x : ℝ, |x| < 10 ^ (20 : ℤ) → Scalar.divisible x (1 : ℝ) = true := fun x hx => by
    rw [divisible_iff', abs_one, mul_one]; exact hx
  unfold bary3
  simp only [e0, e1, e2, add_eq, div_eq, eT, d _ h0, d _ hx, d _ hy, Bool.and_self, if_true, div_one]

example : bary3 (⟨0, 0, 0⟩ : V3 ℝ) ⟨1, 0, 0⟩ ⟨0, 1, 0⟩ ⟨1/4, 1/2, 7⟩ = (St.ok, ⟨1/4, 1/4, 1/2⟩) := by
  rw [bary3_unitTri _ (by norm_num) (by norm_num) (by norm_num)]; norm_num

example : bary3d (⟨0, 0, 0⟩ : V3 ℝ) ⟨2, 0, 0⟩ ⟨0, 2, 0⟩ ⟨1/2, 1, 7⟩ = (St.ok, ⟨1/4, 1/4, 1/2⟩) := by
  -- the raw weights first (the projection step does not change them), then the guard
  have hr : bary3dRaw (⟨0, 0, 0⟩ : V3 ℝ) ⟨2, 0, 0⟩ ⟨0, 2, 0⟩ (bary3dPoint ⟨0, 0, 0⟩ ⟨2, 0, 0⟩ ⟨0, 2, 0⟩ ⟨1/2, 1, 7⟩) =
      ⟨4, 4, 8⟩ := by
    rw [bary3d_raw_eq]
    simp only [bary3dRaw, triNormal_def, dot_eq, vdot]; norm_num
  unfold bary3d
  simp only [hr, add_eq, div_eq]
  norm_num [divisible_iff']

/-- hypotheses of `sqrtVtMv_chain` / `ratio_scale`: identity metric, unit edge -/
example : sqrtVtMv (⟨1, 0, 0, 1, 0, 1⟩ : M6 ℝ) (V3.sub ⟨1, 0, 0⟩ ⟨0, 0, 0⟩) = 1 := by
  simp only [sqrtVtMv, vtMv, V3.sub, add_eq, sub_eq, mul_eq, sqrt_eq]; norm_num

example : (eps12 : ℝ) ≤ 1 := by
  simp only [eps12, ofDec_eq]; norm_num

example : ratioGeometric (⟨0, 0, 0⟩ : V3 ℝ) ⟨1, 0, 0⟩ ⟨1, 0, 0, 1, 0, 1⟩ ⟨1, 0, 0, 1, 0, 1⟩ = 1 := by
  unfold ratioGeometric ratioDegenerate
  simp only [sqrtVtMv, vtMv, dot, V3.sub, add_eq, sub_eq, mul_eq, div_eq, sqrt_eq, lit0_eq, lit1_eq, half_eq,
    cmin_eq, cmax_eq, cabs_eq]
  have e : (eps12 : ℝ) = 1 * (10 : ℝ) ^ (-12 : ℤ) := by simp [eps12]
  norm_num [divisible_iff', lt_iff, e]

end Measures

end Refine.Props.C15
