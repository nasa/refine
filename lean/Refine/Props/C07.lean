import Refine.Lemmas.PartLemmas

/-!
  C07 — rank-count independence of non-adaptive commands.

  Part (a): the implicit block partition of `ref_part.h`.  Every theorem below is about the definitions
  *generated* from the header on each run (`Refine.Gen.PartMacros`; `Int`, `Int.tdiv` = C `/`).
-/
namespace Refine.Props.C07
open Refine.Gen.PartMacros Refine.Lemmas.Part

/-- `large = small + 1` and `nLarge = (N-1) % np + 1 ∈ [1, np]` — the two facts the block arithmetic rests on -/
theorem part_sizes (N np : Int) (hN : 1 ≤ N) (hp : 1 ≤ np) :
    ref_part_large_part_size N np = ref_part_small_part_size N np + 1 ∧
    ref_part_n_large_part N np = (N - 1) % np + 1 ∧
    1 ≤ ref_part_n_large_part N np ∧ ref_part_n_large_part N np ≤ np ∧
    0 ≤ ref_part_small_part_size N np :=
  ⟨large_eq N np hN hp, nLarge_eq N np hN, nLarge_pos N np hN hp, nLarge_le N np hN hp, small_nonneg N np hN hp⟩

/-- any two block sizes differ by at most one -/
theorem block_sizes_differ_by_le_one (N np j k : Int) (hN : 1 ≤ N) (hp : 1 ≤ np) :
    (ref_part_first N np (j + 1) - ref_part_first N np j) -
      (ref_part_first N np (k + 1) - ref_part_first N np k) ≤ 1 := by
  rw [block_size N np j hN hp, block_size N np k hN hp]
  split <;> split <;> omega

/-- for every `N ≥ 1`, `np ≥ 1`, `0 ≤ g < N` the owner `ref_part_implicit N np g` is a
    rank, and `g` lies in that rank's block `[first r, first (r+1))`. -/
theorem implicit_spec (N np g : Int) (hN : 1 ≤ N) (hp : 1 ≤ np) (hg0 : 0 ≤ g) (hg : g < N) :
    0 ≤ ref_part_implicit N np g ∧ ref_part_implicit N np g < np ∧
    ref_part_first N np (ref_part_implicit N np g) ≤ g ∧
    g < ref_part_first N np (ref_part_implicit N np g + 1) :=
  implicit_bracket N np g hN hp hg0 hg

/-- the second arm of `ref_part_implicit` never divides by zero (C: no SIGFPE; Lean: `tdiv _ 0 = 0` unused) -/
theorem implicit_no_div_by_zero (N np g : Int) (hN : 1 ≤ N) (hp : 1 ≤ np) (hg : g < N)
    (hbr : ¬ Int.tdiv g (ref_part_large_part_size N np) < ref_part_n_large_part N np) :
    1 ≤ ref_part_small_part_size N np :=
  implicit_else_divisor_pos N np g hN hp hg hbr

/-- non-vacuity: 10 things on 4 parts → blocks 3,3,2,2; thing 7 lives on part 2 = [6,8) -/
example : [0, 1, 2, 3, 4].map (fun k => ref_part_first 10 4 k) = [0, 3, 6, 8, 10] ∧
    ref_part_implicit 10 4 7 = 2 := by decide
/-- non-vacuity with more parts than things (small = 0): 3 things on 5 parts, parts 3,4 empty -/
example : [0, 1, 2, 3, 4, 5].map (fun k => ref_part_first 3 5 k) = [0, 1, 2, 3, 3, 3] ∧
    [0, 1, 2].map (fun g => ref_part_implicit 3 5 g) = [0, 1, 2] := by decide

end Refine.Props.C07
