import Refine.Lemmas.Gradation
import Refine.Lemmas.GradationEx
import Refine.Lemmas.ExceptLoop
import Refine.Props.C10

/-!
  C10, the gradation part — the edge sweeps `ref_metric_metric_space_gradation`,
  `ref_metric_mixed_space_gradation` and the relaxation loop of `ref_metric_gradation_at_complexity`.

  All theorems are about the executable model `Refine/Model/Gradation.lean` (bit-compared with the C through
  `refdrv gradation` / `harness/h_gradation.c`) at the lawful real instance: exact arithmetic; rounding is
  modelled (the `Float` instance), not verified.

  Eigen-decomposition hypotheses.  `ref_matrix_intersect` goes through two `ref_matrix_diag_m` calls whose QL
  iteration stops on a threshold; `Props/C16` therefore states its intersect theorems under
  `InnerExact m1 m2 s is d1 d2` (both inner decompositions succeeded and are exact).  A sweep makes many such calls
  on intermediate values, so the hypothesis here is a predicate that walks the *same* fold as the executable sweep
  and asks `CallExact m1 m2 := ∃ s is d1 d2, InnerExact m1 m2 s is d1 d2` for exactly the write-back calls
  `intersect(metric[node], limited, metric[node])` that are made (`FoldExact`, `SweepsExact`, `MixedFoldExact`,
  `GacLoopOk`); nothing is assumed about calls that are not made, about the inner `limited` calls, or about
  `diagM` in general.  A refused call (`continue` / skipped end) leaves the field as it is.
-/
namespace Refine.Props.C10Gradation
open Refine Refine.Scalar Refine.ScalarReal Refine.Model.Matrix Refine.Model.Metric Refine.Model.Gradation
open Refine.Model.Recon (Cell)
open Refine.Model.Geom (V3)

theorem msSweeps_ge {xyz : List (V3 ℝ)} {r : ℝ} {edges : List (Nat × Nat)} (k : Nat) (metric : List (M6 ℝ))
    (H : SweepsExact xyz r edges k metric) : FieldLe metric (msSweeps xyz r edges k metric) := by
  induction k generalizing metric with
  | zero => exact FieldLe.refl _
  | succ k ih => exact (msFold_ge edges metric H.1).trans (ih _ H.2)

/-- **gradation only refines.**  After `k` calls of `ref_metric_metric_space_gradation` over any edge list, every
    vertex tensor dominates the tensor the vertex had at entry: `xᵀ M' x ≥ xᵀ M x` for all x. -/
theorem gradationSweep_ge_input (xyz : List (V3 ℝ)) (r : ℝ) (edges : List (Nat × Nat)) (k : Nat) (metric : List (M6 ℝ))
    (H : SweepsExact xyz r edges k metric) :
    (msSweeps xyz r edges k metric).length = metric.length ∧
    ∀ i (x : Vec3 ℝ), vtMv (mAt metric i) x ≤ vtMv (mAt (msSweeps xyz r edges k metric) i) x :=
  ⟨(msSweeps_ge k metric H).1.symm, (msSweeps_ge k metric H).2⟩

/-- **SPD is kept.**  If every input tensor is SPD then after any number of sweeps over any edge list every
    tensor is SPD. -/
theorem gradationSweep_spd (xyz : List (V3 ℝ)) (r : ℝ) (edges : List (Nat × Nat)) (k : Nat) (metric : List (M6 ℝ))
    (H : SweepsExact xyz r edges k metric) (hspd : ∀ m ∈ metric, SPD m) :
    ∀ m ∈ msSweeps xyz r edges k metric, SPD m :=
  (msSweeps_ge k metric H).spd hspd

/-- the same for the function as called (`ref_edge` list of the grid, one call) -/
theorem metricSpaceGradation_spd_ge (xyz : List (V3 ℝ)) (cells : List Cell) (metric : List (M6 ℝ)) (r : ℝ)
    (H : FoldExact xyz (Real.log r) metric metric (edgeList cells)) (hspd : ∀ m ∈ metric, SPD m) :
    (∀ m ∈ metricSpaceGradation xyz cells metric r, SPD m) ∧
    ∀ i (x : Vec3 ℝ), vtMv (mAt metric i) x ≤ vtMv (mAt (metricSpaceGradation xyz cells metric r) i) x := by
  unfold metricSpaceGradation msSweep
  rw [log_eq]
  have h := msFold_ge (edgeList cells) metric H
  exact ⟨h.spd hspd, h.2⟩

/-- the coded enlargement factor is in `(0, 1]` for `r ≥ 1` -/
theorem enlarge_pos_le_one {r ratio : ℝ} (hr : 1 ≤ r) (hratio : 0 ≤ ratio) :
    0 < (1 + ratio * Real.log r) ^ ((-2 : ℤ) : ℝ) ∧ (1 + ratio * Real.log r) ^ ((-2 : ℤ) : ℝ) ≤ 1 := by
  have hl : 0 ≤ Real.log r := Real.log_nonneg hr
  have hb : 1 ≤ 1 + ratio * Real.log r := le_add_of_nonneg_right (mul_nonneg hratio hl)
  refine ⟨Real.rpow_pos_of_pos (by linarith) _, ?_⟩
  apply Real.rpow_le_one_of_one_le_of_nonpos hb
  norm_num

/-- for `r ≥ 1` the limit metric of an SPD neighbour is SPD ("positive scaling of SPD is SPD") -/
theorem limitMS_spd {r : ℝ} (hr : 1 ≤ r) {m : M6 ℝ} (dir : Vec3 ℝ) (h : SPD m) : SPD (limitMS (Real.log r) m dir) := by
  rw [limitMS_eq]
  exact scaleM_spd (enlarge_pos_le_one hr (Real.sqrt_nonneg _)).1 h

/-- for `r ≥ 1` the limit metric is no finer than the neighbour's metric: the neighbour's size may grow with distance -/
theorem limitMS_le {r : ℝ} (hr : 1 ≤ r) {m : M6 ℝ} (dir : Vec3 ℝ) (h : SPD m) (x : Vec3 ℝ) :
    vtMv (limitMS (Real.log r) m dir) x ≤ vtMv m x := by
  rw [limitMS_eq, vtMv_scaleM]
  have hq : 0 ≤ vtMv m x := by
    by_cases hx : x.x ≠ 0 ∨ x.y ≠ 0 ∨ x.z ≠ 0
    · exact (h x hx).le
    · simp only [not_or, not_not] at hx
      obtain ⟨h1, h2, h3⟩ := hx
      simp only [vtMv, mul_eq, add_eq, h1, h2, h3]
      norm_num
  exact mul_le_of_le_one_left hq (enlarge_pos_le_one hr (Real.sqrt_nonneg (vtMv m dir))).2

def MixedSweepsExact (xyz : List (V3 ℝ)) (r t : ℝ) (edges : List (Nat × Nat)) : Nat → List (M6 ℝ) → Prop
  | 0, _ => True
  | k + 1, metric =>
    MixedFoldExact xyz (Real.log (mixedR r)) (mixedT t) metric metric edges ∧
    ∀ metric1, mixedSweep xyz r t edges metric = .ok metric1 → MixedSweepsExact xyz r t edges k metric1

theorem mixedSweeps_isLoop (xyz : List (V3 ℝ)) (r t : ℝ) (edges : List (Nat × Nat)) :
    Refine.Lemmas.IsLoop (mixedSweeps xyz r t edges) (mixedSweep xyz r t edges) where
  zero := fun _ => rfl
  succ := fun n s => by rw [mixedSweeps]; cases mixedSweep xyz r t edges s <;> rfl

theorem mixedSweeps_ge {xyz : List (V3 ℝ)} {r t : ℝ} {edges : List (Nat × Nat)} (k : Nat) (metric out : List (M6 ℝ))
    (H : MixedSweepsExact xyz r t edges k metric) (h : mixedSweeps xyz r t edges k metric = .ok out) :
    FieldLe metric out :=
  ((mixedSweeps_isLoop xyz r t edges).rule (fun k f => MixedSweepsExact xyz r t edges k f ∧ FieldLe metric f)
    (fun _ s s1 hi h1 => ⟨hi.1.2 s1 h1, hi.2.trans (mixedFold_ge edges s s1 hi.1.1 h1)⟩)
    k metric out ⟨H, FieldLe.refl _⟩ h).2

/-- the mixed-space sweep only refines, for any edge list and any number of calls -/
theorem mixedSweep_ge_input (xyz : List (V3 ℝ)) (r t : ℝ) (edges : List (Nat × Nat)) (k : Nat) (metric out : List (M6 ℝ))
    (H : MixedSweepsExact xyz r t edges k metric) (h : mixedSweeps xyz r t edges k metric = .ok out) :
    out.length = metric.length ∧ ∀ i (x : Vec3 ℝ), vtMv (mAt metric i) x ≤ vtMv (mAt out i) x :=
  ⟨(mixedSweeps_ge k metric out H h).1.symm, (mixedSweeps_ge k metric out H h).2⟩

/-- the mixed-space sweep keeps SPD -/
theorem mixedSweep_spd (xyz : List (V3 ℝ)) (r t : ℝ) (edges : List (Nat × Nat)) (k : Nat) (metric out : List (M6 ℝ))
    (H : MixedSweepsExact xyz r t edges k metric) (h : mixedSweeps xyz r t edges k metric = .ok out)
    (hspd : ∀ m ∈ metric, SPD m) : ∀ m ∈ out, SPD m :=
  (mixedSweeps_ge k metric out H h).spd hspd

/-- the embedding block that follows every sweep in `ref_metric_gradation_at_complexity` (2-D grids): every tensor
    is embedded (`m13 = m23 = 0`, `m33 = 1` exactly), SPD is kept, and dominance over an embedded input is kept -/
theorem gradationSweep_twod_embed (metric swept : List (M6 ℝ)) :
    (∀ m ∈ reEmbed true swept, IsEmbedded m) ∧
    ((∀ m ∈ swept, SPD m) → ∀ m ∈ reEmbed true swept, SPD m) ∧
    ((∀ m ∈ metric, IsEmbedded m) → FieldLe metric swept → FieldLe metric (reEmbed true swept)) :=
  ⟨reEmbed_true_embedded swept, reEmbed_spd true, fieldLe_map_twodM⟩

/-- in 3-D the block is the identity -/
theorem reEmbed_false (swept : List (M6 ℝ)) : reEmbed false swept = swept := rfl

/-- exactness for the sweep selected by `gradation` (`< 1`: mixed-space with its defaults; else metric-space) -/
def GacSweepExact (xyz : List (V3 ℝ)) (edges : List (Nat × Nat)) (gradation : ℝ) (metric : List (M6 ℝ)) : Prop :=
  if Scalar.lt gradation (Scalar.one : ℝ) = true then
    MixedFoldExact xyz (Real.log (mixedR (Scalar.ofInt (-1)))) (mixedT (Scalar.ofInt (-1))) metric metric edges
  else FoldExact xyz (Real.log gradation) metric metric edges

/-- the hypotheses along `n` relaxations: a positive current complexity at each rescale (so that the factor is
    positive) and exactness of the write-back calls of each sweep — walking the same loop as `gacLoop` -/
def GacLoopOk (twod : Bool) (owned : Nat → Bool) (xyz : List (V3 ℝ)) (cells : List Cell) (edges : List (Nat × Nat))
    (gradation target : ℝ) : Nat → List (M6 ℝ) → Prop
  | 0, _ => True
  | n + 1, metric =>
    0 < complexity owned xyz metric cells ∧
    (∀ scaled, setComplexity twod owned xyz metric cells target = .ok scaled → GacSweepExact xyz edges gradation scaled) ∧
    (∀ metric1, gacRelax twod owned xyz cells edges gradation target metric = .ok metric1 →
      GacLoopOk twod owned xyz cells edges gradation target n metric1)

theorem gacSweep_ge {xyz : List (V3 ℝ)} {edges : List (Nat × Nat)} {gradation : ℝ} {metric out : List (M6 ℝ)}
    (H : GacSweepExact xyz edges gradation metric) (h : gacSweep xyz edges gradation metric = .ok out) :
    FieldLe metric out := by
  unfold gacSweep at h
  unfold GacSweepExact at H
  by_cases hg : Scalar.lt gradation (Scalar.one : ℝ) = true
  · rw [if_pos hg] at h H
    exact mixedFold_ge edges metric out H h
  · rw [if_neg hg] at h H
    injection h with h
    subst h
    exact msFold_ge edges metric H

theorem gacRelax_split {twod : Bool} {owned : Nat → Bool} {xyz : List (V3 ℝ)} {cells : List Cell}
    {edges : List (Nat × Nat)} {gradation target : ℝ} {metric out : List (M6 ℝ)}
    (h : gacRelax twod owned xyz cells edges gradation target metric = .ok out) :
    ∃ scaled swept, setComplexity twod owned xyz metric cells target = .ok scaled ∧
      gacSweep xyz edges gradation scaled = .ok swept ∧ out = reEmbed twod swept := by
  revert h
  fun_cases gacRelax twod owned xyz cells edges gradation target metric with
  | case1 => nofun
  | case2 => nofun
  | case3 scaled h1 swept h2 => rintro ⟨⟩; exact ⟨scaled, swept, h1, h2, rfl⟩

/-- one relaxation (rescale, sweep, embedding) keeps SPD -/
theorem gacRelax_spd (twod : Bool) (owned : Nat → Bool) (xyz : List (V3 ℝ)) (cells : List Cell) (edges : List (Nat × Nat))
    (gradation target : ℝ) (metric out : List (M6 ℝ)) (ht : 0 < target)
    (hc : 0 < complexity owned xyz metric cells)
    (H : ∀ scaled, setComplexity twod owned xyz metric cells target = .ok scaled → GacSweepExact xyz edges gradation scaled)
    (h : gacRelax twod owned xyz cells edges gradation target metric = .ok out)
    (hspd : ∀ m ∈ metric, SPD m) : ∀ m ∈ out, SPD m := by
  obtain ⟨scaled, swept, h1, h2, rfl⟩ := gacRelax_split h
  exact reEmbed_spd twod ((gacSweep_ge (H scaled h1) h2).spd
    (Refine.Props.C10.setComplexity_spd twod owned xyz metric scaled cells target h1 hc ht hspd))

theorem gacLoop_isLoop (twod : Bool) (owned : Nat → Bool) (xyz : List (V3 ℝ)) (cells : List Cell) (edges : List (Nat × Nat))
    (gradation target : ℝ) :
    Refine.Lemmas.IsLoop (gacLoop twod owned xyz cells edges gradation target)
      (gacRelax twod owned xyz cells edges gradation target) where
  zero := fun _ => rfl
  succ := fun n s => by rw [gacLoop]; cases gacRelax twod owned xyz cells edges gradation target s <;> rfl

/-- **through any number of relaxations the field stays SPD** -/
theorem gacLoop_spd (twod : Bool) (owned : Nat → Bool) (xyz : List (V3 ℝ)) (cells : List Cell) (edges : List (Nat × Nat))
    (gradation target : ℝ) (n : Nat) (metric g : List (M6 ℝ)) (ht : 0 < target)
    (H : GacLoopOk twod owned xyz cells edges gradation target n metric)
    (h : gacLoop twod owned xyz cells edges gradation target n metric = .ok g)
    (hspd : ∀ m ∈ metric, SPD m) : ∀ m ∈ g, SPD m :=
  ((gacLoop_isLoop twod owned xyz cells edges gradation target).rule
    (fun n f => GacLoopOk twod owned xyz cells edges gradation target n f ∧ ∀ m ∈ f, SPD m)
    (fun _ s s1 ⟨⟨hcx, hexact, hnext⟩, hspd⟩ h1 => ⟨hnext s1 h1,
      gacRelax_spd twod owned xyz cells edges gradation target s s1 ht hcx hexact h1 hspd⟩)
    n metric g ⟨H, hspd⟩ h).2

/-- one relaxation on a 2-D grid returns embedded tensors (the embedding block is its last statement) -/
theorem gacRelax_embedded (owned : Nat → Bool) (xyz : List (V3 ℝ)) (cells : List Cell) (edges : List (Nat × Nat))
    (gradation target : ℝ) (metric out : List (M6 ℝ))
    (h : gacRelax true owned xyz cells edges gradation target metric = .ok out) : ∀ m ∈ out, IsEmbedded m := by
  obtain ⟨_, swept, _, _, rfl⟩ := gacRelax_split h
  exact reEmbed_true_embedded swept

/-- on a 2-D grid the loop returns embedded tensors from an embedded input (`hemb` matters for `n = 0` only: one
    relaxation already embeds any input, `gacRelax_embedded`) -/
theorem gacLoop_embedded (owned : Nat → Bool) (xyz : List (V3 ℝ)) (cells : List Cell) (edges : List (Nat × Nat))
    (gradation target : ℝ) (n : Nat) (metric g : List (M6 ℝ))
    (h : gacLoop true owned xyz cells edges gradation target n metric = .ok g)
    (hemb : ∀ m ∈ metric, IsEmbedded m) : ∀ m ∈ g, IsEmbedded m :=
  (gacLoop_isLoop true owned xyz cells edges gradation target).rule (fun _ f => ∀ m ∈ f, IsEmbedded m)
    (fun _ s s1 _ h1 => gacRelax_embedded owned xyz cells edges gradation target s s1 h1) n metric g hemb h

/-- what a successful `ref_metric_gradation_at_complexity` is: some field `g` left by the relaxations, then `setComplexity` -/
theorem gradationAtComplexity_split {twod : Bool} {owned : Nat → Bool} {xyz : List (V3 ℝ)} {cells : List Cell}
    {edges : List (Nat × Nat)} {n : Nat} {gradation target : ℝ} {metric out : List (M6 ℝ)}
    (h : gradationAtComplexityWith twod owned xyz cells edges n gradation target metric = .ok out) :
    ∃ g, gacLoop twod owned xyz cells edges gradation target n metric = .ok g ∧
         setComplexity twod owned xyz g cells target = .ok out := by
  revert h
  fun_cases gradationAtComplexityWith twod owned xyz cells edges n gradation target metric with
  | case1 => nofun
  | case2 g h1 => exact fun h => ⟨g, h1, h⟩

/-- **the requested complexity is met** — for `gradationAtComplexityWith`, the function with its edge list and number
    of relaxations as parameters (`gradationAtComplexity_final` below is the call the C makes).  Whatever the relaxations did (any edge list, any number `n` of them, in
    particular the 20 of the C over the `ref_edge` list), the last step is the `setComplexity` block, so the returned
    field has complexity exactly `target`, and on a 2-D grid every tensor is embedded.  Hypotheses: positive target;
    the field `g` left by the relaxations has positive complexity; the exponent matches the quadrature (`hdim`);
    in 2-D the input is embedded (needed only for `n = 0`). -/
theorem gradation_at_complexity_final (twod : Bool) (owned : Nat → Bool) (xyz : List (V3 ℝ)) (cells : List Cell)
    (edges : List (Nat × Nat)) (n : Nat) (gradation target : ℝ) (metric out : List (M6 ℝ))
    (h : gradationAtComplexityWith twod owned xyz cells edges n gradation target metric = .ok out)
    (ht : 0 < target)
    (hc : ∀ g, gacLoop twod owned xyz cells edges gradation target n metric = .ok g → 0 < complexity owned xyz g cells)
    (hdim : twod = !(haveVolCells owned cells))
    (hemb : twod = true → ∀ m ∈ metric, IsEmbedded m) :
    complexity owned xyz out cells = target ∧ (twod = true → ∀ m ∈ out, IsEmbedded m) := by
  obtain ⟨g, hg, hs⟩ := gradationAtComplexity_split h
  refine Refine.Props.C10.gradation_final_rescale_exact twod owned xyz g out cells target hs (hc g hg) ht hdim ?_
  intro htw
  subst htw
  exact gacLoop_embedded owned xyz cells edges gradation target n metric g hg (hemb rfl)

/-- the same for the function as called by `ref_metric_lp`: 20 relaxations over the `ref_edge` list -/
theorem gradationAtComplexity_final (twod : Bool) (owned : Nat → Bool) (xyz : List (V3 ℝ)) (cells : List Cell)
    (gradation target : ℝ) (metric out : List (M6 ℝ))
    (h : gradationAtComplexity twod owned xyz cells gradation target metric = .ok out)
    (ht : 0 < target)
    (hc : ∀ g, gacLoop twod owned xyz cells (edgeList cells) gradation target 20 metric = .ok g →
      0 < complexity owned xyz g cells)
    (hdim : twod = !(haveVolCells owned cells))
    (hemb : twod = true → ∀ m ∈ metric, IsEmbedded m) :
    complexity owned xyz out cells = target ∧ (twod = true → ∀ m ∈ out, IsEmbedded m) :=
  gradation_at_complexity_final twod owned xyz cells (edgeList cells) 20 gradation target metric out h ht hc hdim hemb

/-- **the output of `ref_metric_gradation_at_complexity` is SPD** at every vertex, given an SPD input, a positive target,
    positive complexities at the rescales and exact write-back decompositions along the loop -/
theorem gradation_at_complexity_spd (twod : Bool) (owned : Nat → Bool) (xyz : List (V3 ℝ)) (cells : List Cell)
    (edges : List (Nat × Nat)) (n : Nat) (gradation target : ℝ) (metric out : List (M6 ℝ))
    (h : gradationAtComplexityWith twod owned xyz cells edges n gradation target metric = .ok out)
    (ht : 0 < target)
    (H : GacLoopOk twod owned xyz cells edges gradation target n metric)
    (hc : ∀ g, gacLoop twod owned xyz cells edges gradation target n metric = .ok g → 0 < complexity owned xyz g cells)
    (hspd : ∀ m ∈ metric, SPD m) : ∀ m ∈ out, SPD m := by
  obtain ⟨g, hg, hs⟩ := gradationAtComplexity_split h
  exact Refine.Props.C10.setComplexity_spd twod owned xyz g out cells target hs (hc g hg) ht
    (gacLoop_spd twod owned xyz cells edges gradation target n metric g ht H hg hspd)

/-- the error exits of `ref_metric_gradation_at_complexity` at the final block: `div_zero` exactly when
    `target / current` fails `ref_math_divisible` -/
theorem gradation_at_complexity_div_zero (twod : Bool) (owned : Nat → Bool) (xyz : List (V3 ℝ)) (cells : List Cell)
    (edges : List (Nat × Nat)) (n : Nat) (gradation target : ℝ) (metric g : List (M6 ℝ))
    (hg : gacLoop twod owned xyz cells edges gradation target n metric = .ok g) :
    (∃ out, gradationAtComplexityWith twod owned xyz cells edges n gradation target metric = .ok out) ∨
    (gradationAtComplexityWith twod owned xyz cells edges n gradation target metric = .error .div_zero ∧
      Scalar.divisible target (complexity owned xyz g cells) = false) := by
  unfold gradationAtComplexityWith
  rw [hg]
  exact Refine.Props.C10.setComplexity_div_zero twod owned xyz g cells target

/-- `ref_metric_limit_aspect_ratio`, `ref_grid_twod` branch, one vertex: the result is embedded, and SPD when the
    larger in-plane eigenvalue and the out-of-plane eigenvalue returned by `ref_matrix_diag_m` +
    `ref_matrix_descending_eig_twod` are positive -/
theorem limitAspectRatio2_spd_embedded {ar2 : ℝ} (har : 0 < ar2) {m out : M6 ℝ} {d d' : Eig12 ℝ} (hd : diagM m = .ok d)
    (hs : descendingEigTwod d = .ok d') (hmax : 0 < max d'.l1 d'.l0) (hz : 0 < d'.l2)
    (h : limitArNode2 ar2 m = .ok out) : SPD out ∧ IsEmbedded out := by
  unfold limitArNode2 at h
  rw [hd] at h
  dsimp only at h
  rw [hs] at h
  simp only [cmax_eq, div_eq] at h
  split_ifs at h
  cases h
  have ho := descendingEigTwod_orthonormal (diagM_orthonormal' m d hd) hs
  have hl : 0 < max d'.l1 d'.l0 / ar2 := div_pos hmax har
  refine ⟨twodM_spd (formM_spd ?_ ?_), twodM_embedded _⟩
  · exact ⟨ho.n0, ho.n1, ho.n2, ho.p01, ho.p02, ho.p12⟩
  · exact ⟨lt_of_lt_of_le hl (le_max_right _ _), lt_of_lt_of_le hl (le_max_right _ _), hz⟩

/-- one vertex, unconditionally: whatever the decomposition returned, a successful 2-D limiter ends with `twod_m` -/
theorem limitArNode2_embedded {ar2 : ℝ} {m out : M6 ℝ} (h : limitArNode2 ar2 m = .ok out) : IsEmbedded out := by
  revert h
  fun_cases limitArNode2 ar2 m with
  | case1 => nofun
  | case2 => nofun
  | case3 => nofun
  | case4 d hd d' hs maxEig hg limit => rintro ⟨⟩; exact twodM_embedded _

/-- the whole field: after a successful 2-D `ref_metric_limit_aspect_ratio` every vertex tensor is embedded -/
theorem limitAspectRatio2_field_embedded (ar : ℝ) (metric out : List (M6 ℝ))
    (h : limitAspectRatio true ar metric = .ok out) : ∀ m ∈ out, IsEmbedded m := by
  unfold limitAspectRatio at h
  simp only [if_true] at h
  exact mapM6_all (fun m o hm => limitArNode2_embedded hm) metric out h

/-- `exponent = -1.0 / (2 * p_norm + dimension)` with dimension 2 on `ref_grid_twod` grids, else 3 -/
theorem localScale_exponent_dim (twod : Bool) (p : Int) :
    (localScaleExponent twod p : ℝ) = -1 / (2 * (p : ℝ) + (if twod then 2 else 3)) := by
  unfold localScaleExponent
  simp only [div_eq, ofInt_eq]
  cases twod <;> simp

/-- the factor `det^e` enters a `k`-dimensional determinant `k` times -/
theorem rpow_pow_mul_self {d : ℝ} (hd : 0 < d) (e : ℝ) (k : ℕ) : (d ^ e) ^ k * d = d ^ (k * e + 1) := by
  rw [← Real.rpow_natCast, ← Real.rpow_mul hd.le, Real.rpow_add hd, Real.rpow_one, mul_comm e]

theorem lp_exponent (p c : ℝ) (h : 2 * p + c ≠ 0) : c * (-1 / (2 * p + c)) + 1 = 2 * p / (2 * p + c) := by
  field_simp
  ring

/-- the exponent matches the dimension, 3-D: the coded determinant of the normalised tensor is `det^(2p/(2p+3))` -/
theorem localScale_det3 (p : Int) (m : M6 ℝ) (hd : 0 < detM m) :
    detM (localScaleNode (localScaleExponent false p) m) = (detM m) ^ ((2 * (p : ℝ)) / (2 * (p : ℝ) + 3)) := by
  have hne : (2 * (p : ℝ) + 3) ≠ 0 := by
    intro h
    have : (2 * p + 3 : Int) = 0 := by exact_mod_cast h
    omega
  rw [localScaleNode_pos _ hd, detM_scale _ _ (Real.rpow_pos_of_pos hd _).ne', rpow_pow_mul_self hd,
    localScale_exponent_dim]
  simp only [Bool.false_eq_true, if_false, Nat.cast_ofNat]
  rw [lp_exponent _ _ hne]

/-- the exponent matches the dimension, 2-D (embedding re-imposed as the C does): `det^(2p/(2p+2))` -/
theorem localScale_det2 (p : Int) (hp : p ≠ -1) (m : M6 ℝ) (he : IsEmbedded m) (hd : 0 < detM m) :
    detM (twodM (localScaleNode (localScaleExponent true p) m)) = (detM m) ^ ((2 * (p : ℝ)) / (2 * (p : ℝ) + 2)) := by
  have hne : (2 * (p : ℝ) + 2) ≠ 0 := by
    intro h
    have : (2 * p + 2 : Int) = 0 := by exact_mod_cast h
    omega
  rw [localScaleNode_pos _ hd, detM_embed_scale _ _ (Real.rpow_pos_of_pos hd _).ne' he, rpow_pow_mul_self hd,
    localScale_exponent_dim]
  simp only [if_true, Nat.cast_ofNat]
  rw [lp_exponent _ _ hne]

/-- Hessian → eigenvalue floor → Lp normalisation: SPD at every vertex whatever the reconstructed Hessian was -/
theorem lp_front_spd (twod : Bool) (p : Int) (xyz : List (V3 ℝ)) (cells : List Cell) (hessian floored : List (M6 ℝ))
    (h : roundoffLimit xyz cells hessian = .ok floored) : ∀ m ∈ localScale twod p floored, SPD m :=
  Refine.Props.C10.localScale_spd twod p floored (Refine.Props.C10.roundoffLimit_spd xyz cells hessian floored h)

/-- what a successful run of the stages of `ref_metric_lp` after the reconstruction is -/
theorem lpChain_split {twod : Bool} {owned : Nat → Bool} {xyz : List (V3 ℝ)} {cells : List Cell} {p : Int}
    {gradation ar target : ℝ} {hessian out : List (M6 ℝ)}
    (h : lpChain twod owned xyz cells p gradation ar target hessian = .ok out) :
    ∃ floored limited, roundoffLimit xyz cells hessian = .ok floored ∧
      limitAspectRatio twod ar (localScale twod p floored) = .ok limited ∧
      gradationAtComplexity twod owned xyz cells gradation target limited = .ok out := by
  revert h
  fun_cases lpChain twod owned xyz cells p gradation ar target hessian with
  | case1 => nofun
  | case2 => nofun
  | case3 floored h1 limited h2 => exact fun h => ⟨floored, limited, h1, h2, h⟩

/-- **the multiscale chain meets the requested complexity**: for any Hessian field, norm power, gradation and
    aspect-ratio limit, a successful run returns a field of complexity exactly `target`, embedded on a 2-D grid
    (the embedding of the limiter's output is proved, not assumed).  Hypothesis `hc`: the field left by the 20
    relaxations has positive complexity. -/
theorem lpChain_complexity (twod : Bool) (owned : Nat → Bool) (xyz : List (V3 ℝ)) (cells : List Cell) (p : Int)
    (gradation ar target : ℝ) (hessian out : List (M6 ℝ))
    (h : lpChain twod owned xyz cells p gradation ar target hessian = .ok out) (ht : 0 < target)
    (hc : ∀ limited g, gacLoop twod owned xyz cells (edgeList cells) gradation target 20 limited = .ok g →
      0 < complexity owned xyz g cells)
    (hdim : twod = !(haveVolCells owned cells)) :
    complexity owned xyz out cells = target ∧ (twod = true → ∀ m ∈ out, IsEmbedded m) := by
  obtain ⟨floored, limited, _, h2, h3⟩ := lpChain_split h
  refine gradationAtComplexity_final twod owned xyz cells gradation target limited out h3 ht (hc limited) hdim ?_
  intro htw
  subst htw
  exact limitAspectRatio2_field_embedded ar _ limited h2

/-- non-vacuity of the 2-D limiter theorem: diag(4, 9, 1) with `ar² = 4`: the frame is reordered to (9, 4 | 1), the
    limit is 9/4, both in-plane eigenvalues already exceed it -/
example : ∃ out, limitArNode2 (4 : ℝ) ⟨4, 0, 0, 9, 0, 1⟩ = .ok out ∧ SPD out ∧ IsEmbedded out := by
  have hd := diagM_diag 4 9 1
  have hs : descendingEigTwod (⟨4, 9, 1, 1, 0, 0, 0, 1, 0, 0, 0, 1⟩ : Eig12 ℝ) = .ok ⟨9, 4, 1, 0, 1, 0, 1, 0, 0, 0, 0, 1⟩ := by
    unfold descendingEigTwod
    simp only [Scalar.bgt, cabs_eq, mul_eq, add_eq, zero_eq, one_eq, ofInt_eq]
    norm_num [swap01, swap02, swap12, Scalar.lt]
  have hg : Scalar.divisible (max (4 : ℝ) 9) 4 = true := by rw [divisible_iff]; norm_num
  have : ∃ out, limitArNode2 (4 : ℝ) ⟨4, 0, 0, 9, 0, 1⟩ = .ok out := by
    unfold limitArNode2
    rw [hd]
    dsimp only
    rw [hs]
    simp only [cmax_eq, div_eq, hg, Bool.not_true, Bool.false_eq_true, if_false]
    exact ⟨_, rfl⟩
  obtain ⟨out, ho⟩ := this
  exact ⟨out, ho, limitAspectRatio2_spd_embedded (by norm_num) hd hs (by norm_num) (by norm_num) ho⟩

/-- non-vacuity of `localScale_det3`: the identity has coded determinant 1 -/
example (p : Int) : detM (localScaleNode (localScaleExponent false p) (⟨1, 0, 0, 1, 0, 1⟩ : M6 ℝ)) = 1 := by
  rw [localScale_det3 p _ (by rw [Refine.Props.C10.detM_identity]; norm_num), Refine.Props.C10.detM_identity, Real.one_rpow]

/-- the hypotheses of the sweep theorems hold on a concrete field where gradation is active: after one sweep with
    `r = 1` both vertices carry the intersection diag(4, 36, 1) -/
example : SweepsExact exXyz 1 [(0, 1)] 1 exField ∧ msSweeps exXyz 1 [(0, 1)] 1 exField = [exBoth, exBoth] :=
  ⟨exSweepsExact, exSweep_value⟩

/-- hence the conclusions, on that field -/
example (x : Vec3 ℝ) : vtMv exA x ≤ vtMv exBoth x ∧ vtMv exB x ≤ vtMv exBoth x := by
  have h := (gradationSweep_ge_input exXyz 1 [(0, 1)] 1 exField exSweepsExact).2
  rw [exSweep_value] at h
  exact ⟨h 0 x, h 1 x⟩

/-- `gradation_at_complexity_final` with zero relaxations is `setComplexity_exact`; with `n` relaxations its
    hypotheses are those of the loop: the unit-tet instance of `Props/C10` meets them for `n = 0` -/
example : ∃ out, gradationAtComplexityWith false (fun _ => true) [(⟨0, 0, 0⟩ : V3 ℝ), ⟨1, 0, 0⟩, ⟨0, 1, 0⟩, ⟨0, 0, 1⟩]
      [⟨.tet, [0, 1, 2, 3]⟩] [] 0 (3 / 2) 5
      [⟨1, 0, 0, 1, 0, 1⟩, ⟨1, 0, 0, 1, 0, 1⟩, ⟨1, 0, 0, 1, 0, 1⟩, ⟨1, 0, 0, 1, 0, 1⟩] = .ok out ∧
    complexity (fun _ => true) [(⟨0, 0, 0⟩ : V3 ℝ), ⟨1, 0, 0⟩, ⟨0, 1, 0⟩, ⟨0, 0, 1⟩] out [⟨.tet, [0, 1, 2, 3]⟩] = 5 := by
  obtain ⟨out, ho, _⟩ := Refine.Props.C10.setComplexity_unit_tet
  -- with no relaxation the function is its final `setComplexity` block
  refine ⟨out, ho, (gradation_at_complexity_final false _ _ _ [] 0 (3 / 2) _ _ _ ho (by norm_num) ?_ ?_
    (by intro h; cases h)).1⟩
  · intro g hg
    cases hg
    rw [Refine.Props.C10.complexity_unit_tet]; norm_num
  · simp [haveVolCells, isVol]

end Refine.Props.C10Gradation
