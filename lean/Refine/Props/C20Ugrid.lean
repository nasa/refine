import Refine.Lemmas.UgridC20
import Refine.Props.C08Ugrid

/-!
  C20 — malformed input is rejected cleanly: the binary UGRID readers.

  `decodeUgrid` (= `decodeUgridWith ugridCfg`) models `ref_import_bin_ugrid`, `partRead` (= `partReadWith ugridCfg`)
  models `ref_part_bin_ugrid`, as they are in /repo today, i.e. since commit 6682479 "reject UGRID cells whose vertex
  index is outside 1..nnode" (tied by the `c20_ugrid_mut` stream: C status and grid dump = model status and dump on
  every mutant):
    * every `fread` is checked → `REF_FAILURE` on a short file; the serial reader's buffers are bounded by 64 MB;
    * a section with a count ≤ 0 is skipped; a negative `nnode` is `REF_FAILURE` (`ref_malloc` of a negative size);
    * serial: `c2n < 1 || nnode < c2n` on the 1-based value, before the decrement → `REF_INVALID`;
    * parallel: after `pack_cell`, every node entry of every row of the chunk `< 0 || nnode <= value` → `REF_INVALID`,
      before `ref_part_implicit` is evaluated (so a file with cells and `nnode = 0` is refused too).
  `accepted_indices_in_range` / `part_accepted_indices_in_range` hold at full strength for these readers.
  The parallel reader also tests its seven counts against the file size right after the header (10247dc;
  `UgridOffsets.counts_fit`, regenerated): `part_accepted_counts_fit`, `part_counts_no_overflow_partial`,
  `count_witnesses_refused`.
  `ugridCfgLegacy` (no index test) and `ugridCfgNoCount` (no count test) are counterfactual readers, the C without these
  two commits: the `legacy_*` theorems show on concrete 44..140-byte files that the obligations fail for them (findings
  ugrid-vertex-index-unchecked and ugrid-part-count-overflow, both `fixed`; the same bytes are regression ops of stream
  `c20_ugrid_index`).
-/
namespace Refine.Props.C20Ugrid
open Refine.Gen Refine.Model.Ugrid Refine.Lemmas.Ugrid
open Refine.Model.Meshb (Bytes Status Vertex Cfg wrap32)

/-- 4 vertices, one tet (1,2,3,6): vertex 6 of 4 (140 bytes) -/
def indexFile : Bytes := ofHex
  "04000000000000000000000001000000000000000000000000000000000000000000000000000000000000000000000000000000000000000000f03f000000000000000000000000000000000000000000000000000000000000f03f000000000000000000000000000000000000000000000000000000000000f03f01000000020000000300000006000000"

/-- the replay file: the same with vertex 50 000 001 -/
def indexCrashFile : Bytes := ofHex
  "04000000000000000000000001000000000000000000000000000000000000000000000000000000000000000000000000000000000000000000f03f000000000000000000000000000000000000000000000000000000000000f03f000000000000000000000000000000000000000000000000000000000000f03f01000000020000000300000081f0fa02"

/-- 4 vertices, one tet (5,1,2,3): the FIRST vertex is 5 of 4 -/
def partIndexFile : Bytes := ofHex
  "04000000000000000000000001000000000000000000000000000000000000000000000000000000000000000000000000000000000000000000f03f000000000000000000000000000000000000000000000000000000000000f03f000000000000000000000000000000000000000000000000000000000000f03f05000000010000000200000003000000"

/-- no vertex, one triangle (1,1,1) tag 1 (44 bytes) -/
def partDiv0File : Bytes := ofHex
  "0000000001000000000000000000000000000000000000000000000001000000010000000100000001000000"

/-- 4 vertices, one tet present, 2^31-1 tets declared -/
def countIntFile : Bytes := ofHex
  "040000000000000000000000ffffff7f000000000000000000000000000000000000000000000000000000000000000000000000000000000000f03f000000000000000000000000000000000000000000000000000000000000f03f000000000000000000000000000000000000000000000000000000000000f03f01000000020000000300000004000000"

/-- `.lb8l.ugrid` declaring 2^63-1 vertices (184 bytes) -/
def countLongFile : Bytes := ofHex
  "ffffffffffffff7f000000000000000000000000000000000100000000000000000000000000000000000000000000000000000000000000000000000000000000000000000000000000000000000000000000000000f03f000000000000000000000000000000000000000000000000000000000000f03f000000000000000000000000000000000000000000000000000000000000f03f0100000000000000020000000000000003000000000000000400000000000000"

def lb8 : Flavor := ⟨false, false⟩
def lb8l : Flavor := ⟨false, true⟩

/-- the reader models are total functions: every byte string is accepted or mapped to a status -/
theorem decode_total (cfg : Cfg) (fl : Flavor) (bs : Bytes) :
    (∃ m, decodeUgridWith cfg fl bs = .ok m) ∨ (∃ e, decodeUgridWith cfg fl bs = .error e) :=
  Refine.Lemmas.except_total _

/-- serial reader, every variant and flavour: an accepted file contains every record it declares — header,
    `nnode` coordinate triples, and per kind `count × node_per` (+ `count` tags) integers of the flavour's width fit in
    the bytes present (all `fread`s of ref_import_bin_ugrid are checked; nothing is sized by a count alone beyond the
    64 MB chunk buffers) -/
theorem accepted_counts_fit (cfg : Cfg) (fl : Flavor) (bs : Bytes) (m : UMesh) (h : decodeUgridWith cfg fl bs = .ok m) :
    7 * fl.ibytes + m.nodes.length * 24 +
      (3 * m.tri.length + 4 * m.qua.length + m.tri.length + m.qua.length + 4 * m.tet.length + 5 * m.pyr.length +
        6 * m.pri.length + 8 * m.hex.length) * fl.ibytes ≤ bs.length :=
  (decode_ok (by decide) h).1

/-- **accepted_indices_in_range**, serial reader (as in /repo since 6682479), every flavour: every node index of every
    accepted cell is in `[0, nnode)`, i.e. `1..nnode` in the file -/
theorem accepted_indices_in_range (fl : Flavor) (bs : Bytes) (m : UMesh)
    (h : decodeUgrid fl bs = .ok m) : indicesInRange m = true := by
  rw [indicesInRange_iff]
  obtain ⟨_, h1, h2⟩ := decode_ok (by decide) h
  exact fun k c hc x hx => ⟨h1 k c hc x hx, h2 rfl k c hc x hx⟩

/-- **part_accepted_indices_in_range**, parallel reader (as in /repo since 6682479), every flavour, rank count and chunk
    size: an accepted read holds six cell lists, exactly `nnode` vertices, and every node entry of every stored cell is
    in `[0, nnode)` -/
theorem part_accepted_indices_in_range (fl : Flavor) (np : Nat) (chunk : Option Nat) (bs : Bytes) (pm : PartMesh)
    (h : partRead fl np chunk bs = .ok pm) :
    pm.cells.length = 6 ∧ pm.nodes.length = pm.nnode.toNat ∧
    ∀ p ∈ Kind.all.zip pm.cells, ∀ c ∈ p.2, ∀ x ∈ c.take p.1.nodePer, 0 ≤ x ∧ x < pm.nnode :=
  (partRead_ok h).2

/-- … and it is the reader's own test that guarantees it: with the index check, the chunk loop of
    ref_part_bin_ugrid_cell only ever returns rows whose node entries are in `[0, nnode)`, so `ref_part_implicit` is
    never evaluated on anything else (the model's `Status.undefined` fall-through is not reached through an index) -/
theorem part_rows_checked_before_routing (fl : Flavor) (bs : Bytes) (k : Kind) (nnode co fo : Int)
    (chunk fuel ncell r : Nat) (cs : List (List Int))
    (h : partCellLoop ugridCfg fl bs k nnode co fo chunk fuel ncell r = .ok cs) :
    cs.all (partIndexOk k nnode) = true :=
  partCellLoop_checked rfl h

/-- the four files of the finding are refused with `REF_INVALID` by both readers now -/
theorem index_witnesses_refused :
    decodeUgrid lb8 indexFile = .error .invalid ∧ decodeUgrid lb8 indexCrashFile = .error .invalid ∧
    partRead lb8 1 none indexFile = .error .invalid ∧ partRead lb8 1 none indexCrashFile = .error .invalid ∧
    partRead lb8 1 none partIndexFile = .error .invalid ∧ decodeUgrid lb8 partIndexFile = .error .invalid ∧
    partRead lb8 1 none partDiv0File = .error .invalid ∧ decodeUgrid lb8 partDiv0File = .error .invalid := by
  rw [indexFile, ofHex_ofList, indexCrashFile, ofHex_ofList, partIndexFile, ofHex_ofList, partDiv0File, ofHex_ofList]
  decide +kernel

/-- the check costs nothing: every well-formed mesh a writer laid out is still returned (C08) -/
theorem checked_reader_roundtrip (fl : Flavor) (m : UMesh) (hw : WellFormed m = true) :
    decodeUgrid fl (encodeUgrid fl m) = .ok (normalize m) :=
  Refine.Props.C08Ugrid.roundtrip_ugrid fl m hw

/-- serial reader, every variant (with or without the index test): every node index of an accepted cell is ≥ 0 (≥ 1 in
    the file) — all `ref_adj_add` checked -/
theorem legacy_accepted_indices_nonneg (cfg : Cfg) (fl : Flavor) (bs : Bytes) (m : UMesh)
    (h : decodeUgridWith cfg fl bs = .ok m) : ∀ k : Kind, ∀ c ∈ m.get k, ∀ x ∈ c.take k.nodePer, 0 ≤ x :=
  (decode_ok (by decide) h).2.1

/-- serial reader without the index test (`ugridCfgLegacy`): a file is accepted although a tet refers to vertex 6 (or
    50 000 001) of 4 -/
theorem legacy_accepted_indices_in_range_counterexample :
    (∃ m, decodeUgridWith ugridCfgLegacy lb8 indexFile = .ok m ∧ indicesInRange m = false) ∧
    (∃ m, decodeUgridWith ugridCfgLegacy lb8 indexCrashFile = .ok m ∧ indicesInRange m = false) := by
  rw [indexFile, ofHex_ofList, indexCrashFile, ofHex_ofList]
  exact ⟨Refine.Lemmas.exists_ok_of_decide (by decide +kernel), Refine.Lemmas.exists_ok_of_decide (by decide +kernel)⟩

/-- parallel reader without the index test (`ugridCfgLegacy`): nothing stands between a first vertex outside `1..nnode`
    and `elements_to_send[ref_part_implicit(..)]++` — `ref_part_implicit(4, 1, 4) = 1` is not a rank of a 1-rank run; with
    `nnode = 0` the macro divides by the part size 0.  That model has no status for these files. -/
theorem legacy_part_index_unchecked_counterexample :
    PartMacros.ref_part_implicit 4 1 4 = 1 ∧ partReadWith ugridCfgLegacy lb8 1 none partIndexFile = .error .undefined ∧
    PartMacros.ref_part_large_part_size 0 1 = 0 ∧
    partReadWith ugridCfgLegacy lb8 1 none partDiv0File = .error .undefined := by
  rw [partIndexFile, ofHex_ofList, partDiv0File, ofHex_ofList]
  decide +kernel

/-- **part_accepted_counts_fit**, parallel reader (as in /repo since 10247dc), every flavour, rank count and chunk size:
    an accepted read has passed the regenerated header test — every one of the seven counts is ≥ 0 and its section fits in
    the bytes present (`count ≤ file_size / record_bytes`, C integer division) -/
theorem part_accepted_counts_fit (fl : Flavor) (np : Nat) (chunk : Option Nat) (bs : Bytes) (pm : PartMesh)
    (h : partRead fl np chunk bs = .ok pm) :
    ∃ hdr rest, rdHeaderPart fl bs = .ok (hdr, rest) ∧ pm.nnode = hdr.getD 0 0 ∧
      UgridOffsets.counts_fit (bs.length : Int) (UgridOffsets.ibyte fl.fat) (hdr.getD 0 0) (hdr.getD 1 0)
        (hdr.getD 2 0) (hdr.getD 3 0) (hdr.getD 4 0) (hdr.getD 5 0) (hdr.getD 6 0) :=
  let ⟨hdr, rest, h0, hn, hc⟩ := (partRead_ok h).1
  ⟨hdr, rest, h0, hn, hc rfl (by decide)⟩

/-- **what the count test buys** (`_partial`: for files below 2^33 bytes): when the seven counts pass `counts_fit` against
    a file of fewer than 2^33 bytes, none of the count-driven computations of the parallel reader overflows —
    `nnode + nproc` and the section offsets in `long`, `size_per * chunk` in `int` (`partCountHazard = false`), for every
    rank count an `int` holds.  RESIDUAL (not a malformed-input matter): a VALID file of 2^33 bytes or more can hold more
    than 2^31 / size_per cells per rank, and `size_per * chunk` then still overflows `int`; full statement without the size
    bound needs `chunk = MIN(chunk, REF_INT_MAX / size_per)` in ref_part_bin_ugrid_cell. -/
theorem part_counts_no_overflow_partial (fl : Flavor) (len : Nat) (hlen : len < 2 ^ 33) (np : Nat) (hnp : 1 ≤ np)
    (hnp2 : np < 2 ^ 31) (n0 n1 n2 n3 n4 n5 n6 : Int)
    (hfit : UgridOffsets.counts_fit (len : Int) (UgridOffsets.ibyte fl.fat) n0 n1 n2 n3 n4 n5 n6) :
    partCountHazard np [n0, n1, n2, n3, n4, n5, n6] = false := by
  have hib : (4 : Int) ≤ fl.ibytes := by rcases ibytes_cases fl with h | h <;> omega
  rw [ibyte_eq] at hfit
  obtain ⟨⟨h0, hn0⟩, hk⟩ := (counts_fit_iff (Int.natCast_nonneg len) (by omega) [n0, n1, n2, n3, n4, n5, n6]).1 hfit
  rw [List.getD_cons_zero] at h0 hn0
  have hlt := fun k => sizePer_mul_chunk_lt k (by exact_mod_cast hlen) hib (hk k).1 (hk k).2 np
  simp only [partCountHazard, partHeaderHazard, Bool.or_eq_false_iff, List.any_eq_false, decide_eq_true_eq]
  refine ⟨⟨by simp only [List.getD_cons_zero, decide_eq_false_iff_not]; omega, fun c hc => ?_⟩,
    fun k _ => by have := (hlt k).2; omega⟩
  -- every entry of the header is `nnode` or the count of a kind
  simp only [List.mem_cons, List.not_mem_nil, or_false] at hc
  -- a count is not negative (count test) and below 2^31 (`sizePer_mul_chunk_lt`)
  have hb := fun k => And.intro (hk k).1 (hlt k).1
  have b1 := hb .tri
  have b2 := hb .qua
  have b3 := hb .tet
  have b4 := hb .pyr
  have b5 := hb .pri
  have b6 := hb .hex
  simp only [Kind.hdrIndex, List.getD_cons_zero, List.getD_cons_succ] at b1 b2 b3 b4 b5 b6
  rcases hc with rfl | rfl | rfl | rfl | rfl | rfl | rfl <;> omega

/-- the two files of finding ugrid-part-count-overflow are refused with `REF_FAILURE` now (both readers) -/
theorem count_witnesses_refused :
    partRead lb8 1 none countIntFile = .error .failure ∧ partRead lb8l 1 none countLongFile = .error .failure ∧
    decodeUgrid lb8 countIntFile = .error .failure := by
  rw [countIntFile, ofHex_ofList, countLongFile, ofHex_ofList]
  decide +kernel

/-- parallel reader without the count test of 10247dc (`ugridCfgNoCount`): the declared counts enter `int` / `long`
    arithmetic before any byte of the sections is looked at — `size_per * chunk` with
    `chunk = MAX(1000000, ncell / nproc)` overflows `int` for 2^31-1 declared tets; `ref_part_first(nnode, nproc, 1)`
    forms `nnode + nproc` in `long` for 2^63-1 declared vertices -/
theorem legacy_part_count_overflow_counterexample :
    partReadWith ugridCfgNoCount lb8 1 none countIntFile = .error .undefined ∧
    partReadWith ugridCfgNoCount lb8l 1 none countLongFile = .error .undefined := by
  rw [countIntFile, ofHex_ofList, countLongFile, ofHex_ofList]
  decide +kernel

/-- 4 vertices, one tet (1,2,3,4): a valid 140-byte file -/
def okFile : Bytes := ofHex
  "04000000000000000000000001000000000000000000000000000000000000000000000000000000000000000000000000000000000000000000f03f000000000000000000000000000000000000000000000000000000000000f03f000000000000000000000000000000000000000000000000000000000000f03f01000000020000000300000004000000"

/-- non-vacuity of `accepted_counts_fit` / `accepted_indices_in_range` / `part_accepted_indices_in_range`: both readers
    accept `okFile` (140 bytes = 7·4 + 4·24 + 4·4) -/
example : (∃ m, decodeUgrid lb8 okFile = .ok m ∧ m.tet = [[0, 1, 2, 3]] ∧ m.nodes.length = 4 ∧ okFile.length = 140) ∧
    (∃ pm, partRead lb8 3 (some 1) okFile = .ok pm ∧ pm.cells.getD 2 [] = [[0, 1, 2, 3]] ∧ pm.nnode = 4) := by
  rw [okFile, ofHex_ofList]
  exact ⟨Refine.Lemmas.exists_ok_of_decide (by decide +kernel), Refine.Lemmas.exists_ok_of_decide (by decide +kernel)⟩

end Refine.Props.C20Ugrid
