import Refine.Model.Dist
import Refine.Lemmas.Dist
import Refine.Lemmas.DistSync
import Refine.Lemmas.DistClauses
import Refine.Lemmas.DistGhost

/-!
  C06 — distributed-mesh invariants at sync points.

  Theorems about the executable model `Refine.Model.Dist` (tied to `ref_node.c`, `ref_cell.c` by the `dist_fn`
  stream and to real `ref_part / ref_migrate / ref_adapt / ref_grid_pack` runs by the `dist_run` stream).

  Vocabulary (`Refine/Lemmas/Dist.lean`): `elim U g = g - #{u ∈ U ∣ u < g}`; `shiftId old off g` the fresh-id
  shift of one rank; `IdWorld` / `IdInv` the abstract pre-state of `ref_node_synchronize_globals` and the id
  invariant; `IdWorld.newId w r g = elim (all shifted unused) (shiftId old (off r) g)`.

  `sync_bijection` is the headline: the loop-by-loop world-level model `syncGlobals` equals the closed form on
  every world satisfying `SyncInv` (proof of the unrolling: `Refine/Lemmas/DistSync.lean`, using `allgather_eq` /
  `allgatherv_eq` of Lemmas/CommBlind — the theorems C17 states as `allgather_spec` / `allgatherv_spec` — for the collectives), and the closed form is a monotone bijection onto
  `[0,N)` (`newId_bijection`).
-/
namespace Refine.Props.C06
open Refine.Model.Dist Refine.Model.NodeIds Refine.Lemmas.Dist Refine.Lemmas.DistSync

/-- `ref_node_eliminate_unused_offset` (the literal two-pointer walk): on a non-decreasing id list and a sorted
    unused list every id is lowered by the number of unused ids below it. -/
theorem eliminate_offset_spec (gs U : List Int) (hU : U.Pairwise (· ≤ ·)) (hg : gs.Pairwise (· ≤ ·)) :
    elimOffset gs U = gs.map (elim U) :=
  elimOffset_eq_map gs U hU hg

/-- elimination by active-part slices = elimination by the union: a rank's sorted ids `gs` offset by slice `A`
    and then by slice `B` (whose entries were themselves offset by `A` while waiting, as the loop of
    `ref_node_eliminate_unused_globals` does) equal one elimination by the sorted union of `A` and `B`. -/
theorem elim_slices (gs A B : List Int) (hA : A.Pairwise (· ≤ ·)) (hB : B.Pairwise (· ≤ ·))
    (hg : gs.Pairwise (· ≤ ·)) (hn : (A ++ B).Nodup) (hdis : ∀ g ∈ gs, g ∉ A ++ B) :
    elimOffset (elimOffset gs A) (elimOffset B A) = elimOffset gs (sortGlob (A ++ B)) := by
  have _ := hdis
  have hAn : A.Nodup := (List.nodup_append.mp hn).1
  rw [elimOffset_eq_map gs A hA hg, elimOffset_eq_map B A hA hB,
    elimOffset_step A B gs _ hn hg (map_elim_sorted A B hAn hB) (List.Perm.refl _),
    elimOffset_eq_map gs _ (sortGlob_sorted _) hg]
  exact List.map_congr_left fun g _ => (elim_perm _ _ (sortGlob_perm _) g).symm

example : elimOffset (elimOffset [1, 4, 6, 9] [0, 2]) (elimOffset [5, 7] [0, 2])
    = elimOffset [1, 4, 6, 9] (sortGlob ([0, 2] ++ [5, 7])) ∧
    elimOffset [1, 4, 6, 9] (sortGlob ([0, 2] ++ [5, 7])) = [0, 2, 3, 5] := by decide +kernel

/-- `ref_node_eliminate_active_parts` returns a non-empty slice inside the rank range (the slice loop terminates
    and never skips a rank) -/
theorem active_parts_progress (counts : List Int) (chunk : Int) (a0 : Nat) (h : a0 < counts.length) :
    a0 < (activeParts counts chunk a0).1 ∧ (activeParts counts chunk a0).1 ≤ counts.length :=
  activeParts_progress counts chunk a0 h

/-- Under the id invariant the map old id ↦ new id is strictly monotone on every rank, gives the same new id to a
    shared (old) id on every rank, orders fresh ids after shared ones and by rank, lands in `[0, N)` and is onto
    `[0, N)` where `N = old_n_global + Σ fresh − #unused` is the `n_global` every rank ends with. -/
theorem newId_bijection (w : IdWorld) (h : IdInv w) :
    (∀ r g g', g ∈ w.liveOf r → g' ∈ w.liveOf r → g < g' → w.newId r g < w.newId r g') ∧
    (∀ r q g, g < w.old → w.newId r g = w.newId q g) ∧
    (∀ r q g g', g ∈ w.liveOf r → g' ∈ w.liveOf q → g < w.old → w.old ≤ g' → w.newId r g < w.newId q g') ∧
    (∀ r q g g', r < q → g ∈ w.liveOf r → g' ∈ w.liveOf q → w.old ≤ g → w.old ≤ g' →
        w.newId r g < w.newId q g') ∧
    (∀ r g, g ∈ w.liveOf r → 0 ≤ w.newId r g ∧ w.newId r g < w.N) ∧
    (∀ k, 0 ≤ k → k < w.N → ∃ r g, g ∈ w.liveOf r ∧ w.newId r g = k) := by
  refine ⟨fun r g g' hg _ hlt => newId_strictMono w h r g g' hg hlt, newId_shared w, ?_, ?_, newId_range w h,
    newId_onto w h⟩
  · intro r q g g' hg _ hlo hhi
    apply elim_strictMono _ h.unused_nodup _ _ (h.live_not_unused r g hg)
    have := off_nonneg w q
    unfold shiftId
    have h1 : ¬ g ≥ w.old := by omega
    have h2 : g' ≥ w.old := hhi
    simp only [h1, h2, if_false, if_true]
    omega
  · intro r q g g' hrq hg _ hlo hhi
    apply elim_strictMono _ h.unused_nodup _ _ (h.live_not_unused r g hg)
    exact shift_disjoint w.old w.kOf r q hrq g g' ⟨hlo, (h.live_range r g hg).2⟩ hhi

/-! non-vacuity: a 3-rank world (shared ids 0..5, rank 0 has 2 fresh ids, rank 2 has 1; ids 1 and 4 unused on
    rank 0, the second fresh id of rank 0 was returned to its unused list) -/
def exIdWorld : IdWorld :=
  { old := 6, k := [2, 0, 1], live := [[0, 2, 6], [2, 3, 5], [0, 5, 6]], unused := [[1, 4, 7], [], []] }

example : exIdWorld.shiftedUnused = [1, 4, 7] ∧ exIdWorld.N = 6 := by decide +kernel

theorem exIdInv : IdInv exIdWorld := by
  have hU : exIdWorld.shiftedUnused = [1, 4, 7] := by decide +kernel
  have hM : exIdWorld.M = 9 := by decide +kernel
  have hl : ∀ r, exIdWorld.liveOf r = [[0, 2, 6], [2, 3, 5], [0, 5, 6]].getD r [] := fun _ => rfl
  refine ⟨by decide, ?_, by rw [hU]; decide, ?_, ?_, ?_⟩
  · intro r g hg
    rw [hl] at hg
    match r with
    | 0 => exact (by decide : ∀ g ∈ ([0, 2, 6] : List Int), 0 ≤ g ∧ g < exIdWorld.old + (exIdWorld.kOf 0 : Nat)) g hg
    | 1 => exact (by decide : ∀ g ∈ ([2, 3, 5] : List Int), 0 ≤ g ∧ g < exIdWorld.old + (exIdWorld.kOf 1 : Nat)) g hg
    | 2 => exact (by decide : ∀ g ∈ ([0, 5, 6] : List Int), 0 ≤ g ∧ g < exIdWorld.old + (exIdWorld.kOf 2 : Nat)) g hg
    | n + 3 => exact absurd hg List.not_mem_nil
  · rw [hU, hM]; decide
  · intro r g hg
    rw [hl] at hg
    rw [hU]
    match r with
    | 0 => exact (by decide +kernel :
        ∀ g ∈ ([0, 2, 6] : List Int), shiftId exIdWorld.old (exIdWorld.off 0) g ∉ ([1, 4, 7] : List Int)) g hg
    | 1 => exact (by decide +kernel :
        ∀ g ∈ ([2, 3, 5] : List Int), shiftId exIdWorld.old (exIdWorld.off 1) g ∉ ([1, 4, 7] : List Int)) g hg
    | 2 => exact (by decide +kernel :
        ∀ g ∈ ([0, 5, 6] : List Int), shiftId exIdWorld.old (exIdWorld.off 2) g ∉ ([1, 4, 7] : List Int)) g hg
    | n + 3 => exact absurd hg List.not_mem_nil
  · rw [hU, hM]
    intro x h0 h9 hx
    have key : ∀ i : Nat, i < 9 → (i : Int) ∉ ([1, 4, 7] : List Int) → ∃ r ∈ [0, 1, 2],
        ∃ g ∈ exIdWorld.liveOf r, shiftId exIdWorld.old (exIdWorld.off r) g = (i : Int) := by decide +kernel
    obtain ⟨r, _, g, hg, he⟩ := key x.toNat (by omega) (by rwa [Int.toNat_of_nonneg h0])
    exact ⟨r, g, hg, by rw [he, Int.toNat_of_nonneg h0]⟩

/-- the literal world-level model on the same 3-rank world (per rank: `global[]`, the sorted pairs, the unused
    array): the tables it produces are the `newId` tables, `n_global = N = 6` and no unused ids remain -/
def mkIds (old new : Int) (glob : List Int) (sorted : List (Int × Nat)) (unused : List Int) : NodeIds :=
  { n := sorted.length, blank := -1, global := glob, part := [], sorted := sorted, unusedStk := unused.reverse,
    maxUnused := 0, oldN := old, newN := new }

def exWorld : List NodeIds :=
  [mkIds 6 8 [6, 0, 2] [(0, 1), (2, 2), (6, 0)] [1, 4, 7],
   mkIds 6 6 [2, 5, -1, 3] [(2, 0), (3, 3), (5, 1)] [],
   mkIds 6 7 [0, 5, 6] [(0, 0), (5, 1), (6, 2)] []]

example : (syncGlobals exWorld).map liveTable
      = [[(0, exIdWorld.newId 0 6), (1, exIdWorld.newId 0 0), (2, exIdWorld.newId 0 2)],
         [(0, exIdWorld.newId 1 2), (1, exIdWorld.newId 1 5), (3, exIdWorld.newId 1 3)],
         [(0, exIdWorld.newId 2 0), (1, exIdWorld.newId 2 5), (2, exIdWorld.newId 2 6)]]
    ∧ (syncGlobals exWorld).map (fun s => (s.oldN, s.newN, s.nUnused)) = [(6, 6, 0), (6, 6, 0), (6, 6, 0)]
    ∧ exIdWorld.N = 6 := by decide +kernel

/-- **sync_bijection** (C06 headline, full strength).  For every world of per-rank id states `w` satisfying
    `SyncInv old w` — every rank has `old_n_global = old ≤ new_n_global`, `sorted_global` is non-decreasing, and the
    abstraction `absWorld old w` (fresh-id counts, live ids, unused ids) satisfies the id invariant `IdInv` — the
    loop-by-loop model of `ref_node_synchronize_globals` (allgather of fresh counts, shift, sort, allgather of
    unused counts, slice loop with allgatherv and the two-pointer walks, write-back) ends on every rank `r` in the
    closed-form state `finalRank`: `sorted_global[i] = newId r (old sorted_global[i])`, no unused ids,
    `old_n_global = new_n_global = N`; and `newId` is strictly monotone on every rank, identical on every rank for
    a shared id, orders fresh ids after shared ones and by rank (so it is injective on vertices), lands in `[0,N)`
    and is onto `[0,N)`. -/
theorem sync_bijection (old : Int) (w : List NodeIds) (h : SyncInv old w) :
    syncGlobals w = w.mapIdx (fun r s => finalRank (absWorld old w) r s) ∧
    (∀ r g g', g ∈ (absWorld old w).liveOf r → g' ∈ (absWorld old w).liveOf r → g < g' →
        (absWorld old w).newId r g < (absWorld old w).newId r g') ∧
    (∀ r q g, g < old → (absWorld old w).newId r g = (absWorld old w).newId q g) ∧
    (∀ r q g g', g ∈ (absWorld old w).liveOf r → g' ∈ (absWorld old w).liveOf q → g < old → old ≤ g' →
        (absWorld old w).newId r g < (absWorld old w).newId q g') ∧
    (∀ r q g g', r < q → g ∈ (absWorld old w).liveOf r → g' ∈ (absWorld old w).liveOf q → old ≤ g → old ≤ g' →
        (absWorld old w).newId r g < (absWorld old w).newId q g') ∧
    (∀ r g, g ∈ (absWorld old w).liveOf r →
        0 ≤ (absWorld old w).newId r g ∧ (absWorld old w).newId r g < (absWorld old w).N) ∧
    (∀ k, 0 ≤ k → k < (absWorld old w).N →
        ∃ r g, g ∈ (absWorld old w).liveOf r ∧ (absWorld old w).newId r g = k) :=
  ⟨syncGlobals_eq old w h, newId_bijection (absWorld old w) h.inv⟩

/-- what the caller reads after the call: on rank `r` every live slot `l` (paired with its old id `g` in the
    sorted arrays, the slots of the sorted arrays being distinct and inside `global[]`) holds `newId r g`; the
    unused list is empty and both counters equal `N` -/
theorem sync_table (old : Int) (w : List NodeIds) (h : SyncInv old w) (r : Nat) (hr : r < w.length)
    (hnd : ((w[r]).sorted.map (·.2)).Nodup) (g : Int) (l : Nat) (hm : (g, l) ∈ (w[r]).sorted)
    (hl : l < (w[r]).global.length) :
    ((syncGlobals w)[r]'(by rw [syncGlobals_eq old w h]; simpa using hr)).global.getD l (-1)
        = (absWorld old w).newId r g ∧
    ((syncGlobals w)[r]'(by rw [syncGlobals_eq old w h]; simpa using hr)).unusedStk = [] ∧
    ((syncGlobals w)[r]'(by rw [syncGlobals_eq old w h]; simpa using hr)).oldN = (absWorld old w).N ∧
    ((syncGlobals w)[r]'(by rw [syncGlobals_eq old w h]; simpa using hr)).newN = (absWorld old w).N := by
  exact syncGlobals_table h (List.getElem?_eq_getElem hr) (List.getElem?_eq_getElem _) hnd hm hl

/-- non-vacuity: the 3-rank world `exWorld` above satisfies the hypotheses of `sync_bijection` -/
example : SyncInv 6 exWorld := by
  refine ⟨by decide, by decide, by decide, ?_⟩
  have : absWorld 6 exWorld = exIdWorld := rfl
  rw [this]
  exact exIdInv

/-- `ref_cell_part_cell_node` picks a vertex of the cell whose global id is the smallest -/
theorem cellPartNode_min (gs : List Int) (hne : gs ≠ []) :
    cellPartNode gs < gs.length ∧ ∀ x ∈ gs, gs.getD (cellPartNode gs) 0 ≤ x :=
  Refine.Lemmas.Dist.cellPartNode_min gs hne

/-- `cellOwner` well-defined: the owner of a cell is the `part` of one of its vertices, that vertex has the
    smallest global id of the cell, and nothing else enters — so (next theorem) every rank that stores the
    cell computes the same owner: exactly one owner. -/
theorem cellOwner_unique (verts : List (Int × Int)) (hne : verts ≠ []) :
    ∃ v ∈ verts, cellOwner verts = v.2 ∧ ∀ u ∈ verts, v.1 ≤ u.1 :=
  Refine.Lemmas.Dist.cellOwner_min verts hne

/-- two ranks that agree on the `part` of the cell's vertices (clause (i) of `distInv`) compute the same owner -/
theorem cellOwner_agree (s t : RankState) (c : DCell) (h : ∀ g ∈ c.nodes, s.partOf g = t.partOf g) :
    s.ownerOf c = t.ownerOf c := by
  unfold RankState.ownerOf RankState.cellVerts
  congr 1
  apply List.map_congr_left
  intro g hg
  rw [h g hg]

example : cellOwner [(7, 0), (3, 2), (9, 1), (5, 1)] = 2 ∧ cellPartNode [7, 3, 9, 5] = 1 := by decide

/-- the store loop at the end of `ref_node_ghost_*`: the literal `foldl storeVals` over the received
    `(global, values)` pairs gives every named entry exactly the received values and leaves every other entry (all
    owned ones) unchanged.  The whole call, with the `alltoall` of bucket sizes and the two `alltoallv` exchanges, is
    `Refine.Props.C06Ghost.ghostRefresh_spec`. -/
theorem ghostRefresh_spec_partial {β : Type} (ps : List (Int × List β)) (nodes : List (GNode β))
    (hnd : (nodes.map (·.glob)).Nodup) (hps : (ps.map (·.1)).Nodup) :
    ps.foldl (fun ns gi => storeVals ns gi.1 gi.2) nodes
      = nodes.map fun nd => match ps.find? (fun gv => gv.1 == nd.glob) with
          | some gv => { nd with vals := gv.2 }
          | none => nd :=
  Refine.Lemmas.DistGhost.foldl_storeVals ps nodes hnd hps

example : [(4, [40, 41]), (7, [70, 71])].foldl (fun ns gi => storeVals ns gi.1 gi.2)
      [(⟨1, 0, [10, 11]⟩ : GNode Int), ⟨4, 1, [0, 0]⟩, ⟨7, 2, [0, 0]⟩]
    = [⟨1, 0, [10, 11]⟩, ⟨4, 1, [40, 41]⟩, ⟨7, 2, [70, 71]⟩] := by decide +kernel

/-- the literal model of `ref_node_ghost_int` (alltoall of the bucket sizes, alltoallv of the requested globals,
    reply alltoallv, store) on a concrete 3-rank world: afterwards every ghost entry equals the owner's entry and the
    owned entries are unchanged -/
example : ghost Refine.Model.Comm.RefType.int 2
    [[⟨1, 0, [10, 11]⟩, ⟨4, 1, [0, 0]⟩, ⟨7, 2, [0, 0]⟩], [⟨4, 1, [40, 41]⟩, ⟨1, 0, [5, 5]⟩],
     [⟨7, 2, [70, 71]⟩, ⟨4, 1, [9, 9]⟩]]
  = some [[⟨1, 0, [10, 11]⟩, ⟨4, 1, [40, 41]⟩, ⟨7, 2, [70, 71]⟩], [⟨4, 1, [40, 41]⟩, ⟨1, 0, [10, 11]⟩],
          [⟨7, 2, [70, 71]⟩, ⟨4, 1, [40, 41]⟩]] := by decide +kernel

/-- **counts_sum**: in every world satisfying `distInv` the owned vertices of the ranks, summed, are pairwise
    distinct global ids, the cells attributed to each rank by `cellOwner`, summed, are pairwise distinct and as
    many as there are distinct cells; and once the ids are synchronised the summed owned-vertex count equals
    `n_global` on every rank and the owned ids are exactly `0 … n_global-1`. -/
theorem counts_sum (w : List RankState) (h : distInv w = true) :
    (w.zipIdx.map fun sr => (sr.1.ownedNodes sr.2).length).sum = (ownedGlobals w).length ∧
    (ownedGlobals w).Nodup ∧
    (w.zipIdx.map fun sr => (sr.1.ownedCells sr.2).length).sum = (allCells w).length ∧
    (ownedCellsAll w).Nodup ∧
    (synced w = true →
      (∀ s ∈ w, s.newN = ((w.zipIdx.map fun sr => (sr.1.ownedNodes sr.2).length).sum : Nat)) ∧
      sortGlob (ownedGlobals w) = (List.range (ownedGlobals w).length).map fun (i : Nat) => (i : Int)) := by
  obtain ⟨hn1, hn2, hlen, hsync⟩ := (Refine.Lemmas.DistClauses.clauseCounts_iff w).mp
    ((Refine.Lemmas.DistClauses.distInv_iff w).mp h).2.2.2.2.2.2
  have hsum1 : (w.zipIdx.map fun sr => (sr.1.ownedNodes sr.2).length).sum = (ownedGlobals w).length := by
    simp only [ownedGlobals, List.length_flatten, List.map_map]
    congr 1; apply List.map_congr_left; intro sr _; simp
  have hsum2 : (w.zipIdx.map fun sr => (sr.1.ownedCells sr.2).length).sum = (ownedCellsAll w).length := by
    simp only [ownedCellsAll, List.length_flatten, List.map_map]
    congr 1
  exact ⟨hsum1, hn1, by rw [hsum2, hlen], hn2, fun hs => hsum1 ▸ hsync hs⟩

/-- non-vacuity: a 2-rank world (two tets sharing a face, vertices 0,1 owned by rank 0 and 2,3,4 by rank 1, both tets
    stored on both ranks; a boundary triangle touching only rank 1's vertices is stored there only) satisfies `distInv` and is synchronised -/
def exDist : List RankState :=
  [{ nodes := [⟨0, 0, [10]⟩, ⟨1, 0, [11]⟩, ⟨2, 1, [12]⟩, ⟨3, 1, [13]⟩, ⟨4, 1, [14]⟩],
     cells := [⟨8, [0, 1, 2, 3], 0⟩, ⟨8, [1, 2, 4, 3], 0⟩], oldN := 5, newN := 5, nUnused := 0 },
   { nodes := [⟨2, 1, [12]⟩, ⟨3, 1, [13]⟩, ⟨4, 1, [14]⟩, ⟨0, 0, [10]⟩, ⟨1, 0, [11]⟩],
     cells := [⟨8, [0, 1, 2, 3], 0⟩, ⟨8, [1, 2, 4, 3], 0⟩, ⟨3, [2, 3, 4], 7⟩], oldN := 5, newN := 5, nUnused := 0 }]

example : distInv exDist = true ∧ synced exDist = true ∧ (ownedGlobals exDist).length = 5 ∧
    (allCells exDist).length = 3 := by decide +kernel

end Refine.Props.C06
