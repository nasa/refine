import Refine.Lemmas.NodeIdsAddMany
import Refine.Lemmas.CellStore

/-!
  C14 part B (and the id-bookkeeping clause of C13): the vertex-id state machine of `ref_node.c` and the
  cell store of `ref_cell.c` behave like their abstract map / set models, for every operation sequence.
  The node invariant comes in two strengths: `NodeInv` (step language `Op`), and `WeakInv`, what is left while the
  sorted index is stale (step language `WOp`: the removals and the pool operations); `rebuild_sorted_global` is the way
  back (`node_rebuild_restores`).  The cell store has one, `CellInv` (`COp`).

  Modelled and tied to the C by the `nodecell` streams but without a theorem: `ref_node_compact/pack`
  (`abs (pack o2n n2o s) = rename o2n (abs s)` is not proved; the map of `ref_node_stable_compact`:
  `stableCompact_packMap` in `Props/C05Pack.lean`), `ref_cell_compact/pack`, `ref_cell_has_side`,
  `ref_cell_node_list_around`, `ref_cell_id_list_around`.  The heap sort of `rebuild_sorted_global` / `add_many` is the
  literal C loop passed through a proved checker (`sortIdx`), and the theorems use the checker's specification only;
  C14 part A proves the heap sort of `Model/ContainersSort.lean`, another transcription, and nothing relates the two.
-/
namespace Refine.Props.C14NodeCell
open Refine.Model.NodeIds
open Refine.Model.NodeIds.NodeIds

/-- `NodeInv` (free list acyclic and exactly the invalid slots, `n` = number of valid slots;
    `sorted_global` strictly increasing, `global[sorted_local[i]] = sorted_global[i]`, every valid slot
    listed, length `n`) holds after `ref_node_create` -/
theorem node_create_inv : NodeInv create := by
  refine ⟨⟨FreeList.grow FreeList.nil (chunk := 20) (by omega), by decide⟩, ?_, ?_, ?_, rfl⟩
  · simp [create, keys]
  · simp [create]
  · -- the fresh array holds nothing
    intro v hv
    have := (holds_append (g := []) (t := freeRun 0 20) mem_freeRun_neg).1 (.of_getD hv)
    exact absurd this.lt_length (Nat.not_lt_zero _)

/-- `ref_node_add` of a non-negative global succeeds and preserves `NodeInv` (growth branch included) -/
theorem node_add_preserves {s : NodeIds} (h : NodeInv s) {g : Int} (hg : 0 ≤ g) :
    (s.add g).1 = .ok ∧ NodeInv (s.add g).2.2 := add_NodeInv h hg

/-- a negative global is rejected with `REF_INVALID` and the state is untouched -/
theorem node_add_negative_rejected (s : NodeIds) {g : Int} (hg : g < 0) : s.add g = (.invalid, 0, s) :=
  add_neg hg

/-- `ref_node_remove` of a valid slot succeeds and preserves `NodeInv` -/
theorem node_remove_preserves {s : NodeIds} (h : NodeInv s) {node : Int} (hv : s.validSlot node = true) :
    (s.remove node).1 = .ok ∧ NodeInv (s.remove node).2 := remove_NodeInv h hv

/-- an invalid slot is rejected with `REF_INVALID` and the state is untouched -/
theorem node_remove_invalid_rejected (s : NodeIds) {node : Int} (hv : s.validSlot node = false) :
    s.remove node = (.invalid, s) := by simp [remove, hv]

/-- `ref_node_remove_without_global` preserves `NodeInv` -/
theorem node_remove_without_global_preserves {s : NodeIds} (h : NodeInv s) {node : Int}
    (hv : s.validSlot node = true) :
    (s.removeWithoutGlobal node).1 = .ok ∧ NodeInv (s.removeWithoutGlobal node).2 :=
  removeWithoutGlobal_NodeInv h hv

/-- the two `*_invalidates_sorted` removals keep the free-list half of the invariant and the distinctness
    of live globals (`WeakInv`); the sorted arrays are stale until the next rebuild, as the names say -/
theorem node_remove_invalidates_sorted_weak {s : NodeIds} (h : WeakInv s) {node : Int}
    (hv : s.validSlot node = true) :
    ((s.removeInvalidatesSorted node).1 = .ok ∧ WeakInv (s.removeInvalidatesSorted node).2) ∧
    ((s.removeWithoutGlobalInvalidatesSorted node).1 = .ok ∧
      WeakInv (s.removeWithoutGlobalInvalidatesSorted node).2) :=
  ⟨⟨by simp [removeInvalidatesSorted, hv], (removals_WeakInv h node).removeInvalidatesSorted⟩,
    ⟨by simp [removeWithoutGlobalInvalidatesSorted, hv], (removals_WeakInv h node).removeWithoutGlobalInvalidatesSorted⟩⟩

/-- `ref_node_rebuild_sorted_global` re-establishes the full `NodeInv` from `WeakInv` -/
theorem node_rebuild_restores {s : NodeIds} (h : WeakInv s) : NodeInv s.rebuild := rebuild_NodeInv h

/-- the pool operations do not touch the slot arrays -/
theorem node_pool_ops_preserve {s : NodeIds} (h : NodeInv s) (g k : Int) :
    NodeInv (s.pushUnused g) ∧ NodeInv s.popUnused.2.2 ∧ NodeInv (s.initNGlobal k) ∧
      NodeInv s.nextGlobal.2.2 := by
  refine ⟨h.congr rfl rfl rfl rfl, ?_, h.congr rfl rfl rfl rfl, ?_⟩
  · unfold popUnused; split
    · exact h
    · exact h.congr rfl rfl rfl rfl
  · have k := nextGlobal_keeps s
    exact h.congr k.global k.blank k.n k.sorted

/-- `ref_node_add_many` on a list with no entry below `REF_EMPTY` (such an entry makes the C return
    `REF_INVALID` *before* `rebuild_sorted_global`, leaving uninitialised `sorted_*` entries): succeeds,
    re-establishes `NodeInv`, makes exactly `old ∪ {x ∈ list | 0 ≤ x}` live (duplicates in the list and
    globals that are already live are absorbed), moves no live slot, leaves the pool alone -/
theorem node_add_many_preserves_and_refines {s : NodeIds} (h : NodeInv s) {orig : List Int}
    (hge : ∀ x ∈ orig, -1 ≤ x) :
    (s.addMany orig).1 = .ok ∧ NodeInv (s.addMany orig).2 ∧
      (∀ x, (s.addMany orig).2.abs.live x ≠ none ↔ s.abs.live x ≠ none ∨ (x ∈ orig ∧ 0 ≤ x)) ∧
      (∀ v, 0 ≤ s.global.getD v (-1) → (s.addMany orig).2.global.getD v (-1) = s.global.getD v (-1)) ∧
      (∀ x, (s.addMany orig).2.abs.pool x ↔ (if s.newN = -1 then
          x ∈ s.unusedStk ∨ ((s.addMany orig).2.n : Int) ≤ x else s.abs.pool x)) := by
  obtain ⟨h1, h2, _, h3, h4, h5, h6, _⟩ := addMany_spec h hge
  refine ⟨h1, h2, ?_, h4, ?_⟩
  · intro x
    rw [abs_live, abs_live, ← liveSet_iff_liveSlot h2, ← liveSet_iff_liveSlot h, h3 x, List.mem_filter,
      decide_eq_true_eq]
  · intro x
    simp only [NodeIds.abs, NodeIds.effNew, h5, h6]
    split <;> rfl

/-- counts exact: `n` is the number of valid slots (and the length of the sorted arrays) -/
theorem node_count_exact {s : NodeIds} (h : NodeInv s) :
    s.n = s.global.countP (fun x => decide (0 ≤ x)) ∧ s.sorted.length = s.n :=
  ⟨h.free.count, h.srt.len⟩

/-- operations of the state machine under the full invariant.  `invalidateThenRebuild` packages the
    `*_invalidates_sorted` removals with the `rebuild_sorted_global` that has to follow before the sorted arrays
    are read again (`WOp` below covers their free interleaving under the weaker invariant).  `addMany` carries the
    argument guard under which the C completes (no entry below `REF_EMPTY`). -/
inductive Op
  | add (g : Int) | addMany (gs : List Int) | remove (v : Int) | removeWithoutGlobal (v : Int)
  | nextGlobal | pushUnused (g : Int) | popUnused | initNGlobal (k : Int) | rebuild
  | invalidateThenRebuild (vs : List (Bool × Int))

def invalidateAll : NodeIds → List (Bool × Int) → NodeIds
  | s, [] => s
  | s, (wog, v) :: rest =>
    invalidateAll (if wog then (s.removeWithoutGlobalInvalidatesSorted v).2
                   else (s.removeInvalidatesSorted v).2) rest

def step (s : NodeIds) : Op → NodeIds
  | .add g => (s.add g).2.2
  | .addMany gs => if gs.all (fun x => decide (-1 ≤ x)) then (s.addMany gs).2 else s
  | .remove v => (s.remove v).2
  | .removeWithoutGlobal v => (s.removeWithoutGlobal v).2
  | .nextGlobal => s.nextGlobal.2.2
  | .pushUnused g => s.pushUnused g
  | .popUnused => s.popUnused.2.2
  | .initNGlobal k => s.initNGlobal k
  | .rebuild => s.rebuild
  | .invalidateThenRebuild vs => (invalidateAll s vs).rebuild

theorem invalidateAll_weak : ∀ (vs : List (Bool × Int)) {s : NodeIds}, WeakInv s → WeakInv (invalidateAll s vs)
  | [], _, h => h
  | (wog, v) :: rest, s, h => by
    unfold invalidateAll
    apply invalidateAll_weak rest
    cases wog
    · exact (removals_WeakInv h v).removeInvalidatesSorted
    · exact (removals_WeakInv h v).removeWithoutGlobalInvalidatesSorted

/-- every operation preserves `NodeInv` (error statuses leave the state unchanged) -/
theorem node_step_preserves {s : NodeIds} (h : NodeInv s) (o : Op) : NodeInv (step s o) := by
  cases o with
  | add g =>
    rcases Int.lt_or_le g 0 with hg | hg
    · simp only [step, add_neg hg]; exact h
    · exact (add_NodeInv h hg).2
  | addMany gs =>
    simp only [step]; split
    next hall =>
      exact (addMany_spec h (by simpa using hall)).2.1
    · exact h
  | remove v =>
    cases hv : s.validSlot v with
    | true => exact (remove_NodeInv h hv).2
    | false => simp only [step, node_remove_invalid_rejected s hv]; exact h
  | removeWithoutGlobal v =>
    cases hv : s.validSlot v with
    | true => exact (removeWithoutGlobal_NodeInv h hv).2
    | false => simp only [step, removeWithoutGlobal, hv]; exact h
  | nextGlobal => exact (node_pool_ops_preserve h 0 0).2.2.2
  | pushUnused g => exact (node_pool_ops_preserve h g 0).1
  | popUnused => exact (node_pool_ops_preserve h 0 0).2.1
  | initNGlobal k => exact (node_pool_ops_preserve h 0 k).2.2.1
  | rebuild => exact rebuild_NodeInv h.weak
  | invalidateThenRebuild vs => exact rebuild_NodeInv (invalidateAll_weak vs h.weak)

/-- **NodeInv for every operation sequence**, by induction over the sequence -/
theorem node_inv_all_sequences (ops : List Op) : NodeInv (ops.foldl step create) :=
  List.foldlRecOn ops step node_create_inv fun _ h o _ => node_step_preserves h o

/-- operations that are safe on the weaker invariant (no use of the sorted arrays) -/
inductive WOp
  | remove (v : Int) | removeWithoutGlobal (v : Int) | removeInvalidatesSorted (v : Int)
  | removeWithoutGlobalInvalidatesSorted (v : Int)
  | nextGlobal | pushUnused (g : Int) | popUnused | initNGlobal (k : Int)

def wstep (s : NodeIds) : WOp → NodeIds
  | .remove v => (s.remove v).2
  | .removeWithoutGlobal v => (s.removeWithoutGlobal v).2
  | .removeInvalidatesSorted v => (s.removeInvalidatesSorted v).2
  | .removeWithoutGlobalInvalidatesSorted v => (s.removeWithoutGlobalInvalidatesSorted v).2
  | .nextGlobal => s.nextGlobal.2.2
  | .pushUnused g => s.pushUnused g
  | .popUnused => s.popUnused.2.2
  | .initNGlobal k => s.initNGlobal k

theorem WeakInv_congr {a b : NodeIds} (h : WeakInv a) (hg : b.global = a.global) (hb : b.blank = a.blank)
    (hn : b.n = a.n) : WeakInv b :=
  ⟨h.free.congr hg hb hn, by intro v w; rw [hg]; exact h.distinct v w⟩

/-- the free-list half of the invariant (and distinctness of live globals) survives **every** removal,
    also the ones that are applied while the sorted arrays are stale (`remove` then either fails with
    `REF_NOT_FOUND`, state unchanged, or frees the slot), and every pool operation -/
theorem node_weak_step_preserves {s : NodeIds} (h : WeakInv s) (o : WOp) : WeakInv (wstep s o) := by
  cases o with
  | remove v => exact (removals_WeakInv h v).remove
  | removeWithoutGlobal v => exact (removals_WeakInv h v).removeWithoutGlobal
  | removeInvalidatesSorted v => exact (removals_WeakInv h v).removeInvalidatesSorted
  | removeWithoutGlobalInvalidatesSorted v => exact (removals_WeakInv h v).removeWithoutGlobalInvalidatesSorted
  | nextGlobal =>
    have k := nextGlobal_keeps s
    exact WeakInv_congr h k.global k.blank k.n
  | pushUnused g => exact WeakInv_congr h rfl rfl rfl
  | popUnused =>
    simp only [wstep, popUnused]; split
    · exact h
    · exact WeakInv_congr h rfl rfl rfl
  | initNGlobal k => exact WeakInv_congr h rfl rfl rfl

/-- `WeakInv` along every sequence of removals / pool operations starting from any `NodeInv` state;
    `rebuild_sorted_global` then restores `NodeInv` (`node_rebuild_restores`) -/
theorem node_weak_inv_all_sequences {s : NodeIds} (h : NodeInv s) (ops : List WOp) :
    WeakInv (ops.foldl wstep s) ∧ NodeInv (ops.foldl wstep s).rebuild :=
  have hw := List.foldlRecOn ops wstep h.weak fun _ ht o _ => node_weak_step_preserves ht o
  ⟨hw, rebuild_NodeInv hw⟩

/-- `ref_node_local g` returns the slot holding `g` iff `g` is live, `REF_NOT_FOUND` otherwise -/
theorem node_local_iff_live {s : NodeIds} (h : NodeInv s) (g : Int) :
    s.localOf g = match s.abs.live g with
      | some v => (.ok, (v : Int))
      | none => (.not_found, -1) := by
  rw [abs_live]
  unfold localOf
  cases hs : searchGlob s.keys g with
  | none => rw [(search_none_iff_liveSlot h).1 hs]
  | some loc => rw [liveSlot_of_search h hs]

/-- the live map is a map: the slot of a live global is the unique valid slot holding it -/
theorem node_live_spec {s : NodeIds} (h : NodeInv s) {g : Int} {v : Nat} :
    s.abs.live g = some v ↔ 0 ≤ g ∧ s.global.getD v (-1) = g := liveSlot_eq_some_iff h

/-- `add` refines map insert: `live' = live[g ↦ returned slot]` (the returned slot is the old one when `g`
    was already live), and no slot that was live is disturbed (frame) -/
theorem node_add_refines {s : NodeIds} (h : NodeInv s) {g : Int} (hg : 0 ≤ g) :
    (∀ x, (s.add g).2.2.abs.live x = if x = g then some (s.add g).2.1 else s.abs.live x) ∧
    (∀ v, 0 ≤ s.global.getD v (-1) → (s.add g).2.2.global.getD v (-1) = s.global.getD v (-1)) :=
  ⟨add_live h hg, fun _ hv => add_frame h hg hv⟩

/-- `remove` refines map erase, pushes the global id into the pool, and touches no other slot (frame) -/
theorem node_remove_refines {s : NodeIds} (h : NodeInv s) {node : Int} (hv : s.validSlot node = true) :
    (∀ x, (s.remove node).2.abs.live x =
        if x = s.global.getD node.toNat (-1) then none else s.abs.live x) ∧
    (s.newN ≠ -1 → ∀ x, (s.remove node).2.abs.pool x ↔ x = s.global.getD node.toNat (-1) ∨ s.abs.pool x) ∧
    (∀ w, w ≠ node.toNat → (s.remove node).2.global.getD w (-1) = s.global.getD w (-1)) := by
  refine ⟨remove_live h hv, ?_, fun w hw => remove_frame h hv hw⟩
  intro hnew x
  have hf := remove_fields h hv
  simp only [NodeIds.abs, NodeIds.effNew, hf.unused, hf.newN, hnew, if_false, List.mem_cons, or_assoc]

/-- slot reuse: the slot freed by `remove` is the one the next `add` of a new global returns -/
theorem node_slot_reuse {s : NodeIds} (h : NodeInv s) {node : Int} (hv : s.validSlot node = true)
    {g : Int} (hg : 0 ≤ g) (hnew : (s.remove node).2.abs.live g = none) :
    ((s.remove node).2.add g).2.1 = node.toNat := by
  have h' := (remove_NodeInv h hv).2
  have hm := (search_none_iff_liveSlot h').2 hnew
  have hb := (remove_fields h hv).blank
  rw [add_miss hg hm]
  simp only [grow_eq, hb, index2next_ne_empty, if_false, next2index_index2next]

/-- `ref_node_next_global` succeeds and returns an id from the pool; under `PoolInv` that id is not live -/
theorem node_next_global_not_live (s : NodeIds) :
    s.nextGlobal.1 = .ok ∧ s.abs.pool s.nextGlobal.2.1 ∧
      (PoolInv s → s.abs.live s.nextGlobal.2.1 = none) :=
  ⟨(nextGlobal_mem_pool s).1, (nextGlobal_mem_pool s).2, fun hp => hp.fresh _ (nextGlobal_mem_pool s).2⟩

/-- **trial_vertex_roundtrip** (C13: "a rejected attempt withdraws the trial vertex and its global id"):
    `abs (remove (add (next_global s))) = abs s`, all three calls succeed, and `NodeInv` still holds -/
theorem trial_vertex_roundtrip {s : NodeIds} (h : NodeInv s) (hp : PoolInv s) :
    let r1 := s.nextGlobal
    let r2 := r1.2.2.add r1.2.1
    let r3 := r2.2.2.remove (r2.2.1 : Int)
    r1.1 = .ok ∧ r2.1 = .ok ∧ r3.1 = .ok ∧ NodeInv r3.2 ∧ r3.2.abs = s.abs := by
  dsimp only
  obtain ⟨hok1, hpool⟩ := nextGlobal_mem_pool s
  have hg0 := hp.nonneg _ hpool
  have hpool' := nextGlobal_pool s hg0
  have k := nextGlobal_keeps s
  have h1 : NodeInv s.nextGlobal.2.2 := h.congr k.global k.blank k.n k.sorted
  have hm : searchGlob s.nextGlobal.2.2.keys s.nextGlobal.2.1 = none :=
    (search_none_iff_liveSlot h1).2 (by rw [liveSlot_congr k.global]; exact hp.fresh _ hpool)
  have hst := add_miss_stores h1 hg0 hm
  have h2 := add_miss_NodeInv h1 hg0 hm
  have hn : (s.nextGlobal.2.2.add s.nextGlobal.2.1).2.2.n = s.n + 1 := by rw [add_miss hg0 hm, ← k.n]
  have hok2 := (add_NodeInv h1 hg0).1
  generalize s.nextGlobal.2.2 = s1 at *
  generalize s.nextGlobal.2.1 = g at *
  have ha := add_fields s1 g
  generalize (s1.add g).2.2 = s2 at *
  generalize (s1.add g).2.1 = node at *
  have hvalid : s2.validSlot (node : Int) = true := validSlot_of_getD (by rw [hst.stored.2]; exact hg0)
  obtain ⟨hok3, h3, hvac⟩ := remove_spec h2 hvalid
  have hr := remove_fields h2 hvalid
  have hu3 := hr.unused
  rw [Int.toNat_natCast, hst.stored.2] at hvac hu3
  refine ⟨hok1, hok2, hok3, h3, Abs.ext (fun x => ?_) (fun x => ?_)⟩
  · exact (liveSlot_ext h1.srt.distinct h3.srt.distinct fun w => hst.vacates_holds hvac w x).trans
      (liveSlot_congr k.global x)
  · rw [← hpool' x]
    show (x ∈ (s2.remove node).2.unusedStk ∨ (s2.remove node).2.effNew ≤ x) ↔ _
    simp only [NodeIds.abs, NodeIds.effNew, hu3, hr.newN, hr.n, hn, ha.unused, ha.newN, List.mem_cons, k.n,
      or_assoc]
    have : ((s.n + 1 - 1 : Nat) : Int) = (s.n : Int) := by simp
    rw [this]

/-- consequently the pool invariant itself survives the round trip -/
theorem trial_vertex_roundtrip_pool {s : NodeIds} (h : NodeInv s) (hp : PoolInv s) :
    PoolInv ((s.nextGlobal.2.2.add s.nextGlobal.2.1).2.2.remove
      ((s.nextGlobal.2.2.add s.nextGlobal.2.1).2.1 : Int)).2 := by
  have he := (trial_vertex_roundtrip h hp).2.2.2.2
  constructor
  · intro x hx; rw [he] at hx; exact hp.nonneg x hx
  · intro x hx
    rw [he] at hx
    rw [← abs_live, he]; exact hp.fresh x hx

/-- a concrete non-trivial state: three vertices 0,1,2 then vertex 1 removed and `n_global` initialised -/
def exState : NodeIds := ((((((create.add 0).2.2.add 1).2.2.add 2).2.2).initNGlobal 3).remove 1).2

/-- `exState` evaluated once; the examples below and in `Props/C13.lean` start from this value -/
theorem exState_eq : exState =
    { n := 2, blank := -3,
      global := [0, -5, 2, -6, -7, -8, -9, -10, -11, -12, -13, -14, -15, -16, -17, -18, -19, -20, -21, -1],
      part := List.replicate 20 0, sorted := [(0, 0), (2, 2)], unusedStk := [1], maxUnused := 10,
      oldN := 3, newN := 3 } := by decide

example : exState.n = 2 ∧ exState.keys = [0, 2] ∧ exState.unusedStk = [1] ∧ exState.blank = -3 := by
  rw [exState_eq]; decide

theorem exState_inv : NodeInv exState :=
  node_inv_all_sequences [.add 0, .add 1, .add 2, .initNGlobal 3, .remove 1]

example : NodeInv exState := exState_inv

/-- `add_many` with duplicates, an already-live global and a `REF_EMPTY` entry: hypotheses met, 7 becomes live -/
example : (exState.addMany [7, 2, 7, -1, 5]).1 = .ok ∧ (exState.addMany [7, 2, 7, -1, 5]).2.abs.live 7 ≠ none ∧
    NodeInv ([Op.add 0, .add 1, .add 2, .initNGlobal 3, .remove 1, .addMany [7, 2, 7, -1, 5]].foldl step create) := by
  have h := exState_inv
  have hs := node_add_many_preserves_and_refines h (orig := [7, 2, 7, -1, 5]) (by decide)
  exact ⟨hs.1, (hs.2.2.1 7).2 (Or.inr ⟨by decide, by decide⟩), node_inv_all_sequences _⟩

theorem exState_pool : PoolInv exState := by
  rw [exState_eq]
  constructor
  · intro x hx
    simp [NodeIds.abs, NodeIds.effNew] at hx
    omega
  · intro x hx
    simp [NodeIds.abs, NodeIds.effNew] at hx
    simp only [NodeIds.liveSlot]
    split
    · rfl
    · rw [List.idxOf?_eq_none_iff]
      simp only [List.mem_cons, List.not_mem_nil, or_false]
      omega

/-- the hypotheses of `trial_vertex_roundtrip` are met by `exState`; here the round trip re-uses the
    pooled id 1 and the freed slot 1 -/
example : (exState.nextGlobal).2.1 = 1 ∧ (exState.nextGlobal.2.2.add 1).2.1 = 1 ∧
    ((exState.nextGlobal.2.2.add 1).2.2.remove 1).2 = exState := by rw [exState_eq]; decide

example : NodeInv exState ∧ PoolInv exState :=
  ⟨exState_inv, exState_pool⟩

section Cell
open Refine.Model.CellStore
open Refine.Model.CellStore.CellStore

/-- `CellInv` (rows of length `size_per`; free list through `c2n[1]` acyclic and exactly the invalid rows;
    `n` = number of valid rows; nodes of valid cells non-negative; adjacency exact) holds after
    `ref_cell_create` for each of the 16 cell types of the generated tables -/
theorem cell_create_inv : ∀ t ∈ Refine.Gen.CellTables.all, CellInv (CellStore.create t) := by
  intro t ht
  have hall : Refine.Gen.CellTables.all.all (fun t => decide (2 ≤ t.nodePer)) = true := by decide
  exact create_CellInv t (by simpa using List.all_eq_true.1 hall t ht)

/-- `ref_cell_add` of `size_per` entries with non-negative nodes preserves `CellInv`; it succeeds unless the
    store sits at the `REF_INT_MAX/4` growth limit, where the C returns `REF_FAILURE` and changes nothing -/
theorem cell_add_preserves {s : CellStore} (h : CellInv s) {nodes : List Int}
    (hlen : nodes.length = s.sizePer) (hnn : ∀ v ∈ nodes.take s.nodePer, 0 ≤ v) :
    CellInv (s.add nodes).2.2 ∧ (s.max < MAX_LIMIT → (s.add nodes).1 = .ok) := by
  rcases add_spec h hlen hnn with ⟨_, hm, h1⟩ | ⟨t, _, _, h1, h2, _⟩ <;> rw [h1]
  · exact ⟨h, fun hlt => by omega⟩
  · exact ⟨h2, fun _ => rfl⟩

/-- `ref_cell_remove` of a valid cell succeeds and preserves `CellInv`; an invalid cell is rejected with
    `REF_INVALID` and the state is untouched -/
theorem cell_remove_preserves {s : CellStore} (h : CellInv s) (cell : Int) :
    (s.validCell cell = true → (s.remove cell).1 = .ok ∧ CellInv (s.remove cell).2) ∧
    (s.validCell cell = false → s.remove cell = (.invalid, s)) :=
  ⟨fun hv => remove_CellInv h hv, fun hv => CellStore.remove_invalid hv⟩

/-- `ref_cell_replace_whole`: succeeds on a valid cell, preserves `CellInv`, the row becomes `nodes`, every
    other row and the set of valid cells are unchanged -/
theorem cell_replace_whole_preserves {s : CellStore} (h : CellInv s) {cell : Int}
    (hv : s.validCell cell = true) {nodes : List Int} (hlen : nodes.length = s.sizePer)
    (hnn : ∀ v ∈ nodes.take s.nodePer, 0 ≤ v) :
    ∃ r, s.replaceWhole cell nodes = (.ok, r) ∧ CellInv r ∧ (∀ c, r.validCell c = s.validCell c) ∧
      (∀ c, c ≠ cell.toNat → r.row c = s.row c) ∧ r.row cell.toNat = nodes := by
  obtain ⟨r, hr, hrw, hrow⟩ := replaceWhole_spec h hv hlen hnn
  exact ⟨r, hr, hrw.inv, hrw.shape.valid, hrw.rows, hrow⟩

/-- **`ref_cell_replace_node` terminates and equals substitution.**  The C loop
    `while (ref_adj_valid(first[old]))` has no bound; the model's loop carries the fuel
    `length (cells around old)` and returns `none` if it runs out.  Under `CellInv` it never does: every
    iteration unlinks at least one item of `old`'s list.  The result is `old ↦ new` substituted in the node
    entries of every valid cell (ids and free rows untouched), `CellInv` preserved. -/
theorem cell_replace_node_terminates_and_substitutes {s : CellStore} (h : CellInv s) (old : Int) {new : Int}
    (hnew : 0 ≤ new) :
    ∃ r, s.replaceNode old new = some (.ok, r) ∧ CellInv r ∧ (∀ c, r.validCell c = s.validCell c) ∧
      r.n = s.n ∧
      ∀ c : Nat, r.row c =
        if s.validCell (c : Int) = true then substRow s.nodePer old new (s.row c) else s.row c := by
  obtain ⟨r, h1, h2, h3, h4⟩ := replaceNode_spec h old hnew
  exact ⟨r, h1, h2, h3.valid, h3.n, h4⟩

/-- **derived adjacency exact**: the cells reported around a vertex (`each_ref_cell_having_node`) are exactly
    the valid cells containing it, as a multiset (one report per occurrence) -/
theorem cell_adjacency_exact {s : CellStore} (h : CellInv s) (v c : Int) :
    (s.adj.first v).count c = (if s.validCell c = true then (s.cellNodes c).count v else 0) ∧
    (c ∈ s.adj.first v ↔ s.validCell c = true ∧ v ∈ s.cellNodes c) :=
  ⟨h.adj v c, mem_first_iff h⟩

/-- **`ref_cell_with`** finds a valid cell with the same vertex set iff one exists (and never reports
    `REF_INVALID`) -/
theorem cell_with_finds_iff_exists {s : CellStore} (h : CellInv s) {nodes : List Int}
    (hlen : nodes.length = s.nodePer) :
    (∃ c, s.withNodes nodes = (.ok, c) ∧ s.validCell c = true ∧ ∀ x, x ∈ s.cellNodes c ↔ x ∈ nodes) ∨
    (s.withNodes nodes = (.not_found, -1) ∧
      ¬ ∃ c, s.validCell c = true ∧ ∀ x, x ∈ s.cellNodes c ↔ x ∈ nodes) := by
  have htake : nodes.take s.nodePer = nodes := by rw [← hlen]; exact List.take_length
  have hvalid : ∀ c ∈ s.adj.first (nodes.getD 0 (-1)), s.validCell c = true :=
    fun c hc => ((mem_first_iff h).1 hc).1
  unfold withNodes
  rw [htake]
  rcases withLoop_spec (target := uniq nodes) _ hvalid with ⟨c, h1, h2, h3⟩ | ⟨h1, h2⟩
  · exact Or.inl ⟨c, h1, hvalid c h2, uniq_eq_iff.1 h3⟩
  · refine Or.inr ⟨h1, ?_⟩
    rintro ⟨c, hv, hset⟩
    have hpos : 0 < nodes.length := by rw [hlen]; exact h.np_pos
    have h0 : nodes.getD 0 (-1) ∈ nodes := by
      rw [List.getD_eq_getElem?_getD, List.getElem?_eq_getElem hpos]
      exact List.getElem_mem hpos
    have hc : c ∈ s.adj.first (nodes.getD 0 (-1)) := (mem_first_iff h).2 ⟨hv, (hset _).2 h0⟩
    exact h2 c hc (uniq_eq_iff.2 hset)

/-- counts exact: `n` is the number of valid rows -/
theorem cell_count_exact {s : CellStore} (h : CellInv s) :
    s.n = ((s.c2n.countP liveRow : Nat) : Int) := h.count

/-- counts exact for `ref_cell_degree_with2` / `ref_cell_list_with2`: the cells reported for a node pair are
    the valid cells containing both, once per (occurrence of `node0`) × (occurrence of `node1`);
    `degree_with2` is the length of that report, `list_with2` returns it unless it exceeds `max_cell` -/
theorem cell_with2_counts_exact {s : CellStore} (h : CellInv s) (n0 n1 : Int) :
    (∀ c, (s.having2 n0 n1).count c =
      if s.validCell c = true then (s.cellNodes c).count n0 * (s.cellNodes c).count n1 else 0) ∧
    s.degreeWith2 n0 n1 = (s.having2 n0 n1).length ∧
    (∀ m : Int, ((s.having2 n0 n1).length : Int) ≤ m → s.listWith2 n0 n1 m = (.ok, s.having2 n0 n1)) ∧
    (∀ m : Int, m < ((s.having2 n0 n1).length : Int) → (s.listWith2 n0 n1 m).1 = .increase_limit) := by
  refine ⟨having2_count h n0 n1, rfl, ?_, ?_⟩
  · intro m hm
    have : ¬ (((s.having2 n0 n1).length : Int) > m) := by omega
    simp [listWith2, this]
  · intro m hm
    have : ((s.having2 n0 n1).length : Int) > m := by omega
    simp [listWith2, this]

/-- frame: `add` returns an id that was not valid, stores exactly `nodes` there and leaves every valid cell
    alone; `remove` leaves every other valid cell alone -/
theorem cell_frame {s : CellStore} (h : CellInv s) :
    (∀ nodes : List Int, nodes.length = s.sizePer → (∀ v ∈ nodes.take s.nodePer, 0 ≤ v) →
      (s.add nodes).1 = .ok →
      s.validCell (s.add nodes).2.1 = false ∧
      (s.add nodes).2.2.cellNodes (s.add nodes).2.1 = nodes.take s.nodePer ∧
      ∀ c, s.validCell c = true →
        (s.add nodes).2.2.validCell c = true ∧ (s.add nodes).2.2.cellNodes c = s.cellNodes c) ∧
    (∀ cell, s.validCell cell = true → ∀ c, c ≠ cell → s.validCell c = true →
      (s.remove cell).2.validCell c = true ∧ (s.remove cell).2.cellNodes c = s.cellNodes c) := by
  constructor
  · intro nodes hlen hnn hok
    rcases add_spec h hlen hnn with ⟨_, _, h1⟩ | ⟨t, ht, _, heq, _, hs, hinvalid⟩
    · rw [h1] at hok; cases hok
    rw [heq]
    refine ⟨(ht.valid _).symm.trans hinvalid, by rw [hs.nodes hs.nonneg, if_pos rfl, ht.np], fun c hvc => ?_⟩
    have hvt : t.validCell c = true := (ht.valid c).trans hvc
    have hf := hs.frame (by rintro rfl; rw [hinvalid] at hvt; cases hvt) hvt
    exact ⟨hf.1, hf.2.trans (ht.nodes c hvc)⟩
  · intro cell hv c hc hvc
    rw [(remove_eq h hv).1]
    exact (remove_sets hv).frame hc hvc

/-- slot reuse: `remove` then `add` returns the freed cell id (and, by `cell_frame`, disturbs no other cell) -/
theorem cell_slot_reuse {s : CellStore} (h : CellInv s) {cell : Int} (hv : s.validCell cell = true)
    {nodes : List Int} (hlen : nodes.length = s.sizePer) (hnn : ∀ v ∈ nodes.take s.nodePer, 0 ≤ v) :
    ((s.remove cell).2.add nodes).1 = .ok ∧ ((s.remove cell).2.add nodes).2.1 = cell := by
  obtain ⟨_, hinv⟩ := remove_CellInv h hv
  rw [(remove_eq h hv).1] at hinv ⊢
  -- `removeResult s cell` has `blank = cell` and the sizes of `s`, by `rfl`
  have hb : (removeResult s cell).blank ≠ -1 := by
    show cell ≠ -1; have := (validCell_iff.1 hv).1; omega
  rcases add_spec hinv hlen hnn with ⟨hb', _⟩ | ⟨t, _, heq, h1, _⟩
  · exact absurd hb' hb
  · rw [h1, heq hb]; exact ⟨rfl, rfl⟩

/-- operations of the cell store with the argument guards under which the C is defined
    (`size_per` entries, non-negative node ids) -/
inductive COp
  | add (nodes : List Int) | remove (cell : Int)
  | replaceWhole (cell : Int) (nodes : List Int) | replaceNode (old new : Int)

def goodNodes (s : CellStore) (nodes : List Int) : Bool :=
  decide (nodes.length = s.sizePer) && (nodes.take s.nodePer).all fun v => decide (0 ≤ v)

def cstep (s : CellStore) : COp → CellStore
  | .add nodes => if goodNodes s nodes then (s.add nodes).2.2 else s
  | .remove cell => (s.remove cell).2
  | .replaceWhole cell nodes =>
    if goodNodes s nodes && s.validCell cell then (s.replaceWhole cell nodes).2 else s
  | .replaceNode old new =>
    if 0 ≤ new then (match s.replaceNode old new with | some r => r.2 | none => s) else s

theorem goodNodes_iff {s : CellStore} {nodes : List Int} :
    goodNodes s nodes = true ↔ nodes.length = s.sizePer ∧ ∀ v ∈ nodes.take s.nodePer, 0 ≤ v := by
  simp [goodNodes]

theorem cell_step_preserves {s : CellStore} (h : CellInv s) (o : COp) : CellInv (cstep s o) := by
  cases o with
  | add nodes =>
    simp only [cstep]; split
    next hg => obtain ⟨h1, h2⟩ := goodNodes_iff.1 hg; exact (cell_add_preserves h h1 h2).1
    · exact h
  | remove cell =>
    simp only [cstep]
    cases hv : s.validCell cell with
    | true => exact (remove_CellInv h hv).2
    | false => rw [CellStore.remove_invalid hv]; exact h
  | replaceWhole cell nodes =>
    simp only [cstep]; split
    next hg =>
      simp only [Bool.and_eq_true] at hg
      obtain ⟨h1, h2⟩ := goodNodes_iff.1 hg.1
      obtain ⟨r, hr, hrw, _⟩ := replaceWhole_spec h hg.2 h1 h2
      rw [hr]; exact hrw.inv
    · exact h
  | replaceNode old new =>
    simp only [cstep]; split
    next hnew =>
      obtain ⟨r, hr, hinv, _⟩ := replaceNode_spec h old hnew
      rw [hr]; exact hinv
    · exact h

/-- **CellInv for every operation sequence** on every cell type -/
theorem cell_inv_all_sequences (t : Refine.Gen.CellTables.CellType) (ht : t ∈ Refine.Gen.CellTables.all)
    (ops : List COp) : CellInv (ops.foldl cstep (CellStore.create t)) :=
  List.foldlRecOn ops cstep (cell_create_inv t ht) fun _ h o _ => cell_step_preserves h o

/-- two triangles sharing the edge 2-3, then vertex 3 replaced by 7 -/
def exCells : CellStore :=
  [COp.add [1, 2, 3, 10], COp.add [3, 2, 4, 11], COp.replaceNode 3 7].foldl cstep
    (CellStore.create Refine.Gen.CellTables.tri)

example : exCells.n = 2 ∧ exCells.row 0 = [1, 2, 7, 10] ∧ exCells.row 1 = [7, 2, 4, 11] ∧
    exCells.adj.first 7 = [0, 1] ∧ exCells.adj.first 3 = [] ∧ exCells.adj.first 2 = [1, 0] ∧
    exCells.withNodes [2, 4, 7] = (.ok, 1) ∧ exCells.withNodes [1, 2, 3] = (.not_found, -1) := by decide

example : CellInv exCells :=
  cell_inv_all_sequences _ (by decide) [COp.add [1, 2, 3, 10], COp.add [3, 2, 4, 11], COp.replaceNode 3 7]

/-- remove then add re-uses slot 0 on the example -/
example : ((exCells.remove 0).2.add [5, 6, 7, 12]).2.1 = 0 := by decide

end Cell

end Refine.Props.C14NodeCell
