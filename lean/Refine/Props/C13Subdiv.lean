import Refine.Lemmas.SubdivChain
import Refine.Lemmas.SubdivKids
import Refine.Lemmas.GeomReal
import Refine.Lemmas.Cavity2D
import Refine.Props.C15
import Mathlib.Tactic.Ring
import Mathlib.Tactic.Linarith
import Mathlib.Tactic.Positivity

/-!
  C13 / C04, `ref_subdiv.c`: the pattern templates of `ref_subdiv_split_tet/_tri/_edg` (model `Refine.Model.Subdiv`,
  tied to the C by the stream `subdiv_fn`).  Conformity is at chain level: the signed boundary of the children of a tet
  is the parent's boundary with each face replaced by the TRI template of that face's side marks, and that refinement of
  a face depends only on the face and its marks and flips sign with the face — so two tets sharing a face, split under
  whatever patterns, stay conforming.  The templates commute with relabelling, so every such statement is a check on
  the reference tet `(0,1,2,3)`.  With the new vertices at the midpoints each child has 1/2, 1/4 or 1/8 of the parent's
  volume; the pre-split positivity check evaluates exactly the cells the splitter creates.
-/
namespace Refine.Props.C13Subdiv
open Refine Refine.Model.Geom Refine.ScalarReal Refine.GeomReal
open Refine.Lemmas.Cavity Refine.Lemmas.Subdiv Refine.Model.Subdiv
open Refine.Model.Cavity (Face Tet Tri Edg tetFaces)

variable {G : Type} [AddCommGroup G]

theorem supported_cases {map : Nat} (h : supported map = true) :
    map = 0 ∨ map = 1 ∨ map = 2 ∨ map = 4 ∨ map = 8 ∨ map = 16 ∨ map = 32 ∨ map = 11 ∨ map = 56 ∨ map = 38 ∨
      map = 21 ∨ map = 63 := by
  simpa only [supported, isOneEdge, isFace, Bool.or_eq_true, beq_iff_eq, or_assoc] using h

/-- on the reference tet: the faces of the children and the refined boundary cancel in pairs -/
theorem templates_cancel {map : Nat} (hs : supported map = true) :
    cancels ((keepOr ⟨0, 1, 2, 3⟩ ((splitTetChildren btwI map ⟨0, 1, 2, 3⟩).getD [])).flatMap tetFaces)
      (refinedBoundary btwI map ⟨0, 1, 2, 3⟩) = true := by
  rcases supported_cases hs with rfl | rfl | rfl | rfl | rfl | rfl | rfl | rfl | rfl | rfl | rfl | rfl <;> decide +kernel

/-- **subdiv_tet_conforming.**  For every pattern `ref_subdiv_split_tet` implements, the children's signed boundary
    equals the parent's boundary refined face by face with the triangle template of the face's own side marks. -/
theorem subdiv_tet_conforming {φ : Int → Int → Int → G} (hφ : Alt φ) (btw : Int → Int → Int)
    (hb : ∀ x y, btw x y = btw y x) (map : Nat) (hs : supported map = true) (t : Tet) :
    faceSum φ ((keepOr t ((splitTetChildren btw map t).getD [])).flatMap tetFaces) =
      faceSum φ (refinedBoundary btw map t) := by
  rcases t with ⟨a, b, c, d⟩
  -- `(a,b,c,d)` is the reference tet `(0,1,2,3)` relabelled by `atoms`, and the templates commute with relabelling
  have H := atoms_carries btw hb a b c d
  have e : (⟨a, b, c, d⟩ : Tet) = mapTet (atoms btw a b c d) ⟨0, 1, 2, 3⟩ := rfl
  rw [e, kids_map map H, refinedBoundary_map map H, tetFaces_flatMap_map, faceSum_map, faceSum_map]
  exact sub_eq_zero.mp (cancels_sound (hφ.comp _) (templates_cancel hs))

/-- no face of a supported pattern has exactly two marked sides (so the tri template never makes a quad there) -/
theorem tet_face_marks (map : Nat) (hs : supported map = true) :
    ∀ row ∈ Refine.Gen.CellTables.tet.f2n, faceMarkCount map row ≠ 2 := by
  rcases supported_cases hs with rfl | rfl | rfl | rfl | rfl | rfl | rfl | rfl | rfl | rfl | rfl | rfl <;> decide

def markCount (m1 m2 m3 : Bool) : Nat := (if m1 then 1 else 0) + (if m2 then 1 else 0) + (if m3 then 1 else 0)

/-- `faceMarkCount` counts the side marks that `refinedBoundary` hands to `faceKids` for the face `row`: with
    `tet_face_marks`, every face of a supported pattern meets the hypothesis of `subdiv_face_reverse` / `_rotate` -/
theorem faceMarkCount_eq (map : Nat) (row : List Nat) :
    faceMarkCount map row =
      markCount (map.testBit (localEdge (row.getD 0 0) (row.getD 1 0)))
        (map.testBit (localEdge (row.getD 1 0) (row.getD 2 0))) (map.testBit (localEdge (row.getD 2 0) (row.getD 0 0))) :=
  rfl

/-- on the reference face `(0,1,2)`: the refinement and the refinement of the reversed face cancel; the refinement
    is the same from the next vertex -/
theorem faceKids_cancel : ∀ mab mbc mca : Bool, markCount mab mbc mca ≠ 2 →
    cancels (faceKids btwI mab mbc mca ⟨0, 1, 2⟩ ++ faceKids btwI mca mbc mab ⟨0, 2, 1⟩) [] = true ∧
      cancels (faceKids btwI mbc mca mab ⟨1, 2, 0⟩) (faceKids btwI mab mbc mca ⟨0, 1, 2⟩) = true := by
  decide +kernel

/-- **subdiv_face_reverse.**  The same face seen from the other side — `(a,c,b)` with its side marks in that order —
    is refined to the reversed triangles: the two refinements cancel, whatever tets (or ranks) they came from. -/
theorem subdiv_face_reverse {φ : Int → Int → Int → G} (hφ : Alt φ) (btw : Int → Int → Int)
    (hb : ∀ x y, btw x y = btw y x) (mab mbc mca : Bool) (h2 : markCount mab mbc mca ≠ 2) (a b c : Int) :
    faceSum φ (faceKids btw mab mbc mca ⟨a, b, c⟩ ++ faceKids btw mca mbc mab ⟨a, c, b⟩) = 0 := by
  have e1 : (⟨a, b, c⟩ : Face) = mapFace (atoms btw a b c 0) ⟨0, 1, 2⟩ := rfl
  have e2 : (⟨a, c, b⟩ : Face) = mapFace (atoms btw a b c 0) ⟨0, 2, 1⟩ := rfl
  rw [e1, e2, faceKids_map _ _ _ ((atoms_carries btw hb a b c 0).mono (by decide)),
    faceKids_map _ _ _ ((atoms_carries btw hb a b c 0).mono (by decide)), ← List.map_append, faceSum_map]
  simpa [faceSum] using cancels_sound (hφ.comp _) (faceKids_cancel mab mbc mca h2).1

/-- **subdiv_face_rotate.**  Listing the face from another vertex (with the marks rotated along) does not change
    the chain of its refinement. -/
theorem subdiv_face_rotate {φ : Int → Int → Int → G} (hφ : Alt φ) (btw : Int → Int → Int)
    (hb : ∀ x y, btw x y = btw y x) (mab mbc mca : Bool) (h2 : markCount mab mbc mca ≠ 2) (a b c : Int) :
    faceSum φ (faceKids btw mbc mca mab ⟨b, c, a⟩) = faceSum φ (faceKids btw mab mbc mca ⟨a, b, c⟩) := by
  have e1 : (⟨a, b, c⟩ : Face) = mapFace (atoms btw a b c 0) ⟨0, 1, 2⟩ := rfl
  have e2 : (⟨b, c, a⟩ : Face) = mapFace (atoms btw a b c 0) ⟨1, 2, 0⟩ := rfl
  rw [e1, e2, faceKids_map _ _ _ ((atoms_carries btw hb a b c 0).mono (by decide)),
    faceKids_map _ _ _ ((atoms_carries btw hb a b c 0).mono (by decide)), faceSum_map, faceSum_map]
  exact sub_eq_zero.mp (cancels_sound (hφ.comp _) (faceKids_cancel mab mbc mca h2).2)

/-- the share of the parent's volume every child of pattern `map` gets -/
noncomputable def tetRatio (map : Nat) : ℝ :=
  if map == 0 then 1 else if isOneEdge map then 1 / 2 else if isFace map then 1 / 4 else 1 / 8

theorem tetRatio_pos (map : Nat) : 0 < tetRatio map := by
  unfold tetRatio; split_ifs <;> norm_num

/-- `x` places the new vertex of every edge between two vertices of `ns` where `ref_subdiv_new_node` does:
    `ref_node_interpolate_edge(node0, node1, 0.5)`.  The pairs `a = b` are included (`x (btw a a) = x a`), which no
    template asks for and `Model.Subdiv.posOf` does not satisfy: it sends a code it does not know to the origin. -/
def MidPlacedOn (btw : Int → Int → Int) (x : Int → V3 ℝ) (ns : List Int) : Prop :=
  ∀ a ∈ ns, ∀ b ∈ ns, x (btw a b) = interpolateEdgeXyz (x a) (x b) (half : ℝ)

theorem interp_half (p q : V3 ℝ) :
    interpolateEdgeXyz p q (half : ℝ) = ⟨(p.x + q.x) / 2, (p.y + q.y) / 2, (p.z + q.z) / 2⟩ := by
  simp only [interpolateEdgeXyz, add_eq, sub_eq, mul_eq, half_eq, lit1_eq]
  congr 1 <;> ring

section points
open Refine.Props.C15
variable (a b c d : V3 ℝ)

/-- the even permutations of the vertices that occur in the templates, as products of two transpositions -/
theorem tetVol_even :
    tetVol d c b a = tetVol a b c d ∧ tetVol c b d a = tetVol a b c d ∧ tetVol c d a b = tetVol a b c d ∧
    tetVol d a c b = tetVol a b c d ∧ tetVol a d b c = tetVol a b c d ∧ tetVol b d c a = tetVol a b c d ∧
    tetVol a c d b = tetVol a b c d := by
  refine ⟨?_, ?_, ?_, ?_, ?_, ?_, ?_⟩
  · rw [tetVol_swap12, tetVol_swap03, neg_neg]
  · rw [tetVol_swap23, tetVol_swap02, neg_neg]
  · rw [tetVol_swap02, tetVol_swap13, neg_neg]
  · rw [tetVol_swap01, tetVol_swap13, neg_neg]
  · rw [tetVol_swap12, tetVol_swap23, neg_neg]
  · rw [tetVol_swap01, tetVol_swap03, neg_neg]
  · rw [tetVol_swap12, tetVol_swap13, neg_neg]

end points

theorem tetRatio_val :
    tetRatio 0 = 1 ∧ (tetRatio 1 = 1 / 2 ∧ tetRatio 2 = 1 / 2 ∧ tetRatio 4 = 1 / 2 ∧ tetRatio 8 = 1 / 2 ∧
      tetRatio 16 = 1 / 2 ∧ tetRatio 32 = 1 / 2) ∧
    (tetRatio 11 = 1 / 4 ∧ tetRatio 56 = 1 / 4 ∧ tetRatio 38 = 1 / 4 ∧ tetRatio 21 = 1 / 4) ∧ tetRatio 63 = 1 / 8 := by
  simp [tetRatio, isOneEdge, isFace]

set_option hygiene false in
macro "vol_case" k:ident : tactic => `(tactic| (
  rw [$k:ident]
  refine ⟨?_, ?_⟩
  · simp only [List.forall_mem_cons, List.not_mem_nil, false_imp_iff, implies_true, and_true, volOfTet,
      mab, mba, mac, mca, mad, mda, mbc, mcb, mbd, mdb, mcd, mdc,
      tetVol, add_eq, sub_eq, mul_eq, div_eq, neg_eq, ofInt_eq, tetRatio, isOneEdge, isFace]
    norm_num
    repeat' apply And.intro
    all_goals ring
  · simp only [List.map_cons, List.map_nil, List.sum_cons, List.sum_nil, volOfTet,
      mab, mba, mac, mca, mad, mda, mbc, mcb, mbd, mdb, mcd, mdc, tetVol, add_eq,
      sub_eq, mul_eq, div_eq, neg_eq, ofInt_eq]
    push_cast
    ring))

/-- **subdiv_tet_volume.**  With the new vertices at the edge midpoints, every child of a supported pattern has
    exactly `tetRatio map` (1/2, 1/4, 1/8) of the parent's signed volume, and the children's volumes add up to it. -/
theorem subdiv_tet_volume (btw : Int → Int → Int) (x : Int → V3 ℝ) (map : Nat)
    (hs : supported map = true) (t : Tet) (hx : MidPlacedOn btw x t.nodes) :
    (∀ k ∈ keepOr t ((splitTetChildren btw map t).getD []), volOfTet x k = tetRatio map * volOfTet x t) ∧
    ((keepOr t ((splitTetChildren btw map t).getD [])).map (volOfTet x)).sum = volOfTet x t := by
  rcases t with ⟨a, b, c, d⟩
  simp only [MidPlacedOn, Tet.nodes, List.forall_mem_cons, List.not_mem_nil, false_imp_iff, implies_true,
    and_true] at hx
  obtain ⟨p1, p2, p3, p4, p5, p6, p7⟩ := tetVol_even (x a) (x b) (x c) (x d)
  rcases supported_cases hs with rfl | rfl | rfl | rfl | rfl | rfl | rfl | rfl | rfl | rfl | rfl | rfl
  all_goals
    refine (fun hr => ⟨hr, ?_⟩) ?_
    · -- the children by template, their new vertices by `hx`; `tetVol` is affine in every vertex (`tetVol_interp*`),
      -- which expands every child volume into volumes over the four corners: those with a repeated corner vanish,
      -- the others are the parent's, evenly permuted
      simp only [kids_0, kids_1, kids_2, kids_4, kids_8, kids_16, kids_32, kids_11, kids_56, kids_38, kids_21,
        kids_63, List.forall_mem_cons, List.not_mem_nil, false_imp_iff, implies_true, and_true, volOfTet, hx,
        Refine.Props.C15.tetVol_interp0, Refine.Props.C15.tetVol_interp1, Refine.Props.C15.tetVol_interp2,
        Refine.Props.C15.tetVol_interp3, half_eq, Refine.Props.C15.tetVol_degenerate, Refine.Props.C15.tetVol_same02,
        Refine.Props.C15.tetVol_same03, Refine.Props.C15.tetVol_same12, Refine.Props.C15.tetVol_same13,
        Refine.Props.C15.tetVol_same23,
        Refine.Props.C15.tetVol_cycle012 (x a) (x b) (x c) (x d),
        Refine.Props.C15.tetVol_double_swap (x a) (x b) (x c) (x d), p1, p2, p3, p4, p5, p6, p7, tetRatio_val]
      repeat' apply And.intro
      all_goals ring
    · -- all children have the same share `r`, and there are `1/r` of them
      rw [List.map_congr_left hr]
      simp only [kids_0, kids_1, kids_2, kids_4, kids_8, kids_16, kids_32, kids_11, kids_56, kids_38, kids_21,
        kids_63, List.map_cons, List.map_nil, List.sum_cons, List.sum_nil, tetRatio_val]
      ring

/-- **subdiv_tet_orientation.**  Every child is positively oriented iff the parent is. -/
theorem subdiv_tet_orientation (btw : Int → Int → Int) (x : Int → V3 ℝ) (map : Nat)
    (hs : supported map = true) (t : Tet) (hx : MidPlacedOn btw x t.nodes) :
    ∀ k ∈ keepOr t ((splitTetChildren btw map t).getD []), (0 < volOfTet x k ↔ 0 < volOfTet x t) := by
  intro k hk
  rw [(subdiv_tet_volume btw x map hs t hx).1 k hk]
  exact mul_pos_iff_of_pos_left (tetRatio_pos map)

/-- **check_copy_agrees.**  The cells whose volume `ref_subdiv_unmark_neg_tet_geom_support` evaluates are, as ordered
    vertex tuples and in the same order, the cells `ref_subdiv_split_tet` creates (nothing for an unsupported map). -/
theorem check_copy_agrees (btw : Int → Int → Int) (map : Nat) (t : Tet) :
    negCheckChildren btw map t = (splitTetChildren btw map t).getD [] := by
  simp only [negCheckChildren, splitTetChildren, apply_ite (fun o : Option (List Tet) => o.getD []), Option.getD_some,
    Option.getD_none]

/-- a tet that passes the check (`unmark_cell` stays false) is split into children of volume `≥ min_volume` -/
theorem negCheck_guards_split (btw : Int → Int → Int) (x : Int → V3 ℝ) (map : Nat) (t : Tet)
    (h : negCell btw x map t = false) :
    ∀ k ∈ (splitTetChildren btw map t).getD [], (minVolume : ℝ) ≤ volOfTet x k := by
  intro k hk
  rw [← check_copy_agrees] at hk
  unfold negCell at h
  rw [List.any_eq_false] at h
  have := h k hk
  simpa [lt_iff] using this

def quaBd (ψ : Int → Int → G) (q : Qua) : G := ψ q.n0 q.n1 + ψ q.n1 q.n2 + ψ q.n2 q.n3 + ψ q.n3 q.n0

def sideRef (ψ : Int → Int → G) (btw : Int → Int → Int) (m : Bool) (u v : Int) : G :=
  if m then ψ u (btw u v) + ψ (btw u v) v else ψ u v

/-- the seven templates of `ref_subdiv_split_tri` as a case principle (no marked side: the triangle is kept) -/
@[elab_as_elim]
theorem splitTri_cases {btw : Int → Int → Int} {a b c i : Int} {P : Bool → Bool → Bool → List Tri → List Qua → Prop}
    {m01 m12 m20 : Bool} {ts : List Tri} {qs : List Qua}
    (h : splitTriChildren btw m01 m12 m20 ⟨a, b, c, i⟩ = some (ts, qs))
    (h001 : P false false true [⟨a, b, btw c a, i⟩, ⟨btw c a, b, c, i⟩] [])
    (h010 : P false true false [⟨a, btw b c, c, i⟩, ⟨a, b, btw b c, i⟩] [])
    (h011 : P false true true [⟨btw c a, btw c b, c, i⟩] [⟨a, b, btw c b, btw c a, i⟩])
    (h100 : P true false false [⟨btw a b, b, c, i⟩, ⟨a, btw a b, c, i⟩] [])
    (h101 : P true false true [⟨a, btw a b, btw a c, i⟩] [⟨btw a b, b, c, btw a c, i⟩])
    (h110 : P true true false [⟨btw b a, b, btw b c, i⟩] [⟨a, btw b a, btw b c, c, i⟩])
    (h111 : P true true true [⟨a, btw a b, btw a c, i⟩, ⟨btw b a, b, btw b c, i⟩, ⟨btw c a, btw c b, c, i⟩,
      ⟨btw a b, btw b c, btw c a, i⟩] []) : P m01 m12 m20 ts qs := by
  cases m01 <;> cases m12 <;> cases m20 <;>
    simp only [splitTriChildren, Bool.and_true, Bool.and_false, Bool.not_true,
      Bool.not_false, Bool.or_true, Bool.or_false, if_true, if_false, Bool.false_eq_true, Option.some.injEq,
      Prod.mk.injEq, List.append_nil, List.nil_append, List.cons_append, reduceCtorEq] at h
  all_goals obtain ⟨rfl, rfl⟩ := h
  all_goals assumption

/-- conformity of the triangle templates asks of `between` only that the cochain cannot tell `btw u v` from
    `btw v u` on the sides of `t` (a symmetric `btw` is the obvious case; a cochain that reads positions, with the new
    vertices at the midpoints, is another) -/
theorem subdiv_tri_conforming_of_blind {ψ : Int → Int → G} (hψ : Alt2 ψ) (btw : Int → Int → Int) (t : Tri)
    (hb : ∀ u ∈ t.nodes, ∀ v ∈ t.nodes, ∀ w, ψ (btw u v) w = ψ (btw v u) w)
    (m01 m12 m20 : Bool) (ts : List Tri) (qs : List Qua)
    (h : splitTriChildren btw m01 m12 m20 t = some (ts, qs)) :
    (ts.map (triBd ψ)).sum + (qs.map (quaBd ψ)).sum =
      sideRef ψ btw m01 t.n0 t.n1 + sideRef ψ btw m12 t.n1 t.n2 + sideRef ψ btw m20 t.n2 t.n0 := by
  rcases t with ⟨a, b, c, i⟩
  simp only [Tri.nodes, List.forall_mem_cons, List.not_mem_nil, false_imp_iff, implies_true, and_true] at hb
  obtain ⟨⟨-, -, hac⟩, ⟨hba, -, -⟩, -, hcb⟩ := hb
  have r : ∀ {u v : Int}, (∀ w, ψ (btw u v) w = ψ (btw v u) w) → ∀ w, ψ w (btw u v) = ψ w (btw v u) :=
    fun hl w => by rw [hψ.swap (btw _ _) w, hψ.swap (btw _ _) w, hl]
  refine splitTri_cases h ?_ ?_ ?_ ?_ ?_ ?_ ?_
  all_goals simp only [List.map_cons, List.map_nil, List.sum_cons, List.sum_nil, triBd_eq, quaBd, sideRef,
    if_true, if_false, Bool.false_eq_true, hba, hcb, hac, r hba, r hcb, r hac, add_zero]
  · rw [hψ.swap b (btw c a)]; abel
  · rw [hψ.swap a (btw b c)]; abel
  · rw [hψ.swap (btw c a) (btw b c)]; abel
  · rw [hψ.swap (btw a b) c]; abel
  · rw [hψ.swap (btw a b) (btw c a)]; abel
  · rw [hψ.swap (btw b c) (btw a b)]; abel
  · rw [hψ.swap (btw a b) (btw c a), hψ.swap (btw b c) (btw a b), hψ.swap (btw c a) (btw b c)]; abel

/-- **subdiv_tri_conforming.**  All 8 side-mark patterns of `ref_subdiv_split_tri` (1:2, 1:tri+quad, 1:4): the
    children's directed sides add up to the parent's sides, each marked side replaced by its two halves — the same
    halves `ref_subdiv_split_edg` makes of an edg cell on that side. -/
theorem subdiv_tri_conforming {ψ : Int → Int → G} (hψ : Alt2 ψ) (btw : Int → Int → Int)
    (hb : ∀ x y, btw x y = btw y x) (m01 m12 m20 : Bool) (t : Tri) (ts : List Tri) (qs : List Qua)
    (h : splitTriChildren btw m01 m12 m20 t = some (ts, qs)) :
    (ts.map (triBd ψ)).sum + (qs.map (quaBd ψ)).sum =
      sideRef ψ btw m01 t.n0 t.n1 + sideRef ψ btw m12 t.n1 t.n2 + sideRef ψ btw m20 t.n2 t.n0 :=
  subdiv_tri_conforming_of_blind hψ btw t (fun u _ v _ w => by rw [hb u v]) m01 m12 m20 ts qs h

/-- **subdiv_edg_conforming.** -/
theorem subdiv_edg_conforming (ψ : Int → Int → G) (btw : Int → Int → Int) (e : Edg) (es : List Edg)
    (h : splitEdgChildren btw true e = some es) :
    (es.map fun k => ψ k.n0 k.n1).sum = sideRef ψ btw true e.n0 e.n1 := by
  simp only [splitEdgChildren, if_true, Option.some.injEq] at h
  subst h
  simp only [List.map_cons, List.map_nil, List.sum_cons, List.sum_nil, sideRef, if_true, add_zero]
  abel

/-- **subdiv_ids_inherited.**  Every new triangle, quad and edg carries the id of the cell it replaces. -/
theorem subdiv_ids_inherited (btw : Int → Int → Int) (m01 m12 m20 : Bool) (t : Tri) (ts : List Tri) (qs : List Qua)
    (h : splitTriChildren btw m01 m12 m20 t = some (ts, qs)) (e : Edg) (es : List Edg) (m : Bool)
    (he : splitEdgChildren btw m e = some es) :
    (∀ k ∈ ts, k.id = t.id) ∧ (∀ q ∈ qs, q.id = t.id) ∧ (∀ k ∈ es, k.id = e.id) := by
  rcases t with ⟨a, b, c, i⟩
  rw [← and_assoc]
  refine ⟨?_, ?_⟩
  · refine splitTri_cases h ?_ ?_ ?_ ?_ ?_ ?_ ?_ <;> simp
  · cases m <;> simp only [splitEdgChildren, if_true, if_false, Bool.false_eq_true, Option.some.injEq,
      reduceCtorEq] at he
    subst he; simp

/-- area vector `(x1-x0) × (x2-x0)` of a triangle (twice the area, with orientation) -/
noncomputable def triNrm (x : Int → V3 ℝ) (t : Tri) : V3 ℝ := triNormal (x t.n0) (x t.n1) (x t.n2)
noncomputable def quaNrm (x : Int → V3 ℝ) (q : Qua) : V3 ℝ :=
  vadd (triNormal (x q.n0) (x q.n1) (x q.n2)) (triNormal (x q.n0) (x q.n2) (x q.n3))

/-- **subdiv_tri_area.**  With midpoints, the area vectors of the children (a quad counted as its two halves) add up
    to the parent's, for every side-mark pattern — orientation and total area are kept. -/
theorem subdiv_tri_area (btw : Int → Int → Int) (x : Int → V3 ℝ) (m01 m12 m20 : Bool)
    (t : Tri) (hx : MidPlacedOn btw x t.nodes) (ts : List Tri) (qs : List Qua)
    (h : splitTriChildren btw m01 m12 m20 t = some (ts, qs)) :
    vadd ((ts.map (triNrm x)).foldr vadd ⟨0, 0, 0⟩) ((qs.map (quaNrm x)).foldr vadd ⟨0, 0, 0⟩) = triNrm x t := by
  rcases t with ⟨a, b, c, i⟩
  simp only [MidPlacedOn, Tri.nodes, List.forall_mem_cons, List.not_mem_nil, false_imp_iff, implies_true,
    and_true] at hx
  refine splitTri_cases h ?_ ?_ ?_ ?_ ?_ ?_ ?_
  all_goals simp only [List.map_cons, List.map_nil, List.foldr_cons, List.foldr_nil, triNrm, quaNrm, triNormal,
    cross, V3.sub, vadd, hx, interp_half, sub_eq, mul_eq]
  all_goals (ext <;> (simp only []; ring))

def mapOfBits (b0 b1 b2 b3 b4 b5 : Bool) : Nat :=
  (if b0 then 1 else 0) + (if b1 then 2 else 0) + (if b2 then 4 else 0) + (if b3 then 8 else 0) +
    (if b4 then 16 else 0) + (if b5 then 32 else 0)

/-- marks of the reference configuration: global edge `i` of the cell is edge `i` -/
def bitsMarks (b0 b1 b2 b3 b4 b5 : Bool) : List Nat := [b0, b1, b2, b3, b4, b5].map fun b => if b then 1 else 0

/-- the edge table of the tet `(0,1,2,3)` with global ids equal to the local ones -/
def refE : EdgeTab := [(0, 1), (0, 2), (0, 3), (1, 2), (1, 3), (2, 3)]

/-- **unmark_stable_supported.**  `ref_subdiv_unmark_tet` reports `again = false` only on patterns the splitter
    implements (all 64 mark vectors of a tet; the rules only read the marks, so the reference tet is general). -/
theorem unmark_stable_supported : ∀ b0 b1 b2 b3 b4 b5 : Bool,
    (unmarkTet [0, 1, 2, 3] refE [0, 1, 2, 3, 4, 5] (bitsMarks b0 b1 b2 b3 b4 b5, false)).2 = false →
      supported (mapOfBits b0 b1 b2 b3 b4 b5) = true := by decide +kernel

/-- one application of `ref_subdiv_unmark_tet`, on every mark vector, changes nothing or removes marks only -/
theorem unmark_only_removes : ∀ b0 b1 b2 b3 b4 b5 : Bool,
    let m := bitsMarks b0 b1 b2 b3 b4 b5
    let r := unmarkTet [0, 1, 2, 3] refE [0, 1, 2, 3, 4, 5] (m, false)
    (List.zipWith (fun a b => decide (a ≤ b)) r.1 m).all id = true := by decide +kernel

/-- **promote_stable_supported.**  One `case 4:` step of `ref_subdiv_mark_relax` (four `promote_2_3`, then
    `promote_2_all`) reports `again = false` only on supported patterns, and otherwise only adds marks. -/
theorem promote_stable_supported : ∀ b0 b1 b2 b3 b4 b5 : Bool,
    let m := bitsMarks b0 b1 b2 b3 b4 b5
    let r := relaxTet [0, 1, 2, 3, 4, 5] (m, false)
    (r.2 = false → supported (mapOfBits b0 b1 b2 b3 b4 b5) = true) ∧
      (List.zipWith (fun a b => decide (a ≤ b)) m r.1).all id = true := by decide +kernel

/-- the guard of `promote_2_all` reads global edge INDICES (`ge0 > 0 && ge5 > 0 || ge1 > 0 && ge4 > 0 || …`), not
    marks; for the six pairwise distinct edges of a tet it is always true, so the rule fires whenever `sum == 2` -/
theorem promote2All_guard_true (g0 g1 g4 g5 : Nat) (h : g0 ≠ g1 ∧ g0 ≠ g4 ∧ g5 ≠ g1 ∧ g5 ≠ g4) :
    (decide (g0 > 0) && decide (g5 > 0) || decide (g1 > 0) && decide (g4 > 0)) = true := by
  simp only [Bool.or_eq_true, Bool.and_eq_true, decide_eq_true_eq]
  omega

def exBtw (a b : Int) : Int := 100 + 10 * min a b + max a b

example : ∀ x y, exBtw x y = exBtw y x := by
  intro x y; simp only [exBtw, min_comm, max_comm]

/-- every pattern is met: the children of the reference tet for all 12 maps -/
example : ([0, 1, 2, 4, 8, 16, 32, 11, 56, 38, 21, 63].map fun m =>
    (keepOr ⟨0, 1, 2, 3⟩ ((splitTetChildren exBtw m ⟨0, 1, 2, 3⟩).getD [])).length) =
    [1, 2, 2, 2, 2, 2, 2, 4, 4, 4, 4, 8] := by decide

example : splitTetChildren exBtw 11 ⟨0, 1, 2, 3⟩ =
    some [⟨0, 101, 102, 3⟩, ⟨101, 1, 112, 3⟩, ⟨102, 112, 2, 3⟩, ⟨101, 112, 102, 3⟩] := by decide

example : splitTetChildren exBtw 3 ⟨0, 1, 2, 3⟩ = none := by decide

/-- coordinates with midpoints placed as the C does, and a positive parent -/
noncomputable def exX (v : Int) : V3 ℝ :=
  if v = 0 then ⟨0, 0, 0⟩ else if v = 1 then ⟨1, 0, 0⟩ else if v = 2 then ⟨0, 1, 0⟩ else ⟨0, 0, 1⟩

theorem exX_vol : volOfTet exX ⟨0, 1, 2, 3⟩ = 1 / 6 := by
  simp only [volOfTet, exX, tetVol, add_eq, sub_eq, mul_eq, div_eq, neg_eq, ofInt_eq]
  norm_num

example : volOfTet exX ⟨0, 1, 2, 3⟩ = 1 / 6 := exX_vol

/-- vertices 0..3 at the unit corners, the vertex `exBtw a b` at the midpoint of `a`, `b` -/
noncomputable def exX2 (v : Int) : V3 ℝ :=
  if v < 100 then exX v
  else interpolateEdgeXyz (exX ((v - 100) / 10)) (exX ((v - 100) % 10)) (half : ℝ)

/-- the hypothesis of `subdiv_tet_volume` / `_orientation` is met by a positive tet with real midpoints -/
example : MidPlacedOn exBtw exX2 (Tet.nodes ⟨0, 1, 2, 3⟩) := by
  intro a ha b hb
  have hr : ∀ v ∈ Tet.nodes ⟨0, 1, 2, 3⟩, 0 ≤ v ∧ v ≤ 3 := by decide
  obtain ⟨a0, a3⟩ := hr a ha
  obtain ⟨b0, b3⟩ := hr b hb
  -- the code `100 + 10 min + max` is decoded to the pair again; `exX2` is `exX` below 100
  have e1 : exX2 (exBtw a b) = interpolateEdgeXyz (exX (min a b)) (exX (max a b)) half := by
    unfold exX2 exBtw
    rw [if_neg (by omega)]
    congr 2 <;> omega
  have e2 : ∀ v, v ≤ 3 → exX2 v = exX v := fun v hv => by unfold exX2; rw [if_pos (by omega)]
  rw [e1, e2 a a3, e2 b b3]
  rcases le_total a b with h | h
  · rw [min_eq_left h, max_eq_right h]
  · rw [min_eq_right h, max_eq_left h, interp_half, interp_half]
    simp only [add_comm]

example : volOfTet exX2 ⟨0, 1, 2, 3⟩ = 1 / 6 := by
  have e : ∀ v : Int, v < 100 → exX2 v = exX v := fun v hv => if_pos hv
  rw [← exX_vol]
  simp only [volOfTet, e 0 (by decide), e 1 (by decide), e 2 (by decide), e 3 (by decide)]

example : splitTriChildren exBtw true true false ⟨0, 1, 2, 7⟩ =
    some ([⟨101, 1, 112, 7⟩], [⟨0, 101, 112, 2, 7⟩]) := by decide

example : (unmarkTet [0, 1, 2, 3] refE [0, 1, 2, 3, 4, 5] ([1, 1, 0, 0, 0, 0], false)) = ([1, 0, 0, 0, 0, 0], true) := by
  decide

example : relaxTet [0, 1, 2, 3, 4, 5] ([1, 0, 0, 0, 0, 1], false) = ([1, 1, 1, 1, 1, 1], true) := by decide

end Refine.Props.C13Subdiv
