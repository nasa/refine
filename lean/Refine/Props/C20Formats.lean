import Refine.Lemmas.FormatsText
import Refine.Lemmas.FormatsC20
import Refine.Model.FormatsMapbc

/-!
  C20 — malformed input is rejected cleanly: the TEXT mesh readers, `.r8.ugrid`, the field readers `.rst` / `.snap` /
  `.plt` and the `.mapbc` readers.

  The models (`Refine.Model.Formats`, `FormatsBin`, `FormatsMapbc`) mirror the validation logic of the C readers as they
  are in /repo (`Fix.current = Fix.none`, `BFix.current = BFix.none`); they are tied by the streams `c20_formats_mut`,
  `c20_fields_mut`, `formats_mapbc` (C status and dump = model on every mutant the model gives a status for).

  * ASCII `.ugrid` (index test in /repo since 6682479): `ugrid_accepted_counts_fit`, `ugrid_accepted_indices_in_range`
    hold at full strength.
  * `.tri`, `.fgrid`, `.surf`, `.su2`, `.msh`, `.grid`, `.r8.ugrid` never compare a vertex index with the vertex count:
    `*_index_counterexample` (finding import-vertex-index-unchecked). With the test of the proposed repair
    (`Fix.index`, `BFix.r8`) every accepted file is in range for `.tri`, `.fgrid`, `.surf`, `.r8.ugrid`
    (`tri_`, `fgrid_`, `surf_`, `r8_fixed_accepted_indices_in_range`); for `.su2`, `.msh`, `.grid` the repaired reader
    is only run on the witness file (second half of their `*_index_counterexample`), nothing is proved of it.
  * `.msh` reads keywords with `fscanf("%s")` into `char line[1024]`: `msh_token_counterexample` (finding
    msh-token-buffer-overflow).
  * `.tri` / `.fgrid` add the declared number of vertices before they read one: `prealloc_counterexample`.
  * `.r8.ugrid` forms its record length in `int`: `r8_record_counterexample`.
  * `.rst`, `.snap`, `.plt` size allocations and bound loops by header fields alone: `rst_counterexample`,
    `snap_fields_counterexample`, `plt_numpts_counterexample`; with the repairs `rst_fixed_accepted_counts_fit`,
    `snap_fixed_fields_fit` (nothing is proved of the `.plt` repair).
  * `.mapbc`: every buffer is filled by a bounded `fgets`; `mapbc_walls_spec` — the wall set handed to `ref distance`
    (C12) is exactly the ids whose last line carries a viscous code.
-/
namespace Refine.Props.C20Formats
open Refine.Model.Formats Refine.Model.FormatsBin Refine.Model.FormatsMapbc Refine.Lemmas.Formats
open Refine.Model.Meshb (Bytes Status Vertex)
open Refine.Model.Ugrid (Kind ofHex)

/-! witness files (the same tokens / bytes are replayed against the real readers by the `c20_formats_*` /
    `c20_fields_*` streams; checks/c20.py compares the texts) -/

/-- 3 vertices, one triangle (1,2,4): vertex 4 of 3 -/
def triIndexFile : List Tok := [.int 3, .int 1, .nl, .num 0x0000000000000000, .num 0x0000000000000000, .num 0x0000000000000000, .nl, .num 0x3ff0000000000000, .num 0x0000000000000000, .num 0x0000000000000000, .nl, .num 0x0000000000000000, .num 0x3ff0000000000000, .num 0x0000000000000000, .nl, .int 1, .int 2, .int 4, .nl, .int 7, .nl]
/-- 4 vertices, one tet (1,2,3,5) -/
def fgridIndexFile : List Tok := [.int 4, .int 0, .int 1, .nl, .num 0x0000000000000000, .nl, .num 0x3ff0000000000000, .nl, .num 0x0000000000000000, .nl, .num 0x0000000000000000, .nl, .num 0x0000000000000000, .nl, .num 0x0000000000000000, .nl, .num 0x3ff0000000000000, .nl, .num 0x0000000000000000, .nl, .num 0x0000000000000000, .nl, .num 0x0000000000000000, .nl, .num 0x0000000000000000, .nl, .num 0x3ff0000000000000, .nl, .int 1, .int 2, .int 3, .int 5, .nl]
/-- 3 vertices, one triangle (1,2,4) -/
def surfIndexFile : List Tok := [.int 1, .int 0, .int 3, .nl, .num 0x0000000000000000, .num 0x0000000000000000, .num 0x0000000000000000, .nl, .num 0x3ff0000000000000, .num 0x0000000000000000, .num 0x0000000000000000, .num 0x3ff0000000000000, .nl, .num 0x0000000000000000, .num 0x3ff0000000000000, .num 0x0000000000000000, .nl, .int 1, .int 2, .int 4, .int 7, .int 0, .int 1, .nl]
/-- 4 points, one tet (0,1,2,4): point 4 of 0..3 -/
def su2IndexFile : List Tok := [.word "NDIME=", .int 3, .nl, .word "NPOIN=", .int 4, .nl, .num 0x0000000000000000, .num 0x0000000000000000, .num 0x0000000000000000, .nl, .num 0x3ff0000000000000, .num 0x0000000000000000, .num 0x0000000000000000, .nl, .num 0x0000000000000000, .num 0x3ff0000000000000, .num 0x0000000000000000, .nl, .num 0x0000000000000000, .num 0x0000000000000000, .num 0x3ff0000000000000, .nl, .word "NELEM=", .int 1, .nl, .int 10, .int 0, .int 1, .int 2, .int 4, .nl, .word "NMARK=", .int 0, .nl]
/-- 4 nodes, one tet (1,2,3,5) -/
def mshIndexFile : List Tok := [.word "$MeshFormat", .nl, .num 0x4010666666666666, .int 0, .int 8, .nl, .word "$EndMeshFormat", .nl, .word "$Nodes", .nl, .int 1, .int 4, .int 1, .int 4, .nl, .int 3, .int 1, .int 0, .int 4, .nl, .int 1, .nl, .int 2, .nl, .int 3, .nl, .int 4, .nl, .num 0x0000000000000000, .num 0x0000000000000000, .num 0x0000000000000000, .nl, .num 0x3ff0000000000000, .num 0x0000000000000000, .num 0x0000000000000000, .nl, .num 0x0000000000000000, .num 0x3ff0000000000000, .num 0x0000000000000000, .nl, .num 0x0000000000000000, .num 0x0000000000000000, .num 0x3ff0000000000000, .nl, .word "$EndNodes", .nl, .word "$Elements", .nl, .int 1, .int 1, .int 1, .int 1, .nl, .int 3, .int 1, .int 4, .int 1, .nl, .int 1, .int 1, .int 2, .int 3, .int 5, .nl, .word "$EndElements", .nl]
/-- 3 vertices, one triangle (1,2,4), no boundary -/
def gridIndexFile : List Tok := [.int 3, .int 1, .int 0, .nl, .num 0x0000000000000000, .num 0x0000000000000000, .nl, .num 0x3ff0000000000000, .num 0x0000000000000000, .nl, .num 0x0000000000000000, .num 0x3ff0000000000000, .nl, .int 1, .int 2, .int 4, .nl, .int 0, .nl]
/-- a file that is one 1024-character piece -/
def mshTokenFile : List Tok := [.word (String.ofList (List.replicate 1024 'A')), .nl]
/-- 2 500 000 vertices declared in a 12-byte file -/
def triPreallocFile : List Tok := [.int 2500000, .int 0, .nl]
/-- the same for `.fgrid` -/
def fgridPreallocFile : List Tok := [.int 2500000, .int 0, .int 0, .nl]
/-- `.r8.ugrid` header declaring 2^30 vertices -/
def r8RecordFile : Bytes := [0, 0, 0, 28, 64, 0, 0, 0, 0, 0, 0, 0, 0, 0, 0, 0, 0, 0, 0, 1, 0, 0, 0, 0, 0, 0, 0, 0, 0, 0, 0, 0, 0, 0, 0, 28, 0, 0, 0, 0, 0, 0, 0, 0, 0, 0, 0, 0, 0, 0, 0, 0, 0, 0, 0, 0, 0, 0, 0, 0, 0, 0, 0, 0, 63, 240, 0, 0, 0, 0, 0, 0, 0, 0, 0, 0, 0, 0, 0, 0, 0, 0, 0, 0, 0, 0, 0, 0, 0, 0, 0, 0, 0, 0, 0, 0, 63, 240, 0, 0, 0, 0, 0, 0, 0, 0, 0, 0, 0, 0, 0, 0, 0, 0, 0, 0, 0, 0, 0, 0, 0, 0, 0, 0, 0, 0, 0, 0, 63, 240, 0, 0, 0, 0, 0, 0, 0, 0, 0, 1, 0, 0, 0, 2, 0, 0, 0, 3, 0, 0, 0, 4, 0, 0, 0, 112]
/-- `.r8.ugrid`: 4 vertices, one tet (1,2,3,5) -/
def r8IndexFile : Bytes := [0, 0, 0, 28, 0, 0, 0, 4, 0, 0, 0, 0, 0, 0, 0, 0, 0, 0, 0, 1, 0, 0, 0, 0, 0, 0, 0, 0, 0, 0, 0, 0, 0, 0, 0, 28, 0, 0, 0, 112, 0, 0, 0, 0, 0, 0, 0, 0, 0, 0, 0, 0, 0, 0, 0, 0, 0, 0, 0, 0, 0, 0, 0, 0, 63, 240, 0, 0, 0, 0, 0, 0, 0, 0, 0, 0, 0, 0, 0, 0, 0, 0, 0, 0, 0, 0, 0, 0, 0, 0, 0, 0, 0, 0, 0, 0, 63, 240, 0, 0, 0, 0, 0, 0, 0, 0, 0, 0, 0, 0, 0, 0, 0, 0, 0, 0, 0, 0, 0, 0, 0, 0, 0, 0, 0, 0, 0, 0, 63, 240, 0, 0, 0, 0, 0, 0, 0, 0, 0, 1, 0, 0, 0, 2, 0, 0, 0, 3, 0, 0, 0, 5, 0, 0, 0, 112]
/-- `.rst` header: 1 variable, 2 steps, dof = 10^8 (36 bytes) -/
def rstDofFile : Bytes := [8, 0, 0, 0, 67, 79, 70, 70, 69, 82, 83, 84, 2, 0, 0, 0, 3, 0, 0, 0, 1, 0, 0, 0, 2, 0, 0, 0, 0, 225, 245, 5, 0, 0, 0, 0]
/-- `.rst`: 2^30 variables, 2 steps -/
def rstLdimFile : Bytes := [8, 0, 0, 0, 67, 79, 70, 70, 69, 82, 83, 84, 2, 0, 0, 0, 3, 0, 0, 0, 0, 0, 0, 64, 2, 0, 0, 0, 4, 0, 0, 0, 0, 0, 0, 0, 0, 0, 0, 0, 0, 0, 240, 63, 0, 0, 0, 0, 0, 0, 240, 63, 0, 0, 0, 0, 0, 0, 240, 63, 0, 0, 0, 0, 0, 0, 240, 63, 0, 0, 0, 0, 0, 0, 240, 63, 0, 0, 0, 0, 0, 0, 240, 63, 0, 0, 0, 0, 0, 0, 240, 63, 0, 0, 0, 0, 0, 0, 240, 63]
/-- `.rst`: 50000 variables, dof 100000 -/
def rstChunkFile : Bytes := [8, 0, 0, 0, 67, 79, 70, 70, 69, 82, 83, 84, 2, 0, 0, 0, 3, 0, 0, 0, 80, 195, 0, 0, 2, 0, 0, 0, 160, 134, 1, 0, 0, 0, 0, 0, 0, 0, 0, 0, 0, 0, 240, 63, 0, 0, 0, 0, 0, 0, 240, 63, 0, 0, 0, 0, 0, 0, 240, 63, 0, 0, 0, 0, 0, 0, 240, 63, 0, 0, 0, 0, 0, 0, 240, 63, 0, 0, 0, 0, 0, 0, 240, 63, 0, 0, 0, 0, 0, 0, 240, 63, 0, 0, 0, 0, 0, 0, 240, 63]
/-- `.rst`: no variables, 2^31-1 steps, dof 4 -/
def rstIdleFile : Bytes := [8, 0, 0, 0, 67, 79, 70, 70, 69, 82, 83, 84, 2, 0, 0, 0, 3, 0, 0, 0, 0, 0, 0, 0, 255, 255, 255, 127, 4, 0, 0, 0, 0, 0, 0, 0, 0, 0, 0, 0, 0, 0, 240, 63, 0, 0, 0, 0, 0, 0, 240, 63, 0, 0, 0, 0, 0, 0, 240, 63, 0, 0, 0, 0, 0, 0, 240, 63, 0, 0, 0, 0, 0, 0, 240, 63, 0, 0, 0, 0, 0, 0, 240, 63, 0, 0, 0, 0, 0, 0, 240, 63, 0, 0, 0, 0, 0, 0, 240, 63]
/-- `.snap` version 2 declaring 2·10^8 fields (16 bytes) -/
def snapFieldsFile : Bytes := [2, 0, 0, 0, 0, 0, 0, 0, 0, 194, 235, 11, 0, 0, 0, 0]
/-- `.plt`: 4 variables, one triangle zone declaring 2^30 points -/
def pltNumptsFile : Bytes := [35, 33, 84, 68, 86, 49, 49, 50, 1, 0, 0, 0, 0, 0, 0, 0, 116, 0, 0, 0, 0, 0, 0, 0, 4, 0, 0, 0, 118, 0, 0, 0, 48, 0, 0, 0, 0, 0, 0, 0, 118, 0, 0, 0, 49, 0, 0, 0, 0, 0, 0, 0, 118, 0, 0, 0, 50, 0, 0, 0, 0, 0, 0, 0, 118, 0, 0, 0, 51, 0, 0, 0, 0, 0, 0, 0, 0, 128, 149, 67, 122, 0, 0, 0, 0, 0, 0, 0, 255, 255, 255, 255, 255, 255, 255, 255, 0, 0, 0, 0, 0, 0, 0, 0, 255, 255, 255, 255, 2, 0, 0, 0, 0, 0, 0, 0, 0, 0, 0, 0, 0, 0, 0, 0, 0, 0, 0, 64, 1, 0, 0, 0, 0, 0, 0, 0, 0, 0, 0, 0, 0, 0, 0, 0, 0, 0, 0, 0, 0, 128, 178, 67, 0, 128, 149, 67, 2, 0, 0, 0, 2, 0, 0, 0, 2, 0, 0, 0, 2, 0, 0, 0, 0, 0, 0, 0, 0, 0, 0, 0, 255, 255, 255, 255, 0, 0, 0, 0, 0, 0, 0, 0, 0, 0, 0, 0, 0, 0, 0, 0, 0, 0, 0, 0, 0, 0, 0, 0, 0, 0, 0, 0, 0, 0, 0, 0, 0, 0, 0, 0, 0, 0, 0, 0, 0, 0, 0, 0, 0, 0, 0, 0, 0, 0, 0, 0, 0, 0, 0, 0, 0, 0, 0, 0, 0, 0, 0, 0, 0, 0, 0, 0, 0, 0, 0, 0, 0, 0, 0, 0, 0, 0, 0, 0, 0, 0, 0, 0, 0, 0, 0, 0, 0, 0, 0, 0, 0, 0, 240, 63, 1, 0, 0, 0, 1, 0, 0, 0, 1, 0, 0, 0]
/-- a well-formed one-field version-2 `.snap` for a one-vertex grid (52 bytes) -/
def snapOkFile : Bytes := [2, 0, 0, 0, 0, 0, 0, 0, 1, 0, 0, 0, 0, 0, 0, 0, 0, 0, 0, 0, 0, 0, 0, 0, 20, 0, 0, 0, 0, 0, 0, 0, 1, 0, 0, 0, 0, 0, 0, 0, 255, 255, 255, 255, 0, 0, 0, 0, 0, 0, 240, 63]

/-- the reader models are total functions: every token list is accepted or mapped to a status -/
theorem ugrid_decode_total (ts : List Tok) :
    (∃ m, decodeUgridTxt ts = .ok m) ∨ (∃ e, decodeUgridTxt ts = .error e) :=
  Refine.Lemmas.except_total _

/-- what an accepted ASCII `.ugrid` guarantees (ref_import_ugrid as in /repo since 6682479): the declared counts were
    read, and every vertex index is in range -/
theorem ugrid_ok {ts : List Tok} {m : TMesh} (h : decodeUgridTxt ts = .ok m) :
    (∃ hdr r, rdDs 7 ts = .ok (hdr, r) ∧ m.nodes.length = cnt (hdr.getD 0 0) ∧
      m.tri.length = cnt (hdr.getD 1 0) ∧ m.qua.length = cnt (hdr.getD 2 0) ∧ m.tet.length = cnt (hdr.getD 3 0) ∧
      m.pyr.length = cnt (hdr.getD 4 0) ∧ m.pri.length = cnt (hdr.getD 5 0) ∧ m.hex.length = cnt (hdr.getD 6 0)) ∧
    indicesInRange m = true := by
  revert h
  fun_cases decodeUgridTxt ts <;> intro h <;> cases h
  -- the success branch of the reader: its ten reads in file order, three names each (what was read, the tokens left, the
  -- accepted read); behind the header stand the three `let`s of the model
  next hdr _ h0 _ _ _ vs _ hv tri _ h1 qua _ h2 tid _ _ qid _ _ tet _ h5 pyr _ h6 pri _ h7 hex _ h8 =>
  have hn := rdVerts3_length hv
  obtain ⟨l1, c1⟩ := rdCells1_ok h1
  obtain ⟨l2, c2⟩ := rdCells1_ok h2
  obtain ⟨l5, c5⟩ := rdCells1_ok h5
  obtain ⟨l6, c6⟩ := rdCells1_ok h6
  obtain ⟨l7, c7⟩ := rdCells1_ok h7
  obtain ⟨l8, c8⟩ := rdCells1_ok h8
  exact ⟨⟨_, _, h0, hn, by rw [setIds_length]; exact l1, by rw [setIds_length]; exact l2, l5, l6, l7, l8⟩,
    inRange_of_kinds hn nodesIn_nil (setIds_nodes (c1 rfl)) (setIds_nodes (c2 rfl)) (c5 rfl) (c6 rfl) (c7 rfl) (c8 rfl)⟩

/-- **accepted_counts_fit**, ASCII `.ugrid`: an accepted file holds every record it declares — the mesh has exactly the
    declared numbers of vertices, triangles, quads, tets, pyramids, prisms and hexes, each converted from the token
    stream by a checked `fscanf` (a count the file does not back ends in REF_FAILURE at the first missing number;
    nothing is sized by a count alone: the vertex and cell arrays grow as the records arrive) -/
theorem ugrid_accepted_counts_fit {ts : List Tok} {m : TMesh} (h : decodeUgridTxt ts = .ok m) :
    ∃ hdr r, rdDs 7 ts = .ok (hdr, r) ∧ m.nodes.length = cnt (hdr.getD 0 0) ∧
      m.tri.length = cnt (hdr.getD 1 0) ∧ m.qua.length = cnt (hdr.getD 2 0) ∧ m.tet.length = cnt (hdr.getD 3 0) ∧
      m.pyr.length = cnt (hdr.getD 4 0) ∧ m.pri.length = cnt (hdr.getD 5 0) ∧ m.hex.length = cnt (hdr.getD 6 0) :=
  (ugrid_ok h).1

/-- **accepted_indices_in_range**, ASCII `.ugrid`: every vertex index of every accepted cell is in `[0, nnode)` -/
theorem ugrid_accepted_indices_in_range {ts : List Tok} {m : TMesh} (h : decodeUgridTxt ts = .ok m) :
    indicesInRange m = true :=
  (ugrid_ok h).2

theorem tri_decode_total (fx : Fix) (ts : List Tok) :
    (∃ m, decodeTri fx ts = .ok m) ∨ (∃ e, decodeTri fx ts = .error e) :=
  Refine.Lemmas.except_total _

/-- `.tri` with the index test of the proposed repair: accepted ⇒ declared counts read, indices in range -/
theorem tri_fixed_accepted_indices_in_range {fx : Fix} (hfx : fx.index = true) {ts : List Tok} {m : TMesh}
    (h : decodeTri fx ts = .ok m) :
    (∃ hdr r, rdDs 2 ts = .ok (hdr, r) ∧ m.nodes.length = cnt (hdr.getD 0 0) ∧ m.tri.length = cnt (hdr.getD 1 0)) ∧
    indicesInRange m = true := by
  revert h
  fun_cases decodeTri fx ts <;> intro h <;> cases h
  have hn := rdVerts3_length ‹rdVerts3 _ _ = .ok _›
  obtain ⟨l2, c2⟩ := rdCells1_ok ‹rdCells1 fx.index _ 3 0 0 true _ _ = .ok _›
  exact ⟨⟨_, _, ‹rdDs 2 ts = .ok _›, hn, by rw [setIds_length]; exact l2⟩,
    inRange_of_kinds hn nodesIn_nil (setIds_nodes (c2 hfx)) nodesIn_nil nodesIn_nil nodesIn_nil nodesIn_nil nodesIn_nil⟩

/-- `.tri` as it is in /repo: vertex 4 of 3 is accepted (finding import-vertex-index-unchecked) -/
theorem tri_index_counterexample :
    (∃ m, decodeTri Fix.none triIndexFile = .ok m ∧ indicesInRange m = false) ∧
    decodeTri Fix.all triIndexFile = .error (.st .failure) :=
  ⟨Refine.Lemmas.exists_ok_of_decide (by decide +kernel), by decide +kernel⟩

theorem fgrid_decode_total (fx : Fix) (ts : List Tok) :
    (∃ m, decodeFgrid fx ts = .ok m) ∨ (∃ e, decodeFgrid fx ts = .error e) :=
  Refine.Lemmas.except_total _

/-- `.fgrid` with the index test of the proposed repair -/
theorem fgrid_fixed_accepted_indices_in_range {fx : Fix} (hfx : fx.index = true) {ts : List Tok} {m : TMesh}
    (h : decodeFgrid fx ts = .ok m) :
    (∃ hdr r, rdDs 3 ts = .ok (hdr, r) ∧ m.nodes.length = cnt (hdr.getD 0 0) ∧ m.tri.length = cnt (hdr.getD 1 0) ∧
      m.tet.length = cnt (hdr.getD 2 0)) ∧ indicesInRange m = true := by
  revert h
  fun_cases decodeFgrid fx ts <;> intro h <;> cases h
  obtain ⟨l2, c2⟩ := rdCells1_ok ‹rdCells1 fx.index _ 3 0 0 true _ _ = .ok _›
  obtain ⟨l4, c4⟩ := rdCells1_ok ‹rdCells1 fx.index _ 4 0 0 false _ _ = .ok _›
  exact ⟨⟨_, _, ‹rdDs 3 ts = .ok _›, vertsOfColumns_length _ _, by rw [setIds_length]; exact l2, l4⟩,
    inRange_of_kinds (vertsOfColumns_length _ _) nodesIn_nil (setIds_nodes (c2 hfx)) nodesIn_nil (c4 hfx) nodesIn_nil
      nodesIn_nil nodesIn_nil⟩

theorem surf_decode_total (fx : Fix) (ts : List Tok) :
    (∃ m, decodeSurf fx ts = .ok m) ∨ (∃ e, decodeSurf fx ts = .error e) :=
  Refine.Lemmas.except_total _

/-- `.surf` with the index test of the proposed repair -/
theorem surf_fixed_accepted_indices_in_range {fx : Fix} (hfx : fx.index = true) {ts : List Tok} {m : TMesh}
    (h : decodeSurf fx ts = .ok m) :
    (∃ hdr r, rdDs 3 ts = .ok (hdr, r) ∧ m.nodes.length = cnt (hdr.getD 2 0) ∧ m.tri.length = cnt (hdr.getD 0 0) ∧
      m.qua.length = cnt (hdr.getD 1 0)) ∧ indicesInRange m = true := by
  revert h
  fun_cases decodeSurf fx ts <;> intro h <;> cases h
  have hn := rdVertsSurf_length ‹rdVertsSurf _ _ = .ok _›
  obtain ⟨l2, c2⟩ := rdCells1_ok ‹rdCells1 fx.index _ 3 3 1 false _ _ = .ok _›
  obtain ⟨l3, c3⟩ := rdCells1_ok ‹rdCells1 fx.index _ 4 3 1 false _ _ = .ok _›
  exact ⟨⟨_, _, ‹rdDs 3 ts = .ok _›, hn, l2, l3⟩,
    inRange_of_kinds hn nodesIn_nil (c2 hfx) (c3 hfx) nodesIn_nil nodesIn_nil nodesIn_nil nodesIn_nil⟩

theorem fgrid_index_counterexample :
    (∃ m, decodeFgrid Fix.none fgridIndexFile = .ok m ∧ indicesInRange m = false) ∧
    decodeFgrid Fix.all fgridIndexFile = .error (.st .failure) :=
  ⟨Refine.Lemmas.exists_ok_of_decide (by decide +kernel), by decide +kernel⟩

theorem surf_index_counterexample :
    (∃ m, decodeSurf Fix.none surfIndexFile = .ok m ∧ indicesInRange m = false) ∧
    decodeSurf Fix.all surfIndexFile = .error (.st .failure) :=
  ⟨Refine.Lemmas.exists_ok_of_decide (by decide +kernel), by decide +kernel⟩

theorem su2_index_counterexample :
    (∃ m, decodeSu2 Fix.none su2IndexFile = .ok m ∧ indicesInRange m = false) ∧
    decodeSu2 Fix.all su2IndexFile = .error (.st .failure) :=
  ⟨Refine.Lemmas.exists_ok_of_decide (by decide +kernel), by decide +kernel⟩

theorem msh_index_counterexample :
    (∃ m, decodeMsh Fix.none mshIndexFile = .ok m ∧ indicesInRange m = false) ∧
    decodeMsh Fix.all mshIndexFile = .error (.st .failure) :=
  ⟨Refine.Lemmas.exists_ok_of_decide (by decide +kernel), by decide +kernel⟩

theorem grid_index_counterexample :
    (∃ m, decodeGrid Fix.none gridIndexFile = .ok m ∧ indicesInRange m = false) ∧
    decodeGrid Fix.all gridIndexFile = .error (.st .failure) :=
  ⟨Refine.Lemmas.exists_ok_of_decide (by decide +kernel), by decide +kernel⟩

/-- `.tri` / `.fgrid`: the vertices are added before anything is read: 2 500 000 declared vertices in a 12-byte file are
    allocated and initialised (finding tri-fgrid-vertices-allocated-before-read); when a vertex is added as it is read the
    same files end in REF_FAILURE at the first missing coordinate -/
theorem prealloc_counterexample :
    decodeTri Fix.none triPreallocFile = .error .bloat ∧ decodeFgrid Fix.none fgridPreallocFile = .error .bloat ∧
    decodeTri Fix.all triPreallocFile = .error (.st .failure) ∧
    decodeFgrid Fix.all fgridPreallocFile = .error (.st .failure) := by
  decide +kernel

theorem su2_decode_total (fx : Fix) (ts : List Tok) :
    (∃ m, decodeSu2 fx ts = .ok m) ∨ (∃ e, decodeSu2 fx ts = .error e) :=
  Refine.Lemmas.except_total _

theorem msh_decode_total (fx : Fix) (ts : List Tok) :
    (∃ m, decodeMsh fx ts = .ok m) ∨ (∃ e, decodeMsh fx ts = .error e) :=
  Refine.Lemmas.except_total _

theorem grid_decode_total (fx : Fix) (ts : List Tok) :
    (∃ m, decodeGrid fx ts = .ok m) ∨ (∃ e, decodeGrid fx ts = .error e) :=
  Refine.Lemmas.except_total _

theorem fields_decode_total (fx : BFix) (floor : Int) (n nodeMax : Nat) (ranks : List (List Nat)) (bs : Bytes) :
    ((∃ r, partScalarRst fx floor n nodeMax ranks bs = .ok r) ∨ (∃ e, partScalarRst fx floor n nodeMax ranks bs = .error e)) ∧
    ((∃ r, partScalarSnap fx floor n nodeMax ranks bs = .ok r) ∨ (∃ e, partScalarSnap fx floor n nodeMax ranks bs = .error e)) ∧
    ((∃ r, partScalarPlt fx nodeMax bs = .ok r) ∨ (∃ e, partScalarPlt fx nodeMax bs = .error e)) :=
  ⟨Refine.Lemmas.except_total _, Refine.Lemmas.except_total _, Refine.Lemmas.except_total _⟩

theorem r8_decode_total (fx : BFix) (bs : Bytes) :
    (∃ m, decodeR8 fx bs = .ok m) ∨ (∃ e, decodeR8 fx bs = .error e) :=
  Refine.Lemmas.except_total _

/-- `.r8.ugrid`: `nnode * 3 * 8` in `int` with 2^30 declared vertices (finding r8-ugrid-record-size-overflow); formed in
    `long` the same header is refused: the record marker does not match -/
theorem r8_record_counterexample :
    decodeR8 BFix.none r8RecordFile = .error .undefined ∧ decodeR8 BFix.all r8RecordFile = .error .failure := by
  decide +kernel

theorem r8_index_counterexample :
    (∃ m, decodeR8 BFix.none r8IndexFile = .ok m ∧ indicesInRange m = false) ∧
    decodeR8 BFix.all r8IndexFile = .error .failure :=
  ⟨Refine.Lemmas.exists_ok_of_decide (by decide +kernel), by decide +kernel⟩

/-- `.r8.ugrid` with the index test of the proposed repair: every vertex index of an accepted mesh is in range -/
theorem r8_fixed_accepted_indices_in_range {fx : BFix} (hfx : fx.r8 = true) {bs : Bytes} {m : TMesh}
    (h : decodeR8 fx bs = .ok m) : indicesInRange m = true := by
  revert h
  fun_cases decodeR8 fx bs <;> intro h <;> cases h
  -- the success branch of the reader (the cell reads stand behind nineteen hypotheses of the record framing): every
  -- cell section is an accepted `r8Cells`, told apart by its row length and by whether its rows have an id slot
  have cells := fun {nn per e n s cs r} (h : r8Cells fx nn per e n s = .ok (cs, r)) => (r8Cells_ok h).2 hfx
  exact inRange_of_kinds (Refine.Lemmas.Ugrid.rdVerts_len ‹Refine.Model.Ugrid.rdVerts r8Fl _ _ = .ok _›).1 nodesIn_nil
    (setIds_nodes (cells ‹r8Cells fx _ 3 true _ _ = .ok _›)) (setIds_nodes (cells ‹r8Cells fx _ 4 true _ _ = .ok _›))
    (cells ‹r8Cells fx _ 4 false _ _ = .ok _›) (cells ‹r8Cells fx _ 5 false _ _ = .ok _›)
    (cells ‹r8Cells fx _ 6 false _ _ = .ok _›) (cells ‹r8Cells fx _ 8 false _ _ = .ok _›)

/-- the four `.rst` witnesses on a 4-vertex grid, one rank (finding rst-header-counts-trusted): `dof` = 10^8 sizes and
    initialises 800 MB before the first read; `variables * steps` and `variables * chunk` leave `int`; without variables
    the vertex loop runs `steps × dof` = 8.6e9 times reading nothing.  With the header tested against the bytes present
    all four are REF_FAILURE. -/
theorem rst_counterexample :
    partScalarRst BFix.none 100000 4 20 [[0, 1, 2, 3]] rstDofFile = .error .bloat ∧
    partScalarRst BFix.none 100000 4 20 [[0, 1, 2, 3]] rstLdimFile = .error (.st .undefined) ∧
    partScalarRst BFix.none 100000 4 20 [[0, 1, 2, 3]] rstChunkFile = .error (.st .undefined) ∧
    partScalarRst BFix.none 100000 4 20 [[0, 1, 2, 3]] rstIdleFile = .error (.st .diverge) ∧
    partScalarRst BFix.all 100000 4 20 [[0, 1, 2, 3]] rstDofFile = .error (.st .failure) ∧
    partScalarRst BFix.all 100000 4 20 [[0, 1, 2, 3]] rstLdimFile = .error (.st .failure) ∧
    partScalarRst BFix.all 100000 4 20 [[0, 1, 2, 3]] rstChunkFile = .error (.st .failure) ∧
    (∃ r, partScalarRst BFix.all 100000 4 20 [[0, 1, 2, 3]] rstIdleFile = .ok (0, r)) := by
  refine ⟨by decide +kernel, by decide +kernel, by decide +kernel, by decide +kernel, by decide +kernel, by decide +kernel,
    by decide +kernel, ⟨[[[], [], [], []]], by decide +kernel⟩⟩

/-- `.snap`: 2·10^8 declared fields: `ldim * ref_node_max` leaves `int` (finding snap-field-count-trusted) -/
theorem snap_fields_counterexample :
    partScalarSnap BFix.none 100000 4 20 [[0, 1, 2, 3]] snapFieldsFile = .error (.st .undefined) ∧
    partScalarSnap BFix.all 100000 4 20 [[0, 1, 2, 3]] snapFieldsFile = .error (.st .failure) := by
  decide +kernel

/-- `.plt`: a zone declaring 2^30 points with 4 variables: `nvar * nnode` leaves `int` (finding plt-zone-size-trusted) -/
theorem plt_numpts_counterexample :
    partScalarPlt BFix.none 20 pltNumptsFile = .error (.st .undefined) ∧
    partScalarPlt BFix.all 20 pltNumptsFile = .error (.st .failure) := by
  decide +kernel

/-- `.snap` on two or more ranks: the vertex count of a field is broadcast as a 4-byte integer into an 8-byte variable
    (finding snap-nnode-bcast-as-int): the model has no status — the ranks leave the collective sequence -/
theorem snap_bcast_counterexample :
    partScalarSnap BFix.none 100000 1 20 [[0], []] snapOkFile = .error (.st .undefined) ∧
    partScalarSnap BFix.none 100000 1 20 [[0]] snapOkFile = .ok (1, [[[0x3ff0000000000000]]]) ∧
    partScalarSnap BFix.all 100000 1 20 [[0], []] snapOkFile = .ok (1, [[[0x3ff0000000000000]], []]) := by
  decide +kernel

/-- **accepted_counts_fit**, `.rst` with the proposed header test: an accepted read has no negative count, at least one
    step, and — when there are variables — `variables × steps × dof` doubles after the header -/
theorem rst_fixed_accepted_counts_fit {fx : BFix} (hfx : fx.rst = true) {floor : Int} {n nodeMax : Nat}
    {ranks : List (List Nat)} {bs : Bytes} {r : Int × List (List Refine.Model.Sol.Row)}
    (h : partScalarRst fx floor n nodeMax ranks bs = .ok r) :
    ∃ hd s, rstHeader bs = .ok (hd, s) ∧ 0 ≤ hd.variables ∧ 1 ≤ hd.steps ∧ 0 ≤ hd.dof ∧ (n : Int) ≤ hd.dof ∧
      (hd.variables = 0 ∨ hd.variables * hd.steps * hd.dof * 8 ≤ (s.length : Int)) := by
  revert h
  fun_cases partScalarRst fx floor n nodeMax ranks bs <;> intro h <;> cases h
  rename_i hp _ _ _
  revert hp
  fun_cases rstPlan fx n nodeMax ranks.length floor bs <;> intro hp <;> try cases hp
  -- the success branch of `rstPlan`: the header was read and passed the two count guards
  next hd' s' hh hfit hdof _ _ _ _ _ _ _ _ =>
  simp only [Except.ok.injEq, Prod.mk.injEq] at hp
  obtain ⟨rfl, -, -, rfl⟩ := hp
  obtain ⟨hv, hs, hd0, hrest⟩ := rstCountsFit_fit (h := hd') (avail := (s'.length : Int)) (by simpa [hfx] using hfit)
  exact ⟨hd', s', hh, hv, hs, hd0, by omega, hrest⟩

/-- `.snap` with the proposed test: the declared number of fields is covered by the bytes present (a field needs more
    than 8 bytes) and is what `ldim` holds -/
theorem snap_fixed_fields_fit {fx : BFix} (hfx : fx.snap = true) {nodeMax : Nat} {bs : Bytes} {ver : Nat} {ldim : Int}
    {s : Bytes} (h : snapPlan fx nodeMax bs = .ok (ver, ldim, s)) (hlen : bs.length < 2 ^ 34) :
    0 ≤ ldim ∧ ldim * 8 ≤ (s.length : Int) := by
  revert h
  fun_cases snapPlan fx nodeMax bs <;> intro h <;> try cases h
  next v s1 h1 _ nf s2 h2 hfit ldim' _ _ =>
  simp only [Except.ok.injEq, Prod.mk.injEq] at h
  obtain ⟨-, rfl, rfl⟩ := h
  have hnf : nf ≤ s2.length / 8 := by simpa [hfx] using hfit
  have hs2 : s2.length ≤ bs.length := by
    obtain ⟨a1, e1, l1, _⟩ := Refine.Lemmas.Codec.rdU_ok h1
    obtain ⟨a2, e2, l2, _⟩ := Refine.Lemmas.Codec.rdU_ok h2
    rw [e1, e2]
    simp only [List.length_append]
    omega
  have hsmall : nf < 2 ^ 31 := by omega
  have hw : Refine.Model.Meshb.wrap32 (nf : Int) = nf :=
    Refine.Lemmas.Codec.wrap32_of_int32 (by unfold Refine.Model.Meshb.int32; constructor <;> omega)
  show 0 ≤ Refine.Model.Meshb.wrap32 (nf : Int) ∧ _
  rw [hw]
  constructor
  · omega
  · have := Nat.div_mul_le_self s2.length 8
    omega

/-- finding msh-token-buffer-overflow: the witness file is one 1024-character piece -/
theorem msh_token_counterexample : decodeMsh Fix.none mshTokenFile = .error (.st .undefined) :=
  msh_long_token _ (by rw [String.length_ofList, List.length_replicate])

/-- with `%1023s` the conversion never overruns the buffer, whatever the file holds -/
theorem msh_fixed_token_safe (fx : Fix) (h : fx.token = true) (ts : List Tok) :
    scanS fx ts ≠ .error (.st .undefined) := by
  unfold scanS
  split
  · simp
  · split
    · split <;> simp
    · simp

theorem mapbc_decode_total (ts : List Tok) :
    (∃ d, readMapbc ts = .ok d) ∨ (∃ e, readMapbc ts = .error e) :=
  Refine.Lemmas.except_total _

/-- **accepted_counts_fit**, `.mapbc`: an accepted map holds the declared number of `id type` lines (a count the file does
    not back — missing lines, 2^31-1, 10^10 — ends in REF_FAILURE at the first missing number; names are read by a
    bounded `fgets` and never stored) -/
theorem mapbc_accepted_counts_fit {ts : List Tok} {es : List (Int × Int)} (h : mapbcPairs ts = .ok es) :
    ∃ l rest n, firstLine ts [] = some (l, rest) ∧ lineD l = .ok n ∧ es.length = cnt n := by
  revert h
  fun_cases mapbcPairs ts <;> intro h <;> try cases h
  exact ⟨_, _, _, ‹firstLine ts [] = some _›, ‹lineD _ = .ok _›, mapbcEntries_length h⟩

/-- **mapbc_walls_spec** (what C12 relies on): the boundaries `ref distance` measures from are exactly the ids whose LAST
    line in the map carries one of the viscous codes of `ref_phys_wall_distance_bc` -/
theorem mapbc_walls_spec {ts : List Tok} {d : List (Int × Int)} (h : readMapbc ts = .ok d) :
    ∃ es, mapbcPairs ts = .ok es ∧ ∀ id, id ∈ walls d ↔ ∃ c, lastCode es id = some c ∧ isWall c = true := by
  unfold readMapbc at h
  split at h
  · cases h
  rename_i es hes
  simp only [Except.ok.injEq] at h
  refine ⟨es, hes, fun id => ?_⟩
  have hsorted : Sorted d := by rw [← h]; exact fold_sorted es (d := []) List.Pairwise.nil
  have hlook : ∀ k, lookup d k = lastCode es k := by
    intro k
    rw [← h, lookup_fold]
    simp [lookup]
  unfold walls
  simp only [List.mem_map, List.mem_filter]
  constructor
  · rintro ⟨⟨k, v⟩, ⟨hin, hw⟩, rfl⟩
    exact ⟨v, by rw [← hlook]; exact (mem_iff_lookup hsorted k v).mp hin, hw⟩
  · rintro ⟨c, hc, hw⟩
    exact ⟨(id, c), ⟨(mem_iff_lookup hsorted id c).mpr (by rw [hlook]; exact hc), hw⟩, rfl⟩

/-- non-vacuity: a three-line map with a repeated id; boundary 2 is a wall (code 4000 on its last line), 7 is not -/
example : readMapbc [.int 3, .nl, .int 2, .int 5000, .word "farfield", .nl, .int 7, .int 3000, .word "inflow", .nl,
    .int 2, .int 4000, .word "wall", .nl] = .ok [(2, 4000), (7, 3000)] ∧ walls [(2, 4000), (7, 3000)] = [2] := by
  decide +kernel

/-- **no hazard in the `.mapbc` reader**: 5000-character names, a declared count of 2^31-1 or 10^10, missing lines, words
    where numbers belong — every malformed map is refused with REF_FAILURE (or is outside the token abstraction:
    `fgets` lines longer than the buffer, `%d` applied to a `%.17g` text); the model has no `undefined`, `bloat`, `null`
    or `diverge` outcome for it -/
theorem mapbc_no_hazard {ts : List Tok} {e : Err} (h : readMapbc ts = .error e) : Benign e := by
  revert h
  fun_cases readMapbc ts <;> intro h <;> cases h
  -- the only error of `readMapbc` is the one `mapbcPairs` hands up
  rename_i he
  revert he
  fun_cases mapbcPairs ts <;> intro he <;> try cases he
  · exact .inl rfl
  · exact .inr rfl
  · exact lineD_error ‹lineD _ = .error _›
  · exact mapbcEntries_error he

end Refine.Props.C20Formats
