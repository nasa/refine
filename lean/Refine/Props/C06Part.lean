import Refine.Lemmas.PartMeshbInv

/-!
  C06 for the PARALLEL libMeshb reader (`ref_part_by_extension` → `ref_part_meshb`, model
  `Refine.Model.PartMeshb`): the world every `refmpi` command starts from satisfies the distributed-mesh invariant.

  Hypotheses of the two headline theorems, on what rank 0 accepted (`parseWith … = ok p`):
  `1 ≤ nnode < 2^31` (vertex indices are `REF_INT`) and, per cell group, no two cells with the same SET of vertices
  (`Distinct`: `ref_cell_add_many_global` looks a cell up with `ref_cell_with` and silently drops a second cell on
  the same vertices — with duplicates in the file two ranks can end with different copies, so the invariant really
  needs this).  Everything else (vertex indices in range, record sizes, blocks) is what acceptance implies
  (`Props/C20PartMeshb.lean`).  Rank count `np ≥ 1`, chunk constant `cm`, byte string: arbitrary.
-/
namespace Refine.Props.C06Part
open Refine.Model.Meshb Refine.Model.PartMeshb Refine.Lemmas.PartMeshb
open Refine.Model.Dist
open Refine.Gen.PartMacros

/-- the closed form behind both theorems: the reader succeeds and leaves the world `FinalP` -/
theorem partRead_closed_form (cfg : Cfg) (np cm : Nat) (hnp : 1 ≤ np) (bs : Bytes) (p : Parsed)
    (h : parseWith cfg np cm bs = .ok p) (hN : 1 ≤ p.nnode) (hN31 : p.nnode < 2 ^ 31)
    (hd : ∀ g ∈ cellInfos.zip p.groups, Distinct g.1 g.2.flatten) :
    ParsedOK np p ∧ ∃ w, partReadWith cfg np cm bs = .ok w ∧ FinalP np p p.cad w := by
  have hp := parsedOK_of_parse hnp h hN hN31 hd
  obtain ⟨w, hw, hF⟩ := distribute_ok hnp hp
  exact ⟨hp, w, by simp [partReadWith, h, hw], hF⟩

/-- **routing complete**: every cell record of the file is delivered exactly once by the reading loop — to the rank
    that owns its FIRST vertex, for every chunk constant `cm` (the cells are those of `p`, the parse under that constant;
    that two constants give the same cells is not stated) — and after `ref_migrate_shufflin_cell` rank `r` holds, in this
    order, those cells and then, by source rank, the cells delivered elsewhere that have a vertex of `r`; hence rank `r`
    holds the (stored form of the) file cell `c0` ⇔ some vertex of `c0` is owned by `r`. -/
theorem partCell_routing_complete (cfg : Cfg) (np cm : Nat) (hnp : 1 ≤ np) (bs : Bytes) (p : Parsed)
    (h : parseWith cfg np cm bs = .ok p) (hN : 1 ≤ p.nnode) (hN31 : p.nnode < 2 ^ 31)
    (hd : ∀ g ∈ cellInfos.zip p.groups, Distinct g.1 g.2.flatten) :
    ∃ w, partReadWith cfg np cm bs = .ok w ∧ w.length = np ∧
      ∀ r, r < np → ∀ j ci, cellInfos[j]? = some ci →
        (w.getD r default).group j =
          ((fileGroup p j).filter fun c => destOf p.nnode np c == (r : Int)).map (norm ci) ++
          ((List.range np).flatMap fun s => if s = r then [] else
            (((fileGroup p j).filter fun c => destOf p.nnode np c == (s : Int)).filter
              (touches p.nnode np ci r))).map (norm ci) ∧
        ∀ c0 ∈ fileGroup p j,
          (norm ci c0 ∈ (w.getD r default).group j ↔
            ∃ v ∈ c0.take ci.nodePer, ref_part_implicit p.nnode (np : Int) v = (r : Int)) := by
  obtain ⟨hp, w, hw, hF⟩ := partRead_closed_form cfg np cm hnp bs p h hN hN31 hd
  refine ⟨w, hw, hF.len, fun r hr j ci hci => ⟨?_, rank_stores_iff hp hF r hr j ci hci⟩⟩
  rw [hF.grp r hr j, finalGroup_eq _ _ _ hci, finalCells, List.map_append]
  rfl

/-- the state right after the parallel read satisfies the distributed-mesh invariant
    `distInv` of `Refine.Model.Dist` — all seven clauses: every vertex has exactly one owner, the
    `ref_part_implicit` block owner, which stores it as owned; rank `r` stores cell `c` iff some vertex of `c` has
    `part = r`; stored vertices = owned ∪ vertices of stored cells; a ghost carries the owner's coordinates bit for bit;
    the cell owner (`ref_cell_part`) is one rank, which stores the cell; owned vertices are `0 … nnode-1`, each once,
    `n_global = nnode` on every rank, owned cells are the distinct cells, each once. -/
theorem readPartition_spec (cfg : Cfg) (np cm : Nat) (hnp : 1 ≤ np) (bs : Bytes) (p : Parsed)
    (h : parseWith cfg np cm bs = .ok p) (hN : 1 ≤ p.nnode) (hN31 : p.nnode < 2 ^ 31)
    (hd : ∀ g ∈ cellInfos.zip p.groups, Distinct g.1 g.2.flatten) :
    ∃ w, partReadWith cfg np cm bs = .ok w ∧ distInv (toDist w) = true := by
  obtain ⟨hp, w, hw, hF⟩ := partRead_closed_form cfg np cm hnp bs p h hN hN31 hd
  refine ⟨w, hw, (FinalP.layout hnp hp hF).distInv fun _ => ⟨p.nnode.toNat, fun g => ?_, fun s' hs' => ?_⟩⟩
  · rw [Int.toNat_of_nonneg (by omega)]
  · obtain ⟨q, hq, rfl⟩ := toDist_mem hF s' hs'
    show (w.getD q default).nGlobal = _
    rw [hF.glob q hq, Int.toNat_of_nonneg (by omega)]

/-! ### non-vacuity -/

instance (ci : CellInfo) (cs : List Cell) : Decidable (Distinct ci cs) := by unfold Distinct; infer_instance

/-- 7 vertices (blocks 3,2,2 on 3 ranks), one tet, two triangles, two edges — all among the vertices 0..4 — a geometry
    record, two CAD bytes: rank 2 (vertices 5,6) ends with NO cell -/
def threeRankFile : Bytes :=
  [1, 0, 0, 0, 2, 0, 0, 0, 3, 0, 0, 0, 20, 0, 0, 0, 3, 0, 0, 0, 4, 0, 0, 0, 228, 0, 0, 0, 7, 0, 0, 0, 0, 0, 0,
   0, 0, 0, 0, 0, 0, 0, 0, 0, 0, 0, 0, 0, 0, 0, 0, 0, 0, 0, 0, 128, 1, 0, 0, 0, 0, 0, 0, 0, 0, 0, 240, 63, 0,
   0, 0, 0, 0, 0, 224, 63, 0, 0, 0, 0, 0, 0, 240, 191, 1, 0, 0, 0, 0, 0, 0, 0, 0, 0, 0, 64, 0, 0, 0, 0, 0, 0,
   240, 63, 0, 0, 0, 0, 0, 0, 0, 192, 1, 0, 0, 0, 0, 0, 0, 0, 0, 0, 8, 64, 0, 0, 0, 0, 0, 0, 248, 63, 0, 0, 0,
   0, 0, 0, 8, 192, 1, 0, 0, 0, 0, 0, 0, 0, 0, 0, 16, 64, 0, 0, 0, 0, 0, 0, 0, 64, 0, 0, 0, 0, 0, 0, 16, 192,
   1, 0, 0, 0, 0, 0, 0, 0, 0, 0, 20, 64, 0, 0, 0, 0, 0, 0, 4, 64, 0, 0, 0, 0, 0, 0, 20, 192, 1, 0, 0, 0, 0, 0,
   0, 0, 0, 0, 24, 64, 0, 0, 0, 0, 0, 0, 8, 64, 0, 0, 0, 0, 0, 0, 24, 192, 1, 0, 0, 0, 5, 0, 0, 0, 8, 1, 0, 0,
   2, 0, 0, 0, 1, 0, 0, 0, 2, 0, 0, 0, 7, 0, 0, 0, 5, 0, 0, 0, 4, 0, 0, 0, 8, 0, 0, 0, 6, 0, 0, 0, 52, 1, 0, 0,
   2, 0, 0, 0, 1, 0, 0, 0, 2, 0, 0, 0, 3, 0, 0, 0, 5, 0, 0, 0, 5, 0, 0, 0, 4, 0, 0, 0, 3, 0, 0, 0, 6, 0, 0, 0,
   8, 0, 0, 0, 84, 1, 0, 0, 1, 0, 0, 0, 1, 0, 0, 0, 2, 0, 0, 0, 3, 0, 0, 0, 4, 0, 0, 0, 0, 0, 0, 0, 41, 0, 0,
   0, 120, 1, 0, 0, 1, 0, 0, 0, 2, 0, 0, 0, 4, 0, 0, 0, 0, 0, 0, 0, 0, 0, 224, 63, 0, 0, 0, 0, 0, 0, 16, 64,
   126, 0, 0, 0, 134, 1, 0, 0, 2, 0, 0, 0, 9, 8, 54, 0, 0, 0, 0, 0, 0, 0]

/-- the hypotheses of the theorems hold of this file on 3 ranks … -/
example : ∃ p, parseWith Cfg.current 3 chunkConst threeRankFile = .ok p ∧ 1 ≤ p.nnode ∧ p.nnode < 2 ^ 31 ∧
    ∀ g ∈ cellInfos.zip p.groups, Distinct g.1 g.2.flatten := by
  have : (match parseWith Cfg.current 3 chunkConst threeRankFile with
    | .ok p => decide (1 ≤ p.nnode ∧ p.nnode < 2 ^ 31 ∧ ∀ g ∈ cellInfos.zip p.groups, Distinct g.1 g.2.flatten)
    | .error _ => false) = true := by decide +kernel
  cases hp : parseWith Cfg.current 3 chunkConst threeRankFile with
  | error e => simp [hp] at this
  | ok p => exact ⟨p, rfl, by simpa [hp] using this⟩

/-- … the mesh has tets + triangles + edges, rank 2 holds no cell (and rank 0, 1 do), and the invariant holds
    (here by evaluation; `readPartition_spec` proves it for every file) -/
example : (partRead 3 threeRankFile).toOption.map
    (fun w => (w.map fun st => st.cells.map List.length, distInv (toDist w))) =
    some ([[1, 0, 0, 2, 0, 0, 0, 0, 1, 0, 0, 0, 0, 0, 0, 0], [1, 0, 0, 1, 0, 0, 0, 0, 1, 0, 0, 0, 0, 0, 0, 0],
           [0, 0, 0, 0, 0, 0, 0, 0, 0, 0, 0, 0, 0, 0, 0, 0]], true) := by decide +kernel

end Refine.Props.C06Part
