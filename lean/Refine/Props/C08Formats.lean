import Refine.Lemmas.FormatsRoundtrip

/-!
  C08 — mesh files round-trip: the TEXT formats that refine both writes and reads, at token level
  (`Refine.Model.Formats`): a number is carried as the bit pattern `strtod` returns for its text (refine writes
  `%.16e`, the harness of the read streams `%.17g`; 17 significant digits either way, so the text fixes the bits), an
  integer as its value. ASCII `.ugrid`, `.tri`, `.fgrid`: `roundtrip_*` for every mesh the format holds. `.su2`, `.msh`:
  the node orders of pyramid and prism undo each other, three losses the writers have (`*_counterexample`), and the
  round trip on one mesh only (`sample_roundtrips`).

  Tie (streams formats_write, formats_read): the tokens of the file ref_export_by_extension writes == `encodeX m`;
  ref_import_by_extension / the static reader on a file from an independent writer == `decodeX`; the independent
  parsers of checks/streams_formats.py (written from the format descriptions) read what refine wrote.
-/
namespace Refine.Props.C08Formats
open Refine.Model.Formats Refine.Lemmas.Formats
open Refine.Model.Meshb (Status Vertex)

/-- **roundtrip_ugrid_txt**: ref_import_ugrid of what ref_export_ugrid writes is the mesh with its boundary faces in the
    writer's order (stable by id: the `faceid = min..max` sweep), for every mesh of triangles / quads with ids and tets /
    pyramids / prisms / hexes whose vertices exist (`UgridOk`; at most 2^28 - 200 vertices) — vertices bit for bit,
    cells with orientation and ids -/
theorem roundtrip_ugrid_txt (m : TMesh) (h : UgridOk m) :
    decodeUgridTxt (encodeUgridTxt m) = .ok (normalizeUgrid m) := decodeUgridTxt_encodeUgridTxt m h

/-- **roundtrip_tri**: `.tri` (reader as in /repo and with the proposed repairs alike) -/
theorem roundtrip_tri (fx : Fix) (m : TMesh) (h : TriOk m) : decodeTri fx (encodeTri m) = .ok (normalizeTri m) :=
  decodeTri_encodeTri fx m h

/-- **roundtrip_fgrid**: `.fgrid` (coordinates stored column by column) -/
theorem roundtrip_fgrid (fx : Fix) (m : TMesh) (h : FgridOk m) :
    decodeFgrid fx (encodeFgrid m) = .ok (normalizeFgrid m) := decodeFgrid_encodeFgrid fx m h

/-- the normal form only reorders boundary faces: same triangles, same quads -/
theorem normalizeUgrid_perm (m : TMesh) :
    (normalizeUgrid m).tri.Perm m.tri ∧ (normalizeUgrid m).qua.Perm m.qua ∧ (normalizeUgrid m).tet = m.tet ∧
    (normalizeUgrid m).pyr = m.pyr ∧ (normalizeUgrid m).pri = m.pri ∧ (normalizeUgrid m).hex = m.hex ∧
    (normalizeUgrid m).nodes = m.nodes :=
  ⟨List.mergeSort_perm _ _, List.mergeSort_perm _ _, rfl, rfl, rfl, rfl, rfl⟩

/-- SU2 / VTK pyramid: what ref_export_su2 writes (VTK_PYRAMID_ORDER) is undone by ref_import_su2
    (VTK_PYRAMID_TO_UGRID) -/
theorem su2_pyramid_order_inverse (a b c d e : Int) :
    permute su2PyrIn (permute su2PyrOut [a, b, c, d, e]) = [a, b, c, d, e] := rfl

/-- SU2 / VTK wedge: VTK_WEDGE_ORDER is undone by VTK_WEDGE_TO_UGRID -/
theorem su2_prism_order_inverse (a b c d e f : Int) :
    permute su2PriIn (permute su2PriOut [a, b, c, d, e, f]) = [a, b, c, d, e, f] := rfl

/-- Gmsh pyramid: the same shuffle on both sides, and it is an involution -/
theorem msh_pyramid_order_involution (a b c d e : Int) :
    permute mshPyr (permute mshPyr [a, b, c, d, e]) = [a, b, c, d, e] := rfl

/-- the VTK pyramid is the UGRID pyramid with base (1, 0, 3, 4) and apex 2: base first, apex last, as the VTK file
    format document orders it -/
theorem su2_pyramid_is_base_then_apex (a b c d e : Int) : permute su2PyrOut [a, b, c, d, e] = [b, a, d, e, c] := rfl

def z : UInt64 := 0
def o : UInt64 := 0x3ff0000000000000
def verts4 : List Vertex := [⟨z, z, z⟩, ⟨o, z, z⟩, ⟨z, o, z⟩, ⟨z, z, o⟩]

/-- four vertices left after slot 1 of five was removed, one tet that still carries the stored numbers 0 2 3 4 -/
def holeMesh : TMesh := { TMesh.empty with nodes := verts4, tet := [[0, 2, 3, 4]] }

/-- finding msh-export-skips-renumbering: ref_export_msh writes the stored vertex numbers of a cell next to a
    compacted vertex block; read back, the tet names vertex 4 of 0..3 -/
theorem msh_export_renumber_counterexample :
    ∃ m, decodeMsh Fix.none (encodeMsh holeMesh) = .ok m ∧ m.tet = [[0, 2, 3, 4]] ∧ m.nodes.length = 4 ∧
      indicesInRange m = false :=
  Refine.Lemmas.exists_ok_of_decide (by decide +kernel)

/-- a surface mesh: one triangle and one quad with ids, no volume cell -/
def surfMesh : TMesh := { TMesh.empty with nodes := verts4, tri := [[0, 1, 2, 7]], qua := [[0, 1, 2, 3, 9]] }

/-- finding msh-roundtrip-reverses-faces: write + read of a `.msh` returns every triangle and quad reversed; with the
    proposed reversal in the reader the mesh comes back -/
theorem msh_faces_counterexample :
    decodeMsh Fix.none (encodeMsh surfMesh) = .ok { surfMesh with tri := [[2, 1, 0, 7]], qua := [[3, 2, 1, 0, 9]] } ∧
    decodeMsh Fix.all (encodeMsh surfMesh) = .ok surfMesh := by
  decide +kernel

/-- boundary ids 3 and 5 -/
def taggedMesh : TMesh :=
  { TMesh.empty with nodes := verts4, tri := [[0, 1, 2, 5], [1, 2, 3, 3]], tet := [[0, 1, 2, 3]] }

/-- finding su2-marker-tag-ignored: ids 3 and 5 come back as 1 and 3 (markers numbered by position); with the tag
    read as the id they are kept (the triangles in marker order) -/
theorem su2_tags_counterexample :
    decodeSu2 Fix.none (encodeSu2 taggedMesh) = .ok { taggedMesh with tri := [[1, 2, 3, 1], [0, 1, 2, 3]] } ∧
    decodeSu2 Fix.all (encodeSu2 taggedMesh) = .ok { taggedMesh with tri := [[1, 2, 3, 3], [0, 1, 2, 5]] } := by
  decide +kernel

/-- non-vacuity of the writers / readers on a mesh every format keeps: ids from 1, no removed slot, boundary faces and
    volume cells together -/
def sampleMesh : TMesh :=
  { TMesh.empty with nodes := verts4, tri := [[0, 1, 2, 2], [1, 2, 3, 1]], tet := [[0, 1, 2, 3]] }

/-- non-vacuity of `roundtrip_ugrid_txt` / `roundtrip_tri` / `roundtrip_fgrid`: the sample mesh meets their hypotheses -/
example : UgridOk sampleMesh ∧ TriOk sampleMesh ∧ FgridOk sampleMesh := by
  have hmem : ∀ c ∈ sampleMesh.tri, c = [0, 1, 2, 2] ∨ c = [1, 2, 3, 1] := by
    intro c hc; simpa [sampleMesh] using hc
  have htet : ∀ c ∈ sampleMesh.tet, c = [0, 1, 2, 3] := by
    intro c hc; simpa [sampleMesh] using hc
  have htri : ∀ c ∈ sampleMesh.tri, c.length = 4 ∧ (∀ x ∈ c.take 3, 0 ≤ x ∧ x < (sampleMesh.nodes.length : Int)) ∧
      Refine.Model.Meshb.int32 (c.getD 3 0) := by
    intro c hc
    rcases hmem c hc with rfl | rfl <;> decide
  have htets : ∀ c ∈ sampleMesh.tet, c.length = 4 ∧ (∀ x ∈ c.take 4, 0 ≤ x ∧ x < (sampleMesh.nodes.length : Int)) := by
    intro c hc
    rw [htet c hc]; decide
  -- the sample has no quad, pyramid, prism or hex
  have hnone : ∀ c ∈ ([] : List (List Int)), ∀ (p : Prop), p := fun c hc => absurd hc (List.not_mem_nil)
  exact ⟨⟨by decide, htri, fun c hc => hnone c hc _, htets, fun c hc => hnone c hc _, fun c hc => hnone c hc _,
      fun c hc => hnone c hc _, by decide⟩,
    ⟨by decide, htri, by decide⟩, ⟨by decide, htri, htets, by decide, by decide⟩⟩

theorem sample_roundtrips :
    decodeTri Fix.none (encodeTri sampleMesh) = .ok (normalizeTri sampleMesh) ∧
    decodeFgrid Fix.none (encodeFgrid sampleMesh) = .ok (normalizeFgrid sampleMesh) ∧
    decodeSu2 Fix.none (encodeSu2 sampleMesh) = .ok (normalizeSu2 sampleMesh) ∧
    decodeMsh Fix.none (encodeMsh sampleMesh) = .ok (normalizeMsh sampleMesh) := by
  decide +kernel

end Refine.Props.C08Formats
