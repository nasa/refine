import Refine.Lemmas.ReconParRoundoff
import Refine.Props.C10
import Refine.Lemmas.ReconParRadii

/-!
  C10, parallel part: `ref_recon_roundoff_limit` on a distributed mesh (the floor step of the multiscale pipeline,
  `Refine.Model.ReconPar.roundoffLimitPar`, compared with the real function on np = 1..3 ranks by stream
  `reconpar_roundoff`).  Same convention as `Props/C10.lean`: the floor theorem needs only the orthonormal frame of
  `ref_matrix_diag_m` (proved unconditionally in C16), not an exact decomposition: there is no `IsEigSys` hypothesis.
-/
namespace Refine.Props.C10Par
open Refine Refine.Model.Geom Refine.Model.ReconPar Refine.ScalarReal Refine.ReconParGhost Refine.ReconParRoundoff
open Refine.Model.Comm (World RefType)
open Refine.Model.Metric (roundoffLimit radii SPD)
open Refine.ReconParMesh Refine.ReconParCells Refine.ReconParRadii

/-- **after `ref_recon_roundoff_limit` every tensor held by every rank — owned or ghost — is positive definite**, for
    every rank count, every distribution satisfying the structural invariant `WorldOK`, every reconstructed Hessian
    field (indefinite, singular, zero) and whatever the per-rank radii are: when the floor step succeeds on every rank
    the refresh completes (first clause) and the result is SPD everywhere (second clause) -/
theorem roundoffLimitPar_spd (gxyz : List (V3 ℝ)) (w : World Rank) (hw : WorldOK w)
    (recon : World (List (M6 ℝ))) (hlen : recon.length = w.length)
    (hshape : ∀ (me : Nat) (r : Rank) (m : List (M6 ℝ)), w[me]? = some r → recon[me]? = some m →
      m.length = r.l2g.length) :
    roundoffLimitPar gxyz w recon ≠ .ok none ∧
    ∀ out, roundoffLimitPar gxyz w recon = .ok (some out) →
      out.length = w.length ∧ ∀ o ∈ out, ∀ m ∈ o, SPD (toMat m) := by
  unfold roundoffLimitPar
  set loc := List.zipWith (fun (r : Rank) (m : List (M6 ℝ)) =>
    roundoffLimit (r.xyz gxyz) r.cells (m.map toMat)) w recon
  cases hseq : sequenceE loc with
  | error e =>
    simp only [hseq]
    exact ⟨by simp, by intro out h; simp at h⟩
  | ok ms =>
    simp only [hseq]
    obtain ⟨hmslen, hrank⟩ := sequenceE_zipWith _ hlen hseq
    -- every rank's result: right length, all SPD (the serial theorems)
    have hms : ∀ (me : Nat) (r : Rank) (x : List (Refine.Model.Matrix.M6 ℝ)), w[me]? = some r → ms[me]? = some x →
        x.length = r.l2g.length ∧ ∀ t ∈ x, SPD t := by
      intro me r x hr hx
      obtain ⟨m, hm, h1⟩ := hrank me r x hr hx
      refine ⟨?_, Refine.Props.C10.roundoffLimit_spd _ _ _ _ h1⟩
      rw [MetricRadii.roundoffLimit_length _ _ _ _ h1, List.length_map, hshape me r _ hr hm]
      simp [Rank.xyz]
    have hsh : Shaped w (ms.map (·.map ofMat)) := ⟨by rw [List.length_map, hmslen], fun me r h hr hh => by
      rw [List.getElem?_map] at hh
      obtain ⟨x, hx, rfl⟩ := Option.map_eq_some_iff.mp hh
      rw [List.length_map]
      exact (hms me r x hr hx).1⟩
    have hspd : ∀ o ∈ ms.map (·.map ofMat), ∀ m ∈ o, SPD (toMat m) := by
      intro o ho m hm
      obtain ⟨x, hx, rfl⟩ := List.mem_map.mp ho
      obtain ⟨t, ht, rfl⟩ := List.mem_map.mp hm
      obtain ⟨me, hme, rfl⟩ := List.getElem_of_mem hx
      rw [toMat_ofMat]
      exact (hms me _ _ (List.getElem?_eq_getElem (hmslen ▸ hme)) (List.getElem?_eq_getElem hme)).2 t ht
    -- every stored copy is, after the refresh, a tensor some rank computed
    rw [ghostM6_spec ⟨0, 0, 0, 0, 0, 0⟩ w hw _ hsh]
    refine ⟨by simp, fun out h => ?_⟩
    simp only [Except.ok.injEq, Option.some.injEq] at h
    subst h
    exact ⟨(Shaped.fromOwners _ w _).len, fromOwners_forall _ hw hsh hspd⟩

/-- **the eigenvalue floor does not depend on the partition**: at a stored vertex all of whose cells are stored on
    the rank (clause (ii) of the distributed invariant at the cell level: every owned vertex) the radius
    `ref_recon_roundoff_limit` computes from the rank's own edges — the shortest edge at the vertex, `-1` when there
    is none — is the radius of the global mesh, whatever the order in which the rank walks its cells (a minimum is
    exact in floating point too).  A floor taken from a rank-local mesh size would break this (mutation caught by the
    oracle of stream `reconpar_roundoff`). -/
theorem roundoff_radius_partition_independent (gxyz : List (V3 ℝ)) (gcells : List Refine.Model.Recon.Cell) (r : Rank)
    (i : Nat) (hnd : r.l2g.Nodup) (hi : i < r.l2g.length) (hg : gOf r.l2g i < gxyz.length)
    (hL : ∀ c ∈ r.cells, CellWF c) (hG : ∀ c ∈ gcells, CellWF c)
    (hnodes : ∀ c ∈ r.cells, ∀ v ∈ c.nodes, v < r.l2g.length)
    (h : ((r.cells.map (globCell r.l2g)).filter (cellTouches (gOf r.l2g i))).Perm
      (gcells.filter (cellTouches (gOf r.l2g i)))) :
    (radii (r.xyz gxyz) r.cells)[i]? = (radii gxyz gcells)[gOf r.l2g i]? := by
  have hlx : (r.xyz gxyz).length = r.l2g.length := by simp [Rank.xyz]
  obtain ⟨rl, hrl, ml⟩ := MetricRadii.radii_minOf (r.xyz gxyz) r.cells i (by rw [hlx]; exact hi)
  obtain ⟨rg, hrg, mg⟩ := MetricRadii.radii_minOf gxyz gcells (gOf r.l2g i) hg
  rw [hrl, hrg]
  -- both radii are THE minimum of a set of edge lengths (`MinOf`), and the two sets agree (`distAt_glob`)
  exact congrArg some (ml.unique mg (distAt_glob gxyz hnd hL hG hnodes hi h))

/-- … with its hypotheses met at the vertex `v1` owned by rank 1 of a 2-rank world (two tets, local numbering
    shuffled): both tets around it are stored -/
example (gxyz : List (V3 ℝ)) (hlen : gxyz.length = 5) :
    (radii ((⟨[1, 2, 3, 4, 0], [1, 1, 1, 1, 0],
        [⟨.tet, [0, 1, 2, 3]⟩, ⟨.tet, [4, 0, 1, 2]⟩], []⟩ : Rank).xyz gxyz)
      [⟨.tet, [0, 1, 2, 3]⟩, ⟨.tet, [4, 0, 1, 2]⟩])[0]? =
    (radii gxyz [⟨.tet, [0, 1, 2, 3]⟩, ⟨.tet, [1, 2, 3, 4]⟩])[1]? :=
  roundoff_radius_partition_independent gxyz [⟨.tet, [0, 1, 2, 3]⟩, ⟨.tet, [1, 2, 3, 4]⟩]
    ⟨[1, 2, 3, 4, 0], [1, 1, 1, 1, 0], [⟨.tet, [0, 1, 2, 3]⟩, ⟨.tet, [4, 0, 1, 2]⟩], []⟩ 0
    (by decide) (by decide) (by rw [hlen]; decide) (by intro c hc; simp at hc; rcases hc with rfl | rfl <;> rfl)
    (by intro c hc; simp at hc; rcases hc with rfl | rfl <;> rfl)
    (by decide)
    (by
      show List.Perm [(⟨.tet, [1, 2, 3, 4]⟩ : Refine.Model.Recon.Cell), ⟨.tet, [0, 1, 2, 3]⟩]
        [⟨.tet, [0, 1, 2, 3]⟩, ⟨.tet, [1, 2, 3, 4]⟩]
      exact List.Perm.swap _ _ _)

/-- a 2-rank world: each rank owns one end of a segment and stores the other end as a ghost -/
def exW : World Rank := [⟨[0, 1], [0, 1], [], [(0, 1)]⟩, ⟨[1, 0], [1, 0], [], [(0, 1)]⟩]

/-- the structural hypotheses of `roundoffLimitPar_spd` hold for it, with any Hessian field of the right shape -/
example : WorldOK exW ∧
    ∀ a b c d : M6 ℝ, ([[a, b], [c, d]] : World (List (M6 ℝ))).length = exW.length ∧
      ∀ (me : Nat) (r : Rank) (m : List (M6 ℝ)), exW[me]? = some r → [[a, b], [c, d]][me]? = some m →
        m.length = r.l2g.length := by
  refine ⟨⟨by decide, by decide, owner_of_stored (by decide), by decide⟩, ?_⟩
  · intro a b c d
    refine ⟨rfl, ?_⟩
    intro me r m hr hm
    match me, hr, hm with
    | 0, hr, hm =>
      obtain rfl : (⟨[0, 1], [0, 1], [], [(0, 1)]⟩ : Rank) = r := by simpa [exW] using hr
      obtain rfl : [a, b] = m := by simpa using hm
      rfl
    | 1, hr, hm =>
      obtain rfl : (⟨[1, 0], [1, 0], [], [(0, 1)]⟩ : Rank) = r := by simpa [exW] using hr
      obtain rfl : [c, d] = m := by simpa using hm
      rfl
    | k + 2, hr, _ => simp [exW] at hr

end Refine.Props.C10Par
