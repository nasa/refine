import Refine.Lemmas.DistLocal
import Refine.Props.C06

/-!
  C06 — local operations between two synchronisation points keep the cell and vertex storage clauses.

  `replaceCells r removed added` is what an accepted split / collapse / swap / cavity replacement does to the cell
  lists of the acting rank `r` when no vertex is created or deleted (vertex creation and deletion are the id part,
  `Refine.Props.C06Ids`); the guard is the ownership guard of C04 (`Refine.Props.C04.ownership_disjoint`,
  `local_gem_sound`, `collapse_local_sound`, `swap_local_sound`): every cell taken away and every cell put in has all
  its vertices stored on `r` with `part = r`.  The guard itself is a HYPOTHESIS here (C04 proves the guard functions
  compute it; nothing proves that every pass calls them).
-/
namespace Refine.Props.C06Local
open Refine.Model.Dist Refine.Lemmas.DistLocal
open Refine.Model.Comm (World)

/-- **cells_after_local_ops**: from a world satisfying `distInv`, replacing on rank `r` cells that are fully owned by
    `r` (as `r` reads its own table) by non-empty cells fully owned by `r` keeps clause (ii) "a rank stores a cell iff
    one of its vertices has part = rank, and all its vertices with it" and clause (iii) "a stored vertex is owned or
    needed by a stored cell" — on every rank; no other rank is touched, and no other rank stores a (non-empty) removed
    cell, so no copy of it goes stale.  (`DistLocal.stores_after_local_ops` says the whole of it: the new world stores
    the mesh with the cells exchanged, so clauses (i), (iv), (v) and the distinct owned globals are kept as well.) -/
theorem cells_after_local_ops (w : World RankState) (h : distInv w = true) (r : Nat) (s : RankState)
    (hs : w[r]? = some s) (removed added : List DCell)
    (hrem : ∀ c ∈ removed, fullyOwnedOn s r c = true)
    (hadd : ∀ c ∈ added, fullyOwnedOn s r c = true ∧ c.nodes ≠ []) :
    clauseCells (replaceCells r removed added w) = true ∧ clauseVerts (replaceCells r removed added w) = true ∧
    (∀ q, q ≠ r → (replaceCells r removed added w)[q]? = w[q]?) ∧
    (∀ c ∈ removed, c.nodes ≠ [] → ∀ (q : Nat) (t : RankState), q ≠ r → w[q]? = some t → c ∉ t.cells) := by
  obtain ⟨L', hx⟩ := stores_after_local_ops h hs hrem hadd
  exact ⟨L'.clauseCells, L'.clauseVerts, fun q hq => replaceCells_ne r removed added w hq, fun c hc _ => hx c hc⟩

/-- non-vacuity on the 2-rank world `exDist` of `Props/C06.lean`: rank 1 replaces the boundary triangle it fully owns
    by the same triangle with the other orientation; the hypotheses hold and so do all clauses afterwards -/
example :
    distInv Refine.Props.C06.exDist = true ∧
    (∀ c ∈ [(⟨3, [2, 3, 4], 7⟩ : DCell)], fullyOwnedOn (Refine.Props.C06.exDist[1]'(by decide)) 1 c = true) ∧
    (∀ c ∈ [(⟨3, [2, 4, 3], 7⟩ : DCell)],
      fullyOwnedOn (Refine.Props.C06.exDist[1]'(by decide)) 1 c = true ∧ c.nodes ≠ []) ∧
    distInv (replaceCells 1 [⟨3, [2, 3, 4], 7⟩] [⟨3, [2, 4, 3], 7⟩] Refine.Props.C06.exDist) = true := by
  decide +kernel

end Refine.Props.C06Local
