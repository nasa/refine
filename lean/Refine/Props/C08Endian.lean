import Refine.Lemmas.Endian

/-!
  C08 (byte order): the byte-swap macros of `ref_endian.h` — regenerated from the header on every
  run — are the full byte reversal, so a big-endian UGRID integer/double written by refine is what
  the published layout says, and reading is the inverse of writing.  `leBytes`/`ofLeBytes` here are the `encLE`/`decLE`
  the UGRID word encoders are built on: `Refine.Lemmas.Endian.leBytes_eq_encLE`, `ofLeBytes_eq_decLE`.
-/
namespace Refine.Props.C08Endian
open Refine.Gen.Endian Refine.Model.Endian

/-- the three macros are exactly the byte reversal of their width -/
theorem swap_macros_are_reversal :
    swap_int = [3, 2, 1, 0] ∧ swap_long = [7, 6, 5, 4, 3, 2, 1, 0] ∧ swap_dbl = [7, 6, 5, 4, 3, 2, 1, 0] := by
  decide

/-- writing: the in-memory (little-endian, x86) 64-bit value swapped by `SWAP_LONG` is its big-endian
    encoding — for EVERY value, in particular ids ≥ 2^24 whose bytes 3 and 4 differ -/
theorem swap_long_writes_big_endian (n : Nat) :
    applyPerm swap_long (leBytes 8 n) = beBytes 8 n := by
  rw [beBytes, ← Refine.Lemmas.Endian.applyPerm_reverse, Refine.Lemmas.Endian.leBytes_length]; rfl

theorem swap_int_writes_big_endian (n : Nat) :
    applyPerm swap_int (leBytes 4 n) = beBytes 4 n := by
  rw [beBytes, ← Refine.Lemmas.Endian.applyPerm_reverse, Refine.Lemmas.Endian.leBytes_length]; rfl

theorem swap_dbl_writes_big_endian (bits : Nat) :
    applyPerm swap_dbl (leBytes 8 bits) = beBytes 8 bits := by
  rw [beBytes, ← Refine.Lemmas.Endian.applyPerm_reverse, Refine.Lemmas.Endian.leBytes_length]; rfl

/-- reading is the inverse of writing -/
theorem swap_long_involutive (b0 b1 b2 b3 b4 b5 b6 b7 : UInt8) :
    applyPerm swap_long (applyPerm swap_long [b0, b1, b2, b3, b4, b5, b6, b7]) = [b0, b1, b2, b3, b4, b5, b6, b7] :=
  rfl

theorem ofLeBytes_leBytes (w n : Nat) (h : n < 256 ^ w) : ofLeBytes (leBytes w n) = n := by
  rw [Refine.Lemmas.Endian.leBytes_eq_encLE, Refine.Lemmas.Endian.ofLeBytes_eq_decLE]
  exact Refine.Lemmas.Codec.decLE_encLE_of_lt h

/-- non-vacuity: the id of the seeded regression, 20000001 = 0x01312D01, has bytes 3 ≠ 4 -/
example : beBytes 8 20000001 = [0, 0, 0, 0, 1, 49, 45, 1] := by decide

end Refine.Props.C08Endian
