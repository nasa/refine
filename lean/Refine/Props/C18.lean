import Refine.Props.C12
import Refine.Lemmas.ContainersSortDbl

/-!
  C18 — reproducibility: the part of "same inputs ⇒ same output" that is logic.

  refine's only source of randomness is the never-seeded libc `rand()` stream, consumed by
  `ref_sort_shuffle` (the insertion order of the wall-distance / interpolation search trees) and by the
  RCB partitioner.  Reproducibility of a run therefore has three ingredients:

  (1) the results that consume the `rand()` stream do not depend on it — proved here for the wall
      distance: for ANY two insertion orders of the same wall elements the tree search returns the same
      value (`wallDistance_tri_order_independent`, `wallDistance_seg_order_independent`), and
      `ref_sort_shuffle` returns a permutation whatever `rand()` returns (`shuffle_any_rand_same_elements`);
  (2) message passing is a function of the data, not of arrival order — `Props/C18Mech` (b): the tagged
      point-to-point exchanges give the same buffers under every delivery and completion order
      (`p2p_schedule_independent` and its instances) and that common value is the exchange C17's theorems are about;
      every receive names its source and tag (`receives_name_source_and_tag`, generated from the sources);
  (3) no result depends on uninitialised memory — NOT expressible in a pure model: a Lean function has no
      heap.  This part is only exercised (repeated CLI runs under different `MALLOC_PERTURB_` fill bytes and
      address-space layouts must produce byte-identical files: stream `cli_repro`), never proved.

  The theorems are stated in exact real arithmetic over the executable search model that the `search_*`
  streams compare bit-for-bit with the C (`Float` instance).
-/
namespace Refine.Props.C18
open Refine Refine.Model.Geom Refine.Model.Search Refine.ScalarReal Refine.Lemmas.Search
open Refine.Model.Sort

/-- **wall distance does not depend on the insertion order of the search tree (3-D walls)**: build the
    tree from the same wall triangles in two different orders (two different `rand()` streams fed to
    `ref_sort_shuffle`); every query returns the same distance. -/
theorem wallDistance_tri_order_independent (ncell : Int) (tris : Int → V3 ℝ × V3 ℝ × V3 ℝ)
    (perm1 perm2 : List Int) (hp : perm1.Perm perm2) (s1 s2 : Search ℝ)
    (hw1 : wallBuild ncell (fun c => [(tris c).1, (tris c).2.1, (tris c).2.2]) perm1 = (.ok, some s1))
    (hw2 : wallBuild ncell (fun c => [(tris c).1, (tris c).2.1, (tris c).2.2]) perm2 = (.ok, some s2))
    (x : V3 ℝ) (d0 : ℝ) :
    s1.nearestTri tris x d0 = s2.nearestTri tris x d0 := by
  rw [Refine.Props.C12.wallDistance_tri_fold ncell tris perm1 s1 hw1,
    Refine.Props.C12.wallDistance_tri_fold ncell tris perm2 s2 hw2]
  exact Refine.FoldMin.foldl_min_map_congr_set _ d0 fun c => hp.mem_iff

/-- the same for 2-D walls (boundary segments) -/
theorem wallDistance_seg_order_independent (ncell : Int) (segs : Int → V3 ℝ × V3 ℝ)
    (perm1 perm2 : List Int) (hp : perm1.Perm perm2) (s1 s2 : Search ℝ)
    (hw1 : wallBuild ncell (fun c => [(segs c).1, (segs c).2]) perm1 = (.ok, some s1))
    (hw2 : wallBuild ncell (fun c => [(segs c).1, (segs c).2]) perm2 = (.ok, some s2))
    (x : V3 ℝ) (d0 : ℝ) :
    s1.nearestSeg segs x d0 = s2.nearestSeg segs x d0 := by
  rw [Refine.Props.C12.wallDistance_seg_fold ncell segs perm1 s1 hw1,
    Refine.Props.C12.wallDistance_seg_fold ncell segs perm2 s2 hw2]
  exact Refine.FoldMin.foldl_min_map_congr_set _ d0 fun c => hp.mem_iff

/-- `ref_sort_shuffle` under two different `rand()` streams: the two orders are permutations of each
    other (so the hypothesis `perm1.Perm perm2` above is met by whatever `rand()` returns) -/
theorem shuffle_any_rand_same_elements (n : Nat) (rands1 rands2 : List Nat) :
    (shuffle n rands1).Perm (shuffle n rands2) :=
  (shuffle_perm n rands1).trans (shuffle_perm n rands2).symm

/-- non-vacuity: two different `rand()` streams do give two different insertion orders -/
example : shuffle 5 [3, 7, 100, 2] ≠ shuffle 5 [1, 1, 1, 1] := by decide

end Refine.Props.C18
