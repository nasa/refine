import Refine.Lemmas.MixedCount

/-!
  C02 / C01 / C13 next to the cells refine does not adapt ("non-simplex cells are carried through unchanged", "the
  output mesh is conforming -- optionally with a frozen prism layer", "every accepted operation keeps validity").

  About the executable model `Refine/Model/Mixed.lean` (tied to the C by `Drivers/Mixed.lean` vs `harness/h_mixed.c`):

  (a) what each guard decides, exactly:
        `splitEdgeMixed_sound`, `swapEdgeMixed_sound`   allowed ⇔ no qua/pyr/pri/hex has (n0,n1) as a table edge
        `splitEdgeMixed_misses_quad_diagonal`           ... which is weaker than "both ends on one face of the cell"
        `collapseEdgeMixed_sound`                       allowed ⇔ node1 is a vertex of no qua/pyr/pri/hex
        `nodeTouchesMixed_sound`, `smoothTetFrozen_sound`, `cavityFormGate_sound`, `cavityFaceGate_sound`
  (b) `mixed_frame_*`, `mixed_frame`, `mixed_frame_gated`: over ANY history of guarded operations the four
      non-simplex groups (node tuples, ids, order) and the validity and coordinates of every one of their vertices
      are unchanged;
  (c) `mixed_interface_conforming_split` / `_swap` / `_collapse_partial`, `mixed_interface_history`: every triangular
      face of a pyramid / prism that had a tet face or boundary tri on it still has one.

  The mesh is arbitrary: any number of cells of each kind.
-/
namespace Refine.Props.C02Mixed
open Refine Refine.Model Refine.Model.Guards Refine.Model.Mixed Refine.MixedLemmas

variable {P : Type}

/-- **`ref_split_edge_mixed`**: on a grid whose non-simplex cells have their `node_per` vertices, the split of
    `(n0,n1)` is allowed iff no pyramid, prism, hexahedron or boundary quadrilateral has `(n0,n1)` as an edge of its
    `e2n` table (generated from `ref_cell_initialize`), in either direction -/
theorem splitEdgeMixed_sound {g : Grid} (hw : Arity g) (n0 n1 : Nat) :
    splitEdgeMixed g n0 n1 = true ↔ ¬ MixedEdge g n0 n1 :=
  splitEdgeMixed_true_iff hw n0 n1

/-- `allowed → no pyr/pri/hex/qua of the grid has (n0,n1) as an edge` needs no hypothesis on the cells at all when the
    cell is met through `node0` (what `ref_cell_has_side` visits) -/
theorem splitEdgeMixed_allowed {g : Grid} {n0 n1 : Nat} (h : splitEdgeMixed g n0 n1 = true) :
    (∀ c ∈ g.pyr, n0 ∈ c.nodes → ¬ IsEdgeOf e2nPyr c n0 n1) ∧ (∀ c ∈ g.pri, n0 ∈ c.nodes → ¬ IsEdgeOf e2nPri c n0 n1) ∧
    (∀ c ∈ g.hex, n0 ∈ c.nodes → ¬ IsEdgeOf e2nHex c n0 n1) ∧ (∀ c ∈ g.qua, n0 ∈ c.nodes → ¬ IsEdgeOf e2nQua c n0 n1) := by
  exact not_isEdgeOf_of_splitEdgeMixed h

/-- **`ref_swap_edge_mixed`** decides the same thing (it asks the groups in another order) -/
theorem swapEdgeMixed_sound {g : Grid} (hw : Arity g) (n0 n1 : Nat) :
    swapEdgeMixed g n0 n1 = true ↔ ¬ MixedEdge g n0 n1 := by
  show Guards.swapEdgeMixed g n0 n1 = true ↔ _
  rw [swapEdgeMixed_eq_split]
  exact splitEdgeMixed_true_iff hw n0 n1

/-- the criterion is "is a table edge", which is weaker than "lies on the cell": the diagonal `(0,2)` of the
    bottom face of a hexahedron (both ends are corners of the quadrilateral face `0 1 2 3`) is not refused.  (On a
    conforming mesh no tet edge is such a diagonal: the quadrilateral would face two triangles.) -/
theorem splitEdgeMixed_misses_quad_diagonal :
    ∃ (g : Grid) (n0 n1 : Nat), Arity g ∧ (∃ c ∈ g.hex, ∃ f ∈ quaFacesOf Refine.Gen.CellTables.hex,
      n0 ∈ faceOf c f ∧ n1 ∈ faceOf c f) ∧ n0 ≠ n1 ∧ splitEdgeMixed g n0 n1 = true ∧ swapEdgeMixed g n0 n1 = true := by
  refine ⟨{ hex := [⟨[0, 1, 2, 3, 4, 5, 6, 7], 0⟩], tet := [⟨[0, 2, 8, 9], 0⟩] }, 0, 2, ?_, ?_, by decide, by decide,
    by decide⟩
  · constructor <;> intro c hc <;> simp at hc
    subst hc
    rfl
  · exact ⟨⟨[0, 1, 2, 3, 4, 5, 6, 7], 0⟩, by simp, [0, 1, 2, 3], by decide, by decide, by decide⟩

/-- **`ref_collapse_edge_mixed`**: the collapse that removes `node1` is allowed iff `node1` is a vertex of no
    qua/pyr/pri/hex (any grid; `node0` is not looked at) -/
theorem collapseEdgeMixed_sound (g : Grid) (n0 n1 : Nat) :
    collapseEdgeMixed g n0 n1 = true ↔ ¬ OnFrozen g n1 :=
  collapseEdgeMixed_true_iff g n0 n1

/-- **"can't mixed elements"**: `nodeTouchesMixed` iff the node is a vertex of a pyramid, prism or hexahedron -/
theorem nodeTouchesMixed_sound (g : Grid) (n : Nat) :
    nodeTouchesMixed g n = true ↔ ∃ c, (c ∈ g.pyr ∨ c ∈ g.pri ∨ c ∈ g.hex) ∧ n ∈ c.nodes := by
  unfold nodeTouchesMixed
  simp only [Bool.or_eq_true, Bool.not_eq_true', GuardsRules.nodeEmpty_false_iff, or_and_right, exists_or, or_assoc]

/-- `ref_smooth_tet_improve` reaches its coordinate reads iff the node is on no boundary triangle and on no
    qua/pyr/pri/hex -/
theorem smoothTetFrozen_sound (g : Grid) (n : Nat) :
    smoothTetFrozen g n = false ↔ (∀ c ∈ g.tri, n ∉ c.nodes) ∧ ¬ OnFrozen g n := by
  have e : smoothTetFrozen g n = (!nodeEmpty g.tri n || !nodeEmpty g.qua n || nodeTouchesMixed g n) := by
    unfold smoothTetFrozen
    cases (!nodeEmpty g.tri n || !nodeEmpty g.qua n) <;> cases nodeTouchesMixed g n <;> rfl
  rw [e, Bool.or_eq_false_iff, Bool.or_eq_false_iff, Bool.not_eq_false', Bool.not_eq_false', GuardsRules.nodeEmpty_iff,
    GuardsRules.nodeEmpty_iff, ← Bool.not_eq_true, nodeTouchesMixed_sound]
  constructor
  · rintro ⟨⟨ht, hq⟩, hm⟩
    exact ⟨ht, fun ⟨c, hc, hn⟩ => hc.elim (fun h => hq c h hn) fun h => hm ⟨c, h, hn⟩⟩
  · rintro ⟨ht, hf⟩
    exact ⟨⟨ht, fun c hc hn => hf ⟨c, Or.inl hc, hn⟩⟩, fun ⟨c, hc, hn⟩ => hf ⟨c, Or.inr hc, hn⟩⟩

/-- both caller loops of `ref_smooth_pass` may offer a vertex of a prism layer to the tet smoother (`interior2` does
    not look at pyr/pri/hex, `interior1` neither): the freeze is decided inside `ref_smooth_tet_improve` only -/
theorem smooth_pass_offers_frozen :
    ∃ (g : Grid) (n : Nat), interior1 g n = true ∧ interior2 g n = true ∧ nodeTouchesMixed g n = true ∧
      smoothTetFrozen g n = true := by
  refine ⟨{ pri := [⟨[0, 1, 2, 3, 4, 5], 0⟩], tet := [⟨[3, 5, 4, 6], 0⟩] }, 3, by decide, by decide, by decide, by decide⟩

/-- the cavity's form gate fires iff the grid has a pyramid or a prism -/
theorem cavityFormGate_sound (g : Grid) : cavityFormGate g = true ↔ g.pyr ≠ [] ∨ g.pri ≠ [] := by
  unfold cavityFormGate
  simp

/-- ... hexahedra (and boundary quadrilaterals) alone do not gate it -/
theorem cavityFormGate_ignores_hex :
    cavityFormGate { hex := [⟨[0, 1, 2, 3, 4, 5, 6, 7], 0⟩], qua := [⟨[0, 1, 2, 3], 1⟩] } = false := by decide

/-- `ref_cavity_enlarge_face` refuses iff a face vertex is on a qua/pyr/pri/hex -/
theorem cavityFaceGate_sound (g : Grid) (face : List Nat) :
    cavityFaceGate g face = true ↔ ∃ n ∈ face, OnFrozen g n := by
  -- the test on one vertex is the negation of `ref_collapse_edge_mixed`'s
  unfold cavityFaceGate
  simp only [List.any_eq_true, Bool.not_eq_true']
  refine exists_congr fun n => and_congr_right fun _ => ?_
  rw [← Bool.not_eq_true]
  exact (not_congr (collapseEdgeMixed_true_iff g n n)).trans not_not

/-- the guarded split (`ref_split_pass`'s accepted branch, any status of `ref_split_edge`).  (The theorems of the same
    names in `Props/C02.lean`, `C02.mixed_frame_split/_collapse/_swap`, say what the GUARD alone gives on the cell
    lists; these here say what the guarded OPERATOR leaves of the frozen part of a mesh.) -/
theorem mixed_frame_split (m : Mesh P) (n0 n1 new : Nat) (p : P) (hv : FrozenValid m) :
    (guardedSplit m n0 n1 new p).2.2.frozen = m.frozen := by
  refine frozen_eq_of (m' := (guardedSplit m n0 n1 new p).2.2) (step_groups m (.split n0 n1 new p)) fun n hn => ?_
  fun_cases guardedSplit m n0 n1 new p
  · rfl
  · exact (splitEdge_xyz m n0 n1 new p n).trans (addNode_xyz m new p (hv n hn))

/-- the guarded collapse: `ref_collapse_edge_mixed` is exactly what keeps the removed vertex off the frozen cells -/
theorem mixed_frame_collapse (m : Mesh P) (n0 n1 : Nat) : (guardedCollapse m n0 n1).2.2.frozen = m.frozen := by
  refine frozen_eq_of (m' := (guardedCollapse m n0 n1).2.2) (step_groups m (.collapse n0 n1)) fun n hn => ?_
  fun_cases guardedCollapse m n0 n1
  case case1 => rfl
  case case2 h _ =>
    exact collapseEdge_xyz m n0 n1 fun e =>
      (collapseEdgeMixed_true_iff m.g n0 n1).mp (by simpa using h) ((mem_frozenNodes m n1).mp (e ▸ hn))

/-- the guarded 2-D swap -/
theorem mixed_frame_swap (m : Mesh P) (n0 n1 : Nat) : (guardedSwap m n0 n1).2.2.frozen = m.frozen := by
  refine frozen_eq_of (m' := (guardedSwap m n0 n1).2.2) (step_groups m (.swap n0 n1)) fun n _ => ?_
  fun_cases guardedSwap m n0 n1 <;> rfl

/-- a vertex move accepted by `ref_smooth_tet_improve`, wherever the vertex ends -/
theorem mixed_frame_move (m : Mesh P) (node : Nat) (p : P) : (guardedMove m node p).2.frozen = m.frozen := by
  refine frozen_eq_of (m' := (guardedMove m node p).2) (step_groups m (.move node p)) fun n hn => ?_
  fun_cases guardedMove m node p
  case case1 => rfl
  case case2 h =>
    exact moveNode_xyz m node p fun e =>
      ((smoothTetFrozen_sound m.g node).mp (by simpa using h)).2 ((mem_frozenNodes m node).mp (e ▸ hn))

/-- side condition of a cavity replacement that is not gated: no vertex of a frozen cell (then: of a hexahedron or
    boundary quadrilateral -- the gate excludes pyramids and prisms) is among the vertices `ref_cavity_replace`
    drops for having lost their last tet and tri.  The C does not test it inside `ref_cavity_replace`; the callers
    (`ref_cavity_mixed` in the swap pass, `ref_collapse_edge_mixed` before a collapse by cavity, the face gate of
    `ref_cavity_enlarge_face`) are what establishes it -/
def CavitySafe (m : Mesh P) (dt dr nt nr : List Cell) : Prop :=
  cavityFormGate m.g = false → ∀ n ∈ m.frozenNodes, n ∉ cavityGone m dt dr nt nr

/-- cavity replacement.  Full statement wanted: without `CavitySafe` (derive it from the callers' guards); proved
    with it, and unconditionally on every grid that has a pyramid or a prism (`mixed_frame_gated`) -/
theorem mixed_frame_cavity_partial (m : Mesh P) (dt dr nt nr : List Cell) (hs : CavitySafe m dt dr nt nr) :
    (guardedCavity m dt dr nt nr).2.frozen = m.frozen := by
  refine frozen_eq_of (m' := (guardedCavity m dt dr nt nr).2) (step_groups m (.cavity dt dr nt nr)) fun n hn => ?_
  fun_cases guardedCavity m dt dr nt nr
  case case1 => rfl
  case case2 h => exact cavityReplace_xyz m dt dr nt nr (hs (by simpa using h) n hn)

/-- what an operation must satisfy beyond the modelled guards (only the ungated cavity has a condition) -/
def SafeOp (m : Mesh P) : Op P → Prop
  | .cavity dt dr nt nr => CavitySafe m dt dr nt nr
  | _ => True

/-- one guarded operation of any kind -/
theorem mixed_frame_step (m : Mesh P) (op : Op P) (hv : FrozenValid m) (hs : SafeOp m op) :
    (step m op).frozen = m.frozen := by
  cases op with
  | split n0 n1 new p => exact mixed_frame_split m n0 n1 new p hv
  | collapse n0 n1 => exact mixed_frame_collapse m n0 n1
  | swap n0 n1 => exact mixed_frame_swap m n0 n1
  | move node p => exact mixed_frame_move m node p
  | cavity dt dr nt nr => exact mixed_frame_cavity_partial m dt dr nt nr hs

/-- the side conditions along a history -/
def SafeHistory (m : Mesh P) : List (Op P) → Prop
  | [] => True
  | op :: rest => SafeOp m op ∧ SafeHistory (step m op) rest

/-- **`mixed_frame`**: by induction over any operation history -- the list of qua / pyr / pri / hex cells (node
    tuples, ids, order) and the validity and coordinates of all their vertices are those of the initial mesh -/
theorem mixed_frame (m : Mesh P) (ops : List (Op P)) (hv : FrozenValid m) (hs : SafeHistory m ops) :
    (run m ops).frozen = m.frozen ∧ FrozenValid (run m ops) := by
  induction ops generalizing m with
  | nil => exact ⟨rfl, hv⟩
  | cons op rest ih =>
    have h1 := mixed_frame_step m op hv hs.1
    have hv1 := frozenValid_of_frozen_eq h1 hv
    have h2 := ih (step m op) hv1 hs.2
    exact ⟨by show (run (step m op) rest).frozen = m.frozen; rw [h2.1, h1], h2.2⟩

/-- while the grid has a pyramid or a prism the cavity operators are gated, and no operator removes one: every
    history is safe -/
theorem safeHistory_of_gated (m : Mesh P) (ops : List (Op P)) (hg : m.g.pyr ≠ [] ∨ m.g.pri ≠ []) : SafeHistory m ops := by
  induction ops generalizing m with
  | nil => trivial
  | cons op rest ih =>
    have hs := step_groups m op
    refine ⟨?_, ih (step m op) (by rw [hs.pyr, hs.pri]; exact hg)⟩
    cases op with
    | cavity dt dr nt nr =>
      -- the only operation with a side condition, and its gate fires
      exact fun h => absurd ((cavityFormGate_sound m.g).mpr hg) (by rw [h]; decide)
    | _ => trivial

/-- on a mesh with at least one pyramid or prism (every conforming tet / hex or tet / prism-layer mesh has one) the
    statement is unconditional: the cavity operators are gated, every other operator is guarded -/
theorem mixed_frame_gated (m : Mesh P) (ops : List (Op P)) (hv : FrozenValid m) (hg : m.g.pyr ≠ [] ∨ m.g.pri ≠ []) :
    (run m ops).frozen = m.frozen :=
  (mixed_frame m ops hv (safeHistory_of_gated m ops hg)).1

/-- **`mixed_interface_conforming` (split)**: if every triangular face of a pyramid / prism has a tet face or a
    boundary tri on it, it still has after the guarded split -- the guard excludes exactly the splits that would leave
    a hanging node on such a face (whatever status `ref_split_edge` returns) -/
theorem mixed_interface_conforming_split (m : Mesh P) (n0 n1 new : Nat) (p : P) (hw : Arity m.g) (hne : n0 ≠ n1)
    (h : interfaceMatched m.g = true) : interfaceMatched (guardedSplit m n0 n1 new p).2.2.g = true := by
  rcases guardedSplit_cases m n0 n1 new p with e | r
  · rw [e]; exact h
  · rw [r.grid, interfaceMatched_iff, mixedTriFaces_eq_of (splitCells_rewrites m.g n0 n1 new).frozen]
    rw [interfaceMatched_iff] at h
    exact fun k hk => splitCells_matched (splitEdgeMixed_not_on_face hw hne r.guard k hk) (h k hk)

/-- **split, exact form**: the guarded split keeps, for every triangular face of a pyramid / prism, the NUMBER of tets on
    it and the number of boundary tris on it -- so C01's statement at that face ("shared by exactly two cells, or by
    one cell and exactly one boundary triangle", `faceConforming`) has the same truth value before and after: no
    hanging node and no double cover.  Needs the simplices to have their 4 / 3 vertices, the frozen faces to be proper
    triangles and the frozen vertices to be valid (then the trial vertex is none of them). -/
theorem mixed_interface_exact_split (m : Mesh P) (n0 n1 new : Nat) (p : P) (hw : Arity m.g) (hs : SimplexArity m.g)
    (hp : FacesProper m.g) (hv : FrozenValid m) (hne : n0 ≠ n1) :
    ∀ k ∈ mixedTriFaces m.g, faceConforming (guardedSplit m n0 n1 new p).2.2.g k = faceConforming m.g k := by
  intro k hk
  rcases guardedSplit_cases m n0 n1 new p with e | r
  · rw [e]
  · -- the cells were rewritten: then the trial vertex was fresh, so it is on no frozen face
    have hnew : new ∉ k := fun hin =>
      Bool.noConfusion ((hv new ((mem_frozenNodes m new).mpr (onFrozen_of_mem_face hw hk hin))).symm.trans r.fresh)
    have hc := counts_splitCells (g := m.g) (new := new) hs hne (hp k hk) hnew
      (splitEdgeMixed_not_on_face hw hne r.guard k hk)
    rw [r.grid]
    exact faceConforming_congr (splitCells_rewrites m.g n0 n1 new).frozen hc.1 hc.2

/-- **swap**: the 2-D swap removes the two triangles on the edge; a triangular face of a pyramid / prism covered by
    one of them would contain both ends, which the guard refuses -/
theorem mixed_interface_conforming_swap (m : Mesh P) (n0 n1 : Nat) (hw : Arity m.g) (hp : FacesProper m.g)
    (hw3 : ∀ c ∈ m.g.tri, c.nodes.length = 3) (hne : n0 ≠ n1) (h : interfaceMatched m.g = true) :
    interfaceMatched (guardedSwap m n0 n1).2.2.g = true := by
  rcases guardedSwap_cases m n0 n1 with e | r
  · rw [e]; exact h
  · rw [r.grid, interfaceMatched_iff, mixedTriFaces_eq_of (swapCells_groups m.g n0 n1)]
    rw [interfaceMatched_iff] at h
    exact fun k hk => swapCells_matched hw3 (hp k hk) (splitEdgeMixed_not_on_face hw hne r.guard k hk) (h k hk)

/-- **collapse (partial)**.  Full statement wanted: as for split, from the guards alone.  Proved: with the hypothesis
    `CollapseNeighbour` for every face -- a tet (tri) that the collapse removes from a frozen triangle has a neighbour
    across its face opposite `node0`.  That is the simplicial part's own face conformity at the removed cells (C01's
    `collapse_conforming` territory, `Props/C13Collapse.lean`), not a mixed-element fact; what the mixed guard
    contributes -- `node1` is on no frozen cell, so no frozen face contains it -- is used here. -/
theorem mixed_interface_conforming_collapse_partial (m : Mesh P) (n0 n1 : Nat) (hw : Arity m.g) (hne : n0 ≠ n1)
    (hnb : ∀ k ∈ mixedTriFaces m.g, CollapseNeighbour m.g n0 n1 k) (h : interfaceMatched m.g = true)
    (hok : (guardedCollapse m n0 n1).2.1 = .ok) : interfaceMatched (guardedCollapse m n0 n1).2.2.g = true := by
  rcases guardedCollapse_cases m n0 n1 with e | r
  · rw [e]; exact h
  · have hfree := (collapseEdgeMixed_true_iff m.g n0 n1).mp r.guard
    rw [r.grid, interfaceMatched_iff, mixedTriFaces_eq_of (collapseCells_rewrites m.g n0 n1).frozen]
    rw [interfaceMatched_iff] at h
    intro k hk
    have hk1 : n1 ∉ k := fun hin => hfree (onFrozen_of_mem_face hw hk hin)
    exact collapse_matched hne hk1 (hnb k hk) (h k hk) (r.ok hok)

/-- **2-D split**: on a planar grid (triangles + quadrilaterals, boundary edges) no side of a quadrilateral gets a
    hanging node: a side that had a triangle side or boundary edge on it still has after the guarded split (stated for
    a successful one; the proof does not use `hok`, as for `mixed_interface_conforming_split`).
    (The 2-D swap is not proved at this level: it needs the orientation bookkeeping of `ref_swap_node23`; the run-level
    tie checks it on every accepted swap.) -/
theorem mixed_interface_conforming_split_2d (m : Mesh P) (n0 n1 new : Nat) (p : P) (hw : Arity m.g) (hne : n0 ≠ n1)
    (h : interfaceMatched2 m.g = true) (hok : (guardedSplit m n0 n1 new p).2.1 = .ok) :
    interfaceMatched2 (guardedSplit m n0 n1 new p).2.2.g = true := by
  rcases guardedSplit_cases m n0 n1 new p with e | r
  · rw [e]; exact h
  · rw [r.grid]
    unfold interfaceMatched2 at h ⊢
    rw [List.all_eq_true] at h ⊢
    rw [quaSides_eq_of (splitCells_rewrites m.g n0 n1 new).frozen]
    exact fun k hk => splitCells_matched2 (splitEdgeMixed_not_on_quaSide hw hne r.guard k hk) (h k hk)

/-- the operations that only rewrite simplices and vertices: split, 2-D swap, vertex move -/
def Simplicial : Op P → Prop
  | .split n0 n1 _ _ => n0 ≠ n1
  | .swap n0 n1 => n0 ≠ n1
  | .move _ _ => True
  | _ => False

/-- **`mixed_interface_history`**: along any history of guarded splits, 2-D swaps and vertex moves, every
    triangular face of a pyramid / prism keeps a tet face or boundary tri on it.  (Collapses and cavity replacements
    are excluded from this statement: see `mixed_interface_conforming_collapse_partial`.) -/
theorem mixed_interface_history (m : Mesh P) (ops : List (Op P)) (hall : ∀ op ∈ ops, Simplicial op)
    (hw : Arity m.g) (hp : FacesProper m.g) (hw3 : TriArity m.g) (h : interfaceMatched m.g = true) :
    interfaceMatched (run m ops).g = true := by
  induction ops generalizing m with
  | nil => exact h
  | cons op rest ih =>
    have hg := step_groups m op
    have hs := hall op List.mem_cons_self
    have h1 : interfaceMatched (step m op).g = true ∧ TriArity (step m op).g := by
      cases op with
      | split n0 n1 new p =>
        refine ⟨mixed_interface_conforming_split m n0 n1 new p hw hs h, ?_⟩
        rcases guardedSplit_cases m n0 n1 new p with e | r
        · exact e ▸ hw3
        · exact r.grid ▸ triArity_splitCells n0 n1 new hw3
      | swap n0 n1 =>
        refine ⟨mixed_interface_conforming_swap m n0 n1 hw hp hw3 hs h, ?_⟩
        rcases guardedSwap_cases m n0 n1 with e | r
        · exact e ▸ hw3
        · exact r.grid ▸ triArity_swapCells n0 n1 hw3
      | move node p => exact (guardedMove_g m node p) ▸ ⟨h, hw3⟩
      | collapse n0 n1 => exact absurd hs id
      | cavity dt dr nt nr => exact absurd hs id
    exact ih (step m op) (fun o ho => hall o (List.mem_cons_of_mem _ ho)) (arity_of_same hg hw)
      (facesProper_of_same hg hp) h1.2 h1.1

/-- hex core + pyramid transition + tets, NO prism: hexahedron 0..7, a pyramid on its top face (base 4 5 6 7, apex 8;
    refine's order: base cycle n0 n3 n4 n1, apex n2), one tet on each triangular face of the pyramid, two tets around
    the free edge (9,10) -/
def hexPyrTet : Mesh Nat :=
  { g := { hex := [⟨[0, 1, 2, 3, 4, 5, 6, 7], 0⟩], pyr := [⟨[4, 7, 8, 5, 6], 0⟩],
           tet := [⟨[4, 7, 8, 9], 0⟩, ⟨[7, 6, 8, 10], 0⟩, ⟨[8, 6, 5, 11], 0⟩, ⟨[4, 8, 5, 12], 0⟩, ⟨[7, 8, 9, 10], 0⟩],
           qua := [⟨[0, 3, 2, 1], 1⟩] },
    pts := (List.range 13).map fun n => (n, 100 + n) }

/-- prism layer + tets, no pyramid: prism 0 1 2 / 3 4 5, a tet on its top triangle, the bottom triangle on the
    boundary -/
def prismTet : Mesh Nat :=
  { g := { pri := [⟨[0, 1, 2, 3, 4, 5], 0⟩], tet := [⟨[3, 5, 4, 6], 0⟩, ⟨[3, 4, 6, 7], 0⟩], tri := [⟨[0, 2, 1], 1⟩] },
    pts := (List.range 8).map fun n => (n, 100 + n) }

theorem hexPyrTet_arity : Arity hexPyrTet.g := by
  constructor <;> intro c hc <;> simp [hexPyrTet] at hc <;> subst hc <;> rfl

theorem prismTet_arity : Arity prismTet.g := by
  constructor <;> intro c hc <;> simp [prismTet] at hc <;> subst hc <;> rfl

/-- hypotheses of the frame and interface theorems hold on the hex + pyramid + tet mesh (no prism) -/
example : FrozenValid hexPyrTet ∧ interfaceMatched hexPyrTet.g = true ∧ (hexPyrTet.g.pyr ≠ [] ∨ hexPyrTet.g.pri ≠ []) := by
  refine ⟨?_, by decide, Or.inl (by decide)⟩
  intro n hn
  have : n ∈ hexPyrTet.frozenNodes → hexPyrTet.valid n = true := by
    revert n; decide
  exact this hn

/-- the guards on it: the apex-to-base edge (4,8) of the pyramid may not be split although the mesh has no prism, the
    tet edge (9,10) may; vertex 8 (the apex) may not be removed by a collapse nor moved, vertex 9 may -/
example : splitEdgeMixed hexPyrTet.g 4 8 = false ∧ splitEdgeMixed hexPyrTet.g 9 10 = true ∧
    splitEdgeMixed hexPyrTet.g 4 5 = false ∧ collapseEdgeMixed hexPyrTet.g 9 8 = false ∧
    collapseEdgeMixed hexPyrTet.g 8 9 = true ∧ smoothTetFrozen hexPyrTet.g 8 = true ∧
    smoothTetFrozen hexPyrTet.g 9 = false := by decide

/-- a history with an accepted split, an accepted collapse, an accepted move and refused ones: the frozen part is
    the initial one (computed), as `mixed_frame_gated` says -/
example : (run hexPyrTet [.split 9 10 13 7, .split 4 8 14 7, .move 8 0, .move 13 5, .collapse 10 13, .collapse 9 8,
    .cavity [⟨[7, 8, 9, 10], 0⟩] [] [] []]).frozen = hexPyrTet.frozen ∧
    (guardedSplit hexPyrTet 9 10 13 7).1 = true ∧ (guardedSplit hexPyrTet 4 8 14 7).1 = false ∧
    (guardedMove hexPyrTet 8 0).1 = false ∧ (guardedCollapse hexPyrTet 9 8).1 = false := by decide

/-- ... and the interface stays matched after the accepted split of (9,10) (the tet [7,8,9,10] on the edge is cut) -/
example : interfaceMatched (guardedSplit hexPyrTet 9 10 13 7).2.2.g = true ∧
    (guardedSplit hexPyrTet 9 10 13 7).2.1 = .ok ∧ (guardedSplit hexPyrTet 9 10 13 7).2.2.g.tet.length = 6 := by decide

/-- the exact form on the same mesh: every triangular face of the pyramid is conforming (one pyramid + one tet) before
    and after the accepted split -/
example : (mixedTriFaces hexPyrTet.g).all (faceConforming hexPyrTet.g) = true ∧
    (mixedTriFaces hexPyrTet.g).all (faceConforming (guardedSplit hexPyrTet 9 10 13 7).2.2.g) = true ∧
    SimplexArity hexPyrTet.g := by
  refine ⟨by decide, by decide, ?_, ?_⟩ <;> intro c hc <;> simp [hexPyrTet] at hc
  · rcases hc with rfl | rfl | rfl | rfl | rfl <;> rfl

/-- what the guard prevents: the unguarded split of the pyramid edge (4,8) leaves the pyramid faces (4,7,8), (4,8,5)
    without a tet (hanging node 13) -/
example : interfaceMatched (splitEdge hexPyrTet 4 8 13 7).2.g = false := by decide

/-- prism + tets -/
example : FrozenValid prismTet ∧ interfaceMatched prismTet.g = true ∧ FacesProper prismTet.g ∧ TriArity prismTet.g := by
  refine ⟨?_, by decide, facesProper_of prismTet_arity ?_ ?_, ?_⟩
  · intro n hn
    have : n ∈ prismTet.frozenNodes → prismTet.valid n = true := by revert n; decide
    exact this hn
  · intro c hc; simp [prismTet] at hc
  · intro c hc; simp [prismTet] at hc; subst hc; decide
  · intro c hc; simp [prismTet] at hc; subst hc; rfl

example : splitEdgeMixed prismTet.g 3 4 = false ∧ splitEdgeMixed prismTet.g 0 3 = false ∧
    splitEdgeMixed prismTet.g 3 6 = true ∧ splitEdgeMixed prismTet.g 6 7 = true ∧
    nodeTouchesMixed prismTet.g 3 = true ∧ nodeTouchesMixed prismTet.g 6 = false ∧ cavityFormGate prismTet.g = true ∧
    interfaceMatched (guardedSplit prismTet 3 6 8 0).2.2.g = true ∧
    (run prismTet [.split 3 6 8 0, .move 6 1, .move 3 1, .split 3 4 9 0]).frozen = prismTet.frozen := by decide

/-- an ungated grid (hexahedron + quadrilateral, no pyramid / prism) where `CavitySafe` matters: removing the only tet
    of vertex 4 by a cavity drops vertex 4 of the hexahedron -- the side condition is not vacuous, and the C's
    `ref_cavity_replace` does not test it by itself -/
example :
    let m : Mesh Nat := { g := { hex := [⟨[0, 1, 2, 3, 4, 5, 6, 7], 0⟩], tet := [⟨[4, 8, 9, 10], 0⟩, ⟨[8, 9, 10, 11], 0⟩] },
                          pts := (List.range 12).map fun n => (n, n) }
    cavityFormGate m.g = false ∧ (guardedCavity m [⟨[4, 8, 9, 10], 0⟩] [] [] []).2.frozen ≠ m.frozen ∧
      (guardedCavity m [⟨[8, 9, 10, 11], 0⟩] [] [] []).2.frozen = m.frozen := by decide

/-- 2-D: a quadrilateral 0 1 2 3 with a triangle on its top side (3,2) and boundary edges on the others; the split of
    the quad side (2,3) is refused, the split of the free triangle side (2,4) keeps the quad sides matched -/
def quadTri : Mesh Nat :=
  { g := { qua := [⟨[0, 1, 2, 3], 1⟩], tri := [⟨[3, 2, 4], 1⟩],
           edg := [⟨[0, 1], 1⟩, ⟨[1, 2], 2⟩, ⟨[3, 0], 4⟩, ⟨[2, 4], 2⟩, ⟨[4, 3], 4⟩] },
    pts := (List.range 5).map fun n => (n, n) }

example : interfaceMatched2 quadTri.g = true ∧ splitEdgeMixed quadTri.g 2 3 = false ∧
    swapEdgeMixed quadTri.g 3 2 = false ∧ (guardedSplit quadTri 2 4 5 0).2.1 = .ok ∧
    interfaceMatched2 (guardedSplit quadTri 2 4 5 0).2.2.g = true ∧
    interfaceMatched2 (splitEdge quadTri 2 3 5 0).2.g = false := by decide

end Refine.Props.C02Mixed
