import Refine.Model.Shufflin
import Refine.Lemmas.ShufflinSpec
import Refine.Lemmas.ShufflinPre
import Refine.Props.C06

/-!
  C06 — `ref_migrate_shufflin`.

  Theorems about the executable model `Refine.Model.Shufflin.shufflin` (tied to `ref_migrate.c`, `ref_cell.c`
  (`ref_cell_add_many_global`, `ref_cell_with`), `ref_node.c` (`ref_node_add_many`, `ref_node_ghost_real`) by the
  `dist2_shufflin` stream: the same per-rank vertex tables and cell lists through the real `ref_migrate_shufflin` under
  mpiexec and through the model, identical canonical dumps required).

  Vocabulary (the mesh a world stores in `Refine/Lemmas/DistLayout.lean`, `ShufHyp` and `IsLayout` in
  `Refine/Lemmas/ShufflinSpec.lean`), all read off the world `w` the function is entered with (its `part` fields hold the
  NEW partition, the layout is still the old one):
  * `Vw w g`      — `g` is a vertex of the mesh: some rank stores it;
  * `partW w g`   — the new part of `g` (the part field of a stored copy), `payW w g` its payload;
  * `AllC w c`    — `c` is a cell of the mesh: some rank stores it;
  * `ShufHyp ldim N w` — the hypotheses: ids synchronised; per rank distinct globals; parts in `[0, np)`, globals in
    `[0, N)`, payloads of `ldim` values; all copies of a vertex agree on part and payload (the new part is known
    consistently for owned and ghost copies; ghosts are refreshed); every cell has a group below `REF_CELL_N_TYPE`
    and all its vertices stored on the rank that stores it; a rank stores a cell once; two stored cells of one group
    with the same vertex set are the same cell (what `ref_cell_with` relies on); `max(1,ldim)·np·N ≤ INT_MAX` (the
    guards of `ref_mpi_alltoallv` inside the ghost refresh).
  * `IsLayout w w'` — `w'` is THE state determined by the mesh and the new partition: on rank `q` the cells are
    exactly `{c ∣ AllC w c ∧ ∃ v ∈ c, partW w v = q}` (each once), the vertices exactly the canonical copies
    `⟨g, partW w g, payW w g⟩` of `{g ∣ Vw w g ∧ (partW w g = q ∨ g ∈ a stored cell)}` (each once), the id counters
    untouched.
-/
namespace Refine.Props.C06Shufflin
open Refine.Model.Dist Refine.Model.Shufflin Refine.Lemmas.Shufflin Refine.Lemmas.ShufflinWorld
open Refine.Lemmas.ShufflinSpec Refine.Lemmas.ShufflinPre
open Refine.Model.Comm (World INT_MAX)

/-- **shufflin_spec**.  For every rank count `≥ 2`, every payload length and every world satisfying `ShufHyp` — in
    particular for every layout of a mesh under ANY old partition, no old partition is even needed: cells may sit on
    any ranks as long as their vertices sit with them — the model of `ref_migrate_shufflin` (node exchange with
    `ref_node_add_many` and the payload loop, the sixteen cell exchanges with `ref_cell_add_many_global` /
    `ref_cell_with` and the removal of cells without a local vertex, removal of unreferenced ghost vertices,
    `ref_node_ghost_real` through the literal `ghost` model, i.e. through `C17.alltoallv_spec`) completes on every
    rank and returns the layout of the mesh for the new partition: `⊇` because every rank storing a cell sends it to
    every other part of its vertices and every stored copy of a vertex is sent to its new owner, `⊆` by the two drop
    steps, no duplicates because receipt is insert-if-absent by vertex set / by global, payload preserved because all
    copies agree and ghosts are refreshed from the new owner. -/
theorem shufflin_spec (ldim N : Nat) (w : World RankState) (H : ShufHyp ldim N w) (hnp : 2 ≤ w.length) :
    ∃ w', shufflin ldim w = some w' ∧ IsLayout w w' :=
  shufflin_main H hnp

/-- with fewer than two ranks `ref_migrate_shufflin` returns at once (`!ref_mpi_para`) -/
theorem shufflin_serial (ldim : Nat) (w : World RankState) (h : w.length ≤ 1) : shufflin ldim w = some w := by
  unfold shufflin; simp [h]

/-- what the layout says about cells, in the words of the property: rank `q` stores cell `c` iff `c` is a cell of the
    mesh and one of its vertices has new part `q` -/
theorem shufflin_cells (ldim N : Nat) (w : World RankState) (H : ShufHyp ldim N w) (hnp : 2 ≤ w.length) :
    ∃ w', shufflin ldim w = some w' ∧ w'.length = w.length ∧
      ∀ (q : Nat) (s' : RankState), w'[q]? = some s' →
        ∀ c, c ∈ s'.cells ↔ AllC w c ∧ ∃ v ∈ c.nodes, partW w v = (q : Int) := by
  obtain ⟨w', h1, h2⟩ := shufflin_main H hnp
  exact ⟨w', h1, h2.len, fun q s' hs' => (Refine.Lemmas.ShufflinSpec.layout_of_isLayout H h2).cells hs'⟩

/-- **shufflin_spec, in the words of the property.**  Take any world `w0` satisfying the distributed-mesh invariant
    `distInv` (for the OLD partition, ids synchronised) and any new partition `f` with values in `[0, np)`; let every
    stored copy — owned or ghost — take the new part of its global (`setParts f`: what `ref_migrate_to_balance` does
    with `node_part` after `ref_node_ghost_int`).  Then `ref_migrate_shufflin` completes and returns the layout of the
    mesh for `f`: rank `q` stores exactly the cells of the mesh with a vertex `v`, `f v = q`; exactly the vertices it
    owns or its cells need, each with part `f g` and the payload all copies agreed on; counters untouched.
    Side hypotheses that `distInv` does not contain: the globals are below `N` and the payloads have `ldim` values
    (`hN`), cell groups are below `REF_CELL_N_TYPE` (`hgrp`), two stored cells of one group with the same vertex set
    are the same cell (`hU`: the duplicate search `ref_cell_with` compares vertex sets only), and the `int` range of
    the ghost exchange (`hsize`). -/
theorem shufflin_spec_distInv (ldim N : Nat) (w0 : World RankState) (f : Int → Int)
    (h0 : distInv w0 = true) (hs : synced w0 = true) (hnp : 2 ≤ w0.length)
    (hf : ∀ s ∈ w0, ∀ nd ∈ s.nodes, 0 ≤ f nd.glob ∧ f nd.glob < (w0.length : Int))
    (hN : ∀ s ∈ w0, ∀ nd ∈ s.nodes, nd.glob < (N : Int) ∧ nd.payload.length = ldim)
    (hgrp : ∀ s ∈ w0, ∀ c ∈ s.cells, c.group < NGROUP)
    (hU : ∀ s ∈ w0, ∀ t ∈ w0, ∀ c ∈ s.cells, ∀ c' ∈ t.cells, c.group = c'.group → sameVerts c c' = true → c = c')
    (hsize : ((max 1 ldim : Nat) : Int) * ((w0.length : Int) * (N : Int)) ≤ INT_MAX) :
    ∃ w', shufflin ldim (setParts f w0) = some w' ∧ IsLayout (setParts f w0) w' ∧ w'.length = w0.length ∧
      ∀ (q : Nat) (s' : RankState), w'[q]? = some s' →
        (∀ c, c ∈ s'.cells ↔ AllC w0 c ∧ ∃ v ∈ c.nodes, f v = (q : Int)) ∧
        (∀ nd ∈ s'.nodes, nd.part = f nd.glob ∧ (nd.part = (q : Int) ∨ ∃ c ∈ s'.cells, nd.glob ∈ c.nodes)) ∧
        (∀ g, (∃ s ∈ w0, g ∈ s.nodes.map (·.glob)) → (f g = (q : Int) ∨ ∃ c ∈ s'.cells, g ∈ c.nodes) →
          g ∈ s'.nodes.map (·.glob)) := by
  obtain ⟨w', h1, h2, L⟩ := shufflin_layout h0 hs hnp ⟨hf, hN, hgrp, hU, hsize⟩
  refine ⟨w', h1, h2, h2.len.trans (List.length_map _), fun q s' hs' => ⟨L.cells hs', fun nd hnd => ?_, fun g hg hk => ?_⟩⟩
  · obtain ⟨_, hp, _, hk⟩ := (L.nodes hs' nd).mp hnd
    exact ⟨hp, hk⟩
  · exact List.mem_map.mpr ⟨⟨g, f g, payW w0 g⟩, (L.nodes hs' _).mpr ⟨(vw_iff w0 g).mpr hg, rfl, rfl, hk⟩, rfl⟩

/-! ## non-vacuity: two tets sharing a face and a boundary triangle on 2 ranks, every vertex moving to the other
    rank (old partition: 0,1 ↦ rank 0; 2,3,4 ↦ rank 1; new partition: the opposite) -/

def exW : World RankState :=
  [{ nodes := [⟨0, 1, [10]⟩, ⟨1, 1, [11]⟩, ⟨2, 0, [12]⟩, ⟨3, 0, [13]⟩, ⟨4, 0, [14]⟩],
     cells := [⟨8, [0, 1, 2, 3], 0⟩, ⟨8, [1, 2, 4, 3], 0⟩], oldN := 5, newN := 5, nUnused := 0 },
   { nodes := [⟨2, 0, [12]⟩, ⟨3, 0, [13]⟩, ⟨4, 0, [14]⟩, ⟨0, 1, [10]⟩, ⟨1, 1, [11]⟩],
     cells := [⟨8, [0, 1, 2, 3], 0⟩, ⟨8, [1, 2, 4, 3], 0⟩, ⟨3, [2, 3, 4], 7⟩], oldN := 5, newN := 5, nUnused := 0 }]

-- Mathlib's `Fintype.decidableForallFintype` is tried before `List.decidableBAll` and fails only after a long search
attribute [local instance 1100] List.decidableBAll in
theorem exW_hyp : ShufHyp 1 5 exW := by
  refine ⟨by decide, ?_, ?_, ?_, ?_, ?_, ?_, by decide⟩ <;> decide +kernel

/-- the literal model on that world: rank 0 now owns 2,3,4 and keeps both tets and gains the triangle, rank 1 owns
    0,1, keeps both tets (and 2,3,4 as their ghosts) and drops the triangle, none of whose vertices is its own now -/
example : shufflin 1 exW = some
  [{ nodes := [⟨0, 1, [10]⟩, ⟨1, 1, [11]⟩, ⟨2, 0, [12]⟩, ⟨3, 0, [13]⟩, ⟨4, 0, [14]⟩],
     cells := [⟨8, [0, 1, 2, 3], 0⟩, ⟨8, [1, 2, 4, 3], 0⟩, ⟨3, [2, 3, 4], 7⟩], oldN := 5, newN := 5, nUnused := 0 },
   { nodes := [⟨2, 0, [12]⟩, ⟨3, 0, [13]⟩, ⟨4, 0, [14]⟩, ⟨0, 1, [10]⟩, ⟨1, 1, [11]⟩],
     cells := [⟨8, [0, 1, 2, 3], 0⟩, ⟨8, [1, 2, 4, 3], 0⟩], oldN := 5, newN := 5, nUnused := 0 }] := by
  decide +kernel

/-- the same world as `setParts f exDist` for the 2-rank world `exDist` of `Props/C06.lean` (which satisfies
    `distInv`): the hypotheses of `shufflin_spec_distInv` are met with `ldim = 1`, `N = 5` -/
example : setParts (fun g => if g ≤ 1 then 1 else 0) Refine.Props.C06.exDist = exW ∧
    distInv Refine.Props.C06.exDist = true ∧ synced Refine.Props.C06.exDist = true := by decide +kernel

end Refine.Props.C06Shufflin
