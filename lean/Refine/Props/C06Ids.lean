import Refine.Model.DistIds
import Refine.Lemmas.DistIds
import Refine.Props.C06
import Refine.Props.C14NodeCell

/-!
  C06, id part — the vertex global ids are exactly `0..N-1`, identical on all ranks, after EVERY
  `ref_node_synchronize_globals` of every history.

  `Refine.Props.C06.sync_bijection` proves this for ONE call under the precondition `SyncInv`.  This file closes the
  gap: the local id invariant `IdInvL` (the Lean form of `id_invariant` in `checks/streams_dist.py`) implies
  `SyncInv`, is preserved by the four things the adaptation passes do to `ref_node` between two synchronisations
  (`Refine.Model.DistIds.LocalOp`, literal `nextGlobal / add / remove / removeWithoutGlobal`) on any rank in any
  interleaving, and is re-established by `syncGlobals` itself.

  Vocabulary (`Refine/Lemmas/DistIds.lean`):
  * `IdInvL A` on the abstraction `A = absWorld old w` (per rank: fresh-id count `k_r = new_n_global - old`, live
    ids = `sorted_global`, unused ids): per rank the live and the unused ids are duplicate-free, disjoint, inside
    `[0, old + k_r)` and cover `[old, old + k_r)`; every shared id in `[0, old)` is live on at least one rank or in
    exactly one rank's unused list, never both.
  * `WorldInv w := ∃ old, (∀ s ∈ w, s.oldN = old ∧ old ≤ s.newN ∧ NodeInv s) ∧ IdInvL (absWorld old w)`.
  * `enabled w e` (`Refine/Model/DistIds.lean`): the C04 ownership guards.  They are HYPOTHESES here: `remove` only
    of a vertex no other rank stores, `removeWithoutGlobal` only of a ghost copy of a shared vertex.
-/
namespace Refine.Props.C06Ids
open Refine.Model.Dist Refine.Model.NodeIds Refine.Model.NodeIds.NodeIds Refine.Model.DistIds
open Refine.Lemmas.Dist Refine.Lemmas.DistSync Refine.Lemmas.DistIds
open Refine.Model.Comm (World)

/-- the local (unshifted) id invariant implies the shifted invariant `IdInv` that `sync_bijection` assumes: the
    shifted fresh intervals `[old + off r, old + off r + k_r)` are pairwise disjoint and cover `[old, M)` -/
theorem idInvL_idInv (A : IdWorld) (h : IdInvL A) : IdInv A := h.toIdInv

/-- **IdInv_step**: every enabled event — any of the four local ops on any rank, or the synchronisation —
    preserves the invariant. -/
theorem IdInv_step (w : World NodeIds) (e : Event) : WorldInv w → enabled w e = true → WorldInv (stepWorld w e) := by
  rintro ⟨old, h⟩ hen
  cases e with
  | op r o => exact ⟨old, op_step h r o hen⟩
  | sync => exact ⟨_, sync_core h⟩

/-- the same, rank by rank and with `old_n_global` exposed: a local op does not change `old_n_global` -/
theorem IdInv_step_local (old : Int) (w : World NodeIds) (r : Nat) (o : LocalOp) :
    WorldInvAt old w → enabled w (.op r o) = true → WorldInvAt old (stepWorld w (.op r o)) :=
  fun h hen => op_step h r o hen

/-- **reachable_IdInv**: the invariant holds after every enabled history (any interleaving of local ops of the
    ranks, any number of synchronisations) from a world that satisfies it. -/
theorem reachable_IdInv (w₀ : World NodeIds) (h : List Event) :
    WorldInv w₀ → enabledAll h w₀ = true → WorldInv (run h w₀) := by
  fun_induction enabledAll h w₀ with
  | case1 => exact fun hw _ => hw
  | case2 e es w ih =>
    intro hw hen
    rw [Bool.and_eq_true] at hen
    exact ih (IdInv_step w e hw hen.1) hen.2

/-- the invariant gives the precondition of `Refine.Props.C06.sync_bijection`: that theorem applies at every
    synchronisation of every reachable history -/
theorem worldInv_syncInv (w : World NodeIds) : WorldInv w → ∃ old, SyncInv old w :=
  fun ⟨old, h⟩ => ⟨old, worldInvAt_syncInv h⟩

/-- `ref_node_synchronize_globals` re-establishes the invariant with `old_n_global = new_n_global = N` on every
    rank (`N = old + Σ fresh − #unused`, the `IdWorld.N` of `sync_bijection`) -/
theorem sync_reestablishes (old : Int) (w : World NodeIds) :
    WorldInvAt old w → WorldInvAt (absWorld old w).N (syncGlobals w) :=
  fun h => sync_core h

/-- **ids_contiguous_after_sync** (the C06 sentence for the ids).  On a world satisfying the invariant,
    `ref_node_synchronize_globals` ends with a common `N ≥ 0` such that: every rank has
    `old_n_global = new_n_global = N`, an empty unused list and a consistent `ref_node` (`NodeInv`:
    `sorted_global` strictly increasing and exactly the ids of the valid slots of `global[]`); every live id is in
    `[0, N)`; every id of `[0, N)` is live on some rank; and two stored vertices — slot `l` of rank `r` holding old
    id `g`, slot `l'` of rank `q` holding old id `g'` — read the SAME new id from `global[]` iff they are the same
    vertex (the same shared id `g = g' < old_n_global`, or the same fresh id on the same rank).
    Proof: `sync_bijection` (closed form of the loop-by-loop model, `newId` monotone bijection onto `[0,N)`) applied
    through `worldInv_syncInv`. -/
theorem ids_contiguous_after_sync (w : World NodeIds) (h : WorldInv w) :
    ∃ (old N : Int), 0 ≤ N ∧ (∀ s ∈ w, s.oldN = old) ∧ (syncGlobals w).length = w.length ∧
    (∀ s ∈ syncGlobals w, s.oldN = N ∧ s.newN = N ∧ s.unusedStk = [] ∧ NodeInv s ∧
      ∀ g ∈ s.keys, 0 ≤ g ∧ g < N) ∧
    (∀ g, 0 ≤ g → g < N → ∃ s ∈ syncGlobals w, g ∈ s.keys) ∧
    (∀ (r q : Nat) (s t s' t' : NodeIds) (g g' : Int) (l l' : Nat), w[r]? = some s → w[q]? = some t →
      (syncGlobals w)[r]? = some s' → (syncGlobals w)[q]? = some t' → (g, l) ∈ s.sorted → (g', l') ∈ t.sorted →
      (s'.global.getD l (-1) = t'.global.getD l' (-1) ↔ g = g' ∧ (g < old ∨ r = q))) := by
  obtain ⟨old, h⟩ := h
  have hS := worldInvAt_syncInv h
  obtain ⟨h0, hranks, hcov⟩ := sync_post h
  refine ⟨old, _, h0, fun s hs => (h.1 s hs).1, by rw [syncGlobals_eq old w hS, List.length_mapIdx], hranks, hcov, ?_⟩
  intro r q s t s' t' g g' l l' hr hq hs' ht' hm hm'
  rw [sync_slot h hr hs' hm, sync_slot h hq ht' hm']
  have hg : g ∈ (absWorld old w).liveOf r := by
    rw [liveOf_abs_some hr]; exact List.mem_map.2 ⟨_, hm, rfl⟩
  have hg' : g' ∈ (absWorld old w).liveOf q := by
    rw [liveOf_abs_some hq]; exact List.mem_map.2 ⟨_, hm', rfl⟩
  refine ⟨newId_inj hS.inv hg hg', ?_⟩
  rintro ⟨rfl, hc | rfl⟩
  · exact newId_shared _ r q g hc
  · rfl

/-- the same after the last `sync` of any enabled history from a world satisfying the invariant: with
    `w = run pre w₀` the state just before that `sync`, `run (pre ++ [sync]) w₀ = syncGlobals w` and the conclusion
    of `ids_contiguous_after_sync` holds for `w`. -/
theorem ids_contiguous_reachable (w₀ : World NodeIds) (pre : List Event) (h₀ : WorldInv w₀)
    (hen : enabledAll pre w₀ = true) :
    run (pre ++ [Event.sync]) w₀ = syncGlobals (run pre w₀) ∧
    ∃ (old N : Int), 0 ≤ N ∧ (∀ s ∈ run pre w₀, s.oldN = old) ∧
    (syncGlobals (run pre w₀)).length = (run pre w₀).length ∧
    (∀ s ∈ syncGlobals (run pre w₀), s.oldN = N ∧ s.newN = N ∧ s.unusedStk = [] ∧ NodeInv s ∧
      ∀ g ∈ s.keys, 0 ≤ g ∧ g < N) ∧
    (∀ g, 0 ≤ g → g < N → ∃ s ∈ syncGlobals (run pre w₀), g ∈ s.keys) ∧
    (∀ (r q : Nat) (s t s' t' : NodeIds) (g g' : Int) (l l' : Nat),
      (run pre w₀)[r]? = some s → (run pre w₀)[q]? = some t →
      (syncGlobals (run pre w₀))[r]? = some s' → (syncGlobals (run pre w₀))[q]? = some t' →
      (g, l) ∈ s.sorted → (g', l') ∈ t.sorted →
      (s'.global.getD l (-1) = t'.global.getD l' (-1) ↔ g = g' ∧ (g < old ∨ r = q))) :=
  ⟨by rw [run_append]; rfl, ids_contiguous_after_sync _ (reachable_IdInv w₀ pre h₀ hen)⟩

/-! ## non-vacuity

  A 2-rank world built with the model functions from `ref_node_create`: rank 0 stores the vertices 0,1,2, rank 1
  the vertices 1,2,3 (1 and 2 are shared), `ref_node_initialize_n_global(4)` on both. -/

def exRank0 : NodeIds := ((((create.add 0).2.2.add 1).2.2.add 2).2.2).initNGlobal 4
def exRank1 : NodeIds := ((((create.add 1).2.2.add 2).2.2.add 3).2.2).initNGlobal 4
def exW0 : World NodeIds := [exRank0, exRank1]

/-- the start world satisfies the invariant (with `old_n_global = 4`) -/
theorem exW0_inv : WorldInv exW0 := by
  refine ⟨4, worldInvAt_of_synced (by decide) (fun s hs => ?_) fun g h0 h4 => ?_⟩
  · simp only [exW0, List.mem_cons, List.not_mem_nil, or_false] at hs
    rcases hs with rfl | rfl
    · exact ⟨by decide, by decide, by decide,
        Refine.Props.C14NodeCell.node_inv_all_sequences [.add 0, .add 1, .add 2, .initNGlobal 4], by decide +kernel⟩
    · exact ⟨by decide, by decide, by decide,
        Refine.Props.C14NodeCell.node_inv_all_sequences [.add 1, .add 2, .add 3, .initNGlobal 4], by decide +kernel⟩
  · have key : ∀ i : Nat, i < 4 → ∃ s ∈ exW0, (i : Int) ∈ s.keys := by decide +kernel
    obtain ⟨s, hs, hg⟩ := key g.toNat (by omega)
    exact ⟨s, hs, by rwa [Int.toNat_of_nonneg h0] at hg⟩

/-- a history with each of the four local ops and two synchronisations: rank 0 creates a fresh vertex (id 4) and
    collapses its local vertex 0 (slot 0); rank 1 creates a fresh vertex (the same number 4), rejects a trial vertex
    (fresh id 5, returned to its unused list) and drops its ghost copy of vertex 1 (slot 0); sync; rank 0 creates a
    fresh vertex, collapses a local vertex (slot 1), rejects a trial vertex (which re-uses the id just freed) and
    drops its ghost copy of the shared vertex 1 (slot 2); rank 1 rejects a trial vertex; sync -/
def exHist : List Event :=
  [.op 0 .addFresh, .op 0 (.remove 0), .op 1 .addFresh, .op 1 .trial, .op 1 (.removeWithoutGlobal 0), .sync,
   .op 0 .addFresh, .op 0 (.remove 1), .op 0 .trial, .op 0 (.removeWithoutGlobal 2), .op 1 .trial, .sync]

/-- every event of the history is enabled -/
example : enabledAll exHist exW0 = true := by decide +kernel

/-- so the hypotheses of `reachable_IdInv` / `ids_contiguous_reachable` are met -/
example : WorldInv (run exHist exW0) := reachable_IdInv exW0 exHist exW0_inv (by decide +kernel)

/-- what the literal model computes along the history (`sorted_global`, unused list, `old_n_global`,
    `new_n_global` per rank): just before the first `sync` rank 0 holds the ids 1,2 and its fresh 4 with 0 unused,
    rank 1 holds 2,3 and its own fresh 4 with the rejected fresh 5 unused; after it the ids are `0..4` (the shared
    vertex has id 1 on both ranks); after the second `sync` they are `0..4` again -/
example : (run (exHist.take 5) exW0).map (fun s => (s.keys, s.unusedStk, s.oldN, s.newN))
      = [([1, 2, 4], [0], 4, 5), ([2, 3, 4], [5], 4, 6)] ∧
    (run (exHist.take 6) exW0).map (fun s => (s.keys, s.unusedStk, s.oldN, s.newN))
      = [([0, 1, 3], [], 5, 5), ([1, 2, 4], [], 5, 5)] ∧
    (run (exHist.take 11) exW0).map (fun s => (s.keys, s.unusedStk, s.oldN, s.newN))
      = [([3, 5], [0], 5, 6), ([1, 2, 4], [5], 5, 6)] ∧
    (run exHist exW0).map (fun s => (s.keys, s.unusedStk, s.oldN, s.newN))
      = [([2, 4], [], 5, 5), ([0, 1, 3], [], 5, 5)] := by decide +kernel

/-! ## a side condition that cannot be dropped

  `ref_node_remove_without_global` of a vertex whose id was handed out by `ref_node_next_global` since the last
  synchronisation (`g ≥ old_n_global`) breaks the invariant, even when another rank has the same NUMBER live (for a
  fresh vertex of its own): the id is then neither live nor unused on its rank, and the next synchronisation leaves
  a hole.  Hence the guard `g < old_n_global` in `enabled`. -/

/-- both ranks created a fresh vertex numbered 4 -/
def exW1 : World NodeIds := run [.op 0 .addFresh, .op 1 .addFresh] exW0

/-- slot 3 of rank 0 is valid and holds id 4, which is also live on rank 1 — but `removeWithoutGlobal 3` on rank 0 is
    not enabled (4 is not a shared id), and performing it anyway gives a world that violates the invariant; the
    following `ref_node_synchronize_globals` ends with `n_global = 6` while id 4 is live nowhere -/
theorem removeWithoutGlobal_fresh_breaks :
    exRank0.validSlot 0 = true ∧ (exW1.map fun s => s.validSlot 3) = [true, true] ∧
    (exW1.map fun s => s.globalOf 3) = [4, 4] ∧ liveElsewhere exW1 0 4 = true ∧
    enabled exW1 (.op 0 (.removeWithoutGlobal 3)) = false ∧
    WorldInv exW1 ∧ ¬ WorldInv (stepWorld exW1 (.op 0 (.removeWithoutGlobal 3))) ∧
    (syncGlobals (stepWorld exW1 (.op 0 (.removeWithoutGlobal 3)))).map (fun s => (s.keys, s.oldN, s.newN))
      = [([0, 1, 2], 6, 6), ([1, 2, 3, 5], 6, 6)] := by
  refine ⟨by decide +kernel, by decide +kernel, by decide +kernel, by decide +kernel, by decide +kernel,
    reachable_IdInv exW0 _ exW0_inv (by decide +kernel), ?_, by decide +kernel⟩
  rintro ⟨old, h1, h2⟩
  have hw : (stepWorld exW1 (.op 0 (.removeWithoutGlobal 3)))[0]?.map (fun s => (s.keys, s.unusedStk, s.oldN, s.newN))
      = some ([0, 1, 2], [], 4, 5) := by decide +kernel
  generalize stepWorld exW1 (.op 0 (.removeWithoutGlobal 3)) = w at *
  obtain ⟨s0, h0, hw⟩ := Option.map_eq_some_iff.1 hw
  simp only [Prod.mk.injEq] at hw
  obtain ⟨hk0, hu0, ho0, hn0⟩ := hw
  obtain ⟨ho, hn, _⟩ := h1 s0 (List.mem_of_getElem? h0)
  -- id 4 is below `new_n_global = 5`, so rank 0 would have to hold it
  have := (rank_facts h2 h0 ho hn).fresh 4 (by rw [← ho, ho0]) (by rw [hn0]; decide)
  rw [hk0, hu0] at this
  simp at this

end Refine.Props.C06Ids
