import Refine.Lemmas.GatherMeshbOnce
import Refine.Props.C08
import Refine.Props.C07Gather

/-!
  C08 / C07 — the PARALLEL libMeshb writer `ref_gather_meshb` (src/ref_gather.c), which every `refmpi` command and
  `ref` itself (one rank) write meshes with.

  Model: `Refine.Model.GatherMeshb.gatherMeshb` — an SPMD function of the list of per-rank states (vertices with global id,
  part and coordinate bit patterns; the 16 cell groups; geometry association records; CAD bytes), the reduce byte limit
  and the requested meshb version; byte exact, tied to the C by the stream `gathermeshb` (harness h_gathermeshb, np = 1..5,
  the bytes of the file the real `ref_gather_by_extension` writes = the model's bytes).

  `globalMesh d` (Lemmas/GatherMeshb.lean) is the mesh in the file: vertices by global id, the cells of each group in
  (emitting rank, local order) order, the records of each type in (emitting rank, local order) order, rank 0's CAD bytes.

  Hypotheses, all stated where used:  `d.ranks ≠ []` (np ≥ 1), `0 < nglobal`, `rbl ≤ 0 ∨ 32 ≤ rbl` (chunk ≥ 1, see
  `C07Gather.chunk_positive`), every global id owned by exactly one rank,
  `SumExact` (the coordinates that are summed with the `0.0` padding are unchanged by it: every double except `-0.0` and
  signalling NaNs), `Shaped` (cells have `node_per` vertices, association ids are `REF_INT`).  For the statements about the
  content: `Par.Consistent` per cell group (a rank stores, in any order, exactly the cells with a vertex it owns, and knows the
  true part of the vertices of its cells) and `GeomConsistent` (the same rule for association records).  This is less than
  the distributed invariant: nothing is asked of vertices that are in no stored cell.
-/
namespace Refine.Props.C08Gather
open Refine.Model.Meshb Refine.Model.Par Refine.Model.GatherMeshb Refine.Lemmas.Par Refine.Lemmas.GatherMeshb
open Refine.Lemmas.Codec Refine.Gen

/-- `0.0 + x = x = x + 0.0` on bit patterns -/
def Neutral (add : UInt64 → UInt64 → UInt64) (x : UInt64) : Prop := add 0 x = x ∧ add x 0 = x

/-- the `MPI_SUM` padding of ref_gather_node does not change what is summed: `0.0 + 0.0 = 0.0`, and every coordinate of every
    OWNED vertex copy is neutral against `0.0` -/
structure SumExact (add : UInt64 → UInt64 → UInt64) (d : Dist) : Prop where
  zero : add 0 0 = 0
  owned : ∀ (r : Nat) (rk : Rank), d.ranks[r]? = some rk → ∀ nd ∈ rk.nodes, nd.part = r →
    Neutral add nd.payload.x ∧ Neutral add nd.payload.y ∧ Neutral add nd.payload.z

/-- for every rank count ≥ 1, every distribution that owns each vertex once, every reduce byte
    limit that gives a chunk ≥ 1 and every requested version: the bytes rank 0 writes are exactly the serial writer's
    bytes (`encodeMeshb`, the model of ref_export_meshb) for the gathered mesh. -/
theorem gatherMeshb_eq_encode (add : UInt64 → UInt64 → UInt64) (rbl mv : Int) (d : Dist)
    (hnp : d.ranks ≠ []) (hN : 0 < d.nglobal) (hrbl : rbl ≤ 0 ∨ 32 ≤ rbl)
    (honce : ∀ g, g < d.nglobal → ownerCount (d.ranks.map nodeView) g = 1)
    (hsum : SumExact add d) (hs : Shaped d) :
    gatherMeshb add rbl mv d = .ok (encodeMeshb (versionOf mv d.nglobal) (globalMesh d)) := by
  have hw : d.ranks.map nodeView ≠ [] := by
    intro h; exact hnp (List.map_eq_nil_iff.1 h)
  have hchunk : 1 ≤ chunkOf d.nglobal (d.ranks.map nodeView).length rbl :=
    (Refine.Props.C07Gather.chunk_positive _ _ rbl).mpr hrbl
  have h00 : vadd add vzero vzero = vzero := by
    simp [vadd, vzero, hsum.zero]
  have hp : ∀ g, g < d.nglobal → ∀ p, firstOwnerFrom g 0 (d.ranks.map nodeView) = some p →
      vadd add vzero p = p ∧ vadd add p vzero = p := by
    intro g _ p hfo
    obtain ⟨i, v, nd, h1, h2, _, h4, h5⟩ := firstOwnerFrom_mem g 0 _ p hfo
    rw [List.getElem?_map] at h1
    obtain ⟨rk, hr, rfl⟩ := Option.map_eq_some_iff.1 h1
    obtain ⟨⟨x1, x2⟩, ⟨y1, y2⟩, ⟨z1, z2⟩⟩ := hsum.owned i rk hr nd h2 (by omega)
    subst h5
    constructor
    · simp only [vadd, vzero]; rw [x1, y1, z1]
    · simp only [vadd, vzero]; rw [x2, y2, z2]
  have hnode := gatherNodeChunked_once (vadd add) vzero h00 (d.ranks.map nodeView) hw d.nglobal _ hchunk honce hp
  unfold gatherMeshb gatherNode
  simp only [hnode]
  rw [show (List.range d.nglobal).map (payloadAt vzero (d.ranks.map nodeView)) = writtenNodes d from rfl,
    fileBytes_eq _ d hN hs]
  rfl

/-- the serial reader (the model of ref_import_meshb without the C20 checks, `Cfg.faithful`) reads the parallel
    writer's file back to the gathered mesh (uses `C08.roundtrip_meshb`; `WellFormed` of the gathered mesh: 32-bit counts and ids,
    association records with distinct (vertex, type, id), file size within the position width of the version) -/
theorem gatherMeshb_roundtrip (add : UInt64 → UInt64 → UInt64) (rbl mv : Int) (d : Dist)
    (hnp : d.ranks ≠ []) (hN : 0 < d.nglobal) (hrbl : rbl ≤ 0 ∨ 32 ≤ rbl)
    (honce : ∀ g, g < d.nglobal → ownerCount (d.ranks.map nodeView) g = 1)
    (hsum : SumExact add d) (hs : Shaped d)
    (wf : WellFormed Cfg.faithful (versionOf mv d.nglobal) (globalMesh d)) :
    ∃ bytes, gatherMeshb add rbl mv d = .ok bytes ∧ decodeMeshb bytes = .ok (globalMesh d) :=
  ⟨_, gatherMeshb_eq_encode add rbl mv d hnp hN hrbl honce hsum hs, Refine.Props.C08.roundtrip_meshb _ _ wf⟩

/-- the two copies of the pyramid re-ordering in ref_gather_cell (own cells / received cells,
    both regenerated from the C on every run) are the same permutation, it is the serial writer's, and the readers'
    (ref_part_meshb_cell, ref_import_meshb) invert it; in the model: both record builders produce the same record for every
    pyramid, and the reader's `recordNodes` gives the cell's vertices back in refine's order. -/
theorem pyramid_reorderings :
    PyrPerm.gatherCell0 = PyrPerm.gatherCell1 ∧ PyrPerm.gatherCell0 = PyrPerm.exportMeshb ∧
    GatherMeshb.alwaysId = true ∧
    (∀ a b c e f : Int, permute PyrPerm.partMeshb (permute PyrPerm.gatherCell0 [a, b, c, e, f]) = [a, b, c, e, f]) ∧
    (∀ a b c e f : Int, permute PyrPerm.partMeshb (permute PyrPerm.gatherCell1 [a, b, c, e, f]) = [a, b, c, e, f]) ∧
    (∀ a b c e f : Int, permute PyrPerm.importMeshb (permute PyrPerm.gatherCell0 [a, b, c, e, f]) = [a, b, c, e, f]) ∧
    (∀ a b c e f : Int, permute PyrPerm.importMeshb (permute PyrPerm.gatherCell1 [a, b, c, e, f]) = [a, b, c, e, f]) ∧
    (∀ ci ∈ cellInfos, ci.isPyr = true → ∀ c : GCell, c.nodes.length = ci.nodePer →
      cellRecordOwn ci c = cellRecordRecv ci (packCell ci c) ∧
      recordNodes ci (cellRecordOwn ci c) = c.nodes.map fun (g : Nat) => (g : Int)) := by
  refine ⟨by decide, by decide, by decide, ?_, ?_, ?_, ?_, ?_⟩
  · intros; rfl
  · intros; rfl
  · intros; rfl
  · intros; rfl
  · intro ci hci hpyr c hlen
    have hf := cellInfos_facts ci hci
    have hl : (packCell ci c).length = ci.sizePer := by
      rw [packCell, CellInfo.sizePer, (hf hpyr).2, List.length_append, List.length_map, hlen]; rfl
    rw [cellRecordOwn_eq ci c hlen, cellRecordRecv_eq, recordNodes_cellRecord hf hl, packCell_take ci c hlen]
    exact ⟨rfl, rfl⟩

/-- the two copies of the association-record writer in ref_gather_geom (rank 0's own records /
    records received from a worker as `node_id[3]`, `param[2]`) write the same bytes for every record whose id is a
    `REF_INT`, namely the serial writer's record `encGeom` of the record's own (vertex, id, parameters, gref). -/
theorem geom_writers_agree (v : Nat) (g : LGeom) (hid : int32 g.id) :
    encGeomRecv v g.type (packGeom g.type g) = encGeomOwn v g.type g ∧
    encGeomOwn v g.type g = encGeom v g.type (toRec g) ∧
    (toRec g).id = g.id ∧ (toRec g).node = (g.node : Int) ∧
    (0 < g.type → (toRec g).gref = g.gref ∧ (toRec g).p0 = g.p0) ∧ (1 < g.type → (toRec g).p1 = g.p1) := by
  have hw : wrap32 g.id = g.id := wrap32_of_int32 hid
  refine ⟨by rw [encGeomRecv_eq v g hw, encGeomOwn_eq], encGeomOwn_eq v g, rfl, rfl, ?_, ?_⟩
  · intro h; simp [toRec, h]
  · intro h; simp [toRec, h]

/-- the worker message of ref_gather_geom (`node_id[k + 3 * i]`): the column rank 0 reads the vertex / id / gref from is the
    column the packing loop of the worker wrote it to (all six column indices regenerated from the C) -/
theorem geom_message_columns :
    GatherMeshb.recvNodeCol = GatherMeshb.packNodeCol ∧ GatherMeshb.recvIdCol = GatherMeshb.packIdCol ∧
    GatherMeshb.recvGrefCol = GatherMeshb.packGrefCol ∧
    [GatherMeshb.packNodeCol, GatherMeshb.packIdCol, GatherMeshb.packGrefCol].Nodup ∧
    GatherMeshb.packNodeCol < 3 ∧ GatherMeshb.packIdCol < 3 ∧ GatherMeshb.packGrefCol < 3 := by decide

/-- the literal flags ref_gather_meshb passes to ref_gather_cell are the ones the model assumes (regenerated from the C) -/
theorem gather_cell_flags :
    GatherMeshb.alwaysId = true ∧ GatherMeshb.faceidInsteadOfC2n = false ∧ GatherMeshb.selectFaceid = false ∧
    GatherMeshb.pad = false ∧ GatherMeshb.swapEndian = false := by decide

/-! ### non-vacuity: 3 ranks; the pyramid and the association records with gref ≠ id (one negative) are owned by rank 2 -/

/-- an `add` with the neutrality IEEE addition has on everything except `-0.0` / signalling NaN -/
def addZ (a b : UInt64) : UInt64 := if a = 0 then b else if b = 0 then a else a + b

theorem addZ_neutral (x : UInt64) : Neutral addZ x := by
  unfold Neutral addZ
  constructor
  · simp
  · by_cases h : x = 0 <;> simp [h]

def one : UInt64 := 0x3ff0000000000000
def half : UInt64 := 0x3fe0000000000000

/-- vertices 0,1,2 on rank 2, vertices 3,4 on rank 1, vertices 5,6 on rank 0 -/
def part3 : Nat → Nat := fun g => [2, 2, 2, 1, 1, 0, 0].getD g 0

def xyz3 (g : Nat) : Vertex := ⟨UInt64.ofNat g * 0x10000000000000 + one, if g % 2 = 0 then half else 0, one⟩

def nd3 (g : Nat) : Node Vertex := ⟨g, part3 g, xyz3 g⟩

def pyr3 : GCell := ⟨[0, 1, 4, 2, 3], 0⟩
def tri3 : GCell := ⟨[5, 6, 3], 7⟩
def edg3 : GCell := ⟨[5, 6], -4⟩

def gA : LGeom := ⟨0, 0, 9, 9, 0, 0⟩
def gB : LGeom := ⟨1, 1, 3, -7, half, 0⟩
def gC : LGeom := ⟨2, 1, 5, 2147483647, half, one⟩
def gD : LGeom := ⟨1, 5, 2, 11, one, 0⟩

def groups3 (edg tri pyr : List GCell) : List (List GCell) :=
  [edg, [], [], tri, [], [], [], [], [], pyr, [], [], [], [], [], []]

def d3 : Dist :=
  { twod := false, nglobal := 7,
    ranks := [⟨[nd3 5, nd3 6, nd3 3], groups3 [edg3] [tri3] [], [gD], [1, 2, 255]⟩,
              ⟨[nd3 3, nd3 4, nd3 5, nd3 6, nd3 0, nd3 1, nd3 2], groups3 [] [tri3] [pyr3], [gC, gD, gA, gB], []⟩,
              ⟨[nd3 2, nd3 0, nd3 1, nd3 3, nd3 4], groups3 [] [] [pyr3], [gB, gA, gC], [9]⟩] }

def G3 (k : Nat) : List GCell := (groups3 [edg3] [tri3] [pyr3]).getD k []
def GG3 : List LGeom := [gA, gB, gC, gD]

theorem d3_once : ∀ g, g < 7 → ownerCount (d3.ranks.map nodeView) g = 1 := by decide
theorem d3_shaped : Shaped d3 := ⟨by decide, by decide⟩
theorem d3_sumExact : SumExact addZ d3 :=
  ⟨by decide, fun _ _ _ nd _ _ => ⟨addZ_neutral _, addZ_neutral _, addZ_neutral _⟩⟩

example : ∀ g, g < 7 → ownerCount (d3.ranks.map nodeView) g = 1 := d3_once
example : Shaped d3 := d3_shaped
example : SumExact addZ d3 := d3_sumExact

/-- the whole file: np = 3, reduce byte limit 64 (chunk 2, four chunks for the 7 vertices), version 3 -/
example : gatherMeshb addZ 64 3 d3 = .ok (encodeMeshb 3 (globalMesh d3)) :=
  gatherMeshb_eq_encode addZ 64 3 d3 (by decide) (by decide) (by decide) d3_once d3_sumExact d3_shaped

/-- rank 2's pyramid and rank 2's records (negative gref, gref ≠ id) are in the gathered mesh with their own values -/
example : (globalMesh d3).cells.getD 9 [] = [[0, 1, 4, 2, 3]] ∧ (globalMesh d3).cells.getD 3 [] = [[5, 6, 3, 7]] ∧
    (globalMesh d3).geoms = [⟨0, 9, 9, 0, 0, 0⟩, ⟨1, 2, 11, 5, one, 0⟩, ⟨1, 3, -7, 1, half, 0⟩,
      ⟨2, 5, 2147483647, 1, half, one⟩] ∧ (globalMesh d3).cad = [1, 2, 255] := by decide

example : WellFormed Cfg.faithful 3 (globalMesh d3) :=
  { version := by decide, nodes_pos := by decide, nodes_lt := by decide, twod_z := by decide,
    cells_len := by decide, cells_lt := by decide,
    cell_ok := by unfold CellOK NodeOK int32; decide,
    geoms_sorted := by decide,
    geom_ok := by unfold GeomOK NodeOK int32; decide,
    geoms_nodup := by decide, geoms_lt := by decide, cad_lt := by decide, cad_cap := by decide,
    size_fits := by unfold posFits; decide +kernel }

end Refine.Props.C08Gather
